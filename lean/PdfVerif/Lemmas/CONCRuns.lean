import PdfVerif.Lemmas.CONCExcl
/-!
Invariant behind "the function of an exclusive decode runs once" (C18): the decode function
entered on behalf of pending `p` is entered at most once.
-/
namespace PdfVerif.CONC

def isRunOf (p : Pid) : Event → Bool
  | .run _ _ _ _ (some q) => q == p
  | _ => false

/-- how often a decode function has been entered on behalf of pending `p` -/
def runsOf (hist : List Event) (p : Pid) : Nat := (hist.filter (isRunOf p)).length

/-- the pendings whose owner is registered but has not entered its decode function yet: the owner is at
`ex:owner`, or its `Decode` is still in the reference loop (a `decGet` directly on the owner's `exRun`) -/
def preRun : List Frame → List Pid
  | .exStart _ p _ :: rest => p :: preRun rest
  | .decGet _ _ _ _ :: .exRun _ p :: rest => p :: preRun rest
  | _ :: rest => preRun rest
  | [] => []

/-- what the top frame adds to the pendings whose owner has not entered its function -/
def preNew (f : Frame) (rest : List Frame) : List Pid :=
  match f with
  | .exStart _ p _ => [p]
  | .decGet .. => (ownerOf rest).toList
  | _ => []

theorem preRun_cons (f : Frame) (rest : List Frame) : preRun (f :: rest) = preNew f rest ++ preRun rest := by
  cases f with
  | decGet =>
    cases rest with
    | nil => rfl
    | cons g _ => cases g <;> rfl
  | _ => rfl

theorem preRun_sub_owned (stk : List Frame) (p : Pid) : p ∈ preRun stk → p ∈ owned stk := by
  fun_induction preRun stk with
  | case1 k q path rest ih =>
    rw [owned_cons_some _ rfl]
    exact fun h => (List.mem_cons.mp h).elim (fun e => e ▸ List.mem_cons_self)
      (fun h => List.mem_cons_of_mem _ (ih h))
  | case2 tp refs path r k q rest ih =>
    rw [owned_cons_none _ rfl, owned_cons_some _ rfl]
    exact fun h => (List.mem_cons.mp h).elim (fun e => e ▸ List.mem_cons_self)
      (fun h => List.mem_cons_of_mem _ (ih h))
  | case3 f rest h1 h2 ih =>
    intro h
    obtain ⟨g, hg, ho⟩ := List.mem_filterMap.mp (ih h)
    exact mem_owned (List.mem_cons_of_mem _ hg) ho
  | case4 => nofun

theorem preRun_deliverStack (rest : List Frame) (res : Res) (p : Pid)
    (h : p ∈ preRun (deliverStack rest res)) : p ∈ preRun rest := by
  rcases deliverStack_cases rest res with ⟨k, p, rest', rfl, e⟩ | ⟨_, e⟩ <;> rw [e] at h <;> exact h

theorem Keeps.preRun {stk base : List Frame} (h : Keeps stk base) (p : Pid) (hp : p ∈ preRun base) :
    p ∈ preRun stk := by
  cases h with
  | all => exact hp
  | pop e => rw [e, preRun_cons]; exact List.mem_append_right _ hp
  | enter e => rw [e]; exact List.mem_cons_of_mem _ hp

theorem ownerOf_some {rest : List Frame} {q : Pid} (h : ownerOf rest = some q) :
    ∃ k rest', rest = .exRun k q :: rest' := by
  unfold ownerOf at h
  split at h
  · cases h; exact ⟨_, _, rfl⟩
  · cases h

theorem runsOf_cons (e : Event) (hist : List Event) (p : Pid) :
    runsOf (e :: hist) p = runsOf hist p + (if isRunOf p e then 1 else 0) := by
  simp only [runsOf, ← List.countP_eq_length_filter, List.countP_cons]

/-- `once` is the claim.  `pre`: no run is recorded yet for a pending whose owner has not entered its
decode function, so the entry it is about to record is the first.  `fresh`: nor for a pending not
yet registered, so a new owner starts out in `pre`. -/
structure RInv (s : State) : Prop where
  once : ∀ p, runsOf s.hist p ≤ 1
  pre : ∀ t p, p ∈ preRun (s.thr t) → runsOf s.hist p = 0
  fresh : ∀ p, s.npend ≤ p → runsOf s.hist p = 0

theorem RInv.local {s s' : State} (hr : RInv s) (t : Tid) (stk' : List Frame)
    (hthr : s'.thr = upd s.thr t stk') (hruns : ∀ p, runsOf s'.hist p = runsOf s.hist p)
    (hn : s'.npend = s.npend) (hpre : ∀ p, p ∈ preRun stk' → p ∈ preRun (s.thr t)) : RInv s' := by
  refine ⟨fun p => by rw [hruns]; exact hr.once p, ?_, fun p hp => by rw [hruns]; rw [hn] at hp; exact hr.fresh p hp⟩
  intro t' p hp
  rw [hruns]
  rw [hthr] at hp
  simp only [upd_apply] at hp
  split at hp
  · exact hr.pre t p (hpre p hp)
  · exact hr.pre t' p hp

theorem runsOf_nonrun {e : Event} (hist : List Event) (h : ∀ p, isRunOf p e = false) (p : Pid) :
    runsOf (e :: hist) p = runsOf hist p := by
  rw [runsOf_cons, h]; simp


theorem runsOf_run (t : Tid) (tp : Ty) (refs path : List Ref) (q : Pid) (hist : List Event) (p : Pid) :
    runsOf (.run t tp refs path (some q) :: hist) p = runsOf hist p + (if p = q then 1 else 0) := by
  rw [runsOf_cons]
  by_cases e : p = q
  · subst e; simp [isRunOf]
  · simp [isRunOf, e, Ne.symm e]

theorem RInv.step {cfg : Cfg} {s s' : State} {t : Tid} {a : Act} (hx : XInv s) (hr : RInv s)
    (h : step cfg s t a = some s') : RInv s' := by
  have tail : ∀ {f f' rest}, s.thr t = f :: rest → preNew f' rest = [] →
      ∀ p, p ∈ preRun (f' :: rest) → p ∈ preRun (s.thr t) := by
    intro f f' rest e e' p hp
    rw [preRun_cons, e'] at hp
    rw [e, preRun_cons]
    exact List.mem_append_right _ hp
  cases step_kind h with
  | @push _ base f evs hp =>
    cases hp with
    | @fn _ _ tp refs path hl =>
      cases hown : ownerOf base with
      | none =>
        refine hr.local t _ rfl (fun p => runsOf_nonrun _ (fun _ => rfl) p) rfl fun p hp => ?_
        exact hl.keeps.preRun p hp
      | some q =>
        -- the decode function is entered on behalf of pending `q`: the loop ran above its owner
        cases hl with
        | call hc => cases (ownerOf_of_canCall hc).symm.trans hown
        | @next _ _ _ r _ _ e =>   -- (`enter` runs the loop at a reference, not at `.direct`)
        obtain ⟨k, rest', rfl⟩ := ownerOf_some hown
        have hq0 : runsOf s.hist q = 0 := hr.pre t q (by rw [e]; exact List.mem_cons_self)
        have hqT : q ∈ owned (s.thr t) := by
          rw [e, owned_cons_none _ rfl, owned_cons_some _ rfl]; exact List.mem_cons_self
        have hqRest : q ∉ owned rest' := by
          have := hx.nodup t
          rw [e, owned_cons_none _ rfl, owned_cons_some _ rfl] at this
          exact (List.nodup_cons.mp this).1
        refine ⟨?_, ?_, ?_⟩
        · intro p
          show runsOf (.run t tp refs path (some q) :: s.hist) p ≤ 1
          rw [runsOf_run]
          split
          · next epq => subst epq; rw [hq0]; exact Nat.le_refl _
          · exact hr.once p
        · intro t' p hp
          show runsOf (.run t tp refs path (some q) :: s.hist) p = 0
          rw [runsOf_run]
          simp only [upd_apply] at hp
          have hpne : p ≠ q := by
            rintro rfl
            split at hp
            · exact hqRest (preRun_sub_owned _ _ hp)
            · next et => exact et (hx.disj t' t p (preRun_sub_owned _ _ hp) hqT)
          simp only [hpne, if_false, Nat.add_zero]
          split at hp
          · exact hr.pre t p (by rw [e]; exact List.mem_cons_of_mem _ hp)
          · exact hr.pre t' p hp
        · intro p hp
          show runsOf (.run t tp refs path (some q) :: s.hist) p = 0
          rw [runsOf_run]
          have : p ≠ q := by
            rintro rfl; exact Nat.lt_irrefl _ (Nat.lt_of_lt_of_le (hx.bound t p hqT) hp)
          simp only [this, if_false, Nat.add_zero]
          exact hr.fresh p hp
    | get hl =>
      refine hr.local t _ rfl (fun _ => rfl) rfl fun p hp => ?_
      cases hl with
      | call hc => rw [preRun_cons] at hp; simpa [preNew, ownerOf_of_canCall hc] using hp
      | next e => rw [e, preRun_cons]; rw [preRun_cons] at hp; exact hp
      | enter e => rw [e]; exact hp
    | exFn => exact hr.local t _ rfl (fun p => runsOf_nonrun _ (fun _ => rfl) p) rfl fun _ hp => hp
    | wait => exact hr.local t _ rfl (fun _ => rfl) rfl fun _ hp => hp
  | ret hr' =>
    refine hr.local t _ rfl (fun p => runsOf_nonrun _ (fun _ => ?_) p) rfl
      fun p hp => hr'.keeps.preRun p (preRun_deliverStack _ _ p hp)
    cases hr' <;> rfl
  | register =>
    refine ⟨hr.once, ?_, fun p hp => hr.fresh p (Nat.le_of_succ_le hp)⟩
    intro t' p hp
    simp only [upd_apply] at hp
    split at hp
    · rcases List.mem_cons.mp hp with rfl | e
      · exact hr.fresh _ (Nat.le_refl _)
      · exact hr.pre t p e
    · exact hr.pre t' p hp
  | publish e => exact hr.local t _ rfl (fun _ => rfl) rfl (tail e rfl)
  | close e => exact hr.local t _ rfl (fun _ => rfl) rfl (tail e rfl)
  | crash =>
    exact hr.local t [.dead] (crash_thr ..)
      (fun p => by rw [crash_hist]; exact runsOf_nonrun _ (fun _ => rfl) p) (crash_npend ..) (fun _ h => nomatch h)

theorem RInv.init : RInv State.init :=
  ⟨fun p => (by rw [init_hist]; exact Nat.zero_le 1), fun t p h => (by simp only [init_thr] at h; cases h),
   fun p _ => (by rw [init_hist]; rfl)⟩

end PdfVerif.CONC
