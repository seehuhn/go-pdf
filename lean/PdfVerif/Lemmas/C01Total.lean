import PdfVerif.Lemmas.C01Step
/-!
For ALL inputs: how a read ends (`Ends`, `prog_all`): every successful read
consumes input (`cons_all`), and with fuel `3·|input| + rank` the five readers fail only with `eof` or
`malformed`, never with the model's out-of-fuel error (`tot_all`).
-/
namespace PdfVerif.C01L
open PdfVerif

theorem map_ok_inv {α β : Type} {x : Except Err (α × Bytes)} {g : α × Bytes → β × Bytes} {b : β} {r : Bytes}
    (h : x.map g = .ok (b, r)) : ∃ p, x = .ok p ∧ g p = (b, r) := by
  cases x with
  | error e => simp [Except.map] at h
  | ok p => exact ⟨p, rfl, by simpa [Except.map] using h⟩

theorem map_err_inv {α β : Type} {x : Except Err α} {g : α → β} {e : Err}
    (h : x.map g = .error e) : x = .error e := by
  cases x with
  | error e' => simpa [Except.map] using h
  | ok p => simp [Except.map] at h

theorem mapError_ok_inv {α : Type} {x : Except Err α} {g : Err → Err} {a : α}
    (h : x.mapError g = .ok a) : x = .ok a := by
  cases x with
  | error e => simp [Except.mapError] at h
  | ok p => simpa [Except.mapError] using h

/-- `ReadArray`/`ReadDict` turn `eof` into `malformed` and leave the other classes alone -/
theorem scanErr_mapError {α : Type} {x : Except Err α} (hx : ∀ e, x = .error e → ScanErr e) :
    ∀ e, x.mapError Err.inComposite = .error e → ScanErr e := by
  intro e h
  cases x with
  | ok a => cases h
  | error e' =>
    obtain rfl : e'.inComposite = e := Except.error.inj h
    rcases hx e' rfl with rfl | rfl <;> exact .inr rfl

theorem dictResult_ok_inv {x : Except Err (List (Bytes × Obj) × Bytes)} {o : Obj} {r : Bytes}
    (h : dictResult x = .ok (o, r)) : ∃ dd r0, x = .ok (dd, r0) ∧ o = .dict dd ∧ r = (skipWS r0).1 := by
  revert h
  -- the function's own case principle: `unfold; split` is slow to check and hides which exit a goal is
  fun_cases dictResult x with
  | case1 | case2 => exact nofun                                -- an error of `readDict`; `stream` behind the dictionary
  | case3 dd r0 => rintro ⟨⟩; exact ⟨dd, r0, rfl, rfl, rfl⟩

theorem scanErr_dictResult {x : Except Err (List (Bytes × Obj) × Bytes)} (hx : ∀ e, x = .error e → ScanErr e) :
    ∀ e, dictResult x = .error e → ScanErr e := by
  intro e
  fun_cases dictResult x with
  | case1 e' => exact fun h => hx e (by rw [Except.error.inj h])
  | case2 => exact fun h => Except.error.inj h ▸ .inr rfl      -- `stream` behind the dictionary
  | case3 => exact nofun

/-- number of integers at the head of the (reversed) accumulator of `ReadArray` -/
def leadInts : List Obj → Nat
  | .int _ :: t => leadInts t + 1
  | _ => 0

theorem leadInts_two {acc : List Obj} (h : 2 ≤ leadInts acc) : ∃ b a acc', acc = .int b :: .int a :: acc' := by
  cases acc with
  | nil => simp [leadInts] at h
  | cons x t =>
    cases x <;> simp [leadInts] at h
    rename_i b
    cases t with
    | nil => simp [leadInts] at h
    | cons y t' =>
      cases y <;> simp [leadInts] at h
      rename_i a
      exact ⟨b, a, t', rfl⟩

theorem nextIntsM_le (o : Obj) (ints : Nat) (acc : List Obj) (h : ints ≤ leadInts acc) :
    nextIntsM o ints ≤ leadInts (o :: acc) := by
  cases o <;> simp [nextIntsM, leadInts] <;> omega

/-- how a read on `inp` with fuel `f` ends: in a value, with input consumed; or, if `f` is at least the potential
    `pot`, in an error of the scanner's own (`eof` or `malformed`, not the model's out-of-fuel error) -/
def Ends {α : Type} (inp : Bytes) (f pot : Nat) (res : Except Err (α × Bytes)) : Prop :=
  (∀ a r, res = .ok (a, r) → r.length < inp.length) ∧ (pot ≤ f → ∀ e, res = .error e → ScanErr e)

/-- Each of the five readers ends so (`Ends`).  The potential is `3·|input| + rank`, the rank falling along the call
chain: `readArray` 5 > `readArrayLoop` 4 > `readObject` 3 > `readDict` 2 > `readDictLoop` 1.  A call down the chain, on
the same input or a shorter one, costs the one unit of fuel.  The two calls back up — `readObject → readArray` behind
`[`, `readDictLoop → readObject` behind the key — and a loop going round happen only after at least one byte has been
consumed — the first half of `Ends`, which is why the two facts are one induction — and a byte frees three units.
`ints ≤ leadInts acc` is what makes the "unreachable" branch of the `R` detection unreachable. -/
def ProgAt (f : Nat) : Prop :=
  (∀ d inp, Ends inp f (3 * inp.length + 3) (readObject f d inp)) ∧
  (∀ d inp, Ends inp f (3 * inp.length + 5) (readArray f d inp)) ∧
  (∀ d acc ints inp, ints ≤ leadInts acc → Ends inp f (3 * inp.length + 4) (readArrayLoop f d acc ints inp)) ∧
  (∀ d inp, Ends inp f (3 * inp.length + 2) (readDict f d inp)) ∧
  (∀ d acc inp, Ends inp f (3 * inp.length + 1) (readDictLoop f d acc inp))

theorem prog_zero : ProgAt 0 := by
  refine ⟨?_, ?_, ?_, ?_, ?_⟩ <;> intros <;> refine ⟨fun _ _ h => ?_, fun h => by omega⟩ <;>
    simp [readObject, readArray, readArrayLoop, readDict, readDictLoop] at h

theorem ends_err {α : Type} {inp : Bytes} {f pot : Nat} {e : Err} (he : ScanErr e) :
    Ends (α := α) inp f pot (.error e) :=
  ⟨nofun, fun _ _ h => Except.error.inj h ▸ he⟩

theorem prog_succ (f : Nat) (ih : ProgAt f) : ProgAt (f + 1) := by
  obtain ⟨ihO, ihA, ihL, ihD, ihDL⟩ := ih
  refine ⟨?_, ?_, ?_, ?_, ?_⟩
  · intro d inp
    rcases readObject_cases d inp with ⟨res, hres, he⟩ | he | ⟨c, rest, rfl, he⟩
    · rw [he]; exact ⟨fun o r h => (hres.ok o r h).1, fun _ => hres.err⟩
    · rw [he]                                                   -- `readObject → readDict` on the same input: 3 → 2
      refine ⟨fun o r h => ?_, fun hf => scanErr_dictResult ((ihD d inp).2 (by omega))⟩
      obtain ⟨dd, r0, h1, _, rfl⟩ := dictResult_ok_inv h
      have := (ihD d inp).1 _ _ h1
      have := skipWS_len r0
      omega
    · rw [he]                                                   -- `readObject → readArray` behind `[`: 3 → 5, the byte pays
      refine ⟨fun o r h => ?_, fun hf e h => (ihA d rest).2 (by simp at hf; omega) e (map_err_inv h)⟩
      obtain ⟨⟨xs, r'⟩, h1, h2⟩ := map_ok_inv h
      obtain ⟨_, rfl⟩ := Prod.mk.inj h2
      have := (ihA d rest).1 _ _ h1
      simp; omega
  · intro d inp
    rw [readArray_eq]
    split
    · exact ends_err (.inr rfl)
    -- `readArray → readArrayLoop` on the same input: 5 → 4
    · exact ⟨fun xs r h => (ihL _ [] 0 inp (Nat.zero_le _)).1 _ _ (mapError_ok_inv h),
        fun hf => scanErr_mapError ((ihL _ [] 0 inp (Nat.zero_le _)).2 (by omega))⟩
  · intro d acc ints inp hi
    rcases readArrayLoop_cases d acc ints inp with he | ⟨rest, hs, he⟩ | ⟨rest, hs, hi2, hR⟩ | ⟨c, rest, hs, he⟩
    · rw [he]; exact ends_err (.inl rfl)
    · rw [he]
      have := skipWS_len' hs
      split
      · exact ends_err (.inr rfl)
      · exact ⟨fun xs r h => by obtain ⟨_, rfl⟩ := Prod.mk.inj (Except.ok.inj h); simp at this; omega,
          fun _ _ h => nomatch h⟩
    · have := skipWS_len' hs
      rcases hR with ⟨b, a, acc', _, he⟩ | ⟨hne, _⟩
      · rw [he]                                                 -- the loop goes round behind `R`
        obtain ⟨h1, h2⟩ := ihL d _ 0 rest (Nat.zero_le _)
        exact ⟨fun xs r h => by have := h1 _ _ h; simp at *; omega, fun hf => h2 (by simp at this; omega)⟩
      · obtain ⟨b, a, acc', hacc⟩ := leadInts_two (by omega : 2 ≤ leadInts acc)
        exact absurd hacc (hne b a acc')
    -- `readArrayLoop → readObject` on the same input: 4 → 3; then the loop goes round behind what `readObject` consumed
    · rw [he]
      have := skipWS_len' hs
      obtain ⟨o1, o2⟩ := ihO d (c :: rest)
      cases hro : readObject f d (c :: rest) with
      | error e' => exact ⟨nofun, fun hf e h => Except.error.inj h ▸ o2 (by omega) e' hro⟩
      | ok p =>
        obtain ⟨o, r1⟩ := p
        have := o1 _ _ hro
        dsimp only
        split
        · exact ends_err (.inr rfl)
        · obtain ⟨h1, h2⟩ := ihL d (o :: acc) _ r1 (nextIntsM_le o ints acc hi)
          exact ⟨fun xs r h => by have := h1 _ _ h; omega, fun hf => h2 (by omega)⟩
  · intro d inp
    rcases readDict_cases d inp with he | ⟨rest, r0, rfl, _, hs, he⟩
    · rw [he]; exact ends_err (.inr rfl)
    · rw [he]                                                   -- `readDict → readDictLoop` behind `<<`: 2 → 1
      have := skipWS_len' hs
      obtain ⟨h1, h2⟩ := ihDL (d + 1) [] r0
      exact ⟨fun kv r h => by have := h1 _ _ (mapError_ok_inv h); simp; omega,
        fun hf => scanErr_mapError (h2 (by simp at hf; omega))⟩
  · intro d acc inp
    rcases readDictLoop_cases d acc inp with ⟨e', hse, he⟩ | ⟨rest, rfl, he⟩ | ⟨key, r1, r2, hn, hs, he⟩
    · rw [he]; exact ends_err hse
    · rw [he]
      exact ⟨fun kv r h => by obtain ⟨_, rfl⟩ := Prod.mk.inj (Except.ok.inj h); simp; omega, fun _ _ h => nomatch h⟩
    -- `readDictLoop → readObject` behind the key: 1 → 3, the key's first byte pays; then the loop goes round behind the value
    · have := skipWS_len' hs
      have := (readName_spec _ _ _ hn).1
      obtain ⟨o1, o2⟩ := ihO d r2
      rcases readDictLoop_entry (he f) with ⟨e', hse, he'⟩ | ⟨e', hro, he'⟩ | ⟨val, r3, v, r', hro, hl, _, _, he'⟩
      · rw [he']; exact ends_err hse
      · rw [he']; exact ⟨nofun, fun hf e h => Except.error.inj h ▸ o2 (by omega) e' hro⟩
      · rw [he']
        have := o1 _ _ hro
        obtain ⟨h1, h2⟩ := ihDL d (dictInsert key v acc) r'
        exact ⟨fun kv r h => by have := h1 _ _ h; omega, fun hf => h2 (by omega)⟩

theorem prog_all : ∀ f, ProgAt f
  | 0 => prog_zero
  | f + 1 => prog_succ f (prog_all f)

theorem cons_all (f : Nat) :
    (∀ d inp o r, readObject f d inp = .ok (o, r) → r.length < inp.length) ∧
    (∀ d inp xs r, readArray f d inp = .ok (xs, r) → r.length < inp.length) ∧
    (∀ d acc ints inp xs r, ints ≤ leadInts acc → readArrayLoop f d acc ints inp = .ok (xs, r) → r.length < inp.length) ∧
    (∀ d inp kv r, readDict f d inp = .ok (kv, r) → r.length < inp.length) ∧
    (∀ d acc inp kv r, readDictLoop f d acc inp = .ok (kv, r) → r.length < inp.length) := by
  obtain ⟨pO, pA, pL, pD, pDL⟩ := prog_all f
  exact ⟨fun d inp => (pO d inp).1, fun d inp => (pA d inp).1, fun d acc ints inp xs r hi => (pL d acc ints inp hi).1 xs r,
    fun d inp => (pD d inp).1, fun d acc inp => (pDL d acc inp).1⟩

theorem tot_all (f : Nat) :
    (∀ d inp, 3 * inp.length + 3 ≤ f → ∀ e, readObject f d inp = .error e → ScanErr e) ∧
    (∀ d inp, 3 * inp.length + 5 ≤ f → ∀ e, readArray f d inp = .error e → ScanErr e) ∧
    (∀ d acc ints inp, ints ≤ leadInts acc → 3 * inp.length + 4 ≤ f →
      ∀ e, readArrayLoop f d acc ints inp = .error e → ScanErr e) ∧
    (∀ d inp, 3 * inp.length + 2 ≤ f → ∀ e, readDict f d inp = .error e → ScanErr e) ∧
    (∀ d acc inp, 3 * inp.length + 1 ≤ f → ∀ e, readDictLoop f d acc inp = .error e → ScanErr e) := by
  obtain ⟨pO, pA, pL, pD, pDL⟩ := prog_all f
  exact ⟨fun d inp => (pO d inp).2, fun d inp => (pA d inp).2, fun d acc ints inp hi => (pL d acc ints inp hi).2,
    fun d inp => (pD d inp).2, fun d acc inp => (pDL d acc inp).2⟩

/-- the fuel `parseObject` hands to `readObject` covers its potential -/
theorem scanFuel_ge (inp : Bytes) : 3 * inp.length + 3 ≤ scanFuel inp := Nat.add_le_add_left (by decide) _

theorem readObject_consumes {f d : Nat} {inp : Bytes} {o : Obj} {r : Bytes} (h : readObject f d inp = .ok (o, r)) :
    r.length < inp.length :=
  (cons_all f).1 d inp o r h

theorem readDict_consumes {f d : Nat} {inp : Bytes} {kv : List (Bytes × Obj)} {r : Bytes}
    (h : readDict f d inp = .ok (kv, r)) : r.length < inp.length :=
  (cons_all f).2.2.2.1 d inp kv r h

theorem readObject_scanErr {f d : Nat} {inp : Bytes} (hf : 3 * inp.length + 3 ≤ f) {e : Err}
    (h : readObject f d inp = .error e) : ScanErr e :=
  (tot_all f).1 d inp hf e h

theorem readDict_scanErr {f d : Nat} {inp : Bytes} (hf : 3 * inp.length + 2 ≤ f) {e : Err}
    (h : readDict f d inp = .error e) : ScanErr e :=
  (tot_all f).2.2.2.1 d inp hf e h

end PdfVerif.C01L
