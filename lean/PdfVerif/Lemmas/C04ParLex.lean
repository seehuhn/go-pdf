import PdfVerif.Props.C01b
import PdfVerif.Spec.C04Renders
/-!
For `C04par.parse_any_rendering`: what ends a token, the first byte of every
conforming spelling, and each scalar token read by `ReadObject` (on top of the lexical theorems of
`Props/C04hisc.lean`).
-/
namespace PdfVerif.C04L
open PdfVerif PdfVerif.C01L
open PdfVerif.Spec.Grammar (isWhite isDelim isRegularCh isEolCh isDigitCh WsR NameR StrR HexR IntR RealTok decVal)
open PdfVerif.Spec.Renders
open PdfVerif.C04hisc (StopsWs NameEnd ws_any_spelling skipWS_stops)

/-!
### What may follow a token, what a token starts with, and what joins the notions

Each reader stops on its own condition, and the statements about the formatter's output speak of the formatter's own
alphabet; so there are several notions.  What may FOLLOW a token (a predicate of the rest of the input, true of `[]`):

* `StopsWs k` (`Lemmas/ScanBytes.lean`): `skipWS` stops at once — the head is not white space and not `%`.
* `NumStop dotOk k` (`Lemmas/ScanNum.lean`): the number scanner stops — the head is no digit (and no `.` if a dot is
  still allowed).
* `C04hisc.NameEnd k` (`Lemmas/C01Leaf.lean`): `readNameBody` stops — the head is not a regular character.  `C01.NameEnd`
  (`Props/C01.lean`, the hypothesis of `name_rt`) says the same of `isRegular` and adds `≠ #`, which follows
  (`hash_regular`); `C01.NameEnd.spec` goes from it to `C04hisc.NameEnd`.
* `EndsToken k` (here): the head is a byte and not a regular character.  The one notion the parser round trip uses
  behind every token of regular characters; `endsToken_nameEnd`, `endsToken_numStop` give the two lexical ones.
* `KVCont K c t` (`Lemmas/C04ParA.lean`): inside a dictionary — `skipWS K` arrives at `c :: t` with `c` the `/` of the
  next key or the `>` of `>>`, and `K` ends a token.
* `Cont ns k` (`Lemmas/C01Defs.lean`): what follows a token in FORMATTER output — a token start (`tokStart`), directly
  (a delimiter if `ns`) or behind one space or line feed.  `cont_endsToken` (`Lemmas/C01Fmt.lean`) gives `EndsToken`
  from `Cont true`, `cont_nostream` gives `NoStream`.

What a token STARTS with (a predicate of the first byte):

* `NumHead c`: a digit, `+`, `-` or `.` — the first byte of every conforming number (`intR_head`, `realTok_head`).
* `ObjHead c` (below): the first byte of every conforming spelling of an object (`renders_head`); `objHead_stops`
  gives `StopsWs`.
* `objStart c` / `tokStart c` (`Lemmas/C01Defs.lean`): the first bytes the FORMATTER writes for an object / for any
  token (adding `]`, `>`, `e`).  A proper part of `ObjHead` (no `+`, no letters but `n t f`), and what `Cont` is stated
  over, so `fmtObj_head` (`Lemmas/C01Fmt.lean`) proves it from the formatter and not from `renders_head`.
-/

/-- what must follow a token made of regular characters: the end of the input, or a byte that is
    not regular (white space or a delimiter) -/
def EndsToken : Bytes → Prop
  | [] => True
  | d :: _ => d < 256 ∧ isRegularCh d = false

theorem endsToken_nameEnd {k : Bytes} (h : EndsToken k) : NameEnd k := by
  cases k with
  | nil => trivial
  | cons d t => exact h.2

theorem ws_endsToken {w : Bytes} (hw : WsR w) (hne : w ≠ []) (x : Bytes) : EndsToken (w ++ x) := by
  cases hw with
  | nil => exact absurd rfl hne
  | white c w' hc _ => exact ⟨by simp [isWhite] at hc; omega, by simp [isRegularCh, hc]⟩
  | comment body eol w' _ _ _ => exact ⟨by decide, by decide⟩

/-- First byte of an object's spelling: a byte at which the loops go on to `readObject`.  Each field is a test some
    reader makes first: white space and `%` are skipped by `skipWS`; `]` and `R` are what the array loop looks for
    before it reads an element, `>` what the dictionary loop looks for, and `s` is where `readObject` would look for the
    keyword `stream` behind a dictionary. -/
structure ObjHead (c : Nat) : Prop where
  lt : c < 256
  notWhite : isWhite c = false
  ne37 : c ≠ 37
  ne93 : c ≠ 93
  ne62 : c ≠ 62
  ne82 : c ≠ 82
  ne115 : c ≠ 115

instance (c : Nat) : Decidable (ObjHead c) :=
  decidable_of_iff (c < 256 ∧ isWhite c = false ∧ c ≠ 37 ∧ c ≠ 93 ∧ c ≠ 62 ∧ c ≠ 82 ∧ c ≠ 115)
    ⟨fun ⟨a, b, c, d, e, f, g⟩ => ⟨a, b, c, d, e, f, g⟩, fun h => ⟨h.lt, h.notWhite, h.ne37, h.ne93, h.ne62, h.ne82, h.ne115⟩⟩

def NumHead (c : Nat) : Prop := isDigitCh c = true ∨ c = 43 ∨ c = 45 ∨ c = 46

/-- the bytes a number may start with are regular characters, none of them `R` or `s`: checked
    byte by byte up to `9` -/
theorem numHead_table : ∀ c, c < 58 → ¬ NumHead c ∨ (ObjHead c ∧ isRegularCh c = true) := by
  unfold NumHead; decide +kernel

theorem numHead_facts {c : Nat} (h : NumHead c) : ObjHead c ∧ isRegularCh c = true := by
  have hlt : c < 58 := by
    rcases h with h | rfl | rfl | rfl
    · exact Nat.lt_succ_of_le ((isDigit_iff c).mp h).2
    all_goals decide
  exact (numHead_table c hlt).resolve_left (not_not_intro h)

theorem numHead_objHead {c : Nat} (h : NumHead c) : ObjHead c := (numHead_facts h).1

theorem endsToken_numStop {k : Bytes} (h : EndsToken k) (b : Bool) : NumStop b k := by
  cases k with
  | nil => trivial
  | cons d t =>
    have hreg {p : Prop} (hn : NumHead d) : p := by
      have := (numHead_facts hn).2; rw [h.2] at this; cases this
    refine ⟨?_, fun _ h46 => hreg (.inr (.inr (.inr h46)))⟩
    cases hd : isDigit d
    · rfl
    · exact hreg (.inl hd)

theorem intR_head {i : Int} {s : Bytes} (h : IntR i s) : ∃ c t, s = c :: t ∧ NumHead c := by
  cases h with
  | unsigned _ hne hd =>
    cases s with
    | nil => exact absurd rfl hne
    | cons c t => exact ⟨c, t, rfl, .inl (hd c List.mem_cons_self)⟩
  | plus ds _ _ => exact ⟨43, ds, rfl, .inr (.inl rfl)⟩
  | minus ds _ _ => exact ⟨45, ds, rfl, .inr (.inr (.inl rfl))⟩

theorem realTok_head {t : Bytes} (h : RealTok t) : ∃ c r, t = c :: r ∧ NumHead c := by
  cases h with
  | mk sign ip fp hs hi _ _ =>
    rcases hs with rfl | rfl | rfl
    · cases ip with
      | nil => exact ⟨46, fp, rfl, .inr (.inr (.inr rfl))⟩
      | cons c r => exact ⟨c, r ++ 46 :: fp, rfl, .inl (hi c List.mem_cons_self)⟩
    · exact ⟨43, ip ++ 46 :: fp, List.append_assoc .., .inr (.inl rfl)⟩
    · exact ⟨45, ip ++ 46 :: fp, List.append_assoc .., .inr (.inr (.inl rfl))⟩

theorem renders_head {L : Nat} {o : Obj} {bs : Bytes} (h : Renders L o bs) :
    ∃ c t, bs = c :: t ∧ ObjHead c ∧ (startsDelim o = true → isRegularCh c = false) := by
  cases h with
  | null => exact ⟨110, _, rfl, by decide, nofun⟩
  | tru => exact ⟨116, _, rfl, by decide, nofun⟩
  | fls => exact ⟨102, _, rfl, by decide, nofun⟩
  | int i s hi _ =>
    obtain ⟨c, t, rfl, hc⟩ := intR_head hi
    exact ⟨c, t, rfl, numHead_objHead hc, nofun⟩
  | real t ht _ =>
    obtain ⟨c, r, rfl, hc⟩ := realTok_head ht
    exact ⟨c, r, rfl, numHead_objHead hc, nofun⟩
  | name v s _ => exact ⟨47, s, rfl, by decide, fun _ => by decide⟩
  | strLit v s _ => exact ⟨40, _, rfl, by decide, fun _ => by decide⟩
  | strHex v s _ => exact ⟨60, _, rfl, by decide, fun _ => by decide⟩
  | ref n g s1 w1 s2 w2 h1 _ _ _ _ _ _ _ =>
    obtain ⟨c, t, rfl, hc⟩ := intR_head h1
    exact ⟨c, t ++ (w1 ++ (s2 ++ (w2 ++ [82]))), by simp, numHead_objHead hc, nofun⟩
  | arr xs body _ => exact ⟨91, _, rfl, by decide, fun _ => by decide⟩
  | dict kv body _ => exact ⟨60, _, rfl, by decide, fun _ => by decide⟩

theorem objHead_stops {c : Nat} (h : ObjHead c) (t : Bytes) : StopsWs (c :: t) := ⟨h.notWhite, h.ne37⟩

theorem skip_to {w : Bytes} (hw : WsR w) (c : Nat) (t : Bytes) (hs : StopsWs (c :: t)) :
    skipWS (w ++ c :: t) = (c :: t, false) :=
  ws_any_spelling w hw (c :: t) hs

end PdfVerif.C04L
