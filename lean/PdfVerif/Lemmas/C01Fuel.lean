import PdfVerif.Lemmas.C01Step
/-!
The fuel of the scanner model's five mutually recursive readers: more fuel changes no finished result
(`stab_all`, `stable_le`), a result being finished when it is not the model's out-of-fuel error.  This makes
`parseObject`'s choice of `scanFuel` irrelevant (the round-trip theorems do not need it: they hold for every
fuel above a bound).  Which branch a reader takes does not depend on the fuel (`C01Step.lean`), so one more
unit only replaces the recursive calls by calls with one more unit, and what a reader does to the result of
a call passes the out-of-fuel error on unchanged (`keep`).
-/
namespace PdfVerif.C01L
open PdfVerif

/-- a result that is not the model's out-of-fuel error -/
def Done {α : Type} (x : Except Err α) : Prop := x ≠ .error .other

def StabAt (f : Nat) : Prop :=
  (∀ d inp, Done (readObject f d inp) → readObject (f + 1) d inp = readObject f d inp) ∧
  (∀ d inp, Done (readArray f d inp) → readArray (f + 1) d inp = readArray f d inp) ∧
  (∀ d acc ints inp, Done (readArrayLoop f d acc ints inp) →
      readArrayLoop (f + 1) d acc ints inp = readArrayLoop f d acc ints inp) ∧
  (∀ d inp, Done (readDict f d inp) → readDict (f + 1) d inp = readDict f d inp) ∧
  (∀ d acc inp, Done (readDictLoop f d acc inp) → readDictLoop (f + 1) d acc inp = readDictLoop f d acc inp)

theorem stab_zero : StabAt 0 := by
  refine ⟨?_, ?_, ?_, ?_, ?_⟩ <;> intros <;> rename_i h <;>
    exact absurd (by simp [readObject, readArray, readArrayLoop, readDict, readDictLoop]) h

theorem keep {α β : Type} {x x' : Except Err α} (F : Except Err α → Except Err β)
    (hF : F (Except.error Err.other) = Except.error Err.other) (hx : Done x → x' = x) (h : Done (F x)) : F x' = F x := by
  by_cases h0 : x = .error .other
  · rw [h0, hF] at h; exact absurd rfl h
  · rw [hx h0]

theorem done_call {α β : Type} {x : Except Err α} {y : Except Err β} (hy : Done y) (hxy : x = .error .other → y = .error .other) :
    Done x := fun h0 => hy (hxy h0)

theorem stab_succ (f : Nat) (ih : StabAt f) : StabAt (f + 1) := by
  obtain ⟨ihO, ihA, ihL, ihD, ihDL⟩ := ih
  refine ⟨?_, ?_, ?_, ?_, ?_⟩
  · intro d inp h
    rcases readObject_cases d inp with ⟨res, _, e⟩ | e | ⟨c, rest, rfl, e⟩
    · rw [e, e]
    · rw [e] at h ⊢; rw [e]
      exact keep dictResult rfl (ihD d inp) h
    · rw [e] at h ⊢; rw [e]
      exact keep (Except.map _) rfl (ihA d rest) h
  · intro d inp h
    rw [readArray_eq] at h ⊢; rw [readArray_eq]
    split
    · rfl
    · rename_i hd
      rw [if_neg hd] at h
      exact keep (Except.mapError _) rfl (ihL _ _ _ _) h
  · intro d acc ints inp h
    rcases readArrayLoop_cases d acc ints inp with e | ⟨rest, _, e⟩ | ⟨rest, _, _, ⟨b, a, acc', _, e⟩ | ⟨_, e⟩⟩ |
        ⟨c, rest, _, e⟩
    · rw [e, e]
    · rw [e, e]
    · rw [e] at h ⊢; rw [e]; exact ihL _ _ _ _ h
    · rw [e, e]
    · rw [e] at h ⊢; rw [e]
      rw [ihO d (c :: rest) (done_call h fun h0 => by rw [h0])]
      cases hro : readObject f d (c :: rest) with
      | error e' => rfl
      | ok p =>
        rw [hro] at h
        dsimp only at h ⊢
        split
        · rfl
        · rename_i hl; rw [if_neg hl] at h; exact ihL _ _ _ _ h
  · intro d inp h
    rcases readDict_cases d inp with e | ⟨rest, r0, rfl, _, _, e⟩
    · rw [e, e]
    · rw [e] at h ⊢; rw [e]
      exact keep (Except.mapError _) rfl (ihDL _ _ _) h
  · intro d acc inp h
    rcases readDictLoop_cases d acc inp with ⟨e, _, he⟩ | ⟨rest, rfl, he⟩ | ⟨key, r1, r2, _, _, he⟩
    · rw [he, he]
    · rw [he, he]
    · rw [he] at h ⊢; rw [he]
      unfold dictEntry at h ⊢
      rw [ihO d r2 (done_call h fun h0 => by rw [h0])]
      cases hro : readObject f d r2 with
      | error e' => rfl
      | ok p =>
        rw [hro] at h
        dsimp only at h ⊢
        cases het : entryTail p.1 p.2 with
        | error e' => rfl
        | ok q =>
          rw [het] at h
          dsimp only at h ⊢
          split
          · rfl
          · rename_i hl; rw [if_neg hl] at h; exact ihDL _ _ _ h

theorem stab_all : ∀ f, StabAt f
  | 0 => stab_zero
  | f + 1 => stab_succ f (stab_all f)

theorem stable_le {f f' : Nat} (hle : f ≤ f') :
    (∀ d inp, Done (readObject f d inp) → readObject f' d inp = readObject f d inp) ∧
    (∀ d inp, Done (readArray f d inp) → readArray f' d inp = readArray f d inp) ∧
    (∀ d inp, Done (readDict f d inp) → readDict f' d inp = readDict f d inp) := by
  induction hle with
  | refl => exact ⟨fun _ _ _ => rfl, fun _ _ _ => rfl, fun _ _ _ => rfl⟩
  | @step m _ ih =>
    obtain ⟨sO, sA, _, sD, _⟩ := stab_all m
    exact ⟨fun d inp h => by rw [sO d inp (by rw [ih.1 d inp h]; exact h), ih.1 d inp h],
      fun d inp h => by rw [sA d inp (by rw [ih.2.1 d inp h]; exact h), ih.2.1 d inp h],
      fun d inp h => by rw [sD d inp (by rw [ih.2.2 d inp h]; exact h), ih.2.2 d inp h]⟩

theorem Done.ok {α : Type} {x : Except Err α} {a : α} (h : x = .ok a) : Done x := by rw [h]; exact nofun

theorem readDict_mono {f d : Nat} {inp : Bytes} {r : List (Bytes × Obj) × Bytes} (h : readDict f d inp = .ok r) :
    readDict (f + 1) d inp = .ok r := by
  rw [(stab_all f).2.2.2.1 d inp (.ok h), h]

end PdfVerif.C01L
