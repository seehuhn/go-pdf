import PdfVerif.Model.TRGo
import PdfVerif.Lemmas.TRGoAttr
/-!
Lemmas about the Go semantics prelude `Model/TRGo.lean` used by `Lemmas/TR*.lean`, `Lemmas/FBParams.lean` and the
`Props/*tr*.lean` files: `int` arithmetic
that is exact under bounds (`i64_of_bounds`, `quoK_pos`, … — as `simp (disch := omega) only […]`), reading a
generated function as the condition under which it returns a given value (`ite_eq_cases`, `err_guard`,
`ite_bind`), slices, the loop shapes of the generated code (`forIn_option_*`, `forIn_range_forall`) and the prelude's
UTF-8 decoder, in this order.

Proof recipe for theorems about generated functions with unsigned parameters that are converted
to `int` inside (`int(a)` ↦ `(a.toNat : Int)`): `unfold f`, `generalize (a.toNat : Int) = A`
(after recording `0 ≤ A < 2^N`), then `as_aux_lemma => …`.  Without the auxiliary lemma the
kernel's definitional-equality check meets `Go.i64` applied to `Int.ofNat …` terms and unfolds
`Nat` arithmetic with the literal 2⁶³ (deep recursion).
-/
namespace PdfVerif.Go

theorem i64_of_bounds {x : Int} (lo : -9223372036854775808 ≤ x) (hi : x < 9223372036854775808) : i64 x = x := by
  unfold i64; omega

theorem i64_isI64 (x : Int) : IsI64 (i64 x) := by
  unfold i64 IsI64; omega

theorem u8_cast_bounds (a : UInt8) : (0 : Int) ≤ (a.toNat : Int) ∧ (a.toNat : Int) < 256 := by
  have := a.toNat_lt; omega

theorem quoK_eq_tdiv {a k : Int} (h : IsI64 a) (hk : 0 < k) : quoK a k = Int.tdiv a k := by
  unfold IsI64 at h
  unfold quoK
  rcases Int.le_total 0 a with ha | ha
  · have := Int.ediv_nonneg ha (Int.le_of_lt hk)
    have := Int.ediv_le_self k ha
    rw [Int.tdiv_eq_ediv_of_nonneg ha]
    apply i64_of_bounds <;> omega
  · obtain ⟨b, rfl⟩ : ∃ b, a = -b := ⟨-a, by omega⟩
    have := Int.ediv_nonneg (a := b) (by omega) (Int.le_of_lt hk)
    have := Int.ediv_le_self k (a := b) (by omega)
    rw [Int.neg_tdiv, Int.tdiv_eq_ediv_of_nonneg (by omega)]
    apply i64_of_bounds <;> omega

theorem quoK_pos {a k : Int} (ha : 0 ≤ a) (hk : 0 < k) (hb : a < 9223372036854775808) : quoK a k = a / k := by
  rw [quoK_eq_tdiv ⟨by omega, hb⟩ hk, Int.tdiv_eq_ediv_of_nonneg ha]

theorem quo64_pos {a b : Int} (ha : 0 ≤ a) (hb : 0 < b) (h : a < 9223372036854775808) : quo64 a b = some (a / b) := by
  unfold quo64
  rw [if_neg (by omega), ← quoK_pos ha hb h]
  rfl

theorem remK_nonneg {a : Int} (k : Int) (ha : 0 ≤ a) : remK a k = a % k := Int.tmod_eq_emod_of_nonneg ha

theorem cnt_of_nonneg {s : Int} (h : 0 ≤ s) : cnt s = some s.toNat := if_neg (by omega)

theorem toU64_toNat {y : Int} (h0 : 0 ≤ y) (h1 : y < 18446744073709551616) : (toU64 y).toNat = y.toNat := by
  unfold toU64
  rw [Int.emod_eq_of_lt h0 h1, UInt64.toNat_ofNat']
  omega

theorem shr8_of_lt (x : UInt8) {n : Nat} (h : n < 8) : shr8 x n = x >>> UInt8.ofNat n :=
  if_neg (by omega)

theorem ite_eq_cases {α} {c : Prop} [Decidable c] {x y z : α} :
    (if c then x else y) = z ↔ (c ∧ x = z) ∨ (¬ c ∧ y = z) := by
  split <;> simp [*]

/-- `if err != nil { return err }` -/
theorem err_guard {α} (e x : Option α) : (if e.isSome then e else x) = e.or x := by
  cases e <;> rfl

theorem ite_bind {α β} {c : Prop} [Decidable c] (x y : Option α) (g : α → Option β) :
    (if c then x else y).bind g = if c then x.bind g else y.bind g := by
  split <;> rfl

-- `simp only [go_ret, reduceCtorEq]` turns `f x = nil` for a generated `f` that returns through nested
-- `if … { return … }` into the proposition "no guard fires" (`Id`: the `if`s of the generated code have type `Id _`)
attribute [go_ret] Id Id.run pure ite_eq_cases err_guard ite_bind beq_iff_eq bne_iff_ne Bool.or_eq_true Bool.and_eq_true
  decide_eq_true_eq and_false or_false false_or and_true

/-- `Option.bind_some` with a proof that is not `rfl`: `simp only [obind]` then rewrites
propositionally instead of by `dsimp` (whose definitional steps the kernel would have to re-check
on terms containing `i64 (↑x.toNat …)`, see the header) -/
theorem obind {α β} (a : α) (f : α → Option β) : (some a).bind f = f a := by
  cases h : f a <;> simp [h]

theorem len_nonneg {α} (xs : List α) : 0 ≤ len xs := by unfold len; omega

theorem idx_eq_some {α} {xs : List α} {i : Int} {v : α} :
    idx xs i = some v ↔ 0 ≤ i ∧ xs[i.toNat]? = some v := by
  unfold idx; split <;> simp_all <;> omega

theorem idx_isSome {α} (xs : List α) (i : Int) : (idx xs i).isSome ↔ 0 ≤ i ∧ i < len xs := by
  unfold idx len
  split
  · simp; omega
  · simp; omega

theorem idx_natCast {α} (xs : List α) (n : Nat) : idx xs (n : Int) = xs[n]? := by
  unfold idx
  have : ¬ ((n : Int) < 0) := by omega
  simp [this]

theorem getD_idx {α} (xs : List α) (d : α) (k : Nat) (h : k < xs.length) : idx xs (k : Int) = some (xs.getD k d) := by
  rw [idx_natCast, List.getD_eq_getElem?_getD, List.getElem?_eq_getElem h]; rfl

theorem idx_eq_getD {α} (xs : List α) (d : α) {i : Int} (h0 : 0 ≤ i) (h1 : i < xs.length) :
    idx xs i = some (xs.getD i.toNat d) := by
  obtain ⟨k, rfl⟩ := Int.eq_ofNat_of_zero_le h0
  exact getD_idx xs d k (by omega)

theorem slice_general {α} (xs : List α) (lo hi : Int) (h0 : 0 ≤ lo) (h1 : lo ≤ hi) (h2 : hi ≤ xs.length) :
    slice xs lo hi = some ((xs.take hi.toNat).drop lo.toNat) := by
  unfold slice
  have : (0 : Int) ≤ lo ∧ lo ≤ hi ∧ hi ≤ (xs.length : Int) := ⟨h0, h1, h2⟩
  simp [this]

theorem slice_zero {α} (xs : List α) (hi : Int) (h0 : 0 ≤ hi) (h1 : hi ≤ xs.length) :
    slice xs 0 hi = some (xs.take hi.toNat) :=
  slice_general xs 0 hi (Int.le_refl 0) h0 h1

theorem forIn_option_yield {α σ : Type} (l : List α) (P : α → Prop) (body : α → σ → Option (ForInStep σ))
    (g : α → σ → σ) (h : ∀ k s, P k → body k s = some (ForInStep.yield (g k s))) (hl : ∀ k ∈ l, P k) (init : σ) :
    forIn l init body = some (l.foldl (fun s k => g k s) init) := by
  induction l generalizing init with
  | nil => rfl
  | cons a as ih =>
    simp only [List.forIn_cons, List.foldl_cons]
    rw [h a init (hl a (by simp))]
    exact ih (fun k hk => hl k (by simp [hk])) _

theorem forIn_option_find {α σ : Type} (l : List α) (P : α → Prop) (body : α → σ → Option (ForInStep σ))
    (p : α → Bool) (f : α → σ) (s0 : σ)
    (h : ∀ a, P a → body a s0 = if p a then some (ForInStep.done (f a)) else some (ForInStep.yield s0))
    (hl : ∀ a ∈ l, P a) :
    forIn l s0 body = some (((l.find? p).map f).getD s0) := by
  induction l with
  | nil => rfl
  | cons a as ih =>
    rw [List.forIn_cons, h a (hl a (by simp)), List.find?_cons]
    cases p a
    · exact ih fun k hk => hl k (by simp [hk])
    · rfl

theorem forIn_option_search {α σ : Type} (l : List α) (P : α → Prop) (body : α → σ → Option (ForInStep σ))
    (c : α → Bool) (s0 d : σ)
    (h : ∀ k, P k → body k s0 = if c k then some (ForInStep.done d) else some (ForInStep.yield s0))
    (hl : ∀ k ∈ l, P k) :
    forIn l s0 body = some (if l.any c then d else s0) := by
  rw [forIn_option_find l P body c (fun _ => d) s0 h hl, ← List.isSome_find?]
  cases l.find? c <;> rfl

/-- `for i := range n { if !Q(i) { return … } }` -/
theorem forIn_range_forall {σ : Type} (n : Nat) (Q : Nat → Prop) [DecidablePred Q]
    (body : Nat → σ → Option (ForInStep σ)) (s0 d : σ)
    (h : ∀ k, k < n → body k s0 = if Q k then some (ForInStep.yield s0) else some (ForInStep.done d)) :
    forIn (List.range n) s0 body = some (if ∀ k, k < n → Q k then s0 else d) := by
  rw [forIn_option_search (List.range n) (· < n) body (fun k => !decide (Q k)) s0 d
    (fun k hk => by rw [h k hk]; by_cases hq : Q k <;> simp [hq]) (fun k hk => List.mem_range.mp hk)]
  congr 1
  by_cases hall : ∀ k, k < n → Q k
  · rw [if_pos hall, if_neg]
    simpa using hall
  · rw [if_neg hall, if_pos]
    simpa using hall

/-- `for i := range a { if a[i] > b[i] { return false } }; return true` -/
theorem bytewise_le_loop (a b : List UInt8) (h : a.length ≤ b.length) :
    (do
      for i_n in List.range a.length do
        let i : Int := (i_n : Int)
        if (decide ((← Go.idx a i) > (← Go.idx b i))) then
          return false
      return true : Option Bool) = some (decide (∀ k, k < a.length → a.getD k 0 ≤ b.getD k 0)) := by
  simp only [pure, bind]
  rw [forIn_range_forall _ (fun k => a.getD k 0 ≤ b.getD k 0) _ _ (some false, ()) fun k hk => by
        rw [getD_idx _ 0 _ hk, getD_idx _ 0 _ (by omega)]
        simp only [Option.bind_some, gt_iff_lt, ← UInt8.not_le, decide_not, Bool.not_eq_true', decide_eq_false_iff_not,
          ite_not]]
  by_cases hall : ∀ k, k < a.length → a.getD k 0 ≤ b.getD k 0
  · rw [if_pos hall, decide_eq_true hall]; rfl
  · rw [if_neg hall, decide_eq_false hall]; rfl

/-- a loop with an accumulator that each round either updates (`step s a = some s'`) or leaves the function
with the fixed value `r` (`step s a = none`); `inv` is an invariant of the accumulator, `k` the rest of the
function, which after a `return` does not look at the accumulator -/
theorem forIn_option_scan {α ρ σ β : Type} (l : List α) (P : α → Prop) (inv : σ → Prop)
    (body : α → Option ρ × σ → Option (ForInStep (Option ρ × σ))) (step : σ → α → Option σ) (r : ρ)
    (k : Option ρ × σ → Option β) (hk : ∀ e e', k (some r, e) = k (some r, e'))
    (h : ∀ a s, P a → inv s → match step s a with
      | none => ∃ e, body a (none, s) = some (ForInStep.done (some r, e))
      | some s' => body a (none, s) = some (ForInStep.yield (none, s')) ∧ inv s')
    (hl : ∀ a ∈ l, P a) (s : σ) (hs : inv s) :
    (forIn l (none, s) body).bind k = match l.foldlM step s with
      | none => k (some r, s)
      | some s' => k (none, s') := by
  induction l generalizing s with
  | nil => rfl
  | cons a as ih =>
    have ha := h a s (hl a (by simp)) hs
    simp only [List.forIn_cons, List.foldlM_cons]
    cases hst : step s a with
    | none =>
      rw [hst] at ha
      obtain ⟨e, he⟩ := ha
      rw [he]
      exact hk e s
    | some s' =>
      rw [hst] at ha
      rw [ha.1, ← hk s' s]
      exact ih (fun b hb => hl b (by simp [hb])) s' ha.2

theorem map_toNat_inj {a b : List UInt8} : a.map (·.toNat) = b.map (·.toNat) ↔ a = b :=
  List.map_inj_right fun _ _ => UInt8.toNat_inj.mp

theorem fst_ite_nonneg {c : Prop} [Decidable c] {x y : Int × Nat} (hx : 0 ≤ x.1) (hy : 0 ≤ y.1) :
    0 ≤ (if c then x else y).1 := by
  split <;> assumption

theorem decodeRune_nonneg (bs : List UInt8) : 0 ≤ (decodeRune bs).1 := by
  unfold decodeRune
  cases bs with
  | nil => exact Int.natCast_nonneg _
  | cons b0 rest =>
    simp only []
    repeat' apply fst_ite_nonneg
    all_goals exact Int.natCast_nonneg _

theorem runes_nonneg (s : List UInt8) : ∀ r ∈ runes s, 0 ≤ r := by
  unfold runes
  generalize s.length = fuel
  induction fuel generalizing s with
  | zero => intro r hr; simp [runesFuel] at hr
  | succ n ih =>
    intro r hr
    cases s with
    | nil => simp [runesFuel] at hr
    | cons b rest =>
      simp only [runesFuel, List.mem_cons] at hr
      rcases hr with h | h
      · rw [h]; exact decodeRune_nonneg _
      · exact ih _ r h

end PdfVerif.Go
