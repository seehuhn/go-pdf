import PdfVerif.Lemmas.TRGo
import PdfVerif.Generated.FnCmap
/-!
The functions generated from font/cmap/{range,file,tu-mapping}.go (`Gen.cmap_rangeIsValid`, `Gen.cmap_rangeIndex`,
`Gen.cmap_nextString`) read as closed forms: `rangeIndex` as the exact mixed-radix scan `idxScan`, `nextString` as `lastBump` on
the decoded runes.  The names are those of `Props/C13tr.lean` and `Props/C13trb.lean`, whose closed forms these are.
-/
namespace PdfVerif.C13tr
open PdfVerif PdfVerif.Gen PdfVerif.Go


/-- specification of `rangeIsValid`: equal non-zero lengths and `first ≤ last` bytewise -/
def CmapRangeValid (first last : List UInt8) : Prop :=
  first.length = last.length ∧ 1 ≤ first.length ∧ ∀ k, k < first.length → first.getD k 0 ≤ last.getD k 0

instance (first last : List UInt8) : Decidable (CmapRangeValid first last) := by
  unfold CmapRangeValid; infer_instance

theorem rangeIsValid_spec (first last : List UInt8) :
    cmap_rangeIsValid first last = some (decide (CmapRangeValid first last)) := by
  unfold cmap_rangeIsValid CmapRangeValid len
  by_cases h : first.length = last.length ∧ 1 ≤ first.length
  · rw [if_neg (by simp only [Bool.or_eq_true, bne_iff_ne, beq_iff_eq]; omega), bytewise_le_loop _ _ (by omega)]
    exact congrArg some (decide_eq_decide.mpr ⟨fun hall => ⟨h.1, h.2, hall⟩, fun hv => hv.2.2⟩)
  · rw [if_pos (by simp only [Bool.or_eq_true, bne_iff_ne, beq_iff_eq]; omega)]
    exact congrArg some (decide_eq_false fun hv => h ⟨hv.1, hv.2.1⟩).symm

/-- one digit of the mixed-radix index: `none` = the byte is outside `[first k, last k]` or the
index would exceed `MaxInt32` -/
def idxStep (f l : List UInt8) (b : UInt8) (k : Nat) (acc : Int) : Option Int :=
  if b < f.getD k 0 ∨ b > l.getD k 0 then none
  else
    let acc' := acc * (((l.getD k 0).toNat : Int) - (f.getD k 0).toNat + 1) + ((b.toNat : Int) - (f.getD k 0).toNat)
    if acc' > 2147483647 then none else some acc'

/-- the loop of `rangeIndex` over (byte, position) pairs, in exact integer arithmetic -/
def idxScan (f l : List UInt8) : List (UInt8 × Nat) → Int → Option Int
  | [], acc => some acc
  | (b, k) :: rest, acc => (idxStep f l b k acc).bind (idxScan f l rest)

theorem idxStep_some {f l : List UInt8} {b : UInt8} {k : Nat} {acc a : Int} (h : idxStep f l b k acc = some a) :
    (f.getD k 0).toNat ≤ b.toNat ∧ b.toNat ≤ (l.getD k 0).toNat ∧
    a = acc * (((l.getD k 0).toNat : Int) - (f.getD k 0).toNat + 1) + ((b.toNat : Int) - (f.getD k 0).toNat) := by
  revert h
  fun_cases idxStep f l b k acc with
  | case1 => intro h; cases h      -- outside the box
  | case2 => intro h; cases h      -- beyond `MaxInt32`
  | case3 hbox _ =>
    intro h
    have h1 := UInt8.le_iff_toNat_le.mp (UInt8.not_lt.mp fun x => hbox (Or.inl x))
    have h2 := UInt8.le_iff_toNat_le.mp (UInt8.not_lt.mp fun x => hbox (Or.inr x))
    exact ⟨h1, h2, (Option.some.inj h).symm⟩

theorem idxStep_nonneg {f l : List UInt8} {b : UInt8} {k : Nat} {acc a : Int} (h : idxStep f l b k acc = some a)
    (h0 : 0 ≤ acc) : 0 ≤ a := by
  obtain ⟨h1, h2, rfl⟩ := idxStep_some h
  have := Int.mul_nonneg h0 (by omega : (0 : Int) ≤ ((l.getD k 0).toNat : Int) - (f.getD k 0).toNat + 1)
  omega

theorem idxScan_cons {f l : List UInt8} {b : UInt8} {k : Nat} {ps : List (UInt8 × Nat)} {acc v : Int} :
    idxScan f l ((b, k) :: ps) acc = some v ↔ ∃ a, idxStep f l b k acc = some a ∧ idxScan f l ps a = some v :=
  Option.bind_eq_some_iff

theorem idxScan_eq_foldlM (f l : List UInt8) (ps : List (UInt8 × Nat)) (acc : Int) :
    idxScan f l ps acc = ps.foldlM (fun acc p => idxStep f l p.1 p.2 acc) acc := by
  induction ps generalizing acc with
  | nil => rfl
  | cons p ps ih =>
    simp only [idxScan, List.foldlM_cons, bind]
    congr 1
    exact funext ih

/-- all the `int64` operations are exact because `acc ≤ MaxInt32` is an invariant of the loop -/
theorem rangeIndex_eq (f l c : List UInt8) :
    cmap_rangeIndex f l c = some (
      if f.length = c.length ∧ l.length = c.length then
        match idxScan f l c.zipIdx 0 with
        | none => (0, false)
        | some v => (v, true)
      else (0, false)) := by
  unfold cmap_rangeIndex
  simp only [pure, bind]
  by_cases hlen : f.length = c.length ∧ l.length = c.length
  · rw [if_neg (by simp [len, hlen.1, hlen.2]), if_pos hlen,
      forIn_option_scan c.zipIdx (fun p => p.2 < c.length) (fun acc => 0 ≤ acc ∧ acc ≤ 2147483647) _
        (fun acc p => idxStep f l p.1 p.2 acc) (0, false) _ (fun _ _ => rfl) ?_ ?_ 0 ⟨by omega, by omega⟩,
      ← idxScan_eq_foldlM]
    · cases idxScan f l c.zipIdx 0 <;> rfl
    · intro ⟨b, k⟩ n hk ⟨h0, h1⟩
      simp only at hk ⊢
      rw [getD_idx _ 0 _ (by omega), getD_idx _ 0 _ (by omega)]
      unfold idxStep
      generalize f.getD k 0 = lo
      generalize l.getD k 0 = hi
      simp only [obind]
      have e1 : (b < lo) ↔ ((b.toNat : Int) < (lo.toNat : Int)) := by rw [UInt8.lt_iff_toNat_lt]; omega
      have e2 : (b > hi) ↔ ((b.toNat : Int) > (hi.toNat : Int)) := by rw [gt_iff_lt, UInt8.lt_iff_toNat_lt]; omega
      have hA := u8_cast_bounds hi
      have hB := u8_cast_bounds lo
      have hC := u8_cast_bounds b
      generalize (hi.toNat : Int) = A at e2 hA ⊢
      generalize (lo.toNat : Int) = B at e1 hB ⊢
      generalize (b.toNat : Int) = C at e1 e2 hC ⊢
      as_aux_lemma =>
        by_cases p1 : b < lo
        · simp [p1]
        · by_cases p2 : b > hi
          · simp [p1, p2]
          · have q1 : ¬ (C < B) := fun h => p1 (e1.mpr h)
            have q2 : ¬ (C > A) := fun h => p2 (e2.mpr h)
            have hm1 : 0 ≤ n * (A - B + 1) := Int.mul_nonneg h0 (by omega)
            have hm2 : n * (A - B + 1) ≤ 2147483647 * 256 := Int.mul_le_mul h1 (by omega) (by omega) (by omega)
            rw [i64_of_bounds (x := A - B) (by omega) (by omega), i64_of_bounds (x := A - B + 1) (by omega) (by omega),
              i64_of_bounds (x := C - B) (by omega) (by omega)]
            generalize n * (A - B + 1) = M at hm1 hm2 ⊢
            rw [i64_of_bounds (x := M) (by omega) (by omega), i64_of_bounds (x := M + (C - B)) (by omega) (by omega)]
            simp only [p1, p2, decide_false, Bool.not_false, if_true, or_self, if_false, decide_eq_true_eq]
            by_cases hgt : M + (C - B) > 2147483647
            · simp [hgt]
            · simp [hgt]; omega
    · intro p hp
      have := List.mem_zipIdx hp
      omega
  · rw [if_pos (by simp only [Bool.or_eq_true, bne_iff_ne, ne_eq, len]; omega), if_neg hlen]

theorem idxScan_nonneg (f l : List UInt8) (ps : List (UInt8 × Nat)) (acc v : Int) (h0 : 0 ≤ acc)
    (h : idxScan f l ps acc = some v) : 0 ≤ v := by
  induction ps generalizing acc with
  | nil => simp [idxScan] at h; omega
  | cons p ps ih =>
    obtain ⟨a, hs, h⟩ := idxScan_cons.mp h
    exact ih a (idxStep_nonneg hs h0) h

theorem rangeIndex_some_iff (f l c : List UInt8) (v : Int) :
    cmap_rangeIndex f l c = some (v, true) ↔
      (f.length = c.length ∧ l.length = c.length) ∧ idxScan f l c.zipIdx 0 = some v := by
  rw [rangeIndex_eq]
  split
  · cases idxScan f l c.zipIdx 0 <;> simp [*]
  · simp [*]

end PdfVerif.C13tr

namespace PdfVerif.C13trb
open PdfVerif PdfVerif.Gen PdfVerif.Go PdfVerif.C13tr

def shift (p : UInt8 × Nat) : UInt8 × Nat := (p.1, p.2 + 1)

theorem zipIdx_succ (xs : List UInt8) (n : Nat) : xs.zipIdx (n + 1) = (xs.zipIdx n).map shift :=
  List.zipIdx_succ

theorem idxStep_shift (a b : UInt8) (f l : List UInt8) (x : UInt8) (k : Nat) (acc : Int) :
    idxStep (a :: f) (b :: l) x (k + 1) acc = idxStep f l x k acc := by
  simp [idxStep]

theorem idxScan_shift (a b : UInt8) (f l : List UInt8) (ps : List (UInt8 × Nat)) (acc : Int) :
    idxScan (a :: f) (b :: l) (ps.map shift) acc = idxScan f l ps acc := by
  induction ps generalizing acc with
  | nil => rfl
  | cons p ps ih =>
    obtain ⟨x, k⟩ := p
    simp only [List.map_cons, shift, idxScan, idxStep_shift]
    cases idxStep f l x k acc with
    | none => rfl
    | some v => simp only [Option.bind_some]; exact ih v

/-- what `nextString` does on the rune level: the last rune is incremented in `int32` arithmetic -/
def lastBump (inc : Int) : List Int → List Int
  | [] => []
  | [r] => [i32 (r + i32 inc)]
  | r :: rs => r :: lastBump inc rs

theorem set_last (rr : List Int) (h : rr ≠ []) (hl : rr.length < 9223372036854775808) :
    idx rr (i64 (len rr - 1)) = some (rr.getLast h) ∧
    ∀ v, Go.set rr (i64 (len rr - 1)) v = some (rr.dropLast ++ [v]) := by
  have hpos : 0 < rr.length := List.length_pos_iff.mpr h
  have e : i64 (len rr - 1) = ((rr.length - 1 : Nat) : Int) := by
    unfold len; rw [i64_of_bounds (by omega) (by omega)]; omega
  rw [e]
  constructor
  · rw [idx_natCast, List.getLast_eq_getElem, List.getElem?_eq_getElem (by omega)]
  · intro v
    unfold Go.set
    have : (0 : Int) ≤ ((rr.length - 1 : Nat) : Int) ∧ ((rr.length - 1 : Nat) : Int) < (rr.length : Int) := by omega
    simp only [this, and_self, if_true, Int.toNat_natCast]
    congr 1
    rw [List.set_eq_take_append_cons_drop]
    have : rr.length - 1 < rr.length := by omega
    simp only [this, if_true]
    rw [List.dropLast_eq_take, List.drop_of_length_le (by omega)]

theorem lastBump_eq (rr : List Int) (h : rr ≠ []) (inc : Int) :
    lastBump inc rr = rr.dropLast ++ [i32 (rr.getLast h + i32 inc)] := by
  induction rr with
  | nil => exact absurd rfl h
  | cons r rs ih =>
    cases rs with
    | nil => rfl
    | cons r' rs' =>
      have := ih (by simp)
      simp only [lastBump, List.dropLast_cons_cons, List.cons_append, List.getLast_cons (List.cons_ne_nil r' rs')]
      rw [this]

theorem nextString_eq (s : List UInt8) (inc : Int) (hl : (runes s).length < 9223372036854775808) :
    cmap_nextString s inc = some (stringOfRunes (lastBump inc (runes s))) := by
  unfold cmap_nextString
  simp only [pure, bind]
  by_cases h : runes s = []
  · simp [h, len, lastBump, stringOfRunes]
  · have c : (len (runes s) == 0) = false := by
      have := List.length_pos_iff.mpr h
      unfold len; simp; omega
    simp only [c, Bool.false_eq_true, if_false]
    obtain ⟨h1, h2⟩ := set_last (runes s) h hl
    rw [h1]
    simp only [Option.bind_some]
    rw [h2, lastBump_eq _ h]
    rfl

end PdfVerif.C13trb
