import PdfVerif.Lemmas.C04ParLex
import PdfVerif.Lemmas.C01Defs
/-!
For `C04par.parse_any_rendering`, between the tokens (`C04ParLex.lean`) and the induction (`C04ParB.lean`): `ReadInteger` on
every conforming integer spelling, the hypothesis of unique keys, and what follows an element of a conforming array or
dictionary body (`seq_cont`, `kv_cont`).
-/
namespace PdfVerif.C04L
open PdfVerif PdfVerif.C01L
open PdfVerif.Spec.Grammar (isWhite isDelim isRegularCh isEolCh isDigitCh WsR NameR StrR HexR IntR RealTok decVal)
open PdfVerif.Spec.Renders
open PdfVerif.C04hisc (StopsWs NameEnd ws_any_spelling skipWS_stops)

theorem readInteger_any (i : Int) (s : Bytes) (h : IntR i s)
    (hrange : -9223372036854775808 ≤ i ∧ i ≤ 9223372036854775807)
    (hlen : s.length ≤ Gen.scanner_maxNameBytes) (rest : Bytes) (hr : NumStop false rest) :
    readInteger (s ++ rest) = .ok (i, rest) := by
  obtain ⟨c, t, rfl, hc⟩ := intR_head h
  have hsk : skipWS (c :: t ++ rest) = (c :: t ++ rest, false) :=
    skipWS_stops (rest := c :: _) (objHead_stops (numHead_objHead hc) _)
  unfold readInteger
  simp only [hsk, C04hisc.scan_int false h rest hr, Nat.not_lt.2 hlen, if_false,
    C04hisc.parseInt64_intR i _ h hrange]

mutual
/-- every dictionary inside the value has distinct keys (it is a Go map) -/
def uniqueKeys : Obj → Bool
  | .arr xs => uniqueKeysList xs
  | .dict kv => decide ((keysOf kv).Nodup) && uniqueKeysKV kv
  | _ => true
def uniqueKeysList : List Obj → Bool
  | [] => true
  | x :: xs => uniqueKeys x && uniqueKeysList xs
def uniqueKeysKV : List (Bytes × Obj) → Bool
  | [] => true
  | (_, v) :: rest => uniqueKeys v && uniqueKeysKV rest
end

theorem uniqueKeys_arr (xs : List Obj) : uniqueKeys (.arr xs) = uniqueKeysList xs := rfl

theorem uniqueKeys_dict {kv : List (Bytes × Obj)} :
    uniqueKeys (.dict kv) = true ↔ (keysOf kv).Nodup ∧ uniqueKeysKV kv = true := by
  simp only [uniqueKeys, Bool.and_eq_true, decide_eq_true_eq]

theorem uniqueKeysList_cons {x : Obj} {xs : List Obj} :
    uniqueKeysList (x :: xs) = true ↔ uniqueKeys x = true ∧ uniqueKeysList xs = true := by
  simp only [uniqueKeysList, Bool.and_eq_true]

theorem uniqueKeysKV_cons {k : Bytes} {v : Obj} {rest : List (Bytes × Obj)} :
    uniqueKeysKV ((k, v) :: rest) = true ↔ uniqueKeys v = true ∧ uniqueKeysKV rest = true := by
  simp only [uniqueKeysKV, Bool.and_eq_true]

def isDictObj : Obj → Bool
  | .dict _ => true
  | _ => false

/-- `ReadObject` looks for the keyword `stream` behind a dictionary (after white space) -/
def NoStream (k : Bytes) : Prop := startsWith (skipWS k).1 kw_stream = false

theorem noStream_of_skip {k : Bytes} {c : Nat} {t : Bytes} {b : Bool} (h : skipWS k = (c :: t, b)) (hc : c ≠ 115) :
    NoStream k := by
  unfold NoStream
  rw [h]
  exact startsWith_head hc t _

theorem close_stops (c : Nat) (hc : c = 47 ∨ c = 62 ∨ c = 93) (t : Bytes) :
    StopsWs (c :: t) ∧ EndsToken (c :: t) ∧ c ≠ 115 := by
  rcases hc with rfl | rfl | rfl <;> exact ⟨⟨by decide, by decide⟩, ⟨by decide, by decide⟩, by decide⟩

/-- after the elements of an array body: through white space we reach an object or `]`; and the
    body (with the bracket) ends a preceding regular token unless that token needed no white space -/
theorem seq_cont {L : Nat} {p : Bool} {xs : List Obj} {body : Bytes} (h : RendersSeq L p xs body) (rest : Bytes) :
    (∃ c t, skipWS (body ++ 93 :: rest) = (c :: t, false) ∧ c ≠ 115) ∧
    (p = false → EndsToken (body ++ 93 :: rest)) := by
  cases h with
  | nil _ _ hw =>
    obtain ⟨h1, h2, h3⟩ := close_stops 93 (.inr (.inr rfl)) rest
    refine ⟨⟨93, rest, skip_to hw 93 rest h1, h3⟩, fun _ => ?_⟩
    by_cases hne : body = []
    · subst hne; exact h2
    · exact ws_endsToken hw hne _
  | cons _ w a b x xs' hw hx hsep _ =>
    obtain ⟨c, t, rfl, hc, hdel⟩ := renders_head hx
    rw [List.append_assoc, List.append_assoc]
    refine ⟨⟨c, t ++ (b ++ 93 :: rest), skip_to hw c _ (objHead_stops hc _), hc.ne115⟩, fun hp => ?_⟩
    by_cases hne : w = []
    · subst hne
      rcases hsep rfl with h | h
      · rw [hp] at h; cases h
      · exact ⟨hc.lt, hdel h⟩
    · exact ws_endsToken hw hne _

/-- what follows a run of dictionary entries: through white space the next key or `>>`, and a byte
    that ends a token -/
structure KVCont (K : Bytes) (c : Nat) (t : Bytes) : Prop where
  skip : skipWS K = (c :: t, false)
  head : c = 47 ∨ c = 62
  ends : EndsToken K

theorem kvCont_head (c : Nat) (hc : c = 47 ∨ c = 62) (t : Bytes) : KVCont (c :: t) c t := by
  obtain ⟨h1, h2, _⟩ := close_stops c (by rcases hc with h | h <;> simp [h]) t
  exact ⟨skipWS_stops h1, hc, h2⟩

theorem KVCont.ws {K : Bytes} {c : Nat} {t : Bytes} (h : KVCont K c t) {w : Bytes} (hw : WsR w) : KVCont (w ++ K) c t := by
  refine ⟨(C04hisc.skipWS_ws hw K).trans h.skip, h.head, ?_⟩
  by_cases hne : w = []
  · subst hne; exact h.ends
  · exact ws_endsToken hw hne _

theorem kv_cont {L : Nat} {kv : List (Bytes × Obj)} {body : Bytes} (h : RendersKV L kv body) {K : Bytes} {c : Nat}
    {t : Bytes} (hK : KVCont K c t) : ∃ c' t', KVCont (body ++ K) c' t' := by
  cases h with
  | nil _ hw => exact ⟨c, t, hK.ws hw⟩
  | cons w ks w1 a b k v kv' hw _ _ _ _ _ =>
    simp only [List.append_assoc, List.cons_append]
    exact ⟨47, _, (kvCont_head 47 (.inl rfl) _).ws hw⟩

end PdfVerif.C04L
