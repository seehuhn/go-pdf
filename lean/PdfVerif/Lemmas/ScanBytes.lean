import PdfVerif.Model.Scan
import PdfVerif.Spec.HISGrammar
/-!
What everything about `Model/Scan.lean` starts from: the class table of `scanner.go` is Tables 1 and 2
of the standard (`isSpace_eq`, `isRegular_eq`: a fact about the class of a byte is arithmetic),
`isPrefixOf`, and `SkipWhiteSpace` (`skipWS`).  What is stated in the vocabulary of the grammar
(`Spec/HISGrammar.lean`: `StopsWs`, `skipWS_ws`) is in namespace `C04hisc`, with the theorems of
`Props/C04hisc.lean` that use it.
-/
namespace PdfVerif.C01L
open PdfVerif
open PdfVerif.Spec.Grammar (isWhite isDelim isRegularCh)

/-- the class that Tables 1 and 2 give a byte, in the numbering of `scanner.go` -/
def specClass (c : Nat) : Nat :=
  if isWhite c then Gen.scanner_space else if isDelim c then Gen.scanner_delimiter else Gen.scanner_regular

/-- compared as lists: `Array.getD` on the 256-entry literal computes the array's size again at
    every index, so a sweep over `classOf` is slow to check -/
theorem class_table : Gen.scanner_class.toList = (List.range 256).map specClass := by decide +kernel

/-- also beyond the table: `classOf` answers `regular` there, and so do Tables 1 and 2 -/
theorem classOf_eq (c : Nat) : classOf c = specClass c := by
  unfold classOf
  rw [Array.getD_eq_getD_getElem?, ← Array.getElem?_toList, class_table, List.getElem?_map]
  by_cases h : c < 256
  · rw [List.getElem?_range h]; rfl
  · rw [List.getElem?_eq_none (by simpa using h)]
    have hne : ∀ k, k < 256 → (c == k) = false := fun k hk => beq_false_of_ne (by omega)
    simp [specClass, isWhite, isDelim, hne, Gen.scanner_regular]

theorem isSpace_eq (c : Nat) : isSpace c = isWhite c := by
  simp only [isSpace, classOf_eq, specClass]
  cases isWhite c <;> cases isDelim c <;> rfl

theorem isRegular_eq (c : Nat) : isRegular c = isRegularCh c := by
  simp only [isRegular, classOf_eq, specClass, isRegularCh]
  cases isWhite c <;> cases isDelim c <;> rfl

theorem digit_facts' {c : Nat} (h : isDigit c = true) : isSpace c = false ∧ c ≠ 37 ∧ c < 256 ∧ isRegular c = true := by
  have hr : 48 ≤ c ∧ c ≤ 57 := by simpa [isDigit] using h
  have hne : ∀ k, k < 48 ∨ 57 < k → (c == k) = false := fun k hk => beq_false_of_ne (by omega)
  have hw : isWhite c = false := by
    rw [isWhite]; simp only [hne, Nat.reduceLT, true_or, Bool.or_false]
  have hd : isDelim c = false := by
    rw [isDelim]; simp only [hne, Nat.reduceLT, true_or, or_true, Bool.or_false]
  exact ⟨(isSpace_eq c).trans hw, by omega, by omega, by rw [isRegular_eq, isRegularCh, hw, hd]; rfl⟩

theorem nonreg_lt {c : Nat} (h : isRegularCh c = false) : c < 126 := by
  apply Decidable.by_contra; intro hge
  have hne : ∀ k, k < 126 → (c == k) = false := fun k hk => beq_false_of_ne (by omega)
  rw [isRegularCh, isWhite, isDelim] at h
  simp only [hne, Nat.reduceLT, Bool.or_false, Bool.not_false, Bool.and_self] at h
  exact nomatch h

theorem nonreg_delim {c : Nat} (h : isDelim c = true) : isRegular c = false := by
  rw [isRegular_eq, isRegularCh, h, Bool.not_true, Bool.and_false]

theorem nonreg_white {c : Nat} (h : isWhite c = true) : isRegular c = false := by
  rw [isRegular_eq, isRegularCh, h]; rfl

theorem space_facts : isSpace 32 = true ∧ isSpace 10 = true ∧ isRegular 32 = false ∧ isRegular 10 = false := by
  simp only [isSpace_eq, isRegular_eq]; decide

theorem isPrefixOf_iff (p : Bytes) : ∀ t : Bytes, isPrefixOf p t = true ↔ p <+: t := by
  induction p with
  | nil => intro t; simp [isPrefixOf]
  | cons a as ih =>
    intro t
    cases t with
    | nil => simp [isPrefixOf]
    | cons b bs => simp [isPrefixOf, ih, List.cons_prefix_cons]

theorem isPrefixOf_self_append (p x : Bytes) : isPrefixOf p (p ++ x) = true :=
  (isPrefixOf_iff p _).mpr (List.prefix_append p x)

theorem isPrefixOf_mono {kw t t' : Bytes} (ht : t <+: t') (h : isPrefixOf kw t = true) : isPrefixOf kw t' = true :=
  (isPrefixOf_iff _ _).2 (((isPrefixOf_iff _ _).1 h).trans ht)

/-- an input whose first byte is not the pattern's does not start with it -/
theorem startsWith_head {c p : Nat} (h : c ≠ p) (rest ps : Bytes) : startsWith (c :: rest) (p :: ps) = false := by
  simp [startsWith, isPrefixOf, Ne.symm h]

theorem isPrefixOf_eq_append (pat inp : Bytes) (h : isPrefixOf pat inp = true) : inp = pat ++ inp.drop pat.length :=
  (List.prefix_iff_eq_append.mp ((isPrefixOf_iff pat inp).mp h)).symm

theorem isPrefixOf_len (pat inp : Bytes) (h : isPrefixOf pat inp = true) : pat.length ≤ inp.length :=
  ((isPrefixOf_iff pat inp).mp h).length_le

theorem skip_suffix (inp : Bytes) : (skipWS inp).1 <:+ inp ∧ (skipComment inp).1 <:+ inp := by
  induction inp with
  | nil => exact ⟨List.suffix_refl _, List.suffix_refl _⟩
  | cons c cs ih =>
    constructor
    · simp only [skipWS]
      split
      · exact ih.2.trans (List.suffix_cons c cs)
      · split
        · exact ih.1.trans (List.suffix_cons c cs)
        · exact List.suffix_refl _
    · simp only [skipComment]
      split
      · exact ih.1.trans (List.suffix_cons c cs)
      · exact ih.2.trans (List.suffix_cons c cs)

theorem skipWS_len (inp : Bytes) : (skipWS inp).1.length ≤ inp.length := (skip_suffix inp).1.length_le

theorem skip_idem (inp : Bytes) :
    (skipWS (skipWS inp).1 = skipWS inp) ∧ (skipWS (skipComment inp).1 = skipComment inp) := by
  induction inp with
  | nil => simp [skipWS, skipComment]
  | cons c cs ih =>
    constructor
    · simp only [skipWS]
      split
      · exact ih.2
      · split
        · exact ih.1
        · rename_i h1 h2
          simp [skipWS, h1, h2]
    · simp only [skipComment]
      split
      · exact ih.1
      · exact ih.2

theorem skipWS_idem (inp : Bytes) : skipWS (skipWS inp).1 = skipWS inp := (skip_idem inp).1

theorem skipWS_cons_space {c : Nat} (h : isSpace c = true) (cs : Bytes) : skipWS (c :: cs) = skipWS cs := by
  have h37 : (c == 37) = false := by
    cases hp : c == 37
    · rfl
    · rw [eq_of_beq hp] at h; exact absurd h (by rw [isSpace_eq]; decide)
  simp [skipWS, h37, h]

theorem skipWS_cons_stop {c : Nat} (hs : isSpace c = false) (h37 : c ≠ 37) (cs : Bytes) :
    skipWS (c :: cs) = (c :: cs, false) := by
  simp [skipWS, hs, h37]

theorem skipWS_suffix {inp r file : Bytes} {b : Bool} (hs : skipWS inp = (r, b)) (h : inp <:+ file) : r <:+ file := by
  have := (skip_suffix inp).1
  rw [hs] at this
  exact this.trans h

theorem skipWS_len' {inp r : Bytes} {b : Bool} (h : skipWS inp = (r, b)) : r.length ≤ inp.length :=
  (skipWS_suffix h (List.suffix_refl _)).length_le

theorem skipWS_sp (x : Bytes) : skipWS (32 :: x) = skipWS x := skipWS_cons_space space_facts.1 x

theorem skipWS_lf (x : Bytes) : skipWS (10 :: x) = skipWS x := skipWS_cons_space space_facts.2.1 x

theorem skipWS_blanks (n : Nat) (x : Bytes) : skipWS (List.replicate n 32 ++ x) = skipWS x := by
  induction n with
  | zero => rfl
  | succ n ih => rw [List.replicate_succ, List.cons_append, skipWS_sp, ih]

end PdfVerif.C01L

namespace PdfVerif.C04hisc
open PdfVerif
open PdfVerif.C01L (isSpace_eq)
open PdfVerif.Spec.Grammar (isWhite isEolCh WsR)

def StopsWs : Bytes → Prop
  | [] => True
  | c :: _ => isWhite c = false ∧ c ≠ 37

theorem skipWS_stops {rest : Bytes} (h : StopsWs rest) : skipWS rest = (rest, rest.isEmpty) := by
  cases rest with
  | nil => rfl
  | cons c cs => exact C01L.skipWS_cons_stop ((isSpace_eq c).trans h.1) h.2 cs

theorem skipComment_body (body : Bytes) (hb : ∀ b ∈ body, isEolCh b = false) (eol : Nat)
    (he : isEolCh eol = true) (x : Bytes) : skipComment (body ++ eol :: x) = skipWS x := by
  induction body with
  | nil =>
    have : (eol == 13 || eol == 10) = true := by rw [Bool.or_comm]; exact he
    simp only [List.nil_append, skipComment, this, if_true]
  | cons b bs ih =>
    have : (b == 13 || b == 10) = false := by rw [Bool.or_comm]; exact hb b List.mem_cons_self
    simp only [List.cons_append, skipComment, this, Bool.false_eq_true, if_false]
    exact ih (fun b' hb' => hb b' (List.mem_cons_of_mem _ hb'))

theorem skipWS_ws {w : Bytes} (hw : WsR w) (x : Bytes) : skipWS (w ++ x) = skipWS x := by
  induction hw with
  | nil => rfl
  | white c w hc _ ih => exact (C01L.skipWS_cons_space ((isSpace_eq c).trans hc) _).trans ih
  | comment body eol w hb he _ ih =>
    simp only [List.cons_append, skipWS, beq_self_eq_true, if_true, List.append_assoc]
    rw [skipComment_body body hb eol he]
    exact ih

end PdfVerif.C04hisc
