import PdfVerif.Lemmas.TRGo
import PdfVerif.Generated.FnPdf
/-!
The xref-stream field coders generated from xref.go (`Gen.pdf_decodeInt`, `Gen.pdf_encodeInt64`) read as closed forms:
the value of the decode loop on naturals (`decNat`) and the big-endian bytes written (`bytesBE`).  The names are those of
`Props/C02tr.lean`, whose closed forms these are.  (The widths `|w| ≤ 10⁶` of the lemmas are an arbitrary bound that keeps
`(w-1)*8` inside `int`; the writer uses 0…8.)
-/
namespace PdfVerif.C02tr
open PdfVerif PdfVerif.Gen PdfVerif.Go

theorem shl64_8_toNat (s : UInt64) : (shl64 s 8).toNat = (s.toNat * 256) % 18446744073709551616 := by
  unfold shl64
  simp [UInt64.toNat_shiftLeft, Nat.shiftLeft_eq]

theorem decStep_toNat (s : UInt64) (b : UInt8) :
    (shl64 s 8 ||| b.toUInt64).toNat = (s.toNat * 256 + b.toNat) % 18446744073709551616 := by
  rw [UInt64.toNat_or, shl64_8_toNat]
  have hb : b.toUInt64.toNat = b.toNat := by simp
  rw [hb]
  have hb2 := b.toNat_lt
  -- (s*256 % 2^64) = ((s % 2^56) * 256) = (s % 2^56) <<< 8
  have e : s.toNat * 256 % 18446744073709551616 = (s.toNat % 72057594037927936) <<< 8 := by
    rw [Nat.shiftLeft_eq]; omega
  rw [e, ← Nat.shiftLeft_add_eq_or_of_lt (by omega : b.toNat < 2 ^ 8), Nat.shiftLeft_eq]
  omega

theorem shr64_byte (x : UInt64) (n : Nat) : ((shr64 x n).toUInt8).toNat = x.toNat / 2 ^ n % 256 := by
  unfold shr64
  split
  · rename_i h
    have : x.toNat / 2 ^ n = 0 := by
      apply Nat.div_eq_of_lt
      have h1 := x.toNat_lt
      have : 2 ^ 64 ≤ 2 ^ n := Nat.pow_le_pow_right (by omega) h
      omega
    simp [this]
  · rename_i h
    have hn : n < 64 := by omega
    simp [UInt64.toNat_shiftRight, Nat.shiftRight_eq_div_pow, Nat.mod_eq_of_lt hn]

/-- Nat-level value of the decode loop -/
def decNat (s : Nat) : List UInt8 → Nat
  | [] => s
  | b :: bs => decNat ((s * 256 + b.toNat) % 18446744073709551616) bs

theorem decode_loop (buf : List UInt8) (s : UInt64) :
    (forIn (m := Id) buf s fun (x : UInt8) (r : UInt64) => ForInStep.yield (shl64 r 8 ||| x.toUInt64)).toNat
      = decNat s.toNat buf := by
  induction buf generalizing s with
  | nil => simp only [List.forIn_nil, decNat]; rfl
  | cons b bs ih =>
    simp only [List.forIn_cons, decNat]
    rw [← decStep_toNat]
    exact ih _

theorem decodeInt_eq (buf : List UInt8) :
    pdf_decodeInt buf = if decNat 0 buf > 9223372036854775807 then ((0 : Int), some "errInvalidXref")
      else (((decNat 0 buf : Nat) : Int), none) := by
  unfold pdf_decodeInt
  simp only [Id.run, pure]
  have h := decode_loop buf 0
  have h0 : (0 : UInt64).toNat = 0 := rfl
  rw [h0] at h
  have key : ∀ R : UInt64, R.toNat = decNat 0 buf →
      (if decide (R > 9223372036854775807) = true then ((0 : Int), some "errInvalidXref") else (i64 (R.toNat : Int), none))
        = if decNat 0 buf > 9223372036854775807 then ((0 : Int), some "errInvalidXref") else (((decNat 0 buf : Nat) : Int), none) := by
    intro R h
    have hlt : (R > 9223372036854775807) ↔ decNat 0 buf > 9223372036854775807 := by
      rw [← h, gt_iff_lt, UInt64.lt_iff_toNat_lt]; rfl
    simp only [decide_eq_true_eq, hlt]
    split
    · rfl
    · rw [h, i64_of_bounds (by omega) (by omega)]
  exact key _ h

/-- the big-endian bytes `encodeInt64` writes -/
def bytesBE (x : UInt64) (W : Nat) : List UInt8 :=
  (List.range W).map fun k => (shr64 x (8 * (W - 1 - k))).toUInt8

theorem foldl_append_snd {α β γ} (l : List α) (f : α → β) (c : γ) (init : List β) :
    l.foldl (fun s k => (c, s.2 ++ [f k])) (c, init) = (c, init ++ l.map f) := by
  induction l generalizing init with
  | nil => simp
  | cons a as ih => simp [ih]

theorem encodeInt64_eq (x : UInt64) (w : Int) (h0 : 0 ≤ w) (h1 : w ≤ 1000000) :
    pdf_encodeInt64 x w = some (none, bytesBE x w.toNat) := by
  unfold pdf_encodeInt64
  simp only [pure, bind]
  rw [i64_of_bounds (by omega) (by omega), show (w - 1 + 1 - 0).toNat = w.toNat by omega,
    forIn_option_yield (List.range w.toNat) (· < w.toNat) _
      (fun k s => (none, s.snd ++ [(shr64 x (8 * (w.toNat - 1 - k))).toUInt8]))
      (fun k s hk => by
        rw [i64_of_bounds (by omega) (by omega), cnt_of_nonneg (by omega), Option.bind_some,
          show ((w - 1 - (k : Int)) * 8).toNat = 8 * (w.toNat - 1 - k) by omega]
        rfl)
      (fun k hk => List.mem_range.mp hk),
    foldl_append_snd]
  rfl

theorem bytesBE_succ (x : UInt64) (W : Nat) :
    bytesBE x (W + 1) = (shr64 x (8 * W)).toUInt8 :: bytesBE x W := by
  unfold bytesBE
  rw [List.range_succ_eq_map]
  simp only [List.map_cons, List.map_map]
  congr 1
  apply List.map_congr_left
  intro k _
  simp only [Function.comp]
  congr 3
  omega

end PdfVerif.C02tr
