import PdfVerif.Lemmas.C01Defs
import PdfVerif.Lemmas.C01Num
import PdfVerif.Lemmas.C01Step
import PdfVerif.Lemmas.C01Total
/-!
Single iterations of the loops of `ReadArray` and `ReadDict` (`loop_obj`, `loop_R`, `dloop_entry`,
`dloop_ref`, …) as equations under what the step finds (the case lists of `C01Step.lean` say which step
is taken, not under which condition, so these do not follow from them); then the same steps as rules
for runs that succeed whatever the fuel (`OReads`, `AReads`, `DReads`).  In front: the first byte of the
number tokens the formatter writes (`intDec_head`, `realToken_head`), and `isScalar`, the objects without parts
(Props/C01c builds `isFlat` on it).
-/
namespace PdfVerif.C01L
open PdfVerif

theorem intDec_head (i : Int) : ∃ c t, intDec i = c :: t ∧ (isDigit c = true ∨ c = 45) := by
  cases i with
  | ofNat n =>
    obtain ⟨d, t, h1, h2⟩ := natDec_head n
    exact ⟨d, t, by simpa [intDec] using h1, .inl h2⟩
  | negSucc n => exact ⟨45, natDec (n + 1), rfl, .inr rfl⟩

theorem realToken_head (t : Bytes) (ht : wfRealTok t = true) :
    ∃ c r, realToken t = c :: r ∧ (isDigit c = true ∨ c = 45 ∨ c = 46) := by
  obtain ⟨sgn, ip, fp, h, hs, hip, _, _⟩ := realToken_shape t ht
  rw [h]
  rcases hs with hs | hs <;> subst hs
  · cases ip with
    | nil => exact ⟨46, fp, rfl, .inr (.inr rfl)⟩
    | cons d ds => exact ⟨d, ds ++ 46 :: fp, by simp, .inl (hip d (by simp))⟩
  · exact ⟨45, ip ++ 46 :: fp, by simp, .inr (.inl rfl)⟩

def isScalar : Obj → Bool
  | .arr _ => false
  | .dict _ => false
  | .ref _ _ => false
  | .op _ => false
  | _ => true

theorem loop_end (f d : Nat) (acc : List Obj) (ints : Nat) (inp t : Bytes)
    (h : skipWS inp = (93 :: t, false)) (hlen : acc.length ≤ Gen.scanner_maxArrayLen) :
    readArrayLoop (f + 1) d acc ints inp = .ok (acc.reverse, t) := by
  rw [readArrayLoop]
  have : ¬ (acc.length > Gen.scanner_maxArrayLen) := by omega
  simp [h, this]

theorem loop_obj (f d : Nat) (acc : List Obj) (ints : Nat) (inp : Bytes) (c : Nat) (t : Bytes)
    (o : Obj) (r : Bytes) (h : skipWS inp = (c :: t, false)) (h93 : c ≠ 93) (h82 : c ≠ 82)
    (hr : readObject f d (c :: t) = .ok (o, r)) (hlen : acc.length ≤ Gen.scanner_maxArrayLen) :
    readArrayLoop (f + 1) d acc ints inp =
      readArrayLoop f d (o :: acc) (nextIntsM o ints) r := by
  rw [readArrayLoop]
  have : ¬ (acc.length > Gen.scanner_maxArrayLen) := by omega
  have h82' : (c == 82) = false := by simp [h82]
  simp only [h]
  simp only [beq_iff_eq, h93, h82', if_false, Bool.and_false, Bool.false_eq_true]
  simp only [hr]
  simp only [this, if_false]
  rfl

theorem loop_R (f d : Nat) (acc' : List Obj) (a b : Int) (ints : Nat) (inp t : Bytes)
    (h : skipWS inp = (82 :: t, false)) (hi : ints ≥ 2) :
    readArrayLoop (f + 1) d (.int b :: .int a :: acc') ints inp =
      readArrayLoop f d ((if validRef a b then Obj.ref a.toNat b.toNat else Obj.null) :: acc') 0 t := by
  rw [readArrayLoop]
  simp [h, hi]

theorem loop_congr (f d : Nat) (acc : List Obj) (ints : Nat) (a b : Bytes) (h : skipWS a = skipWS b) :
    readArrayLoop f d acc ints a = readArrayLoop f d acc ints b := by
  cases f with
  | zero => rw [readArrayLoop, readArrayLoop]
  | succ f => rw [readArrayLoop, readArrayLoop, h]

theorem readName_gt (t : Bytes) : ∃ e, readName (62 :: t) = .error e := ⟨_, rfl⟩

theorem dloop_end (f d : Nat) (acc : List (Bytes × Obj)) (rest : Bytes) :
    readDictLoop (f + 1) d acc (62 :: 62 :: rest) = .ok (acc, rest) := by
  rw [readDictLoop]
  simp [readName]

theorem entryTail_plain {val : Obj} {r r4 : Bytes} {c : Nat} (h4 : skipWS r = (c :: r4, false))
    (hc : c = 47 ∨ c = 62) : entryTail val r = .ok (val, c :: r4) := by
  have hcc : (c != 47 && c != 62) = false := by rcases hc with h | h <;> subst h <;> decide
  unfold entryTail
  rw [h4]
  cases val <;> simp [hcc]

theorem entryTail_ref {a b : Int} {r r4 r5 r6 r7 : Bytes} {c : Nat} (h4 : skipWS r = (c :: r4, false))
    (hc : c ≠ 47 ∧ c ≠ 62) (h5 : readInteger (c :: r4) = .ok (b, r5)) (h6 : skipWS r5 = (82 :: r6, false))
    (h7 : skipWS r6 = (r7, false)) :
    entryTail (.int a) r = .ok (if validRef a b then Obj.ref a.toNat b.toNat else Obj.null, r7) := by
  unfold entryTail
  rw [h4]
  simp [hc.1, hc.2, h5, h6, h7]

theorem dloop_insert {β : Type} (key : Bytes) (v : Obj) (acc : List (Bytes × Obj)) (hk : key ∉ keysOf acc)
    (hlen : acc.length < Gen.scanner_maxDictLen) (F : List (Bytes × Obj) → Except Err β) :
    (if !(acc.any fun e => e.1 == key) && acc.length ≥ Gen.scanner_maxDictLen then .error .malformed
      else F (dictInsert key v acc)) = F (acc ++ [(key, v)]) := by
  have hl : ¬ (acc.length ≥ Gen.scanner_maxDictLen) := by omega
  simp [any_key_false key acc hk, hl, dictInsert_new key v acc hk]

/-- one dictionary entry whose value is not followed by a reference look-ahead -/
theorem dloop_entry (f d : Nat) (acc : List (Bytes × Obj)) (inp : Bytes) (key r1 r2 r3 r4 : Bytes)
    (val : Obj) (c : Nat)
    (h1 : readName inp = .ok (key, r1)) (h2 : skipWS r1 = (r2, false))
    (h3 : readObject f d r2 = .ok (val, r3)) (h4 : skipWS r3 = (c :: r4, false))
    (hc : c = 47 ∨ c = 62) (hk : key ∉ keysOf acc) (hlen : acc.length < Gen.scanner_maxDictLen) :
    readDictLoop (f + 1) d acc inp = readDictLoop f d (acc ++ [(key, val)]) (c :: r4) := by
  rw [readDictLoop_step f d acc inp key r1 r2 h1 h2, dictEntry, h3]
  dsimp only
  rw [entryTail_plain h4 hc]
  exact dloop_insert key val acc hk hlen (readDictLoop f d · (c :: r4))

/-- one dictionary entry `key a b R` -/
theorem dloop_ref (f d : Nat) (acc : List (Bytes × Obj)) (inp : Bytes) (key r1 r2 r3 r4 r5 r6 r7 : Bytes)
    (a b : Int) (c : Nat)
    (h1 : readName inp = .ok (key, r1)) (h2 : skipWS r1 = (r2, false))
    (h3 : readObject f d r2 = .ok (.int a, r3)) (h4 : skipWS r3 = (c :: r4, false))
    (hc : c ≠ 47 ∧ c ≠ 62) (h5 : readInteger (c :: r4) = .ok (b, r5))
    (h6 : skipWS r5 = (82 :: r6, false)) (h7 : skipWS r6 = (r7, false))
    (hk : key ∉ keysOf acc) (hlen : acc.length < Gen.scanner_maxDictLen) :
    readDictLoop (f + 1) d acc inp =
      readDictLoop f d (acc ++ [(key, if validRef a b then Obj.ref a.toNat b.toNat else Obj.null)]) r7 := by
  rw [readDictLoop_step f d acc inp key r1 r2 h1 h2, dictEntry, h3]
  dsimp only
  rw [entryTail_ref h4 hc h5 h6 h7]
  exact dloop_insert key _ acc hk hlen (readDictLoop f d · r7)

/-! The fuel of a successful run, said once.  `OReads`, `AReads`, `DReads`: from the potential of the input on (`ProgAt`:
`3·|input|` and the rank of the reader) the reader returns this, whatever the fuel.  The rules say how one step of a
loop extends such a run: the step costs one unit, and what it reads (at least a byte: `cons_all`) frees three. -/

/-- `ReadObject` on `inp` returns `o` and stops at `r` -/
def OReads (d : Nat) (inp : Bytes) (o : Obj) (r : Bytes) : Prop :=
  ∀ f, 3 * inp.length + 3 ≤ f → readObject f d inp = .ok (o, r)

/-- the loop of `ReadArray`, entered anywhere in the white space before the next element, ends in `R` -/
def AReads (d : Nat) (acc : List Obj) (ints : Nat) (inp : Bytes) (R : Except Err (List Obj × Bytes)) : Prop :=
  ∀ f, 3 * (skipWS inp).1.length + 4 ≤ f → readArrayLoop f d acc ints inp = R

/-- the loop of `ReadDict`, entered at a key or at `>>`, ends in `R` -/
def DReads (d : Nat) (acc : List (Bytes × Obj)) (inp : Bytes) (R : Except Err (List (Bytes × Obj) × Bytes)) : Prop :=
  ∀ f, 3 * inp.length + 1 ≤ f → readDictLoop f d acc inp = R

theorem fuel_succ {fuel n : Nat} (h : n + 1 ≤ fuel) : ∃ f, fuel = f + 1 := ⟨fuel - 1, by omega⟩

namespace AReads

theorem congr {d acc ints a b R} (h : skipWS a = skipWS b) (hb : AReads d acc ints b R) :
    AReads d acc ints a R := fun f hf => by
  rw [loop_congr f d acc ints a b h]; exact hb f (h ▸ hf)

theorem done {d acc ints inp t} (hs : skipWS inp = (93 :: t, false)) (hl : acc.length ≤ Gen.scanner_maxArrayLen) :
    AReads d acc ints inp (.ok (acc.reverse, t)) := fun f hf => by
  obtain ⟨f, rfl⟩ := fuel_succ hf
  exact loop_end f d acc ints inp t hs hl

theorem elem {d acc ints inp c t o r1 R} (hs : skipWS inp = (c :: t, false)) (h93 : c ≠ 93) (h82 : c ≠ 82)
    (ho : OReads d (c :: t) o r1) (hl : acc.length ≤ Gen.scanner_maxArrayLen)
    (hr : AReads d (o :: acc) (nextIntsM o ints) r1 R) : AReads d acc ints inp R := fun f hf => by
  rw [hs] at hf; dsimp only at hf
  obtain ⟨f, rfl⟩ := fuel_succ hf
  have h1 := ho f (by omega)
  have := readObject_consumes h1
  have := skipWS_len r1
  rw [loop_obj f d acc ints inp c t o r1 hs h93 h82 h1 hl]
  exact hr f (by omega)

theorem ref {d acc' a b ints inp t R} (hs : skipWS inp = (82 :: t, false)) (hi : ints ≥ 2)
    (hr : AReads d ((if validRef a b then Obj.ref a.toNat b.toNat else Obj.null) :: acc') 0 t R) :
    AReads d (.int b :: .int a :: acc') ints inp R := fun f hf => by
  rw [hs] at hf; dsimp only at hf
  obtain ⟨f, rfl⟩ := fuel_succ hf
  have := skipWS_len t
  rw [loop_R f d acc' a b ints inp t hs hi]
  exact hr f (by simp at hf; omega)

end AReads

namespace OReads

theorem arr {d t xs r} (hd : d < Gen.scanner_maxScannerNestDepth) (h : AReads (d + 1) [] 0 t (.ok (xs, r))) :
    OReads d (91 :: t) (.arr xs) r := fun f hf => by
  obtain ⟨f, rfl⟩ := fuel_succ hf
  obtain ⟨f, rfl⟩ := fuel_succ (n := 0) (fuel := f) (by simp at hf; omega)
  have := skipWS_len t
  rw [readObject_arr, readArray_eq, if_neg (Nat.not_le.2 hd), h f (by simp at hf; omega)]
  rfl

theorem dict {d t r0 kv r} (hd : d < Gen.scanner_maxScannerNestDepth) (hs : skipWS t = (r0, false))
    (h : DReads (d + 1) [] r0 (.ok (kv, r))) (hns : startsWith (skipWS r).1 kw_stream = false) :
    OReads d (60 :: 60 :: t) (.dict kv) (skipWS r).1 := fun f hf => by
  obtain ⟨f, rfl⟩ := fuel_succ hf
  obtain ⟨f, rfl⟩ := fuel_succ (n := 0) (fuel := f) (by simp at hf; omega)
  have := skipWS_len' hs
  rw [readObject_dict, readDict_eq f hd hs, h f (by simp at hf; omega)]
  show (if startsWith (skipWS r).1 kw_stream then _ else _) = _
  rw [hns, if_neg nofun]

end OReads

namespace DReads

theorem done {d acc rest} : DReads d acc (62 :: 62 :: rest) (.ok (acc, rest)) := fun f hf => by
  obtain ⟨f, rfl⟩ := fuel_succ hf
  exact dloop_end f d acc rest

theorem entry {d acc inp key r1 r2 val r3 c r4 R} (h1 : readName inp = .ok (key, r1))
    (h2 : skipWS r1 = (r2, false)) (h3 : OReads d r2 val r3) (h4 : skipWS r3 = (c :: r4, false))
    (hc : c = 47 ∨ c = 62) (hk : key ∉ keysOf acc) (hlen : acc.length < Gen.scanner_maxDictLen)
    (hr : DReads d (acc ++ [(key, val)]) (c :: r4) R) : DReads d acc inp R := fun f hf => by
  obtain ⟨f, rfl⟩ := fuel_succ hf
  have l1 := (readName_spec _ _ _ h1).1
  have l2 := skipWS_len' h2
  have h3' := h3 f (by omega)
  have l3 := readObject_consumes h3'
  have l4 := skipWS_len' h4
  rw [dloop_entry f d acc inp key r1 r2 r3 r4 val c h1 h2 h3' h4 hc hk hlen]
  exact hr f (by omega)

theorem entryRef {d acc inp key r1 r2 a r3 c r4 b r5 r6 r7 R} (h1 : readName inp = .ok (key, r1))
    (h2 : skipWS r1 = (r2, false)) (h3 : OReads d r2 (.int a) r3) (h4 : skipWS r3 = (c :: r4, false))
    (hc : c ≠ 47 ∧ c ≠ 62) (h5 : readInteger (c :: r4) = .ok (b, r5)) (h6 : skipWS r5 = (82 :: r6, false))
    (h7 : skipWS r6 = (r7, false)) (hk : key ∉ keysOf acc) (hlen : acc.length < Gen.scanner_maxDictLen)
    (hr : DReads d (acc ++ [(key, if validRef a b then Obj.ref a.toNat b.toNat else Obj.null)]) r7 R) :
    DReads d acc inp R := fun f hf => by
  obtain ⟨f, rfl⟩ := fuel_succ hf
  have l1 := (readName_spec _ _ _ h1).1
  have l2 := skipWS_len' h2
  have h3' := h3 f (by omega)
  have l3 := readObject_consumes h3'
  have l4 := skipWS_len' h4
  have l5 := readInteger_spec _ _ _ h5
  have l6 := skipWS_len' h6
  have l7 := skipWS_len' h7
  rw [dloop_ref f d acc inp key r1 r2 r3 r4 r5 r6 r7 a b c h1 h2 h3' h4 hc h5 h6 h7 hk hlen]
  exact hr f (by simp at l4 l5 l6; omega)

end DReads

end PdfVerif.C01L
