import PdfVerif.Lemmas.CONCAgree
import PdfVerif.Lemmas.CONCSummary
/-! Every transition preserves the agreement invariant `Inv` (C18). -/
namespace PdfVerif.CONC

/-- `StoreOrLoadPair` is applied only to references whose object is not itself a reference
(the library calls it with the last reference of the chain it followed) -/
def PairOnDirect (cfg : Cfg) : Label → Prop
  | (_, .callPair r _ _ _ _) => ∀ r', cfg.get r ≠ .ref r'
  | _ => True

theorem DecOn.of_owner_none {rest : List Frame} (h : ownerOf rest = none) (tp : Ty) (o : Obj) :
    DecOn rest tp o := by
  rintro k p rest' rfl; cases h

/-- `hev` is `hj` at every use but `StoreOrLoadPair`'s: for the event of a returning `Decode`/`DecodeExclusive`
(`dec`, `exc`) `EvOK` unfolds to `Justified` of its result. -/
theorem Inv.retTo {cfg : Cfg} {s : State} (hi : Inv cfg s) (t : Tid) (rest : List Frame) (ev : Event)
    (res : Res) (hrest : FramesOK cfg s rest) (tp : Ty) (o : Obj) (hd : DecOn rest tp o)
    (hj : Justified cfg s.cache o tp res) (hev : EvOK cfg s.cache ev) :
    Inv cfg (deliver { s with hist := ev :: s.hist } t rest res) := by
  have hx : Ext s (deliver { s with hist := ev :: s.hist } t rest res) :=
    ⟨CacheLe.refl _, Nat.le_refl _, fun _ _ => rfl⟩
  exact hi.build hx t (deliverStack rest res) [ev] rfl rfl hi.chain ((hrest.deliver hd hj).ext hx)
    hi.wip (by intro e he; cases List.mem_singleton.mp he; exact hev) hi.pend

theorem Inv.crash {cfg : Cfg} {s : State} (hi : Inv cfg s) (t : Tid) (ev : Event)
    (hx : Ext s (CONC.crash s t ev)) (hev : EvOK cfg s.cache ev) : Inv cfg (CONC.crash s t ev) := by
  refine hi.build hx t [.dead] [ev] (crash_thr ..) (crash_hist ..) (by rw [crash_cache]; exact hi.chain)
    ⟨trivial, trivial, trivial⟩ ?_
    (by intro e he; cases List.mem_singleton.mp he; rw [crash_cache]; exact hev) ?_
  · intro k p h
    have := hi.wip k p (releaseOwned_wip_sub _ _ _ _ h)
    exact ⟨by rw [crash_npend]; exact this.1, by rw [crash_pend, releaseOwned_key]; exact this.2⟩
  · intro p res h
    simp only [crash_pend] at h
    simp only [crash_pend, crash_cache, releaseOwned_key]
    rcases releaseOwned_out _ _ _ _ h with h1 | h1
    · exact hi.pend p res h1
    · subst h1; exact justified_of fun _ _ _ => nofun

theorem firstObj_of_head {refs : List Ref} {x : Ref} (h : refs.head? = some x) (o : Obj) :
    firstObj refs o = .ref x := by
  cases refs <;> cases h; rfl

theorem head_of_firstObj {refs : List Ref} {x : Ref} (h : firstObj refs .direct = .ref x) :
    refs.head? = some x := by
  cases refs <;> cases h; rfl

theorem decOn_of_above_decFn {tp : Ty} {refs path : List Ref} {rest : List Frame}
    (h : Above (.decFn tp refs path) rest) (o : Obj) : DecOn rest tp (firstObj refs o) := by
  rintro k p rest' rfl; exact ⟨h.1, firstObj_of_head h.2 o⟩

theorem decOn_of_above_decGet {tp : Ty} {refs path : List Ref} {r : Ref} {rest : List Frame}
    (h : Above (.decGet tp refs path r) rest) (o : Obj) : DecOn rest tp (firstObj refs o) := by
  rintro k p rest' rfl; exact ⟨h.1, firstObj_of_head h.2 o⟩

theorem above_of_decOn {base : List Frame} {tp : Ty} {refs : List Ref}
    (hd : DecOn base tp (firstObj refs .direct)) (path : List Ref) (r : Ref) :
    Above (.decFn tp refs path) base ∧ Above (.decGet tp refs path r) base := by
  unfold Above
  split
  · next k p rest' =>
    obtain ⟨e1, e2⟩ := hd k p rest' rfl
    exact ⟨⟨e1, head_of_firstObj e2⟩, e1, head_of_firstObj e2⟩
  · exact ⟨trivial, trivial⟩

theorem Keeps.framesOK {cfg : Cfg} {s : State} {stk base : List Frame} (h : Keeps stk base)
    (hs : FramesOK cfg s stk) : FramesOK cfg s base := by
  cases h with
  | all => exact hs
  | pop e => exact (e ▸ hs).2.2
  | enter e =>
    obtain ⟨hf, hab, hrest⟩ := e ▸ hs
    exact ⟨hf, .of_owner_none (hab.owner_none rfl) _, hrest⟩

theorem LoopAt.chain {cfg : Cfg} {s : State} {stk base : List Frame} {a tp refs path o}
    (h : LoopAt cfg stk a base tp refs path o) (hs : FramesOK cfg s stk) :
    Path cfg refs (getOf o) ∧ DecOn base tp (firstObj refs o) := by
  cases h with
  | call hc => exact ⟨trivial, .of_owner_none (ownerOf_of_canCall hc) _ _⟩
  | next e hg =>
    obtain ⟨hp, hab, _⟩ := e ▸ hs
    exact ⟨hg ▸ hp, decOn_of_above_decGet hab _⟩
  | enter e => exact ⟨trivial, by rintro k p rest' ⟨⟩; exact ⟨rfl, rfl⟩⟩

theorem Inv.push {cfg : Cfg} {s : State} {t : Tid} {a base f evs} (hi : Inv cfg s)
    (hp : PushAt cfg s t a base f evs) :
    Inv cfg { s with thr := upd s.thr t (f :: base), hist := evs ++ s.hist } := by
  have hx : Ext s { s with thr := upd s.thr t (f :: base), hist := evs ++ s.hist } :=
    ⟨CacheLe.refl _, Nat.le_refl _, fun _ _ => rfl⟩
  refine hi.build hx t _ evs rfl rfl hi.chain ⟨?_, ?_, (hp.keeps.framesOK (hi.stacks t)).ext hx⟩
    hi.wip ?_ hi.pend
  · cases hp with
    | fn hl => exact (hl.chain (hi.stacks t)).1
    | get hl => exact (hl.chain (hi.stacks t)).1.snoc
    | exFn => trivial
    | wait _ hw => exact hi.wip _ _ hw
  · cases hp with
    | fn hl => exact (above_of_decOn (hl.chain (hi.stacks t)).2 _ 0).1
    | get hl =>
      exact (above_of_decOn (firstObj_append .. ▸ (hl.chain (hi.stacks t)).2) _ _).2
    | exFn hc => exact canCall_above hc _
    | wait hc => exact canCall_above hc _
  · intro e he
    obtain ⟨_, _, _, rfl⟩ := hp.evs e he
    trivial

theorem reach_of_path {cfg : Cfg} {refs : List Ref} {r r0 : Ref} (hp : Path cfg refs (.ref r))
    (h0 : firstObj refs (.ref r) = .ref r0) : Reach cfg r0 r := by
  cases refs with
  | nil => cases h0; exact .refl _
  | cons a as => cases h0; exact hp.reach

theorem Inv.withCache {cfg : Cfg} {s : State} (hi : Inv cfg s) {c : Key → Option Val}
    (hle : CacheLe s.cache c) (hc : ChainInv cfg c) :
    Ext s { s with cache := c } ∧ Inv cfg { s with cache := c } :=
  have hx : Ext s { s with cache := c } := ⟨hle, Nat.le_refl _, fun _ _ => rfl⟩
  ⟨hx, hc, fun t => (hi.stacks t).ext hx, hi.wip, fun e he => (hi.hist e he).mono hle,
    fun p res h => (hi.pend p res h).mono hle⟩

/-- `hdo` is `XInv.doneOut`: a waiter woken on a closed pending without an outcome would return `nilVal`,
which nothing justifies. -/
theorem Inv.returns {cfg : Cfg} (hf : cfg.fixed = true) {s : State} {t : Tid} {a base c ev res}
    (hg : PairOnDirect cfg (t, a)) (hi : Inv cfg s)
    (hdo : ∀ p, (s.pend p).done = true → (s.pend p).out ≠ none)
    (hr : RetAt cfg s t a base c ev res) :
    Inv cfg (deliver { s with cache := c, hist := ev :: s.hist } t base res) := by
  have hbase := hr.keeps.framesOK (hi.stacks t)
  cases hr with
  | @loop _ _ tp refs path r _ hl hp hres =>
    obtain ⟨hpath, hd⟩ := hl.chain (hi.stacks t)
    have hj : Justified cfg s.cache (firstObj refs (.ref r)) tp res := by
      cases res with
      | ok v =>
        unfold Justified
        split
        · next h1 h2 => cases h2; exact ⟨_, reach_of_path hpath h1, hres v rfl⟩
        · trivial
      | _ => exact justified_of fun _ _ _ => nofun
    exact hi.retTo t _ _ _ hbase _ _ hd hj hj
  | @hit r tp _ _ hc hv =>
    have hj := justified_self (cfg := cfg) hv
    exact hi.retTo t _ _ _ hbase tp (.ref r) (.of_owner_none (ownerOf_of_canCall hc) _ _) hj hj
  | @fn tp refs path _ _ e hp hrefs =>
    obtain ⟨_, hab, _⟩ := e ▸ hi.stacks t
    have hj : Justified cfg s.cache (firstObj refs .direct) tp res :=
      justified_of fun r v eo er => by rw [hrefs v er] at eo; cases eo
    exact hi.retTo t _ _ _ hbase _ _ (decOn_of_above_decFn hab _) hj hj
  | @store tp r0 rs path _ v e =>
    obtain ⟨hpath, hab, _⟩ := e ▸ hi.stacks t
    simp only [hf]
    obtain ⟨hc', hall⟩ := storeOrLoad_chain hi.chain tp v hpath
    have hj := justified_self (cfg := cfg) (hall r0 List.mem_cons_self)
    obtain ⟨hx, hi'⟩ := hi.withCache (storeOrLoad_fixed_le s.cache tp (r0 :: rs) v) hc'
    exact hi'.retTo t _ _ _ (hbase.ext hx) tp (.ref r0) (decOn_of_above_decFn hab .direct) hj hj
  | @exFn tp _ _ _ e =>
    obtain ⟨_, hab, _⟩ := e ▸ hi.stacks t
    have hj : Justified cfg s.cache .direct tp res := justified_of nofun
    exact hi.retTo t _ _ _ hbase tp .direct (.of_owner_none (hab.owner_none rfl) _ _) hj hj
  | @getErr _ tp refs _ _ _ e =>
    obtain ⟨_, hab, _⟩ := e ▸ hi.stacks t
    have hj : Justified cfg s.cache (firstObj refs .direct) tp (.err .get) := justified_of fun _ _ _ => nofun
    exact hi.retTo t _ _ _ hbase _ _ (decOn_of_above_decGet hab .direct) hj hj
  | @done k _ _ _ e =>
    obtain ⟨⟨_, _, hj⟩, hab, _⟩ := e ▸ hi.stacks t
    exact hi.retTo t _ _ _ hbase k.2 (.ref k.1) (.of_owner_none (hab.owner_none rfl) _ _) hj hj
  | @woke k p _ _ e hd _ ho =>
    obtain ⟨⟨_, hkey⟩, hab, _⟩ := e ▸ hi.stacks t
    have hj : Justified cfg s.cache (.ref k.1) k.2 res :=
      ho.elim (fun ho => hkey ▸ hi.pend _ _ ho) (fun ho => absurd ho.1 (hdo _ hd))
    exact hi.retTo t _ _ _ hbase k.2 (.ref k.1) (.of_owner_none (hab.owner_none rfl) _ _) hj hj
  | @pair r A B a b x y hc hx hy =>
    -- `r` heads no chain (`hg`), so filling its two keys keeps the chain invariant
    have hle : CacheLe s.cache (fill (fill s.cache (r, A) a) (r, B) b) := (fill_le _ _ _).trans (fill_le _ _ _)
    have hc' : ChainInv cfg (fill (fill s.cache (r, A) a) (r, B) b) := by
      intro r1 r2 tp v hv hget
      have e : r1 ≠ r := by rintro rfl; exact hg r2 hget
      rw [fill_fill_other _ _ _ _ _ (fun h => e (congrArg Prod.fst h)) (fun h => e (congrArg Prod.fst h))] at hv
      exact hle _ _ (hi.chain _ _ _ _ hv hget)
    obtain ⟨hx', hi'⟩ := hi.withCache hle hc'
    exact hi'.retTo t _ _ _ (hbase.ext hx') A .direct (.of_owner_none (ownerOf_of_canCall hc) _ _)
      (justified_of nofun) ⟨hx, hy⟩

theorem step_ext {cfg : Cfg} (hf : cfg.fixed = true) {s s' : State} {t : Tid} {a : Act}
    (h : step cfg s t a = some s') : Ext s s' := by
  have hle := step_le cfg hf s s' t a h
  cases step_kind h with
  | push | ret => exact ⟨hle, Nat.le_refl _, fun _ _ => rfl⟩
  | register => exact ⟨hle, Nat.le_succ _, fun p hp => congrArg Pending.key (upd_of_lt _ _ hp)⟩
  | publish => exact ⟨hle, Nat.le_refl _, fun p _ => published_key ..⟩
  | close => exact ⟨hle, Nat.le_refl _, fun p _ => closed_key ..⟩
  | crash => exact ⟨hle, Nat.le_of_eq (crash_npend ..).symm, fun q _ => releaseOwned_key ..⟩

theorem Inv.step {cfg : Cfg} (hf : cfg.fixed = true) {s s' : State} {t : Tid} {a : Act}
    (hg : PairOnDirect cfg (t, a)) (hi : Inv cfg s)
    (hdo : ∀ p, (s.pend p).done = true → (s.pend p).out ≠ none)
    (h : step cfg s t a = some s') : Inv cfg s' := by
  have hstk := hi.stacks t
  have hx := step_ext hf h
  cases step_kind h with
  | push hp => exact hi.push hp
  | ret hr => exact hi.returns hf hg hdo hr
  | crash => exact hi.crash t _ hx trivial
  | @register r tp path hc hw =>
    refine hi.build hx t _ [] rfl rfl hi.chain
      ⟨⟨Nat.lt_succ_self _, congrArg Pending.key (upd_same ..)⟩, canCall_above hc _, hstk.ext hx⟩
      ?_ (fun _ h => nomatch h) ?_
    · intro k p hk
      simp only [upd_apply] at hk
      split at hk
      · next e => cases hk; subst e; exact ⟨Nat.lt_succ_self _, congrArg Pending.key (upd_same ..)⟩
      · have := hi.wip k p hk
        exact ⟨Nat.lt_succ_of_lt this.1, (hx.keys p this.1).trans this.2⟩
    · intro p res hp
      simp only [upd_apply] at hp ⊢
      split at hp
      · cases hp
      · next e => simp only [e, if_false]; exact hi.pend p res hp
  | @publish k p res rest e =>
    -- second critical section: the owner's result becomes the outcome of its pending
    obtain ⟨⟨hp, hkey, hj⟩, hab, hrest⟩ := e ▸ hstk
    have hkeys := published_key s.pend p res
    refine hi.build hx t _ [] rfl rfl hi.chain
      ⟨⟨hp, (hkeys p).trans hkey, hj⟩, .of_owner_none (hab.owner_none rfl) _, hrest.ext hx⟩
      ?_ (fun _ h => nomatch h) ?_
    · intro k' p' hk
      simp only [upd_apply] at hk
      split at hk
      · cases hk
      · exact ⟨(hi.wip k' p' hk).1, (hkeys p').trans (hi.wip k' p' hk).2⟩
    · intro p' res' hp'
      simp only at hp' ⊢
      rw [hkeys]
      simp only [upd_apply] at hp'
      split at hp'
      · next e' => cases hp'; subst e'; exact hkey ▸ hj
      · exact hi.pend p' res' hp'
  | @close k p res rest e =>
    obtain ⟨⟨hp, hkey, hj⟩, hab, hrest⟩ := e ▸ hstk
    have hkeys := closed_key s.pend p
    have houts := closed_out s.pend p
    refine hi.build hx t _ [] rfl rfl hi.chain
      ⟨⟨hp, (hkeys p).trans hkey, hj⟩, .of_owner_none (hab.owner_none rfl) _, hrest.ext hx⟩
      ?_ (fun _ h => nomatch h) ?_
    · exact fun k' p' hk => ⟨(hi.wip k' p' hk).1, (hkeys p').trans (hi.wip k' p' hk).2⟩
    · intro p' res' hp'
      simp only at hp' ⊢
      rw [hkeys]
      exact hi.pend p' res' ((houts p').symm.trans hp')

theorem Inv.init (cfg : Cfg) : Inv cfg State.init := by
  refine ⟨?_, ?_, ?_, ?_, ?_⟩
  · intro r r' tp v h; simp only [init_cache] at h; cases h
  · intro t; rw [init_thr]; trivial
  · intro k p h; simp only [init_wip] at h; cases h
  · intro e he; simp only [init_hist] at he; cases he
  · intro p res h; simp only [init_pend] at h; cases h

end PdfVerif.CONC
