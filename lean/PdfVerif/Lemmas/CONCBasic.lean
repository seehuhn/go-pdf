import PdfVerif.Model.CONCCache
/-! What the helpers of the cache-protocol model do, component by component: function update (`upd`),
`deliver`, `releaseOwned`/`crash` (with the frames of `DecodeExclusive` which own a pending or hold its
marker), `fill` (the one way the cache is written), `storeMissing`, `pairCall`; which top frames let a thread
move; induction over traces. -/
namespace PdfVerif.CONC

@[simp] theorem upd_same {α β : Type} [DecidableEq α] (f : α → β) (a : α) (b : β) :
    upd f a b a = b := by simp [upd]

theorem upd_other {α β : Type} [DecidableEq α] (f : α → β) (a x : α) (b : β) (h : x ≠ a) :
    upd f a b x = f x := by simp [upd, h]

theorem upd_apply {α β : Type} [DecidableEq α] (f : α → β) (a x : α) (b : β) :
    upd f a b x = if x = a then b else f x := rfl

theorem upd_upd {α β : Type} [DecidableEq α] (f : α → β) (a : α) (b c : β) :
    upd (upd f a b) a c = upd f a c := by
  funext x; simp only [upd]; split <;> rfl

theorem upd_self {α β : Type} [DecidableEq α] (f : α → β) (a : α) : upd f a (f a) = f := by
  funext x; simp only [upd]; split
  · next h => rw [h]
  · rfl

theorem forall_upd {α β : Type} [DecidableEq α] {P : β → Prop} {f : α → β} {a : α} {b : β}
    (hb : P b) (hf : ∀ x, P (f x)) : ∀ x, P (upd f a b x) := by
  intro x
  rw [upd_apply]
  split
  · exact hb
  · exact hf x

theorem mem_upd_cons {α β : Type} [DecidableEq α] {f : α → List β} {a x : α} {b y : β} {rest : List β}
    (h : y ∈ upd f a (b :: rest) x) : y = b ∨ (x = a ∧ y ∈ rest) ∨ (x ≠ a ∧ y ∈ f x) := by
  rw [upd_apply] at h
  split at h
  · next e => exact (List.mem_cons.mp h).imp id fun h => .inl ⟨e, h⟩
  · next ne => exact .inr (.inr ⟨ne, h⟩)

theorem upd_proj {α β γ : Type} [DecidableEq α] (π : β → γ) {f : α → β} {a : α} {b : β} (x : α)
    (h : π b = π (f a)) : π (upd f a b x) = π (f x) := by
  rw [upd_apply]
  split
  · next e => rw [h, e]
  · rfl

theorem published_done (pend : Pid → Pending) (p : Pid) (res : Res) (q : Pid) :
    (upd pend p ⟨(pend p).done, some res, (pend p).key⟩ q).done = (pend q).done := upd_proj Pending.done q rfl

theorem published_key (pend : Pid → Pending) (p : Pid) (res : Res) (q : Pid) :
    (upd pend p ⟨(pend p).done, some res, (pend p).key⟩ q).key = (pend q).key := upd_proj Pending.key q rfl

theorem closed_out (pend : Pid → Pending) (p q : Pid) :
    (upd pend p ⟨true, (pend p).out, (pend p).key⟩ q).out = (pend q).out := upd_proj Pending.out q rfl

theorem closed_key (pend : Pid → Pending) (p q : Pid) :
    (upd pend p ⟨true, (pend p).out, (pend p).key⟩ q).key = (pend q).key := upd_proj Pending.key q rfl

theorem upd_of_lt {β : Type} (f : Nat → β) {n x : Nat} (b : β) (h : x < n) : upd f n b x = f x :=
  upd_other _ _ _ _ (Nat.ne_of_lt h)

theorem init_cache (k : Key) : State.init.cache k = none := rfl
theorem init_wip (k : Key) : State.init.wip k = none := rfl
theorem init_pend (p : Pid) : State.init.pend p = ⟨false, none, (0, 0)⟩ := rfl
theorem init_npend : State.init.npend = 0 := rfl
theorem init_thr (t : Tid) : State.init.thr t = [] := rfl
theorem init_hist : State.init.hist = [] := rfl

def CacheLe (c c' : Key → Option Val) : Prop := ∀ k v, c k = some v → c' k = some v

theorem CacheLe.refl (c : Key → Option Val) : CacheLe c c := fun _ _ h => h

theorem CacheLe.trans {a b c : Key → Option Val} (h1 : CacheLe a b) (h2 : CacheLe b c) :
    CacheLe a c := fun k v h => h2 k v (h1 k v h)

def isDecFrame : Frame → Bool
  | .decGet .. => true
  | .decFn .. => true
  | _ => false

theorem ownerOf_of_canCall {stk : List Frame} (h : canCall stk = true) : ownerOf stk = none := by
  unfold ownerOf
  split
  · cases h
  · rfl

@[simp] theorem deliver_cache (s t rest res) : (deliver s t rest res).cache = s.cache := rfl
@[simp] theorem deliver_wip (s t rest res) : (deliver s t rest res).wip = s.wip := rfl
@[simp] theorem deliver_pend (s t rest res) : (deliver s t rest res).pend = s.pend := rfl
@[simp] theorem deliver_npend (s t rest res) : (deliver s t rest res).npend = s.npend := rfl
@[simp] theorem deliver_hist (s t rest res) : (deliver s t rest res).hist = s.hist := rfl
theorem deliver_thr (s t rest res) : (deliver s t rest res).thr = upd s.thr t (deliverStack rest res) := rfl

theorem deliverStack_cases (rest : List Frame) (res : Res) :
    (∃ k p rest', rest = .exRun k p :: rest' ∧ deliverStack rest res = .exPub k p res :: rest') ∨
    ((∀ k p rest', rest ≠ .exRun k p :: rest') ∧ deliverStack rest res = rest) := by
  unfold deliverStack
  split
  · exact .inl ⟨_, _, _, rfl, rfl⟩
  · next hne => exact .inr ⟨fun k p rest' e => hne k p rest' e, rfl⟩

theorem deliverStack_of_owner_none {rest : List Frame} (h : ownerOf rest = none) (res : Res) :
    deliverStack rest res = rest := by
  rcases deliverStack_cases rest res with ⟨k, p, rest', rfl, _⟩ | ⟨_, e⟩
  · cases h
  · exact e

theorem deliverStack_of_canCall {stk : List Frame} (h : canCall stk = true) (res : Res) :
    deliverStack stk res = stk :=
  deliverStack_of_owner_none (ownerOf_of_canCall h) res

theorem releaseOwned_frame (s : State) (stk : List Frame) :
    (releaseOwned s stk).cache = s.cache ∧ (releaseOwned s stk).npend = s.npend ∧
      (releaseOwned s stk).thr = s.thr ∧ (releaseOwned s stk).hist = s.hist := by
  induction stk with
  | nil => exact ⟨rfl, rfl, rfl, rfl⟩
  | cons f rest ih => cases f <;> exact ih

/-- the pending a frame must still close.  `wkey f = some _` (the marker is still there) implies `owns f = some _`
implies `pendOf f = some _` (the frame names a pending); a finished owner (`exDone`) and a waiter name one
without owning it. -/
def owns : Frame → Option Pid
  | .exStart _ p _ => some p
  | .exRun _ p => some p
  | .exPub _ p _ => some p
  | .exClose _ p _ => some p
  | _ => none

def owned (stk : List Frame) : List Pid := stk.filterMap owns

/-- the key under which a frame still holds a `wip` entry -/
def wkey : Frame → Option Key
  | .exStart k _ _ => some k
  | .exRun k _ => some k
  | .exPub k _ _ => some k
  | _ => none

def pendOf : Frame → Option Pid
  | .exDone _ p _ => some p
  | f => owns f

theorem pendOf_of_owns {f : Frame} {p : Pid} (h : owns f = some p) : pendOf f = some p := by
  cases f <;> first | exact h | cases h

theorem mem_owned {stk : List Frame} {f : Frame} {p : Pid} (hf : f ∈ stk) (ho : owns f = some p) :
    p ∈ owned stk := List.mem_filterMap.mpr ⟨f, hf, ho⟩

theorem owned_nil : owned [] = [] := rfl

theorem owned_cons_none {f : Frame} (stk : List Frame) (h : owns f = none) :
    owned (f :: stk) = owned stk := by simp [owned, h]

theorem owned_cons_some {f : Frame} {p : Pid} (stk : List Frame) (h : owns f = some p) :
    owned (f :: stk) = p :: owned stk := by simp [owned, h]

@[simp] theorem owned_deliverStack (rest : List Frame) (res : Res) :
    owned (deliverStack rest res) = owned rest := by
  rcases deliverStack_cases rest res with ⟨k, p, rest', rfl, e⟩ | ⟨_, e⟩ <;> rw [e]
  rw [owned_cons_some _ rfl, owned_cons_some _ rfl]

theorem owns_cases {f : Frame} {q : Pid} (h : owns f = some q) :
    (∃ k, wkey f = some k) ∨ ∃ k r, f = .exClose k q r := by
  cases f <;> cases h <;> first | exact .inl ⟨_, rfl⟩ | exact .inr ⟨_, _, rfl⟩

theorem releaseOwned_induction (s : State) {motive : List Frame → State → Prop} (nil : motive [] s)
    (abort : ∀ f k p rest s1, wkey f = some k → owns f = some p → motive rest s1 →
      motive (f :: rest) { s1 with
        pend := upd s1.pend p ⟨true, some (.err .aborted), (s1.pend p).key⟩, wip := upd s1.wip k none })
    (shut : ∀ k p r rest s1, motive rest s1 →
      motive (.exClose k p r :: rest)
        { s1 with pend := upd s1.pend p ⟨true, (s1.pend p).out, (s1.pend p).key⟩ })
    (skip : ∀ f rest s1, owns f = none → motive rest s1 → motive (f :: rest) s1) :
    ∀ stk, motive stk (releaseOwned s stk)
  | [] => nil
  | f :: rest => by
    have ih := releaseOwned_induction s nil abort shut skip rest
    cases f with
    | exStart k p _ => exact abort _ k p _ _ rfl rfl ih
    | exRun k p => exact abort _ k p _ _ rfl rfl ih
    | exPub k p _ => exact abort _ k p _ _ rfl rfl ih
    | exClose k p r => exact shut k p r _ _ ih
    | _ => exact skip _ _ _ rfl ih

/-- the pendings whose owner on `stk` still holds its marker: a panic aborts them -/
def heldBy (stk : List Frame) : List Pid := owned (stk.filter fun f => (wkey f).isSome)

theorem heldBy_sub {stk : List Frame} {q : Pid} (h : q ∈ heldBy stk) : q ∈ owned stk :=
  ((List.filter_sublist (l := stk)).filterMap owns).subset h

theorem mem_heldBy {stk : List Frame} {q : Pid} :
    q ∈ heldBy stk ↔ ∃ f ∈ stk, ∃ k, wkey f = some k ∧ owns f = some q := by
  constructor
  · intro h
    obtain ⟨f, hf, ho⟩ := List.mem_filterMap.mp h
    obtain ⟨hf, hk⟩ := List.mem_filter.mp hf
    obtain ⟨k, hk⟩ := Option.isSome_iff_exists.mp hk
    exact ⟨f, hf, k, hk, ho⟩
  · rintro ⟨f, hf, k, hk, ho⟩
    exact mem_owned (List.mem_filter.mpr ⟨hf, by rw [hk]; rfl⟩) ho

theorem owned_cases {stk : List Frame} {q : Pid} (h : q ∈ owned stk) :
    q ∈ heldBy stk ∨ ∃ k r, Frame.exClose k q r ∈ stk := by
  obtain ⟨f, hf, ho⟩ := List.mem_filterMap.mp h
  rcases owns_cases ho with ⟨k, hk⟩ | ⟨k, r, rfl⟩
  · exact .inl (mem_heldBy.mpr ⟨f, hf, k, hk, ho⟩)
  · exact .inr ⟨k, r, hf⟩

theorem wkey_none {f : Frame} (h : owns f = none) : wkey f = none := by
  cases f <;> first | rfl | cases h

theorem heldBy_cons_held {f : Frame} {k : Key} {p : Pid} (stk : List Frame) (hk : wkey f = some k)
    (ho : owns f = some p) : heldBy (f :: stk) = p :: heldBy stk := by
  unfold heldBy
  rw [List.filter_cons_of_pos (by rw [hk]; rfl)]
  exact owned_cons_some _ ho

theorem heldBy_cons_free {f : Frame} (stk : List Frame) (hk : wkey f = none) :
    heldBy (f :: stk) = heldBy stk := by
  unfold heldBy
  rw [List.filter_cons_of_neg (by rw [hk]; nofun)]

theorem releaseOwned_wip (s : State) (stk : List Frame) (k : Key) :
    (releaseOwned s stk).wip k = if k ∈ stk.filterMap wkey then none else s.wip k := by
  refine releaseOwned_induction s
    (motive := fun stk s1 => s1.wip k = if k ∈ stk.filterMap wkey then none else s.wip k)
    (if_neg List.not_mem_nil).symm ?_ ?_ ?_ stk
  · intro f k' p rest s1 hk _ ih
    show upd _ _ _ _ = _
    rw [List.filterMap_cons_some hk, upd_apply, ih]
    by_cases e : k = k'
    · rw [if_pos e, if_pos (e ▸ List.mem_cons_self)]
    · rw [if_neg e]; simp only [List.mem_cons, e, false_or]
  · intro k' p r rest s1 ih
    rw [List.filterMap_cons_none rfl]; exact ih
  · intro f rest s1 ho ih
    rw [List.filterMap_cons_none (wkey_none ho)]; exact ih

theorem releaseOwned_pend (s : State) (stk : List Frame) (q : Pid) :
    (releaseOwned s stk).pend q =
      if q ∈ owned stk then
        ⟨true, if q ∈ heldBy stk then some (.err .aborted) else (s.pend q).out, (s.pend q).key⟩
      else s.pend q := by
  refine releaseOwned_induction s
    (motive := fun stk s1 => s1.pend q =
      if q ∈ owned stk then
        ⟨true, if q ∈ heldBy stk then some (.err .aborted) else (s.pend q).out, (s.pend q).key⟩
      else s.pend q) (if_neg List.not_mem_nil).symm ?_ ?_ ?_ stk
  · intro f k p rest s1 hk ho ih
    show upd _ _ _ _ = _
    rw [owned_cons_some _ ho, heldBy_cons_held _ hk ho, upd_apply]
    by_cases e : q = p
    · subst e
      have hkey : (s1.pend q).key = (s.pend q).key := by rw [ih]; split <;> rfl
      rw [if_pos rfl, if_pos List.mem_cons_self, if_pos List.mem_cons_self, hkey]
    · rw [if_neg e, ih]; simp only [List.mem_cons, e, false_or]
  · intro k p r rest s1 ih
    show upd _ _ _ _ = _
    rw [owned_cons_some _ rfl, heldBy_cons_free _ rfl, upd_apply]
    by_cases e : q = p
    · subst e
      rw [if_pos rfl, if_pos List.mem_cons_self, ih]
      split
      · rfl
      · next h => rw [if_neg fun h' => h (heldBy_sub h')]
    · rw [if_neg e, ih]; simp only [List.mem_cons, e, false_or]
  · intro f rest s1 ho ih
    rw [owned_cons_none _ ho, heldBy_cons_free _ (wkey_none ho)]; exact ih

theorem releaseOwned_pend_other (s : State) (stk : List Frame) (q : Pid) (h : q ∉ owned stk) :
    (releaseOwned s stk).pend q = s.pend q := by
  rw [releaseOwned_pend, if_neg h]

theorem releaseOwned_key (s : State) (stk : List Frame) (q : Pid) :
    ((releaseOwned s stk).pend q).key = (s.pend q).key := by
  rw [releaseOwned_pend]; split <;> rfl

theorem releaseOwned_wip_sub (s : State) (stk : List Frame) (k : Key) (p : Pid)
    (h : (releaseOwned s stk).wip k = some p) : s.wip k = some p := by
  rw [releaseOwned_wip] at h
  split at h
  · cases h
  · exact h

theorem releaseOwned_out (s : State) (stk : List Frame) (q : Pid) (res : Res) :
    ((releaseOwned s stk).pend q).out = some res → (s.pend q).out = some res ∨ res = .err .aborted := by
  rw [releaseOwned_pend]
  split
  · dsimp only
    split
    · rintro ⟨⟩; exact .inr rfl
    · exact .inl
  · exact .inl

theorem releaseOwned_done (s : State) (stk : List Frame) (q : Pid)
    (h : (s.pend q).done = true) : ((releaseOwned s stk).pend q).done = true := by
  rw [releaseOwned_pend]; split <;> first | rfl | exact h

@[simp] theorem crash_cache (s t ev) : (crash s t ev).cache = s.cache := (releaseOwned_frame ..).1
@[simp] theorem crash_wip (s t ev) : (crash s t ev).wip = (releaseOwned s (s.thr t)).wip := rfl
@[simp] theorem crash_pend (s t ev) : (crash s t ev).pend = (releaseOwned s (s.thr t)).pend := rfl
@[simp] theorem crash_npend (s t ev) : (crash s t ev).npend = s.npend := (releaseOwned_frame ..).2.1
@[simp] theorem crash_hist (s t ev) : (crash s t ev).hist = ev :: s.hist :=
  congrArg (ev :: ·) (releaseOwned_frame ..).2.2.2
@[simp] theorem crash_thr (s t ev) : (crash s t ev).thr = upd s.thr t [.dead] :=
  congrArg (fun thr => upd thr t [Frame.dead]) (releaseOwned_frame ..).2.2.1

/-- store `v` under `k` unless `k` has a value: the one way in which `cacheStoreOrLoad` (after the fix, for each
reference of its chain) and `StoreOrLoadPair` (for each of its two keys) write to the cache -/
def fill (c : Key → Option Val) (k : Key) (v : Val) : Key → Option Val :=
  match c k with
  | some _ => c
  | none => upd c k (some v)

theorem fill_of_some {c : Key → Option Val} {k : Key} {w : Val} (h : c k = some w) (v : Val) :
    fill c k v = c := by simp only [fill, h]
theorem fill_of_none {c : Key → Option Val} {k : Key} (h : c k = none) (v : Val) :
    fill c k v = upd c k (some v) := by simp only [fill, h]

theorem fill_apply (c : Key → Option Val) (k : Key) (v : Val) (x : Key) :
    fill c k v x = if x = k ∧ c k = none then some v else c x := by
  cases h : c k with
  | some w => rw [fill_of_some h, if_neg (fun hc => nomatch hc.2)]
  | none => rw [fill_of_none h, upd_apply]; simp only [and_true]

theorem fill_le (c : Key → Option Val) (k : Key) (v : Val) : CacheLe c (fill c k v) := by
  intro k' v' h
  rw [fill_apply, if_neg (fun hc => by rw [hc.1, hc.2] at h; cases h)]
  exact h

theorem fill_fill_other (c : Key → Option Val) (k1 k2 : Key) (a b : Val) {x : Key} (h1 : x ≠ k1)
    (h2 : x ≠ k2) : fill (fill c k1 a) k2 b x = c x := by
  rw [fill_apply, if_neg (fun h => h2 h.1), fill_apply, if_neg (fun h => h1 h.1)]

theorem fill_fill_none {c : Key → Option Val} {k1 k2 : Key} (a b : Val) (hne : k1 ≠ k2)
    (h1 : c k1 = none) (h2 : c k2 = none) :
    fill (fill c k1 a) k2 b k1 = some a ∧ fill (fill c k1 a) k2 b k2 = some b := by
  constructor
  · rw [fill_apply, if_neg (fun h => hne h.1), fill_apply, if_pos ⟨rfl, h1⟩]
  · rw [fill_apply, if_pos ⟨rfl, by rw [fill_apply, if_neg (fun h => hne h.1.symm), h2]⟩]

theorem storeMissing_cons (c : Key → Option Val) (tp : Ty) (v : Val) (r : Ref) (rs : List Ref) :
    storeMissing c tp v (r :: rs) = storeMissing (fill c (r, tp) v) tp v rs := by
  rw [storeMissing]
  cases h : c (r, tp) with
  | some w => rw [fill_of_some h]
  | none => rw [fill_of_none h]

theorem storeMissing_apply (tp : Ty) (w : Val) : ∀ (refs : List Ref) (c : Key → Option Val) (k : Key),
    storeMissing c tp w refs k =
      if k.2 = tp ∧ k.1 ∈ refs ∧ c k = none then some w else c k
  | [], c, k => by simp [storeMissing]
  | r :: rs, c, k => by
    rw [storeMissing_cons, storeMissing_apply tp w rs, fill_apply]
    by_cases hk : k = (r, tp)
    · subst hk; cases h : c (r, tp) <;> simp
    · have hne : k.2 = tp → k.1 ≠ r := fun h1 h2 => hk (by cases k; simp_all)
      by_cases h2 : k.2 = tp
      · simp [hk, h2, hne h2]
      · simp [hk, h2]

theorem storeMissing_le (tp : Ty) (v : Val) (refs : List Ref) (c : Key → Option Val) :
    CacheLe c (storeMissing c tp v refs) := by
  intro k v' h
  rw [storeMissing_apply, if_neg (fun hc => by rw [hc.2.2] at h; cases h)]
  exact h

theorem storeOrLoad_fixed (c : Key → Option Val) (tp : Ty) (refs : List Ref) (v : Val) :
    storeOrLoad true c tp refs v =
      (storeMissing c tp ((firstCached c tp refs).getD v) refs, (firstCached c tp refs).getD v) := by
  unfold storeOrLoad
  simp only [if_true]
  cases firstCached c tp refs <;> rfl

theorem storeOrLoad_fixed_le (c : Key → Option Val) (tp : Ty) (refs : List Ref) (v : Val) :
    CacheLe c (storeOrLoad true c tp refs v).1 := by
  rw [storeOrLoad_fixed]; exact storeMissing_le _ _ _ _

theorem storeOrLoad_fixed_other (c : Key → Option Val) {tp : Ty} (refs : List Ref) (v : Val) {k : Key}
    (h : k.2 ≠ tp) : (storeOrLoad true c tp refs v).1 k = c k := by
  rw [storeOrLoad_fixed]
  exact (storeMissing_apply ..).trans (if_neg fun hc => h hc.1)

/-- `StoreOrLoadPair` is a call which returns at once to the frames it was called on, having filled its two keys -/
theorem pairCall_eq (cfg : Cfg) (s : State) (t : Tid) (r : Ref) (A B : Ty) (a b : Val)
    (hc : canCall (s.thr t) = true) :
    ∃ x y, fill (fill s.cache (r, A) a) (r, B) b (r, A) = some x ∧
      fill (fill s.cache (r, A) a) (r, B) b (r, B) = some y ∧
      pairCall cfg s t r A B a b =
        deliver { s with cache := fill (fill s.cache (r, A) a) (r, B) b,
                         hist := .pair t r A B a b (some (x, y)) :: s.hist } t (s.thr t) (.ok x) := by
  have hthr : ∀ res, upd s.thr t (deliverStack (s.thr t) res) = s.thr := fun res => by
    rw [deliverStack_of_canCall hc, upd_self]
  simp only [deliver, hthr]
  unfold pairCall
  cases hA : s.cache (r, A) with
  | some va =>
    rw [fill_of_some hA]
    cases hB : s.cache (r, B) with
    | some vb => rw [fill_of_some hB]; exact ⟨va, vb, hA, hB, rfl⟩
    | none =>
      rw [fill_of_none hB]
      exact ⟨va, b, (upd_other _ _ _ _ fun e => nomatch (e ▸ hA).symm.trans hB).trans hA, upd_same .., rfl⟩
  | none =>
    rw [fill_of_none hA]
    cases hB : upd s.cache (r, A) (some a) (r, B) with
    | some vb => rw [fill_of_some hB]; exact ⟨a, vb, upd_same .., hB, by simp only [hB]⟩
    | none =>
      rw [fill_of_none hB]
      exact ⟨a, b, (upd_other _ _ _ _ fun e => nomatch (e ▸ hB).symm.trans (upd_same ..)).trans (upd_same ..),
        upd_same .., by simp only [hB]⟩
/-- frames on top of which a thread cannot move by itself.  `exRun` is listed so that `enabled_of_top` covers
every frame; that it is never on top is proved with `LInv` only (`StkOK.top`). -/
def stuck : Frame → Bool
  | .dead | .exRun .. | .exWait .. => true
  | _ => false

/-- `.fnRet (.err (.fn 0))` is an arbitrary witness for "the decode function may return" -/
theorem enabled_of_top {cfg : Cfg} {s : State} {t : Tid} {f : Frame} {rest : List Frame}
    (e : s.thr t = f :: rest) (h : stuck f = false) :
    (step cfg s t .go).isSome = true ∨ (step cfg s t (.fnRet (.err (.fn 0)))).isSome = true := by
  cases f with
  | decGet tp refs path r => left; simp only [step, e]; cases cfg.get r <;> rfl
  | decFn | exFn => right; simp only [step, e]; rfl
  | exStart | exPub | exClose | exDone => left; simp only [step, e]; rfl
  | _ => cases h

/-- every label of the trace satisfies its guard in the state in which it is taken -/
def GuardedRun (cfg : Cfg) (G : State → Label → Prop) : State → List Label → Prop
  | _, [] => True
  | s, (t, a) :: ls =>
    G s (t, a) ∧
      match step cfg s t a with
      | some s' => GuardedRun cfg G s' ls
      | none => True

theorem run_invG (cfg : Cfg) (G : State → Label → Prop) (P : State → Prop)
    (hstep : ∀ s t a s', G s (t, a) → P s → step cfg s t a = some s' → P s') :
    ∀ (ls : List Label) (s s' : State), GuardedRun cfg G s ls → P s → run cfg s ls = some s' → P s' := by
  intro ls
  induction ls with
  | nil => intro s s' _ hp h; simp [run] at h; subst h; exact hp
  | cons l ls ih =>
    intro s s' hg hp h
    obtain ⟨t, a⟩ := l
    simp only [run] at h
    simp only [GuardedRun] at hg
    cases hs : step cfg s t a with
    | none => rw [hs] at h; cases h
    | some s1 =>
      rw [hs] at h hg
      exact ih s1 s' hg.2 (hstep s t a s1 hg.1 hp hs) h

theorem guardedRun_of_forall (cfg : Cfg) {G : Label → Prop} : ∀ (ls : List Label) (s : State),
    (∀ l ∈ ls, G l) → GuardedRun cfg (fun _ => G) s ls
  | [], _, _ => trivial
  | (t, a) :: ls, s, h => by
    refine ⟨h _ List.mem_cons_self, ?_⟩
    split
    · exact guardedRun_of_forall cfg ls _ fun l hl => h l (List.mem_cons_of_mem _ hl)
    · trivial

theorem run_inv (cfg : Cfg) (G : Label → Prop) (P : State → Prop)
    (hstep : ∀ s t a s', G (t, a) → P s → step cfg s t a = some s' → P s') :
    ∀ (ls : List Label) (s s' : State), (∀ l ∈ ls, G l) → P s → run cfg s ls = some s' → P s' :=
  fun ls s s' hg => run_invG cfg (fun _ => G) P hstep ls s s' (guardedRun_of_forall cfg ls s hg)

end PdfVerif.CONC
