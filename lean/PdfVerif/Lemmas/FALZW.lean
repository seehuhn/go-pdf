import PdfVerif.Model.FALZW
import PdfVerif.Lemmas.Digits
/-!
What the LZW round trip (C06faL, C07faL) and the reader on arbitrary input (C08fa) both need of
`Model/FALZW.lean`: four generated constants as numerals (`maxCode_eq`, `initWidth_eq` are theorems of
C06faL), the bit functions as positional notation, the reader's `save`, the three exits of `advance`,
`stepCode` on the two control codes, and `ValidPrefix` (with the name `C06faL.ValidPrefix`, under which the
statements of C06faL speak of it).  What only the round trip needs of the model
(`decBits_read`, `incHi_*`, `step_*`, `advance_eq`) is in C06faL.
-/
namespace PdfVerif.FA.LZW
open PdfVerif

theorem clear_eq : clear = 256 := rfl
theorem eof_eq : LZW.eof = 257 := rfl
theorem tableSize_eq : tableSize = 4096 := rfl
theorem maxWidth_eq : maxWidth = 12 := rfl

theorem ctl_lt {c n : Nat} (hc : c < 2 ^ 9) (h9 : 9 ≤ n) : c < 2 ^ n :=
  Nat.lt_of_lt_of_le hc (Nat.pow_le_pow_right (by decide) h9)

theorem toBits_eq : ∀ w n, toBits w n = Digits.bits n w
  | 0, _ => rfl
  | w + 1, n => by rw [toBits, toBits_eq w n]; rfl

theorem ofBits_eq (bs : Bits) : ofBits bs = Digits.bitsVal bs := Digits.bitsVal_foldl bs

theorem toBits_length (w n : Nat) : (toBits w n).length = w := by rw [toBits_eq, Digits.bits_length]

theorem bytesToBits_length (s : Bytes) : (bytesToBits s).length = 8 * s.length := by
  induction s with
  | nil => rfl
  | cons b bs ih => rw [bytesToBits, List.length_append, toBits_length, ih, List.length_cons]; omega

theorem ofBits_toBits (w n : Nat) : ofBits (toBits w n) = n % 2 ^ w := by
  rw [ofBits_eq, toBits_eq, Digits.bitsVal_bits]

theorem toBits_ofBits (bs : Bits) : toBits bs.length (ofBits bs) = bs := by
  rw [toBits_eq, ofBits_eq, Digits.bits_bitsVal]

theorem save_size (r : R) (first : Nat) (h : r.table.size = 4096) : (save r first).size = 4096 := by
  unfold save; split <;> simp [h]

theorem save_get_ne (r : R) (first : Nat) {c : Nat} (hc : c ≠ r.hi) : (save r first)[c]? = r.table[c]? := by
  unfold save
  split
  · exact Array.getElem?_setIfInBounds_ne (Ne.symm hc)
  · rfl

theorem save_get_hi (r : R) (first : Nat) {l : Nat} (hl : r.last = some l) (h : r.hi < r.table.size) :
    (save r first)[r.hi]? = some (l, first) := by
  rw [save, hl]
  exact Array.getElem?_setIfInBounds_self_of_lt h

theorem advance_full (r : R) (code : Nat) (t : Array (Nat × Nat))
    (h1 : r.hi + 1 + r.ec ≥ r.overflow) (h2 : r.width ≥ maxWidth) :
    advance r code t = { r with table := t, last := none } := by
  rw [advance, if_pos h1, if_pos h2, Nat.add_sub_cancel]

theorem advance_wider (r : R) (code : Nat) (t : Array (Nat × Nat))
    (h1 : r.hi + 1 + r.ec ≥ r.overflow) (h2 : ¬ r.width ≥ maxWidth) :
    advance r code t = { r with table := t, last := some code, hi := r.hi + 1, width := r.width + 1,
                                overflow := 2 ^ (r.width + 1) } := by
  rw [advance, if_pos h1, if_neg h2]

theorem advance_same (r : R) (code : Nat) (t : Array (Nat × Nat)) (h1 : ¬ r.hi + 1 + r.ec ≥ r.overflow) :
    advance r code t = { r with table := t, last := some code, hi := r.hi + 1 } := by
  rw [advance, if_neg h1]

theorem stepCode_eof (r : R) : stepCode r LZW.eof = .eof := by
  simp [stepCode, clear_eq, eof_eq]

theorem stepCode_clear (r : R) : stepCode r clear =
    .cont { r with width := initWidth, hi := LZW.eof, overflow := 2 ^ initWidth, last := none } [] := by
  simp [stepCode]

end PdfVerif.FA.LZW

namespace PdfVerif.C06faL

/-- `p` may be the prefix of table entry `c`: a literal or an earlier entry -/
def ValidPrefix (p c : Nat) : Prop := p < 256 ∨ (258 ≤ p ∧ p < c)

theorem ValidPrefix.lt {p c : Nat} (h : ValidPrefix p c) (hc : 256 ≤ c) : p < c :=
  h.elim (fun h1 => Nat.lt_of_lt_of_le h1 hc) And.right

theorem ValidPrefix.mono {p c d : Nat} (h : ValidPrefix p c) (hcd : c ≤ d) : ValidPrefix p d :=
  h.imp id fun h1 => ⟨h1.1, Nat.lt_of_lt_of_le h1.2 hcd⟩

theorem ValidPrefix.of_le {p c : Nat} (h : p < 256 ∨ (258 ≤ p ∧ p ≤ c)) : ValidPrefix p (c + 1) :=
  h.imp id fun h1 => ⟨h1.1, Nat.lt_succ_of_le h1.2⟩

end PdfVerif.C06faL
