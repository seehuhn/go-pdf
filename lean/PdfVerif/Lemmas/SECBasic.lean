import PdfVerif.Model.SECSecurity
/-!
XOR on byte lists, RC4 as XOR with a key stream and CBC chaining, for `Props/C09sec`, `C09secb`,
`C10sec`.  What is assumed of the primitives is a *hypothesis* of each theorem that uses it, never
an axiom: `PrimsOK` and the two assumptions named there.
-/
namespace PdfVerif.SEC
open PdfVerif

/-- What the theorems assume about the primitives (all of it is sampled against Go's `crypto/*`
by the known-answer lines of the correspondence run).  Two further assumptions are separate
hypotheses of the few theorems that need them: `hdec : ∀ k b, (P.aesDec k b).length = 16`
(`cbcDecBlocks_length` and the stream reader of `Props/C09secb`: `aes_dec_enc` speaks only of blocks
that `aesEnc` made, a reader decrypts whatever the file holds), and that AES blocks consist of
bytes (the fuel bound of Algorithm 2.B, `C09sec.slowHash_fuel`).  All are stated for every key and
every block, although `aesKeyOk` guards each AES call of the model: stronger than needed, to keep the
statements free of side conditions. -/
structure PrimsOK (P : Prims) : Prop where
  ks_len : ∀ k n, (P.rc4ks k n).length = n
  aes_dec_enc : ∀ k b, b.length = 16 → P.aesDec k (P.aesEnc k b) = b
  aes_enc_len : ∀ k b, (P.aesEnc k b).length = 16
  md5_len : ∀ x, (P.md5 x).length = 16
  sha256_len : ∀ x, (P.sha256 x).length = 32
  sha384_len : ∀ x, (P.sha384 x).length = 48
  sha512_len : ∀ x, (P.sha512 x).length = 64

@[simp] theorem xorBytes_length (a b : Bytes) : (xorBytes a b).length = min a.length b.length := by
  simp [xorBytes]

theorem xorBytes_cancel : ∀ (x k : Bytes), x.length ≤ k.length → xorBytes (xorBytes x k) k = x
  | [], _, _ => by simp [xorBytes]
  | _ :: _, [], h => by simp at h
  | a :: x, b :: k, h => by
    have ih := xorBytes_cancel x k (by simpa using h)
    simp only [xorBytes, List.zipWith_cons_cons] at ih ⊢
    rw [ih, Nat.xor_assoc, Nat.xor_self, Nat.xor_zero]

theorem xorBytes_append (a b c d : Bytes) (h : a.length = c.length) :
    xorBytes (a ++ b) (c ++ d) = xorBytes a c ++ xorBytes b d := by
  simp [xorBytes, List.zipWith_append h]

theorem copy32_of_length (o : Bytes) (h : o.length = 32) : copy32 o = o := List.take_left' h

theorem rc4_length {P : Prims} (ok : PrimsOK P) (k x : Bytes) : (rc4 P k x).length = x.length := by
  simp [rc4, ok.ks_len]

theorem rc4_involutive {P : Prims} (ok : PrimsOK P) (k x : Bytes) : rc4 P k (rc4 P k x) = x := by
  unfold rc4
  rw [xorBytes_length, ok.ks_len, Nat.min_self]
  exact xorBytes_cancel x _ (by simp [ok.ks_len])

theorem xorKey_zero (k : Bytes) : xorKey k 0 = k := by
  simp [xorKey]

theorem rc4Chain_append (P : Prims) (k : Bytes) : ∀ (a b : List Nat) (x : Bytes),
    rc4Chain P k (a ++ b) x = rc4Chain P k b (rc4Chain P k a x)
  | [], _, _ => rfl
  | _ :: a, b, _ => rc4Chain_append P k a b _

theorem rc4Chain_reverse {P : Prims} (ok : PrimsOK P) (k : Bytes) :
    ∀ (l : List Nat) (x : Bytes), rc4Chain P k l.reverse (rc4Chain P k l x) = x
  | [], _ => rfl
  | i :: l, x => by
    rw [List.reverse_cons, rc4Chain_append]
    show rc4 P (xorKey k i) (rc4Chain P k l.reverse (rc4Chain P k l (rc4 P (xorKey k i) x))) = x
    rw [rc4Chain_reverse ok k l, rc4_involutive ok]

theorem rc4Chain_length {P : Prims} (ok : PrimsOK P) (k : Bytes) :
    ∀ (l : List Nat) (x : Bytes), (rc4Chain P k l x).length = x.length
  | [], _ => rfl
  | _ :: l, x => by rw [rc4Chain, rc4Chain_length ok k l, rc4_length ok]

theorem rc4Chain_foldl (P : Prims) (k : Bytes) : ∀ (l : List Nat) (x : Bytes),
    rc4Chain P k l x = l.foldl (fun acc i => rc4 P (xorKey k i) acc) x
  | [], _ => rfl
  | _ :: l, _ => rc4Chain_foldl P k l _

theorem rc4Chain_up19 (P : Prims) (k x : Bytes) :
    rc4Chain P k up19 x = (List.range 19).foldl (fun acc i => rc4 P (xorKey k (i + 1)) acc) x := by
  have : up19 = (List.range 19).map (· + 1) := by decide
  rw [this, rc4Chain_foldl, List.foldl_map]

theorem cbcEncBlocks_length {P : Prims} (ok : PrimsOK P) (k : Bytes) :
    ∀ (n : Nat) (iv d : Bytes), (cbcEncBlocks P k n iv d).1.length = 16 * n := by
  intro n
  induction n with
  | zero => intro iv d; simp [cbcEncBlocks]
  | succ n ih => intro iv d; simp [cbcEncBlocks, ih, ok.aes_enc_len]; omega

theorem cbcEncBlocks_iv_length {P : Prims} (ok : PrimsOK P) (k : Bytes) :
    ∀ (n : Nat) (iv d : Bytes), iv.length = 16 → (cbcEncBlocks P k n iv d).2.length = 16 := by
  intro n
  induction n with
  | zero => intro iv d h; simpa [cbcEncBlocks] using h
  | succ n ih => intro iv d _; simp only [cbcEncBlocks]; exact ih _ _ (ok.aes_enc_len _ _)

theorem cbc_dec_enc {P : Prims} (ok : PrimsOK P) (k : Bytes) :
    ∀ (n : Nat) (iv d : Bytes), iv.length = 16 → d.length = 16 * n →
      (cbcDecBlocks P k n iv (cbcEncBlocks P k n iv d).1).1 = d := by
  intro n
  induction n with
  | zero => intro iv d _ hd; simp at hd; simp [cbcDecBlocks, hd]
  | succ n ih =>
    intro iv d hiv hd
    have hc : (P.aesEnc k (xorBytes (d.take 16) iv)).length = 16 := ok.aes_enc_len _ _
    have hx : (xorBytes (d.take 16) iv).length = 16 := by simp [hiv]; omega
    simp only [cbcEncBlocks, cbcDecBlocks]
    rw [List.take_left' hc, List.drop_left' hc, ok.aes_dec_enc _ _ hx,
      xorBytes_cancel _ _ (by simp [hiv]; omega), ih _ _ hc (by simp; omega)]
    exact List.take_append_drop 16 d

theorem cbcEncrypt_length {P : Prims} (ok : PrimsOK P) (k iv d : Bytes) :
    (cbcEncrypt P k iv d).length = 16 * (d.length / 16) :=
  cbcEncBlocks_length ok k _ iv d

theorem cbcDecrypt_cbcEncrypt {P : Prims} (ok : PrimsOK P) (k iv d : Bytes) (hiv : iv.length = 16)
    (hd : d.length % 16 = 0) : cbcDecrypt P k iv (cbcEncrypt P k iv d) = d := by
  unfold cbcDecrypt
  rw [cbcEncrypt_length ok, Nat.mul_div_cancel_left _ (by omega)]
  exact cbc_dec_enc ok k _ iv d hiv (by omega)

theorem cbcBlocks_append {P : Prims} (k : Bytes) :
    ∀ (m n : Nat) (iv a b : Bytes), a.length = 16 * m →
      cbcEncBlocks P k (m + n) iv (a ++ b) =
        ((cbcEncBlocks P k m iv a).1 ++ (cbcEncBlocks P k n (cbcEncBlocks P k m iv a).2 b).1,
         (cbcEncBlocks P k n (cbcEncBlocks P k m iv a).2 b).2) ∧
      cbcDecBlocks P k (m + n) iv (a ++ b) =
        ((cbcDecBlocks P k m iv a).1 ++ (cbcDecBlocks P k n (cbcDecBlocks P k m iv a).2 b).1,
         (cbcDecBlocks P k n (cbcDecBlocks P k m iv a).2 b).2) := by
  intro m
  induction m with
  | zero => intro n iv a b ha; simp at ha; simp [ha, cbcEncBlocks, cbcDecBlocks]
  | succ m ih =>
    intro n iv a b ha
    have h16 : 16 ≤ a.length := by omega
    have e : m + 1 + n = (m + n) + 1 := by omega
    rw [e]
    simp only [cbcEncBlocks, cbcDecBlocks]
    rw [List.take_append_of_le_length h16, List.drop_append_of_le_length h16,
      (ih n _ (a.drop 16) b (by simp; omega)).1, (ih n _ (a.drop 16) b (by simp; omega)).2]
    simp

theorem cbcDecBlocks_length {P : Prims} (hdec : ∀ k b, (P.aesDec k b).length = 16) (k : Bytes) :
    ∀ (n : Nat) (iv d : Bytes), iv.length = 16 → 16 * n ≤ d.length →
      (cbcDecBlocks P k n iv d).1.length = 16 * n ∧ (cbcDecBlocks P k n iv d).2.length = 16
  | 0, _, _, hiv, _ => ⟨rfl, hiv⟩
  | n + 1, iv, d, hiv, hd => by
    have ht : (d.take 16).length = 16 := by simp; omega
    obtain ⟨h1, h2⟩ := cbcDecBlocks_length hdec k n (d.take 16) (d.drop 16) ht (by simp; omega)
    simp only [cbcDecBlocks, List.length_append, xorBytes_length, hdec, hiv, h1]
    exact ⟨by omega, h2⟩

/-! ### a toy instance: the hypotheses `PrimsOK` are satisfiable (used by the non-vacuity examples) -/

/-- a toy hash (not degenerate under iteration, so that the examples tell passwords apart) -/
def toyHash (n : Nat) (x : Bytes) : Bytes :=
  let h := x.foldl (fun a b => (a * 31 + b + 7) % 65521) 1
  (List.range n).map fun i => (h / 7 + h * (i + 1) + i * i) % 256

def toyPrims : Prims where
  md5 := toyHash 16
  sha256 := toyHash 32
  sha384 := toyHash 48
  sha512 := toyHash 64
  rc4ks := fun k n => toyHash n k
  aesEnc := fun _ b => ((b ++ List.replicate 16 0).take 16).reverse
  aesDec := fun _ c => ((c ++ List.replicate 16 0).take 16).reverse

theorem toyOK : PrimsOK toyPrims where
  ks_len := by intro k n; simp [toyPrims, toyHash]
  aes_dec_enc := by
    intro k b h
    simp only [toyPrims]
    rw [List.take_left' h, List.take_left' (by simpa using h), List.reverse_reverse]
  aes_enc_len := by intro k b; simp [toyPrims]
  md5_len := by intro x; simp [toyPrims, toyHash]
  sha256_len := by intro x; simp [toyPrims, toyHash]
  sha384_len := by intro x; simp [toyPrims, toyHash]
  sha512_len := by intro x; simp [toyPrims, toyHash]

end PdfVerif.SEC
