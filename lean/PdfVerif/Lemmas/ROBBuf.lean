import PdfVerif.Lemmas.ROBModel
/-!
The scanner's 1024-byte window (`Model/ROBScanBuf.lean`: buffer, `refill` and latched error of `scanner.go` over an
`io.Reader`) against the whole-input view, for every reader that serves (a prefix of) the bytes `d` and may fail with
`e0` at any call, with any number of bytes delivered together with the error.  `PeekN` and `ScanBytes` are proved on
the window (`peekN_spec`, `scanBytes_spec`, over `refill_spec`); `Kept` is what the window operations keep, `Inv d e0 P` a
coherent state carrying such a `P`, and `peekN_ends` … `skipWhiteSpace_ends` say how each entry point ends on it (an
inductive relation each); the `*_spec` of `ReadByte`, `SkipString`, `SkipWhiteSpace` are read off those.
`Props/C05robbuf.lean` (whose names these are) and `Props/C19rob.lean` state their theorems with it; the parser
theorems (`Lemmas/ROBParse.lean`) rest on the relations.
-/
namespace PdfVerif.C05robbuf
open PdfVerif PdfVerif.ROB

/-- the remaining input as the parser sees it: unread part of the window, then what the reader
    has not delivered yet -/
def view (d : Bytes) (s : SB) : Bytes := s.buf.drop s.pos ++ d.drop s.srcOff

/-- a reader over the bytes `d` whose calls may fail with `e0`: every `Read` delivers a prefix of
    the true data at its offset; without error at least one byte; with `io.EOF` all that was left.
    (`.take want`: `readFull` cuts what a call hands back to the length asked for.) -/
structure FaultyOver (d : Bytes) (e0 : Err) (src : Source) : Prop where
  pre : ∀ k off want, (src k off want).1.take want <+: d.drop off
  progress : ∀ k off want, 0 < want → (src k off want).2 = none → (src k off want).1.take want ≠ []
  ateof : ∀ k off want, (src k off want).2 = some .eof → (src k off want).1.take want = d.drop off
  faults : ∀ k off want x, (src k off want).2 = some x → x = .eof ∨ x = e0
  e0_ne : e0 ≠ .eof

/-- a reader that never fails -/
def FaultFree (src : Source) : Prop := ∀ k off want x, (src k off want).2 = some x → x = .eof

theorem faultyOver_inject {d : Bytes} {e0 : Err} {g src : Source} (G : FaultyOver d e0 g)
    (key : ∀ k off want, src k off want = g k off want ∨
      ∃ short, src k off want = ((g k off want).1.take short, some e0)) : FaultyOver d e0 src := by
  refine ⟨fun k off want => ?_, fun k off want hw hn => ?_, fun k off want hx => ?_, fun k off want x hx => ?_, G.e0_ne⟩
  all_goals rcases key k off want with e | ⟨short, e⟩
  · rw [e]; exact G.pre k off want
  · rw [e, List.take_take, Nat.min_comm, ← List.take_take]
    exact (List.take_prefix _ _).trans (G.pre k off want)
  · rw [e] at hn ⊢; exact G.progress k off want hw hn
  · rw [e] at hn; cases hn
  · rw [e] at hx ⊢; exact G.ateof k off want hx
  · rw [e] at hx; cases hx; exact absurd rfl G.e0_ne
  · rw [e] at hx; exact G.faults k off want x hx
  · rw [e] at hx; cases hx; exact Or.inr rfl

theorem prefix_split {a l : Bytes} (h : a <+: l) : l = a ++ l.drop a.length :=
  (List.prefix_iff_eq_append.1 h).symm

/-- the fuel `want + 1` is enough: a call without error delivers at least one byte (`FaultyOver.progress`) -/
theorem readFull_spec {d : Bytes} {e0 : Err} {src : Source} (h : FaultyOver d e0 src) :
    ∀ fuel calls off want acc, want + 1 ≤ fuel →
      (readFull src fuel calls off want acc).hang = false ∧
      ∃ data, (readFull src fuel calls off want acc).data = acc ++ data ∧ data <+: d.drop off ∧
        data.length ≤ want ∧
        ((readFull src fuel calls off want acc).err = none → data.length = want) ∧
        ((readFull src fuel calls off want acc).err = some .eof → data = d.drop off) ∧
        (∀ x, (readFull src fuel calls off want acc).err = some x → (x = .eof ∨ x = e0) ∧ data.length < want) := by
  intro fuel calls off want acc
  -- `dl` is what the call delivered
  fun_induction readFull src fuel calls off want acc with
  | case1 => intro hf; omega                                                          -- out of fuel
  | case2 => exact fun _ => ⟨rfl, [], by simp, List.nil_prefix, by simp, by simp, by simp, by simp⟩   -- `want = 0`
  | case3 fuel calls off want acc hw r dl he ih =>                                    -- no error: the next call
    intro hf
    have hpre : dl <+: d.drop off := h.pre calls off want
    have hlen : dl.length ≤ want := List.length_take_le _ _
    have hpos : 0 < dl.length := List.length_pos_iff.2 (h.progress calls off want (by omega) he)
    obtain ⟨hh, data, hd, hp, hl, hnone, heof, hx⟩ := ih (by omega)
    have hsplit := prefix_split hpre
    rw [List.drop_drop] at hsplit
    refine ⟨hh, dl ++ data, by rw [hd, List.append_assoc], ?_, by rw [List.length_append]; omega,
      fun hn => by rw [List.length_append, hnone hn]; omega, fun hn => by rw [heof hn]; exact hsplit.symm,
      fun x hn => ⟨(hx x hn).1, by rw [List.length_append]; have := (hx x hn).2; omega⟩⟩
    rw [hsplit]
    exact (List.prefix_append_right_inj _).2 hp
  | case4 fuel calls off want acc hw r dl e he hge =>                                 -- an error, but everything wanted came
    exact fun _ => ⟨rfl, dl, rfl, h.pre calls off want, List.length_take_le _ _,
      fun _ => Nat.le_antisymm (List.length_take_le _ _) hge, by simp, by simp⟩
  | case5 fuel calls off want acc hw r dl e he hlt =>                                 -- the error is reported
    refine fun _ => ⟨rfl, dl, rfl, h.pre calls off want, List.length_take_le _ _, by simp, fun hx => ?_, fun x hx => ?_⟩
    · cases hx; exact h.ateof calls off want he
    · cases hx; exact ⟨h.faults calls off want e he, by omega⟩

/-- coherence of a scanner state over the input `d` -/
structure Coh (d : Bytes) (e0 : Err) (s : SB) : Prop where
  pos_le : s.pos ≤ s.buf.length
  len_le : s.buf.length ≤ bufSize
  off_le : s.srcOff ≤ d.length
  nohang : s.hang = false
  errs : ∀ x, s.err = some x → x = e0

theorem Coh.err_cases {d : Bytes} {e0 : Err} {s : SB} (c : Coh d e0 s) : s.err = none ∨ s.err = some e0 := by
  cases h : s.err with
  | none => exact .inl rfl
  | some x => exact .inr (congrArg some (c.errs x h))

theorem coh_init (d : Bytes) (e0 : Err) (fp : Nat) : Coh d e0 (SB.init fp) :=
  ⟨by simp [SB.init], by simp [SB.init], by simp [SB.init], rfl, by simp [SB.init]⟩

theorem view_init (d : Bytes) (fp : Nat) : view d (SB.init fp) = d := by simp [view, SB.init]

theorem view_take (d : Bytes) {s : SB} {n : Nat} (hn : n ≤ (s.buf.drop s.pos).length) :
    (view d s).take n = (s.buf.drop s.pos).take n :=
  List.take_append_of_le_length hn

theorem view_drop (d : Bytes) {s : SB} {n : Nat} (hn : n ≤ (s.buf.drop s.pos).length) :
    (view d s).drop n = s.buf.drop (s.pos + n) ++ d.drop s.srcOff := by
  rw [view, List.drop_append_of_le_length hn, List.drop_drop]

/-- at the end of the input the view is what is left of the window -/
theorem view_window {d : Bytes} {s : SB} (h : d.drop s.srcOff = []) : view d s = s.buf.drop s.pos := by
  rw [view, h, List.append_nil]

theorem view_length (d : Bytes) (s : SB) : (view d s).length = (s.buf.length - s.pos) + (d.length - s.srcOff) := by
  rw [view, List.length_append, List.length_drop, List.length_drop]

theorem bufSize_pos : 0 < bufSize := by decide

theorem coh_adv {d : Bytes} {e0 : Err} {s : SB} (c : Coh d e0 s) {n : Nat} (hn : n ≤ (s.buf.drop s.pos).length) :
    Coh d e0 { s with pos := s.pos + n } ∧ view d { s with pos := s.pos + n } = (view d s).drop n := by
  have hpl := c.pos_le
  refine ⟨⟨by simp at hn ⊢; omega, c.len_le, c.off_le, c.nohang, c.errs⟩, ?_⟩
  exact (view_drop d hn).symm

/-- what `refill` returns when no error is latched, in terms of the `io.ReadFull` result `r` -/
def refillWith (s : SB) (r : RF) : SB × Option Err :=
  let s' : SB := { s with buf := s.buf.drop s.pos ++ r.data, pos := 0, filePos := s.filePos + s.pos,
                          srcOff := s.srcOff + r.data.length, calls := r.calls, err := none,
                          hang := s.hang || r.hang }
  match r.err with
  | none => (s', none)
  | some e =>
    if e = .eof then (s', none)
    else ({ s' with err := some e }, if r.data.length > 0 then none else some e)

theorem refill_eq (src : Source) (s : SB) (hs : s.err = none) :
    refill src s = refillWith s (readFull src (bufSize - (s.buf.drop s.pos).length + 1) s.calls s.srcOff
      (bufSize - (s.buf.drop s.pos).length) []) := by
  unfold refill
  simp only [hs]
  rfl

theorem refill_latch (src : Source) (s : SB) (x : Err) (h : s.err = some x) : refill src s = (s, some x) := by
  unfold refill
  rw [h]

theorem refill_panicked (src : Source) (s : SB) : (refill src s).1.panicked = s.panicked := by
  unfold refill
  cases s.err with
  | some e => rfl
  | none =>
    dsimp only
    split
    · rfl
    · split <;> rfl

/-- the properties of a `refill` result that the entry points need; `RefillPost.cases` reads them as the three ways
    `refill` ends.  `count` is the step of the termination measure of `scanBytes_spec`, `pos0` and `full` are for
    `peekN_spec`, `keep` for `peekN_shape`. -/
structure RefillPost (d : Bytes) (e0 : Err) (s : SB) (r : SB × Option Err) : Prop where
  coh : Coh d e0 r.1
  view_eq : view d r.1 = view d s
  pos_eq : r.1.currentPos = s.currentPos
  panicked_eq : r.1.panicked = s.panicked
  ret : r.2 = none ∨ r.2 = some e0
  ret_latched : r.2 = some e0 → r.1.err = some e0
  latched : ∀ x, s.err = some x → r = (s, some x)
  pos0 : s.err = none → r.1.pos = 0
  keep : s.err = none → s.buf.drop s.pos <+: r.1.buf
  count : s.err = none → r.1.buf.length + s.srcOff = (s.buf.length - s.pos) + r.1.srcOff
  full : s.err = none → r.1.err = none → r.2 = none ∧ (r.1.buf.length = bufSize ∨ d.drop r.1.srcOff = [])
  nodata : s.err = none → r.2 = some e0 → r.1.buf = s.buf.drop s.pos
  added : s.err = none → r.1.err = some e0 → r.2 = none → (s.buf.drop s.pos).length < r.1.buf.length

theorem refill_spec {d : Bytes} {e0 : Err} {src : Source} (h : FaultyOver d e0 src) (s : SB)
    (c : Coh d e0 s) : RefillPost d e0 s (refill src s) := by
  cases hs : s.err with
  | some x =>
    have hx := c.errs x hs
    subst hx
    rw [refill_latch src s x hs]
    have hne : s.err = none → False := by simp [hs]
    exact {
      coh := c, view_eq := rfl, pos_eq := rfl, panicked_eq := rfl
      ret := .inr rfl, ret_latched := fun _ => hs
      latched := fun y hy => by rw [hs] at hy; cases hy; rfl
      pos0 := fun h => (hne h).elim, keep := fun h => (hne h).elim, count := fun h => (hne h).elim
      full := fun h => (hne h).elim, nodata := fun h => (hne h).elim, added := fun h => (hne h).elim }
  | none =>
    have hkeep : (s.buf.drop s.pos).length ≤ bufSize := by
      have := c.len_le; simp; omega
    have hkl : (s.buf.drop s.pos).length = s.buf.length - s.pos := by simp
    rw [refill_eq src s hs]
    obtain ⟨hh, data, hd, hp, hl, hnone, heof, hx⟩ :=
      readFull_spec h (bufSize - (s.buf.drop s.pos).length + 1) s.calls s.srcOff
        (bufSize - (s.buf.drop s.pos).length) [] (by omega)
    generalize readFull src (bufSize - (s.buf.drop s.pos).length + 1) s.calls s.srcOff
        (bufSize - (s.buf.drop s.pos).length) [] = r at *
    obtain ⟨rdata, rerr, rcalls, rhang⟩ := r
    simp only [List.nil_append] at hd hh hnone heof hx
    subst hd
    subst hh
    have hsplit := prefix_split hp
    have hplen := hp.length_le
    simp only [List.length_drop] at hplen
    have hview : (s.buf.drop s.pos ++ rdata) ++ d.drop (s.srcOff + rdata.length) = view d s := by
      unfold view
      rw [List.append_assoc]
      congr 1
      rw [List.drop_drop] at hsplit
      exact hsplit.symm
    have hoff : s.srcOff + rdata.length ≤ d.length := by have := c.off_le; omega
    have hposle := c.pos_le
    have hnh := c.nohang
    have hlen2 : (s.buf.drop s.pos ++ rdata).length ≤ bufSize := by simp; omega
    -- without an error the window is full; at the end of the input nothing is left
    have hfull : rerr = none ∨ rerr = some .eof →
        (s.buf.drop s.pos ++ rdata).length = bufSize ∨ d.drop (s.srcOff + rdata.length) = [] := by
      rintro (rfl | rfl)
      · left; have := hnone rfl; simp; omega
      · right
        have : rdata.length = d.length - s.srcOff := by rw [heof rfl]; simp
        exact List.drop_eq_nil_of_le (by omega)
    by_cases hE : rerr = none ∨ rerr = some .eof
    · have hf := hfull hE
      rcases hE with rfl | rfl <;> simp only [refillWith, if_true] <;>
        exact {
          coh := ⟨by simp, hlen2, hoff, by simp [hnh], by simp⟩
          view_eq := by simp only [view, List.drop_zero]; exact hview
          pos_eq := by simp [SB.currentPos], panicked_eq := rfl
          ret := .inl rfl, ret_latched := by simp, latched := by simp [hs]
          pos0 := fun _ => rfl, keep := fun _ => by simp, count := fun _ => by simp; omega
          full := fun _ _ => ⟨rfl, hf⟩, nodata := by simp, added := fun _ h => by simp at h }
    · obtain ⟨e, rfl⟩ : ∃ e, rerr = some e := by
        cases rerr with
        | none => exact absurd (.inl rfl) hE
        | some e => exact ⟨e, rfl⟩
      obtain ⟨hcls, hlt⟩ := hx e rfl
      have heq : e ≠ .eof := fun h => hE (.inr (congrArg some h))
      · have he0 : e = e0 := by rcases hcls with h1 | h1; exact absurd h1 heq; exact h1
        subst he0
        simp only [refillWith, heq, if_false]
        -- the reader's error is latched; it is returned only when no byte came with it
        have hz : rdata.length > 0 ∨ rdata = [] := by
          cases rdata with
          | nil => exact .inr rfl
          | cons a l => exact .inl (Nat.succ_pos _)
        exact {
          coh := ⟨by simp, hlen2, hoff, by simp [hnh], by simp⟩
          view_eq := by simp only [view, List.drop_zero]; exact hview
          pos_eq := by simp [SB.currentPos], panicked_eq := rfl
          ret := by rcases hz with hz | hz <;> simp [hz]
          ret_latched := by simp, latched := by simp [hs]
          pos0 := fun _ => rfl, keep := fun _ => by simp, count := fun _ => by simp; omega
          full := fun _ => by simp
          nodata := fun _ hr => by rcases hz with hz | hz <;> simp [hz] at hr ⊢
          added := fun _ _ hr => by
            rcases hz with hz | hz
            · simp; omega
            · simp [hz] at hr }

/-- the three ways `refill` ends: an error was latched before (nothing happens); nothing is latched before or
    after (the window is full, or the input is exhausted); the reader fails in this call (the error is latched, and
    returned only if no byte came with it) -/
theorem RefillPost.cases {d : Bytes} {e0 : Err} {s : SB} {r : SB × Option Err} (R : RefillPost d e0 s r) :
    (s.err = some e0 ∧ r = (s, some e0)) ∨
    (s.err = none ∧ r.1.err = none ∧ r.2 = none ∧ (r.1.buf.length = bufSize ∨ d.drop r.1.srcOff = [])) ∨
    (s.err = none ∧ r.1.err = some e0 ∧
      ((r.2 = none ∧ (s.buf.drop s.pos).length < r.1.buf.length) ∨ (r.2 = some e0 ∧ r.1.buf = s.buf.drop s.pos))) := by
  cases hs : s.err with
  | some x =>
    have hr := R.latched x hs
    have : x = e0 := R.coh.errs x (by rw [hr]; exact hs)
    subst this
    exact .inl ⟨rfl, hr⟩
  | none =>
    rcases R.coh.err_cases with h1 | h1
    · exact .inr (.inl ⟨rfl, h1, (R.full hs h1).1, (R.full hs h1).2⟩)
    · rcases R.ret with hr | hr
      · exact .inr (.inr ⟨rfl, h1, .inl ⟨hr, R.added hs h1 hr⟩⟩)
      · exact .inr (.inr ⟨rfl, h1, .inr ⟨hr, R.nodata hs hr⟩⟩)

/-- a property of the scanner state that survives a step inside the window and a `refill`; every entry point then
    keeps it (`Kept.peekN`, `Kept.scanBytes`).  `hang`: `ScanBytes` out of fuel returns its state with `hang` set,
    and `Kept.scanBytes` is stated for every fuel. -/
structure Kept (d : Bytes) (e0 : Err) (src : Source) (P : SB → Prop) : Prop where
  adv : ∀ s n, Coh d e0 s → P s → n ≤ (s.buf.drop s.pos).length → P { s with pos := s.pos + n }
  refill : ∀ s, Coh d e0 s → P s → P (refill src s).1
  hang : ∀ s, P s → P { s with hang := true }

/-- `PeekN` changes the state by a `refill` at most -/
theorem peekN_keeps (src : Source) (P : SB → Prop) (hrefill : ∀ s, P s → P (refill src s).1) (n : Nat)
    (hn : n ≤ bufSize) (s : SB) (p : P s) : P (peekN src n s).1 := by
  unfold peekN
  rw [if_neg (Nat.not_lt.2 hn)]
  by_cases hA : s.pos + n > s.buf.length
  · rw [if_pos hA]
    have := hrefill s p
    generalize refill src s = r at this
    obtain ⟨s1, e⟩ := r
    dsimp only
    split <;> exact this
  · rw [if_neg hA]
    dsimp only
    split <;> exact p

section
variable {d : Bytes} {e0 : Err} {src : Source}

theorem kept_true : Kept d e0 src fun _ => True :=
  ⟨fun _ _ _ _ _ => trivial, fun _ _ _ => trivial, fun _ _ => trivial⟩

theorem Kept.and {P Q : SB → Prop} (hP : Kept d e0 src P) (hQ : Kept d e0 src Q) :
    Kept d e0 src fun s => P s ∧ Q s where
  adv s n c p hn := ⟨hP.adv s n c p.1 hn, hQ.adv s n c p.2 hn⟩
  refill s c p := ⟨hP.refill s c p.1, hQ.refill s c p.2⟩
  hang s p := ⟨hP.hang s p.1, hQ.hang s p.2⟩

theorem kept_pos (h : FaultyOver d e0 src) (c : Nat) :
    Kept d e0 src fun s => s.currentPos + (view d s).length = c where
  adv s n c p hn := by
    have hl := view_length d s
    rw [List.length_drop] at hn
    rw [(coh_adv c (by rwa [List.length_drop])).2, List.length_drop, ← p]
    show s.filePos + (s.pos + n) + _ = s.filePos + s.pos + _
    omega
  refill s c p := by
    have R := refill_spec h s c
    rw [R.view_eq, R.pos_eq]; exact p
  hang _ p := p

theorem kept_suffix (h : FaultyOver d e0 src) (v : Bytes) : Kept d e0 src fun s => view d s <:+ v where
  adv s n c p hn := by rw [(coh_adv c hn).2]; exact (List.drop_suffix n _).trans p
  refill s c p := by rw [(refill_spec h s c).view_eq]; exact p
  hang _ p := p

theorem kept_nopanic : Kept d e0 src fun s => s.panicked = false where
  adv _ _ _ p _ := p
  refill s _ p := (refill_panicked src s).trans p
  hang _ p := p

/-- `c` is `lat = true` of `GoodF`: one instance for both values of `lat` -/
theorem kept_latched (c : Prop) : Kept d e0 src fun s => c → s.err = some e0 where
  adv _ _ _ p _ := p
  refill s _ p hc := by rw [refill_latch src s e0 (p hc)]; exact p hc
  hang _ p := p

theorem Kept.peekN {P : SB → Prop} (hP : Kept d e0 src P) (h : FaultyOver d e0 src) (n : Nat) (hn : n ≤ bufSize) (s : SB)
    (c : Coh d e0 s) (p : P s) : P (ROB.peekN src n s).1 :=
  (peekN_keeps src (fun s' => Coh d e0 s' ∧ P s') (fun s' p => ⟨(refill_spec h s' p.1).coh, hP.refill s' p.1 p.2⟩)
    n hn s ⟨c, p⟩).2

end

/-- outcome of `PeekN(n)`: the fault-free window, or the reader's error; there is no third case: a window that is
    short because a read error was latched is reported with that error (D33) -/
structure PeekPost (d : Bytes) (e0 : Err) (n : Nat) (s : SB) (r : SB × Bytes × Option Err) : Prop where
  coh : Coh d e0 r.1
  view_eq : view d r.1 = view d s
  pos_eq : r.1.currentPos = s.currentPos
  panicked_eq : r.1.panicked = s.panicked
  window : r.2.1 <+: r.1.buf.drop r.1.pos
  latch : ∀ x, s.err = some x → r.1.err = some x
  out : (r.2.2 = none ∧ r.2.1 = (view d s).take n) ∨ (r.2.2 = some e0 ∧ r.1.err = some e0)

theorem peekN_spec {d : Bytes} {e0 : Err} {src : Source} (h : FaultyOver d e0 src) (n : Nat)
    (hn : n ≤ bufSize) (s : SB) (c : Coh d e0 s) : PeekPost d e0 n s (peekN src n s) := by
  unfold peekN
  have hn' : ¬ (n > bufSize) := by omega
  simp only [hn', if_false]
  by_cases hA : s.pos + n > s.buf.length
  · -- refill
    simp only [hA, if_true]
    have R := refill_spec h s c
    generalize refill src s = r at R
    obtain ⟨s1, err⟩ := r
    dsimp only
    have hlatch : ∀ x, s.err = some x → s1.err = some x := by
      intro x hx; have := R.latched x hx; simp at this; rw [this.1]; exact hx
    by_cases hB : s1.pos + n > s1.buf.length
    · simp only [hB, if_true]
      refine ⟨R.coh, R.view_eq, R.pos_eq, R.panicked_eq, List.prefix_refl _, hlatch, ?_⟩
      rcases R.cases with ⟨hl, hr⟩ | ⟨hs, hs1, hret, hfull⟩ | ⟨_, hs1, ⟨hr, _⟩ | ⟨hr, _⟩⟩
      · cases hr; exact .inr ⟨rfl, hl⟩
      · -- nothing is latched: the window is short because the input ends in it
        have hp0 := R.pos0 hs
        dsimp only at hp0 hret hfull hs1
        subst hret
        refine .inl ⟨hs1, ?_⟩
        have hrest : d.drop s1.srcOff = [] := hfull.resolve_left (by omega)
        have hv : view d s = s1.buf.drop s1.pos := by
          rw [← R.view_eq]; exact view_window hrest
        rw [hv]
        exact (List.take_of_length_le (by simp; omega)).symm
      · dsimp only at hr hs1; subst hr; exact .inr ⟨hs1, hs1⟩
      · dsimp only at hr hs1; subst hr; exact .inr ⟨rfl, hs1⟩
    · simp only [hB, if_false]
      have hB' : n ≤ (s1.buf.drop s1.pos).length := by simp; omega
      refine ⟨R.coh, R.view_eq, R.pos_eq, R.panicked_eq, List.take_prefix _ _, hlatch, Or.inl ⟨rfl, ?_⟩⟩
      rw [← R.view_eq]
      exact (view_take d hB').symm
  · simp only [hA, if_false]
    have hA' : n ≤ (s.buf.drop s.pos).length := by simp; omega
    refine ⟨c, rfl, rfl, rfl, List.take_prefix _ _, fun x hx => hx, Or.inl ⟨rfl, ?_⟩⟩
    exact (view_take d hA').symm

/-- the window never shrinks under `PeekN`, and an error comes with the whole (too short) window -/
theorem peekN_shape {d : Bytes} {e0 : Err} {src : Source} (h : FaultyOver d e0 src) (n : Nat) (hn : n ≤ bufSize)
    (s : SB) (c : Coh d e0 s) :
    (s.buf.drop s.pos).length ≤ ((peekN src n s).1.buf.drop (peekN src n s).1.pos).length ∧
    ((peekN src n s).2.2 ≠ none →
      (peekN src n s).2.1 = (peekN src n s).1.buf.drop (peekN src n s).1.pos ∧ (peekN src n s).2.1.length < n) := by
  unfold peekN
  rw [if_neg (Nat.not_lt.2 hn)]
  by_cases hA : s.pos + n > s.buf.length
  · rw [if_pos hA]
    have R := refill_spec h s c
    generalize refill src s = q at R
    obtain ⟨s1, err⟩ := q
    dsimp only
    have hw : (s.buf.drop s.pos).length ≤ (s1.buf.drop s1.pos).length := by
      cases hs : s.err with
      | none =>
        have a := R.keep hs
        have b := R.pos0 hs
        dsimp only at a b
        rw [b, List.drop_zero]
        exact a.length_le
      | some x => rw [(Prod.mk.inj (R.latched x hs)).1]; exact Nat.le_refl _
    by_cases hB : s1.pos + n > s1.buf.length
    · rw [if_pos hB]
      have hpl : s1.pos ≤ s1.buf.length := R.coh.pos_le
      exact ⟨hw, fun _ => ⟨rfl, by rw [List.length_drop]; omega⟩⟩
    · rw [if_neg hB]
      exact ⟨hw, fun hne => (hne rfl).elim⟩
  · rw [if_neg hA]
    dsimp only
    rw [if_neg hA]
    exact ⟨Nat.le_refl _, fun hne => (hne rfl).elim⟩

/-- coherent, and `P`: whatever else is carried along (a `Kept` property) -/
structure Inv (d : Bytes) (e0 : Err) (P : SB → Prop) (s : SB) : Prop where
  coh : Coh d e0 s
  p : P s

/-- how `PeekN(n)` ends on a failing reader; the bytes it shows may then be stepped over.  (In this and the following
    relations the `flt` constructor takes the state last, so that `fun _ => Out.flt` is the arm of a caller.) -/
inductive PeekF (d : Bytes) (e0 : Err) (P : SB → Prop) (n : Nat) (s : SB) : SB × Bytes × Option Err → Prop
  | ok (s1 : SB) : Inv d e0 P s1 → view d s1 = view d s →
      (∀ k, k ≤ n → k ≤ (view d s).length → Inv d e0 P (adv k s1) ∧ view d (adv k s1) = (view d s).drop k) →
      PeekF d e0 P n s (s1, (view d s).take n, none)
  | flt (buf : Bytes) (s1 : SB) : Inv d e0 P s1 → s1.err = some e0 → PeekF d e0 P n s (s1, buf, some e0)

inductive ByteF (d : Bytes) (e0 : Err) (P : SB → Prop) (s : SB) : SB × Except Err Nat → Prop
  | eof (s1 : SB) : view d s = [] → Inv d e0 P s1 → view d s1 = [] → ByteF d e0 P s (s1, .error .eof)
  | ok (s1 : SB) (b : Nat) (t : Bytes) : view d s = b :: t → Inv d e0 P s1 → view d s1 = t →
      ByteF d e0 P s (s1, .ok b)
  | flt (s1 : SB) : Inv d e0 P s1 → s1.err = some e0 → ByteF d e0 P s (s1, .error e0)

inductive SkipStrF (d : Bytes) (e0 : Err) (P : SB → Prop) (pat : Bytes) (s : SB) : SB × Option Err → Prop
  | ok (s1 : SB) (rest : Bytes) : view d s = pat ++ rest → Inv d e0 P s1 → view d s1 = rest →
      SkipStrF d e0 P pat s (s1, none)
  | no (s1 : SB) : ¬ pat <+: view d s → Inv d e0 P s1 → view d s1 = view d s →
      SkipStrF d e0 P pat s (s1, some .malformed)
  | flt (s1 : SB) : Inv d e0 P s1 → s1.err = some e0 → SkipStrF d e0 P pat s (s1, some e0)

section
variable {d : Bytes} {e0 : Err} {src : Source} {P : SB → Prop}

theorem adv_inv (hP : Kept d e0 src P) (k : Nat) (s : SB) (gs : Inv d e0 P s) (hk : k ≤ (s.buf.drop s.pos).length) :
    Inv d e0 P (adv k s) ∧ view d (adv k s) = (view d s).drop k :=
  ⟨⟨(coh_adv gs.coh hk).1, hP.adv s k gs.coh gs.p hk⟩, (coh_adv gs.coh hk).2⟩

variable (h : FaultyOver d e0 src) (hP : Kept d e0 src P)
include h hP

theorem peekN_ends (n : Nat) (hn : n ≤ bufSize) (s : SB) (gs : Inv d e0 P s) : PeekF d e0 P n s (peekN src n s) := by
  have R := peekN_spec h n hn s gs.coh
  have hk := hP.peekN h n hn s gs.coh gs.p
  generalize peekN src n s = r at R hk
  obtain ⟨s1, buf, err⟩ := r
  have g1 : Inv d e0 P s1 := ⟨R.coh, hk⟩
  rcases R.out with ⟨a, b⟩ | ⟨a, b⟩
  · cases a; cases b
    refine .ok s1 g1 R.view_eq fun k hk hkl => ?_
    have hw : k ≤ (s1.buf.drop s1.pos).length := by
      have := R.window.length_le
      rw [List.length_take] at this
      exact Nat.le_trans (Nat.le_min.2 ⟨hk, hkl⟩) this
    rw [← R.view_eq]
    exact adv_inv hP k s1 g1 hw
  · cases a
    exact .flt buf s1 g1 b

theorem readByte_ends (s : SB) (gs : Inv d e0 P s) : ByteF d e0 P s (readByte src s) := by
  unfold readByte
  refine (peekN_ends h hP 1 (by decide) s gs).casesOn ?_ ?_
  · intro s1 g1 v1 hadv
    cases hv : view d s with
    | nil => exact .eof s1 hv g1 (v1.trans hv)
    | cons b t =>
      have := hadv 1 (Nat.le_refl _) (by rw [hv]; exact Nat.succ_pos _)
      rw [hv] at this
      exact .ok _ b t hv this.1 this.2
  · intro buf s1 gl hl
    have : (e0 = Err.eof) = False := eq_false h.e0_ne
    simp only [this, if_false]
    exact .flt s1 gl hl

theorem skipString_ends (pat : Bytes) (hn : pat.length ≤ bufSize) (s : SB) (gs : Inv d e0 P s) :
    SkipStrF d e0 P pat s (skipString src pat s) := by
  unfold skipString
  refine (peekN_ends h hP pat.length hn s gs).casesOn ?_ ?_
  · intro s1 g1 v1 hadv
    by_cases hb : pat <+: view d s
    · obtain ⟨rest, hr⟩ := hb
      have := hadv pat.length (Nat.le_refl _) (by rw [← hr, List.length_append]; omega)
      rw [← hr, List.drop_left] at this
      simp only [← hr, List.take_left, beq_self_eq_true, if_true]
      exact .ok _ rest hr.symm this.1 this.2
    · have : ((view d s).take pat.length == pat) = false := by
        rw [beq_eq_false_iff_ne]
        exact fun ht => hb (List.prefix_iff_eq_take.2 ht.symm)
      simp only [this, Bool.false_eq_true, if_false]
      exact .no s1 hb g1 v1
  · intro buf s1 gl hl
    exact .flt s1 gl hl

end

/-- `ReadByte` on the whole input -/
def readByteSpec : Bytes → Except Err Nat × Bytes
  | [] => (.error .eof, [])
  | b :: rest => (.ok b, rest)

theorem readByte_spec {d : Bytes} {e0 : Err} {src : Source} (h : FaultyOver d e0 src) (s : SB)
    (c : Coh d e0 s) :
    Coh d e0 (readByte src s).1 ∧
    (((readByte src s).2, view d (readByte src s).1) = readByteSpec (view d s) ∨
     ((readByte src s).2 = .error e0 ∧ (readByte src s).1.err = some e0)) := by
  have B := readByte_ends h kept_true s ⟨c, trivial⟩
  generalize readByte src s = r at B ⊢
  cases B with
  | eof s1 hv g1 v1 => exact ⟨g1.coh, .inl (by rw [hv, show view d s1 = [] from v1]; rfl)⟩
  | ok s1 b t hv g1 v1 => exact ⟨g1.coh, .inl (by rw [hv, show view d s1 = t from v1]; rfl)⟩
  | flt s1 g1 hl => exact ⟨g1.coh, .inr ⟨rfl, hl⟩⟩

theorem scanInner_spec {σ : Type} (acc : σ → Nat → Option σ) (t : Bytes) :
    ∀ (l : Bytes) (st : σ),
      (scanInner acc st l).2.1 ≤ l.length ∧
      ((scanInner acc st l).2.2 = true →
        scanSpec acc st (l ++ t) = ((scanInner acc st l).1, (l ++ t).drop (scanInner acc st l).2.1, false)) ∧
      ((scanInner acc st l).2.2 = false →
        (scanInner acc st l).2.1 = l.length ∧ scanSpec acc st (l ++ t) = scanSpec acc (scanInner acc st l).1 t) := by
  intro l
  induction l with
  | nil => intro st; simp [scanInner]
  | cons b bs ih =>
    intro st
    cases ha : acc st b with
    | none => simp [scanInner, ha, scanSpec_cons_none _ ha]
    | some st' =>
      obtain ⟨h1, h2, h3⟩ := ih st'
      simp only [scanInner, ha, List.cons_append, scanSpec_cons_some _ ha, List.length_cons]
      generalize scanInner acc st' bs = r at h1 h2 h3 ⊢
      obtain ⟨st2, n, stop⟩ := r
      dsimp only at h1 h2 h3 ⊢
      refine ⟨by omega, ?_, ?_⟩
      · intro hs; rw [h2 hs]; simp
      · intro hs; obtain ⟨a, b⟩ := h3 hs; exact ⟨by omega, b⟩

/-- `Coh` of the result contains `hang = false`: with this fuel `ScanBytes` terminates -/
theorem scanBytes_spec {σ : Type} {d : Bytes} {e0 : Err} {src : Source} (h : FaultyOver d e0 src)
    (acc : σ → Nat → Option σ) :
    ∀ (fuel : Nat) (empty : Bool) (st : σ) (s : SB), Coh d e0 s → (d.length - s.srcOff) + 2 ≤ fuel →
      Coh d e0 (scanBytes src acc fuel empty st s).1 ∧
      ((((scanBytes src acc fuel empty st s).2.2 = none ∨ (scanBytes src acc fuel empty st s).2.2 = some .eof) ∧
        scanSpec acc st (view d s) = ((scanBytes src acc fuel empty st s).2.1, view d (scanBytes src acc fuel empty st s).1,
          decide ((scanBytes src acc fuel empty st s).2.2 = some .eof))) ∨
       ((scanBytes src acc fuel empty st s).2.2 = some e0 ∧ (scanBytes src acc fuel empty st s).1.err = some e0)) := by
  intro fuel
  induction fuel with
  | zero => intro empty st s c hf; omega
  | succ fuel ih =>
    intro empty st s c hf
    unfold scanBytes
    have I := scanInner_spec acc (d.drop s.srcOff) (s.buf.drop s.pos) st
    generalize scanInner acc st (s.buf.drop s.pos) = r at I
    obtain ⟨st1, n, stop⟩ := r
    dsimp only at I
    obtain ⟨hn, hstop, hcont⟩ := I
    obtain ⟨c1, v1⟩ := coh_adv c hn
    simp only [List.length_drop] at hn
    have hpl := c.pos_le
    dsimp only
    cases stop with
    | true =>
      simp only [if_true]
      refine ⟨c1, Or.inl ⟨Or.inl (by simp), ?_⟩⟩
      rw [v1]
      have := hstop rfl
      simp only [view]
      rw [this]; simp
    | false =>
      obtain ⟨hnl, hsp⟩ := hcont rfl
      have R := refill_spec h _ c1
      simp only [Bool.false_eq_true, if_false]
      generalize refill src { s with pos := s.pos + n } = r at R ⊢
      obtain ⟨s2, err⟩ := r
      have hv2 : view d s2 = d.drop s.srcOff := by
        have := R.view_eq
        dsimp only at this
        rw [this, v1, view, List.drop_left' hnl.symm]
      -- the window has been consumed: what is left to scan is the view after the refill
      have hspec : scanSpec acc st (view d s) = scanSpec acc st1 (view d s2) := by
        rw [hv2]; simp only [view]; exact hsp
      simp only [List.length_drop] at hnl
      have hoff2 := R.coh.off_le
      have hcount := R.count
      dsimp only at hoff2 hcount ⊢
      rw [hspec]
      -- the next round, when the window is not empty afterwards.  The measure is the number of bytes the reader has not
      -- delivered: `stop = false` means the window was consumed (`hnl`), so by `R.count` a non-empty window after the
      -- `refill` consists of newly delivered bytes and `srcOff` has grown; the `+ 2` is the model's `scanBytesFuel`
      have next := fun (hs1 : s.err = none) (_ : 0 < s2.buf.length) =>
        ih (empty && n == 0) st1 s2 R.coh (by have := c.off_le; have := hcount hs1; omega)
      -- `refill` returns nil or `e0`, never EOF: the exit `err == io.EOF && !empty` of the Go loop is taken in none of the cases
      rcases R.cases with ⟨hl, hr⟩ | ⟨hs1, hs2, hr, hfull⟩ | ⟨hs1, hs2, ⟨hr, hgrow⟩ | ⟨hr, hsame⟩⟩
      · -- an error was latched before: the window is used up, the error is returned
        cases hr
        have hpos : s.pos + n ≥ s.buf.length := by omega
        simp only [h.e0_ne, Option.some.injEq, Option.isSome_some, Bool.true_and, decide_eq_true_eq, hpos, if_true,
          ite_self]
        exact ⟨c1, .inr ⟨rfl, hl⟩⟩
      · -- nothing latched: an empty window now means that the input is exhausted
        dsimp only at hr hs2 hfull; subst hr
        by_cases hz : s2.buf.length = 0
        · have hempty : view d s2 = [] := by
            have := bufSize_pos
            rw [view_window (hfull.resolve_left (by omega)), List.eq_nil_of_length_eq_zero hz, List.drop_nil]
          simp only [hz, if_true, reduceCtorEq, hempty]
          exact ⟨R.coh, .inl ⟨.inr rfl, by simp [scanSpec_nil, hempty]⟩⟩
        · simp only [hz, if_false, reduceCtorEq, Bool.false_and, Bool.false_eq_true, Option.isSome_none]
          exact next hs1 (by omega)
      · -- the reader failed, but bytes came with the error: they are scanned first
        dsimp only at hr hgrow; subst hr
        have hz : ¬ s2.buf.length = 0 := by omega
        simp only [hz, if_false, reduceCtorEq, Bool.false_and, Bool.false_eq_true, Option.isSome_none]
        exact next hs1 (by omega)
      · -- the reader failed and no byte came: the window stays empty
        dsimp only at hr hsame hs2; subst hr
        have hz : s2.buf.length = 0 := by rw [hsame]; simp; omega
        simp only [h.e0_ne, Option.some.injEq, hz, if_true]
        exact ⟨R.coh, .inr ⟨rfl, hs2⟩⟩

/-- `ScanBytes` only steps forward inside the window and refills, until it returns the state it has
    reached (with `hang` set when the fuel is used up): what both steps keep, holds at the end -/
theorem scanBytes_keeps {σ : Type} (src : Source) (acc : σ → Nat → Option σ) (P Q : SB → Prop)
    (hstep : ∀ s n, P s → n ≤ (s.buf.drop s.pos).length → P { s with pos := s.pos + n })
    (hrefill : ∀ s, P s → P (refill src s).1) (hend : ∀ s, P s → Q s) (hhang : ∀ s, P s → Q { s with hang := true }) :
    ∀ (fuel : Nat) (empty : Bool) (st : σ) (s : SB), P s → Q (scanBytes src acc fuel empty st s).1 := by
  intro fuel empty st s
  have inner : ∀ {st : σ} {s : SB} {st1 n stop}, scanInner acc st (s.buf.drop s.pos) = (st1, n, stop) → P s →
      P { s with pos := s.pos + n } := fun {st s _ _ _} hi p =>
    hstep _ _ p (by have := (scanInner_spec acc [] (s.buf.drop s.pos) st).1; rwa [hi] at this)
  have refilled : ∀ {s s2 : SB} {err}, refill src s = (s2, err) → P s → P s2 := fun hr p => by
    have := hrefill _ p; rwa [hr] at this
  fun_induction scanBytes src acc fuel empty st s with
  | case1 => exact hhang _                                                            -- out of fuel
  | case2 => exact fun p => hend _ (inner ‹_› p)                                      -- the acceptor stopped
  | case3 | case4 | case5 => exact fun p => hend _ (refilled ‹_› (inner ‹_› p))      -- the three returns behind `refill`
  | case6 => rename_i ih; exact fun p => ih (refilled ‹_› (inner ‹_› p))              -- the next round

theorem Kept.scanBytes {σ : Type} {d : Bytes} {e0 : Err} {src : Source} {P : SB → Prop} (hP : Kept d e0 src P)
    (h : FaultyOver d e0 src) (acc : σ → Nat → Option σ) (fuel : Nat) (empty : Bool) (st : σ) (s : SB)
    (c : Coh d e0 s) (p : P s) : P (ROB.scanBytes src acc fuel empty st s).1 :=
  scanBytes_keeps src acc (fun s' => Coh d e0 s' ∧ P s') P
    (fun s' n p hn => ⟨(coh_adv p.1 hn).1, hP.adv s' n p.1 p.2 hn⟩)
    (fun s' p => ⟨(refill_spec h s' p.1).coh, hP.refill s' p.1 p.2⟩)
    (fun _ p => p.2) (fun s' p => hP.hang s' p.2) fuel empty st s ⟨c, p⟩

theorem scanBytes_pos {σ : Type} {d : Bytes} {e0 : Err} {src : Source} (h : FaultyOver d e0 src)
    (acc : σ → Nat → Option σ) (fuel : Nat) (empty : Bool) (st : σ) (s : SB) (c : Coh d e0 s) :
    (scanBytes src acc fuel empty st s).1.currentPos + (view d (scanBytes src acc fuel empty st s).1).length =
      s.currentPos + (view d s).length :=
  (kept_pos h _).scanBytes h acc fuel empty st s c rfl

/-- `ScanBytes` returns `io.EOF` exactly when the acceptor took the whole rest of the input (`atEof`) -/
inductive ScanF {σ : Type} (d : Bytes) (e0 : Err) (P : SB → Prop) (acc : σ → Nat → Option σ) (st : σ) (s : SB) :
    SB × σ × Option Err → Prop
  | ok (s1 : SB) (st1 : σ) (atEof : Bool) : Inv d e0 P s1 → scanSpec acc st (view d s) = (st1, view d s1, atEof) →
      ScanF d e0 P acc st s (s1, st1, if atEof then some .eof else none)
  | flt (st1 : σ) (s1 : SB) : Inv d e0 P s1 → s1.err = some e0 → ScanF d e0 P acc st s (s1, st1, some e0)

theorem scanBytes_ends {σ : Type} {d : Bytes} {e0 : Err} {src : Source} {P : SB → Prop} (h : FaultyOver d e0 src)
    (hP : Kept d e0 src P) (acc : σ → Nat → Option σ) (empty : Bool) (st : σ) (s : SB) (gs : Inv d e0 P s) {fuel : Nat}
    (hf : (d.length - s.srcOff) + 2 ≤ fuel) : ScanF d e0 P acc st s (scanBytes src acc fuel empty st s) := by
  obtain ⟨c1, hout⟩ := scanBytes_spec h acc fuel empty st s gs.coh hf
  have g1 : Inv d e0 P (scanBytes src acc fuel empty st s).1 := ⟨c1, hP.scanBytes h acc fuel empty st s gs.coh gs.p⟩
  generalize scanBytes src acc fuel empty st s = r at hout g1
  obtain ⟨s1, st1, e⟩ := r
  rcases hout with ⟨rfl | rfl, a⟩ | ⟨rfl, b⟩
  · exact .ok s1 st1 false g1 a
  · exact .ok s1 st1 true g1 a
  · exact .flt st1 s1 g1 b

/-- how `SkipWhiteSpace` ends, next to `skipWS` on the view: at the end of the input, on a byte
    that is not white space (so that a further `SkipWhiteSpace` stays there), or with the reader's error -/
inductive WsF (d : Bytes) (e0 : Err) (P : SB → Prop) : SB × Option Err → Bytes × Bool → Prop
  | eof (s1 : SB) : Inv d e0 P s1 → WsF d e0 P (s1, some .eof) (view d s1, true)
  | ok (s1 : SB) (c : Nat) (rest : Bytes) : Inv d e0 P s1 → view d s1 = c :: rest →
      skipWS (c :: rest) = (c :: rest, false) → WsF d e0 P (s1, none) (view d s1, false)
  | flt (w : Bytes × Bool) (s1 : SB) : Inv d e0 P s1 → s1.err = some e0 → WsF d e0 P (s1, some e0) w

theorem skipWhiteSpace_ends {d : Bytes} {e0 : Err} {src : Source} {P : SB → Prop} (h : FaultyOver d e0 src)
    (hP : Kept d e0 src P) (s : SB) (gs : Inv d e0 P s) {fuel : Nat} (hf : (d.length - s.srcOff) + 2 ≤ fuel) :
    WsF d e0 P (skipWhiteSpace src fuel s) (skipWS (view d s)) := by
  unfold skipWhiteSpace
  rw [← (scanSpec_wsAcc (view d s)).1]
  refine (scanBytes_ends h hP wsAcc true false s gs hf).casesOn ?_ ?_
  · intro s1 st1 atEof g1 a
    rw [a]
    cases atEof with
    | true => exact .eof s1 g1
    | false =>
      -- the acceptor stopped: the scanner stands on the byte it refused
      have hw : skipWS (view d s) = (view d s1, false) := by rw [← (scanSpec_wsAcc (view d s)).1, a]
      have hne := (C05robobj.skipWS_false_ne (view d s)).1 (by rw [hw])
      rw [hw] at hne
      obtain ⟨c, rest, hv⟩ := List.exists_cons_of_ne_nil hne
      exact .ok s1 c rest g1 hv ((C05robobj.skipWS_idem (view d s)).1 c rest (hv ▸ hw))
  · intro st1 s1 gl hl
    exact .flt _ s1 gl hl

theorem skipWhiteSpace_spec {d : Bytes} {e0 : Err} {src : Source} (h : FaultyOver d e0 src) (s : SB)
    (c : Coh d e0 s) (fuel : Nat) (hf : (d.length - s.srcOff) + 2 ≤ fuel) :
    Coh d e0 (skipWhiteSpace src fuel s).1 ∧
    ((((skipWhiteSpace src fuel s).2 = none ∨ (skipWhiteSpace src fuel s).2 = some .eof) ∧
      skipWS (view d s) = (view d (skipWhiteSpace src fuel s).1, decide ((skipWhiteSpace src fuel s).2 = some .eof))) ∨
     ((skipWhiteSpace src fuel s).2 = some e0 ∧ (skipWhiteSpace src fuel s).1.err = some e0)) := by
  have W := skipWhiteSpace_ends h kept_true s ⟨c, trivial⟩ hf
  generalize skipWhiteSpace src fuel s = r at W ⊢
  generalize skipWS (view d s) = w at W ⊢
  cases W with
  | eof s1 g1 => exact ⟨g1.coh, .inl ⟨.inr rfl, rfl⟩⟩
  | ok s1 _ _ g1 => exact ⟨g1.coh, .inl ⟨.inl rfl, rfl⟩⟩
  | flt _ s1 g1 hl => exact ⟨g1.coh, .inr ⟨rfl, hl⟩⟩

theorem skipString_spec {d : Bytes} {e0 : Err} {src : Source} (h : FaultyOver d e0 src) (pat : Bytes)
    (hn : pat.length ≤ bufSize) (s : SB) (c : Coh d e0 s) :
    Coh d e0 (skipString src pat s).1 ∧
    (((skipString src pat s).2 = none ∧ (view d s).take pat.length = pat ∧
        view d (skipString src pat s).1 = (view d s).drop pat.length) ∨
     ((skipString src pat s).2 = some .malformed ∧ (view d s).take pat.length ≠ pat ∧
        view d (skipString src pat s).1 = view d s) ∨
     ((skipString src pat s).2 = some e0 ∧ (skipString src pat s).1.err = some e0)) := by
  refine (skipString_ends h kept_true pat hn s ⟨c, trivial⟩).casesOn ?_ ?_ ?_
  · intro s1 rest hv g1 v1
    exact ⟨g1.coh, .inl ⟨rfl, by rw [hv, List.take_left], by rw [hv, List.drop_left]; exact v1⟩⟩
  · intro s1 hb g1 v1
    exact ⟨g1.coh, .inr (.inl ⟨rfl, fun ht => hb (List.prefix_iff_eq_take.2 ht.symm), v1⟩)⟩
  · intro s1 g1 hl
    exact ⟨g1.coh, .inr (.inr ⟨rfl, hl⟩)⟩

end PdfVerif.C05robbuf
