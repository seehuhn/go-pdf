import PdfVerif.Lemmas.C01Total
import PdfVerif.Lemmas.C01Defs
/-!
For ALL inputs: whatever the scanner model returns respects the size caps
and the nesting limit (`caps_all`).
-/
namespace PdfVerif.C01L
open PdfVerif

mutual
/-- the size caps of `scanner.go` / `xref.go`, recursively over a returned value.  Nil arrays and
    operators are never returned. -/
def capsOK : Obj → Bool
  | .null => true
  | .bool _ => true
  | .nilArr => false
  | .op _ => false
  | .int i => decide (-9223372036854775808 ≤ i ∧ i ≤ 9223372036854775807)
  | .real t => decide (t.length ≤ Gen.scanner_maxNameBytes)
  | .name n => decide (n.length ≤ Gen.scanner_maxNameBytes)
  | .str s => decide (s.length ≤ Gen.scanner_maxStringBytes)
  | .ref n g => decide (n < Gen.xref_maxXRefSize) && decide (g ≤ Gen.xref_maxGeneration)
  | .arr xs => decide (xs.length ≤ Gen.scanner_maxArrayLen) && capsList xs
  | .dict kv => decide (kv.length ≤ Gen.scanner_maxDictLen) && capsKV kv
def capsList : List Obj → Bool
  | [] => true
  | x :: xs => capsOK x && capsList xs
def capsKV : List (Bytes × Obj) → Bool
  | [] => true
  | (k, v) :: rest => decide (k.length ≤ Gen.scanner_maxNameBytes) && capsOK v && capsKV rest
end

theorem capsOK_arr_iff {xs : List Obj} :
    capsOK (.arr xs) = true ↔ xs.length ≤ Gen.scanner_maxArrayLen ∧ capsList xs = true := by
  simp only [capsOK, Bool.and_eq_true, decide_eq_true_eq]

theorem capsOK_dict_iff {kv : List (Bytes × Obj)} :
    capsOK (.dict kv) = true ↔ kv.length ≤ Gen.scanner_maxDictLen ∧ capsKV kv = true := by
  simp only [capsOK, Bool.and_eq_true, decide_eq_true_eq]

theorem capsOK_int {i : Int} : capsOK (.int i) = true ↔ -9223372036854775808 ≤ i ∧ i ≤ 9223372036854775807 := by
  simp only [capsOK, decide_eq_true_eq]

theorem capsOK_real {t : Bytes} : capsOK (.real t) = true ↔ t.length ≤ Gen.scanner_maxNameBytes := by
  simp only [capsOK, decide_eq_true_eq]

theorem capsOK_name {n : Bytes} : capsOK (.name n) = true ↔ n.length ≤ Gen.scanner_maxNameBytes := by
  simp only [capsOK, decide_eq_true_eq]

theorem capsOK_str {s : Bytes} : capsOK (.str s) = true ↔ s.length ≤ Gen.scanner_maxStringBytes := by
  simp only [capsOK, decide_eq_true_eq]

theorem capsOK_ref {n g : Nat} :
    capsOK (.ref n g) = true ↔ n < Gen.xref_maxXRefSize ∧ g ≤ Gen.xref_maxGeneration := by
  simp only [capsOK, Bool.and_eq_true, decide_eq_true_eq]

theorem capsList_cons {x : Obj} {xs : List Obj} : capsList (x :: xs) = true ↔ capsOK x = true ∧ capsList xs = true := by
  simp only [capsList, Bool.and_eq_true]

theorem capsKV_cons {k : Bytes} {v : Obj} {rest : List (Bytes × Obj)} :
    capsKV ((k, v) :: rest) = true ↔ k.length ≤ Gen.scanner_maxNameBytes ∧ capsOK v = true ∧ capsKV rest = true := by
  simp only [capsKV, Bool.and_eq_true, decide_eq_true_eq, and_assoc]

theorem capsList_iff (xs : List Obj) : capsList xs = true ↔ ∀ x ∈ xs, capsOK x = true := by
  induction xs with
  | nil => simp [capsList]
  | cons x xs ih => simp only [capsList, Bool.and_eq_true, ih, List.mem_cons, forall_eq_or_imp]

theorem capsKV_iff (kv : List (Bytes × Obj)) :
    capsKV kv = true ↔ ∀ e ∈ kv, e.1.length ≤ Gen.scanner_maxNameBytes ∧ capsOK e.2 = true := by
  induction kv with
  | nil => simp [capsKV]
  | cons e es ih =>
    obtain ⟨k, v⟩ := e
    simp only [capsKV, Bool.and_eq_true, decide_eq_true_eq, ih, List.mem_cons, forall_eq_or_imp]

/-- `x` may stand at nesting depth `d`: it is within the caps, and what it nests stays within the nesting limit -/
def El (d : Nat) (x : Obj) : Prop := capsOK x = true ∧ d + depthOf x ≤ Gen.scanner_maxScannerNestDepth

/-- the same for a dictionary entry, with the cap on its key -/
def KEl (d : Nat) (e : Bytes × Obj) : Prop := e.1.length ≤ Gen.scanner_maxNameBytes ∧ El d e.2

theorem el_arr {d : Nat} {xs : List Obj} (hlen : xs.length ≤ Gen.scanner_maxArrayLen)
    (hd : d + 1 ≤ Gen.scanner_maxScannerNestDepth) (h : ∀ x ∈ xs, El (d + 1) x) : El d (.arr xs) := by
  refine ⟨?_, ?_⟩
  · exact capsOK_arr_iff.mpr ⟨hlen, (capsList_iff xs).mpr fun x hx => (h x hx).1⟩
  · rw [depthOf_arr]
    have : depthList xs ≤ Gen.scanner_maxScannerNestDepth - (d + 1) := by
      rw [depthList_le]; intro x hx; have := (h x hx).2; omega
    omega

theorem el_dict {d : Nat} {kv : List (Bytes × Obj)} (hlen : kv.length ≤ Gen.scanner_maxDictLen)
    (hd : d + 1 ≤ Gen.scanner_maxScannerNestDepth) (h : ∀ e ∈ kv, KEl (d + 1) e) : El d (.dict kv) := by
  refine ⟨?_, ?_⟩
  · exact capsOK_dict_iff.mpr ⟨hlen, (capsKV_iff kv).mpr fun e he => ⟨(h e he).1, (h e he).2.1⟩⟩
  · rw [depthOf_dict]
    have : depthKV kv ≤ Gen.scanner_maxScannerNestDepth - (d + 1) := by
      rw [depthKV_le]; intro e he; have := (h e he).2.2; omega
    omega

theorem el_refnull (d : Nat) (hd : d ≤ Gen.scanner_maxScannerNestDepth) (a b : Int) :
    El d (if validRef a b then Obj.ref a.toNat b.toNat else Obj.null) := by
  split
  · rename_i hv
    simp [validRef] at hv
    exact ⟨capsOK_ref.mpr (by omega), hd⟩
  · exact ⟨rfl, hd⟩

theorem mem_dictInsert (k : Bytes) (v : Obj) (acc : List (Bytes × Obj)) (e : Bytes × Obj)
    (h : e ∈ dictInsert k v acc) : e = (k, v) ∨ e ∈ acc := by
  revert h
  -- the function's own induction principle: `unfold; split` is slow to check and hides which exit a goal is
  fun_induction dictInsert k v acc with
  | case1 => exact fun h => .inl (List.mem_singleton.mp h)
  | case2 k' v' rest _ =>                                       -- the key is there: its entry is replaced
    exact fun h => (List.mem_cons.mp h).imp_right (List.mem_cons_of_mem _)
  | case3 k' v' rest _ ih =>                                    -- the key is further on, or new
    exact fun h => (List.mem_cons.mp h).elim (fun h => .inr (h ▸ List.mem_cons_self))
      fun h => (ih h).imp_right (List.mem_cons_of_mem _)

theorem length_dictInsert (k : Bytes) (v : Obj) (acc : List (Bytes × Obj)) :
    (dictInsert k v acc).length =
      if (acc.any fun e => e.1 == k) then acc.length else acc.length + 1 := by
  fun_induction dictInsert k v acc with
  | case1 => rfl
  | case2 k' v' rest hk => simp [hk]
  | case3 k' v' rest hk ih => simp only [List.length_cons, ih, List.any_cons, hk, Bool.false_or]; split <;> rfl

/-- What the readers return fits where it was read.  A loop at depth `d` returns elements that fit at depth `d`
    (given that the accumulator does); `readArray`/`readDict`, entered at depth `d`, run their loop at `d + 1`, so
    they return elements that fit at `d + 1`, and the constructor around them (`el_arr`, `el_dict`) fits at `d`. -/
def CapsAt (f : Nat) : Prop :=
  (∀ d inp o r, readObject f d inp = .ok (o, r) → d ≤ Gen.scanner_maxScannerNestDepth → El d o) ∧
  (∀ d inp xs r, readArray f d inp = .ok (xs, r) →
      xs.length ≤ Gen.scanner_maxArrayLen ∧ d + 1 ≤ Gen.scanner_maxScannerNestDepth ∧ ∀ x ∈ xs, El (d + 1) x) ∧
  (∀ d acc ints inp xs r, readArrayLoop f d acc ints inp = .ok (xs, r) →
      d ≤ Gen.scanner_maxScannerNestDepth → (∀ x ∈ acc, El d x) →
      xs.length ≤ Gen.scanner_maxArrayLen ∧ ∀ x ∈ xs, El d x) ∧
  (∀ d inp kv r, readDict f d inp = .ok (kv, r) →
      kv.length ≤ Gen.scanner_maxDictLen ∧ d + 1 ≤ Gen.scanner_maxScannerNestDepth ∧ ∀ e ∈ kv, KEl (d + 1) e) ∧
  (∀ d acc inp kv r, readDictLoop f d acc inp = .ok (kv, r) →
      d ≤ Gen.scanner_maxScannerNestDepth → acc.length ≤ Gen.scanner_maxDictLen → (∀ e ∈ acc, KEl d e) →
      kv.length ≤ Gen.scanner_maxDictLen ∧ ∀ e ∈ kv, KEl d e)

theorem caps_zero : CapsAt 0 :=
  ⟨fun d inp o r h => by simp [readObject] at h,
   fun d inp xs r h => by simp [readArray] at h,
   fun d acc ints inp xs r h => by simp [readArrayLoop] at h,
   fun d inp kv r h => by simp [readDict] at h,
   fun d acc inp kv r h => by simp [readDictLoop] at h⟩

theorem leafVal_el {o : Obj} (h : LeafVal o) (d : Nat) (hd : d ≤ Gen.scanner_maxScannerNestDepth) : El d o := by
  cases o with
  | null | bool => exact ⟨rfl, hd⟩
  | int => exact ⟨capsOK_int.mpr h, hd⟩
  | real => exact ⟨capsOK_real.mpr h, hd⟩
  | name => exact ⟨capsOK_name.mpr h, hd⟩
  | str => exact ⟨capsOK_str.mpr h, hd⟩
  | _ => exact h.elim

theorem caps_succ (f : Nat) (ih : CapsAt f) : CapsAt (f + 1) := by
  obtain ⟨ihO, ihA, ihL, ihD, ihDL⟩ := ih
  refine ⟨?_, ?_, ?_, ?_, ?_⟩
  · intro d inp o r h hd
    rcases readObject_cases d inp with ⟨res, hres, e⟩ | e | ⟨c, rest, rfl, e⟩
    · exact leafVal_el (hres.ok o r (by rw [← e f]; exact h)).2 d hd
    · rw [e] at h
      obtain ⟨dd, r0, h1, rfl, _⟩ := dictResult_ok_inv h
      obtain ⟨a, b, c⟩ := ihD _ _ _ _ h1
      exact el_dict a b c
    · rw [e] at h
      obtain ⟨⟨xs, r'⟩, h1, h2⟩ := map_ok_inv h
      obtain ⟨rfl, _⟩ := Prod.mk.inj h2
      obtain ⟨a, b, c⟩ := ihA _ _ _ _ h1
      exact el_arr a b c
  · intro d inp xs r h
    rw [readArray_eq] at h
    split at h
    · cases h
    · have := ihL _ _ _ _ _ _ (mapError_ok_inv h) (by omega) (by simp)
      exact ⟨this.1, by omega, this.2⟩
  · intro d acc ints inp xs r h hd hacc
    have hcons : ∀ x, El d x → ∀ acc', (∀ y ∈ acc', y ∈ acc) → ∀ y ∈ x :: acc', El d y := by
      intro x hx acc' hsub y hy
      rcases List.mem_cons.mp hy with rfl | hy
      · exact hx
      · exact hacc y (hsub y hy)
    rcases readArrayLoop_cases d acc ints inp with e | ⟨rest, hs, e⟩ | ⟨rest, hs, _, ⟨b, a, acc', rfl, e⟩ | ⟨_, e⟩⟩ |
        ⟨c, rest, hs, e⟩
    · rw [e] at h; cases h
    · rw [e] at h
      split at h
      · cases h
      · obtain ⟨rfl, _⟩ := Prod.mk.inj (Except.ok.inj h)
        exact ⟨by simp; omega, fun x hx => hacc x (by simpa using hx)⟩
    · rw [e] at h
      exact ihL _ _ _ _ _ _ h hd (hcons _ (el_refnull d hd a b) acc' (fun y hy => by simp [hy]))
    · rw [e] at h; cases h
    · rw [e] at h
      cases hro : readObject f d (c :: rest) with
      | error e' => rw [hro] at h; cases h
      | ok p =>
        obtain ⟨o, r1⟩ := p
        rw [hro] at h
        dsimp only at h
        split at h
        · cases h
        · exact ihL _ _ _ _ _ _ h hd (hcons o (ihO _ _ _ _ hro hd) acc (fun y hy => hy))
  · intro d inp kv r h
    rcases readDict_cases d inp with e | ⟨rest, r0, rfl, hd, hs, e⟩
    · rw [e] at h; cases h
    · rw [e] at h
      have := ihDL _ _ _ _ _ (mapError_ok_inv h) (by omega) (by simp) (by simp)
      exact ⟨this.1, by omega, this.2⟩
  · intro d acc inp kv r h hd hlen hacc
    rcases readDictLoop_cases d acc inp with ⟨e, _, he⟩ | ⟨rest, rfl, he⟩ | ⟨key, r1, r2, hn, hs, he⟩
    · rw [he] at h; cases h
    · rw [he] at h
      obtain ⟨rfl, _⟩ := Prod.mk.inj (Except.ok.inj h)
      exact ⟨hlen, hacc⟩
    · rcases readDictLoop_entry ((he f).symm.trans h).symm with ⟨e, _, he⟩ | ⟨e, _, he⟩ |
          ⟨val, r3, v, r', hro, _, hev, hcap, he⟩
      · cases he
      · cases he
      · have hv : El d v := by
          rcases hev with rfl | ⟨a, b, _, rfl⟩
          · exact ihO _ _ _ _ hro hd
          · exact el_refnull d hd a b
        refine ihDL _ _ _ _ _ he.symm hd ?_ ?_
        · rw [length_dictInsert]
          rcases hcap with hc | hc
          · rw [if_pos hc]; exact hlen
          · split <;> omega
        · intro e he'
          rcases mem_dictInsert _ _ _ _ he' with rfl | he'
          · exact ⟨(readName_spec _ _ _ hn).2, hv⟩
          · exact hacc e he'

theorem caps_all : ∀ f, CapsAt f
  | 0 => caps_zero
  | f + 1 => caps_succ f (caps_all f)

end PdfVerif.C01L
