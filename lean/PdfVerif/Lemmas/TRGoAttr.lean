import Lean.Meta.Tactic.Simp.RegisterCommand
/-!
The simp set `go_ret` (its lemmas are tagged in `Lemmas/TRGo.lean`; an attribute cannot be used in the module that
registers it).
-/

/-- reading a generated `if … { return … }` chain as the condition under which it returns a given value -/
register_simp_attr go_ret
