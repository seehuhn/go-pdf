import PdfVerif.Props.C12cc
/-!
# C12 — the shape of the lookup tree that `newTree` builds

`newTree_shape`: every child list cuts `0 … 255` into consecutive intervals (`kidsSorted`) and no sub-tree asks for
more bytes than the ranges have left (`kidsBudget`).  `kidsCover` follows from the first, `kidsWf` from both; Props/C12ccb
and C12ccc need these, which is why the four definitions stand here, under the names (`PdfVerif.C12ccd`, `PdfVerif.C12ccf`)
with which the theorems of Props/C12ccd.lean (`kids_enc`, `kids_notCut_of_len`) and C12ccf.lean (`walk_kids`,
`kids_boxes_sem`) are stated.  The lemmas are in `PdfVerif.C12cc`.
-/
namespace PdfVerif.C12ccd
open PdfVerif PdfVerif.CC

mutual
/-- an upper bound for the bytes a sub-tree may still consume, counted as `kidsDec` counts them: a child list takes one
for the selecting byte (`kidsDec [] (b :: s) = (1, false)`, hence `kidsBudget [] = 1`).  It serves as fuel for the loops
that go down one level per byte and in `kids_notCut_of_len`; no lemma bounds `kidsDec` by it. -/
def nodeBudget : Node → Nat
  | .valid => 0
  | .invalid k => k
  | .sub cs => kidsBudget cs
def kidsBudget : List (Nat × Node) → Nat
  | [] => 1
  | (_, n) :: rest => max (nodeBudget n + 1) (kidsBudget rest)
end

end PdfVerif.C12ccd

namespace PdfVerif.C12ccf
open PdfVerif PdfVerif.CC

mutual
/-- below the node every child list is a partition of `0 … 255`: a decision tree on bytes -/
def nodeSorted : Node → Prop
  | .sub cs => kidsSorted 0 cs
  | _ => True
/-- the children cover `nl … 255` by consecutive intervals `[nl, hi₀], [hi₀+1, hi₁], …` -/
def kidsSorted : Nat → List (Nat × Node) → Prop
  | nl, [] => nl = 256
  | nl, (hi, n) :: rest => nl ≤ hi ∧ hi < 256 ∧ nodeSorted n ∧ kidsSorted (hi + 1) rest
end

end PdfVerif.C12ccf

namespace PdfVerif.C12cc
open PdfVerif PdfVerif.CC PdfVerif.C12ccd PdfVerif.C12ccf

theorem newTree_shape : ∀ {fuel : Nat} {S : CSR} {d : Nat} {cs : List (Nat × Node)},
    newTree fuel S d = .ok cs → kidsSorted 0 cs ∧ ((∀ r ∈ S, r.low.length ≤ d + fuel) → kidsBudget cs ≤ fuel) := by
  intro fuel
  induction fuel with
  | zero => intro S d cs h; simp [newTree] at h
  | succ fuel ih =>
    intro S d cs h
    refine tiling_kids (Q := fun lo kids => kidsSorted lo kids ∧
        ((∀ r ∈ S, r.low.length ≤ d + (fuel + 1)) → kidsBudget kids ≤ fuel + 1))
      (fun _ _ hk => (nodeFor_ok hk).1) ⟨rfl, fun _ => by simp [kidsBudget]⟩ ?_
      _ _ _ (breaks_tiling S d) (newTree_ok h).2
    intro lo hi n kids h1 h2 _ hk ⟨i1, i2⟩
    have hn : nodeSorted n ∧ ((∀ r ∈ S, r.low.length ≤ d + (fuel + 1)) → nodeBudget n ≤ fuel) := by
      rcases (nodeFor_ok hk).2 with ⟨_, hn⟩ | ⟨_, _, hn⟩ | ⟨_, _, cs', hcs', hn⟩ <;> simp only at hn <;> rw [hn]
      · refine ⟨trivial, fun hS => ?_⟩
        have := minLength_le S (d + (fuel + 1)) (by omega) hS
        simp only [nodeBudget]; omega
      · exact ⟨trivial, fun _ => by simp [nodeBudget]⟩
      · obtain ⟨i1, i2⟩ := ih hcs'
        exact ⟨i1, fun hS => i2 fun r hr => by have := hS r (List.mem_filter.mp hr).1; omega⟩
    exact ⟨⟨h1, h2, hn.1, i1⟩, fun hS => Nat.max_le.mpr ⟨Nat.succ_le_succ (hn.2 hS), i2 hS⟩⟩

theorem kidsSorted_ne_nil {lo : Nat} {cs : List (Nat × Node)} (h : kidsSorted lo cs) (hlo : lo < 256) : cs ≠ [] := by
  intro e; subst e; simp only [kidsSorted] at h; omega

mutual
theorem nodeSorted_covers (n : Node) (h : nodeSorted n) : n.covers = true := by
  match n with
  | .valid => rfl
  | .invalid _ => rfl
  | .sub cs => exact kidsSorted_cover 0 cs h (by omega)
theorem kidsSorted_cover (lo : Nat) (cs : List (Nat × Node)) (h : kidsSorted lo cs) (hlo : lo < 256) :
    kidsCover cs = true := by
  match cs with
  | [] => simp only [kidsSorted] at h; omega
  | [(hi, n)] =>
    -- the last interval ends at 255
    obtain ⟨_, _, h3, h4⟩ := h
    simp only [kidsSorted] at h4
    simp [kidsCover, nodeSorted_covers n h3]; omega
  | (hi, n) :: k :: r =>
    obtain ⟨_, _, h3, h4⟩ := h
    have := h4.1; have := h4.2.1
    simp [kidsCover, nodeSorted_covers n h3, kidsSorted_cover (hi + 1) (k :: r) h4 (by omega)]
end

mutual
theorem nodeSorted_wf (n : Node) (h : nodeSorted n) (hb : nodeBudget n ≤ 3) : n.wf = true := by
  match n with
  | .valid => rfl
  | .invalid k => simpa [Node.wf, nodeBudget] using hb
  | .sub cs =>
    simp only [Node.wf, kidsSorted_wf 0 cs h (Nat.le_succ_of_le hb), Bool.and_true, Bool.not_eq_true',
      List.isEmpty_eq_false_iff]
    exact kidsSorted_ne_nil h (by omega)
theorem kidsSorted_wf (lo : Nat) (cs : List (Nat × Node)) (h : kidsSorted lo cs) (hb : kidsBudget cs ≤ 4) :
    kidsWf cs = true := by
  match cs with
  | [] => rfl
  | (hi, n) :: rest =>
    obtain ⟨_, _, h3, h4⟩ := h
    simp only [kidsBudget] at hb
    simp [kidsWf, nodeSorted_wf n h3 (Nat.le_of_succ_le_succ (Nat.le_trans (Nat.le_max_left _ _) hb)),
      kidsSorted_wf (hi + 1) rest h4 (Nat.le_trans (Nat.le_max_right _ _) hb)]
end

theorem newTree_covers (fuel : Nat) (S : CSR) (d : Nat) (cs : List (Nat × Node)) (h : newTree fuel S d = .ok cs) :
    kidsCover cs = true :=
  kidsSorted_cover 0 cs (newTree_shape h).1 (by omega)

/-- where the 4 of `newTree 4`, `appendLoop … 4` and `walk … 5` is justified: a valid range has at most four bytes -/
theorem tree_budget (csr : CSR) (tree : List (Nat × Node)) (hv : ∀ r ∈ csr, r.isValid = true)
    (hT : newTree 4 csr 0 = .ok tree) : kidsBudget tree ≤ 4 :=
  (newTree_shape hT).2 fun r hr => by have := (isValid_parts r (hv r hr)).2.2.1; omega

end PdfVerif.C12cc
