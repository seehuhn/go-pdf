import PdfVerif.Lemmas.CONCExcl
/-!
`Live` (every open pending has an owner frame; all traces, panics included), and on top of it `LInv`, the
invariant behind `exclusive_progress` (C18): under `SinkGuard` — a thread with a frame of `DecodeExclusive`
on a reference on its stack starts no `DecodeExclusive`, and no decode function panics — no state is a
deadlock.  The guard is a sufficient syntactic discipline, stronger than the restriction documented at
`DecodeExclusive` (cursor.go: the decode must not take part in a cross-goroutine reference cycle).
-/
namespace PdfVerif.CONC

def Live (s : State) : Prop :=
  ∀ p, p < s.npend → (s.pend p).done = false → ∃ t, p ∈ owned (s.thr t)

theorem mem_owned_upd {s : State} {t t0 : Tid} {stk' : List Frame} {q : Pid}
    (h : q ∈ owned (s.thr t0)) (hsub : q ∈ owned (s.thr t) → q ∈ owned stk') :
    q ∈ owned (upd s.thr t stk' t0) := by
  rw [upd_apply]
  split
  · next e => exact hsub (e ▸ h)
  · exact h

theorem Live.quiet {s s' : State} {t : Tid} (hl : Live s) (q : Quiet s s' t) : Live s' := by
  intro p hp hd
  rw [q.npend] at hp; rw [q.pend] at hd
  obtain ⟨t0, h0⟩ := hl p hp hd
  refine ⟨t0, ?_⟩
  by_cases e : t0 = t
  · subst e; rw [q.owned]; exact h0
  · rw [q.others t0 e]; exact h0

/-- an owner gives up its pending only by closing it, or when its stack is unwound and the
deferred function closes it -/
theorem Live.step {cfg : Cfg} {s s' : State} {t : Tid} {a : Act} (hx : XInv s) (hl : Live s)
    (h : step cfg s t a = some s') : Live s' := by
  cases step_kind h with
  | push hp => exact hl.quiet hp.quiet
  | ret hr => exact hl.quiet hr.quiet
  | register =>
    intro q hq hd
    by_cases e : q = s.npend
    · exact ⟨t, by subst e; show _ ∈ owned (upd _ _ _ _); rw [upd_same, owned_cons_some _ rfl]; exact List.mem_cons_self⟩
    · obtain ⟨t0, h0⟩ := hl q (Nat.lt_of_le_of_ne (Nat.le_of_lt_succ hq) e)
        ((congrArg Pending.done (upd_other _ _ _ _ e)).symm.trans hd)
      exact ⟨t0, mem_owned_upd h0 fun h => by rw [owned_cons_some _ rfl]; exact List.mem_cons_of_mem _ h⟩
  | @publish k p res rest e =>
    intro q hq hd
    have hdone := published_done s.pend p res q
    obtain ⟨t0, h0⟩ := hl q hq (hdone.symm.trans hd)
    exact ⟨t0, mem_owned_upd h0 fun h => by
      rwa [e, owned_cons_some _ rfl] at h; ⟩
  | @close k p res rest e =>
    intro q hq hd
    have hqp : q ≠ p := by rintro rfl; simp at hd
    obtain ⟨t0, h0⟩ := hl q hq ((congrArg Pending.done (upd_other _ _ _ _ hqp)).symm.trans hd)
    refine ⟨t0, mem_owned_upd h0 fun h => ?_⟩
    rw [e, owned_cons_some _ rfl] at h
    exact (List.mem_cons.mp h).resolve_left hqp
  | crash =>
    intro q hq hd
    simp only [crash_npend] at hq
    simp only [crash_pend] at hd
    have hnot : q ∉ owned (s.thr t) := fun hmem => by
      rw [((releaseOwned_outs s _ (hx.frames t)).2 q hmem).1] at hd; cases hd
    rw [releaseOwned_pend_other s _ q hnot] at hd
    obtain ⟨t0, h0⟩ := hl q hq hd
    have hne : t0 ≠ t := by rintro rfl; exact hnot h0
    exact ⟨t0, by rw [crash_thr, upd_other _ _ _ _ hne]; exact h0⟩

/-- frames of `DecodeExclusive` on a reference -/
def isExcl : Frame → Bool
  | .exStart .. => true
  | .exRun .. => true
  | .exPub .. => true
  | .exClose .. => true
  | .exDone .. => true
  | .exWait .. => true
  | _ => false

def exclCount (stk : List Frame) : Nat := (stk.filter isExcl).length

def resOK : Frame → Prop
  | .exPub _ _ res => res ≠ .panic
  | .exClose _ _ res => res ≠ .panic
  | .exDone _ _ res => res ≠ .panic
  | _ => True

/-- the guard of a transition: exclusive decodes are not nested, decode functions do not panic.  ("Sink": the
word of `DecodeExclusive`'s documentation for a decode nothing can wait on in a cycle.) -/
def SinkGuard (s : State) : Label → Prop
  | (t, .callExcl _ _ _) => exclCount (s.thr t) = 0
  | (_, .fnRet .panic) => False
  | _ => True

structure StkOK (stk : List Frame) : Prop where
  nodead : ∀ f ∈ stk, f ≠ .dead
  top : ∀ k p rest, stk ≠ .exRun k p :: rest
  res : ∀ f ∈ stk, resOK f

/-- `one` (a stack holds at most one frame of `DecodeExclusive`: the guard) is why the owner of an
open pending, which `live` provides, is not itself a waiter; `stk` says that it can move: its top
frame is neither the remains of a panic nor an owner still inside its `Decode` call (whose frames
are above it).  `out` and `StkOK.res`: a woken waiter finds a value or an error. -/
structure LInv (s : State) : Prop where
  stk : ∀ t, StkOK (s.thr t)
  one : ∀ t, exclCount (s.thr t) ≤ 1
  live : Live s
  out : ∀ p, (s.pend p).out ≠ some .panic

theorem exclCount_cons (f : Frame) (stk : List Frame) :
    exclCount (f :: stk) = exclCount stk + (if isExcl f then 1 else 0) := by
  simp only [exclCount, ← List.countP_eq_length_filter, List.countP_cons]

@[simp] theorem exclCount_deliverStack (rest : List Frame) (res : Res) :
    exclCount (deliverStack rest res) = exclCount rest := by
  rcases deliverStack_cases rest res with ⟨k, p, rest', rfl, e⟩ | ⟨_, e⟩ <;> rw [e]
  rw [exclCount_cons, exclCount_cons]; rfl

theorem StkOK.tail {f : Frame} {rest : List Frame} (h : StkOK (f :: rest))
    (hne : ∀ k p rest', rest ≠ .exRun k p :: rest') : StkOK rest :=
  ⟨fun g hg => h.nodead g (List.mem_cons_of_mem _ hg), hne, fun g hg => h.res g (List.mem_cons_of_mem _ hg)⟩

/-- the thread which owns a pending is not itself waiting when its stack holds at most one frame of
`DecodeExclusive`: the waiter frame on top and the owner frame below it would be two -/
theorem not_waiting_of_owner {stk : List Frame} {q : Pid} (hq : q ∈ owned stk)
    (h1 : exclCount stk ≤ 1) (k : Key) (p : Pid) (rest : List Frame) : stk ≠ .exWait k p :: rest := by
  rintro rfl
  rw [owned_cons_none _ rfl] at hq
  obtain ⟨g, hg, ho⟩ := List.mem_filterMap.mp hq
  have hex : isExcl g = true := by cases g <;> first | rfl | cases ho
  have : 0 < exclCount rest :=
    List.length_pos_iff.mpr (List.ne_nil_of_mem (List.mem_filter.mpr ⟨hg, hex⟩))
  rw [exclCount_cons] at h1
  simp [isExcl] at h1
  omega

theorem deliverStack_top (base : List Frame) (res : Res) (k : Key) (p : Pid) (rest : List Frame) :
    deliverStack base res ≠ .exRun k p :: rest := by
  rcases deliverStack_cases base res with ⟨_, _, _, _, e⟩ | ⟨hne, e⟩ <;> rw [e]
  · nofun
  · exact hne k p rest

theorem Keeps.exclCount_le {stk base : List Frame} (h : Keeps stk base) :
    exclCount base ≤ exclCount stk := by
  cases h with
  | all => exact Nat.le_refl _
  | pop e => rw [e, exclCount_cons]; exact Nat.le_add_right _ _
  | enter e => rw [e, exclCount_cons, exclCount_cons]; exact Nat.le_refl _

theorem RetAt.res_ne_panic {cfg : Cfg} {s : State} {t : Tid} {a base c ev res}
    (h : RetAt cfg s t a base c ev res) (hs : StkOK (s.thr t)) : res ≠ .panic := by
  cases h with
  | done e => exact hs.res _ (e ▸ List.mem_cons_self)
  | loop _ hp => exact hp
  | fn _ hp => exact hp
  | exFn _ hp => exact hp
  | woke _ _ hp => exact hp
  | _ => nofun

theorem LInv.step {cfg : Cfg} {s s' : State} {t : Tid} {a : Act} (hx : XInv s)
    (hg : SinkGuard s (t, a)) (hl : LInv s) (h : step cfg s t a = some s') : LInv s' := by
  have hT := hl.stk t
  have hpanic : a ≠ .fnRet .panic := by rintro rfl; exact hg
  have hk := step_kind h
  have hres : ∀ t', ∀ f ∈ s'.thr t', resOK f :=
    hk.forall_frames (fun t' => (hl.stk t').res) (hpush := fun _ _ _ hp => by cases hp <;> trivial)
      (hreg := fun _ _ _ _ => trivial) (hrun := fun _ _ _ _ => trivial)
      (hpub := fun _ _ _ _ _ _ hr _ => hr.res_ne_panic hT) (hclose := fun _ _ _ h => h)
      (hdone := fun _ _ _ h => h) (hdead := fun _ => trivial)
  suffices (∀ t' k p rest, s'.thr t' ≠ .exRun k p :: rest) ∧ (∀ t', exclCount (s'.thr t') ≤ 1) ∧
      ∀ p, (s'.pend p).out ≠ some .panic from
    ⟨fun t' => ⟨noDead_step hpanic (fun t' => (hl.stk t').nodead) h t', this.1 t', hres t'⟩, this.2.1,
      hl.live.step hx h, this.2.2⟩
  have top : ∀ {stk}, (∀ k p rest, stk ≠ .exRun k p :: rest) →
      ∀ t' k p rest, upd s.thr t stk t' ≠ .exRun k p :: rest :=
    fun hstk => forall_upd (P := fun stk : List Frame => ∀ k p rest, stk ≠ .exRun k p :: rest) hstk
      fun t' => (hl.stk t').top
  have one : ∀ {stk}, exclCount stk ≤ 1 → ∀ t', exclCount (upd s.thr t stk t') ≤ 1 :=
    fun hstk => forall_upd (P := fun stk => exclCount stk ≤ 1) hstk hl.one
  cases hk with
  | push hp =>
    refine ⟨top (by cases hp <;> nofun), one ?_, hl.out⟩
    have hle := Nat.le_trans hp.keeps.exclCount_le (hl.one t)
    cases hp with
    | wait => rw [exclCount_cons, (hg : exclCount (s.thr t) = 0)]; exact Nat.le_refl _
    | _ => exact hle
  | ret hr =>
    exact ⟨top (deliverStack_top _ _), one (by
      rw [exclCount_deliverStack]; exact Nat.le_trans hr.keeps.exclCount_le (hl.one t)), hl.out⟩
  | crash => exact absurd rfl hpanic
  | register =>
    refine ⟨top nofun, one ?_, fun q => ?_⟩
    · rw [exclCount_cons, (hg : exclCount (s.thr t) = 0)]; exact Nat.le_refl _
    · simp only [upd_apply]
      split
      · nofun
      · exact hl.out q
  | @publish k p res rest e =>
    refine ⟨top nofun, one (by have := hl.one t; rw [e] at this; exact this), fun q => ?_⟩
    simp only [upd_apply]
    split
    · exact fun hh => hT.res (.exPub k p res) (e ▸ List.mem_cons_self) (Option.some.inj hh)
    · exact hl.out q
  | @close k p res rest e =>
    refine ⟨top nofun, one (by have := hl.one t; rw [e] at this; exact this), fun q => ?_⟩
    have := closed_out s.pend p
    exact fun hh => hl.out q ((this q).symm.trans hh)

theorem LInv.init : LInv State.init := by
  refine ⟨fun t => ⟨fun f hf => ?_, fun k p rest e => ?_, fun f hf => ?_⟩, fun t => ?_, fun p hp => ?_, fun p => ?_⟩
  · simp only [init_thr] at hf; cases hf
  · simp only [init_thr] at e; cases e
  · simp only [init_thr] at hf; cases hf
  · simp only [init_thr]; exact Nat.zero_le 1
  · simp only [init_npend] at hp; cases hp
  · simp only [init_pend]; nofun

end PdfVerif.CONC
