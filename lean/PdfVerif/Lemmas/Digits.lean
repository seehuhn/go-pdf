/-! Positional notation: digit `v` of a number in base `m` (digit 0 is the lowest), the `n` low digits most significant
first, and the value of a digit list; the base-2 case over `Bool`. -/
namespace PdfVerif.Digits

def dig (m X v : Nat) : Nat := X / m ^ v % m

theorem dig_zero (m v : Nat) : dig m 0 v = 0 := by simp [dig]

theorem dig_add_lt {m : Nat} (hm : 0 < m) (X Y : Nat) {n v : Nat} (h : v < n) : dig m (X + m ^ n * Y) v = dig m X v := by
  obtain ⟨d, rfl⟩ : ∃ d, n = v + (d + 1) := ⟨n - v - 1, by omega⟩
  unfold dig
  rw [Nat.pow_add, Nat.mul_assoc, Nat.add_mul_div_left _ _ (Nat.pow_pos hm), Nat.pow_succ, Nat.mul_comm _ m,
    Nat.mul_assoc, Nat.add_mul_mod_self_left]

theorem dig_add_ge {m : Nat} (hm : 0 < m) {X n : Nat} (hX : X < m ^ n) (Y : Nat) {v : Nat} (h : n ≤ v) :
    dig m (X + m ^ n * Y) v = dig m Y (v - n) := by
  obtain ⟨d, rfl⟩ : ∃ d, v = n + d := ⟨v - n, by omega⟩
  unfold dig
  rw [Nat.add_sub_cancel_left, Nat.pow_add, ← Nat.div_div_eq_div_mul, Nat.add_mul_div_left _ _ (Nat.pow_pos hm),
    Nat.div_eq_of_lt hX, Nat.zero_add]

theorem dig_shift_lt {m : Nat} (hm : 0 < m) (X : Nat) {g v : Nat} (h : v < g) : dig m (m ^ g * X) v = 0 := by
  rw [← Nat.zero_add (m ^ g * X), dig_add_lt hm 0 X h, dig_zero]

theorem dig_shift_ge {m : Nat} (hm : 0 < m) (X : Nat) {g v : Nat} (h : g ≤ v) : dig m (m ^ g * X) v = dig m X (v - g) := by
  rw [← Nat.zero_add (m ^ g * X), dig_add_ge hm (Nat.pow_pos hm) X h]

/-- the number whose `2 ^ k` digits are all `e` (by doubling, so that the kernel builds it in `k` steps) -/
def rep (m e : Nat) : Nat → Nat
  | 0 => e
  | k + 1 => rep m e k + m ^ 2 ^ k * rep m e k

theorem rep_spec {m e : Nat} (he : e < m) : ∀ k, rep m e k < m ^ 2 ^ k ∧ ∀ v, v < 2 ^ k → dig m (rep m e k) v = e
  | 0 => ⟨by simpa [rep] using he, fun v hv => by
      obtain rfl : v = 0 := by simpa using hv
      simp [rep, dig, Nat.mod_eq_of_lt he]⟩
  | k + 1 => by
    obtain ⟨h1, h2⟩ := rep_spec he k
    have hm : 0 < m := by omega
    refine ⟨?_, fun v hv => ?_⟩
    · rw [rep, Nat.pow_succ 2 k, Nat.mul_two, Nat.pow_add]
      calc rep m e k + m ^ 2 ^ k * rep m e k < m ^ 2 ^ k + m ^ 2 ^ k * rep m e k := by omega
        _ = m ^ 2 ^ k * (rep m e k + 1) := by rw [Nat.mul_add, Nat.mul_one, Nat.add_comm]
        _ ≤ m ^ 2 ^ k * m ^ 2 ^ k := Nat.mul_le_mul_left _ h1
    · rw [rep]
      by_cases hv' : v < 2 ^ k
      · rw [dig_add_lt hm _ _ hv', h2 v hv']
      · rw [dig_add_ge hm h1 _ (by omega), h2 _ (by rw [Nat.pow_succ] at hv; omega)]

/-- value of the digit list `ds` in base `m` (most significant first), continuing from `acc` -/
def val (m : Nat) : List Nat → Nat → Nat
  | [], acc => acc
  | d :: ds, acc => val m ds (acc * m + d)

/-- the `n` low digits of `x` in base `m`, most significant first -/
def be (m x : Nat) : Nat → List Nat
  | 0 => []
  | n + 1 => dig m x n :: be m x n

theorem val_foldl (m : Nat) (ds : List Nat) (acc : Nat) : ds.foldl (fun a d => a * m + d) acc = val m ds acc := by
  induction ds generalizing acc with
  | nil => rfl
  | cons d ds ih => exact ih _

theorem val_append (m : Nat) (a b : List Nat) (acc : Nat) : val m (a ++ b) acc = val m b (val m a acc) := by
  induction a generalizing acc with
  | nil => rfl
  | cons d ds ih => exact ih _

theorem val_acc (m : Nat) (ds : List Nat) (acc : Nat) : val m ds acc = acc * m ^ ds.length + val m ds 0 := by
  induction ds generalizing acc with
  | nil => simp [val]
  | cons d ds ih =>
    rw [val, ih, val, ih (0 * m + d), List.length_cons, Nat.pow_succ', Nat.zero_mul, Nat.zero_add, Nat.add_mul,
      Nat.mul_assoc, Nat.add_assoc]

theorem val_lt {m : Nat} : ∀ ds : List Nat, (∀ d ∈ ds, d < m) → val m ds 0 < m ^ ds.length
  | [], _ => Nat.one_pos
  | d :: ds, h => by
    have hd : d < m := h d List.mem_cons_self
    have := val_lt ds fun c hc => h c (List.mem_cons_of_mem _ hc)
    rw [val, val_acc, Nat.zero_mul, Nat.zero_add, List.length_cons, Nat.pow_succ']
    calc d * m ^ ds.length + val m ds 0 < d * m ^ ds.length + m ^ ds.length := by omega
      _ = (d + 1) * m ^ ds.length := by rw [Nat.add_mul, Nat.one_mul]
      _ ≤ m * m ^ ds.length := Nat.mul_le_mul_right _ hd

theorem val_mod (m M : Nat) (ds : List Nat) (a : Nat) : val m ds (a % M) % M = val m ds a % M := by
  rw [val_acc, val_acc m ds a, Nat.add_mod, Nat.mul_mod, Nat.mod_mod, ← Nat.mul_mod, ← Nat.add_mod]

theorem be_length (m x : Nat) : ∀ n, (be m x n).length = n
  | 0 => rfl
  | n + 1 => by rw [be, List.length_cons, be_length m x n]

theorem be_lt {m : Nat} (hm : 0 < m) (x : Nat) : ∀ n, ∀ d ∈ be m x n, d < m
  | 0, _, h => nomatch h
  | n + 1, d, h => by
    rcases List.mem_cons.1 h with rfl | h
    · exact Nat.mod_lt _ hm
    · exact be_lt hm x n d h

theorem val_be (m x : Nat) : ∀ n acc, val m (be m x n) acc = acc * m ^ n + x % m ^ n
  | 0, acc => by simp [be, val, Nat.mod_one]
  | n + 1, acc => by
    rw [be, val, val_be m x n, dig, Nat.mod_pow_succ, Nat.pow_succ', Nat.add_mul, Nat.mul_assoc, Nat.add_assoc,
      Nat.mul_comm (m ^ n) (x / m ^ n % m), Nat.add_comm (x % m ^ n)]

theorem be_add_mul (m a c : Nat) : ∀ n, be m (a * m ^ n + c) n = be m c n
  | 0 => rfl
  | n + 1 => by
    have e : a * m ^ (n + 1) + c = a * m * m ^ n + c := by rw [Nat.pow_succ', Nat.mul_assoc]
    rw [be, be, e, be_add_mul m (a * m) c n]
    rcases Nat.eq_zero_or_pos m with rfl | hm
    · simp [dig]
    · rw [dig, dig, Nat.add_comm, Nat.add_mul_div_right _ _ (Nat.pow_pos hm), Nat.add_mul_mod_self_right]

theorem be_val {m : Nat} : ∀ ds : List Nat, (∀ d ∈ ds, d < m) → be m (val m ds 0) ds.length = ds
  | [], _ => rfl
  | d :: ds, h => by
    have hd : d < m := h d List.mem_cons_self
    have hds := fun c hc => h c (List.mem_cons_of_mem _ hc)
    rw [val, val_acc, Nat.zero_mul, Nat.zero_add, List.length_cons, be, be_add_mul, be_val ds hds, dig, Nat.add_comm,
      Nat.add_mul_div_right _ _ (Nat.pow_pos (by omega)), Nat.div_eq_of_lt (val_lt ds hds), Nat.zero_add,
      Nat.mod_eq_of_lt hd]

theorem be_inj {m a b n : Nat} (h : be m a n = be m b n) : a % m ^ n = b % m ^ n := by
  have := congrArg (val m · 0) h
  simpa [val_be] using this

theorem be_add (m x k : Nat) : ∀ a, be m x (a + k) = be m (x / m ^ k) a ++ be m x k
  | 0 => by simp [be]
  | a + 1 => by
    rw [show a + 1 + k = (a + k) + 1 by omega, be, be_add m x k a, be, dig, dig, Nat.div_div_eq_div_mul, ← Nat.pow_add,
      Nat.add_comm k a, List.cons_append]

theorem be_succ_low (m x n : Nat) : be m x (n + 1) = be m (x / m) n ++ [x % m] := by
  have := be_add m x 1 n
  simpa [be, dig] using this

def bitVals (bs : List Bool) : List Nat := bs.map fun b => if b then 1 else 0
def bits (x n : Nat) : List Bool := (be 2 x n).map (· == 1)
def bitsVal (bs : List Bool) : Nat := val 2 (bitVals bs) 0

theorem bitVals_lt (bs : List Bool) : ∀ d ∈ bitVals bs, d < 2 := by
  intro d hd
  obtain ⟨b, _, rfl⟩ := List.mem_map.1 hd
  cases b <;> decide
theorem bitVals_bits (x n : Nat) : bitVals (bits x n) = be 2 x n := by
  rw [bitVals, bits, List.map_map]
  conv => rhs; rw [← List.map_id (be 2 x n)]
  refine List.map_congr_left fun d hd => ?_
  have := be_lt (by decide : 0 < 2) x n d hd
  rcases (by omega : d = 0 ∨ d = 1) with rfl | rfl <;> rfl
theorem map_bitVals (bs : List Bool) : (bitVals bs).map (· == 1) = bs := by
  rw [bitVals, List.map_map]
  conv => rhs; rw [← List.map_id bs]
  exact List.map_congr_left fun b _ => by cases b <;> rfl
theorem bitsVal_foldl (bs : List Bool) : bs.foldl (fun a b => 2 * a + (if b then 1 else 0)) 0 = bitsVal bs := by
  rw [bitsVal, ← val_foldl, bitVals, List.foldl_map]
  congr 1; funext a b; rw [Nat.mul_comm]
theorem bits_length (x n : Nat) : (bits x n).length = n := by rw [bits, List.length_map, be_length]
theorem bitsVal_append (a b : List Bool) : bitsVal (a ++ b) = bitsVal a * 2 ^ b.length + bitsVal b := by
  simp only [bitsVal, bitVals, List.map_append, val_append]; rw [val_acc, List.length_map]
theorem bitsVal_lt (bs : List Bool) : bitsVal bs < 2 ^ bs.length := by
  have := val_lt _ (bitVals_lt bs); rwa [bitVals, List.length_map] at this
theorem bitsVal_bits (x n : Nat) : bitsVal (bits x n) = x % 2 ^ n := by
  rw [bitsVal, bitVals_bits, val_be, Nat.zero_mul, Nat.zero_add]
theorem bits_bitsVal (bs : List Bool) : bits (bitsVal bs) bs.length = bs := by
  have := be_val _ (bitVals_lt bs)
  rw [bitVals, List.length_map] at this
  rw [bits, bitsVal, bitVals, this]; exact map_bitVals bs
theorem bits_add_mul (n a c : Nat) : bits (a * 2 ^ n + c) n = bits c n := by rw [bits, be_add_mul, bits]
theorem bits_add (x k a : Nat) : bits x (a + k) = bits (x / 2 ^ k) a ++ bits x k := by
  rw [bits, be_add, List.map_append]; rfl
end PdfVerif.Digits
