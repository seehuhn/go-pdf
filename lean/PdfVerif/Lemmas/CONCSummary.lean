import PdfVerif.Lemmas.CONCBasic
/-!
What one transition does (`Step`), proved once from `step` (`step_kind`) and used by every invariant of
C18: a frame is pushed on frames the thread keeps, a call returns to frames it keeps (`StoreOrLoadPair`
does so at once), or one of the four transitions which touch the bookkeeping of `DecodeExclusive`.
Conditions no invariant needs (the cycle and depth tests, which frame a panicking function ran in) are left
out, so `Step` is a superset of the transition relation.
-/
namespace PdfVerif.CONC

/-- the answer of `Get` after which `Decode`'s loop continues at `o`: lets `LoopAt.next` cover both -/
def getOf : Obj → GetRes
  | .ref r => .ref r
  | .direct => .direct

/-- `LoopAt cfg stk a base tp refs path o`: on stack `stk`, action `a` runs `decLoop` on the frames `base`
for type `tp`, having followed the references `refs`, with cursor path `path`, at object `o` — at the start
of a call, when `Get` has returned, or as the `Decode` call of an owner leaving `ex:owner`. -/
inductive LoopAt (cfg : Cfg) (stk : List Frame) :
    Act → List Frame → Ty → List Ref → List Ref → Obj → Prop
  | call {o tp path} : canCall stk = true → LoopAt cfg stk (.callDecode o tp path) stk tp [] path o
  | next {tp refs path r base o} : stk = .decGet tp refs path r :: base → cfg.get r = getOf o →
      LoopAt cfg stk .go base tp refs path o
  | enter {k p path rest} : stk = .exStart k p path :: rest →
      LoopAt cfg stk .go (.exRun k p :: rest) k.2 [] path (.ref k.1)

/-- frame `f` is pushed on `base`, recording `evs` -/
inductive PushAt (cfg : Cfg) (s : State) (t : Tid) : Act → List Frame → Frame → List Event → Prop
  | fn {a base tp refs path} : LoopAt cfg (s.thr t) a base tp refs path .direct →
      PushAt cfg s t a base (.decFn tp refs path) [.run t tp refs path (ownerOf base)]
  | get {a base tp refs path r} : LoopAt cfg (s.thr t) a base tp refs path (.ref r) →
      PushAt cfg s t a base (.decGet tp (refs ++ [r]) (r :: path) r) []
  | exFn {tp path} : canCall (s.thr t) = true →
      PushAt cfg s t (.callExcl .direct tp path) (s.thr t) (.exFn tp path) [.run t tp [] path none]
  | wait {r tp path p} : canCall (s.thr t) = true → s.wip (r, tp) = some p →
      PushAt cfg s t (.callExcl (.ref r) tp path) (s.thr t) (.exWait (r, tp) p) []

/-- a call returns `res` to the frames `base`, leaving the cache as `c` and recording `ev`.  No call returns
`.panic` (a panicking function is `Step.crash`): hence `res ≠ .panic` in the constructors. -/
inductive RetAt (cfg : Cfg) (s : State) (t : Tid) :
    Act → List Frame → (Key → Option Val) → Event → Res → Prop
  /-- `Decode`'s loop ends: a cached reference, a cycle, the depth limit -/
  | loop {a base tp refs path r res} : LoopAt cfg (s.thr t) a base tp refs path (.ref r) →
      res ≠ .panic → (∀ v, res = .ok v → s.cache (r, tp) = some v) →
      RetAt cfg s t a base s.cache (.dec t (firstObj refs (.ref r)) tp res) res
  | hit {r tp path v} : canCall (s.thr t) = true → s.cache (r, tp) = some v →
      RetAt cfg s t (.callExcl (.ref r) tp path) (s.thr t) s.cache
        (.exc t (.ref r) tp (.ok v) none) (.ok v)
  /-- the decode function fails, or succeeds on a direct object -/
  | fn {tp refs path base res} : s.thr t = .decFn tp refs path :: base →
      res ≠ .panic → (∀ v, res = .ok v → refs = []) →
      RetAt cfg s t (.fnRet res) base s.cache (.dec t (firstObj refs .direct) tp res) res
  /-- the decode function succeeds after a chain of references: `cacheStoreOrLoad` -/
  | store {tp r0 rs path base v} : s.thr t = .decFn tp (r0 :: rs) path :: base →
      RetAt cfg s t (.fnRet (.ok v)) base (storeOrLoad cfg.fixed s.cache tp (r0 :: rs) v).1
        (.dec t (.ref r0) tp (.ok (storeOrLoad cfg.fixed s.cache tp (r0 :: rs) v).2))
        (.ok (storeOrLoad cfg.fixed s.cache tp (r0 :: rs) v).2)
  | exFn {tp path base res} : s.thr t = .exFn tp path :: base → res ≠ .panic →
      RetAt cfg s t (.fnRet res) base s.cache (.exc t .direct tp res none) res
  /-- `Get` fails: `.goFail`, or `.go` where the file answers with an error (`a` is left free) -/
  | getErr {a tp refs path r base} : s.thr t = .decGet tp refs path r :: base →
      RetAt cfg s t a base s.cache (.dec t (firstObj refs .direct) tp (.err .get)) (.err .get)
  | done {k p res base} : s.thr t = .exDone k p res :: base →
      RetAt cfg s t .go base s.cache (.exc t (.ref k.1) k.2 res (some p)) res
  /-- a waiter wakes up: it reads the outcome, or the zero value if none was written -/
  | woke {k p res base} : s.thr t = .exWait k p :: base → (s.pend p).done = true → res ≠ .panic →
      ((s.pend p).out = some res ∨ (s.pend p).out = none ∧ res = .ok nilVal) →
      RetAt cfg s t .go base s.cache (.exc t (.ref k.1) k.2 res (some p)) res
  /-- `StoreOrLoadPair` returns at once, having filled its two keys (`pairCall_eq`) -/
  | pair {r A B a b x y} : canCall (s.thr t) = true →
      fill (fill s.cache (r, A) a) (r, B) b (r, A) = some x →
      fill (fill s.cache (r, A) a) (r, B) b (r, B) = some y →
      RetAt cfg s t (.callPair r A B a b) (s.thr t) (fill (fill s.cache (r, A) a) (r, B) b)
        (.pair t r A B a b (some (x, y))) (.ok x)

/-- the six shapes of a transition of thread `t`.  `push` and `ret` leave `wip`, `pend` and
`npend` alone (`Quiet`).  `register` is the first critical section of `DecodeExclusive` on a miss (a
fresh pending, its marker, the owner frame), `publish` the second (outcome written, marker removed),
`close` is `close(p.done)`, `crash` a panicking decode function with the deferred release
(`releaseOwned`); it has no premise on the stack, which is why the invariants treat owners at every
phase on an unwound stack. -/
inductive Step (cfg : Cfg) (s : State) (t : Tid) : Act → State → Prop
  | push {a base f evs} : PushAt cfg s t a base f evs →
      Step cfg s t a { s with thr := upd s.thr t (f :: base), hist := evs ++ s.hist }
  | ret {a base c ev res} : RetAt cfg s t a base c ev res →
      Step cfg s t a (deliver { s with cache := c, hist := ev :: s.hist } t base res)
  | register {r tp path} : canCall (s.thr t) = true → s.wip (r, tp) = none →
      Step cfg s t (.callExcl (.ref r) tp path)
        { s with pend := upd s.pend s.npend ⟨false, none, (r, tp)⟩, npend := s.npend + 1,
                 wip := upd s.wip (r, tp) (some s.npend),
                 thr := upd s.thr t (.exStart (r, tp) s.npend path :: s.thr t) }
  | publish {k p res rest} : s.thr t = .exPub k p res :: rest →
      Step cfg s t .go
        { s with pend := upd s.pend p ⟨(s.pend p).done, some res, (s.pend p).key⟩,
                 wip := upd s.wip k none,
                 thr := upd s.thr t (.exClose k p res :: rest) }
  | close {k p res rest} : s.thr t = .exClose k p res :: rest →
      Step cfg s t .go
        { s with pend := upd s.pend p ⟨true, (s.pend p).out, (s.pend p).key⟩,
                 thr := upd s.thr t (.exDone k p res :: rest) }
  | crash : Step cfg s t (.fnRet .panic) (CONC.crash s t (.fnPanic t))

/-- every branch of `decLoop` overwrites `thr t` -/
theorem decLoop_setThr (s : State) (t : Tid) (x base : List Frame) (tp refs path o) :
    decLoop { s with thr := upd s.thr t x } t base tp refs path o = decLoop s t base tp refs path o := by
  cases o <;> simp only [decLoop, retDec, deliver, upd_upd] <;> repeat' split
  all_goals rfl

theorem Step.ofLoop {cfg : Cfg} {s : State} {t : Tid} {a base tp refs path o}
    (h : LoopAt cfg (s.thr t) a base tp refs path o) :
    Step cfg s t a (decLoop s t base tp refs path o) := by
  fun_cases decLoop s t base tp refs path o
  · exact .push (.fn h)                                               -- a direct object
  · exact .ret (.loop h nofun (fun _ e => by cases e; assumption))    -- cache hit
  · exact .ret (.loop h nofun nofun)                                  -- cycle
  · exact .ret (.loop h nofun nofun)                                  -- depth limit
  · exact .push (.get h)                                              -- miss: `Get`

theorem step_kind {cfg : Cfg} {s s' : State} {t : Tid} {a : Act} (h : step cfg s t a = some s') :
    Step cfg s t a s' := by
  revert h
  -- the disabled exits are closed by `rintro`
  fun_cases step cfg s t a <;> rintro ⟨⟩
  · exact .ofLoop (.call ‹_›)                           -- `Decode`
  · next o tp path hc =>           -- `DecodeExclusive`: its first critical section
    fun_cases exclCall cfg s t (s.thr t) o tp path
    · exact .push (.exFn hc)                            -- a direct object
    · exact .ret (.hit hc ‹_›)
    · exact .push (.wait hc ‹_›)                        -- the key is in progress
    · exact .register hc ‹_›                            -- miss
  · next r A B a b hc =>           -- `StoreOrLoadPair`
    obtain ⟨x, y, hx, hy, e⟩ := pairCall_eq cfg s t r A B a b hc
    exact e ▸ .ret (.pair hc hx hy)
  · next res tp refs path rest e =>    -- the function of a `Decode` returns
    fun_cases fnReturn cfg s t rest tp refs res
    · exact .crash
    · exact .ret (.fn e nofun nofun)                    -- error
    · exact .ret (.fn e nofun (fun _ _ => rfl))         -- value for a direct object
    · exact .ret (.store e)                             -- value after a chain
  · exact .crash                                        -- the function of a `DecodeExclusive` on a direct object: panic,
  · next hp => exact .ret (.exFn ‹_› (fun x => hp x))   -- value or error
  · exact .ret (.getErr ‹_›)                            -- `.goFail`
  · exact .ret (.getErr ‹_›)                            -- `.go`, from here on by the top frame
  · exact .ofLoop (.next (o := .ref _) ‹_› ‹_›)
  · exact .ofLoop (.next (o := .direct) ‹_› ‹_›)
  · rw [decLoop_setThr]; exact .ofLoop (.enter ‹_›)
  · exact .publish ‹_›
  · exact .close ‹_›
  · exact .ret (.done ‹_›)
  · exact .ret (.woke ‹_› ‹_› nofun (.inl ‹_›))         -- a waiter reads a value,
  · exact .ret (.woke ‹_› ‹_› nofun (.inl ‹_›))         -- an error,
  · exact .ret (.woke ‹_› ‹_› nofun (.inr ⟨‹_›, rfl⟩))  -- nothing

/-- `cacheStoreOrLoad` and `StoreOrLoadPair` are the only writers, and both fill empty entries only -/
theorem step_le (cfg : Cfg) (hf : cfg.fixed = true) (s s' : State) (t : Tid) (a : Act)
    (h : step cfg s t a = some s') : CacheLe s.cache s'.cache := by
  cases step_kind h with
  | ret hr =>
    cases hr with
    | store => exact hf ▸ storeOrLoad_fixed_le _ _ _ _
    | pair => exact (fill_le _ _ _).trans (fill_le _ _ _)
    | _ => exact CacheLe.refl _
  | crash => rw [crash_cache]; exact CacheLe.refl _
  | _ => exact CacheLe.refl _

theorem step_hist_grows {cfg : Cfg} {s s' : State} {t : Tid} {a : Act}
    (h : step cfg s t a = some s') : ∃ evs, s'.hist = evs ++ s.hist := by
  cases step_kind h with
  | push => exact ⟨_, rfl⟩
  | ret => exact ⟨[_], rfl⟩
  | crash => exact ⟨[_], crash_hist ..⟩
  | _ => exact ⟨[], rfl⟩

/-- what a thread keeps of its stack `stk` when it moves on: all of it (a call starts), all but
the top frame, or that with the owner moved from `ex:owner` into its `Decode`.  `pop` asks for `owns f = none`:
the owner frames which are popped (`exStart`, `exPub`, `exClose`) go by `enter`, `publish`, `close`. -/
inductive Keeps (stk : List Frame) : List Frame → Prop
  | all : Keeps stk stk
  | pop {f base} : stk = f :: base → owns f = none → Keeps stk base
  | enter {k p path rest} : stk = .exStart k p path :: rest → Keeps stk (.exRun k p :: rest)

theorem LoopAt.keeps {cfg : Cfg} {stk base : List Frame} {a tp refs path o}
    (h : LoopAt cfg stk a base tp refs path o) : Keeps stk base := by
  cases h with
  | call => exact .all
  | next e _ => exact .pop e rfl
  | enter e => exact .enter e

theorem PushAt.keeps {cfg : Cfg} {s : State} {t : Tid} {a base f evs}
    (h : PushAt cfg s t a base f evs) : Keeps (s.thr t) base := by
  cases h with
  | fn hl => exact hl.keeps
  | get hl => exact hl.keeps
  | exFn => exact .all
  | wait => exact .all

theorem RetAt.keeps {cfg : Cfg} {s : State} {t : Tid} {a base c ev res}
    (h : RetAt cfg s t a base c ev res) : Keeps (s.thr t) base := by
  cases h with
  | loop hl _ _ => exact hl.keeps
  | hit => exact .all
  | fn e _ _ => exact .pop e rfl
  | store e => exact .pop e rfl
  | exFn e _ => exact .pop e rfl
  | getErr e => exact .pop e rfl
  | done e => exact .pop e rfl
  | woke e _ _ _ => exact .pop e rfl
  | pair => exact .all

theorem PushAt.owns {cfg : Cfg} {s : State} {t : Tid} {a base f evs}
    (h : PushAt cfg s t a base f evs) : owns f = none := by
  cases h <;> rfl

theorem PushAt.evs {cfg : Cfg} {s : State} {t : Tid} {a base f evs}
    (h : PushAt cfg s t a base f evs) :
    ∀ e ∈ evs, ∃ tp refs path, e = .run t tp refs path (ownerOf base) := by
  cases h with
  | fn _ => exact fun e he => ⟨_, _, _, List.mem_singleton.mp he⟩
  | exFn hc => exact fun e he => ⟨_, _, _, ownerOf_of_canCall hc ▸ List.mem_singleton.mp he⟩
  | _ => exact fun _ h => nomatch h

theorem Keeps.owned {stk base : List Frame} (h : Keeps stk base) : owned base = owned stk := by
  cases h with
  | all => rfl
  | pop e ho => rw [e, owned_cons_none _ ho]
  | enter e => rw [e, owned_cons_some _ rfl, owned_cons_some _ rfl]

theorem Keeps.forall {Q : Frame → Prop} {stk base : List Frame} (h : Keeps stk base)
    (hq : ∀ f ∈ stk, Q f) (hrun : ∀ k p path, Q (.exStart k p path) → Q (.exRun k p)) :
    ∀ f ∈ base, Q f := by
  cases h with
  | all => exact hq
  | pop e => subst e; exact fun f hf => hq f (List.mem_cons_of_mem _ hf)
  | enter e =>
    subst e
    exact fun f hf => (List.mem_cons.mp hf).elim (fun e => e ▸ hrun _ _ _ (hq _ List.mem_cons_self))
      (fun hf => hq f (List.mem_cons_of_mem _ hf))

theorem forall_deliverStack {Q : Frame → Prop} {base : List Frame} {res : Res}
    (hq : ∀ f ∈ base, Q f) (hpub : ∀ k p, Q (.exRun k p) → Q (.exPub k p res)) :
    ∀ f ∈ deliverStack base res, Q f := by
  rcases deliverStack_cases base res with ⟨k, p, rest', rfl, e⟩ | ⟨_, e⟩ <;> rw [e]
  · exact fun f hf => (List.mem_cons.mp hf).elim (fun e => e ▸ hpub _ _ (hq _ List.mem_cons_self))
      (fun hf => hq f (List.mem_cons_of_mem _ hf))
  · exact hq

/-- a property of single frames holds of every frame after a transition when the frames a transition
creates have it: the frame pushed, the registered owner, the remains of a panic, and an owner frame
moving on to its next hook -/
theorem Step.forall_frames {cfg : Cfg} {s s' : State} {t : Tid} {a : Act} {Q : Frame → Prop}
    (h : Step cfg s t a s') (hs : ∀ t', ∀ f ∈ s.thr t', Q f)
    (hpush : ∀ base f evs, PushAt cfg s t a base f evs → Q f)
    (hreg : ∀ r tp path, a = .callExcl (.ref r) tp path → Q (.exStart (r, tp) s.npend path))
    (hrun : ∀ k p path, Q (.exStart k p path) → Q (.exRun k p))
    (hpub : ∀ k p base c ev res, RetAt cfg s t a base c ev res → Q (.exRun k p) → Q (.exPub k p res))
    (hclose : ∀ k p res, Q (.exPub k p res) → Q (.exClose k p res))
    (hdone : ∀ k p res, Q (.exClose k p res) → Q (.exDone k p res))
    (hdead : a = .fnRet .panic → Q .dead) : ∀ t', ∀ f ∈ s'.thr t', Q f := by
  have put : ∀ stk, (∀ f ∈ stk, Q f) → ∀ t', ∀ f ∈ upd s.thr t stk t', Q f :=
    fun stk hstk => forall_upd (P := fun stk => ∀ f ∈ stk, Q f) hstk hs
  have swap : ∀ {f g rest}, s.thr t = f :: rest → (Q f → Q g) → ∀ t', ∀ f ∈ upd s.thr t (g :: rest) t', Q f :=
    fun e hfg => put _ (List.forall_mem_cons.mpr
      ⟨hfg (hs t _ (e ▸ List.mem_cons_self)), fun g hg => hs t g (e ▸ List.mem_cons_of_mem _ hg)⟩)
  cases h with
  | push hp => exact put _ (List.forall_mem_cons.mpr ⟨hpush _ _ _ hp, hp.keeps.forall (hs t) hrun⟩)
  | ret hr =>
    exact put _ (forall_deliverStack (hr.keeps.forall (hs t) hrun) (fun k p => hpub k p _ _ _ _ hr))
  | register => exact put _ (List.forall_mem_cons.mpr ⟨hreg _ _ _ rfl, hs t⟩)
  | publish e => exact swap e (hclose _ _ _)
  | close e => exact swap e (hdone _ _ _)
  | crash => rw [crash_thr]; exact put _ (List.forall_mem_cons.mpr ⟨hdead rfl, fun _ h => nomatch h⟩)

/-- a transition which leaves the bookkeeping alone.  `closing` (no frame comes to stand at `ex:pre-close`)
is there for `MInv.closing`. -/
structure Quiet (s s' : State) (t : Tid) : Prop where
  wip : s'.wip = s.wip
  pend : s'.pend = s.pend
  npend : s'.npend = s.npend
  owned : owned (s'.thr t) = owned (s.thr t)
  others : ∀ t', t' ≠ t → s'.thr t' = s.thr t'
  closing : ∀ k p r, Frame.exClose k p r ∈ s'.thr t → Frame.exClose k p r ∈ s.thr t

theorem quiet_of_thr {s s' : State} {t : Tid} {stk : List Frame} (hthr : s'.thr = upd s.thr t stk)
    (hw : s'.wip = s.wip) (hp : s'.pend = s.pend) (hn : s'.npend = s.npend)
    (ho : owned stk = owned (s.thr t))
    (hc : ∀ f ∈ stk, ∀ k p r, f = .exClose k p r → f ∈ s.thr t) : Quiet s s' t := by
  refine ⟨hw, hp, hn, ?_, ?_, ?_⟩
  · rw [hthr]; simp [ho]
  · intro t' h; rw [hthr, upd_other _ _ _ _ h]
  · intro k p r h; rw [hthr] at h; simp at h; exact hc _ h k p r rfl

theorem Keeps.closing {stk base : List Frame} (h : Keeps stk base) :
    ∀ f ∈ base, ∀ k p r, f = .exClose k p r → f ∈ stk :=
  h.forall (fun _ hf _ _ _ _ => hf) (fun _ _ _ _ _ _ _ e => nomatch e)

theorem PushAt.quiet {cfg : Cfg} {s : State} {t : Tid} {a base f evs}
    (h : PushAt cfg s t a base f evs) :
    Quiet s { s with thr := upd s.thr t (f :: base), hist := evs ++ s.hist } t := by
  refine quiet_of_thr rfl rfl rfl rfl (by rw [owned_cons_none _ h.owns, h.keeps.owned]) ?_
  intro g hg k p r e
  rcases List.mem_cons.mp hg with rfl | hg
  · cases h <;> cases e
  · exact h.keeps.closing g hg k p r e

theorem RetAt.quiet {cfg : Cfg} {s : State} {t : Tid} {a base c ev res}
    (h : RetAt cfg s t a base c ev res) :
    Quiet s (deliver { s with cache := c, hist := ev :: s.hist } t base res) t :=
  quiet_of_thr rfl rfl rfl rfl (by rw [owned_deliverStack, h.keeps.owned])
    (forall_deliverStack h.keeps.closing (fun _ _ _ _ _ _ e => nomatch e))

/-! No transition of the protocol itself can panic (its conversions are comma-ok, go-pdf commit e69b1c0): only
`.fnRet .panic`, a panicking decode function, creates `.dead`. -/

theorem noDead_step {cfg : Cfg} {s s' : State} {t : Tid} {a : Act}
    (hg : a ≠ .fnRet .panic) (hs : ∀ t', ∀ f ∈ s.thr t', f ≠ .dead)
    (h : step cfg s t a = some s') : ∀ t', ∀ f ∈ s'.thr t', f ≠ .dead :=
  (step_kind h).forall_frames (Q := (· ≠ .dead)) hs (hpush := fun _ _ _ hp => by cases hp <;> nofun)
    (hdead := fun e => absurd e hg) (hreg := fun _ _ _ _ => nofun) (hrun := fun _ _ _ _ => nofun)
    (hpub := fun _ _ _ _ _ _ _ _ => nofun) (hclose := fun _ _ _ _ => nofun) (hdone := fun _ _ _ _ => nofun)

end PdfVerif.CONC
