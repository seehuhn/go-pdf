import PdfVerif.Model.TRSNameTree
import PdfVerif.Lemmas.TRSDepth
/-!
The `tail` of the name tree writer (`Model/TRSNameTree.lean`): what `mergeNodes` does to a suffix
(`mergeFrom`), one round of `mergeTail` and of `collapse`, the invariant of the depths along `tail`.
`C17trsb.M`, `dsI`, `Inv1`, `TailInv` carry the namespace of `Props/C17trsb.lean`, whose theorems
are stated with them; they stand here because the writer's walk in `Props/C17trs.lean` needs them.
-/
namespace PdfVerif.C17trsb
open PdfVerif PdfVerif.TRSN PdfVerif.TRSDepth

section
variable {K V : Type}

/-- reducible on purpose: `WF`, `FanOK` and the model say `Gen.pdftree_maxChildren`, and proofs pass
    between the two spellings by `exact` -/
abbrev M : Nat := Gen.pdftree_maxChildren

def dsI (t : List (Info K V)) : List Nat := t.map (·.depth)

/-- loop invariant: depths weakly decrease; `maxChildren` equal depths in a row occur at most at
    the very end -/
def Inv1 (t : List (Info K V)) : Prop := Desc (dsI t) ∧ WinIn M (dsI t)

/-- invariant of `tail` between entries: depths weakly decrease, fewer than `maxChildren` nodes
    of each depth -/
def TailInv (t : List (Info K V)) : Prop := Desc (dsI t) ∧ WinAll M (dsI t)

theorem TailInv.inv1 {t : List (Info K V)} (h : TailInv t) : Inv1 t := ⟨h.1, h.2.winIn⟩

end

end PdfVerif.C17trsb

namespace PdfVerif.TRSTail
open PdfVerif PdfVerif.TRSN PdfVerif.TRSDepth PdfVerif.C17trsb

variable {K V : Type}

theorem M_ge_two : 2 ≤ M := by decide

theorem mergeNodes_eq (tail : List (Info K V)) {start stop : Nat} (h1 : start < stop)
    (h2 : stop ≤ tail.length) :
    ∃ c0 cl, tail[start]? = some c0 ∧
      ((tail.drop start).take (stop - start)).getLast? = some cl ∧
      mergeNodes tail start stop = .ok (tail.take start ++
        mkMerged ((tail.drop start).take (stop - start)) c0 cl :: tail.drop stop) := by
  have hs : start < tail.length := Nat.lt_of_lt_of_le h1 h2
  obtain ⟨rest, hsplit⟩ : ∃ rest, (tail.drop start).take (stop - start) = tail[start] :: rest := by
    rw [List.drop_eq_getElem_cons hs, ← Nat.sub_add_cancel (Nat.sub_pos_of_lt h1),
      List.take_succ_cons]
    exact ⟨_, rfl⟩
  rw [mergeNodes, if_neg (Nat.not_le.mpr h1), if_neg (Nat.not_lt.mpr h2)]
  dsimp only
  cases hgl : ((tail.drop start).take (stop - start)).getLast? with
  | none => rw [hsplit] at hgl; simp at hgl
  | some cl =>
    refine ⟨tail[start], cl, List.getElem?_eq_getElem hs, rfl, ?_⟩
    -- on `tail[start] :: rest` and `some cl` the model's `match` reduces, and `rw` closes by `rfl`
    rw [hsplit] at hgl ⊢

theorem mkMerged_depth (cs : List (Info K V)) (c0 cl : Info K V) :
    (mkMerged cs c0 cl).depth = c0.depth + 1 := rfl

theorem mkMerged_node (cs : List (Info K V)) (c0 cl : Info K V) :
    (mkMerged cs c0 cl).node = .inner (cs.map (·.node)) (some (c0.minKey, cl.maxKey)) := rfl

/-- what a round of either loop leaves: the nodes from position `s` on have become one -/
def mergeFrom (t : List (Info K V)) (s : Nat) (c0 cl : Info K V) : List (Info K V) :=
  t.take s ++ [mkMerged (t.drop s) c0 cl]

theorem length_mergeFrom {t : List (Info K V)} {s : Nat} (c0 cl : Info K V) (h : s ≤ t.length) :
    (mergeFrom t s c0 cl).length = s + 1 := by
  simp [mergeFrom, Nat.min_eq_left h]

theorem head?_mergeFrom {t : List (Info K V)} {s : Nat} {a : Info K V} (c0 cl : Info K V)
    (ha : t.head? = some a) (h : s ≠ 0) : (mergeFrom t s c0 cl).head? = some a := by
  rw [mergeFrom, List.head?_append, List.head?_take, if_neg h, ha]; rfl

theorem getLast?_mergeFrom (t : List (Info K V)) (s : Nat) (c0 cl : Info K V) :
    (mergeFrom t s c0 cl).getLast? = some (mkMerged (t.drop s) c0 cl) :=
  List.getLast?_concat

theorem forall_mergeFrom {Q : Info K V → Prop} {t : List (Info K V)} (hq : ∀ i ∈ t, Q i) {s : Nat}
    {c0 cl : Info K V} (hm : Q (mkMerged (t.drop s) c0 cl)) : ∀ i ∈ mergeFrom t s c0 cl, Q i := by
  intro i hi
  rcases List.mem_append.mp hi with hi | hi
  · exact hq i (List.mem_of_mem_take hi)
  · rw [List.mem_singleton.mp hi]; exact hm

theorem drop_ends {t : List (Info K V)} {s : Nat} {c0 cl : Info K V} (hs : t[s]? = some c0)
    (hl : t.getLast? = some cl) : (t.drop s).head? = some c0 ∧ (t.drop s).getLast? = some cl :=
  ⟨by rw [List.head?_drop, hs], by
    rw [List.getLast?_drop, if_neg (Nat.not_le.mpr (List.getElem?_eq_some_iff.mp hs).1), hl]⟩

theorem mergeNodes_suffix (t : List (Info K V)) {s : Nat} {c0 : Info K V} (hs : t[s]? = some c0) :
    ∃ cl, t.getLast? = some cl ∧
      mergeNodes t s t.length = .ok (mergeFrom t s c0 cl) := by
  have hlt : s < t.length := (List.getElem?_eq_some_iff.mp hs).1
  obtain ⟨c0', cl, h0, hl, e⟩ := mergeNodes_eq t hlt (Nat.le_refl _)
  rw [show (t.drop s).take (t.length - s) = t.drop s from
    List.take_of_length_le (Nat.le_of_eq List.length_drop)] at hl e
  rw [List.getLast?_drop, if_neg (Nat.not_le.mpr hlt)] at hl
  rw [hs] at h0; cases h0
  rw [List.drop_length] at e
  exact ⟨cl, hl, e⟩

/-- one round of `mergeTail`: the loop stops (the tail is shorter than `maxChildren`, or the ends
    of the last window of `maxChildren` nodes differ in depth), or the ends agree and the window
    becomes one node.  That then the whole window has one depth is not the loop's doing: it
    follows from `Desc` (`run_of_ends`) -/
theorem mergeTail_succ (fuel : Nat) (t : List (Info K V)) :
    (mergeTail (fuel + 1) t = .ok t ∧
      (t.length < M ∨ ∃ s a b, s + M = t.length ∧
        t[s]? = some b ∧ t.getLast? = some a ∧ a.depth ≠ b.depth)) ∨
    ∃ s c0 cl, s + M = t.length ∧ t[s]? = some c0 ∧
      t.getLast? = some cl ∧ cl.depth = c0.depth ∧
      mergeTail (fuel + 1) t = mergeTail fuel (mergeFrom t s c0 cl) := by
  by_cases hn : t.length < M
  · exact .inl ⟨by rw [mergeTail]; exact if_pos hn, .inl hn⟩
  · have hs := Nat.sub_add_cancel (Nat.le_of_not_lt hn)
    have hM : 0 < M := Nat.lt_of_lt_of_le Nat.zero_lt_two M_ge_two
    have h2 : t.length - M < t.length :=
      Nat.sub_lt (Nat.lt_of_lt_of_le hM (Nat.le_of_not_lt hn)) hM
    obtain ⟨cl, hl, e⟩ := mergeNodes_suffix t (List.getElem?_eq_getElem h2)
    have hstep : mergeTail (fuel + 1) t =
        if (cl.depth != t[t.length - M].depth) = true then .ok t
        else mergeTail fuel (mergeFrom t (t.length - M)
          t[t.length - M] cl) := by
      rw [mergeTail, if_neg hn, ← List.getLast?_eq_getElem?, hl, List.getElem?_eq_getElem h2, e]
    by_cases hd : cl.depth = t[t.length - M].depth
    · refine .inr ⟨_, _, cl, hs, List.getElem?_eq_getElem h2, hl, hd, ?_⟩
      rw [hstep, if_neg (by simpa using hd)]
    · exact .inl ⟨by rw [hstep, if_pos (by simpa using hd)],
        .inr ⟨_, cl, _, hs, List.getElem?_eq_getElem h2, hl, hd⟩⟩

/-- Go: `for start > 0 && tail[start-1].depth == depth { start-- }` -/
theorem trailingRunStart_spec (a : List (Info K V)) (d : Nat) : ∀ start, start ≤ a.length →
    trailingRunStart a d start ≤ start ∧
    (∀ m c, trailingRunStart a d start ≤ m → m < start → a[m]? = some c → c.depth = d) ∧
    (trailingRunStart a d start = 0 ∨
      ∀ p, a[trailingRunStart a d start - 1]? = some p → p.depth ≠ d) := by
  intro start
  induction start with
  | zero => exact fun _ => ⟨Nat.le_refl 0, fun m _ _ h => absurd h (Nat.not_lt_zero m), .inl rfl⟩
  | succ start ih =>
    intro hs
    have hget : a[start]? = some a[start] := List.getElem?_eq_getElem hs
    unfold trailingRunStart
    rw [hget]
    dsimp only
    by_cases heq : a[start].depth = d
    · rw [if_pos (by simpa using heq)]
      obtain ⟨i1, i2, i3⟩ := ih (Nat.le_of_succ_le hs)
      refine ⟨Nat.le_succ_of_le i1, fun m c hm1 hm2 hc => ?_, i3⟩
      by_cases hms : m = start
      · subst hms; cases hget.symm.trans hc; exact heq
      · exact i2 m c hm1 (Nat.lt_of_le_of_ne (Nat.le_of_lt_succ hm2) hms) hc
    · rw [if_neg (by simpa using heq)]
      refine ⟨Nat.le_refl _, fun m _ h1 h2 => absurd h2 (Nat.not_lt.mpr h1), .inr fun p hp => ?_⟩
      rw [Nat.add_sub_cancel] at hp
      cases hget.symm.trans hp; exact heq

/-- `s` may start the run that a round turns into one node of depth `d + 1`: the node before `s` is
    deeper than `d`, because there is none, or it has another depth (and depths decrease), or `s`
    starts the last full window (and `WinIn` makes inner windows strict) -/
def RunStart (t : List (Info K V)) (s d : Nat) : Prop :=
  s = 0 ∨ (∀ p, t[s - 1]? = some p → p.depth ≠ d) ∨ s + M = t.length

/-- one round of `collapse`: the nodes from some `s` on, whose ends have one depth, are merged (that
    all of them have it follows from `Desc`, as for `mergeTail_succ`); where the run of that depth
    is cut at `maxChildren` nodes, the node before `s` may have the same depth (third disjunct).
    Under `Inv1` a run has at most `maxChildren` nodes, so on the writer's tails the cut of
    write.go (`end-start > maxChildren`) never changes `start` -/
theorem collapse_succ (fuel : Nat) (t : List (Info K V)) (h : 2 ≤ t.length) :
    ∃ s c0 cl, t[s]? = some c0 ∧ t.getLast? = some cl ∧
      t.length - s ≤ M ∧ cl.depth = c0.depth ∧
      RunStart t s c0.depth ∧
      collapse (fuel + 1) t = collapse fuel (mergeFrom t s c0 cl) := by
  have hM := M_ge_two
  have hlast : t.length - 1 < t.length := Nat.sub_lt (Nat.lt_of_lt_of_le Nat.zero_lt_two h) Nat.one_pos
  obtain ⟨hS1, hS2, hS3⟩ := trailingRunStart_spec t t[t.length - 1].depth (t.length - 1)
    (Nat.sub_le _ _)
  generalize hs0 : trailingRunStart t t[t.length - 1].depth (t.length - 1) = s0 at hS1 hS2 hS3
  -- the start `s` of the merged range, whichever branch of the cap chooses it
  obtain ⟨s, hs1, hs2, hs3, hmax, hst⟩ : ∃ s, s0 ≤ s ∧ s < t.length ∧
      t.length - s ≤ M ∧
      RunStart t s t[t.length - 1].depth ∧
      (if t.length - s0 > M then t.length - M
        else s0) = s := by
    by_cases hcap : M + s0 < t.length
    · have hfull := Nat.sub_add_cancel
        (Nat.le_of_lt (Nat.lt_of_le_of_lt (Nat.le_add_right _ s0) hcap))
      exact ⟨_, by omega, by omega, by omega, .inr (.inr hfull),
        if_pos (Nat.lt_sub_of_add_lt hcap)⟩
    · exact ⟨s0, Nat.le_refl _, by omega, by omega, hS3.imp_right .inl,
        if_neg fun h => hcap (Nat.add_lt_of_lt_sub h)⟩
  -- capped or not, `s0 ≤ s`, so `t[s]` lies in the run of `trailingRunStart_spec`
  have hd0 : t[s].depth = t[t.length - 1].depth := by
    by_cases hm : s = t.length - 1
    · simp only [hm]
    · exact hS2 s _ hs1 (Nat.lt_of_le_of_ne (Nat.le_sub_one_of_lt hs2) hm)
        (List.getElem?_eq_getElem hs2)
  obtain ⟨cl, hl, e⟩ := mergeNodes_suffix t (List.getElem?_eq_getElem hs2)
  have hcl : cl = t[t.length - 1] := by
    rw [List.getLast?_eq_getElem?, List.getElem?_eq_getElem hlast] at hl; cases hl; rfl
  refine ⟨s, _, cl, List.getElem?_eq_getElem hs2, hl, hs3, by rw [hcl, hd0], by rwa [hd0], ?_⟩
  rw [collapse, if_neg (Nat.not_le.mpr h)]
  dsimp only
  rw [List.getElem?_eq_getElem hlast]
  dsimp only
  rw [hs0, hst, e]

theorem collapse_short {fuel : Nat} (hf : 1 ≤ fuel) {t : List (Info K V)} (h : t.length ≤ 1) :
    collapse fuel t = .ok t := by
  obtain ⟨f, rfl⟩ := Nat.exists_eq_add_one.mpr hf
  rw [collapse, if_pos h]

theorem finishTail_single (i : Info K V) :
    finishTail [i] = .ok (some (.inner [i.node] none)) := by
  by_cases h0 : i.depth = 0
  · simp [finishTail, h0]
  · simp [finishTail, h0, Nat.pos_of_ne_zero h0]

theorem finishTail_collapse {x y root : Info K V} {rest : List (Info K V)}
    (hc : collapse (collapseFuel (x :: y :: rest)) (x :: y :: rest) = .ok [root]) :
    finishTail (x :: y :: rest) =
      .ok (some (if root.depth > 0 then .inner [root.node] none else root.node)) := by
  simp only [finishTail, hc]
  split <;> rfl

theorem dsI_length (t : List (Info K V)) : (dsI t).length = t.length := by simp [dsI]

theorem dsI_getElem? {t : List (Info K V)} {i : Nat} {x : Info K V} (h : t[i]? = some x) :
    (dsI t)[i]? = some x.depth := by
  rw [dsI, List.getElem?_map, h]; rfl

theorem tailInv_nil : TailInv ([] : List (Info K V)) := desc_winAll_nil M

theorem dsI_getD {t : List (Info K V)} {i : Nat} {x : Info K V} (h : t[i]? = some x) :
    (dsI t).getD i 0 = x.depth := getD_of_getElem? (dsI_getElem? h)

theorem dsI_getLast? {t : List (Info K V)} {cl : Info K V} (h : t.getLast? = some cl) :
    (dsI t)[t.length - 1]? = some cl.depth := dsI_getElem? (List.getLast?_eq_getElem? ▸ h)

theorem dsI_getD_last {t : List (Info K V)} {cl : Info K V} (h : t.getLast? = some cl) :
    (dsI t).getD (t.length - 1) 0 = cl.depth := getD_of_getElem? (dsI_getLast? h)

theorem desc_last_le {t : List (Info K V)} (hd : Desc (dsI t)) {i : Nat} {x cl : Info K V}
    (hx : t[i]? = some x) (hl : t.getLast? = some cl) : cl.depth ≤ x.depth :=
  hd i (t.length - 1) _ _ (Nat.le_sub_one_of_lt (List.getElem?_eq_some_iff.mp hx).1)
    (dsI_getElem? hx) (dsI_getLast? hl)

theorem dsI_mergeFrom (t : List (Info K V)) (s : Nat) (c0 cl : Info K V) :
    dsI (mergeFrom t s c0 cl) = (dsI t).take s ++ [c0.depth + 1] := by
  simp [dsI, mergeFrom, mkMerged_depth]

theorem run_of_ends {t : List (Info K V)} (hd : Desc (dsI t)) {s : Nat} {c0 cl : Info K V}
    (hs : t[s]? = some c0) (hl : t.getLast? = some cl) (h : cl.depth = c0.depth) :
    ∀ c ∈ t.drop s, c.depth = c0.depth := by
  intro c hc
  obtain ⟨j, hj⟩ := List.mem_iff_getElem?.mp hc
  rw [List.getElem?_drop] at hj
  have hjl := (List.getElem?_eq_some_iff.mp hj).1
  have h1 := hd s (s + j) _ _ (Nat.le_add_right s j) (dsI_getElem? hs) (dsI_getElem? hj)
  have h2 := desc_last_le hd hj hl
  omega

/-- what both loops do keeps `Inv1`: a trailing run of one depth becomes one node of the next
    depth.  The node before the run is deeper: the run is maximal, or it has `maxChildren` nodes
    and `WinIn` says so -/
theorem inv1_merge {t : List (Info K V)} (hinv : Inv1 t) {s : Nat} {c0 cl : Info K V}
    (hs : t[s]? = some c0) (hl : t.getLast? = some cl) (hcl : cl.depth = c0.depth)
    (hmax : RunStart t s c0.depth) :
    Inv1 (mergeFrom t s c0 cl) := by
  have hM := M_ge_two
  have hlt : s < t.length := (List.getElem?_eq_some_iff.mp hs).1
  have := merge_from (s := s) (by omega) hinv (by rwa [dsI_length]) fun h1 => by
    rcases hmax with h0 | hne | hfull
    · omega
    · obtain ⟨p, hp⟩ : ∃ p, t[s - 1]? = some p := ⟨_, List.getElem?_eq_getElem (by omega)⟩
      have hle := hinv.1.le (i := s - 1) (j := s) (by omega)
      have := hne p hp
      rw [dsI_getD hs, dsI_getD hp] at hle ⊢
      omega
    · refine hinv.2.prev_lt hinv.1 hM (by rw [dsI_length]; omega) h1 ?_
      rw [dsI_length, dsI_getD hs, dsI_getD_last hl, hcl]
  rwa [dsI_getD hs, ← dsI_mergeFrom t s c0 cl] at this

theorem inv1_snoc_leaf {t : List (Info K V)} (h : TailInv t) (n : Info K V) (hn : n.depth = 0) :
    Inv1 (t ++ [n]) := by
  have := snoc_zero M_ge_two h
  rwa [show dsI t ++ [0] = dsI (t ++ [n]) by simp [dsI, hn]] at this

theorem le_foldl_max (t : List (Info K V)) :
    ∀ init, init ≤ t.foldl (fun m i => max m i.depth) init := by
  induction t with
  | nil => exact fun _ => Nat.le_refl _
  | cons x xs ih => exact fun init => Nat.le_trans (Nat.le_max_left _ _) (ih _)

/-- all that is used of the model's bound `collapseFuel`: `collapse_keeps` counts the rounds by
    the depth of the first node minus that of the last, which every round but the last lowers -/
theorem collapseFuel_enough (t : List (Info K V)) (a : Info K V) (h0 : t.head? = some a) :
    collapseFuel t ≥ a.depth + 2 := by
  unfold collapseFuel
  match t, h0 with
  | _ :: xs, rfl =>
    have := le_foldl_max xs (max 0 a.depth)
    have hmul : List.foldl (fun m i => max m i.depth) 0 (a :: xs) ≤
        List.foldl (fun m i => max m i.depth) 0 (a :: xs) * ((a :: xs).length + 1) :=
      Nat.le_mul_of_pos_right _ (Nat.succ_pos _)
    rw [List.foldl_cons] at hmul ⊢
    omega

end PdfVerif.TRSTail
