import PdfVerif.Lemmas.ScanNum
/-!
The decimal printer `natDec`/`intDec` of `Model/Format.lean` (its digits
read back: `digitsVal_natDec`) and the shape of a well-formed real token.
-/
namespace PdfVerif.C01L
open PdfVerif

theorem natDecAux_fuel : ∀ (f1 f2 n : Nat), n ≤ f1 → n ≤ f2 → natDecAux f1 n = natDecAux f2 n := by
  intro f1
  induction f1 with
  | zero =>
    intro f2 n h1 h2
    have : n = 0 := by omega
    subst this
    cases f2 <;> simp [natDecAux]
  | succ f1 ih =>
    intro f2 n h1 h2
    cases f2 with
    | zero =>
      have : n = 0 := by omega
      subst this
      simp [natDecAux]
    | succ f2 =>
      simp only [natDecAux]
      split
      · rfl
      · rw [ih f2 (n / 10) (by omega) (by omega)]

theorem natDec_unfold (n : Nat) :
    natDec n = if n < 10 then [48 + n] else natDec (n / 10) ++ [48 + n % 10] := by
  unfold natDec
  cases n with
  | zero => simp [natDecAux]
  | succ m =>
    simp only [natDecAux]
    split
    · rfl
    · rw [natDecAux_fuel m ((m + 1) / 10) ((m + 1) / 10) (by omega) (by omega)]

theorem natDec_small {n : Nat} (h : n < 10) : natDec n = [48 + n] := by
  rw [natDec_unfold]; simp [h]

theorem natDec_big {n : Nat} (h : ¬ n < 10) : natDec n = natDec (n / 10) ++ [48 + n % 10] := by
  rw [natDec_unfold]; simp [h]

theorem natDec_digits (n : Nat) : ∀ c ∈ natDec n, isDigit c = true := by
  induction n using Nat.strongRecOn with
  | _ n ih =>
    by_cases h : n < 10
    · rw [natDec_small h]; intro c hc; simp at hc; subst hc; exact (isDigit_iff _).mpr (by omega)
    · rw [natDec_big h]; intro c hc
      simp only [List.mem_append, List.mem_singleton] at hc
      rcases hc with hc | hc
      · exact ih (n / 10) (by omega) c hc
      · subst hc; exact (isDigit_iff _).mpr (by omega)

theorem natDec_ne_nil (n : Nat) : natDec n ≠ [] := by
  rw [natDec_unfold]; split <;> simp

theorem natDec_length_le : ∀ (k n : Nat), 0 < k → n < 10 ^ k → (natDec n).length ≤ k := by
  intro k
  induction k with
  | zero => intro n h; omega
  | succ k ih =>
    intro n _ hn
    by_cases h : n < 10
    · rw [natDec_small h]; simp
    · rw [natDec_big h]
      have hk : 0 < k := by
        cases k with
        | zero => simp at hn; omega
        | succ k => omega
      have : n / 10 < 10 ^ k := by
        rw [Nat.pow_succ] at hn
        exact Nat.div_lt_of_lt_mul (by rw [Nat.mul_comm]; exact hn)
      have := ih (n / 10) hk this
      simp; omega

theorem digitsVal_natDec (n : Nat) : digitsVal (natDec n) 0 = n := by
  induction n using Nat.strongRecOn with
  | _ n ih =>
    by_cases h : n < 10
    · rw [natDec_small h]; simp [digitsVal]
    · rw [natDec_big h, digitsVal_append, ih (n / 10) (by omega)]
      simp [digitsVal]; omega

theorem natDec_head (n : Nat) : ∃ d t, natDec n = d :: t ∧ isDigit d = true := by
  cases h : natDec n with
  | nil => exact absurd h (natDec_ne_nil n)
  | cons d t => exact ⟨d, t, rfl, natDec_digits n d (by rw [h]; simp)⟩

theorem all_digits_natDec (n : Nat) : (natDec n).all isDigit = true := by
  simp only [List.all_eq_true]; exact natDec_digits n

/-- the two accepting arms of `wfUnsigned`: `ip`, to which `realToken` appends the dot, or `ip . fp` -/
theorem unsigned_shape (sgn u : Bytes) (hs : sgn = [] ∨ sgn = [45]) (hu : wfUnsigned u = true) :
    ∃ ip fp, realToken (sgn ++ u) = sgn ++ ip ++ 46 :: fp ∧
      (∀ c ∈ ip, isDigit c = true) ∧ (∀ c ∈ fp, isDigit c = true) ∧ (ip ≠ [] ∨ fp ≠ []) := by
  have hsplit := digitSpan_append u
  have hip := digitSpan_digits u
  have hsgn : sgn.contains 46 = false := by rcases hs with h | h <;> subst h <;> simp
  have hipdot : (digitSpan u).1.contains 46 = false := by
    cases hc : (digitSpan u).1.contains 46 with
    | false => rfl
    | true => simp at hc; exact absurd (hip 46 hc) (by decide)
  revert hu
  -- the function's own case principle: `unfold; split` is slow to check and hides which exit a goal is
  fun_cases wfUnsigned u with
  | case1 hd =>                                                 -- digits only
    intro hu
    refine ⟨(digitSpan u).1, [], ?_, hip, by simp, ?_⟩
    · have hu' : (digitSpan u).1 = u := by rw [hd] at hsplit; simpa using hsplit
      have : (sgn ++ u).contains 46 = false := by
        rw [← hu']; simp at hsgn hipdot ⊢; exact ⟨hsgn, hipdot⟩
      unfold realToken
      rw [this, hu']; simp
    · left; simpa using hu
  | case2 fp hd =>                                              -- digits, the dot, digits
    intro hu
    simp at hu
    refine ⟨(digitSpan u).1, fp, ?_, hip, hu.1, ?_⟩
    · have hu' : (digitSpan u).1 ++ 46 :: fp = u := by rw [hd] at hsplit; exact hsplit
      have : (sgn ++ u).contains 46 = true := by
        rw [← hu']; simp
      unfold realToken
      rw [this]; simp; exact hu'.symm
    · rcases hu.2 with h | h
      · left; simpa using h
      · right; simpa using h
  | case3 => exact nofun                                        -- anything else behind the digits

theorem realToken_shape (t : Bytes) (ht : wfRealTok t = true) :
    ∃ sgn ip fp, realToken t = sgn ++ ip ++ 46 :: fp ∧ (sgn = [] ∨ sgn = [45]) ∧
      (∀ c ∈ ip, isDigit c = true) ∧ (∀ c ∈ fp, isDigit c = true) ∧ (ip ≠ [] ∨ fp ≠ []) := by
  revert ht
  fun_cases wfRealTok t with
  | case1 u =>                                                  -- a sign
    intro ht
    obtain ⟨ip, fp, h1, h2, h3, h4⟩ := unsigned_shape [45] u (.inr rfl) ht
    exact ⟨[45], ip, fp, h1, .inr rfl, h2, h3, h4⟩
  | case2 =>
    intro ht
    obtain ⟨ip, fp, h1, h2, h3, h4⟩ := unsigned_shape [] t (.inl rfl) ht
    exact ⟨[], ip, fp, by simpa using h1, .inl rfl, h2, h3, h4⟩

end PdfVerif.C01L
