import PdfVerif.Lemmas.CONCBasic
/-!
Invariant behind `agreement` (C18): the chain invariant of the cache, well-formed stacks, and
"every result ever returned is justified by a cache entry further down the reference chain".
-/
namespace PdfVerif.CONC

/-- `b` is reached from `a` by following references in the file -/
inductive Reach (cfg : Cfg) : Ref → Ref → Prop where
  | refl (r : Ref) : Reach cfg r r
  | step {a b c : Ref} : cfg.get a = .ref b → Reach cfg b c → Reach cfg a c

theorem Reach.single {cfg : Cfg} {a b : Ref} (h : cfg.get a = .ref b) : Reach cfg a b :=
  .step h (.refl b)

/-- the file is a function: two references reached from one are comparable -/
theorem Reach.linear {cfg : Cfg} {a b c : Ref} (h1 : Reach cfg a b) (h2 : Reach cfg a c) :
    Reach cfg b c ∨ Reach cfg c b := by
  induction h1 with
  | refl => exact .inl h2
  | step h _ ih =>
    cases h2 with
    | refl => exact .inr (.step h ‹_›)
    | step h' r2 =>
      rw [h] at h'
      cases h'
      exact ih r2

/-- following `refs` through the file, one reference after the other, ends at the object `x` -/
def Path (cfg : Cfg) : List Ref → GetRes → Prop
  | [], _ => True
  | [a], x => cfg.get a = x
  | a :: b :: rest, x => cfg.get a = .ref b ∧ Path cfg (b :: rest) x

def ChainInv (cfg : Cfg) (c : Key → Option Val) : Prop :=
  ∀ r r' tp v, c (r, tp) = some v → cfg.get r = .ref r' → c (r', tp) = some v

theorem ChainInv.reach {cfg : Cfg} {c : Key → Option Val} (hc : ChainInv cfg c) {a b : Ref}
    (h : Reach cfg a b) (tp : Ty) (v : Val) (ha : c (a, tp) = some v) : c (b, tp) = some v := by
  induction h with
  | refl => exact ha
  | step hg _ ih => exact ih (hc _ _ _ _ ha hg)

/-- a successful result for a reference is the value cached somewhere down its chain -/
def Justified (cfg : Cfg) (c : Key → Option Val) (o : Obj) (tp : Ty) (res : Res) : Prop :=
  match o, res with
  | .ref r, .ok v => ∃ r', Reach cfg r r' ∧ c (r', tp) = some v
  | _, _ => True

theorem Justified.mono {cfg : Cfg} {c c' : Key → Option Val} (h : CacheLe c c') {o tp res}
    (hj : Justified cfg c o tp res) : Justified cfg c' o tp res := by
  unfold Justified at *
  split
  · next r v =>
    simp only at hj
    obtain ⟨r', h1, h2⟩ := hj
    exact ⟨r', h1, h _ _ h2⟩
  · trivial

/-- only a value returned for a reference needs a justification -/
theorem justified_of {cfg : Cfg} {c : Key → Option Val} {o : Obj} {tp : Ty} {res : Res}
    (h : ∀ r v, o = .ref r → res ≠ .ok v) : Justified cfg c o tp res := by
  unfold Justified
  split
  · next r v => exact absurd rfl (h r v rfl)
  · trivial

theorem justified_panic {cfg : Cfg} {c : Key → Option Val} {o : Obj} {tp : Ty} :
    Justified cfg c o tp .panic :=
  justified_of fun _ _ _ => nofun

theorem justified_self {cfg : Cfg} {c : Key → Option Val} {r : Ref} {tp : Ty} {v : Val}
    (h : c (r, tp) = some v) : Justified cfg c (.ref r) tp (.ok v) :=
  ⟨r, .refl r, h⟩

/-- a `Decode` frame has followed a chain of the file (`decFn`: to its end, a direct object;
`decGet`: `r` is the reference being fetched); a frame of `DecodeExclusive` names a registered pending
with the frame's key, and the result it carries (from `ex:pre-publish` on) is justified -/
def FrameOK (cfg : Cfg) (s : State) : Frame → Prop
  | .decGet _ refs _ r => Path cfg refs (cfg.get r)
  | .decFn _ refs _ => Path cfg refs .direct
  | .exStart k p _ => p < s.npend ∧ (s.pend p).key = k
  | .exRun k p => p < s.npend ∧ (s.pend p).key = k
  | .exWait k p => p < s.npend ∧ (s.pend p).key = k
  | .exPub k p res => p < s.npend ∧ (s.pend p).key = k ∧ Justified cfg s.cache (.ref k.1) k.2 res
  | .exClose k p res => p < s.npend ∧ (s.pend p).key = k ∧ Justified cfg s.cache (.ref k.1) k.2 res
  | .exDone k p res => p < s.npend ∧ (s.pend p).key = k ∧ Justified cfg s.cache (.ref k.1) k.2 res
  | .exFn _ _ => True
  | .dead => True

/-- the frame directly above the owner of an exclusive decode is the `Decode` it called -/
def Above (f : Frame) (rest : List Frame) : Prop :=
  match rest with
  | .exRun k _ :: _ =>
    match f with
    | .decGet tp refs _ _ => tp = k.2 ∧ refs.head? = some k.1
    | .decFn tp refs _ => tp = k.2 ∧ refs.head? = some k.1
    | _ => False
  | _ => True

def FramesOK (cfg : Cfg) (s : State) : List Frame → Prop
  | [] => True
  | f :: rest => FrameOK cfg s f ∧ Above f rest ∧ FramesOK cfg s rest

def EvOK (cfg : Cfg) (c : Key → Option Val) : Event → Prop
  | .dec _ o tp res => Justified cfg c o tp res
  | .exc _ o tp res _ => Justified cfg c o tp res
  | .pair _ r A B _ _ (some (a', b')) => c (r, A) = some a' ∧ c (r, B) = some b'
  | _ => True

def WipOK (s : State) : Prop := ∀ k p, s.wip k = some p → p < s.npend ∧ (s.pend p).key = k

/-- the outcome of a pending is justified for the pending's key: what waiters will be handed -/
def PendOK (cfg : Cfg) (s : State) : Prop :=
  ∀ p res, (s.pend p).out = some res →
    Justified cfg s.cache (.ref (s.pend p).key.1) (s.pend p).key.2 res

/-- the invariant of `agreement`: `chain` makes equal all values cached along one reference chain,
`hist` ties every result ever reported to such a value; `stacks`, `wip`, `pend` say the same of the
results still on their way (carried by frames, or waiting in a pending for its waiters). -/
structure Inv (cfg : Cfg) (s : State) : Prop where
  chain : ChainInv cfg s.cache
  stacks : ∀ t, FramesOK cfg s (s.thr t)
  wip : WipOK s
  hist : ∀ e ∈ s.hist, EvOK cfg s.cache e
  pend : PendOK cfg s

/-- `s'` extends `s`: more cache entries, more pendings, keys of the old ones unchanged -/
structure Ext (s s' : State) : Prop where
  cache : CacheLe s.cache s'.cache
  npend : s.npend ≤ s'.npend
  keys : ∀ p, p < s.npend → (s'.pend p).key = (s.pend p).key

theorem Ext.refl (s : State) : Ext s s := ⟨CacheLe.refl _, Nat.le_refl _, fun _ _ => rfl⟩

theorem FrameOK.ext {cfg : Cfg} {s s' : State} (h : Ext s s') {f : Frame} (hf : FrameOK cfg s f) :
    FrameOK cfg s' f := by
  cases f
  case exStart | exRun | exWait =>
    exact ⟨Nat.lt_of_lt_of_le hf.1 h.npend, (h.keys _ hf.1).trans hf.2⟩
  case exPub | exClose | exDone =>
    exact ⟨Nat.lt_of_lt_of_le hf.1 h.npend, (h.keys _ hf.1).trans hf.2.1, hf.2.2.mono h.cache⟩
  all_goals exact hf

theorem FramesOK.ext {cfg : Cfg} {s s' : State} (h : Ext s s') :
    ∀ {stk : List Frame}, FramesOK cfg s stk → FramesOK cfg s' stk
  | [], _ => trivial
  | _ :: _, ⟨h1, h2, h3⟩ => ⟨h1.ext h, h2, FramesOK.ext h h3⟩

theorem EvOK.mono {cfg : Cfg} {c c' : Key → Option Val} (h : CacheLe c c') {e : Event}
    (he : EvOK cfg c e) : EvOK cfg c' e := by
  cases e with
  | dec t o tp res => exact Justified.mono h he
  | exc t o tp res p => exact Justified.mono h he
  | pair t r A B a b res =>
    cases res with
    | none => trivial
    | some ab => obtain ⟨a', b'⟩ := ab; exact ⟨h _ _ he.1, h _ _ he.2⟩
  | run t tp refs path p => trivial
  | fnPanic t => trivial

theorem Inv.build {cfg : Cfg} {s s' : State} (hi : Inv cfg s) (hext : Ext s s') (t : Tid)
    (stk : List Frame) (evs : List Event)
    (hthr : s'.thr = upd s.thr t stk) (hhist : s'.hist = evs ++ s.hist)
    (hchain : ChainInv cfg s'.cache) (hstk : FramesOK cfg s' stk) (hwip : WipOK s')
    (hevs : ∀ e ∈ evs, EvOK cfg s'.cache e) (hpend : PendOK cfg s') : Inv cfg s' := by
  refine ⟨hchain, ?_, hwip, ?_, hpend⟩
  · intro t'
    rw [hthr]
    by_cases e : t' = t
    · subst e; simpa using hstk
    · rw [upd_other _ _ _ _ e]; exact (hi.stacks t').ext hext
  · intro e he
    rw [hhist] at he
    rcases List.mem_append.mp he with h | h
    · exact hevs e h
    · exact (hi.hist e h).mono hext.cache

theorem Above.owner_none {f : Frame} {rest : List Frame} (h : Above f rest)
    (hf : isDecFrame f = false) : ownerOf rest = none := by
  unfold ownerOf
  split
  · cases f <;> first | exact False.elim h | cases hf
  · rfl

theorem Above.of_owner_none {rest : List Frame} (h : ownerOf rest = none) (g : Frame) :
    Above g rest := by
  unfold Above
  split
  · cases h
  · trivial

/-- a stack on which a call may start is not headed by an exclusive owner -/
theorem canCall_above {stk : List Frame} (h : canCall stk = true) (g : Frame) : Above g stk :=
  .of_owner_none (ownerOf_of_canCall h) g

theorem deliverStack_of_above {f : Frame} {rest : List Frame} (h : Above f rest)
    (hf : ∀ tp refs path r, f ≠ .decGet tp refs path r) (hf' : ∀ tp refs path, f ≠ .decFn tp refs path)
    (res : Res) : deliverStack rest res = rest :=
  deliverStack_of_owner_none (h.owner_none (by
    cases f <;> first | rfl | exact absurd rfl (hf _ _ _ _) | exact absurd rfl (hf' _ _ _))) res

/-- the condition under which a `Decode` activation may sit on `rest` -/
def DecOn (rest : List Frame) (tp : Ty) (o : Obj) : Prop :=
  ∀ k p rest', rest = .exRun k p :: rest' → tp = k.2 ∧ o = .ref k.1

theorem FramesOK.deliver {cfg : Cfg} {s : State} {rest : List Frame} (h : FramesOK cfg s rest)
    {tp : Ty} {o : Obj} (hd : DecOn rest tp o) {res : Res} (hj : Justified cfg s.cache o tp res) :
    FramesOK cfg s (deliverStack rest res) := by
  rcases deliverStack_cases rest res with ⟨k, p, rest', rfl, e⟩ | ⟨_, e⟩ <;> rw [e]
  · obtain ⟨h1, h2, h3⟩ := h
    obtain ⟨e1, e2⟩ := hd k p rest' rfl
    subst e1 e2
    refine ⟨⟨h1.1, h1.2, hj⟩, ?_, h3⟩
    exact .of_owner_none (h2.owner_none rfl) _
  · exact h

theorem firstObj_append (refs : List Ref) (r : Ref) (o : Obj) :
    firstObj (refs ++ [r]) o = firstObj refs (.ref r) := by
  cases refs <;> simp [firstObj]

theorem Path.snoc {cfg : Cfg} {r : Ref} : ∀ {refs : List Ref}, Path cfg refs (.ref r) →
    Path cfg (refs ++ [r]) (cfg.get r)
  | [], _ => rfl
  | [_], h => ⟨h, rfl⟩
  | _ :: b :: rest, ⟨h1, h2⟩ => ⟨h1, Path.snoc (refs := b :: rest) h2⟩

theorem Path.reach {cfg : Cfg} {r : Ref} : ∀ {refs : List Ref} {a : Ref}, Path cfg (a :: refs) (.ref r) →
    Reach cfg a r
  | [], _, h => .single h
  | _ :: _, _, ⟨h1, h2⟩ => .step h1 (Path.reach h2)

theorem Path.tail {cfg : Cfg} {x : GetRes} {a : Ref} : ∀ {rest : List Ref}, Path cfg (a :: rest) x → Path cfg rest x
  | [], _ => trivial
  | _ :: _, h => h.2

theorem Path.tail_cached {cfg : Cfg} {c : Key → Option Val} (hc : ChainInv cfg c) {tp : Ty} {w : Val}
    {x : GetRes} : ∀ {rest : List Ref} {a : Ref}, Path cfg (a :: rest) x → c (a, tp) = some w →
      ∀ r ∈ rest, c (r, tp) = some w
  | b :: rest, a, ⟨h1, h2⟩, ha, r, hr => by
    have hb : c (b, tp) = some w := hc _ _ _ _ ha h1
    rcases List.mem_cons.mp hr with e | e
    · subst e; exact hb
    · exact Path.tail_cached hc h2 hb r e

theorem firstCached_spec {cfg : Cfg} {c : Key → Option Val} (hc : ChainInv cfg c) {tp : Ty} (v : Val)
    {x : GetRes} : ∀ {refs : List Ref}, Path cfg refs x →
      ∀ r ∈ refs, c (r, tp) = some ((firstCached c tp refs).getD v) ∨ c (r, tp) = none
  | [], _, r, hr => by simp at hr
  | a :: rest, hch, r, hr => by
    unfold firstCached
    cases ha : c (a, tp) with
    | some w =>
      rcases List.mem_cons.mp hr with e | e
      · subst e; exact .inl ha
      · exact .inl (hch.tail_cached hc ha r e)
    | none =>
      rcases List.mem_cons.mp hr with e | e
      · subst e; exact .inr ha
      · exact firstCached_spec hc v hch.tail r e

theorem Path.succ_mem {cfg : Cfg} : ∀ {refs : List Ref}, Path cfg refs .direct →
    ∀ r r', r ∈ refs → cfg.get r = .ref r' → r' ∈ refs
  | [a], h, r, r', hr, hg => by cases List.mem_singleton.mp hr; cases h.symm.trans hg
  | a :: b :: rest, ⟨h1, h2⟩, r, r', hr, hg => by
    rcases List.mem_cons.mp hr with rfl | e
    · cases h1.symm.trans hg; exact List.mem_cons_of_mem _ List.mem_cons_self
    · exact List.mem_cons_of_mem _ (Path.succ_mem h2 r r' e hg)

theorem storeMissing_chain {cfg : Cfg} {c : Key → Option Val} (hc : ChainInv cfg c) {tp : Ty}
    {w : Val} {refs : List Ref} (hch : Path cfg refs .direct)
    (hq : ∀ r ∈ refs, c (r, tp) = some w ∨ c (r, tp) = none) :
    ChainInv cfg (storeMissing c tp w refs) ∧ ∀ r ∈ refs, storeMissing c tp w refs (r, tp) = some w := by
  have h2 : ∀ r ∈ refs, storeMissing c tp w refs (r, tp) = some w := by
    intro r hr
    rw [storeMissing_apply]
    rcases hq r hr with h | h
    · simp [h]
    · simp [h, hr]
  refine ⟨?_, h2⟩
  intro r r' tp' v' hv hg
  rw [storeMissing_apply] at hv
  split at hv
  · next hcond =>
    obtain ⟨e1, e2, _⟩ := hcond
    simp only at e1 e2
    cases hv
    subst e1
    exact h2 r' (hch.succ_mem r r' e2 hg)
  · exact storeMissing_le tp w refs c _ _ (hc _ _ _ _ hv hg)

/-- `cacheStoreOrLoad` (after the fix) on a followed chain: the chain invariant is kept and
the whole chain ends up with the returned value -/
theorem storeOrLoad_chain {cfg : Cfg} {c : Key → Option Val} (hc : ChainInv cfg c) (tp : Ty)
    (v : Val) {refs : List Ref} (hch : Path cfg refs .direct) :
    ChainInv cfg (storeOrLoad true c tp refs v).1 ∧
      ∀ r ∈ refs, (storeOrLoad true c tp refs v).1 (r, tp) = some (storeOrLoad true c tp refs v).2 := by
  rw [storeOrLoad_fixed]
  exact storeMissing_chain hc hch (firstCached_spec hc v hch)

end PdfVerif.CONC
