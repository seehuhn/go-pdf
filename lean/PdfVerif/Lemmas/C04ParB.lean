import PdfVerif.Lemmas.C04ParA
import PdfVerif.Lemmas.C01Caps
import PdfVerif.Lemmas.C01Tok
/-!
For `C04par.parse_any_rendering`, the induction: the statements `RB`, `SeqReads`, `KVRBK` proved for every
derivation of `Renders` / `RendersSeq` / `RendersKV`, their step lemmas (scalars; one array element incl. the
`a b R` detection; one dictionary entry incl. the reference look-ahead), and the mutual recursion over the
derivations (`rb_all`).  Stated over `OReads`, `AReads`, `DReads` (`Lemmas/C01Tok.lean`), whose rules carry the
fuel; `seqRB_of`, `kvRB_of_K` give the forms with the fuel written out.  The round trip of C01 is `rb_all` at
what the formatter writes (`Lemmas/C01Fmt.lean`).
-/
namespace PdfVerif.C04L
open PdfVerif PdfVerif.C01L
open PdfVerif.Spec.Grammar (isWhite isDelim isRegularCh isEolCh isDigitCh WsR NameR StrR HexR IntR RealTok decVal)
open PdfVerif.Spec.Renders
open PdfVerif.C04hisc (StopsWs NameEnd ws_any_spelling skipWS_stops)

/-- where `ReadObject` stops: behind the object — behind a dictionary also behind the white space
    and comments that follow it (the scanner looks for the keyword `stream` there) -/
def restAfter (o : Obj) (k : Bytes) : Bytes := if isDictObj o then (skipWS k).1 else k

theorem skip_restAfter (o : Obj) (k : Bytes) : skipWS (restAfter o k) = skipWS k := by
  unfold restAfter
  split
  · exact skipWS_idem k
  · rfl

theorem restAfter_nondict {o : Obj} (h : isDictObj o = false) (k : Bytes) : restAfter o k = k := by
  unfold restAfter; rw [h]; rfl

theorem restAfter_cases (o : Obj) (k : Bytes) : restAfter o k = k ∨ restAfter o k = (skipWS k).1 := by
  unfold restAfter; split
  · exact .inr rfl
  · exact .inl rfl

theorem restAfter_self {o : Obj} (h : selfDelimited o = false) (k : Bytes) : restAfter o k = k :=
  restAfter_nondict (by cases o <;> first | rfl | cases h) k

/-- The statement for one object (`RB`: reads back): its spelling `bs`, followed by a continuation `k` that ends
the token (if the object does not end with its own delimiter) and does not show `stream` behind a dictionary, is
read as `o` at every nesting depth that leaves room for it, with every fuel from the potential of the input on
(`OReads`).  A reference is not read by `readObject` but by the loops (an integer, then `g R` behind it), so it is
excluded here (`isRefObj o = false`; `rb_ref` is the empty case) and `arr_elem`, `dict_entry` treat a reference element
apart from the others. -/
def RB (o : Obj) (bs : Bytes) : Prop :=
  capsOK o = true → uniqueKeys o = true → isRefObj o = false →
  ∀ d, d + depthOf o ≤ Gen.scanner_maxScannerNestDepth →
  ∀ k, (selfDelimited o = false → EndsToken k) → (isDictObj o = true → NoStream k) →
  OReads d (bs ++ k) o (restAfter o k)

/-- the statement for the elements of an array (entered anywhere in the white space before them) -/
def SeqRB (xs : List Obj) (body : Bytes) : Prop :=
  capsList xs = true → uniqueKeysList xs = true →
  ∀ d, d + depthList xs ≤ Gen.scanner_maxScannerNestDepth →
  ∀ (acc : List Obj) (ints : Nat) (rest : Bytes), acc.length + xs.length ≤ Gen.scanner_maxArrayLen →
  ∀ fuel, fuel ≥ 3 * (body ++ 93 :: rest).length + 4 →
  ∀ inp, skipWS inp = skipWS (body ++ 93 :: rest) →
  readArrayLoop fuel d acc ints inp = .ok (acc.reverse ++ xs, rest)

/-- the statement for the entries of a dictionary (entered at the first key or at `>>`) -/
def KVRB (kv : List (Bytes × Obj)) (body : Bytes) : Prop :=
  capsKV kv = true → uniqueKeysKV kv = true →
  ∀ d, d + depthKV kv ≤ Gen.scanner_maxScannerNestDepth →
  ∀ (acc : List (Bytes × Obj)) (rest : Bytes), (∀ e ∈ kv, e.1 ∉ keysOf acc) → (keysOf kv).Nodup →
    acc.length + kv.length ≤ Gen.scanner_maxDictLen →
  ∀ fuel, fuel ≥ 3 * (body ++ 62 :: 62 :: rest).length + 1 →
  ∀ inp, skipWS (body ++ 62 :: 62 :: rest) = (inp, false) →
  readDictLoop fuel d acc inp = .ok (acc ++ kv, rest)

/-- the elements of an array in front of `]`, in terms of `AReads` (`SeqRB` says the same with the fuel written out) -/
def SeqReads (xs : List Obj) (body : Bytes) : Prop :=
  capsList xs = true → uniqueKeysList xs = true →
  ∀ d, d + depthList xs ≤ Gen.scanner_maxScannerNestDepth →
  ∀ (acc : List Obj) (ints : Nat) (rest : Bytes), acc.length + xs.length ≤ Gen.scanner_maxArrayLen →
  AReads d acc ints (body ++ 93 :: rest) (.ok (acc.reverse ++ xs, rest))

/-- the entries of a dictionary with more of it behind them: if the loop, with the entries appended, ends in `R`
    from `K` on (the next key or `>>`, through white space), it ends in `R` from the entries on.  The induction runs
    on this and on `SeqReads`; `KVRB` is this at `K = >>` with the fuel written out (`kvRB_of_K`, `seqRB_of`), the form
    `C04par.seq_all`/`kv_all` state. -/
def KVRBK (kv : List (Bytes × Obj)) (body : Bytes) : Prop :=
  capsKV kv = true → uniqueKeysKV kv = true →
  ∀ d, d + depthKV kv ≤ Gen.scanner_maxScannerNestDepth →
  ∀ (acc : List (Bytes × Obj)) (K : Bytes) (c : Nat) (t : Bytes), KVCont K c t →
    (∀ e ∈ kv, e.1 ∉ keysOf acc) → (keysOf kv).Nodup → acc.length + kv.length ≤ Gen.scanner_maxDictLen →
  ∀ R, DReads d (acc ++ kv) (c :: t) R →
  ∀ inp, skipWS (body ++ K) = (inp, false) → DReads d acc inp R

theorem depth_left {d a b m : Nat} (h : d + max a b ≤ m) : d + a ≤ m := by omega

theorem depth_right {d a b m : Nat} (h : d + max a b ≤ m) : d + b ≤ m := by omega

theorem rb_kw {o : Obj} {kw : Bytes} (hd : isDictObj o = false)
    (h : ∀ k f d, readObject (f + 1) d (kw ++ k) = .ok (o, k)) : RB o kw := by
  intro _ _ _ d _ k _ _ fuel hf
  obtain ⟨f, rfl⟩ := fuel_succ hf
  rw [h k f d, restAfter, hd]; rfl

theorem rb_int (i : Int) (s : Bytes) (h : IntR i s) (hl : s.length ≤ Gen.scanner_maxNameBytes) : RB (.int i) s := by
  intro hc _ _ d _ k hk _ fuel hf
  obtain ⟨f, rfl⟩ := fuel_succ hf
  have := C04hisc.int_any_spelling i s h (of_decide_eq_true hc) hl k (endsToken_numStop (hk rfl) _)
  obtain ⟨c, t, rfl, hh⟩ := intR_head h
  rw [List.cons_append, readObject_num f d c _ hh]
  exact this

theorem rb_real (t : Bytes) (h : RealTok t) (hl : t.length ≤ Gen.scanner_maxNameBytes) : RB (.real t) t := by
  intro _ _ _ d _ k hk _ fuel hf
  obtain ⟨f, rfl⟩ := fuel_succ hf
  have := C04hisc.real_token t h hl k (endsToken_numStop (hk rfl) _)
  obtain ⟨c, r, rfl, hh⟩ := realTok_head h
  rw [List.cons_append, readObject_num f d c _ hh]
  exact this

theorem rb_name (v s : Bytes) (h : NameR v s) : RB (.name v) (47 :: s) := by
  intro hc _ _ d _ k hk _ fuel hf
  obtain ⟨f, rfl⟩ := fuel_succ hf
  rw [List.cons_append, readObject_name,
    show readName (47 :: (s ++ k)) = _ from C04hisc.name_any_spelling v s h (of_decide_eq_true hc) k (endsToken_nameEnd (hk rfl))]
  rfl

theorem rb_lit (v s : Bytes) (h : StrR 1 v s) : RB (.str v) (40 :: (s ++ [41])) := by
  intro hc _ _ d _ k _ _ fuel hf
  obtain ⟨f, rfl⟩ := fuel_succ hf
  have e : 40 :: (s ++ [41]) ++ k = 40 :: (s ++ 41 :: k) := by simp
  rw [e, readObject_lit, C04hisc.string_any_spelling v s h (of_decide_eq_true hc) k]; rfl

theorem rb_hex (v s : Bytes) (h : HexR none v s) : RB (.str v) (60 :: (s ++ [62])) := by
  intro hc _ _ d _ k _ _ fuel hf
  obtain ⟨f, rfl⟩ := fuel_succ hf
  have e : 60 :: (s ++ [62]) ++ k = 60 :: (s ++ 62 :: k) := by simp
  rw [e, readObject_hex f d _ (C04hisc.hexR_head h k), C04hisc.hex_any_spelling v s h (of_decide_eq_true hc) k]; rfl

theorem rb_ref (n g : Nat) (bs : Bytes) : RB (.ref n g) bs := by
  intro _ _ h; cases h

theorem stops_R (k : Bytes) : StopsWs (82 :: k) := ⟨by decide, by decide⟩

theorem ref_parts {n g : Nat} (h : capsOK (.ref n g) = true) :
    capsOK (.int (n : Int)) = true ∧ capsOK (.int (g : Int)) = true ∧ validRef (n : Int) (g : Int) = true := by
  have hf := xref_fits
  have hr := capsOK_ref.mp h
  exact ⟨capsOK_int.mpr (by omega), capsOK_int.mpr (by omega), by simp [validRef]; omega⟩

/-- an integer token inside a reference, followed by non-empty white space -/
theorem read_int_ws (i : Int) (s : Bytes) (h : IntR i s) (hl : s.length ≤ Gen.scanner_maxNameBytes)
    (hc : capsOK (.int i) = true) (w : Bytes) (hw : WsR w) (hne : w ≠ []) (x : Bytes) (d : Nat)
    (hd : d ≤ Gen.scanner_maxScannerNestDepth) : OReads d (s ++ (w ++ x)) (.int i) (w ++ x) :=
  rb_int i s h hl hc rfl rfl d hd (w ++ x) (fun _ => ws_endsToken hw hne x) nofun

theorem arr_elem {x : Obj} {a : Bytes} (hr : Renders Gen.scanner_maxNameBytes x a) (hrb : RB x a)
    (hc : capsOK x = true) (hu : uniqueKeys x = true)
    (d : Nat) (hd : d + depthOf x ≤ Gen.scanner_maxScannerNestDepth)
    (k : Bytes) (hk : selfDelimited x = false → EndsToken k) (hns : NoStream k)
    (acc : List Obj) (ints : Nat) (hacc : acc.length + 1 ≤ Gen.scanner_maxArrayLen) {R : Except Err (List Obj × Bytes)}
    (hR : ∀ ints' inp', skipWS inp' = skipWS k → AReads d (x :: acc) ints' inp' R) :
    AReads d acc ints (a ++ k) R := by
  have hacc' : acc.length ≤ Gen.scanner_maxArrayLen := Nat.le_of_succ_le hacc
  cases hx : isRefObj x with
  | false =>
    obtain ⟨c, t, rfl, hh, _⟩ := renders_head hr
    exact .elem (skipWS_stops (rest := c :: _) (objHead_stops hh _)) hh.ne93 hh.ne82
      (hrb hc hu hx d hd k hk (fun _ => hns)) hacc' (hR _ _ (skip_restAfter x k))
  | true =>
    cases hr with
    | ref n g s1 w1 s2 w2 h1 l1 hw1 ne1 h2 l2 hw2 ne2 =>
      obtain ⟨hcn, hcg, hv⟩ := ref_parts hc
      obtain ⟨c1, t1, rfl, hh1⟩ := intR_head h1
      obtain ⟨c2, t2, rfl, hh2⟩ := intR_head h2
      have oh1 : ObjHead c1 := numHead_objHead hh1
      have oh2 : ObjHead c2 := numHead_objHead hh2
      have e : c1 :: t1 ++ w1 ++ (c2 :: t2) ++ w2 ++ [82] ++ k
          = (c1 :: t1) ++ (w1 ++ ((c2 :: t2) ++ (w2 ++ ([82] ++ k)))) := by simp
      have hd' := Nat.le_of_add_right_le hd
      rw [e]
      -- the two numbers are read as ordinary integer elements; only the `R` collapses them, so for a moment the
      -- accumulator holds one element more: hence `hacc`
      refine .elem (skipWS_stops (rest := c1 :: _) (objHead_stops oh1 _)) oh1.ne93 oh1.ne82
        (read_int_ws n _ h1 l1 hcn w1 hw1 ne1 _ d hd') hacc' ?_
      refine .elem (skip_to hw1 c2 _ (objHead_stops oh2 _)) oh2.ne93 oh2.ne82
        (read_int_ws g _ h2 l2 hcg w2 hw2 ne2 _ d hd') hacc ?_
      refine .ref (skip_to hw2 82 k (stops_R k)) (by simp [nextIntsM]) ?_
      rw [hv, if_pos rfl, Int.toNat_natCast, Int.toNat_natCast]
      exact hR 0 k rfl
    | _ => cases hx

theorem seqReads_nil (w : Bytes) (hw : WsR w) : SeqReads [] w := by
  intro _ _ d _ acc ints rest hacc
  rw [List.append_nil]
  exact .done (skip_to hw 93 rest (close_stops 93 (.inr (.inr rfl)) rest).1) hacc

theorem seqReads_cons {w a b : Bytes} {x : Obj} {xs : List Obj} (hw : WsR w)
    (hx : Renders Gen.scanner_maxNameBytes x a) (hrb : RB x a)
    (htail : RendersSeq Gen.scanner_maxNameBytes (selfDelimited x) xs b) (hB : SeqReads xs b) :
    SeqReads (x :: xs) (w ++ a ++ b) := by
  intro hc hu d hd acc ints rest hacc
  rw [capsList_cons] at hc
  rw [uniqueKeysList_cons] at hu
  obtain ⟨⟨c', t', hsk, hne⟩, hend⟩ := seq_cont htail rest
  rw [List.append_assoc, List.append_assoc]
  refine .congr (C04hisc.skipWS_ws hw _) ?_
  refine arr_elem hx hrb hc.1 hu.1 d (depth_left hd) (b ++ 93 :: rest) hend (noStream_of_skip hsk hne) acc ints
    (Nat.le_trans (Nat.add_le_add_left (Nat.succ_le_succ (Nat.zero_le _)) _) hacc) fun ints' inp' hs' => ?_
  have := hB hc.2 hu.2 d (depth_right hd) (x :: acc) ints' rest
    (by rw [List.length_cons, Nat.add_right_comm]; exact hacc)
  rw [List.reverse_cons, List.append_assoc] at this
  exact .congr hs' this

/-- with the fuel written out, the loop entered anywhere in the white space -/
theorem seqRB_of {xs : List Obj} {body : Bytes} (h : SeqReads xs body) : SeqRB xs body := by
  intro hc hu d hd acc ints rest hacc fuel hf inp hinp
  have := skipWS_len (body ++ 93 :: rest)
  exact (h hc hu d hd acc ints rest hacc).congr hinp fuel (by rw [hinp]; omega)

/-- what follows `]` is not looked at -/
theorem rb_arr {xs : List Obj} {body : Bytes} (hB : SeqReads xs body) : RB (.arr xs) (91 :: (body ++ [93])) := by
  intro hc hu _ d hd k _ _
  replace hc := capsOK_arr_iff.mp hc
  have e : 91 :: (body ++ [93]) ++ k = 91 :: (body ++ 93 :: k) := by simp
  rw [e]
  have := hB hc.2 hu (d + 1) (by rw [Nat.add_right_comm]; exact hd) [] 0 k
    (by rw [List.length_nil, Nat.zero_add]; exact hc.1)
  exact .arr (Nat.lt_of_lt_of_le (Nat.lt_add_of_pos_right (Nat.succ_pos _)) hd) this

/-- One dictionary entry: the key, white space, the value, then `K` which leads through white space
to the next key or to `>>`. -/
theorem dict_entry {k ks w1 a : Bytes} {v : Obj} (hk : NameR k ks) (hw1 : WsR w1)
    (hv : Renders Gen.scanner_maxNameBytes v a) (hrb : RB v a) (hsep : w1 = [] → startsDelim v = true)
    (hkl : k.length ≤ Gen.scanner_maxNameBytes) (hc : capsOK v = true) (hu : uniqueKeys v = true)
    (d : Nat) (hd : d + depthOf v ≤ Gen.scanner_maxScannerNestDepth)
    (K : Bytes) (c : Nat) (t : Bytes) (hK : skipWS K = (c :: t, false)) (hcc : c = 47 ∨ c = 62)
    (hKend : EndsToken K)
    (acc : List (Bytes × Obj)) (hkacc : k ∉ keysOf acc) (hlen : acc.length < Gen.scanner_maxDictLen)
    {R : Except Err (List (Bytes × Obj) × Bytes)} (hR : DReads d (acc ++ [(k, v)]) (c :: t) R) :
    DReads d acc (47 :: ks ++ w1 ++ a ++ K) R := by
  obtain ⟨c0, t0, ha, hh, hdel⟩ := renders_head hv
  have e : 47 :: ks ++ w1 ++ a ++ K = (47 :: ks) ++ (w1 ++ (a ++ K)) := by simp only [List.append_assoc]
  rw [e]
  have hne : NameEnd (w1 ++ (a ++ K)) := by
    rw [ha]
    by_cases h0 : w1 = []
    · subst h0; exact hdel (hsep rfl)
    · exact endsToken_nameEnd (ws_endsToken hw1 h0 _)
  have hname : readName (47 :: ks ++ (w1 ++ (a ++ K))) = .ok (k, w1 ++ (a ++ K)) :=
    C04hisc.name_any_spelling k ks hk hkl _ hne
  have hs1 : skipWS (w1 ++ (a ++ K)) = (a ++ K, false) := by
    rw [ha]; exact skip_to hw1 c0 (t0 ++ K) (objHead_stops hh _)
  have hcs : c ≠ 115 := by rcases hcc with rfl | rfl <;> decide
  cases hx : isRefObj v with
  | false =>
    exact .entry hname hs1 (hrb hc hu hx d hd K (fun _ => hKend) (fun _ => noStream_of_skip hK hcs))
      (by rw [skip_restAfter, hK]) hcc hkacc hlen hR
  | true =>
    cases hv with
    | ref n g s1 w1' s2 w2' h1 l1 hw1' ne1 h2 l2 hw2' ne2 =>
      obtain ⟨hcn, hcg, hv⟩ := ref_parts hc
      obtain ⟨c2, t2, rfl, hh2⟩ := intR_head h2
      have oh2 : ObjHead c2 := numHead_objHead hh2
      have e : s1 ++ w1' ++ (c2 :: t2) ++ w2' ++ [82] ++ K = s1 ++ (w1' ++ ((c2 :: t2) ++ (w2' ++ ([82] ++ K)))) := by
        simp
      rw [e] at hs1 hname ⊢
      have h5 := readInteger_any (g : Int) (c2 :: t2) h2 (of_decide_eq_true hcg) l2
        (w2' ++ ([82] ++ K)) (endsToken_numStop (ws_endsToken hw2' ne2 _) _)
      have hc2 : c2 ≠ 47 ∧ c2 ≠ 62 :=
        ⟨by rintro rfl; exact absurd (numHead_facts hh2).2 (by decide), oh2.ne62⟩
      refine .entryRef hname hs1 (read_int_ws n s1 h1 l1 hcn w1' hw1' ne1 _ d (Nat.le_of_add_right_le hd))
        (skip_to hw1' c2 _ (objHead_stops oh2 _)) hc2 h5 (skip_to hw2' 82 K (stops_R K)) hK hkacc hlen ?_
      rw [hv, if_pos rfl, Int.toNat_natCast, Int.toNat_natCast]
      exact hR
    | _ => cases hx

theorem kvRBK_nil (w : Bytes) (hw : WsR w) : KVRBK [] w := by
  intro _ _ d _ acc K c t hK _ _ _ R hR inp hinp
  rw [(hK.ws hw).skip] at hinp
  cases hinp
  simpa using hR

theorem kvRBK_cons {w ks w1 a b k : Bytes} {v : Obj} {kv : List (Bytes × Obj)} (hw : WsR w) (hk : NameR k ks)
    (hw1 : WsR w1) (hv : Renders Gen.scanner_maxNameBytes v a) (hrb : RB v a) (hsep : w1 = [] → startsDelim v = true)
    (htail : RendersKV Gen.scanner_maxNameBytes kv b) (hC : KVRBK kv b) :
    KVRBK ((k, v) :: kv) (w ++ 47 :: ks ++ w1 ++ a ++ b) := by
  intro hc hu d hd acc K c0 t0 hK0 hdisj hnodup hlen R hR inp hinp
  rw [capsKV_cons] at hc
  rw [uniqueKeysKV_cons] at hu
  have hnd := List.nodup_cons.mp (show (k :: keysOf kv).Nodup from hnodup)
  have hkacc : k ∉ keysOf acc := hdisj (k, v) List.mem_cons_self
  obtain ⟨c, t, hK⟩ := kv_cont htail hK0
  obtain ⟨h1, _, _⟩ := close_stops 47 (.inl rfl) (ks ++ w1 ++ a ++ (b ++ K))
  have e : w ++ 47 :: ks ++ w1 ++ a ++ b ++ K = w ++ (47 :: ks ++ w1 ++ a ++ (b ++ K)) := by simp
  rw [e] at hinp
  cases (skip_to hw 47 _ h1).symm.trans hinp
  refine dict_entry hk hw1 hv hrb hsep hc.1 hc.2.1 hu.1 d (depth_left hd) (b ++ K) c t hK.skip hK.head hK.ends
    acc hkacc (Nat.lt_of_lt_of_le (Nat.lt_add_of_pos_right (Nat.succ_pos _)) hlen) ?_
  have hdisj' : ∀ e ∈ kv, e.1 ∉ keysOf (acc ++ [(k, v)]) := by
    intro e he hmem
    rw [keysOf_append] at hmem
    rcases List.mem_append.1 hmem with h | h
    · exact hdisj e (List.mem_cons_of_mem _ he) h
    · have hek : e.1 = k := List.mem_singleton.1 h
      exact hnd.1 (hek ▸ mem_keysOf.mpr ⟨e, he, rfl⟩)
  refine hC hc.2.2 hu.2 d (depth_right hd) (acc ++ [(k, v)]) K c0 t0 hK0 hdisj' hnd.2
    (by rw [List.length_append, List.length_singleton, Nat.add_assoc, Nat.add_comm 1]; exact hlen) R ?_ (c :: t) hK.skip
  rw [List.append_assoc]
  exact hR

/-- up to `>>`, where the loop ends -/
theorem kvRB_of_K {kv : List (Bytes × Obj)} {body : Bytes} (h : KVRBK kv body) : KVRB kv body := by
  intro hc hu d hd acc rest hdisj hnd hlen fuel hf inp hinp
  have := skipWS_len' hinp
  exact h hc hu d hd acc _ _ _ (kvCont_head 62 (.inr rfl) (62 :: rest)) hdisj hnd hlen _ .done inp hinp fuel (by omega)

/-- behind the dictionary `ReadObject` skips white space to look for `stream` -/
theorem rb_dict {kv : List (Bytes × Obj)} {body : Bytes} (hr : RendersKV Gen.scanner_maxNameBytes kv body)
    (hC : KVRBK kv body) : RB (.dict kv) (60 :: 60 :: (body ++ [62, 62])) := by
  intro hc hu _ d hd k _ hns
  replace hc := capsOK_dict_iff.mp hc
  rw [uniqueKeys_dict] at hu
  have e : 60 :: 60 :: (body ++ [62, 62]) ++ k = 60 :: 60 :: (body ++ 62 :: 62 :: k) := by simp
  rw [e]
  obtain ⟨c, t, ⟨hK, _, _⟩⟩ := kv_cont hr (kvCont_head 62 (.inr rfl) (62 :: k))
  have hloop := hC hc.2 hu.2 (d + 1) (by rw [Nat.add_right_comm]; exact hd) [] _ _ _ (kvCont_head 62 (.inr rfl) (62 :: k))
    nofun hu.1 (by rw [List.length_nil, Nat.zero_add]; exact hc.1) _ .done (c :: t) hK
  exact .dict (Nat.lt_of_lt_of_le (Nat.lt_add_of_pos_right (Nat.succ_pos _)) hd) hK hloop (hns rfl)

mutual
theorem rb_all : ∀ {o : Obj} {bs : Bytes}, Renders Gen.scanner_maxNameBytes o bs → RB o bs
  | _, _, .null => rb_kw rfl fun k f d => (readObject_kw f d k).1
  | _, _, .tru => rb_kw rfl fun k f d => (readObject_kw f d k).2.1
  | _, _, .fls => rb_kw rfl fun k f d => (readObject_kw f d k).2.2
  | _, _, .int i s h l => rb_int i s h l
  | _, _, .real t h l => rb_real t h l
  | _, _, .name v s h => rb_name v s h
  | _, _, .strLit v s h => rb_lit v s h
  | _, _, .strHex v s h => rb_hex v s h
  | _, _, .ref n g _ _ _ _ _ _ _ _ _ _ _ _ => rb_ref n g _
  | _, _, .arr _ _ h => rb_arr (seqReads_all h)
  | _, _, .dict _ _ h => rb_dict h (kvRBK_all h)
theorem seqReads_all : ∀ {p : Bool} {xs : List Obj} {body : Bytes},
    RendersSeq Gen.scanner_maxNameBytes p xs body → SeqReads xs body
  | _, _, _, .nil _ w hw => seqReads_nil w hw
  | _, _, _, .cons _ _ _ _ _ _ hw hx _ ht => seqReads_cons hw hx (rb_all hx) ht (seqReads_all ht)
theorem kvRBK_all : ∀ {kv : List (Bytes × Obj)} {body : Bytes},
    RendersKV Gen.scanner_maxNameBytes kv body → KVRBK kv body
  | _, _, .nil w hw => kvRBK_nil w hw
  | _, _, .cons _ _ _ _ _ _ _ _ hw hk hw1 hv hsep ht => kvRBK_cons hw hk hw1 hv (rb_all hv) hsep ht (kvRBK_all ht)
end

end PdfVerif.C04L
