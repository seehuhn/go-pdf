import PdfVerif.Model.ROBScanObj
import PdfVerif.Lemmas.C01Total
/-!
The buffered scanner (`Model/ROBScanBuf.lean`, `Model/ROBScanObj.lean`) said on the whole input, in the terms of
`Model/Scan.lean`: no buffer, no reader.  `scanSpec` is what `ScanBytes(accept)` computes; at the acceptors of
`SkipWhiteSpace`, `ReadNumber`/`ReadInteger`, `ReadHexString` it is `skipWS`, `scanNumTok`, `readHexBody`; the loops of
`ReadName` and `ReadString` take any fuel above the length of the input.  `Lemmas/ROBBuf.lean`, `Lemmas/ROBParse.lean`
and the C05/C19 files state and prove in these terms; the names are those of `Props/C05robbuf.lean`,
`Props/C05robobj.lean` and (`hardErr_ne`) `Props/C19robtok.lean`.
-/
namespace PdfVerif.C05robbuf
open PdfVerif PdfVerif.ROB

/-- `ScanBytes(accept)` on the whole input: final acceptor state, rest of the input (starting with
    the rejected byte), and whether the end of the input was reached -/
def scanSpec {σ : Type} (acc : σ → Nat → Option σ) : σ → Bytes → σ × Bytes × Bool
  | st, [] => (st, [], true)
  | st, b :: bs =>
    match acc st b with
    | none => (st, b :: bs, false)
    | some st' => scanSpec acc st' bs

theorem scanSpec_nil {σ : Type} (acc : σ → Nat → Option σ) (st : σ) : scanSpec acc st [] = (st, [], true) := rfl

theorem scanSpec_cons_none {σ : Type} {acc : σ → Nat → Option σ} {st : σ} {b : Nat} (bs : Bytes) (h : acc st b = none) :
    scanSpec acc st (b :: bs) = (st, b :: bs, false) := by
  rw [scanSpec, h]

theorem scanSpec_cons_some {σ : Type} {acc : σ → Nat → Option σ} {st st' : σ} {b : Nat} (bs : Bytes)
    (h : acc st b = some st') : scanSpec acc st (b :: bs) = scanSpec acc st' bs := by
  rw [scanSpec, h]

theorem scanSpec_wsAcc : ∀ inp : Bytes,
    (scanSpec wsAcc false inp).2 = skipWS inp ∧ (scanSpec wsAcc true inp).2 = skipComment inp := by
  intro inp
  induction inp with
  | nil => simp [scanSpec, skipWS, skipComment]
  | cons c cs ih =>
    obtain ⟨h1, h2⟩ := ih
    constructor
    · by_cases h37 : (c == 37) = true
      · simp [scanSpec, wsAcc, skipWS, h37, h2]
      · by_cases hsp : isSpace c = true
        · simp [scanSpec, wsAcc, skipWS, h37, hsp, h1]
        · simp [scanSpec, wsAcc, skipWS, h37, hsp]
    · by_cases hnl : (c == 13 || c == 10) = true
      · simp [scanSpec, wsAcc, skipComment, hnl, h1]
      · simp [scanSpec, wsAcc, skipComment, hnl, h2]

end PdfVerif.C05robbuf

namespace PdfVerif.C05robobj
open PdfVerif PdfVerif.ROB PdfVerif.C05robbuf

theorem skipWS_false_ne : ∀ inp : Bytes,
    ((skipWS inp).2 = false → (skipWS inp).1 ≠ []) ∧ ((skipComment inp).2 = false → (skipComment inp).1 ≠ []) := by
  -- `skipWS` of what is left gives the same answer again, and `skipWS [] = ([], true)`
  have key : ∀ r : Bytes × Bool, skipWS r.1 = r → r.2 = false → r.1 ≠ [] := fun r e h hn => by
    rw [hn] at e
    rw [← e] at h
    cases h
  exact fun inp => ⟨key _ (C01L.skip_idem inp).1, key _ (C01L.skip_idem inp).2⟩

/-- what `tryHex` decides, on the bytes after the `#` -/
def tryHexSpec : Bytes → Option (Nat × Bytes)
  | h :: l :: rest' =>
    match hexVal h, hexVal l with
    | some a, some b => some (a * 16 + b, rest')
    | _, _ => none
  | _ => none

/-- the test that ends a name lets `#` through -/
theorem hash_goes_on : (35 != 35 && !isRegular 35) = false := rfl

theorem readNameBody_hash (fuel len : Nat) (rest : Bytes) :
    readNameBody (fuel + 1) len (35 :: rest) =
    if len ≥ Gen.scanner_maxNameBytes then .error .malformed
    else match tryHexSpec rest with
      | some (v, rest') => consRes v (readNameBody fuel (len + 1) rest')
      | none => consRes 35 (readNameBody fuel (len + 1) rest) := by
  conv => lhs; unfold readNameBody
  simp only [hash_goes_on, Bool.false_eq_true, if_false, beq_self_eq_true, if_true]
  split
  · rfl
  · match rest with
    | [] => rfl
    | [h] => rfl
    | h :: l :: rest' =>
      simp only [tryHexSpec]
      cases hexVal h <;> cases hexVal l <;> rfl

theorem reg_ne_62 (c : Nat) (h : ¬ ((c != 35 && !isRegular c) = true)) : c ≠ 62 := by
  intro hc
  subst hc
  exact h (by rw [C01L.isRegular_eq]; decide)

theorem tryHexSpec_len (rest : Bytes) (v : Nat) (rest' : Bytes) (h : tryHexSpec rest = some (v, rest')) :
    rest'.length + 2 = rest.length := by
  match rest, h with
  | h' :: l :: r, h =>
    simp only [tryHexSpec] at h
    cases ha : hexVal h' <;> cases hb : hexVal l <;> simp [ha, hb] at h
    obtain ⟨_, rfl⟩ := h
    simp

theorem readNameBody_fuel : ∀ (f1 f2 len : Nat) (inp : Bytes), inp.length + 1 ≤ f1 → inp.length + 1 ≤ f2 →
    readNameBody f1 len inp = readNameBody f2 len inp := by
  intro f1
  induction f1 with
  | zero => intro f2 len inp h1 _; omega
  | succ f1 ih =>
    intro f2 len inp h1 h2
    obtain ⟨f2, rfl⟩ : ∃ k, f2 = k + 1 := ⟨f2 - 1, by omega⟩
    cases inp with
    | nil => unfold readNameBody; rfl
    | cons c rest =>
      simp only [List.length_cons] at h1 h2
      by_cases h3 : c = 35
      · subst h3
        rw [readNameBody_hash, readNameBody_hash]
        split
        · rfl
        · cases hs : tryHexSpec rest with
          | none => dsimp only; rw [ih f2 (len + 1) rest (by omega) (by omega)]
          | some p =>
            obtain ⟨v, rest'⟩ := p
            have := tryHexSpec_len rest v rest' hs
            dsimp only
            rw [ih f2 (len + 1) rest' (by omega) (by omega)]
      · have h3' : (c == 35) = false := by simpa using h3
        unfold readNameBody
        simp only [h3', Bool.false_eq_true, if_false]
        rw [ih f2 (len + 1) rest (by omega) (by omega)]

theorem readName_other (c : Nat) (rest : Bytes) (hc : c ≠ 47) : readName (c :: rest) = .error .malformed := by
  unfold readName
  split
  · rename_i heq; cases heq; exact (hc rfl).elim
  · rfl

/-- the decision of the acceptor of `ReadNumber`/`ReadInteger` (and of `scanNumTok`) on the byte `c`:
    `some hd` when it is accepted, `hd` being the new `hasDot` -/
def numNext (a hasDot first : Bool) (c : Nat) : Option Bool :=
  if a && !hasDot && c == 46 then some true
  else if first && (c == 43 || c == 45) then some hasDot
  else if isDigit c then some hasDot
  else none

/-- the local `push` of `numAcc` -/
def pushSt (st : NumSt) (hd : Bool) (c : Nat) : NumSt :=
  if st.tok.length < Gen.scanner_maxNameBytes then ⟨hd, false, c :: st.tok, st.overflow⟩
  else ⟨hd, false, st.tok, true⟩

theorem numAcc_next (a : Bool) (st : NumSt) (c : Nat) :
    numAcc a st c = (numNext a st.hasDot st.first c).map fun hd => pushSt st hd c := by
  have push : ∀ hd, (if st.tok.length < Gen.scanner_maxNameBytes then some (NumSt.mk hd false (c :: st.tok) st.overflow)
      else some ⟨hd, false, st.tok, true⟩) = some (pushSt st hd c) := by
    intro hd; unfold pushSt; split <;> rfl
  unfold numAcc
  -- the exits of `numNext`, in its order: a dot, a sign, a digit, none of them
  fun_cases numNext a st.hasDot st.first c <;> simp only [*, Bool.false_eq_true, if_true, if_false] <;> rfl

theorem scanNumTok_next (a h f : Bool) (c : Nat) (cs : Bytes) :
    scanNumTok a h f (c :: cs) =
      match numNext a h f c with
      | some hd => (c :: (scanNumTok a hd false cs).1, (scanNumTok a hd false cs).2)
      | none => ([], c :: cs) := by
  rw [scanNumTok]
  fun_cases numNext a h f c <;> simp only [*, Bool.false_eq_true, if_true, if_false]

theorem numNext_dot {a h f : Bool} {c : Nat} {hd : Bool} (hn : numNext a h f c = some hd) :
    hd = (h || c == 46) := by
  unfold numNext at hn
  by_cases h1 : (a && !h && c == 46) = true
  · rw [if_pos h1] at hn; cases hn; simp at h1; simp [h1]
  rw [if_neg h1] at hn
  have hc : (c == 46) = false → hd = h → hd = (h || c == 46) := fun e1 e2 => by rw [e1, e2]; simp
  by_cases h2 : (f && (c == 43 || c == 45)) = true
  · rw [if_pos h2] at hn; cases hn
    exact hc (by simp at h2 ⊢; omega) rfl
  rw [if_neg h2] at hn
  by_cases h3 : isDigit c = true
  · rw [if_pos h3] at hn; cases hn
    exact hc (by simp [isDigit] at h3 ⊢; omega) rfl
  · rw [if_neg h3] at hn; cases hn

/-- the last two conjuncts are the step of the token and overflow clauses of `NumScanOk` -/
theorem pushSt_props (st : NumSt) (hd : Bool) (c : Nat) (hl : st.tok.length ≤ Gen.scanner_maxNameBytes) :
    (pushSt st hd c).tok.length ≤ Gen.scanner_maxNameBytes ∧ (pushSt st hd c).hasDot = hd ∧ (pushSt st hd c).first = false ∧
    (∀ t : Bytes, ((pushSt st hd c).tok.reverse ++ t).take Gen.scanner_maxNameBytes =
        (st.tok.reverse ++ c :: t).take Gen.scanner_maxNameBytes) ∧
    (∀ t : Bytes, ((pushSt st hd c).overflow || decide (((pushSt st hd c).tok.reverse ++ t).length > Gen.scanner_maxNameBytes)) =
        (st.overflow || decide ((st.tok.reverse ++ c :: t).length > Gen.scanner_maxNameBytes))) := by
  unfold pushSt
  by_cases hlt : st.tok.length < Gen.scanner_maxNameBytes
  · simp only [hlt, if_true]
    refine ⟨by simp; omega, by trivial, by trivial, fun t => by simp, fun t => ?_⟩
    -- `(c :: tok).reverse ++ t` is `tok.reverse ++ c :: t`
    show (_ || decide (((c :: st.tok).reverse ++ t).length > _)) = _
    rw [List.reverse_cons, List.append_assoc]; rfl
  · simp only [hlt, if_false]
    have heq : st.tok.length = Gen.scanner_maxNameBytes := by omega
    refine ⟨hl, by trivial, by trivial, fun t => ?_, fun t => ?_⟩
    · rw [List.take_append_of_le_length (by simp [heq]), List.take_append_of_le_length (by simp [heq])]
    · simp; omega

/-- the acceptor's run from `st` against `scanNumTok`: same rest; the token collected is the first `maxNameBytes`
    bytes of the token, `overflow` says it was longer, `hasDot` that it contains a dot -/
def NumScanOk (a : Bool) (st : NumSt) (inp : Bytes) : Prop :=
  (scanSpec (numAcc a) st inp).2.1 = (scanNumTok a st.hasDot st.first inp).2 ∧
  (scanSpec (numAcc a) st inp).1.tok.reverse =
    (st.tok.reverse ++ (scanNumTok a st.hasDot st.first inp).1).take Gen.scanner_maxNameBytes ∧
  (scanSpec (numAcc a) st inp).1.overflow =
    (st.overflow || decide ((st.tok.reverse ++ (scanNumTok a st.hasDot st.first inp).1).length > Gen.scanner_maxNameBytes)) ∧
  (scanSpec (numAcc a) st inp).1.hasDot = (st.hasDot || (scanNumTok a st.hasDot st.first inp).1.contains 46)

theorem numScan_stop (a : Bool) (st : NumSt) (inp : Bytes) (hl : st.tok.length ≤ Gen.scanner_maxNameBytes)
    (h1 : scanSpec (numAcc a) st inp = (st, inp, decide (inp = [])))
    (h2 : scanNumTok a st.hasDot st.first inp = ([], inp)) : NumScanOk a st inp := by
  unfold NumScanOk
  rw [h1, h2]
  simp only [List.append_nil, List.length_reverse]
  refine ⟨by trivial, ?_, ?_, by simp⟩
  · rw [List.take_of_length_le (by simpa using hl)]
  · have : ¬ (st.tok.length > Gen.scanner_maxNameBytes) := by omega
    simp [this]

theorem numScan_step (a : Bool) (st : NumSt) (hd : Bool) (c : Nat) (cs : Bytes)
    (hl : st.tok.length ≤ Gen.scanner_maxNameBytes) (hn : numNext a st.hasDot st.first c = some hd)
    (ih : NumScanOk a (pushSt st hd c) cs) : NumScanOk a st (c :: cs) := by
  obtain ⟨p1, p2, p3, p4, p5⟩ := pushSt_props st hd c hl
  unfold NumScanOk at ih ⊢
  rw [scanSpec_cons_some cs (show numAcc a st c = some (pushSt st hd c) by rw [numAcc_next, hn]; rfl), scanNumTok_next, hn]
  rw [p2, p3] at ih
  obtain ⟨i1, i2, i3, i4⟩ := ih
  refine ⟨i1, ?_, ?_, ?_⟩
  · rw [i2]; exact p4 _
  · rw [i3]; exact p5 _
  · rw [i4, numNext_dot hn, List.contains_cons, Bool.or_assoc, show (46 == c) = (c == 46) from Bool.beq_comm]

theorem numAcc_scan (a : Bool) : ∀ (inp : Bytes) (st : NumSt), st.tok.length ≤ Gen.scanner_maxNameBytes →
    NumScanOk a st inp := by
  intro inp
  induction inp with
  | nil =>
    intro st hl
    exact numScan_stop a st [] hl (scanSpec_nil _ _) (by simp [scanNumTok])
  | cons c cs ih =>
    intro st hl
    cases hn : numNext a st.hasDot st.first c with
    | none =>
      exact numScan_stop a st (c :: cs) hl (scanSpec_cons_none cs (by rw [numAcc_next, hn]; rfl)) (by rw [scanNumTok_next, hn])
    | some hd => exact numScan_step a st hd c cs hl hn (ih _ (pushSt_props st hd c hl).1)

theorem hardErr_eofOrNone (e : Option Err) (h : e = none ∨ e = some .eof) : hardErr e = none := by
  rcases h with h | h <;> subst h <;> rfl

theorem readStringBody_fuel : ∀ (f1 f2 lvl : Nat) (ig : Bool) (len : Nat) (inp : Bytes),
    inp.length + 1 ≤ f1 → inp.length + 1 ≤ f2 →
    readStringBody f1 lvl ig len inp = readStringBody f2 lvl ig len inp := by
  intro f1
  induction f1 with
  | zero => intro f2 lvl ig len inp h1 _; omega
  | succ f1 ih =>
    intro f2 lvl ig len inp h1 h2
    obtain ⟨f2, rfl⟩ : ∃ k, f2 = k + 1 := ⟨f2 - 1, by omega⟩
    cases inp with
    | nil => unfold readStringBody; rfl
    | cons b rest =>
      simp only [List.length_cons] at h1 h2
      have e1 : ∀ lvl ig ln, readStringBody f1 lvl ig ln rest = readStringBody f2 lvl ig ln rest :=
        fun lvl ig ln => ih f2 lvl ig ln rest (by omega) (by omega)
      cases rest with
      | nil =>
        conv => lhs; unfold readStringBody
        conv => rhs; unfold readStringBody
        simp only [e1]
      | cons esc rest' =>
        simp only [List.length_cons] at h1 h2
        have e2 : ∀ lvl ig ln, readStringBody f1 lvl ig ln rest' = readStringBody f2 lvl ig ln rest' :=
          fun lvl ig ln => ih f2 lvl ig ln rest' (by omega) (by omega)
        have hoct := C01L.readOctTail_len 2 (esc - 48) rest'
        have e3 : ∀ lvl ig ln, readStringBody f1 lvl ig ln (readOctTail (esc - 48) 2 rest').2 =
            readStringBody f2 lvl ig ln (readOctTail (esc - 48) 2 rest').2 :=
          fun lvl ig ln => ih f2 lvl ig ln _ (by omega) (by omega)
        conv => lhs; unfold readStringBody
        conv => rhs; unfold readStringBody
        simp only [e1, e2, e3]

/-- `pre` in front of a result: the model conses from the front, the acceptor of `ReadHexString` accumulates in
    reverse, and `hexAcc_scan` is stated for every state of the acceptor -/
def appRes (pre : Bytes) : Except Err (Bytes × Bytes) → Except Err (Bytes × Bytes)
  | .ok (v, r) => .ok (pre ++ v, r)
  | .error e => .error e

theorem appRes_consRes (pre : Bytes) (x : Nat) (r : Except Err (Bytes × Bytes)) :
    appRes pre (consRes x r) = appRes (pre ++ [x]) r := by
  cases r with
  | error e => rfl
  | ok p => obtain ⟨v, rest⟩ := p; simp [appRes, consRes]

theorem appRes_nil (r : Except Err (Bytes × Bytes)) : appRes [] r = r := by
  cases r with
  | error e => rfl
  | ok p => obtain ⟨v, rest⟩ := p; rfl

/-- what `ReadHexString` does after `ScanBytes` has stopped: the final odd digit (subject to the
    cap), then `SkipString(">")` -/
def hexFinish (st : HexSt) (rest : Bytes) : Except Err (Bytes × Bytes) :=
  match (match st.pending with
      | some h => if st.res.length ≥ Gen.scanner_maxStringBytes then none else some ((16 * h) :: st.res)
      | none => some st.res) with
  | none => .error .malformed
  | some res =>
    match rest with
    | 62 :: cs => .ok (res.reverse, cs)
    | _ => .error .malformed

theorem hexVal_62 : hexVal 62 = none := by decide

/-- the acceptor of `ReadHexString` run over the whole input, followed by `hexFinish`, is
    `readHexBody` -/
theorem hexAcc_scan : ∀ (inp : Bytes) (st : HexSt),
    appRes st.res.reverse (readHexBody st.pending st.res.length inp) =
      if (scanSpec hexAcc st inp).2.2 = true then .error .eof
      else hexFinish (scanSpec hexAcc st inp).1 (scanSpec hexAcc st inp).2.1 := by
  intro inp st
  obtain ⟨pending, res⟩ := st
  generalize hl : res.length = len
  show appRes res.reverse (readHexBody pending len inp) = _
  -- at each exit of `readHexBody` the other side takes one step of `scanSpec hexAcc`
  fun_induction readHexBody pending len inp generalizing res with
  | case1 => rfl                                                        -- end of input
  -- `>`: with a pending digit at the cap, with a pending digit, without
  | case2 _ _ _ hc _ hcap => subst hl; cases eq_of_beq hc; simp [scanSpec, hexAcc, hexVal_62, hexFinish, appRes, hcap]
  | case3 _ _ _ hc _ hcap => subst hl; cases eq_of_beq hc; simp [scanSpec, hexAcc, hexVal_62, hexFinish, appRes, hcap]
  | case4 _ _ _ hc => cases eq_of_beq hc; simp [scanSpec, hexAcc, hexVal_62, hexFinish, appRes]
  -- not a hex digit: skipped; the first digit of a pair; the second digit at the cap, and below it
  | case5 _ _ _ _ hc hx ih => rw [ih res hl]; simp [scanSpec, hexAcc, hx, hc]
  | case6 _ _ _ hc _ hx ih => rw [ih res hl]; simp [scanSpec, hexAcc, hx]
  | case7 _ _ _ hc _ hx _ hcap => subst hl; simp [scanSpec, hexAcc, hx, hexFinish, appRes, hcap]
  | case8 _ _ _ hc d hx h hcap ih =>
    subst hl
    rw [appRes_consRes, ← List.reverse_cons, ih _ rfl]
    simp [scanSpec, hexAcc, hx, hcap]

theorem isPrefixOf_take : ∀ (pat inp : Bytes) (n : Nat), pat.length ≤ n →
    isPrefixOf pat (inp.take n) = isPrefixOf pat inp := fun pat inp n hn =>
  Bool.eq_iff_iff.2 (by rw [C01L.isPrefixOf_iff, C01L.isPrefixOf_iff, List.prefix_take_iff]; exact and_iff_left hn)

theorem isPrefixOf_len : ∀ (pat inp : Bytes), isPrefixOf pat inp = true → pat.length ≤ inp.length :=
  C01L.isPrefixOf_len

theorem lt_lt (c : Nat) (rest : Bytes) :
    startsWith (c :: rest.take 4) [60, 60] = (c == 60 && rest.head? == some 60) := by
  cases rest with
  | nil => simp [startsWith, isPrefixOf]
  | cons r0 rs =>
    simp only [startsWith, isPrefixOf, List.take_succ_cons, List.head?_cons, Bool.and_true]
    have e1 : (60 == c) = (c == 60) := Bool.beq_comm
    have e2 : (60 == r0) = (r0 == 60) := Bool.beq_comm
    rw [e1, e2]; simp

theorem skipWS_idem : ∀ inp : Bytes,
    (∀ c rest, skipWS inp = (c :: rest, false) → skipWS (c :: rest) = (c :: rest, false)) ∧
    (∀ c rest, skipComment inp = (c :: rest, false) → skipWS (c :: rest) = (c :: rest, false)) := by
  intro inp
  have h := C01L.skip_idem inp
  exact ⟨fun c rest e => by simpa [e] using h.1, fun c rest e => by simpa [e] using h.2⟩


theorem numAcc_scan_init (a : Bool) (inp : Bytes) {st : NumSt} {r : Bytes} {b : Bool}
    (hs : scanSpec (numAcc a) ⟨false, true, [], false⟩ inp = (st, r, b)) :
    r = (scanNumTok a false true inp).2 ∧
    st.overflow = decide ((scanNumTok a false true inp).1.length > Gen.scanner_maxNameBytes) ∧
    (st.overflow = false → st.tok.reverse = (scanNumTok a false true inp).1) ∧
    st.hasDot = (scanNumTok a false true inp).1.contains 46 := by
  have N := numAcc_scan a inp ⟨false, true, [], false⟩ (Nat.zero_le _)
  unfold NumScanOk at N
  rw [hs] at N
  simp only [List.reverse_nil, List.nil_append, Bool.false_or] at N
  obtain ⟨n1, n2, n3, n4⟩ := N
  refine ⟨n1, n3, fun hov => ?_, n4⟩
  rw [n2]
  exact List.take_of_length_le (Nat.le_of_not_gt (of_decide_eq_false (n3.symm.trans hov)))

theorem inComposite_ne (e : Err) (he : e ≠ .eof) : e.inComposite = e := by
  cases e <;> first | rfl | exact (he rfl).elim

end PdfVerif.C05robobj

theorem PdfVerif.C19robtok.hardErr_ne (e : PdfVerif.Err) (he : e ≠ .eof) : PdfVerif.ROB.hardErr (some e) = some e := by
  cases e <;> first | rfl | exact (he rfl).elim
