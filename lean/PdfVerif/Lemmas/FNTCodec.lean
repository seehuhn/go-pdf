import PdfVerif.Model.FNTCodec
/-!
Round trip of `decode` / `appendCode` (`Model/FNTCodec.lean`) on the valid codes of any code space:
`Valid` follows the candidate sets as the codec does, `decode_isCode` / `appendCode_isCode` are the
two directions.  `valid_of_match` is the criterion for code spaces in which one byte singles out the
range (`charcode.UTF8`, `charcode.UCS2`).  `loop_flatMap` lifts the round trip of single codes to
strings (unique segmentation).
-/
namespace PdfVerif.FNT

/-- `bs` is a complete code of the candidate set `R` entered at depth `d`, as the codec walks it:
every byte leaves a candidate, and the bytes end exactly where all remaining candidates end -/
def Valid : CSR → Nat → Bytes → Prop
  | _, _, [] => False
  | R, d, b :: tl =>
    filterAt d b R ≠ [] ∧
    if (filterAt d b R).all (fun r => r.low.length == d + 1) = true then tl = []
    else Valid (filterAt d b R) (d + 1) tl

theorem matchAt_iff {r : Range} {d b : Nat} :
    r.matchAt d b = true ↔ ∃ l h, r.low[d]? = some l ∧ r.high[d]? = some h ∧ l ≤ b ∧ b ≤ h := by
  unfold Range.matchAt
  split
  · next l h hl hh => simp [hl, hh]
  · next hn =>
    simp only [Bool.false_eq_true, false_iff]
    rintro ⟨l, h, hl, hh, _⟩
    exact hn l h hl hh

theorem filterAt_lt {R : CSR} (hR : ∀ r ∈ R, AllBytes r.high) {d b : Nat} (hne : filterAt d b R ≠ []) :
    b < 256 := by
  obtain ⟨r, hr⟩ := List.exists_mem_of_ne_nil _ hne
  obtain ⟨hr, hm⟩ := List.mem_filter.mp hr
  obtain ⟨_, u, _, hu, _, hbu⟩ := matchAt_iff.mp hm
  have := hR r hr u (List.mem_of_getElem? hu)
  omega

theorem packFrom_succ (d : Nat) (bs : Bytes) : packFrom (d + 1) bs = 256 * packFrom d bs := by
  induction bs generalizing d with
  | nil => rfl
  | cons b bs ih => simp only [packFrom, ih, Nat.pow_succ]; rw [Nat.mul_add]; ac_rfl

theorem packFrom_zero_cons (b : Nat) (bs : Bytes) : packFrom 0 (b :: bs) = b + 256 * packFrom 0 bs := by
  simp [packFrom, packFrom_succ]

theorem packFrom_zero_cons_mod_div (b : Nat) (bs : Bytes) (hb : b < 256) :
    packFrom 0 (b :: bs) % 256 = b ∧ packFrom 0 (b :: bs) / 256 = packFrom 0 bs := by
  rw [packFrom_zero_cons, Nat.add_mul_mod_self_left, Nat.mod_eq_of_lt hb,
    Nat.add_mul_div_left _ _ (by decide), Nat.div_eq_of_lt hb, Nat.zero_add]
  exact ⟨rfl, rfl⟩

theorem decodeAux_valid {fuel : Nat} {R : CSR} {d : Nat} {bs : Bytes} (code : Nat) (rest : Bytes)
    (h : Valid R d bs) (hf : bs.length ≤ fuel) :
    decodeAux fuel R d code (bs ++ rest) = (code + packFrom d bs, d + bs.length, true) := by
  induction bs generalizing fuel R d code with
  | nil => exact h.elim
  | cons b tl ih =>
    cases fuel with
    | zero => simp at hf
    | succ f =>
      obtain ⟨hne, h⟩ := h
      have he : (filterAt d b R).isEmpty = false := by simpa using hne
      simp only [List.cons_append, decodeAux, he, Bool.false_eq_true, ↓reduceIte]
      by_cases hall : (filterAt d b R).all (fun r => r.low.length == d + 1) = true
      · rw [if_pos hall] at h ⊢
        subst h; simp [packFrom]
      · rw [if_neg hall] at h ⊢
        rw [ih _ h (by simpa using hf)]
        simp only [packFrom, List.length_cons, Prod.mk.injEq, and_true]
        omega

/-- `AllBytes r.high` makes every byte of a code smaller than 256, so that `appendCode` gets it
back from the packed value by `% 256` -/
theorem appendAux_valid {fuel : Nat} {R : CSR} {d : Nat} {bs : Bytes} (hR : ∀ r ∈ R, AllBytes r.high)
    (h : Valid R d bs) (hf : bs.length ≤ fuel) : appendAux fuel R d (packFrom 0 bs) = bs := by
  induction bs generalizing fuel R d with
  | nil => exact h.elim
  | cons b tl ih =>
    cases fuel with
    | zero => simp at hf
    | succ f =>
      obtain ⟨hne, h⟩ := h
      obtain ⟨e, e'⟩ := packFrom_zero_cons_mod_div b tl (filterAt_lt hR hne)
      have he : (filterAt d b R).isEmpty = false := by simpa using hne
      simp only [appendAux, e, e', he, Bool.false_eq_true, ↓reduceIte]
      by_cases hall : (filterAt d b R).all (fun r => r.low.length == d + 1) = true
      · rw [if_pos hall] at h ⊢
        rw [h]
      · rw [if_neg hall] at h ⊢
        rw [ih (R := filterAt d b R) (fun r hr => hR r (List.mem_filter.mp hr).1) h (by simpa using hf)]

/-- a complete code of at most four bytes: 4 is the fuel of `decode` and `appendCode` in the model, the
    longest code `charcode` allows -/
def IsCode (R : CSR) (bs : Bytes) : Prop := Valid R 0 bs ∧ bs.length ≤ 4

theorem isCode_ne_nil {R : CSR} {bs : Bytes} (h : IsCode R bs) : bs ≠ [] := by
  rintro rfl; exact h.1.elim

theorem decode_isCode {R : CSR} {bs : Bytes} (h : IsCode R bs) (rest : Bytes) :
    decode R (bs ++ rest) = (packLE bs, bs.length, true) := by
  simp [decode, packLE, decodeAux_valid 0 rest h.1 h.2]

theorem appendCode_isCode {R : CSR} (hR : ∀ r ∈ R, AllBytes r.high) {bs : Bytes} (h : IsCode R bs) :
    appendCode R (packLE bs) = bs := by
  unfold appendCode packLE
  exact appendAux_valid hR h.1 h.2

def matchFrom (r : Range) : Nat → Bytes → Bool
  | _, [] => true
  | d, b :: bs => r.matchAt d b && matchFrom r (d + 1) bs

@[simp] theorem matchFrom_nil (r : Range) (d : Nat) : matchFrom r d [] = true := rfl

theorem matchFrom_succ_cons (l h : Nat) (lo hi : Bytes) (d : Nat) (bs : Bytes) :
    matchFrom ⟨l :: lo, h :: hi⟩ (d + 1) bs = matchFrom ⟨lo, hi⟩ d bs := by
  induction bs generalizing d with
  | nil => rfl
  | cons b bs ih => simp only [matchFrom, ih]; rfl

theorem matchFrom_range_cons (l h b : Nat) (lo hi bs : Bytes) :
    matchFrom ⟨l :: lo, h :: hi⟩ 0 (b :: bs) = (decide (l ≤ b) && decide (b ≤ h) && matchFrom ⟨lo, hi⟩ 0 bs) := by
  rw [matchFrom, matchFrom_succ_cons]; rfl

theorem filterAt_singleton {r : Range} {d b : Nat} (h : r.matchAt d b = true) : filterAt d b [r] = [r] := by
  simp [filterAt, h]

theorem valid_of_match {r : Range} {R : CSR} {d b : Nat} {tl : Bytes} (hR : filterAt d b R = [r])
    (hm : matchFrom r (d + 1) tl = true) (hlen : r.low.length = d + 1 + tl.length) : Valid R d (b :: tl) := by
  induction tl generalizing R d b with
  | nil => simp [Valid, hR, hlen]
  | cons b' tl ih =>
    simp only [matchFrom, Bool.and_eq_true] at hm
    simp only [List.length_cons] at hlen
    have hne : ¬ r.low.length = d + 1 := by omega
    simp only [Valid, hR, List.all_cons, List.all_nil, Bool.and_true, beq_iff_eq, hne, ↓reduceIte]
    exact ⟨by simp, ih (filterAt_singleton hm.1) hm.2 (by omega)⟩

def firstBelow (r r' : Range) : Bool :=
  match r.high[0]?, r'.low[0]? with
  | some h, some l => h < l
  | _, _ => false

theorem firstBelow_excl {r r' : Range} {b : Nat} (h : firstBelow r r' = true) :
    ¬ (r.matchAt 0 b = true ∧ r'.matchAt 0 b = true) := by
  rw [matchAt_iff, matchAt_iff]
  rintro ⟨⟨_, u, _, hu, _, hbu⟩, ⟨l', _, hl', _, hlb, _⟩⟩
  simp [firstBelow, hu, hl'] at h
  omega

theorem filterAt_of_sorted {R : CSR} (hR : R.Pairwise fun r r' => firstBelow r r' = true) {r : Range}
    (hr : r ∈ R) {b : Nat} (hm : r.matchAt 0 b = true) : filterAt 0 b R = [r] := by
  induction R with
  | nil => cases hr
  | cons r0 R ih =>
    obtain ⟨h0, hR⟩ := List.pairwise_cons.mp hR
    unfold filterAt at ih ⊢
    rcases List.mem_cons.mp hr with rfl | hr
    · rw [List.filter_cons_of_pos (p := fun r : Range => r.matchAt 0 b) hm,
        List.filter_eq_nil_iff.mpr fun r' hr' hm' => firstBelow_excl (h0 r' hr') ⟨hm, hm'⟩]
    · rw [List.filter_cons_of_neg (p := fun r : Range => r.matchAt 0 b) fun hm0 =>
        firstBelow_excl (h0 r hr) ⟨hm0, hm⟩, ih hR hr]

theorem csrUTF8_bytes : ∀ r ∈ csrUTF8, AllBytes r.high := by decide

theorem isCode_of_sorted {R : CSR} (hs : R.Pairwise fun r r' => firstBelow r r' = true)
    (hlen4 : ∀ r ∈ R, r.low.length ≤ 4) {rg : Range} (hrg : rg ∈ R) {b : Nat} {tl : Bytes}
    (h : matchFrom rg 0 (b :: tl) = true) (hlen : rg.low.length = 1 + tl.length) : IsCode R (b :: tl) := by
  simp only [matchFrom, Bool.and_eq_true] at h
  exact ⟨valid_of_match (filterAt_of_sorted hs hrg h.1) h.2 hlen,
    by have := hlen4 rg hrg; simp only [List.length_cons]; omega⟩

theorem isCode_utf8 {rg : Range} (hrg : rg ∈ csrUTF8) {b : Nat} {tl : Bytes}
    (h : matchFrom rg 0 (b :: tl) = true) (hlen : rg.low.length = 1 + tl.length) :
    IsCode csrUTF8 (b :: tl) :=
  isCode_of_sorted (by decide) (by decide) hrg h hlen

theorem csrUCS2_bytes : ∀ r ∈ csrUCS2, AllBytes r.high := by decide

theorem isCode_ucs2 {b0 b1 : Nat} (h0 : b0 ≤ 255) (h1 : b1 ≤ 255) : IsCode csrUCS2 [b0, b1] :=
  isCode_of_sorted (by decide) (by decide) (rg := ⟨[0x00, 0x00], [0xFF, 0xFF]⟩) (by decide)
    (by simp [matchFrom_range_cons, h0, h1]) rfl

/-- `h0`, `hnil`, `hcons` are the defining equations of `Utf8Enc.codesAux` and `FixedEnc.codesAux`, for
their `codeStep` -/
theorem loop_flatMap {α β : Type} (step : Bytes → β × Nat) (loop : Nat → Bytes → List β)
    (h0 : ∀ s, loop 0 s = []) (hnil : ∀ n, loop (n + 1) [] = [])
    (hcons : ∀ n b s, loop (n + 1) (b :: s) = (step (b :: s)).1 :: loop n ((b :: s).drop (step (b :: s)).2))
    (enc : α → Bytes) (out : α → β)
    (l : List α) (h : ∀ a ∈ l, enc a ≠ [] ∧ ∀ rest, step (enc a ++ rest) = (out a, (enc a).length))
    (fuel : Nat) (hf : (l.flatMap enc).length ≤ fuel) :
    loop fuel (l.flatMap enc) = l.map out := by
  induction l generalizing fuel with
  | nil =>
    cases fuel with
    | zero => exact h0 _
    | succ n => exact hnil n
  | cons a l ih =>
    obtain ⟨hne, hstep⟩ := h a List.mem_cons_self
    simp only [List.flatMap_cons, List.length_append] at hf ⊢
    cases hb : enc a with
    | nil => exact absurd hb hne
    | cons b bs =>
      rw [hb] at hf
      cases fuel with
      | zero => simp at hf
      | succ f =>
        have hs := hstep (l.flatMap enc)
        rw [hb] at hs
        simp only [List.cons_append] at hs
        simp only [List.cons_append, hcons, hs, List.map_cons]
        rw [← List.cons_append, List.drop_left,
          ih (fun x hx => h x (List.mem_cons_of_mem _ hx)) f (by simp only [List.length_cons] at hf; omega)]

end PdfVerif.FNT
