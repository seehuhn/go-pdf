import PdfVerif.Lemmas.C01Seq
import PdfVerif.Lemmas.C04ParB
import PdfVerif.Props.C01b
/-!
What `doFormat` writes for an object within the limits (`good`) is one of the serialisations the
standard allows (`fmt_renders`: `Renders … (rd o) tok`), and `rd o` is within the caps the reader
asks for (`rd_fits`).  So the round trip of C01 is the theorem about every conforming serialisation
(`Lemmas/C04ParB.lean`: `rb_all`) at the formatter's output: `arr_read` here, `readsBack_all` and
`dictReads_all` in `Props/C01d.lean`.  `readObject_int` … `readInteger_natDec`, `fmtObj_shape`, `fmtObj_head` and
`dictReadsCont_all` are the same at the pieces the file writer puts together by hand (`Props/C02fiod.lean`, `C02fiof.lean`).
-/
namespace PdfVerif.C01L
open PdfVerif PdfVerif.C01b PdfVerif.C04L
open PdfVerif.Spec.Grammar (WsR NameR StrR HexR IntR RealTok)
open PdfVerif.Spec.Renders

theorem readObject_int (i : Int) (hi : Int64Range i) (rest : Bytes) (hrest : NumStop true rest) (f d : Nat) :
    readObject (f + 1) d (intDec i ++ rest) = .ok (.int i, rest) := by
  obtain ⟨c, t, hct, hc⟩ := intDec_head i
  have := int_rt i hi rest hrest
  rw [hct] at this ⊢
  rw [List.cons_append, readObject_num f d c _ (hc.imp_right fun h => .inr (.inl h))]
  exact this

theorem skipWS_R (k : Bytes) : skipWS (82 :: k) = (82 :: k, false) := C04hisc.skipWS_stops (stops_R k)

theorem numstop_sp (b : Bool) (x : Bytes) : NumStop b (32 :: x) := ⟨by decide, fun _ => by decide⟩

/-- the digits of a number that fits `int64` fit the cap on number tokens -/
theorem natDec_fits {n : Nat} (h : (n : Int) ≤ 9223372036854775807) : (natDec n).length ≤ Gen.scanner_maxNameBytes :=
  Nat.le_trans (C01b.intDec_length (n : Int) ⟨by omega, h⟩) C01b.int_fits_cap

theorem readInteger_natDec (g : Nat) (hg : (g : Int) ≤ 9223372036854775807) (rest : Bytes)
    (hrest : NumStop false rest) : readInteger (natDec g ++ rest) = .ok ((g : Int), rest) :=
  readInteger_any g _ (natDec_intR g) ⟨by omega, hg⟩
    (natDec_fits hg) rest hrest

/-- the separator `doFormat` writes in front of `o` when the previous token asked for one -/
def sepFor (ns : Bool) (o : Obj) : Bytes := if ns && !startsDelim (rd o) then [32] else []

theorem fmtObj_sep (opt : FmtOpt) (ns : Bool) (o : Obj) :
    fmtObj opt ns o = (fmtObj opt false o).map fun p => (sepFor ns o ++ p.1, p.2) := by
  cases o with
  | arr xs =>
    have e : fmtObj opt ns (.arr xs) = fmtObj opt false (.arr xs) := by rw [fmtObj, fmtObj]
    rw [e]; cases ns <;> cases fmtObj opt false (.arr xs) <;> rfl
  | dict kv =>
    have e : fmtObj opt ns (.dict kv) = fmtObj opt false (.dict kv) := by rw [fmtObj, fmtObj]
    rw [e]; cases ns <;> cases fmtObj opt false (.dict kv) <;> rfl
  | bool b => cases b <;> cases ns <;> rfl
  | op o => rw [fmtObj, fmtObj]; cases opt.content <;> cases ns <;> rfl
  | _ => cases ns <;> rfl

theorem fmtObj_ns (opt : FmtOpt) (ns : Bool) (o : Obj) (bs : Bytes) (ns' : Bool)
    (h : fmtObj opt ns o = some (bs, ns')) : ns' = !selfDelimited (rd o) := by
  cases o with
  | arr xs => rw [fmtObj_arr_inv] at h; obtain ⟨_, _, _, rfl⟩ := h; rfl
  | dict kv => rw [fmtObj_dict_inv] at h; obtain ⟨_, _, _, rfl⟩ := h; rfl
  | bool b => cases b <;> rw [fmtObj] at h <;> cases h <;> rfl
  | op o => rw [fmtObj] at h; split at h <;> cases h; rfl
  | _ => rw [fmtObj] at h; cases h; rfl

theorem fmtString_renders (pretty : Bool) (s : Bytes) (hs : AllBytes s) : Renders Gen.scanner_maxNameBytes (.str s) (fmtString pretty s) := by
  unfold fmtString
  simp only []
  split
  · have := Renders.strHex (L := Gen.scanner_maxNameBytes) s (hexBody s) (hexBody_hexR s hs)
    simpa [fmtStrHex, hexBody] using this
  · have := Renders.strLit (L := Gen.scanner_maxNameBytes) s _ (fmtStrLoop_strR s hs none 0 (Nat.zero_le _))
    simpa [fmtStrLiteral] using this

theorem ws_sepFor (ns : Bool) (o : Obj) : WsR (sepFor ns o) := by
  unfold sepFor; split
  · exact .white 32 _ (by decide) .nil
  · exact .nil

theorem fmtObj_split {opt : FmtOpt} {ns : Bool} {o : Obj} {a : Bytes} {ns1 : Bool}
    (h : fmtObj opt ns o = some (a, ns1)) :
    ∃ tok, fmtObj opt false o = some (tok, ns1) ∧ a = sepFor ns o ++ tok ∧ ns1 = !selfDelimited (rd o) := by
  have hns := fmtObj_ns opt ns o a ns1 h
  rw [fmtObj_sep] at h
  cases hf : fmtObj opt false o with
  | none => simp [hf] at h
  | some p =>
    obtain ⟨tok, n⟩ := p
    simp [hf] at h
    exact ⟨tok, by rw [h.2], h.1.symm, hns⟩

/-- the first byte of what is written for a good object: a token start; a delimiter where the
    standard lets the token follow another without white space -/
theorem fmtObj_head (opt : FmtOpt) (o : Obj) (tok : Bytes) (ns' : Bool) (hg : good o = true)
    (h : fmtObj opt false o = some (tok, ns')) :
    ∃ c t, tok = c :: t ∧ objStart c = true ∧ (startsDelim (rd o) = true → isRegular c = false) := by
  have dig : ∀ {c : Nat}, isDigit c = true ∨ c = 45 ∨ c = 46 → objStart c = true := by
    rintro c (hc | rfl | rfl)
    · exact objStart_digit hc
    · decide
    · decide
  cases o with
  | op o => exact nomatch hg
  | null => rw [fmtObj] at h; cases h; exact ⟨110, _, rfl, by decide, nofun⟩
  | nilArr => rw [fmtObj] at h; cases h; exact ⟨110, _, rfl, by decide, nofun⟩
  | bool b => cases b <;> rw [fmtObj] at h <;> cases h <;> exact ⟨_, _, rfl, by decide, nofun⟩
  | int i =>
    rw [fmtObj] at h; cases h
    obtain ⟨c, t, hct, hc⟩ := intDec_head i
    exact ⟨c, t, hct, dig (hc.imp_right .inl), nofun⟩
  | real r =>
    rw [fmtObj] at h; cases h
    obtain ⟨c, t, hct, hc⟩ := realToken_head r (good_real.mp hg).1
    exact ⟨c, t, hct, dig hc, nofun⟩
  | ref n g =>
    rw [fmtObj] at h; cases h
    obtain ⟨c, t, hct, hc⟩ := natDec_head n
    exact ⟨c, t ++ [32] ++ natDec g ++ [32, 82], by rw [show sep false = [] from rfl, List.nil_append, hct]; rfl,
      objStart_digit hc, nofun⟩
  | name n => rw [fmtObj] at h; cases h; exact ⟨47, _, rfl, by decide, fun _ => nonreg_delim (by decide)⟩
  | str s =>
    rw [fmtObj] at h; cases h
    obtain ⟨c, t, hct, hc⟩ := fmtString_head opt.pretty s
    refine ⟨c, t, hct, ?_, fun _ => ?_⟩ <;> rcases hc with rfl | rfl
    · decide
    · decide
    · exact nonreg_delim (by decide)
    · exact nonreg_delim (by decide)
  | arr xs =>
    obtain ⟨body, _, rfl, _⟩ := (fmtObj_arr_inv opt false xs tok ns').mp h
    exact ⟨91, _, rfl, by decide, fun _ => nonreg_delim (by decide)⟩
  | dict kv =>
    obtain ⟨body, _, rfl, _⟩ := (fmtObj_dict_inv opt false kv tok ns').mp h
    exact ⟨60, _, rfl, by decide, fun _ => nonreg_delim (by decide)⟩

theorem fmtObj_shape (opt : FmtOpt) (ns : Bool) (o : Obj) (bs : Bytes) (ns' : Bool)
    (hg : good o = true) (h : fmtObj opt ns o = some (bs, ns')) :
    ∃ tok c t, fmtObj opt false o = some (tok, ns') ∧ tok = c :: t ∧ objStart c = true ∧
      ((bs = tok ∧ (ns = true → isRegular c = false)) ∨ (ns = true ∧ bs = 32 :: tok)) := by
  obtain ⟨tok, hf, rfl, _⟩ := fmtObj_split h
  obtain ⟨c, t, rfl, hs, hd⟩ := fmtObj_head opt o _ ns' hg hf
  refine ⟨_, c, t, hf, rfl, hs, ?_⟩
  cases ns
  · exact .inl ⟨rfl, nofun⟩
  · cases hsd : startsDelim (rd o)
    · exact .inr ⟨rfl, by simp [sepFor, hsd]⟩
    · exact .inl ⟨by simp [sepFor, hsd], fun _ => hd hsd⟩

theorem sepFor_nil {ns : Bool} {o : Obj} (h : sepFor ns o = []) : ns = false ∨ startsDelim (rd o) = true := by
  cases ns
  · exact .inl rfl
  · cases hd : startsDelim (rd o)
    · simp [sepFor, hd] at h
    · exact .inr rfl

/-- The flag of `RendersSeq` says that no separator is needed in front: plain, that is `!ns`; pretty, every element
    but the first has its space, so only the first asks that the flag be set (`first = true → p = true`: it follows `[`). -/
theorem fmtSeq_renders (opt : FmtOpt) (xs : List Obj) (hg : goodList xs = true)
    (ih : ∀ x ∈ xs, good x = true → ∀ tok ns', fmtObj opt false x = some (tok, ns') →
      Renders Gen.scanner_maxNameBytes (rd x) tok) :
    (∀ ns body, fmtSeq opt ns xs = some body → RendersSeq Gen.scanner_maxNameBytes (!ns) (rdList xs) body) ∧
    (∀ first p body, fmtSeqPretty opt first xs = some body → (first = true → p = true) →
      RendersSeq Gen.scanner_maxNameBytes p (rdList xs) body) := by
  induction xs with
  | nil =>
    exact ⟨fun ns body h => by rw [fmtSeq] at h; cases h; exact .nil _ _ .nil,
      fun first p body h _ => by rw [fmtSeqPretty] at h; cases h; exact .nil _ _ .nil⟩
  | cons x xs ihl =>
    rw [goodList_cons] at hg
    obtain ⟨hp, hq⟩ := ihl hg.2 (fun y hy => ih y (List.mem_cons_of_mem _ hy))
    have hx := ih x List.mem_cons_self hg.1
    constructor
    · intro ns body h
      obtain ⟨a, ns1, b, h1, h2, rfl⟩ := (fmtSeq_cons_inv opt ns x xs body).mp h
      obtain ⟨tok, hf, rfl, hns⟩ := fmtObj_split h1
      have ht := hp ns1 b h2
      rw [hns, Bool.not_not] at ht
      refine .cons _ _ _ _ _ _ (ws_sepFor ns x) (hx tok ns1 hf) (fun hw => ?_) ht
      exact (sepFor_nil hw).imp (fun h => by rw [h]; rfl) id
    · intro first p body h hfp
      obtain ⟨a, ns1, b, h1, h2, rfl⟩ := (fmtSeqPretty_cons_inv opt first x xs body).mp h
      have ht := hq false (selfDelimited (rd x)) b h2 nofun
      cases first
      · exact .cons _ [32] _ _ _ _ (.white 32 _ (by decide) .nil) (hx a ns1 h1) nofun ht
      · exact .cons _ [] _ _ _ _ .nil (hx a ns1 h1) (fun _ => .inl (hfp rfl)) ht

/-- The formatter writes the line feed of pretty printing BEHIND an entry, while `RendersKV` counts white space to the
    FRONT of the next entry or of `>>`; so the statement carries the white space `w` left over from the entry before
    (`[10]` pretty, `[]` plain). -/
theorem fmtDict_renders (opt : FmtOpt) (kv : List (Bytes × Obj)) (hg : goodKV kv = true)
    (ih : ∀ e ∈ kv, good e.2 = true → ∀ tok ns', fmtObj opt false e.2 = some (tok, ns') →
      Renders Gen.scanner_maxNameBytes (rd e.2) tok) : ∀ w, WsR w →
    (∀ body, fmtDictPlain opt kv = some body → RendersKV Gen.scanner_maxNameBytes (rdKV kv) (w ++ body)) ∧
    (∀ body, fmtDictPretty opt kv = some body → RendersKV Gen.scanner_maxNameBytes (rdKV kv) (w ++ body)) := by
  induction kv with
  | nil =>
    intro w hw
    exact ⟨fun body h => by rw [fmtDictPlain] at h; cases h; rw [List.append_nil]; exact .nil w hw,
      fun body h => by rw [fmtDictPretty] at h; cases h; rw [List.append_nil]; exact .nil w hw⟩
  | cons e es ihl =>
    obtain ⟨k, v⟩ := e
    intro w hw
    obtain ⟨hgk, hgv, hges⟩ := goodKV_cons.mp hg
    have hes := ihl hges (fun y hy => ih y (List.mem_cons_of_mem _ hy))
    have hv := ih (k, v) List.mem_cons_self hgv
    have hk := C01.fmtNameBody_nameR k (goodName_all hgk)
    constructor
    · intro body h
      obtain ⟨b, hb, hcase⟩ := (fmtDictPlain_cons_inv opt k v es body).mp h
      rcases hcase with ⟨rfl, hbb⟩ | ⟨hv0, a, ns1, hfa, rfl⟩
      · rw [hbb]; exact (hes w hw).1 b hb
      · obtain ⟨tok, hf, rfl, _⟩ := fmtObj_split hfa
        rw [rdKV_cons_nonnull k v es hv0]
        have := RendersKV.cons w _ _ _ _ k (rd v) _ hw hk (ws_sepFor true v) (hv tok ns1 hf)
          (fun h0 => (sepFor_nil h0).resolve_left nofun) ((hes [] .nil).1 b hb)
        simpa only [fmtName, List.nil_append, List.append_assoc, List.cons_append] using this
    · intro body h
      obtain ⟨b, hb, hcase⟩ := (fmtDictPretty_cons_inv opt k v es body).mp h
      rcases hcase with ⟨rfl, hbb⟩ | ⟨hv0, a, ns1, hfa, rfl⟩
      · rw [hbb]; exact (hes w hw).2 b hb
      · rw [rdKV_cons_nonnull k v es hv0]
        have := RendersKV.cons w _ [32] _ _ k (rd v) _ hw hk (.white 32 _ (by decide) .nil)
          (hv a ns1 hfa) nofun ((hes [10] (.white 10 _ (by decide) .nil)).2 b hb)
        simpa only [fmtName, List.nil_append, List.append_assoc, List.cons_append] using this

/-- what the formatter writes is a conforming serialisation of the value the reader will return -/
theorem fmt_renders (opt : FmtOpt) : ∀ o, good o = true → ∀ tok ns', fmtObj opt false o = some (tok, ns') →
    Renders Gen.scanner_maxNameBytes (rd o) tok := by
  refine obj_ind ?_ ?_ ?_
  · intro xs ih hg tok ns' h
    obtain ⟨body, h1, rfl, _⟩ := (fmtObj_arr_inv opt false xs tok ns').mp h
    obtain ⟨hp, hq⟩ := fmtSeq_renders opt xs (good_arr.mp hg).1 ih
    refine .arr _ body ?_
    cases hpr : opt.pretty <;> rw [hpr] at h1
    · exact hp false body h1
    · exact hq true true body h1 (fun _ => rfl)
  · intro kv ih hg tok ns' h
    have hkv := (good_dict.mp hg).1
    obtain ⟨body, h1, rfl, _⟩ := (fmtObj_dict_inv opt false kv tok ns').mp h
    rw [lastIsGtOp_good kv hkv]
    cases hpr : opt.pretty <;> rw [hpr] at h1 <;>
      simp only [Bool.false_eq_true, if_false, if_true, Bool.and_false, List.append_nil, List.cons_append,
        List.nil_append]
    · exact .dict _ _ ((fmtDict_renders opt kv hkv ih [] .nil).1 body h1)
    · exact .dict _ _ ((fmtDict_renders opt kv hkv ih [10] (.white 10 _ (by decide) .nil)).2 body h1)
  · intro o h1 h2 hg tok ns' h
    cases o with
    | arr xs => exact absurd rfl (h1 xs)
    | dict kv => exact absurd rfl (h2 kv)
    | null => rw [fmtObj] at h; cases h; exact .null
    | nilArr => rw [fmtObj] at h; cases h; exact .null
    | bool b => cases b <;> rw [fmtObj] at h <;> cases h <;> first | exact .tru | exact .fls
    | int i =>
      rw [fmtObj] at h; cases h
      exact .int i _ (intDec_intR i) (Nat.le_trans (intDec_length i (good_int.mp hg)) int_fits_cap)
    | real t =>
      rw [fmtObj] at h; cases h
      exact .real _ (realToken_realTok t (good_real.mp hg).1) (good_real.mp hg).2
    | name n => rw [fmtObj] at h; cases h; exact .name n _ (C01.fmtNameBody_nameR n (goodName_all hg))
    | str s =>
      rw [fmtObj] at h; cases h
      exact fmtString_renders _ s (allBytes_of_all (good_str.mp hg).1)
    | op _ => exact nomatch hg
    | ref n g =>
      rw [fmtObj] at h; cases h
      have sp : WsR [32] := .white 32 _ (by decide) .nil
      have hfit := xref_fits
      rw [good_ref] at hg
      have := Renders.ref (L := Gen.scanner_maxNameBytes) n g (natDec n) [32] (natDec g) [32] (natDec_intR n)
        (natDec_fits (by omega)) sp
        (List.cons_ne_nil _ _) (natDec_intR g)
        (natDec_fits (by omega)) sp
        (List.cons_ne_nil _ _)
      rw [List.append_assoc _ [32] [82]] at this
      exact this

theorem isRefObj_rd (o : Obj) : isRefObj (rd o) = isRefObj o := by cases o <;> rfl

theorem rdList_fits (xs : List Obj)
    (ih : ∀ x ∈ xs, capsOK (rd x) = true ∧ uniqueKeys (rd x) = true ∧ depthOf (rd x) ≤ depthOf x) :
    capsList (rdList xs) = true ∧ uniqueKeysList (rdList xs) = true ∧ depthList (rdList xs) ≤ depthList xs ∧
      (rdList xs).length = xs.length := by
  induction xs with
  | nil => exact ⟨rfl, rfl, Nat.le_refl _, rfl⟩
  | cons x xs ihl =>
    obtain ⟨a1, a2, a3⟩ := ih x List.mem_cons_self
    obtain ⟨b1, b2, b3, b4⟩ := ihl (fun y hy => ih y (List.mem_cons_of_mem _ hy))
    rw [rdList_cons, depthList_cons, depthList_cons]
    exact ⟨capsList_cons.mpr ⟨a1, b1⟩, uniqueKeysList_cons.mpr ⟨a2, b2⟩, by omega, congrArg (· + 1) b4⟩

theorem rdKV_fits (kv : List (Bytes × Obj)) (hk : ∀ e ∈ kv, e.1.length ≤ Gen.scanner_maxNameBytes)
    (ih : ∀ e ∈ kv, capsOK (rd e.2) = true ∧ uniqueKeys (rd e.2) = true ∧ depthOf (rd e.2) ≤ depthOf e.2) :
    capsKV (rdKV kv) = true ∧ uniqueKeysKV (rdKV kv) = true ∧ depthKV (rdKV kv) ≤ depthKV kv ∧
      (rdKV kv).length ≤ kv.length := by
  induction kv with
  | nil => exact ⟨rfl, rfl, Nat.le_refl _, Nat.le_refl _⟩
  | cons e es ihl =>
    obtain ⟨k, v⟩ := e
    obtain ⟨a1, a2, a3⟩ : capsOK (rd v) = true ∧ uniqueKeys (rd v) = true ∧ depthOf (rd v) ≤ depthOf v :=
      ih (k, v) List.mem_cons_self
    obtain ⟨b1, b2, b3, b4⟩ := ihl (fun y hy => hk y (List.mem_cons_of_mem _ hy))
      (fun y hy => ih y (List.mem_cons_of_mem _ hy))
    by_cases hv : v = .null
    · subst hv
      rw [rdKV_cons_null, depthKV_cons]
      exact ⟨b1, b2, by omega, Nat.le_succ_of_le b4⟩
    · rw [rdKV_cons_nonnull k v es hv, depthKV_cons, depthKV_cons]
      exact ⟨capsKV_cons.mpr ⟨hk (k, v) List.mem_cons_self, a1, b1⟩, uniqueKeysKV_cons.mpr ⟨a2, b2⟩, by omega,
        Nat.succ_le_succ b4⟩

theorem rd_fits : ∀ o, good o = true → capsOK (rd o) = true ∧ uniqueKeys (rd o) = true ∧ depthOf (rd o) ≤ depthOf o := by
  refine obj_ind ?_ ?_ ?_
  · intro xs ih hg
    obtain ⟨hl, hlen⟩ := good_arr.mp hg
    obtain ⟨h1, h2, h3, h4⟩ := rdList_fits xs (fun x hx => ih x hx ((goodList_iff xs).mp hl x hx))
    rw [rd_arr, depthOf_arr, depthOf_arr]
    exact ⟨capsOK_arr_iff.mpr ⟨by omega, h1⟩, (uniqueKeys_arr _).trans h2, by omega⟩
  · intro kv ih hg
    obtain ⟨hgkv, hnd, hlen⟩ := good_dict.mp hg
    have hkv := (goodKV_iff kv).mp hgkv
    obtain ⟨h1, h2, h3, h4⟩ := rdKV_fits kv (fun e he => (goodName_len (hkv e he).1))
      (fun e he => ih e he (hkv e he).2)
    rw [rd_dict, depthOf_dict, depthOf_dict]
    exact ⟨capsOK_dict_iff.mpr ⟨by omega, h1⟩, uniqueKeys_dict.mpr ⟨(keysOf_rdKV_sublist kv).nodup hnd, h2⟩, by omega⟩
  · intro o h1 h2 hg
    cases o with
    | arr xs => exact absurd rfl (h1 xs)
    | dict kv => exact absurd rfl (h2 kv)
    | op _ => exact nomatch hg
    | real t => exact ⟨decide_eq_true (good_real.mp hg).2, rfl, Nat.le_refl _⟩
    | name n => exact ⟨decide_eq_true (goodName_len hg), rfl, Nat.le_refl _⟩
    | str s => exact ⟨decide_eq_true (good_str.mp hg).2, rfl, Nat.le_refl _⟩
    | _ => exact ⟨hg, rfl, Nat.le_refl _⟩

theorem cont_endsToken {k : Bytes} (h : Cont true k) : EndsToken k := by
  cases k with
  | nil => trivial
  | cons c t =>
    have hr := (isRegular_eq c).symm.trans (cont_head_nonreg h c t rfl)
    exact ⟨Nat.lt_trans (nonreg_lt hr) (by decide), hr⟩

theorem arr_read (opt : FmtOpt) (xs : List Obj) (hg : good (.arr xs) = true)
    (d : Nat) (hd : d + depthOf (.arr xs) ≤ Gen.scanner_maxScannerNestDepth)
    (body : Bytes) (h1 : (if opt.pretty then fmtSeqPretty opt true xs else fmtSeq opt false xs) = some body)
    (k : Bytes) (fuel : Nat) (hfuel : fuel ≥ 3 * (91 :: (body ++ 93 :: k)).length + 3) :
    readObject fuel d (91 :: (body ++ 93 :: k)) = .ok (.arr (rdList xs), k) := by
  obtain ⟨hc, hu, hdep⟩ := rd_fits _ hg
  have hf : fmtObj opt false (.arr xs) = some (91 :: (body ++ [93]), false) :=
    (fmtObj_arr_inv opt false xs _ false).mpr ⟨body, h1, rfl, rfl⟩
  have := rb_all (fmt_renders opt _ hg _ _ hf) hc hu rfl d (by omega) k nofun nofun fuel (by simpa using hfuel)
  simpa [rd_arr, restAfter_nondict (o := .arr _) rfl] using this

/-- `KVRBK` at what `formatDict` wrote: behind the entries the loop of `ReadDict` goes on at `K` (the next key or
    `>>`) with `rdKV kv` appended -/
theorem dictReadsCont_all (opt : FmtOpt) (kv : List (Bytes × Obj)) (hg : goodKV kv = true)
    (d : Nat) (hd : d + depthKV kv ≤ Gen.scanner_maxScannerNestDepth)
    (acc : List (Bytes × Obj)) (K : Bytes) (c0 : Nat) (t0 : Bytes) (hK : K = c0 :: t0) (hc0 : c0 = 47 ∨ c0 = 62)
    (hdisj : ∀ e ∈ kv, e.1 ∉ keysOf acc) (hnd : (keysOf kv).Nodup)
    (hlen : acc.length + kv.length ≤ Gen.scanner_maxDictLen)
    (body : Bytes) (hbody : fmtDictPlain opt kv = some body ∨ fmtDictPretty opt kv = some body)
    (R : Except Err (List (Bytes × Obj) × Bytes))
    (hR : ∀ fuel', fuel' ≥ 3 * K.length + 1 → readDictLoop fuel' d (acc ++ rdKV kv) K = R)
    (fuel : Nat) (hfuel : fuel ≥ 3 * (body ++ K).length + 1) :
    readDictLoop fuel d acc (body ++ K) = R := by
  subst hK
  obtain ⟨h1, h2, h3, h4⟩ := rdKV_fits kv (fun e he => goodName_len ((goodKV_iff kv).mp hg e he).1)
    (fun e he => rd_fits e.2 ((goodKV_iff kv).mp hg e he).2)
  have hr : RendersKV Gen.scanner_maxNameBytes (rdKV kv) body := by
    have := fmtDict_renders opt kv hg (fun e _ => fmt_renders opt e.2) [] .nil
    rcases hbody with h | h
    · simpa using this.1 body h
    · simpa using this.2 body h
  obtain ⟨c', t', hct, hc'⟩ := dictBody_cont opt kv c0 t0 hc0 body hbody
  have hsk : skipWS (body ++ c0 :: t0) = (body ++ c0 :: t0, false) := by
    rw [hct]; exact skipWS_tok c' t' (close_tokStart hc').1
  exact kvRBK_all hr h1 h2 d (by omega) acc _ c0 t0 (kvCont_head c0 hc0 t0)
    (fun e he hmem => by
      have : e.1 ∈ keysOf (rdKV kv) := List.mem_map_of_mem (f := (·.1)) he
      obtain ⟨e', he', hk⟩ := List.mem_map.mp ((keysOf_rdKV_sublist kv).subset this)
      exact hdisj e' he' (hk ▸ hmem))
    ((keysOf_rdKV_sublist kv).nodup hnd) (by omega) R hR _ hsk fuel hfuel

end PdfVerif.C01L
