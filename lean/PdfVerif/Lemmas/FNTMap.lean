import PdfVerif.Model.FNTMap
/-! Lemmas about the association-list model of Go maps (`Model/FNTMap.lean`).  `get` returns the first
match; the lookup laws hold whether or not the keys are distinct, only `get_of_mem` needs `NodupKeys`. -/
-- `nodupKeys_nil` and `nodupKeys_reverse` do not use the section's `[DecidableEq α]`
set_option linter.unusedSectionVars false
namespace PdfVerif.FNT.Map
variable {α β : Type} [DecidableEq α]

@[simp] theorem get_nil (k : α) : get ([] : Map α β) k = none := rfl

theorem get_cons (k' : α) (v : β) (r : Map α β) (k : α) :
    get ((k', v) :: r) k = if k' = k then some v else get r k := rfl

theorem get_erase (m : Map α β) (k k' : α) : get (erase m k) k' = if k = k' then none else get m k' := by
  induction m with
  | nil => simp [erase]
  | cons p r ih =>
    obtain ⟨k0, v⟩ := p
    simp only [erase, List.filter_cons] at ih ⊢
    by_cases h0 : k0 = k
    · subst h0
      simp only [decide_true, Bool.not_true, Bool.false_eq_true, ↓reduceIte, ih, get_cons]
      split <;> rfl
    · simp only [h0, decide_false, Bool.not_false, ↓reduceIte, get_cons, ih]
      by_cases h1 : k = k'
      · subst h1; simp [h0]
      · simp [h1]

theorem get_insert (m : Map α β) (k k' : α) (v : β) :
    get (insert m k v) k' = if k = k' then some v else get m k' := by
  simp only [insert, get_cons, get_erase]
  split <;> rfl

@[simp] theorem get_insert_self (m : Map α β) (k : α) (v : β) : get (insert m k v) k = some v := by
  simp [get_insert]

theorem get_insert_ne (m : Map α β) {k k' : α} (v : β) (h : k ≠ k') :
    get (insert m k v) k' = get m k' := by
  simp [get_insert, h]

/-- what holds between the states of a Go map that is only ever written at absent keys -/
def Le (m m' : Map α β) : Prop := ∀ k v, get m k = some v → get m' k = some v

theorem Le.refl (m : Map α β) : Le m m := fun _ _ h => h

theorem Le.trans {m m' m'' : Map α β} (h : Le m m') (h' : Le m' m'') : Le m m'' :=
  fun k v hk => h' k v (h k v hk)

theorem le_insert {m : Map α β} {k : α} (hfree : get m k = none) (v : β) : Le m (insert m k v) :=
  fun k' v' h => by rw [get_insert_ne m v (fun e => by rw [e, h] at hfree; cases hfree), h]

theorem get_insert_some {m : Map α β} {k k' : α} {v v' : β} (h : get (insert m k v) k' = some v') :
    (k = k' ∧ v = v') ∨ get m k' = some v' := by
  rw [get_insert] at h
  by_cases hk : k = k'
  · rw [if_pos hk] at h; exact Or.inl ⟨hk, Option.some.inj h⟩
  · rw [if_neg hk] at h; exact Or.inr h

@[simp] theorem contains_eq_false {m : Map α β} {k : α} : contains m k = false ↔ get m k = none := by
  simp [contains]

theorem mem_keys_iff {m : Map α β} {k : α} : k ∈ keys m ↔ ∃ v, get m k = some v := by
  induction m with
  | nil => simp [keys]
  | cons p r ih =>
    obtain ⟨k0, v0⟩ := p
    simp only [keys, List.map_cons, List.mem_cons, get_cons] at ih ⊢
    by_cases h0 : k0 = k
    · simp [h0]
    · simp [h0, ih, Ne.symm h0]

theorem get_none_iff_not_mem_keys {m : Map α β} {k : α} : get m k = none ↔ k ∉ keys m := by
  rw [mem_keys_iff]
  cases get m k <;> simp

theorem erase_of_get_none (m : Map α β) (k : α) (h : get m k = none) : erase m k = m := by
  apply List.filter_eq_self.mpr
  intro p hp
  have : p.1 ≠ k := fun e => get_none_iff_not_mem_keys.mp h (e ▸ List.mem_map_of_mem hp)
  simpa using this

theorem size_insert_of_none (m : Map α β) (k : α) (v : β) (h : get m k = none) :
    size (insert m k v) = size m + 1 := by
  simp [insert, size, erase_of_get_none m k h]

theorem size_erase_le (m : Map α β) (k : α) : size (erase m k) ≤ size m := List.length_filter_le _ _

theorem size_insert_le (m : Map α β) (k : α) (v : β) : size (insert m k v) ≤ size m + 1 :=
  Nat.succ_le_succ (size_erase_le m k)

/-- keys occur once; kept by `insert` (`nodupKeys_nil`, `nodupKeys_insert`).  `w_lookup` of `C14fntc` assumes
    it of its argument (as `DistinctKeys`); it is not established for the tables of any encoder state. -/
def NodupKeys (m : Map α β) : Prop := (keys m).Nodup

theorem nodupKeys_nil : NodupKeys ([] : Map α β) := by simp [NodupKeys, keys]

theorem keys_erase (m : Map α β) (k : α) : keys (erase m k) = (keys m).filter (fun x => !decide (x = k)) := by
  simp [keys, erase, List.filter_map, Function.comp_def]

theorem nodupKeys_erase {m : Map α β} (h : NodupKeys m) (k : α) : NodupKeys (erase m k) := by
  unfold NodupKeys
  rw [keys_erase]
  exact List.Nodup.sublist List.filter_sublist h

theorem nodupKeys_insert {m : Map α β} (h : NodupKeys m) (k : α) (v : β) : NodupKeys (insert m k v) :=
  List.nodup_cons.mpr ⟨get_none_iff_not_mem_keys.mp (by simp [get_erase]), nodupKeys_erase h k⟩

theorem nodupKeys_reverse {m : Map α β} (h : NodupKeys m) : NodupKeys m.reverse := by
  unfold NodupKeys keys
  rw [List.map_reverse]
  exact (List.reverse_perm _).nodup_iff.mpr h

theorem get_of_mem {m : Map α β} (h : NodupKeys m) {k : α} {v : β} (hm : (k, v) ∈ m) : get m k = some v := by
  induction m with
  | nil => simp at hm
  | cons p r ih =>
    obtain ⟨k0, v0⟩ := p
    obtain ⟨hk0, hr⟩ := List.nodup_cons.mp h
    rcases List.mem_cons.mp hm with e | hmem
    · cases e; simp [get_cons]
    · have : k0 ≠ k := fun e => hk0 (e ▸ List.mem_map_of_mem (f := (·.1)) hmem)
      simp [get_cons, this, ih hr hmem]

theorem mem_keys_insert {m : Map α β} {k k' : α} {v : β} (h : k' ∈ keys (insert m k v)) :
    k' = k ∨ k' ∈ keys m := by
  obtain ⟨v', h⟩ := mem_keys_iff.mp h
  rcases get_insert_some h with ⟨rfl, _⟩ | h
  · exact Or.inl rfl
  · exact Or.inr (mem_keys_iff.mpr ⟨v', h⟩)

section
variable {κ γ ι : Type} [DecidableEq κ] [DecidableEq γ] {key : ι → κ} {code : Map κ γ} {info : Map γ ι}

/-- the two tables of an allocating encoder (Go: `code[key i] = c` and `info[c] = i` are written
    together, for a key without code and a code without entry).  `key` reads the key off an entry; `P` is what
    every code handed out satisfies (a byte; the code of a rune); `sizeEq` is there because `Encode` tests
    `len(info)` for overflow while the theorems count pairs. -/
structure Tables (key : ι → κ) (P : γ → Prop) (code : Map κ γ) (info : Map γ ι) : Prop where
  backed : ∀ k c, get code k = some c → ∃ i, get info c = some i ∧ key i = k
  holds : ∀ c i, get info c = some i → P c
  sizeEq : size code = size info

variable {P : γ → Prop}

theorem Tables.nil : Tables key P ([] : Map κ γ) ([] : Map γ ι) :=
  ⟨fun _ _ h => by simp at h, fun _ _ h => by simp at h, rfl⟩

theorem Tables.insert (h : Tables key P code info) {c : γ} {i : ι} (hk : get code (key i) = none)
    (hc : get info c = none) (hP : P c) : Tables key P (insert code (key i) c) (insert info c i) := by
  refine ⟨fun k c' hk' => ?_, fun c' i' h' => ?_, ?_⟩
  · rcases get_insert_some hk' with ⟨rfl, rfl⟩ | hk'
    · exact ⟨i, get_insert_self .., rfl⟩
    · obtain ⟨i', hi', e⟩ := h.backed k c' hk'
      exact ⟨i', le_insert hc i _ _ hi', e⟩
  · rcases get_insert_some h' with ⟨rfl, _⟩ | h'
    · exact hP
    · exact h.holds c' i' h'
  · rw [size_insert_of_none _ _ _ hk, size_insert_of_none _ _ _ hc, h.sizeEq]

theorem Tables.inj (h : Tables key P code info) {k1 k2 : κ} {c : γ} (h1 : get code k1 = some c)
    (h2 : get code k2 = some c) : k1 = k2 := by
  obtain ⟨i1, e1, rfl⟩ := h.backed k1 c h1
  obtain ⟨i2, e2, rfl⟩ := h.backed k2 c h2
  rw [e1] at e2; cases e2; rfl

end

theorem exists_free_of_inj (m : Map α β) (f : Nat → α) (hf : ∀ a b, f a = f b → a = b) (n : Nat)
    (hsz : size m < n) : ∃ i, i < n ∧ get m (f i) = none := by
  -- pigeonhole: otherwise the `n` distinct keys `f 0 … f (n-1)` are all keys of `m`, so `n ≤ size m`
  apply Classical.byContradiction
  intro hno
  have hsub : (List.range n).map f ⊆ keys m := fun k hk => by
    obtain ⟨i, hi, rfl⟩ := List.mem_map.mp hk
    exact Classical.byContradiction fun hnm =>
      hno ⟨i, List.mem_range.mp hi, get_none_iff_not_mem_keys.mpr hnm⟩
  have hnd : ((List.range n).map f).Nodup :=
    List.Pairwise.map f (fun a b hab he => hab (hf a b he)) List.nodup_range
  have := List.Nodup.length_le_of_subset hnd hsub
  simp [keys, size] at this hsz
  omega

end PdfVerif.FNT.Map
