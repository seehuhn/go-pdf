import PdfVerif.Lemmas.TRGo
import PdfVerif.Generated.FnCharcode
/-!
The functions generated from font/charcode/{range,codec}.go (`Gen.charcode_Range_IsValid`, `Gen.charcode_minLength`,
`Gen.charcode_CodeSpaceRange_matchLen`, `Gen.charcode_canMerge`) read as closed forms over byte lists.  `none` = the Go
function panics (index out of range); the lemmas say when that cannot happen.  The names are those of `Props/C12tr.lean`,
whose closed forms these are.
-/
namespace PdfVerif.C12tr
open PdfVerif PdfVerif.Gen PdfVerif.Go

/-- specification of `Range.IsValid` -/
def RangeValid (r : charcode_Range) : Prop :=
  r.Low.length = r.High.length ∧ 1 ≤ r.Low.length ∧ r.Low.length ≤ 4 ∧
    ∀ k, k < r.Low.length → r.Low.getD k 0 ≤ r.High.getD k 0

instance (r : charcode_Range) : Decidable (RangeValid r) := by unfold RangeValid; infer_instance

theorem isValid_spec (r : charcode_Range) :
    charcode_Range_IsValid r = some (decide (RangeValid r)) := by
  unfold charcode_Range_IsValid RangeValid len
  by_cases h : r.Low.length = r.High.length ∧ 1 ≤ r.Low.length ∧ r.Low.length ≤ 4
  · rw [if_neg (by simp only [Bool.or_eq_true, bne_iff_ne, beq_iff_eq, decide_eq_true_eq]; omega),
      bytewise_le_loop _ _ (by omega)]
    exact congrArg some (decide_eq_decide.mpr ⟨fun hall => ⟨h.1, h.2.1, h.2.2, hall⟩, fun hv => hv.2.2.2⟩)
  · rw [if_pos (by simp only [Bool.or_eq_true, bne_iff_ne, beq_iff_eq, decide_eq_true_eq]; omega)]
    exact congrArg some (decide_eq_false fun hv => h ⟨hv.1, hv.2.1, hv.2.2.1⟩).symm

theorem minLength_spec (csr : List charcode_Range) :
    charcode_minLength csr = some (match csr with
      | [] => 1
      | r :: rs => rs.foldl (fun m q => min m (len q.Low)) (len r.Low)) := by
  unfold charcode_minLength
  simp only [pure, bind]
  match csr with
  | [] => simp [len]
  | r :: rs =>
    have c : (len (r :: rs) == 0) = false := by simp [len]; omega
    simp only [c, Bool.false_eq_true, if_false]
    have h0 : idx (r :: rs) 0 = some r := by simp [idx]
    have h1 : slice (r :: rs) 1 (len (r :: rs)) = some rs := by
      rw [slice_general _ _ _ (by omega) (by simp [len]; omega) (by simp [len])]
      simp [len]
    rw [h0, h1]
    simp only [Option.bind_some]
    rw [forIn_option_yield rs (fun _ => True) _ (fun q m => min m (len q.Low)) ?_ (fun _ _ => trivial)]
    · simp
    · intro q m _
      by_cases hq : len q.Low < m
      · have : min m (len q.Low) = len q.Low := by omega
        simp [hq, this]
      · have : min m (len q.Low) = m := by omega
        simp [hq, this]

def prefixInBox (r : charcode_Range) (s : List UInt8) : Prop :=
  r.Low.length ≤ s.length ∧ ∀ k, k < r.Low.length → r.Low.getD k 0 ≤ s.getD k 0 ∧ s.getD k 0 ≤ r.High.getD k 0

instance (r : charcode_Range) (s : List UInt8) : Decidable (prefixInBox r s) := by
  unfold prefixInBox; infer_instance

/-- `hv` (true after `IsValid`) excludes the index panic on `High`; the *first* matching range decides -/
theorem matchLen_spec (csr : List charcode_Range) (s : List UInt8)
    (hv : ∀ r ∈ csr, r.Low.length ≤ r.High.length) :
    charcode_CodeSpaceRange_matchLen csr s =
      some (match csr.find? (fun r => decide (prefixInBox r s)) with
        | some r => len r.Low
        | none => 0) := by
  unfold charcode_CodeSpaceRange_matchLen
  simp only [pure, bind]
  rw [forIn_option_find csr (fun r => r.Low.length ≤ r.High.length) _ (fun r => decide (prefixInBox r s))
    (fun r => (some (len r.Low), ())) (none, ()) ?_ hv]
  · cases csr.find? (fun r => decide (prefixInBox r s)) <;> rfl
  · intro r hr
    unfold len
    by_cases hlen : (s.length : Int) < r.Low.length
    · have hn : ¬ prefixInBox r s := fun hp => by have := hp.1; omega
      simp [hlen, hn]
    · rw [if_neg (by simpa using hlen), Int.sub_zero, Int.toNat_natCast,
        forIn_range_forall _ (fun k => r.Low.getD k 0 ≤ s.getD k 0 ∧ s.getD k 0 ≤ r.High.getD k 0) _ _ false
          fun k hk => by
            rw [Int.zero_add, getD_idx _ 0 _ (by omega), getD_idx _ 0 _ hk, getD_idx _ 0 _ (by omega)]
            simp only [obind]
            generalize s.getD k 0 = x
            generalize r.Low.getD k 0 = lo
            generalize r.High.getD k 0 = hi
            by_cases h1 : x < lo <;> by_cases h2 : x > hi <;>
              simp [h1, h2, UInt8.not_le.mpr, UInt8.not_lt.mp]]
      by_cases hp : prefixInBox r s
      · rw [if_pos hp.2]
        simp [hp]
      · rw [if_neg fun hall => hp ⟨by omega, hall⟩]
        simp [hp]

def differs (r s : charcode_Range) (k : Nat) : Bool :=
  !(r.Low.getD k 0 == s.Low.getD k 0 && r.High.getD k 0 == s.High.getD k 0)
def adjacent (r s : charcode_Range) (k : Nat) : Bool :=
  decide (((r.High.getD k 0).toNat : Int) + 1 = ((s.Low.getD k 0).toNat : Int))

/-- one round of the loop of `canMerge` on the counter `numAdjacent`; `none` = the function returns false -/
def mergeStep (r s : charcode_Range) (n : Int) (k : Nat) : Option Int :=
  if !differs r s k then some n
  else if !adjacent r s k || decide (n > 0) then none
  else some (n + 1)

theorem canMerge_eq (r s : charcode_Range)
    (h2 : r.High.length = r.Low.length) (h3 : s.Low.length = r.Low.length) (h4 : s.High.length = r.Low.length) :
    charcode_canMerge r s = some ((List.range r.Low.length).foldlM (mergeStep r s) 0).isSome := by
  unfold charcode_canMerge len
  simp only [pure, bind]
  -- the counter only takes the values 0 and 1, so `numAdjacent + 1` does not wrap
  rw [if_neg (by simp [h3]), h3, Int.toNat_natCast,
    forIn_option_scan _ (· < r.Low.length) (fun n => 0 ≤ n ∧ n ≤ 1) _ (mergeStep r s) false _ (fun _ _ => rfl) ?_
      (fun k hk => List.mem_range.mp hk) 0 ⟨by omega, by omega⟩]
  · cases List.foldlM (mergeStep r s) 0 (List.range r.Low.length) <;> rfl
  · intro k n hk hn
    rw [getD_idx _ 0 _ (by omega), getD_idx _ 0 _ (by omega), getD_idx _ 0 _ (by omega), getD_idx _ 0 _ (by omega)]
    unfold mergeStep differs adjacent
    generalize r.Low.getD k 0 = a
    generalize s.Low.getD k 0 = b
    generalize r.High.getD k 0 = c
    generalize s.High.getD k 0 = d
    simp only [obind]
    have hc := u8_cast_bounds c
    generalize (c.toNat : Int) = C at hc ⊢
    generalize (b.toNat : Int) = B
    as_aux_lemma =>
      rw [i64_of_bounds (x := C + 1) (by omega) (by omega)]
      by_cases hx : ¬ C + 1 = B ∨ 0 < n
      · by_cases e1 : a = b <;> by_cases e2 : c = d <;> simp [e1, e2, hx, hn]
      · rw [i64_of_bounds (x := n + 1) (by omega) (by omega)]
        by_cases e1 : a = b <;> by_cases e2 : c = d <;> simp [e1, e2, hx, hn] <;> omega

end PdfVerif.C12tr
