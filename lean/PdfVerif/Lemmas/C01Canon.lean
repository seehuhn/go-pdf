import PdfVerif.Lemmas.C01Sort
import PdfVerif.Lemmas.C01Seq
/-!
`Obj.canon` (putting every dictionary into `SortedKeys` order, the first step
of `format`) preserves the size hypotheses; the formatter succeeds on good objects; and the
comparison form `nrm` (nil entries absent, nil array ↦ null, reals as written tokens,
dictionaries as key-sorted association lists) of what is read back equals that of the original.
-/
namespace PdfVerif.C01L
open PdfVerif

mutual
/-- comparison form of an object: a nil array is null, a real is its written token, a dictionary
    is its key-sorted list of non-nil entries -/
def nrm : Obj → Obj
  | .nilArr => .null
  | .real t => .real (realToken t)
  | .arr xs => .arr (nrmList xs)
  | .dict kv => .dict (sortKV (nrmKV kv))
  | .null => .null
  | .bool b => .bool b
  | .int i => .int i
  | .name n => .name n
  | .str s => .str s
  | .op o => .op o
  | .ref n g => .ref n g
def nrmList : List Obj → List Obj
  | [] => []
  | x :: xs => nrm x :: nrmList xs
def nrmKV : List (Bytes × Obj) → List (Bytes × Obj)
  | [] => []
  | (k, v) :: rest =>
    match nrm v with
    | .null => nrmKV rest
    | v' => (k, v') :: nrmKV rest
end

theorem realToken_idem (t : Bytes) : realToken (realToken t) = realToken t := by
  unfold realToken
  by_cases h : t.contains 46 = true
  · rw [if_pos h, if_pos h]
  · have h' : t.contains 46 = false := by simpa using h
    have : (t ++ [46]).contains 46 = true := by simp
    rw [if_neg h, if_pos this]

/-! `Obj.canon` on the two constructors it changes (every other object is its own `canon`, by `rfl`) and on the lists -/
theorem canon_arr (xs : List Obj) : (Obj.arr xs).canon = .arr (canonList xs) := rfl
theorem canon_dict (kv : List (Bytes × Obj)) : (Obj.dict kv).canon = .dict (sortedEntries (canonKV kv)) := rfl
theorem canonList_cons (x : Obj) (xs : List Obj) : canonList (x :: xs) = x.canon :: canonList xs := rfl
theorem canonKV_cons (k : Bytes) (v : Obj) (rest : List (Bytes × Obj)) :
    canonKV ((k, v) :: rest) = (k, v.canon) :: canonKV rest := rfl

theorem nrm_arr (xs : List Obj) : nrm (.arr xs) = .arr (nrmList xs) := rfl
theorem nrm_dict (kv : List (Bytes × Obj)) : nrm (.dict kv) = .dict (sortKV (nrmKV kv)) := rfl
theorem nrmList_cons (x : Obj) (xs : List Obj) : nrmList (x :: xs) = nrm x :: nrmList xs := rfl

/-- `Format` writes the canonical forms, as a pretty or a plain sequence -/
theorem format_eq (opt : FmtOpt) (xs : List Obj) :
    format opt xs = if opt.pretty then fmtSeqPretty opt true (canonList xs) else fmtSeq opt false (canonList xs) := rfl

theorem canonKV_eq_map (kv : List (Bytes × Obj)) : canonKV kv = kv.map (fun e => (e.1, e.2.canon)) := by
  induction kv with
  | nil => rfl
  | cons e es ih => obtain ⟨k, v⟩ := e; rw [canonKV_cons, ih]; rfl

theorem canonList_eq_map (xs : List Obj) : canonList xs = xs.map Obj.canon := by
  induction xs with
  | nil => rfl
  | cons x xs ih => rw [canonList_cons, ih]; rfl

theorem canonKV_keys (kv : List (Bytes × Obj)) : keysOf (canonKV kv) = keysOf kv := by
  rw [canonKV_eq_map, keysOf, List.map_map]; rfl

theorem canonKV_length (kv : List (Bytes × Obj)) : (canonKV kv).length = kv.length := by
  rw [canonKV_eq_map, List.length_map]

theorem canonList_length (xs : List Obj) : (canonList xs).length = xs.length := by
  rw [canonList_eq_map, List.length_map]

theorem goodKV_perm {l1 l2 : List (Bytes × Obj)} (h : l1.Perm l2) (hg : goodKV l1 = true) : goodKV l2 = true := by
  rw [goodKV_iff] at hg ⊢
  intro e he
  exact hg e (h.mem_iff.mpr he)

theorem depthKV_perm {l1 l2 : List (Bytes × Obj)} (h : l1.Perm l2) : depthKV l2 ≤ depthKV l1 := by
  rw [depthKV_le]
  intro e he
  exact (depthKV_le l1 _).mp (Nat.le_refl _) e (h.mem_iff.mpr he)

mutual
theorem good_canon : (o : Obj) → good o = true → good o.canon = true
  | .arr xs, h => by
    obtain ⟨hl, hlen⟩ := good_arr.mp h
    exact good_arr.mpr ⟨goodList_canon xs hl, by rw [canonList_length]; exact hlen⟩
  | .dict kv, h => by
    obtain ⟨hkv, hnd, hlen⟩ := good_dict.mp h
    have hp := sortedEntries_perm (canonKV kv)
    refine good_dict.mpr ⟨goodKV_perm hp.symm (goodKV_canon kv hkv), ?_, ?_⟩
    · exact (keysOf_perm hp.symm).nodup (by rw [canonKV_keys]; exact hnd)
    · rw [hp.length_eq, canonKV_length]; exact hlen
  | .null, h => h
  | .nilArr, h => h
  | .bool _, h => h
  | .int _, h => h
  | .real _, h => h
  | .name _, h => h
  | .str _, h => h
  | .op _, h => h
  | .ref _ _, h => h
theorem goodList_canon : (xs : List Obj) → goodList xs = true → goodList (canonList xs) = true
  | [], _ => rfl
  | x :: xs, h => by
    rw [canonList_cons]
    exact goodList_cons.mpr ⟨good_canon x (goodList_cons.mp h).1, goodList_canon xs (goodList_cons.mp h).2⟩
theorem goodKV_canon : (kv : List (Bytes × Obj)) → goodKV kv = true → goodKV (canonKV kv) = true
  | [], _ => rfl
  | (k, v) :: es, h => by
    obtain ⟨hk, hv, hes⟩ := goodKV_cons.mp h
    rw [canonKV_cons]
    exact goodKV_cons.mpr ⟨hk, good_canon v hv, goodKV_canon es hes⟩
end

mutual
theorem depth_canon : (o : Obj) → depthOf o.canon ≤ depthOf o
  | .arr xs => by
    rw [canon_arr, depthOf_arr, depthOf_arr]
    have := depthList_canon xs; omega
  | .dict kv => by
    rw [canon_dict, depthOf_dict, depthOf_dict]
    have h1 := depthKV_perm (sortedEntries_perm (canonKV kv)).symm
    have h2 := depthKV_canon kv
    omega
  | .null => Nat.le_refl _
  | .nilArr => Nat.le_refl _
  | .bool _ => Nat.le_refl _
  | .int _ => Nat.le_refl _
  | .real _ => Nat.le_refl _
  | .name _ => Nat.le_refl _
  | .str _ => Nat.le_refl _
  | .op _ => Nat.le_refl _
  | .ref _ _ => Nat.le_refl _
theorem depthList_canon : (xs : List Obj) → depthList (canonList xs) ≤ depthList xs
  | [] => Nat.le_refl _
  | x :: xs => by
    rw [canonList_cons, depthList_cons, depthList_cons]
    have := depth_canon x; have := depthList_canon xs; omega
theorem depthKV_canon : (kv : List (Bytes × Obj)) → depthKV (canonKV kv) ≤ depthKV kv
  | [] => Nat.le_refl _
  | (k, v) :: es => by
    rw [canonKV_cons, depthKV_cons, depthKV_cons]
    have := depth_canon v; have := depthKV_canon es; omega
end

theorem isRefObj_canon (o : Obj) : isRefObj o.canon = isRefObj o := by
  cases o <;> first | rfl | rw [canon_arr] | rw [canon_dict]

mutual
theorem fmtObj_some (opt : FmtOpt) : (o : Obj) → good o = true → ∀ ns, ∃ p, fmtObj opt ns o = some p
  | .arr xs, h, ns => by
    obtain ⟨hp, hq⟩ := fmtSeq_some opt xs (good_arr.mp h).1
    cases hpr : opt.pretty
    · obtain ⟨b, hb⟩ := hp false
      exact ⟨_, (fmtObj_arr_inv opt ns xs _ false).mpr ⟨b, by simp [hpr, hb], rfl, rfl⟩⟩
    · obtain ⟨b, hb⟩ := hq true
      exact ⟨_, (fmtObj_arr_inv opt ns xs _ false).mpr ⟨b, by simp [hpr, hb], rfl, rfl⟩⟩
  | .dict kv, h, ns => by
    obtain ⟨hp, hq⟩ := fmtDict_some opt kv (good_dict.mp h).1
    cases hpr : opt.pretty
    · obtain ⟨b, hb⟩ := hp
      exact ⟨_, (fmtObj_dict_inv opt ns kv _ false).mpr ⟨b, by simp [hpr, hb], rfl, rfl⟩⟩
    · obtain ⟨b, hb⟩ := hq
      exact ⟨_, (fmtObj_dict_inv opt ns kv _ false).mpr ⟨b, by simp [hpr, hb], rfl, rfl⟩⟩
  | .null, _, _ => ⟨_, by rw [fmtObj]⟩
  | .nilArr, _, _ => ⟨_, by rw [fmtObj]⟩
  | .bool true, _, _ => ⟨_, by rw [fmtObj]⟩
  | .bool false, _, _ => ⟨_, by rw [fmtObj]⟩
  | .int _, _, _ => ⟨_, by rw [fmtObj]⟩
  | .real _, _, _ => ⟨_, by rw [fmtObj]⟩
  | .name _, _, _ => ⟨_, by rw [fmtObj]⟩
  | .str _, _, _ => ⟨_, by rw [fmtObj]⟩
  | .op _, h, _ => by rw [good_op] at h; cases h
  | .ref _ _, _, _ => ⟨_, by rw [fmtObj]⟩
theorem fmtSeq_some (opt : FmtOpt) : (xs : List Obj) → goodList xs = true →
    (∀ ns, ∃ b, fmtSeq opt ns xs = some b) ∧ (∀ first, ∃ b, fmtSeqPretty opt first xs = some b)
  | [], _ => ⟨fun _ => ⟨[], rfl⟩, fun _ => ⟨[], rfl⟩⟩
  | x :: xs, h => by
    rw [goodList_cons] at h
    obtain ⟨hp, hq⟩ := fmtSeq_some opt xs h.2
    constructor
    · intro ns
      obtain ⟨⟨a, ns1⟩, ha⟩ := fmtObj_some opt x h.1 ns
      obtain ⟨b, hb⟩ := hp ns1
      exact ⟨_, (fmtSeq_cons_inv opt ns x xs _).mpr ⟨a, ns1, b, ha, hb, rfl⟩⟩
    · intro first
      obtain ⟨⟨a, ns1⟩, ha⟩ := fmtObj_some opt x h.1 false
      obtain ⟨b, hb⟩ := hq false
      exact ⟨_, (fmtSeqPretty_cons_inv opt first x xs _).mpr ⟨a, ns1, b, ha, hb, rfl⟩⟩
theorem fmtDict_some (opt : FmtOpt) : (kv : List (Bytes × Obj)) → goodKV kv = true →
    (∃ b, fmtDictPlain opt kv = some b) ∧ (∃ b, fmtDictPretty opt kv = some b)
  | [], _ => ⟨⟨[], rfl⟩, ⟨[], rfl⟩⟩
  | (k, v) :: es, h => by
    obtain ⟨_, hgv, hges⟩ := goodKV_cons.mp h
    obtain ⟨⟨b1, hb1⟩, ⟨b2, hb2⟩⟩ := fmtDict_some opt es hges
    obtain ⟨⟨a1, n1⟩, ha1⟩ := fmtObj_some opt v hgv true
    obtain ⟨⟨a2, n2⟩, ha2⟩ := fmtObj_some opt v hgv false
    by_cases hv : v = .null
    · exact ⟨⟨_, (fmtDictPlain_cons_inv opt k v es _).mpr ⟨b1, hb1, .inl ⟨hv, rfl⟩⟩⟩,
        ⟨_, (fmtDictPretty_cons_inv opt k v es _).mpr ⟨b2, hb2, .inl ⟨hv, rfl⟩⟩⟩⟩
    · exact ⟨⟨_, (fmtDictPlain_cons_inv opt k v es _).mpr ⟨b1, hb1, .inr ⟨hv, a1, n1, ha1, rfl⟩⟩⟩,
        ⟨_, (fmtDictPretty_cons_inv opt k v es _).mpr ⟨b2, hb2, .inr ⟨hv, a2, n2, ha2, rfl⟩⟩⟩⟩
end

/-- one entry of `nrmKV ∘ rdKV` -/
def hEntry (e : Bytes × Obj) : Option (Bytes × Obj) :=
  match e.2 with
  | .null => none
  | v => match nrm (rd v) with
    | .null => none
    | v' => some (e.1, v')

theorem hEntry_nonnull (k : Bytes) (v : Obj) (hv : v ≠ .null) :
    hEntry (k, v) = match nrm (rd v) with | .null => none | v' => some (k, v') := by
  cases v <;> first | rfl | exact absurd rfl hv

theorem nrmKV_cons (k : Bytes) (v : Obj) (es : List (Bytes × Obj)) :
    nrmKV ((k, v) :: es) = match nrm v with | .null => nrmKV es | v' => (k, v') :: nrmKV es := by
  rw [nrmKV]

theorem nrmKV_rdKV (l : List (Bytes × Obj)) : nrmKV (rdKV l) = l.filterMap hEntry := by
  induction l with
  | nil => rfl
  | cons e es ih =>
    obtain ⟨k, v⟩ := e
    by_cases hv : v = .null
    · subst hv
      have : hEntry (k, .null) = none := rfl
      rw [List.filterMap_cons, this]
      simpa [rdKV] using ih
    · rw [rdKV_cons_nonnull k v es hv, nrmKV_cons, List.filterMap_cons, hEntry_nonnull k v hv, ih]
      cases nrm (rd v) <;> rfl

theorem keysOf_filterMap_hEntry (l : List (Bytes × Obj)) :
    (keysOf (l.filterMap hEntry)).Sublist (keysOf l) := by
  induction l with
  | nil => exact List.Sublist.refl _
  | cons e es ih =>
    obtain ⟨k, v⟩ := e
    rw [List.filterMap_cons]
    cases h : hEntry (k, v) with
    | none => exact List.Sublist.cons _ ih
    | some e' =>
      have : e'.1 = k := by
        unfold hEntry at h
        split at h
        · simp at h
        · split at h
          · simp at h
          · simp at h; rw [← h]
      rw [keysOf_cons, keysOf_cons, this]
      exact List.Sublist.cons_cons _ ih

theorem nrm_sorted_perm (l : List (Bytes × Obj)) (hn : (keysOf l).Nodup) :
    sortKV (nrmKV (rdKV (sortedEntries l))) = sortKV (nrmKV (rdKV l)) := by
  rw [nrmKV_rdKV, nrmKV_rdKV]
  have hp := sortedEntries_perm l
  refine sortKV_perm_eq (hp.filterMap hEntry) ?_
  exact List.Nodup.sublist (keysOf_filterMap_hEntry _) ((keysOf_perm hp.symm).nodup hn)

mutual
theorem nrm_rd_canon : (o : Obj) → good o = true → nrm (rd o.canon) = nrm o
  | .arr xs, h => by
    rw [canon_arr, rd_arr, nrm_arr, nrm_arr, nrmList_rd_canon xs (good_arr.mp h).1]
  | .dict kv, h => by
    obtain ⟨hkv, hnd, _⟩ := good_dict.mp h
    rw [canon_dict, rd_dict, nrm_dict, nrm_dict]
    rw [nrm_sorted_perm (canonKV kv) (by rw [canonKV_keys]; exact hnd), nrmKV_rd_canon kv hkv]
  | .null, _ => rfl
  | .nilArr, _ => rfl
  | .bool _, _ => rfl
  | .int _, _ => rfl
  | .real t, _ => congrArg Obj.real (realToken_idem t)
  | .name _, _ => rfl
  | .str _, _ => rfl
  | .op _, _ => rfl
  | .ref _ _, _ => rfl
theorem nrmList_rd_canon : (xs : List Obj) → goodList xs = true → nrmList (rdList (canonList xs)) = nrmList xs
  | [], _ => rfl
  | x :: xs, h => by
    rw [goodList_cons] at h
    rw [canonList_cons, rdList_cons, nrmList_cons, nrmList_cons, nrm_rd_canon x h.1, nrmList_rd_canon xs h.2]
theorem nrmKV_rd_canon : (kv : List (Bytes × Obj)) → goodKV kv = true → nrmKV (rdKV (canonKV kv)) = nrmKV kv
  | [], _ => rfl
  | (k, v) :: es, h => by
    obtain ⟨_, hgv, hges⟩ := goodKV_cons.mp h
    have ih := nrmKV_rd_canon es hges
    have hv := nrm_rd_canon v hgv
    rw [canonKV_cons]
    by_cases hc : v.canon = .null
    · have : v = .null := by
        cases v <;> first | rfl | cases hc
      subst this
      rw [show Obj.null.canon = .null from rfl, rdKV_cons_null, ih, nrmKV_cons]; rfl
    · rw [rdKV_cons_nonnull k v.canon _ hc, nrmKV_cons, nrmKV_cons, hv, ih]
end

end PdfVerif.C01L
