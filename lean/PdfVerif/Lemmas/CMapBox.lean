import PdfVerif.Model.CCCMap
/-!
The vocabulary for rectangular ranges of codes (`Model/CCCMap.lean`: `rangeIsValid`, `rangeIndex`, `codesInRange`,
`inBox`): the box `InBox`, the mixed-radix position `mixedIndex` and the size `boxCount`; what `rangeIndex` returns
(`rangeIndex_eq_some`) and what `codesInRange` holds at each position (`codesInRange_getElem?`).  The three definitions
stand in namespace `C13cc` because the theorems of Props/C13cc.lean are stated with them.
-/
namespace PdfVerif.C13cc
open PdfVerif PdfVerif.CC

/-- number of codes in the box `[first, last]` -/
def boxCount : Bytes → Bytes → Nat
  | f :: fs, l :: ls => (l - f + 1) * boxCount fs ls
  | _, _ => 1

/-- position of `code` in the box, most significant byte first (uncapped) -/
def mixedIndex : Bytes → Bytes → Bytes → Nat
  | f :: fs, _ :: ls, b :: bs => (b - f) * boxCount fs ls + mixedIndex fs ls bs
  | _, _, _ => 0

/-- `code` has the length of the box and lies in it -/
def InBox : Bytes → Bytes → Bytes → Prop
  | f :: fs, l :: ls, b :: bs => f ≤ b ∧ b ≤ l ∧ InBox fs ls bs
  | [], [], [] => True
  | _, _, _ => False

end PdfVerif.C13cc

namespace PdfVerif.CMap
open PdfVerif PdfVerif.CC PdfVerif.C13cc

theorem boxCount_cons (a b : Nat) (f l : Bytes) : boxCount (a :: f) (b :: l) = (b - a + 1) * boxCount f l := rfl

theorem mixedIndex_cons (a b x : Nat) (f l c : Bytes) :
    mixedIndex (a :: f) (b :: l) (x :: c) = (x - a) * boxCount f l + mixedIndex f l c := rfl

theorem nextCode_cons (a b x : Nat) (f l c : Bytes) :
    nextCode (a :: f) (b :: l) (x :: c) =
      match nextCode f l c with
      | some c' => some (x :: c')
      | none => if x < b then some ((x + 1) :: f) else none := rfl

theorem codesFrom_succ (f l : Bytes) (n idx : Nat) (buf : Bytes) :
    codesFrom f l (n + 1) idx buf =
      (idx, buf) :: (match nextCode f l buf with
                     | some buf' => codesFrom f l n (idx + 1) buf'
                     | none => []) := rfl

theorem rangeIndexLoop_cons (a b x : Nat) (f l c : Bytes) (acc : Nat) :
    rangeIndexLoop (a :: f) (b :: l) (x :: c) acc =
      if x < a || x > b then none
      else if acc * (b - a + 1) + (x - a) > maxInt32 then none
      else rangeIndexLoop f l c (acc * (b - a + 1) + (x - a)) := rfl

theorem boxCount_pos (f l : Bytes) : 0 < boxCount f l := by
  induction f generalizing l with
  | nil => exact Nat.one_pos
  | cons a f ih => cases l with
    | nil => exact Nat.one_pos
    | cons b l => exact Nat.mul_pos (Nat.succ_pos _) (ih l)

theorem inBox_len (f l c : Bytes) (h : InBox f l c) : f.length = c.length ∧ l.length = c.length := by
  fun_induction InBox f l c with
  | case1 a f b l x c ih => simpa using ih h.2.2
  | case2 => simp
  | case3 => exact h.elim

theorem inBox_first (f l c : Bytes) (h : InBox f l c) : InBox f l f := by
  fun_induction InBox f l c with
  | case1 a f b l x c ih => exact ⟨Nat.le_refl a, by omega, ih h.2.2⟩
  | case2 => trivial
  | case3 => exact h.elim

theorem mixedIndex_first (f l : Bytes) : mixedIndex f l f = 0 := by
  induction f generalizing l with
  | nil => cases l <;> rfl
  | cons a f ih => cases l with
    | nil => rfl
    | cons b l => rw [mixedIndex_cons, ih, Nat.sub_self, Nat.zero_mul]

theorem mixedIndex_lt (f l c : Bytes) (h : InBox f l c) : mixedIndex f l c < boxCount f l := by
  fun_induction InBox f l c with
  | case1 a f b l x c ih =>
    have := ih h.2.2
    calc (x - a) * boxCount f l + mixedIndex f l c
        < (x - a + 1) * boxCount f l := by rw [Nat.add_mul, Nat.one_mul]; exact Nat.add_lt_add_left this _
      _ ≤ (b - a + 1) * boxCount f l := Nat.mul_le_mul_right _ (Nat.succ_le_succ (Nat.sub_le_sub_right h.2.1 a))
  | case2 => exact Nat.one_pos
  | case3 => exact h.elim

theorem mixed_inj {B q m q' m' : Nat} (hm : m < B) (hm' : m' < B) (h : q * B + m = q' * B + m') :
    q = q' ∧ m = m' := by
  have hq : q = q' := by
    have := congrArg (· / B) h
    simpa [Nat.mul_comm _ B, Nat.mul_add_div (by omega : 0 < B), Nat.div_eq_of_lt hm, Nat.div_eq_of_lt hm'] using this
  subst hq
  exact ⟨rfl, Nat.add_left_cancel h⟩

theorem mixedIndex_inj (f l c c' : Bytes) (h : InBox f l c) (h' : InBox f l c')
    (he : mixedIndex f l c = mixedIndex f l c') : c = c' := by
  fun_induction InBox f l c generalizing c' with
  | case1 a f b l x c ih =>
    cases c' with
    | nil => exact h'.elim
    | cons x' c' =>
      obtain ⟨hq, hm⟩ := mixed_inj (mixedIndex_lt f l c h.2.2) (mixedIndex_lt f l c' h'.2.2) he
      rw [ih c' h.2.2 h'.2.2 hm, show x = x' by have := h.1; have := h'.1; omega]
  | case2 => cases c' with
    | nil => rfl
    | cons _ _ => exact h'.elim
  | case3 => exact h.elim

/-- with the three lengths equal, the catch-all equation of `InBox` does not apply -/
theorem inBox_no_case3 {f l c : Bytes} (h1 : f.length = c.length) (h2 : l.length = c.length)
    (hne1 : ∀ a f' b l' x c', f = a :: f' → l = b :: l' → c = x :: c' → False)
    (hne2 : f = [] → l = [] → c = [] → False) : False := by
  cases c with
  | nil => exact hne2 (List.length_eq_zero_iff.mp h1) (List.length_eq_zero_iff.mp h2) rfl
  | cons x c =>
    obtain ⟨a, f, rfl⟩ := List.exists_cons_of_length_eq_add_one h1
    obtain ⟨b, l, rfl⟩ := List.exists_cons_of_length_eq_add_one h2
    exact hne1 _ _ _ _ _ _ rfl rfl rfl

theorem inBox_iff (f l c : Bytes) (h1 : f.length = c.length) (h2 : l.length = c.length) :
    inBox f l c = true ↔ InBox f l c := by
  fun_induction InBox f l c with
  | case1 a f b l x c ih =>
    show (if x < a || x > b then false else inBox f l c) = true ↔ _
    by_cases hx : x < a ∨ x > b
    · rw [if_pos (by simpa using hx)]
      exact ⟨fun h => (by cases h), fun ⟨h3, h4, _⟩ => absurd (hx.resolve_left (Nat.not_lt.mpr h3)) (Nat.not_lt.mpr h4)⟩
    · rw [if_neg (by simpa using hx), ih (Nat.succ.inj h1) (Nat.succ.inj h2)]
      have hx' := not_or.mp hx
      exact ⟨fun h => ⟨Nat.not_lt.mp hx'.1, Nat.not_lt.mp hx'.2, h⟩, fun h => h.2.2⟩
  | case2 => exact ⟨fun _ => trivial, fun _ => rfl⟩
  | case3 f l c hne1 hne2 => exact (inBox_no_case3 h1 h2 hne1 hne2).elim

theorem leAll_iff_inBox : ∀ (f l : Bytes), f.length = l.length → (leAll f l = true ↔ InBox f l f) := by
  intro f
  induction f with
  | nil => intro l hl; cases l with
    | nil => exact ⟨fun _ => trivial, fun _ => rfl⟩
    | cons _ _ => cases hl
  | cons a f ih =>
    intro l hl
    cases l with
    | nil => simp at hl
    | cons b l =>
      show ((!decide (a > b) && leAll f l) = true) ↔ a ≤ a ∧ a ≤ b ∧ InBox f l f
      simp only [Bool.and_eq_true, Bool.not_eq_true', decide_eq_false_iff_not, Nat.not_lt,
        ih l (by simpa using hl), Nat.le_refl, true_and]

theorem rangeIsValid_iff (f l : Bytes) : rangeIsValid f l = true ↔ InBox f l f ∧ f ≠ [] := by
  unfold rangeIsValid
  constructor
  · intro h
    split at h
    · cases h
    · rename_i hc
      simp only [bne_iff_ne, ne_eq, beq_iff_eq, Bool.or_eq_true, not_or, Decidable.not_not] at hc
      exact ⟨(leAll_iff_inBox f l hc.1).mp h, fun h0 => hc.2 (by rw [h0]; rfl)⟩
  · rintro ⟨h, hne⟩
    have hl := (inBox_len f l f h).2
    have : f.length ≠ 0 := fun h0 => hne (List.length_eq_zero_iff.mp h0)
    simp [hl, this, (leAll_iff_inBox f l hl.symm).mpr h]

theorem nextCode_spec (f l c : Bytes) (h : InBox f l c) :
    (∀ c', nextCode f l c = some c' → InBox f l c' ∧ mixedIndex f l c' = mixedIndex f l c + 1) ∧
    (nextCode f l c = none → mixedIndex f l c + 1 = boxCount f l) := by
  fun_induction InBox f l c with
  | case1 a f b l x c ih =>
    obtain ⟨h1, h2, h3⟩ := h
    obtain ⟨ihs, ihn⟩ := ih h3
    rw [nextCode_cons]
    cases hn : nextCode f l c with
    | some c2 =>
      have := ihs c2 hn
      simp only [Option.some.injEq, reduceCtorEq, false_implies, and_true]
      rintro c' rfl
      exact ⟨⟨h1, h2, this.1⟩, by rw [mixedIndex_cons, mixedIndex_cons, this.2, Nat.add_assoc]⟩
    | none =>
      -- carry: the lower digits are at their last value and restart at `f`, which has index 0
      have hlast := ihn hn
      by_cases hx : x < b
      · simp only [hx, if_true, Option.some.injEq, reduceCtorEq, false_implies, and_true]
        rintro c' rfl
        refine ⟨⟨Nat.le_succ_of_le h1, hx, inBox_first f l c h3⟩, ?_⟩
        simp only [mixedIndex_cons, mixedIndex_first, Nat.succ_sub h1, Nat.succ_mul, Nat.add_zero, ← hlast,
          Nat.add_assoc]
      · simp only [hx, if_false, reduceCtorEq, false_implies, implies_true, true_and]
        have : x = b := Nat.le_antisymm h2 (Nat.not_lt.mp hx)
        subst this
        simp only [mixedIndex_cons, boxCount_cons, Nat.add_mul, Nat.one_mul, Nat.add_assoc, hlast, implies_true]
  | case2 => exact ⟨fun _ h => (by cases h), fun _ => rfl⟩
  | case3 => exact h.elim

theorem codesFrom_getElem? (f l : Bytes) : ∀ (n idx : Nat) (buf : Bytes), InBox f l buf → ∀ (j : Nat) (p : Nat × Bytes),
    (codesFrom f l n idx buf)[j]? = some p ↔
      j < n ∧ p.1 = idx + j ∧ InBox f l p.2 ∧ mixedIndex f l p.2 = mixedIndex f l buf + j := by
  intro n
  induction n with
  | zero => intro idx buf _ j p; simp [codesFrom]
  | succ n ih =>
    intro idx buf hb j p
    rw [codesFrom_succ]
    cases j with
    | zero =>
      simp only [List.getElem?_cons_zero, Option.some.injEq, Nat.zero_lt_succ, Nat.add_zero, true_and]
      exact ⟨fun h => h ▸ ⟨rfl, hb, rfl⟩, fun ⟨h1, h2, h3⟩ => Prod.ext h1.symm (mixedIndex_inj f l _ _ hb h2 h3.symm)⟩
    | succ j =>
      simp only [List.getElem?_cons_succ, Nat.succ_lt_succ_iff]
      cases hn : nextCode f l buf with
      | none =>
        -- `buf` is the last code of the box: no code has a later position
        have hlast := (nextCode_spec f l buf hb).2 hn
        simp only [List.getElem?_nil, reduceCtorEq, false_iff, not_and]
        intro _ _ h2 h3
        have := mixedIndex_lt f l p.2 h2
        omega
      | some buf' =>
        obtain ⟨hb', hi'⟩ := (nextCode_spec f l buf hb).1 buf' hn
        simp only [ih (idx + 1) buf' hb' j p, hi', Nat.add_assoc, Nat.add_comm 1 j]

theorem codesFrom_length (f l : Bytes) : ∀ (n idx : Nat) (buf : Bytes), InBox f l buf → mixedIndex f l buf = idx →
    (codesFrom f l n idx buf).length = min n (boxCount f l - idx) := by
  intro n
  induction n with
  | zero => intro idx buf _ _; exact (Nat.zero_min _).symm
  | succ n ih =>
    intro idx buf hb hi
    have hlt : idx < boxCount f l := hi ▸ mixedIndex_lt f l buf hb
    rw [codesFrom_succ, List.length_cons]
    cases hn : nextCode f l buf with
    | none =>
      have := (nextCode_spec f l buf hb).2 hn
      rw [← this, hi, Nat.add_sub_cancel_left, Nat.min_eq_right (Nat.le_add_left 1 n)]; rfl
    | some buf' =>
      have h1 := (nextCode_spec f l buf hb).1 buf' hn
      simp only
      rw [ih (idx + 1) buf' h1.1 (by rw [h1.2, hi]), ← Nat.add_min_add_right, Nat.sub_add_eq,
        Nat.sub_add_cancel (Nat.sub_pos_of_lt hlt)]

/-- `acc` is the mixed-radix number of the digits read so far (an `int64` in Go, tested against `math.MaxInt32` at every
digit) -/
theorem rangeIndexLoop_eq_some (f l c : Bytes) (h1 : f.length = c.length) (h2 : l.length = c.length)
    (acc r : Nat) (hacc : acc ≤ maxInt32) :
    rangeIndexLoop f l c acc = some r ↔
      InBox f l c ∧ r = acc * boxCount f l + mixedIndex f l c ∧ r ≤ maxInt32 := by
  fun_induction InBox f l c generalizing acc with
  | case1 a f b l x c ih =>
    have hpos := boxCount_pos f l
    have e : acc * ((b - a + 1) * boxCount f l) + ((x - a) * boxCount f l + mixedIndex f l c) =
        (acc * (b - a + 1) + (x - a)) * boxCount f l + mixedIndex f l c := by
      rw [Nat.add_mul (acc * (b - a + 1)), Nat.mul_assoc, Nat.add_assoc]
    have hge : acc * (b - a + 1) + (x - a) ≤ (acc * (b - a + 1) + (x - a)) * boxCount f l :=
      Nat.le_mul_of_pos_right _ hpos
    simp only [rangeIndexLoop_cons, boxCount_cons, mixedIndex_cons, e]
    split
    · rename_i hx
      simp only [Bool.or_eq_true, decide_eq_true_eq] at hx
      simp only [reduceCtorEq, false_iff, not_and]
      exact fun h3 _ => absurd (hx.resolve_left (Nat.not_lt.mpr h3.1)) (Nat.not_lt.mpr h3.2.1)
    · rename_i hx
      simp only [Bool.or_eq_true, decide_eq_true_eq, not_or, Nat.not_lt] at hx
      split
      · -- already the leading digits exceed the cap, and the number only grows
        rename_i hcap
        simp only [reduceCtorEq, false_iff, not_and]
        exact fun _ hr he => Nat.lt_irrefl _
          (Nat.lt_of_lt_of_le hcap (Nat.le_trans hge (Nat.le_trans (Nat.le_add_right _ _) (hr ▸ he))))
      · rename_i hcap
        rw [ih (Nat.succ.inj h1) (Nat.succ.inj h2) _ (Nat.not_lt.mp hcap)]
        simp only [hx.1, hx.2, true_and]
  | case2 =>
    show some acc = some r ↔ True ∧ r = acc * 1 + 0 ∧ r ≤ maxInt32
    simp only [Option.some.injEq, true_and, Nat.mul_one, Nat.add_zero]
    exact ⟨fun h => h ▸ ⟨rfl, hacc⟩, fun h => h.1.symm⟩
  | case3 f l c hne1 hne2 => exact (inBox_no_case3 h1 h2 hne1 hne2).elim

theorem rangeIndex_eq_some (f l c : Bytes) (i : Nat) :
    rangeIndex f l c = some i ↔ InBox f l c ∧ mixedIndex f l c = i ∧ i ≤ maxInt32 := by
  unfold rangeIndex
  split
  · rename_i hl
    have : ¬ InBox f l c := fun h => by simp [inBox_len f l c h] at hl
    simp [this]
  · rename_i hl
    simp only [bne_iff_ne, ne_eq, Bool.or_eq_true, not_or, Decidable.not_not] at hl
    rw [rangeIndexLoop_eq_some f l c hl.1 hl.2 0 i (Nat.zero_le _), Nat.zero_mul, Nat.zero_add, eq_comm]

theorem codesInRange_of_valid (first last : Bytes) (n : Nat) (hv : rangeIsValid first last = true) :
    codesInRange first last n = codesFrom first last n 0 first := by
  simp [codesInRange, hv]

theorem codesInRange_getElem? (first last : Bytes) (n : Nat) (hv : rangeIsValid first last = true) (j : Nat)
    (p : Nat × Bytes) :
    (codesInRange first last n)[j]? = some p ↔
      j < n ∧ p.1 = j ∧ InBox first last p.2 ∧ mixedIndex first last p.2 = j := by
  rw [codesInRange_of_valid first last n hv,
    codesFrom_getElem? first last n 0 first ((rangeIsValid_iff first last).mp hv).1, mixedIndex_first, Nat.zero_add]

theorem length_codesInRange (first last : Bytes) (n : Nat) (hv : rangeIsValid first last = true) :
    (codesInRange first last n).length = min n (boxCount first last) := by
  rw [codesInRange_of_valid first last n hv,
    codesFrom_length first last n 0 first ((rangeIsValid_iff first last).mp hv).1 (mixedIndex_first first last),
    Nat.sub_zero]

theorem inBox_append (key : Bytes) (x1 x2 : Nat) (c : Bytes) :
    InBox (key ++ [x1]) (key ++ [x2]) c ↔ ∃ x, c = key ++ [x] ∧ x1 ≤ x ∧ x ≤ x2 := by
  induction key generalizing c with
  | nil => match c with
    | [] | [_] | _ :: _ :: _ => simp [InBox]
  | cons k key ih =>
    cases c with
    | nil => simp [InBox]
    | cons b c =>
      simp only [List.cons_append, InBox, ih, List.cons.injEq]
      constructor
      · rintro ⟨h1, h2, x, rfl, h3⟩; exact ⟨x, ⟨Nat.le_antisymm h2 h1, rfl⟩, h3⟩
      · rintro ⟨x, ⟨rfl, rfl⟩, h3⟩; exact ⟨Nat.le_refl _, Nat.le_refl _, x, rfl, h3⟩

theorem mixedIndex_append (key : Bytes) (x1 x2 x : Nat) :
    mixedIndex (key ++ [x1]) (key ++ [x2]) (key ++ [x]) = x - x1 := by
  induction key with
  | nil => simp [mixedIndex, boxCount]
  | cons k key ih => simp [mixedIndex, ih]

theorem rangeIndex_append (key : Bytes) (x1 x2 : Nat) (h2 : x2 < 256) (c : Bytes) (i : Nat) :
    rangeIndex (key ++ [x1]) (key ++ [x2]) c = some i ↔ x1 + i ≤ x2 ∧ c = key ++ [x1 + i] := by
  rw [rangeIndex_eq_some, inBox_append]
  constructor
  · rintro ⟨⟨x, rfl, h3, h4⟩, h5, _⟩
    rw [mixedIndex_append] at h5
    have : x1 + i = x := by rw [← h5, Nat.add_sub_cancel' h3]
    exact ⟨this ▸ h4, by rw [this]⟩
  · rintro ⟨h, rfl⟩
    refine ⟨⟨_, rfl, Nat.le_add_right _ _, h⟩, by rw [mixedIndex_append, Nat.add_sub_cancel_left], ?_⟩
    exact Nat.le_trans (Nat.le_add_left i x1) (Nat.le_trans h (Nat.le_trans (Nat.le_of_lt h2) (by decide)))

theorem boxCount_append (key : Bytes) (x1 x2 : Nat) : boxCount (key ++ [x1]) (key ++ [x2]) = x2 - x1 + 1 := by
  induction key with
  | nil => simp [boxCount]
  | cons k key ih => simp [boxCount, ih]

end PdfVerif.CMap
