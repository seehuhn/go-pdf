import PdfVerif.Lemmas.ROBBuf
/-!
The parser of `scanner.go` over the 1024-byte window (`Model/ROBScanObj.lean`) against the whole-input parser
(`Model/Scan.lean`) on a reader that may fail: one theorem per function, for every state `Inv d e0 P s` with `P` kept
(`C05robbuf.Kept`).  `Props/C05robobj.lean` (nothing is ever latched) and `Props/C19robtok.lean`, `Props/C19robobj.lean`
(a latched error stays) read their theorems off these.  A proof walks down the two function bodies side by side:
`(x_ends …).casesOn` replaces a call and the model's corresponding step by their possible outcomes (`passErr`, `passEof`,
`Out.flt` close the cases in which the caller returns the call's error), `Out.ite` descends into a test both bodies make.
`C19robtok.NameErrF` (what is known of the state after a failed `ReadName`) is declared here under the name it has in
the statements of `Props/C19robtok.lean`, because `readNameF` is stated with it.
-/
namespace PdfVerif.C19robtok
open PdfVerif PdfVerif.ROB PdfVerif.C05robbuf

/-- after a failed `ReadName` the scanner still stands where it stood, or on a byte that is not `>` -/
def NameErrF (d : Bytes) (inp : Bytes) (s : SB) : Prop :=
  view d s = inp ∨ ((∃ r, inp = 47 :: r) ∧ ∃ c t, view d s = c :: t ∧ c ≠ 62)

end PdfVerif.C19robtok

namespace PdfVerif.ROBParse
open PdfVerif PdfVerif.ROB PdfVerif.C05robbuf PdfVerif.C05robobj PdfVerif.C19robtok

/-- `reduce_matches` reduces the `match`es on results that a step has just put into the goal.  It is
    `dsimp only` without eta for structures: with it, every later `let (s, e) := f …` would become
    projections of `f …`; the later calls then no longer contain bound variables, and when one call is
    to be replaced by its outcomes it is compared with each of them, at great cost. -/
macro "reduce_matches" : tactic =>
  `(tactic| dsimp (config := { etaStruct := .none }) only [List.take_succ_cons, List.take_zero])

/-- the scanner stands on a byte that is not `>` -/
def NotGtF (d : Bytes) (s : SB) : Prop := ∃ c t, view d s = c :: t ∧ c ≠ 62

theorem NotGtF.nameErr {d : Bytes} {s : SB} (r : Bytes) (h : NotGtF d s) : NameErrF d (47 :: r) s :=
  .inr ⟨⟨r, rfl⟩, h⟩

/-- how a function of the parser ends, next to the whole-input model's result `m` on the bytes not yet
    consumed: with the model's value, standing at the model's remaining input; with the model's error (`E` is
    what is known of the state then); or with the reader's error, latched -/
inductive Out {α : Type} (d : Bytes) (e0 : Err) (P : SB → Prop) (E : SB → Prop) :
    SB × Except Err α → Except Err (α × Bytes) → Prop
  | ok (s : SB) (v : α) : Inv d e0 P s → Out d e0 P E (s, .ok v) (.ok (v, view d s))
  | err (s : SB) (e : Err) : Inv d e0 P s → E s → Out d e0 P E (s, .error e) (.error e)
  | flt {m : Except Err (α × Bytes)} (s : SB) : Inv d e0 P s → s.err = some e0 → Out d e0 P E (s, .error e0) m

section
variable {α : Type} {d : Bytes} {e0 : Err} {P : SB → Prop} {E : SB → Prop}

theorem Out.at {s : SB} {v : α} {rest : Bytes} (gs : Inv d e0 P s) (hv : view d s = rest) :
    Out d e0 P E (s, .ok v) (.ok (v, rest)) :=
  hv ▸ .ok s v gs

/-- `Out.ok`, `Out.err` as arms of a `casesOn` in a caller that returns the value (in a constructor `f`) or the
    error of the call as it is; for the reader's error the arm is `Out.flt` itself -/
theorem passOk {β : Type} {f : α → β} (s : SB) (v : α) (gs : Inv d e0 P s) :
    Out d e0 P E (s, .ok (f v)) (.ok (f v, view d s)) :=
  .ok s _ gs

theorem passErr {β : Type} (s : SB) (e : Err) (gs : Inv d e0 P s) (_ : E s) :
    Out (α := β) d e0 P (fun _ => True) (s, .error e) (.error e) :=
  .err s e gs trivial

theorem passEof (s : SB) (gs : Inv d e0 P s) :
    Out (α := α) d e0 P (fun _ => True) (s, .error .eof) (.error .eof) :=
  .err s _ gs trivial

/-- a test that the function and the model both make, each in its own words -/
theorem Out.ite' {c c' : Prop} [Decidable c] [Decidable c'] {a b : SB × Except Err α} {m n : Except Err (α × Bytes)}
    (hc : c ↔ c') (ht : c' → Out d e0 P E a m) (hf : ¬ c' → Out d e0 P E b n) :
    Out d e0 P E (if c then a else b) (if c' then m else n) := by
  by_cases h : c'
  · rw [if_pos (hc.2 h), if_pos h]; exact ht h
  · rw [if_neg (mt hc.1 h), if_neg h]; exact hf h

theorem Out.ite {c : Prop} [Decidable c] {a b : SB × Except Err α} {m n : Except Err (α × Bytes)}
    (ht : c → Out d e0 P E a m) (hf : ¬ c → Out d e0 P E b n) :
    Out d e0 P E (if c then a else b) (if c then m else n) :=
  Out.ite' Iff.rfl ht hf

theorem Out.weaken {E' : SB → Prop} {r : SB × Except Err α} {m : Except Err (α × Bytes)}
    (hE : ∀ s, Inv d e0 P s → E s → E' s) (hr : Out d e0 P E r m) : Out d e0 P E' r m :=
  hr.casesOn passOk (fun s e g he => .err s e g (hE s g he)) Out.flt

end

theorem Out.consB {d : Bytes} {e0 : Err} {P : SB → Prop} {E : SB → Prop} (x : Nat) {r : SB × Except Err Bytes}
    {m : Except Err (Bytes × Bytes)} (hr : Out d e0 P E r m) :
    Out d e0 P E (consB x r) (consRes x m) :=
  hr.casesOn passOk .err Out.flt

/-- how `tryHex` ends on a state standing on `#` followed by `rest`, next to `tryHexSpec rest`: two
    hex digits consumed with the `#`; or nothing consumed, and the `#` may be stepped over; or the
    reader's error, which `tryHex` hands to `ReadName` (finding ROB-7) -/
inductive TryHexF (d : Bytes) (e0 : Err) (P : SB → Prop) (rest : Bytes) :
    SB × Except Err (Option Nat) → Option (Nat × Bytes) → Prop
  | hex (s1 : SB) (v : Nat) (rest' : Bytes) : Inv d e0 P s1 → view d s1 = rest' → rest'.length ≤ rest.length →
      TryHexF d e0 P rest (s1, .ok (some v)) (some (v, rest'))
  | no (s1 : SB) : Inv d e0 P (adv 1 s1) → view d (adv 1 s1) = rest → TryHexF d e0 P rest (s1, .ok none) none
  | flt (m : Option (Nat × Bytes)) (s1 : SB) : Inv d e0 P s1 → s1.err = some e0 → TryHexF d e0 P rest (s1, .error e0) m

/-! `sf` is the fuel of `ScanBytes` and of the loops of `ReadName` and `ReadString`.  `hlen`: `Coh` says nothing of what
the window holds, so a coherent state may show more bytes than `d` has; `ReadName` and `ReadString` run the model with
the fuel the length of the view asks for and need it below `sf`. -/

variable {d : Bytes} {e0 : Err} {src : Source} (h : FaultyOver d e0 src) {P : SB → Prop} (hP : Kept d e0 src P)
  {sf : Nat} (hsf : d.length + 2 ≤ sf) (hlen : ∀ s, P s → (view d s).length ≤ d.length)

theorem fuel_le {d : Bytes} {sf : Nat} (hsf : d.length + 2 ≤ sf) (s : SB) : (d.length - s.srcOff) + 2 ≤ sf :=
  Nat.le_trans (Nat.add_le_add_right (Nat.sub_le _ _) 2) hsf

section
include h hP

theorem tryHex_ends (s : SB) (gs : Inv d e0 P s) (rest : Bytes) (hv : view d s = 35 :: rest) :
    TryHexF d e0 P rest (tryHexBuf src s) (tryHexSpec rest) := by
  unfold tryHexBuf
  refine (peekN_ends h hP 3 (by decide) s gs).casesOn ?_ ?_
  · intro s1 g1 v1 hadv
    rw [hv] at hadv ⊢
    have h1 := hadv 1 (by decide) (Nat.succ_pos _)
    match rest, hadv with
    | [], _ => exact .no s1 h1.1 h1.2
    | [_], _ => exact .no s1 h1.1 h1.2
    | hh :: l :: rest', hadv =>
      simp only [tryHexSpec, List.take_succ_cons, List.take_zero]
      cases hexVal hh with
      | none => exact .no s1 h1.1 h1.2
      | some a =>
        cases hexVal l with
        | none => exact .no s1 h1.1 h1.2
        | some b =>
          have h3 := hadv 3 (Nat.le_refl _) (by simp only [List.length_cons]; omega)
          exact .hex _ _ _ h3.1 h3.2 (by simp only [List.length_cons]; omega)
  · intro buf s1 gl hl
    exact .flt _ s1 gl hl

theorem readNameLoopF : ∀ (fuel len : Nat) (s : SB), Inv d e0 P s → (view d s).length < fuel →
    Out d e0 P (NotGtF d) (readNameLoopBuf src fuel len s) (readNameBody fuel len (view d s)) := by
  intro fuel
  induction fuel with
  | zero => intro len s gs hf; omega
  | succ fuel ih =>
    intro len s gs hf
    unfold readNameLoopBuf
    refine (peekN_ends h hP 1 (by decide) s gs).casesOn ?_ ?_
    rotate_left
    · intro buf s1 gl hl
      simp only [hardErr_ne e0 h.e0_ne]
      exact .flt s1 gl hl
    intro s1 g1 v1 hadv
    cases hv : view d s with
    | nil => unfold readNameBody; exact .at g1 (v1.trans hv)
    | cons c rest =>
      rw [hv] at hadv hf
      have hv1 : view d s1 = c :: rest := v1.trans hv
      have hadv1 := hadv 1 (Nat.le_refl _) (Nat.succ_pos _)
      have next : ∀ (x : Nat) (s2 : SB) (r : Bytes), Inv d e0 P s2 → view d s2 = r → r.length ≤ rest.length →
          Out d e0 P (NotGtF d) (consB x (readNameLoopBuf src fuel (len + 1) s2))
            (consRes x (readNameBody fuel (len + 1) r)) := by
        intro x s2 r g2 v2 hl
        subst v2
        simp only [List.length_cons] at hf
        exact Out.consB x (ih (len + 1) s2 g2 (by omega))
      by_cases h3 : c = 35
      · subst h3
        rw [readNameBody_hash]
        simp only [hardErr, List.take_succ_cons, List.take_zero, hash_goes_on, Bool.false_eq_true, if_false]
        refine Out.ite (fun _ => .err s1 _ g1 ⟨35, rest, hv1, by decide⟩) fun _ => ?_
        simp only [beq_self_eq_true, if_true]
        refine (tryHex_ends h hP s1 g1 rest hv1).casesOn ?_ ?_ fun _ => Out.flt
        · intro s2 v rest' g2 v2 hl; exact next v s2 rest' g2 v2 hl
        · intro s2 g2 v2; exact next 35 _ rest g2 v2 (Nat.le_refl _)
      · unfold readNameBody
        have h3' : (c == 35) = false := beq_eq_false_iff_ne.2 h3
        simp only [hardErr, List.take_succ_cons, List.take_zero]
        refine Out.ite (fun _ => .at g1 hv1) fun h1 => ?_
        refine Out.ite (fun _ => .err s1 _ g1 ⟨c, rest, hv1, reg_ne_62 c h1⟩) fun _ => ?_
        simp only [h3', Bool.false_eq_true, if_false]
        exact next c _ rest hadv1.1 hadv1.2 (Nat.le_refl _)

end

section
include h hP hsf hlen

theorem readNameF (s : SB) (gs : Inv d e0 P s) :
    Out d e0 P (NameErrF d (view d s)) (readNameBuf src sf s) (readName (view d s)) := by
  unfold readNameBuf
  refine (skipString_ends h hP [47] (by decide) s gs).casesOn ?_ ?_ ?_
  · intro s1 rest hv g1 v1
    have hv : view d s = 47 :: rest := hv
    rw [hv]
    show Out d e0 P _ (readNameLoopBuf src sf 0 s1) (readNameBody (rest.length + 1) 0 rest)
    have hl : rest.length + 1 ≤ sf := by
      have := hlen s gs.p; rw [hv, List.length_cons] at this; omega
    rw [readNameBody_fuel (rest.length + 1) sf 0 rest (Nat.le_refl _) hl, ← v1]
    exact Out.weaken (fun _ _ hE => hE.nameErr _) (readNameLoopF h hP sf 0 s1 g1 (by rw [v1]; omega))
  · intro s1 hno g1 v1
    have : readName (view d s) = .error .malformed := by
      cases hv : view d s with
      | nil => rfl
      | cons c rest => exact readName_other c rest fun hc => hno ⟨rest, by rw [hv, hc]; rfl⟩
    rw [this]
    exact .err s1 _ g1 (Or.inl v1)
  · intro s1 gl hl
    exact .flt s1 gl hl

end

section
include h hP hsf

theorem readNumberF (s : SB) (gs : Inv d e0 P s) :
    Out d e0 P (fun _ => True) (readNumberBuf src sf s) (readNumber (view d s)) := by
  unfold readNumberBuf readNumber
  refine (scanBytes_ends h hP (numAcc true) true ⟨false, true, [], false⟩ s gs (fuel_le hsf _)).casesOn ?_ ?_
  · intro s1 st atEof g1 a
    obtain ⟨n1, n2, n3, n4⟩ := numAcc_scan_init true (view d s) a
    have he : hardErr (if atEof then some .eof else none) = none := by cases atEof <;> rfl
    generalize scanNumTok true false true (view d s) = q at n1 n2 n3 n4
    obtain ⟨tok, rest⟩ := q
    simp only [he]
    by_cases hov : tok.length > Gen.scanner_maxNameBytes
    · simp only [n2, hov, decide_true, if_true]
      exact .err s1 _ g1 trivial
    · have ho : st.overflow = false := by rw [n2]; exact decide_eq_false hov
      simp only [ho, hov, Bool.false_eq_true, if_false, n3 ho, n4]
      cases (if tok.contains 46 = true then none else parseInt64 tok) with
      | some i => exact .at g1 n1
      | none => exact Out.ite (fun _ => .at g1 n1) fun _ => .err s1 _ g1 trivial
  · intro st s1 gl hl
    simp only [hardErr_ne e0 h.e0_ne]
    exact .flt s1 gl hl

/-- `ReadInteger` against `readInteger` when the input does not end in the leading white space (which is how
    `ReadDict` uses it; at the end of the input the Go function returns `io.EOF` where the whole-input model says
    malformed) -/
theorem readIntegerF (s : SB) (gs : Inv d e0 P s) (hws : (skipWS (view d s)).2 = false) :
    Out d e0 P (fun _ => True) (readIntegerBuf src sf s) (readInteger (view d s)) := by
  unfold readIntegerBuf readInteger
  revert hws
  refine (skipWhiteSpace_ends h hP s gs (fuel_le hsf _)).casesOn ?_ ?_ ?_
  · intro s1 g1 hws; cases hws
  rotate_left
  · intro w s1 gl hl _; exact .flt s1 gl hl
  intro s1 c rest g1 hv _ _
  reduce_matches
  refine (scanBytes_ends h hP (numAcc false) true ⟨false, true, [], false⟩ s1 g1 (fuel_le hsf _)).casesOn ?_ ?_
  · intro s2 st atEof g2 a
    obtain ⟨n1, n2, n3, _⟩ := numAcc_scan_init false (view d s1) a
    generalize scanNumTok false false true (view d s1) = q at n1 n2 n3
    obtain ⟨tok, rest'⟩ := q
    -- `ReadInteger` takes `io.EOF` from `ScanBytes` for the end of the token: in each case below the
    -- outcome is the same for `atEof = true` and `false`
    by_cases hov : tok.length > Gen.scanner_maxNameBytes
    · simp only [n2, hov, decide_true, if_true]
      cases atEof <;> exact .err s2 _ g2 trivial
    · have ho : st.overflow = false := by rw [n2]; exact decide_eq_false hov
      simp only [ho, hov, Bool.false_eq_true, if_false, n3 ho]
      cases parseInt64 tok with
      | some i => cases atEof <;> exact .at g2 n1
      | none => cases atEof <;> exact .err s2 _ g2 trivial
  · intro st s2 gl hl
    -- `readIntegerBuf` spells `hardErr` as a `match` of its own, so `hardErr_ne` does not apply: its two cases by hand
    have hne := h.e0_ne
    cases e0 <;> first | exact (hne rfl).elim | exact .flt s2 gl hl

end

section
include h hP

/-- the octal escape loop on a failing reader (it has no error of its own) -/
theorem readOctTailF : ∀ (k oct : Nat) (s : SB), Inv d e0 P s →
    Out d e0 P (fun _ => True) (readOctTailBuf src oct k s) (.ok (readOctTail oct k (view d s))) := by
  intro k
  induction k with
  | zero => intro oct s gs; unfold readOctTailBuf readOctTail; exact .at gs rfl
  | succ k ih =>
    intro oct s gs
    unfold readOctTailBuf
    refine (peekN_ends h hP 1 (by decide) s gs).casesOn ?_ ?_
    · intro s1 g1 v1 hadv
      cases hv : view d s with
      | nil => unfold readOctTail; exact .at g1 (v1.trans hv)
      | cons c cs =>
        unfold readOctTail
        have hadv1 : Inv d e0 P (adv 1 s1) ∧ view d (adv 1 s1) = cs := by
          have := hadv 1 (Nat.le_refl _) (by rw [hv]; exact Nat.succ_pos _)
          rwa [hv] at this
        simp only [hardErr, List.take_succ_cons, List.take_zero]
        by_cases ho : isOct c = true
        · simp only [ho, if_true]
          exact hadv1.2 ▸ ih _ (adv 1 s1) hadv1.1
        · simp only [ho, Bool.false_eq_true, if_false]
          exact .at g1 (v1.trans hv)
    · intro buf s1 gl hl
      simp only [hardErr_ne e0 h.e0_ne]
      exact .flt s1 gl hl

theorem readStringLoopF : ∀ (fuel level : Nat) (ign : Bool) (len : Nat) (s : SB), Inv d e0 P s →
    Out d e0 P (fun _ => True) (readStringLoopBuf src fuel level ign len s)
      (readStringBody fuel level ign len (view d s)) := by
  intro fuel
  induction fuel with
  | zero =>
    intro level ign len s gs
    unfold readStringLoopBuf readStringBody
    exact .err s _ gs trivial
  | succ fuel ih =>
    intro level ign len s gs
    unfold readStringLoopBuf readStringBody
    refine Out.ite (fun _ => .err s _ gs trivial) fun _ => ?_
    refine (readByte_ends h hP s gs).casesOn ?_ ?_ Out.flt
    · intro s1 hv g1 _; rw [hv]; exact .err s1 _ g1 trivial
    intro s1 b rest hv g1 v1
    rw [hv]
    reduce_matches
    have next : ∀ (s2 : SB) (r : Bytes), Inv d e0 P s2 → view d s2 = r → ∀ lvl ig ln,
        Out d e0 P (fun _ => True) (readStringLoopBuf src fuel lvl ig ln s2) (readStringBody fuel lvl ig ln r) :=
      fun s2 r g2 v2 lvl ig ln => v2 ▸ ih lvl ig ln s2 g2
    have rec1 := next s1 rest g1 v1
    refine Out.ite (fun _ => rec1 _ _ _) fun _ => ?_
    refine Out.ite (fun _ => Out.consB b (rec1 _ _ _)) fun _ => ?_
    refine Out.ite (fun _ => Out.ite (fun _ => .at g1 v1) fun _ => Out.consB b (rec1 _ _ _)) fun _ => ?_
    refine Out.ite (fun _ => ?_) fun _ =>
      Out.ite (fun _ => Out.consB _ (rec1 _ _ _)) fun _ => Out.consB _ (rec1 _ _ _)
    -- a backslash: the escape
    refine (readByte_ends h hP s1 g1).casesOn ?_ ?_ Out.flt
    · intro s2 hv2 g2 _; rw [v1] at hv2; rw [hv2]; exact .err s2 _ g2 trivial
    intro s2 esc rest' hv2 g2 v2
    rw [v1] at hv2
    rw [hv2]
    reduce_matches
    have rec2 := next s2 rest' g2 v2
    refine Out.ite (fun _ => Out.consB _ (rec2 _ _ _)) fun _ => ?_
    refine Out.ite (fun _ => Out.consB _ (rec2 _ _ _)) fun _ => ?_
    refine Out.ite (fun _ => Out.consB _ (rec2 _ _ _)) fun _ => ?_
    refine Out.ite (fun _ => Out.consB _ (rec2 _ _ _)) fun _ => ?_
    refine Out.ite (fun _ => Out.consB _ (rec2 _ _ _)) fun _ => ?_
    refine Out.ite (fun _ => rec2 _ _ _) fun _ => ?_
    refine Out.ite (fun _ => rec2 _ _ _) fun _ => ?_
    refine Out.ite (fun _ => ?_) fun _ => Out.consB _ (rec2 _ _ _)
    have O := readOctTailF h hP 2 (esc - 48) s2 g2
    rw [v2] at O
    generalize readOctTailBuf src (esc - 48) 2 s2 = q at O ⊢
    generalize readOctTail (esc - 48) 2 rest' = w at O ⊢
    obtain ⟨ov, orest⟩ := w
    cases O with
    | ok s3 _ g3 => exact Out.consB _ (next s3 _ g3 rfl _ _ _)
    | flt s3 g3 hl => exact Out.flt s3 g3 hl

end

section
include h hP hsf hlen

theorem readStringF (s : SB) (gs : Inv d e0 P s) :
    Out d e0 P (fun _ => True) (readStringBuf src sf s) (readString (view d s)) := by
  unfold readStringBuf readString
  have hl : (view d s).length + 1 ≤ sf := by have := hlen s gs.p; omega
  rw [readStringBody_fuel ((view d s).length + 1) sf 1 false 0 (view d s) (Nat.le_refl _) hl]
  exact readStringLoopF h hP sf 1 false 0 s gs

omit hlen in
theorem readHexStringF (s : SB) (gs : Inv d e0 P s) :
    Out d e0 P (fun _ => True) (readHexStringBuf src sf s) (readHexString (view d s)) := by
  have H := hexAcc_scan (view d s) ⟨none, []⟩
  simp only [List.reverse_nil, List.length_nil, appRes_nil] at H
  unfold readHexStringBuf readHexString
  rw [H]
  refine (scanBytes_ends h hP hexAcc true ⟨none, []⟩ s gs (fuel_le hsf _)).casesOn ?_ fun _ => Out.flt
  intro s1 st atEof g1 a
  rw [a]
  cases atEof with
  | true => rw [if_pos rfl]; exact .err s1 _ g1 trivial
  | false =>
    -- `ScanBytes` stopped: the pending digit, then `SkipString(">")`
    unfold hexFinish
    simp (config := { etaStruct := .none }) only [Bool.false_eq_true, if_false]
    have K := skipString_ends h hP [62] (by decide) s1 g1
    generalize skipString src [62] s1 = q at K ⊢
    have tail : ∀ res : Bytes,
        Out d e0 P (fun _ => True)
          (match q with
            | (s2, e2) => match e2 with
              | some e => (s2, Except.error e)
              | none => (s2, Except.ok res.reverse))
          (match view d s1 with
            | 62 :: cs => Except.ok (res.reverse, cs)
            | _ => Except.error Err.malformed) := by
      intro res
      cases K with
      | ok s2 cs hv g2 v2 =>
        rw [show view d s1 = 62 :: cs from hv]
        exact .at g2 v2
      | no s2 hno g2 _ =>
        reduce_matches
        split
        · rename_i cs heq; exact absurd ⟨cs, heq.symm⟩ hno
        · exact .err s2 _ g2 trivial
      | flt s2 gl hl => exact .flt s2 gl hl
    cases st.pending with
    | none => exact tail st.res
    | some hh =>
      by_cases hl : st.res.length ≥ Gen.scanner_maxStringBytes
      · simp only [hl, if_true]; exact .err s1 _ g1 trivial
      · simp only [hl, if_false]; exact tail (16 * hh :: st.res)

end

/-- the deferred handlers of `ReadArray`/`ReadDict` leave the reader's error as it is -/
theorem passFltC {α : Type} {d : Bytes} {e0 : Err} {P : SB → Prop} (he0 : e0 ≠ .eof) {E : SB → Prop}
    {m : Except Err (α × Bytes)} (s : SB) (gl : Inv d e0 P s) (hl : s.err = some e0) :
    Out d e0 P E (s, .error e0.inComposite) m := by
  rw [inComposite_ne e0 he0]
  exact .flt s gl hl

theorem Out.mapErrB {α : Type} {d : Bytes} {e0 : Err} {P : SB → Prop} (he0 : e0 ≠ .eof) {r : SB × Except Err α}
    {m : Except Err (α × Bytes)} (hr : Out d e0 P (fun _ => True) r m) :
    Out d e0 P (fun _ => True) (mapErrB r) (m.mapError Err.inComposite) :=
  hr.casesOn passOk (fun s _ g _ => .err s _ g trivial) (passFltC he0)

/-- the five statements at one fuel.  `ints` is `integersSeen` of `ReadArray`; `ints ≤ leadInts acc` says that so many
    integers do head `acc`, which is what makes the failing type assertion `array[k-1].(Integer)` (a `panicked`
    branch of the model) unreachable (`C01L.leadInts_two`). -/
def RefAtF (d : Bytes) (e0 : Err) (P : SB → Prop) (src : Source) (sf fuel : Nat) : Prop :=
  (∀ depth s, Inv d e0 P s →
      Out d e0 P (fun _ => True) (readObjectBuf src sf fuel depth s) (readObject fuel depth (view d s))) ∧
  (∀ depth s, Inv d e0 P s →
      Out d e0 P (fun _ => True) (readArrayBuf src sf fuel depth s) (readArray fuel depth (view d s))) ∧
  (∀ depth acc ints s, Inv d e0 P s → ints ≤ C01L.leadInts acc →
      Out d e0 P (fun _ => True) (readArrayLoopBuf src sf fuel depth acc ints s) (readArrayLoop fuel depth acc ints (view d s))) ∧
  (∀ depth s, Inv d e0 P s →
      Out d e0 P (fun _ => True) (readDictBuf src sf fuel depth s) (readDict fuel depth (view d s))) ∧
  (∀ depth acc s, Inv d e0 P s →
      Out d e0 P (fun _ => True) (readDictLoopBuf src sf fuel depth acc s) (readDictLoop fuel depth acc (view d s)))

section

theorem refF_zero : RefAtF d e0 P src sf 0 := by
  refine ⟨?_, ?_, ?_, ?_, ?_⟩
  · intro depth s gs; unfold readObjectBuf readObject; exact .err s _ gs trivial
  · intro depth s gs; unfold readArrayBuf readArray; exact .err s _ gs trivial
  · intro depth acc ints s gs _; unfold readArrayLoopBuf readArrayLoop; exact .err s _ gs trivial
  · intro depth s gs; unfold readDictBuf readDict; exact .err s _ gs trivial
  · intro depth acc s gs; unfold readDictLoopBuf readDictLoop; exact .err s _ gs trivial

include h in
theorem refF_array (fuel : Nat) (ih : RefAtF d e0 P src sf fuel) :
    ∀ depth s, Inv d e0 P s →
      Out d e0 P (fun _ => True) (readArrayBuf src sf (fuel + 1) depth s) (readArray (fuel + 1) depth (view d s)) := by
  intro depth s gs
  unfold readArrayBuf readArray
  exact Out.ite (fun _ => .err s _ gs trivial)
    fun _ => Out.mapErrB h.e0_ne (ih.2.2.1 (depth + 1) [] 0 s gs (Nat.zero_le _))

include h hP hsf

theorem refF_arrLoop (fuel : Nat) (ih : RefAtF d e0 P src sf fuel) :
    ∀ depth acc ints s, Inv d e0 P s → ints ≤ C01L.leadInts acc →
      Out d e0 P (fun _ => True) (readArrayLoopBuf src sf (fuel + 1) depth acc ints s)
        (readArrayLoop (fuel + 1) depth acc ints (view d s)) := by
  obtain ⟨ihO, -, ihAL, -, -⟩ := ih
  intro depth acc ints s gs hints
  unfold readArrayLoopBuf readArrayLoop
  refine (skipWhiteSpace_ends h hP s gs (fuel_le hsf _)).casesOn passEof ?_ fun _ => Out.flt
  intro s1 c rest g1 hv _
  rw [hv]
  reduce_matches
  refine (peekN_ends h hP 1 (by decide) s1 g1).casesOn ?_ fun _ => Out.flt
  intro s2 g2 v2 hadv
  rw [hv] at hadv ⊢
  have hadv1 : Inv d e0 P (adv 1 s2) ∧ view d (adv 1 s2) = rest := hadv 1 (Nat.le_refl _) (Nat.succ_pos _)
  reduce_matches
  refine Out.ite (fun _ => Out.ite (fun _ => .err s2 _ g2 trivial) fun _ => .at hadv1.1 hadv1.2)
    fun _ => ?_
  refine Out.ite (fun hR => ?_) fun _ => ?_
  · -- `a b R`: the counter says that the last two elements are integers
    have h2 : 2 ≤ ints := by simp at hR; exact hR.1
    obtain ⟨b, a, acc', rfl⟩ := C01L.leadInts_two (Nat.le_trans h2 hints)
    exact hadv1.2 ▸ ihAL depth _ 0 (adv 1 s2) hadv1.1 (Nat.zero_le _)
  · have RO := ihO depth s2 g2
    rw [v2, hv] at RO
    refine RO.casesOn ?_ passErr Out.flt
    intro s3 o g3
    exact Out.ite (fun _ => .err s3 _ g3 trivial)
      fun _ => ihAL depth (o :: acc) _ s3 g3 (C01L.nextIntsM_le o ints acc hints)

omit hsf in
theorem readStreamHeadF (s : SB) (gs : Inv d e0 P s) :
    Out d e0 P (fun _ => True) (readStreamHeadBuf src s) (.error .malformed) := by
  unfold readStreamHeadBuf
  refine (skipString_ends h hP kw_stream (by decide) s gs).casesOn ?_ (fun s1 _ g1 _ => .err s1 _ g1 trivial)
    (passFltC h.e0_ne)
  intro s1 _ _ g1 _
  reduce_matches
  exact (peekN_ends h hP 2 (by decide) s1 g1).casesOn (fun s2 g2 _ _ => .err s2 _ g2 trivial) fun _ => passFltC h.e0_ne

theorem refF_dict (fuel : Nat) (ih : RefAtF d e0 P src sf fuel) :
    ∀ depth s, Inv d e0 P s →
      Out d e0 P (fun _ => True) (readDictBuf src sf (fuel + 1) depth s) (readDict (fuel + 1) depth (view d s)) := by
  intro depth s gs
  unfold readDictBuf readDict
  refine Out.ite (fun _ => .err s _ gs trivial) fun _ => ?_
  refine (skipString_ends h hP [60, 60] (by decide) s gs).casesOn ?_ ?_ (passFltC h.e0_ne)
  · intro s1 rest hv g1 v1
    rw [show view d s = 60 :: 60 :: rest from hv, ← v1]
    simp only []     -- the pattern `60 :: 60 :: rest`: numerals, which `reduce_matches` does not decide
    refine (skipWhiteSpace_ends h hP s1 g1 (fuel_le hsf _)).casesOn (fun s2 g2 => .err s2 _ g2 trivial) ?_ fun _ => passFltC h.e0_ne
    intro s2 c r g2 hv2 _
    exact Out.mapErrB h.e0_ne (ih.2.2.2.2 (depth + 1) [] s2 g2)
  · intro s1 hno g1 _
    reduce_matches
    split
    · rename_i rest heq; exact absurd ⟨rest, heq.symm⟩ hno
    · exact .err s1 _ g1 trivial

end

section
include h hP hsf hlen

/-- `hm0`: `ReadDict` leaves its loop when `ReadName` fails with a malformed-file error (`IsMalformed(err)`), and goes on
    to `SkipString(">>")`; a reader's error of that class would be taken for the end of the dictionary. -/
theorem refF_dictLoop (hm0 : e0 ≠ .malformed) (fuel : Nat) (ih : RefAtF d e0 P src sf fuel) :
    ∀ depth acc s, Inv d e0 P s →
      Out d e0 P (fun _ => True) (readDictLoopBuf src sf (fuel + 1) depth acc s) (readDictLoop (fuel + 1) depth acc (view d s)) := by
  obtain ⟨ihO, -, -, -, ihDL⟩ := ih
  intro depth acc s gs
  unfold readDictLoopBuf readDictLoop
  have hmal := C01L.readName_err (view d s)
  revert hmal
  refine (readNameF h hP hsf hlen s gs).casesOn ?_ ?_ ?_
  rotate_left
  · -- `ReadName` fails: malformed, since nothing but `/` starts a name; the loop ends, `>>` must follow
    intro s1 e g1 hview hmal
    cases hmal e rfl
    reduce_matches
    rw [if_pos (beq_self_eq_true _)]
    refine (skipString_ends h hP [62, 62] (by decide) s1 g1).casesOn ?_ ?_ Out.flt
    · intro s2 rest hv g2 v2
      rcases hview with hsame | ⟨-, c, t, hc, hne⟩
      · rw [← hsame, show view d s1 = 62 :: 62 :: rest from hv]
        exact .at g2 v2
      · rw [hc] at hv
        cases hv
        exact absurd rfl hne
    · intro s2 hno g2 _
      reduce_matches
      split
      · rename_i rest heq
        rcases hview with hsame | ⟨⟨r, hr⟩, -⟩
        · exact absurd ⟨rest, (hsame.trans heq).symm⟩ hno
        · rw [heq] at hr; cases hr
      · exact .err s2 _ g2 trivial
  · intro _ s1 gl hl _
    reduce_matches
    rw [if_neg (by rw [beq_eq_false_iff_ne.2 hm0]; exact Bool.false_ne_true)]
    exact .flt s1 gl hl
  intro s1 key g1 _
  reduce_matches
  refine (skipWhiteSpace_ends h hP s1 g1 (fuel_le hsf _)).casesOn passEof ?_ fun _ => Out.flt
  intro s2 c2 rest2 g2 hv2 _
  reduce_matches
  refine (ihO depth s2 g2).casesOn ?_ passErr Out.flt
  intro s3 val g3
  reduce_matches
  refine (skipWhiteSpace_ends h hP s3 g3 (fuel_le hsf _)).casesOn passEof ?_ fun _ => Out.flt
  intro s4 c4 rest4 g4 hv4 hns4
  reduce_matches
  -- the end of a round: the cap test and the next round
  have cont : ∀ (v : Obj) (s' : SB), Inv d e0 P s' →
      Out d e0 P (fun _ => True)
        (if !(acc.any fun e => e.1 == key) && acc.length ≥ Gen.scanner_maxDictLen then (s', .error .malformed)
          else readDictLoopBuf src sf fuel depth (dictInsert key v acc) s')
        (if !(acc.any fun e => e.1 == key) && acc.length ≥ Gen.scanner_maxDictLen then .error .malformed
          else readDictLoop fuel depth (dictInsert key v acc) (view d s')) :=
    fun v s' g' => Out.ite (fun _ => .err s' _ g' trivial) fun _ => ihDL depth _ s' g'
  cases val with
  | int a =>
    -- an integer value may be the start of a reference `a b R`
    reduce_matches
    refine (peekN_ends h hP 1 (by decide) s4 g4).casesOn ?_ fun _ => Out.flt
    intro s5 g5 v5 hadv5
    rw [hv4]
    reduce_matches
    refine Out.ite (fun _ => ?_) fun _ => hv4 ▸ v5 ▸ cont _ s5 g5
    have RI := readIntegerF h hP hsf s5 g5 (by rw [v5, hv4, hns4])
    rw [v5, hv4] at RI
    refine RI.casesOn ?_ passErr Out.flt
    intro s6 b g6
    reduce_matches
    refine (skipWhiteSpace_ends h hP s6 g6 (fuel_le hsf _)).casesOn passEof ?_ fun _ => Out.flt
    intro s7 c7 rest7 g7 hv7 _
    reduce_matches
    refine (peekN_ends h hP 1 (by decide) s7 g7).casesOn ?_ fun _ => Out.flt
    intro s8 g8 v8 hadv8
    rw [hv7] at hadv8 ⊢
    reduce_matches
    by_cases h82 : c7 = 82
    · subst h82
      have hadv1 : Inv d e0 P (adv 1 s8) ∧ view d (adv 1 s8) = rest7 := hadv8 1 (Nat.le_refl _) (Nat.succ_pos _)
      rw [if_neg (by decide)]
      simp only []     -- the pattern `82 :: r`: a numeral, which `reduce_matches` does not decide
      rw [← hadv1.2]
      refine (skipWhiteSpace_ends h hP (adv 1 s8) hadv1.1 (fuel_le hsf _)).casesOn passEof ?_ fun _ => Out.flt
      intro s9 c9 rest9 g9 hv9 _
      exact cont _ s9 g9
    · rw [if_pos (bne_iff_ne.2 h82)]
      split
      · rename_i heq; cases heq
      · rename_i heq; cases heq; exact absurd rfl h82
      · exact .err s8 _ g8 trivial
  | _ => exact cont _ s4 g4

theorem refF_object (fuel : Nat) (ih : RefAtF d e0 P src sf fuel) :
    ∀ depth s, Inv d e0 P s →
      Out d e0 P (fun _ => True) (readObjectBuf src sf (fuel + 1) depth s) (readObject (fuel + 1) depth (view d s)) := by
  obtain ⟨-, ihA, -, ihD, -⟩ := ih
  intro depth s gs
  unfold readObjectBuf readObject
  refine (peekN_ends h hP 5 (by decide) s gs).casesOn ?_ fun _ => Out.flt
  intro s1 g1 v1 hadv
  cases hv : view d s with
  | nil => exact .err s1 _ g1 trivial
  | cons c rest =>
    have hv1 : view d s1 = c :: rest := v1.trans hv
    rw [hv] at hadv
    reduce_matches
    -- the keyword tests look at the window of five bytes only
    have kw : ∀ pat : Bytes, pat.length ≤ 5 →
        (startsWith (c :: rest.take 4) pat = true ↔ startsWith (c :: rest) pat = true) :=
      fun pat hl => by
        rw [show startsWith (c :: rest.take 4) pat = startsWith (c :: rest) pat from isPrefixOf_take pat (c :: rest) 5 hl]
    have kwadv : ∀ (pat : Bytes) (v : Obj), pat.length ≤ 5 → startsWith (c :: rest) pat = true →
        Out d e0 P (fun _ => True) (adv pat.length s1, .ok v) (.ok (v, (c :: rest).drop pat.length)) := by
      intro pat v hl hs
      have := hadv pat.length hl (C01L.isPrefixOf_len pat (c :: rest) hs)
      exact .at this.1 this.2
    have hadv1 : Inv d e0 P (adv 1 s1) ∧ view d (adv 1 s1) = rest := hadv 1 (by decide) (Nat.succ_pos _)
    refine Out.ite' (kw kw_null (by decide)) (kwadv kw_null _ (by decide)) fun _ => ?_
    refine Out.ite' (kw kw_true (by decide)) (kwadv kw_true _ (by decide)) fun _ => ?_
    refine Out.ite' (kw kw_false (by decide)) (kwadv kw_false _ (by decide)) fun _ => ?_
    have RName := readNameF h hP hsf hlen s1 g1
    have RNum := readNumberF h hP hsf s1 g1
    have RDict := ihD depth s1 g1
    rw [hv1] at RName RNum RDict
    have RStr := readStringF h hP hsf hlen _ hadv1.1
    have RHex := readHexStringF h hP hsf _ hadv1.1
    have RArr := ihA depth _ hadv1.1
    rw [hadv1.2] at RStr RHex RArr
    refine Out.ite (fun _ => RName.casesOn passOk passErr Out.flt) fun _ => ?_
    refine Out.ite (fun _ => RNum) fun _ => ?_
    refine Out.ite' (by rw [lt_lt]) (fun _ => ?_) fun _ => ?_
    · -- a dictionary, and what may follow it: the keyword `stream`
      refine RDict.casesOn ?_ passErr Out.flt
      intro s2 dd g2
      reduce_matches
      have after : ∀ s3 s4, Inv d e0 P s4 → view d s4 = view d s3 →
          Out d e0 P (fun _ => True)
            (if startsWith ((view d s3).take 6) kw_stream then readStreamHeadBuf src s4 else (s4, .ok (.dict dd)))
            (if startsWith (view d s3) kw_stream then .error .malformed else .ok (.dict dd, view d s3)) := by
        intro s3 s4 g4 v4
        rw [show startsWith ((view d s3).take 6) kw_stream = startsWith (view d s3) kw_stream from
          isPrefixOf_take kw_stream _ 6 (by decide)]
        exact Out.ite (fun _ => readStreamHeadF h hP s4 g4) fun _ => .at g4 v4
      refine (skipWhiteSpace_ends h hP s2 g2 (fuel_le hsf _)).casesOn (fun s3 g3 => ?_) (fun s3 _ _ g3 _ _ => ?_)
        fun _ s3 gl hl => ?_
      -- the reader's error first; `SkipWhiteSpace` may have reached the end of the input, which is no error here:
      -- the same `PeekN(6)` follows in the other two cases
      rotate_left 2
      · simp only [hardErr_ne e0 h.e0_ne]
        exact .flt s3 gl hl
      all_goals
        simp only [hardErr]
        exact (peekN_ends h hP 6 (by decide) s3 g3).casesOn (fun s4 g4 v4 _ => after s3 s4 g4 v4) fun _ => Out.flt
    refine Out.ite (fun _ => RStr.casesOn passOk passErr Out.flt) fun _ => ?_
    refine Out.ite (fun _ => RHex.casesOn passOk passErr Out.flt) fun _ => ?_
    exact Out.ite (fun _ => RArr.casesOn passOk passErr Out.flt) fun _ => .err s1 _ g1 trivial

theorem refF_all (hm0 : e0 ≠ .malformed) (fuel : Nat) : RefAtF d e0 P src sf fuel := by
  induction fuel with
  | zero => exact refF_zero
  | succ fuel ih =>
    exact ⟨refF_object h hP hsf hlen fuel ih, refF_array h fuel ih, refF_arrLoop h hP hsf fuel ih,
      refF_dict h hP hsf fuel ih, refF_dictLoop h hP hsf hlen hm0 fuel ih⟩

end
end PdfVerif.ROBParse
