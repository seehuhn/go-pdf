/-!
Depth sequences of the `tail` of the two tree writers (page tree: `Props/C16trsb`; name and number
trees: `Lemmas/TRSTail`, `Props/C17trs`): weakly decreasing lists of naturals in which no `k`
consecutive elements are equal.  First what both writers need; the last section serves the last
loop of the page tree writer's `merge` only.
-/
namespace PdfVerif.TRSDepth

/-- weakly decreasing -/
def Desc (l : List Nat) : Prop := ∀ (i j x y : Nat), i ≤ j → l[i]? = some x → l[j]? = some y → y ≤ x

/-- every window of `k` consecutive elements that ends before the last position contains two
    different depths (its first element is greater than its last) -/
def WinIn (k : Nat) (l : List Nat) : Prop :=
  ∀ (i x y : Nat), i + k < l.length → l[i]? = some x → l[i + k - 1]? = some y → y < x

/-- the same for all windows, including the one at the end: fewer than `k` equal elements in a
    row anywhere -/
def WinAll (k : Nat) (l : List Nat) : Prop :=
  ∀ (i x y : Nat), i + k ≤ l.length → l[i]? = some x → l[i + k - 1]? = some y → y < x

theorem WinAll.winIn {k : Nat} {l : List Nat} (h : WinAll k l) : WinIn k l :=
  fun i x y hi hx hy => h i x y (by omega) hx hy

/-! The definitions speak of `l[i]? = some x` (in that form they stand in the statements of
`Props/C16trsb`, `C17trsb`); the proofs read depths with the total `l.getD i 0` and name the last index
of a window instead of computing it. -/

theorem getElem?_getD {l : List Nat} {i : Nat} (h : i < l.length) : l[i]? = some (l.getD i 0) := by
  rw [List.getD_eq_getElem?_getD, List.getElem?_eq_getElem h]; rfl

theorem getD_of_getElem? {l : List Nat} {i x : Nat} (h : l[i]? = some x) : l.getD i 0 = x := by
  rw [List.getD_eq_getElem?_getD, h]; rfl

/-- holds for every `j`: beyond the end `getD` gives `0` -/
theorem Desc.le {l : List Nat} (h : Desc l) {i j : Nat} (hij : i ≤ j) : l.getD j 0 ≤ l.getD i 0 := by
  by_cases hj : j < l.length
  · exact h i j _ _ hij (getElem?_getD (by omega)) (getElem?_getD hj)
  · rw [List.getD_eq_getElem?_getD, List.getElem?_eq_none (by omega)]
    exact Nat.zero_le _

theorem Desc.of_le {l : List Nat} (h : ∀ i j, i ≤ j → j < l.length → l.getD j 0 ≤ l.getD i 0) : Desc l := by
  intro i j x y hij hx hy
  rw [← getD_of_getElem? hx, ← getD_of_getElem? hy]
  exact h i j hij (List.getElem?_eq_some_iff.mp hy).1

theorem WinIn.lt {k : Nat} {l : List Nat} (h : WinIn k l) {i j : Nat} (hij : i + k = j + 1)
    (hj : j + 1 < l.length) : l.getD j 0 < l.getD i 0 :=
  h i _ _ (by omega) (getElem?_getD (by omega))
    (by rw [show i + k - 1 = j by omega]; exact getElem?_getD (by omega))

theorem WinAll.lt {k : Nat} {l : List Nat} (h : WinAll k l) (hk : 1 ≤ k) {i j : Nat}
    (hij : i + k = j + 1) (hj : j < l.length) : l.getD j 0 < l.getD i 0 :=
  h i _ _ (by omega) (getElem?_getD (by omega))
    (by rw [show i + k - 1 = j by omega]; exact getElem?_getD hj)

theorem WinAll.of_lt {k : Nat} (hk : 1 ≤ k) {l : List Nat}
    (h : ∀ i j, i + k = j + 1 → j < l.length → l.getD j 0 < l.getD i 0) : WinAll k l := by
  intro i x y hi hx hy
  rw [← getD_of_getElem? hx, ← getD_of_getElem? hy]
  exact h i _ (by omega) (by omega)

theorem getD_append_left {l₁ l₂ : List Nat} {i : Nat} (h : i < l₁.length) :
    (l₁ ++ l₂).getD i 0 = l₁.getD i 0 := by
  simp only [List.getD_eq_getElem?_getD, List.getElem?_append_left h]

theorem getD_append_right {l₁ l₂ : List Nat} {i : Nat} (h : l₁.length ≤ i) :
    (l₁ ++ l₂).getD i 0 = l₂.getD (i - l₁.length) 0 := by
  simp only [List.getD_eq_getElem?_getD, List.getElem?_append_right h]

theorem WinIn.winAll {k : Nat} {l : List Nat} (h : WinIn k l) (hk : 1 ≤ k)
    (hlast : k ≤ l.length → l.getD (l.length - 1) 0 < l.getD (l.length - k) 0) : WinAll k l := by
  refine WinAll.of_lt hk fun i j hij hj => ?_
  by_cases hend : j + 1 = l.length
  · rw [show j = l.length - 1 by omega, show i = l.length - k by omega]
    exact hlast (by omega)
  · exact h.lt hij (by omega)

theorem WinAll.run_lt {k : Nat} {l : List Nat} (h : WinAll k l) (hk : 1 ≤ k) {s e d : Nat}
    (he : e ≤ l.length) (hrun : ∀ m, s ≤ m → m < e → l.getD m 0 = d) : e < s + k := by
  apply Classical.byContradiction
  intro hcon
  have := h.lt hk (i := s) (j := s + k - 1) (by omega) (by omega)
  rw [hrun s (by omega) (by omega), hrun (s + k - 1) (by omega) (by omega)] at this
  omega

/-- trap: for `l₁ = []` the hypothesis reads `l₂.getD 0 0 ≤ 0` (`getD` of the empty list), so the lemma is
    of no use there -/
theorem Desc.append {l₁ l₂ : List Nat} (h₁ : Desc l₁) (h₂ : Desc l₂)
    (h : l₂.getD 0 0 ≤ l₁.getD (l₁.length - 1) 0) : Desc (l₁ ++ l₂) := by
  apply Desc.of_le
  intro i j hij hj
  rw [List.length_append] at hj
  by_cases hj1 : j < l₁.length
  · rw [getD_append_left hj1, getD_append_left (by omega)]
    exact h₁.le hij
  · rw [getD_append_right (by omega)]
    have hb := h₂.le (i := 0) (j := j - l₁.length) (by omega)
    by_cases hi1 : i < l₁.length
    · rw [getD_append_left hi1]
      have := h₁.le (i := i) (j := l₁.length - 1) (by omega)
      omega
    · rw [getD_append_right (by omega)]
      exact h₂.le (by omega)

theorem desc_nil : Desc [] := by intro i j x y _ hx; simp at hx

theorem desc_singleton (a : Nat) : Desc [a] := by
  refine Desc.of_le fun i j hij hj => ?_
  have hj0 : j = 0 := by simpa using hj
  rw [hj0] at hij ⊢
  rw [Nat.le_zero.mp hij]
  exact Nat.le_refl _

/-- `n` nodes of depth `v` from position `s` on merged into their parent -/
def mergeAt (l : List Nat) (s n v : Nat) : List Nat := l.take s ++ (v + 1) :: l.drop (s + n)

theorem length_mergeAt {l : List Nat} {s n v : Nat} (hs : s + n ≤ l.length) :
    (mergeAt l s n v).length + n = l.length + 1 := by
  simp [mergeAt]; omega

theorem getD_mergeAt_lt {l : List Nat} {s n v i : Nat} (hs : s ≤ l.length) (hi : i < s) :
    (mergeAt l s n v).getD i 0 = l.getD i 0 := by
  simp only [mergeAt, List.getD_eq_getElem?_getD]
  rw [List.getElem?_append_left (by simp; omega), List.getElem?_take]
  simp [hi]

theorem getD_mergeAt_eq {l : List Nat} {s n v : Nat} (hs : s ≤ l.length) :
    (mergeAt l s n v).getD s 0 = v + 1 := by
  simp only [mergeAt, List.getD_eq_getElem?_getD]
  rw [List.getElem?_append_right (by simp; omega)]
  simp [Nat.min_eq_left hs]

theorem getD_mergeAt_gt {l : List Nat} {s n v i : Nat} (hs : s ≤ l.length) (hi : s < i) :
    (mergeAt l s n v).getD i 0 = l.getD (i + n - 1) 0 := by
  simp only [mergeAt, List.getD_eq_getElem?_getD]
  rw [List.getElem?_append_right (by simp; omega)]
  simp only [List.length_take, Nat.min_eq_left hs]
  rw [show i - s = (i - s - 1) + 1 by omega, List.getElem?_cons_succ, List.getElem?_drop]
  congr 2; omega

theorem desc_mergeAt {l : List Nat} (hd : Desc l) {s n : Nat} (hn : 1 ≤ n) (hs : s + n ≤ l.length)
    (hprev : 1 ≤ s → l.getD s 0 < l.getD (s - 1) 0) : Desc (mergeAt l s n (l.getD s 0)) := by
  have hs' : s ≤ l.length := by omega
  have hlen := length_mergeAt (v := l.getD s 0) hs
  apply Desc.of_le
  intro i j hij hj
  rcases Nat.lt_trichotomy i s with hi | rfl | hi
  · rw [getD_mergeAt_lt hs' hi]
    rcases Nat.lt_trichotomy j s with hj' | rfl | hj'
    · rw [getD_mergeAt_lt hs' hj']
      exact hd.le hij
    · rw [getD_mergeAt_eq hs']
      have := hd.le (i := i) (j := j - 1) (by omega)
      have := hprev (by omega)
      omega
    · rw [getD_mergeAt_gt hs' hj']
      exact hd.le (by omega)
  · rw [getD_mergeAt_eq hs']
    rcases Nat.eq_or_lt_of_le hij with rfl | hj'
    · rw [getD_mergeAt_eq hs']
      exact Nat.le_refl _
    · rw [getD_mergeAt_gt hs' hj']
      have := hd.le (i := i) (j := j + n - 1) (by omega)
      omega
  · rw [getD_mergeAt_gt hs' hi, getD_mergeAt_gt hs' (by omega)]
    exact hd.le (by omega)

theorem winIn_take_snoc {k : Nat} (hk : 1 ≤ k) {l : List Nat} (hw : WinIn k l) (e x : Nat)
    (he : e < l.length) : WinIn k (l.take e ++ [x]) := by
  intro i u v hi hu hv
  simp only [List.length_append, List.length_take, List.length_cons, List.length_nil] at hi
  have hi' : i + k ≤ e := by omega
  rw [List.getElem?_append_left (by simp; omega)] at hu
  rw [List.getElem?_append_left (by simp; omega)] at hv
  rw [List.getElem?_take] at hu hv
  simp only [show i < e by omega, show i + k - 1 < e by omega, if_true] at hu hv
  exact hw i u v (by omega) hu hv

/-! ## what both tree writers do to the depths of their `tail`

They start empty; a finished leaf is appended; the elements from some position on are replaced by
one element above them. -/

theorem desc_winAll_nil (k : Nat) : Desc [] ∧ WinAll k [] :=
  ⟨desc_nil, fun i x y _ hx => by simp at hx⟩

theorem snoc_zero {k : Nat} {l : List Nat} (hk : 2 ≤ k) (h : Desc l ∧ WinAll k l) :
    Desc (l ++ [0]) ∧ WinIn k (l ++ [0]) := by
  refine ⟨h.1.append (desc_singleton 0) (Nat.zero_le _), fun i x y hi hx hy => ?_⟩
  simp only [List.length_append, List.length_cons, List.length_nil] at hi
  rw [List.getElem?_append_left (by omega)] at hx hy
  exact h.2 i x y (by omega) hx hy

theorem merge_from {k : Nat} {l : List Nat} (hk : 1 ≤ k) (h : Desc l ∧ WinIn k l) {s : Nat}
    (hs : s < l.length) (hprev : 1 ≤ s → l.getD s 0 < l.getD (s - 1) 0) :
    Desc (l.take s ++ [l.getD s 0 + 1]) ∧ WinIn k (l.take s ++ [l.getD s 0 + 1]) := by
  refine ⟨?_, winIn_take_snoc hk h.2 s _ hs⟩
  -- `mergeAt` with everything from `s` on merged
  have := desc_mergeAt h.1 (s := s) (n := l.length - s) (by omega) (by omega) hprev
  rwa [mergeAt, show s + (l.length - s) = l.length by omega, List.drop_length] at this

theorem WinIn.prev_lt {k : Nat} {l : List Nat} (h : WinIn k l) (hd : Desc l) (hk : 2 ≤ k) {s : Nat}
    (hs : s + k = l.length) (h1 : 1 ≤ s) (hrun : l.getD (l.length - 1) 0 = l.getD s 0) :
    l.getD s 0 < l.getD (s - 1) 0 := by
  have := h.lt (i := s - 1) (j := l.length - 2) (by omega) (by omega)
  have := hd.le (i := l.length - 2) (j := l.length - 1) (by omega)
  omega

/-! ## joining two tails: the last loop of the page tree writer's `merge` (`Props/C16trsb` only) -/

theorem win_append {k : Nat} (hk : 1 ≤ k) {l₁ l₂ : List Nat} (h₁ : WinIn k l₁) (h₂ : WinAll k l₂) {i j : Nat}
    (hij : i + k = j + 1) (hj : j < (l₁ ++ l₂).length) (hside : j + 1 < l₁.length ∨ l₁.length ≤ i) :
    (l₁ ++ l₂).getD j 0 < (l₁ ++ l₂).getD i 0 := by
  rw [List.length_append] at hj
  rcases hside with hs | hs
  · rw [getD_append_left (by omega), getD_append_left (by omega)]
    exact h₁.lt hij hs
  · rw [getD_append_right (by omega), getD_append_right hs]
    exact h₂.lt hk (by omega) (by omega)

theorem run_bounds_append {k : Nat} (hk : 1 ≤ k) {l₁ l₂ : List Nat} (h₁ : WinIn k l₁) (h₂ : WinAll k l₂)
    {s e d₁ d₂ : Nat} (he : e ≤ (l₁ ++ l₂).length)
    (h₁run : ∀ m, s ≤ m → m < l₁.length → (l₁ ++ l₂).getD m 0 = d₁)
    (h₂run : ∀ m, l₁.length ≤ m → m < e → (l₁ ++ l₂).getD m 0 = d₂) :
    l₁.length ≤ s + k ∧ e < l₁.length + k := by
  constructor
  · apply Classical.byContradiction
    intro hcon
    have := win_append hk h₁ h₂ (i := l₁.length - k - 1) (j := l₁.length - 2) (by omega)
      (by rw [List.length_append]; omega) (.inl (by omega))
    rw [h₁run _ (by omega) (by omega), h₁run _ (by omega) (by omega)] at this
    omega
  · apply Classical.byContradiction
    intro hcon
    have := win_append hk h₁ h₂ (i := l₁.length) (j := l₁.length + k - 1) (by omega) (by omega)
      (.inr (Nat.le_refl _))
    rw [h₂run _ (by omega) (by omega), h₂run _ (by omega) (by omega)] at this
    omega

/-- `[s, e)` is the run across the join; `hprev`, `hnext` are the strict steps at its two ends -/
theorem winAll_append {k : Nat} (hk : 1 ≤ k) {l₁ l₂ : List Nat} (h₁ : WinIn k l₁) (h₂ : WinAll k l₂)
    (hd : Desc (l₁ ++ l₂)) {s e : Nat} (hse : e < s + k)
    (hprev : 1 ≤ s → (l₁ ++ l₂).getD (l₁.length - 1) 0 < (l₁ ++ l₂).getD (s - 1) 0)
    (hnext : e < (l₁ ++ l₂).length → (l₁ ++ l₂).getD e 0 < (l₁ ++ l₂).getD (l₁.length - 1) 0) :
    WinAll k (l₁ ++ l₂) := by
  refine WinAll.of_lt hk fun i j hij hj => ?_
  by_cases h1 : j + 1 < l₁.length ∨ l₁.length ≤ i
  · exact win_append hk h₁ h₂ hij hj h1
  · -- the window holds the last element of `l₁`
    by_cases his : i < s
    · have := hprev (by omega)
      have := hd.le (i := i) (j := s - 1) (by omega)
      have := hd.le (i := l₁.length - 1) (j := j) (by omega)
      omega
    · have := hnext (by omega)
      have := hd.le (i := e) (j := j) (by omega)
      have := hd.le (i := i) (j := l₁.length - 1) (by omega)
      omega

/-- all windows of `k` consecutive elements are strict, except possibly the one that ends at
    position `p`.  (One family: for `1 ≤ k`, `WinIn k l` is `WinExcept k (l.length - 1) l` and `WinAll k l` is
    `WinExcept k l.length l`.) -/
def WinExcept (k p : Nat) (l : List Nat) : Prop :=
  ∀ (i x y : Nat), i + k ≤ l.length → l[i]? = some x → l[i + k - 1]? = some y → i + k - 1 ≠ p → y < x

theorem WinAll.winExcept {k : Nat} {l : List Nat} (h : WinAll k l) (p : Nat) : WinExcept k p l :=
  fun i x y hi hx hy _ => h i x y hi hx hy

theorem WinExcept.lt {k p : Nat} {l : List Nat} (h : WinExcept k p l) (hk : 1 ≤ k) {i j : Nat}
    (hij : i + k = j + 1) (hj : j < l.length) (hne : j ≠ p) : l.getD j 0 < l.getD i 0 :=
  h i _ _ (by omega) (getElem?_getD (by omega))
    (by rw [show i + k - 1 = j by omega]; exact getElem?_getD hj) (by omega)

theorem WinExcept.of_lt {k p : Nat} (hk : 1 ≤ k) {l : List Nat}
    (h : ∀ i j, i + k = j + 1 → j < l.length → j ≠ p → l.getD j 0 < l.getD i 0) : WinExcept k p l := by
  intro i x y hi hx hy hne
  rw [← getD_of_getElem? hx, ← getD_of_getElem? hy]
  exact h i _ (by omega) (by omega) hne

theorem WinExcept.run_le {k p : Nat} {l : List Nat} (h : WinExcept k p l) (hk : 1 ≤ k) {s e d : Nat}
    (he : e ≤ l.length) (hpe : e ≤ p + 1) (hrun : ∀ m, s ≤ m → m < e → l.getD m 0 = d) : e ≤ s + k := by
  apply Classical.byContradiction
  intro hcon
  have := h.lt hk (i := e - 1 - k) (j := e - 2) (by omega) (by omega) (by omega)
  rw [hrun _ (by omega) (by omega), hrun _ (by omega) (by omega)] at this
  omega

theorem WinExcept.winAll {k p : Nat} {l : List Nat} (h : WinExcept k p l) (hk : 1 ≤ k) (hd : Desc l)
    {s : Nat} (hshort : p + 1 < s + k)
    (hprev : 1 ≤ s → l.getD p 0 < l.getD (s - 1) 0) : WinAll k l := by
  refine WinAll.of_lt hk fun i j hij hj => ?_
  by_cases hne : j = p
  · have := hprev (by omega)
    have := hd.le (i := i) (j := s - 1) (by omega)
    rw [hne]
    omega
  · exact h.lt hk hij hj hne

theorem winExcept_mergeAt {k : Nat} (hk : 2 ≤ k) {l : List Nat} (hd : Desc l) {s n : Nat} (hn : 1 ≤ n)
    (hs : s + n ≤ l.length) (hprev : 1 ≤ s → l.getD s 0 < l.getD (s - 1) 0)
    (hwin : ∀ i j, i + k = j + 1 → j < l.length → j < s ∨ s + n ≤ i → l.getD j 0 < l.getD i 0) :
    WinExcept k s (mergeAt l s n (l.getD s 0)) := by
  have hs' : s ≤ l.length := by omega
  have hlen := length_mergeAt (v := l.getD s 0) hs
  apply WinExcept.of_lt (by omega)
  intro i j hij hj hne
  rcases Nat.lt_or_ge j s with hjs | hjs
  · rw [getD_mergeAt_lt hs' hjs, getD_mergeAt_lt hs' (by omega)]
    exact hwin i j hij (by omega) (.inl hjs)
  · rw [getD_mergeAt_gt hs' (by omega)]
    have hj' := hd.le (i := s) (j := j + n - 1) (by omega)
    rcases Nat.lt_trichotomy i s with hi | rfl | hi
    · rw [getD_mergeAt_lt hs' hi]
      have := hprev (by omega)
      have := hd.le (i := i) (j := s - 1) (by omega)
      omega
    · rw [getD_mergeAt_eq hs']
      omega
    · rw [getD_mergeAt_gt hs' hi]
      exact hwin _ _ (by omega) (by omega) (.inr (by omega))

end PdfVerif.TRSDepth
