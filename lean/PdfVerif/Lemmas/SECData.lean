import PdfVerif.Lemmas.SECBasic
/-!
What the data functions of `crypto.go` do, read from their results: PKCS#7, the AES form of a string
(`encryptAES_eq`), the AES case of `EncryptBytes` and `DecryptBytes` as an iff on success, and `saltedAuth`,
the one computation behind Algorithms 11 and 12.  Shared by `Props/C09sec`, `C09secb` and `C10sec`; the
names are in the namespace of the first.
-/
namespace PdfVerif.C09sec
open PdfVerif PdfVerif.SEC

theorem unpad_pad_aux (x : Bytes) (p : Nat) (hp1 : 1 ≤ p) (hp16 : p ≤ 16) (hm : (x.length + p) % 16 = 0) :
    unpadPKCS7 (x ++ List.replicate p p) = .ok x := by
  have hlast : (x ++ List.replicate p p).getLast? = some p := by
    simp [List.getLast?_append, List.getLast?_replicate]; omega
  have hgood : padGood (x ++ List.replicate p p) p = true := by
    simp only [padGood, Bool.and_eq_true, decide_eq_true_eq, List.all_eq_true, List.mem_range,
      Bool.or_eq_true, Bool.not_eq_true', decide_eq_false_iff_not, beq_iff_eq]
    refine ⟨⟨hp16, by simp; omega⟩, ?_⟩
    intro i _
    by_cases hi : i + 1 ≤ p
    · right
      rw [List.reverse_append, List.getElem?_append_left (by simp; omega)]
      simp [List.getElem?_replicate]; omega
    · left; exact hi
  unfold unpadPKCS7
  simp only [hlast, hgood]
  -- left: the two length tests and `take |x| (x ++ padding) = x`
  simp
  omega

theorem unpadPKCS7_length_le {b x : Bytes} (h : unpadPKCS7 b = .ok x) : x.length ≤ b.length := by
  revert h
  fun_cases unpadPKCS7 b <;> intro h <;> cases h
  exact List.length_take_le' _ _

theorem pkcs7Pad_length (x : Bytes) : (pkcs7Pad x).length = 16 * (x.length / 16 + 1) := by
  simp [pkcs7Pad]; omega

theorem encryptAES_eq (P : Prims) (key iv buf : Bytes) :
    encryptAES P key iv buf = iv ++ cbcEncrypt P key iv (pkcs7Pad buf) := by
  have hm : (buf.length + (16 - buf.length % 16) - 16) = 16 * (buf.length / 16) := by omega
  have hsplit : pkcs7Pad buf = buf.take (16 * (buf.length / 16)) ++
      (buf.drop (16 * (buf.length / 16)) ++ List.replicate (16 - buf.length % 16) (16 - buf.length % 16)) := by
    rw [← List.append_assoc, List.take_append_drop]; rfl
  have e1 : 16 * (buf.length / 16) / 16 = buf.length / 16 := by omega
  have e2 : 16 * (buf.length / 16 + 1) / 16 = buf.length / 16 + 1 := by omega
  unfold encryptAES cbcEncrypt
  simp only [hm, pkcs7Pad_length, e1, e2]
  rw [hsplit, (cbcBlocks_append key (buf.length / 16) 1 iv _ _ (by simp; omega)).1]
  simp

theorem encryptAES_length {P : Prims} (ok : PrimsOK P) (key iv buf : Bytes) :
    (encryptAES P key iv buf).length = iv.length + 16 * (buf.length / 16 + 1) := by
  rw [encryptAES_eq, List.length_append, cbcEncrypt_length ok, pkcs7Pad_length,
    Nat.mul_div_cancel_left _ (by omega)]

theorem decryptAES_ok {P : Prims} {key buf x : Bytes} :
    decryptAES P key buf = .ok x ↔ 32 ≤ buf.length ∧ buf.length % 16 = 0 ∧
      unpadPKCS7 (cbcDecrypt P key (buf.take 16) (buf.drop 16)) = .ok x := by
  unfold decryptAES
  split <;> simp_all <;> omega

theorem decrypt_encrypt_AES {P : Prims} (ok : PrimsOK P) (key iv buf : Bytes) (hiv : iv.length = 16) :
    decryptAES P key (encryptAES P key iv buf) = .ok buf := by
  have := encryptAES_length ok key iv buf
  refine decryptAES_ok.mpr ⟨by omega, by omega, ?_⟩
  rw [encryptAES_eq, List.take_left' hiv, List.drop_left' hiv,
    cbcDecrypt_cbcEncrypt ok _ _ _ hiv (by rw [pkcs7Pad_length]; omega)]
  exact unpad_pad_aux buf _ (by omega) (by omega) (by omega)

theorem guards_ok {α : Type} {c d : Prop} [Decidable c] [Decidable d] {e1 e2 : Err} {r : Except Err α} {v : α} :
    (if c then .error e1 else if d then .error e2 else r) = Except.ok v ↔ ¬ c ∧ ¬ d ∧ r = .ok v := by
  by_cases hc : c <;> by_cases hd : d <;> simp [hc, hd]

theorem encryptBytes_aes {P : Prims} {enc : EncInfo} {cf : CryptFilter} {num gen : Nat}
    {buf rng out rng' : Bytes} (hf : enc.strF = some cf) (hc : cf.cipher = .aes) :
    encryptBytes P enc num gen buf rng = .ok (out, rng') ↔
    ∃ key, keyForRef P enc.sec cf num gen = .ok key ∧ aesKeyOk key = true ∧ 16 ≤ rng.length ∧
      out = encryptAES P key (rng.take 16) buf ∧ rng' = rng.drop 16 := by
  simp only [encryptBytes, hf, hc]
  cases keyForRef P enc.sec cf num gen with
  | error e => simp
  | ok key => simp [guards_ok, and_left_comm, @eq_comm _ out, @eq_comm _ rng']

theorem encryptBytes_none {P : Prims} {enc : EncInfo} (hf : enc.strF = none) (num gen : Nat) (buf rng : Bytes) :
    encryptBytes P enc num gen buf rng = .ok (buf, rng) := by
  simp only [encryptBytes, hf]

theorem decryptBytes_none {P : Prims} {enc : EncInfo} (hf : enc.strF = none) (num gen : Nat) (buf : Bytes) :
    decryptBytes P enc num gen buf = .ok buf := by
  simp only [decryptBytes, hf]

theorem encryptBytes_rc4 {P : Prims} {enc : EncInfo} {cf : CryptFilter} {num gen : Nat}
    {buf rng out rng' : Bytes} (hf : enc.strF = some cf) (hc : cf.cipher = .rc4) :
    encryptBytes P enc num gen buf rng = .ok (out, rng') ↔
    ∃ key, keyForRef P enc.sec cf num gen = .ok key ∧ out = rc4 P key buf ∧ rng' = rng := by
  simp only [encryptBytes, hf, hc]
  cases keyForRef P enc.sec cf num gen <;> simp [eq_comm]

theorem decryptBytes_rc4 {P : Prims} {enc : EncInfo} {cf : CryptFilter} {num gen : Nat} {buf x : Bytes}
    (hf : enc.strF = some cf) (hc : cf.cipher = .rc4) :
    decryptBytes P enc num gen buf = .ok x ↔
    ∃ key, keyForRef P enc.sec cf num gen = .ok key ∧ x = rc4 P key buf := by
  simp only [decryptBytes, hf, hc]
  cases keyForRef P enc.sec cf num gen <;> simp [eq_comm]

/-- `DecryptBytes` makes the length test of `decryptAES` once more before it; it decides nothing -/
theorem decryptBytes_aes {P : Prims} {enc : EncInfo} {cf : CryptFilter} {num gen : Nat} {buf x : Bytes}
    (hf : enc.strF = some cf) (hc : cf.cipher = .aes) :
    decryptBytes P enc num gen buf = .ok x ↔
    ∃ key, keyForRef P enc.sec cf num gen = .ok key ∧ aesKeyOk key = true ∧ decryptAES P key buf = .ok x := by
  simp only [decryptBytes, hf, hc]
  cases keyForRef P enc.sec cf num gen with
  | error e => simp
  | ok key =>
    simp only [guards_ok, Except.ok.injEq, exists_eq_left', Bool.not_eq_true', Bool.not_eq_false]
    refine ⟨fun h => h.2, fun h => ⟨?_, h⟩⟩
    have := decryptAES_ok.mp h.2
    simp; omega

theorem encryptBytes_local {P : Prims} {enc : EncInfo} {cf : CryptFilter} {num gen : Nat}
    {buf rng out rng' : Bytes} (hf : enc.strF = some cf) (hc : cf.cipher = .aes)
    (h : encryptBytes P enc num gen buf rng = .ok (out, rng')) :
    16 ≤ rng.length ∧ rng' = rng.drop 16 ∧ out.take 16 = rng.take 16 ∧
    encryptBytes P enc num gen buf (rng.take 16) = .ok (out, []) := by
  obtain ⟨key, hk, hko, hl, rfl, rfl⟩ := (encryptBytes_aes hf hc).mp h
  have h16 : (rng.take 16).length = 16 := by rw [List.length_take]; omega
  refine ⟨hl, rfl, ?_, (encryptBytes_aes hf hc).mpr ⟨key, hk, hko, by omega, ?_, ?_⟩⟩
  · rw [encryptAES_eq]; exact List.take_left' h16
  · rw [List.take_take, Nat.min_self]
  · exact (List.drop_eq_nil_of_le (by omega)).symm

/-- Algorithms 11 and 12 are one computation: `authenticateUser6` runs it on `/U`, `/UE` with
nothing appended to the hash input, `authenticateOwner6` on `/O`, `/OE` with `/U` appended -/
def saltedAuth (P : Prims) (sec : Sec) (pw X XE u : Bytes) : Except Err Sec :=
  if hashRev P sec.R pw ((X.drop 32).take 8) u != X.take 32 then .error .auth
  else
    let fileKey := cbcDecrypt P (hashRev P sec.R pw ((X.drop 40).take 8) u) Gen.sec_zero16 XE
    if checkPerms P sec fileKey then .ok { sec with key := some fileKey } else .error .auth

theorem authenticateUser6_eq (P : Prims) (sec : Sec) (pw : Bytes) :
    authenticateUser6 P sec pw = saltedAuth P sec pw sec.U sec.UE [] := rfl

theorem authenticateOwner6_eq (P : Prims) (sec : Sec) (pw : Bytes) :
    authenticateOwner6 P sec pw = saltedAuth P sec pw sec.O sec.OE sec.U := rfl

theorem computeUAndUE_eq (P : Prims) (fileKey pw b : Bytes) :
    computeUAndUE P fileKey pw b = computeOAndOE P fileKey pw [] b := rfl

theorem saltedAuth_ok {P : Prims} {sec s' : Sec} {pw X XE u : Bytes} (h : saltedAuth P sec pw X XE u = .ok s') :
    ∃ k, s' = { sec with key := some k } := by
  revert h
  fun_cases saltedAuth P sec pw X XE u <;> intro h <;> cases h
  exact ⟨_, rfl⟩

end PdfVerif.C09sec
