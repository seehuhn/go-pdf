import PdfVerif.Lemmas.TRGo
import PdfVerif.Generated.FnPdf
/-!
The functions generated from crypto.go that the SEC hand model mirrors (`Gen.pdf_stdSecPToPerm`, `Gen.pdf_unpadPKCS7`,
`Gen.pdf_tryCrop`) read as closed forms, and the PKCS#7 padding the writer applies.  The names are those of
`Props/C09tr.lean`, whose closed forms these are.
-/
namespace PdfVerif.C09tr
open PdfVerif PdfVerif.Gen PdfVerif.Go

/-- `PToPerm` as a function of the seven tests it makes on P -/
def pToPermBits (R : Int) (b3 b12 b4 b11 b5 b6 b9 : Bool) : Int := Id.run do
  let mut perm : Int := 127
  if R == 2 then
    if b3 then perm := and64 perm (-7)
  else
    if decide (R ≥ 3) then
      if b3 && b12 then perm := and64 perm (-7)
      else
        if !b3 && b12 then perm := and64 perm (-5)
  if b4 then
    perm := and64 perm (-65)
    if b11 then perm := and64 perm (-33)
  if b5 then perm := and64 perm (-2)
  if b6 then
    perm := and64 perm (-17)
    if b9 then perm := and64 perm (-9)
  return perm

theorem pToPerm_eq_bits (R : Int) (P : UInt32) :
    pdf_stdSecPToPerm R P = pToPermBits R (P &&& 4 == 0) (P &&& 2048 == 0) (P &&& 8 == 0) (P &&& 1024 == 0)
      (P &&& 16 == 0) (P &&& 32 == 0) (P &&& 256 == 0) := by
  unfold pdf_stdSecPToPerm pToPermBits
  simp only [bne]

/-- the 0/1 integers of crypto/subtle -/
def b01 (c : Bool) : Int := if c then 1 else 0

theorem ctLessOrEq_b01 (x y : Int) : ctLessOrEq x y = b01 (decide (x ≤ y)) := by
  unfold ctLessOrEq b01; split <;> simp [*]
theorem ctByteEq_b01 (x y : UInt8) : ctByteEq x y = b01 (x == y) := by
  unfold ctByteEq b01; split <;> simp [*]
theorem xor1_b01 (c : Bool) : xor64 1 (b01 c) = b01 (!c) := by cases c <;> decide
theorem or_b01 (a b : Bool) : or64 (b01 a) (b01 b) = b01 (a || b) := by cases a <;> cases b <;> decide
theorem and_b01 (a b : Bool) : and64 (b01 a) (b01 b) = b01 (a && b) := by cases a <;> cases b <;> decide
theorem b01_ne_one (c : Bool) : (b01 c != 1) = !c := by cases c <;> decide

theorem fold_and_b01 (l : List Nat) (c : Nat → Bool) (i : Bool) :
    l.foldl (fun s k => and64 s (b01 (c k))) (b01 i) = b01 (i && l.all c) := by
  induction l generalizing i with
  | nil => simp
  | cons a as ih => simp only [List.foldl_cons, and_b01, ih, List.all_cons, Bool.and_assoc]

/-- byte `i` from the end of `buf` (0 = last); only used where it exists -/
def fromEnd (buf : List UInt8) (i : Nat) : UInt8 := buf.getD (buf.length - 1 - i) 0

theorem idx_fromEnd (buf : List UInt8) (i : Nat) (j : Int) (h : i < buf.length) (hj : j = buf.length - 1 - i) :
    idx buf j = some (fromEnd buf i) := by
  subst hj
  rw [idx_eq_getD buf 0 (by omega) (by omega)]
  unfold fromEnd
  congr 2
  omega

/-- PKCS#7 well-formedness of the last block (ISO 32000-2, 7.6.3.1): the length is a positive multiple of 16 and
the last `k` bytes have the value `k`, 1 ≤ `k` ≤ 16 -/
def wellPadded (buf : List UInt8) : Bool :=
  decide (16 ≤ buf.length) && decide (buf.length % 16 = 0) &&
    (decide ((fromEnd buf 0).toNat ≤ 16) && !(fromEnd buf 0 == 0) &&
      (List.range 16).all fun i => !decide (i + 1 ≤ (fromEnd buf 0).toNat) || fromEnd buf i == fromEnd buf 0)

theorem wellPadded_length {buf : List UInt8} (h : wellPadded buf = true) : 16 ≤ buf.length ∧ buf.length % 16 = 0 := by
  unfold wellPadded at h
  rw [Bool.and_eq_true, Bool.and_eq_true, decide_eq_true_eq, decide_eq_true_eq] at h
  exact h.1

/-- `hl` (the length of a Go slice) keeps the index arithmetic `len(buf) - 1 - i` inside `int` -/
theorem unpad_spec (buf : List UInt8) (hl : buf.length < 9223372036854775808) :
    pdf_unpadPKCS7 buf = some (if wellPadded buf then (buf.take (buf.length - (fromEnd buf 0).toNat), none)
      else ([], some "errCorrupted")) := by
  unfold pdf_unpadPKCS7 wellPadded len remK
  simp only [pure, bind]
  by_cases hn : 16 ≤ buf.length ∧ buf.length % 16 = 0
  · have h16 : Int.toNat 16 = 16 := rfl
    have hmod : Int.tmod (buf.length : Int) 16 = 0 := by rw [Int.tmod_eq_emod_of_nonneg (by omega)]; omega
    rw [-- `n < 16 || n%16 != 0` does not fire; `padByte := buf[n-1]`
      if_neg (by simp [hmod]; omega), i64_of_bounds (by omega) (by omega), idx_fromEnd buf 0 _ (by omega) (by omega),
      Option.bind_some, h16,
      -- the 16 rounds and-accumulate 0/1 flags: a fold whose step is the `i`-th conjunct of `wellPadded` as a flag,
      -- evaluated by `fold_and_b01` below
      forIn_option_yield (List.range 16) (· < 16) _
        (fun k s => and64 s (b01 (!decide (k + 1 ≤ (fromEnd buf 0).toNat) || fromEnd buf k == fromEnd buf 0)))
        (fun k s hk => by
          -- `inPad := LessOrEq(i+1, padByte)`; `eq := ByteEq(buf[n-1-i], padByte)`; `good &= (1 ^ inPad) | eq`
          rw [i64_of_bounds (x := (k : Int) + 1) (by omega) (by omega), i64_of_bounds (by omega) (by omega),
            idx_fromEnd buf k _ (by omega) (by omega), Option.bind_some, ctLessOrEq_b01, ctByteEq_b01, xor1_b01, or_b01,
            decide_eq_decide.mpr (by omega : (k : Int) + 1 ≤ ((fromEnd buf 0).toNat : Int) ↔ k + 1 ≤ (fromEnd buf 0).toNat)])
        (fun k hk => List.mem_range.mp hk),
      -- `good := LessOrEq(padByte, 16) & (1 ^ ByteEq(padByte, 0))` before the loop, `good != 1` after it
      Option.bind_some, ctLessOrEq_b01, ctByteEq_b01, xor1_b01, and_b01, fold_and_b01, b01_ne_one,
      decide_eq_true hn.1, decide_eq_true hn.2, Bool.true_and, Bool.true_and,
      decide_eq_decide.mpr (by omega : ((fromEnd buf 0).toNat : Int) ≤ 16 ↔ (fromEnd buf 0).toNat ≤ 16)]
    generalize hw : (decide ((fromEnd buf 0).toNat ≤ 16) && !fromEnd buf 0 == 0 &&
      (List.range 16).all fun i => !decide (i + 1 ≤ (fromEnd buf 0).toNat) || fromEnd buf i == fromEnd buf 0) = w
    cases w
    · rfl
    · simp only [Bool.and_eq_true, decide_eq_true_eq] at hw
      rw [if_neg (by simp), if_pos rfl, i64_of_bounds (by omega) (by omega), slice_zero _ _ (by omega) (by omega),
        Option.bind_some]
      congr 4
      omega
  · rw [if_pos (by
      rw [Int.tmod_eq_emod_of_nonneg (by omega)]
      simp only [Bool.or_eq_true, decide_eq_true_eq, bne_iff_ne, ne_eq]; omega)]
    exact (if_neg fun h => hn (wellPadded_length h)).symm ▸ rfl

/-- PKCS#7 padding as the encrypting writer applies it: `k = 16 - len mod 16` bytes of value `k` -/
def pkcs7Pad (x : List UInt8) : List UInt8 :=
  x ++ List.replicate (16 - x.length % 16) (UInt8.ofNat (16 - x.length % 16))

theorem drop_all_zero (s : List UInt8) (m : Nat) :
    (s.drop m).all (· == 0) = true ↔ ∀ k, k < s.length - m → s.getD (m + k) 0 = 0 := by
  rw [List.all_eq_true, List.forall_mem_iff_forall_getElem]
  simp only [List.length_drop, List.getElem_drop, beq_iff_eq]
  refine forall_congr' fun k => ⟨fun h hk => ?_, fun h hk => ?_⟩
  · rw [List.getD_eq_getElem?_getD, List.getElem?_eq_getElem (by omega)]; exact h hk
  · have := h hk
    rwa [List.getD_eq_getElem?_getD, List.getElem?_eq_getElem (by omega)] at this

/-- `tryCrop` shortens over-long O and U strings -/
theorem tryCrop_spec (s : List UInt8) (l : Int) (h0 : 0 ≤ l) :
    pdf_tryCrop s l = some (if (s.length : Int) ≤ l then s
      else if (s.drop l.toNat).all (· == 0) then s.take l.toNat else s) := by
  unfold pdf_tryCrop len
  simp only [pure, bind]
  by_cases hle : (s.length : Int) ≤ l
  · rw [if_pos (decide_eq_true hle), if_pos hle]
  · rw [if_neg (by simpa using hle), if_neg hle,
      forIn_range_forall _ (fun k => s.getD (l.toNat + k) 0 = 0) _ _ (some s, ()) fun k hk => by
        rw [idx_eq_getD s 0 (by omega) (by omega), Option.bind_some,
          show (l + (k : Int)).toNat = l.toNat + k by omega]
        by_cases hz : s.getD (l.toNat + k) 0 = 0 <;> simp]
    have hn : ((s.length : Int) - l).toNat = s.length - l.toNat := by omega
    rw [hn]
    by_cases hz : (s.drop l.toNat).all (· == 0) = true
    · rw [if_pos ((drop_all_zero s _).mp hz), if_pos hz, Option.bind_some]
      simp [slice_zero s l h0 (by omega)]
    · rw [if_neg (mt (drop_all_zero s _).mpr hz), if_neg hz]
      rfl

end PdfVerif.C09tr
