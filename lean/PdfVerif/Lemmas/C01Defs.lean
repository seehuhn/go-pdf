import PdfVerif.Model.Format
import PdfVerif.Lemmas.ScanBytes
import PdfVerif.Lemmas.ScanNum
/-!
Definitions used by the statements of the C01 object round-trip theorems (Props/C01c, C01d): `rd o` (the value
the scanner returns for the text written for `o`), `good o` (the size hypotheses the scanner's caps force),
`depthOf o`, and `objStart`/`tokStart`/`Cont` (what may follow a token in formatter output); the facts through
which they are used; and `obj_ind`, induction over object trees with the list levels by membership.
-/
namespace PdfVerif.C01L
open PdfVerif

mutual
/-- value read back from the text of `o`: a typed nil array or dictionary (`.nilArr`) is written as `null`, a Real is read as
    the written token (dot forced), a dictionary loses its nil entries -/
def rd : Obj → Obj
  | .nilArr => .null
  | .real t => .real (realToken t)
  | .arr xs => .arr (rdList xs)
  | .dict kv => .dict (rdKV kv)
  | .null => .null
  | .bool b => .bool b
  | .int i => .int i
  | .name n => .name n
  | .str s => .str s
  | .op o => .op o
  | .ref n g => .ref n g
def rdList : List Obj → List Obj
  | [] => []
  | x :: xs => rd x :: rdList xs
def rdKV : List (Bytes × Obj) → List (Bytes × Obj)
  | [] => []
  | (k, v) :: rest =>
    match v with
    | .null => rdKV rest
    | v => (k, rd v) :: rdKV rest
end

theorem rd_arr (xs : List Obj) : rd (.arr xs) = .arr (rdList xs) := rfl
theorem rd_dict (kv : List (Bytes × Obj)) : rd (.dict kv) = .dict (rdKV kv) := rfl
theorem rdList_cons (x : Obj) (xs : List Obj) : rdList (x :: xs) = rd x :: rdList xs := rfl
theorem rdKV_cons_null (k : Bytes) (rest : List (Bytes × Obj)) : rdKV ((k, .null) :: rest) = rdKV rest := rfl

theorem rdKV_cons_nonnull (k : Bytes) (v : Obj) (rest : List (Bytes × Obj)) (h : v ≠ .null) :
    rdKV ((k, v) :: rest) = (k, rd v) :: rdKV rest := by
  cases v <;> first | rfl | exact absurd rfl h

def isRefObj : Obj → Bool
  | .ref _ _ => true
  | _ => false

def goodName (n : Bytes) : Bool := n.all (· < 256) && decide (n.length ≤ Gen.scanner_maxNameBytes)

/-- `Bytes` is `List Nat`; that the numbers are bytes is a hypothesis wherever it matters: `AllBytes` in the
    specification, `all (· < 256)` in the Boolean predicates `good`/`goodName`.  This joins the two. -/
theorem allBytes_of_all {n : Bytes} (h : n.all (· < 256) = true) : AllBytes n := by
  intro b hb
  simp at h
  exact h b hb

theorem goodName_all {k : Bytes} (h : goodName k = true) : AllBytes k := by
  simp only [goodName, Bool.and_eq_true] at h; exact allBytes_of_all h.1

theorem goodName_len {k : Bytes} (h : goodName k = true) : k.length ≤ Gen.scanner_maxNameBytes := by
  simp only [goodName, Bool.and_eq_true, decide_eq_true_eq] at h; exact h.2

def keysOf (kv : List (Bytes × Obj)) : List Bytes := kv.map (·.1)

theorem keysOf_nil : keysOf [] = [] := rfl
theorem keysOf_cons (e : Bytes × Obj) (kv : List (Bytes × Obj)) : keysOf (e :: kv) = e.1 :: keysOf kv := rfl
theorem keysOf_append (a b : List (Bytes × Obj)) : keysOf (a ++ b) = keysOf a ++ keysOf b := List.map_append
theorem mem_keysOf {k : Bytes} {kv : List (Bytes × Obj)} : k ∈ keysOf kv ↔ ∃ e ∈ kv, e.1 = k := List.mem_map

theorem keysOf_rdKV_sublist (l : List (Bytes × Obj)) : (keysOf (rdKV l)).Sublist (keysOf l) := by
  induction l with
  | nil => exact .refl _
  | cons e es ih =>
    obtain ⟨k, v⟩ := e
    by_cases hv : v = .null
    · subst hv; exact ih.cons _
    · rw [rdKV_cons_nonnull k v es hv]; exact ih.cons_cons _

/-! `dictInsert` (the map assignment of `ReadDict`) on a key that is new -/

theorem dictInsert_new (k : Bytes) (v : Obj) (acc : List (Bytes × Obj)) (h : k ∉ keysOf acc) :
    dictInsert k v acc = acc ++ [(k, v)] := by
  induction acc with
  | nil => rfl
  | cons e es ih =>
    obtain ⟨k', v'⟩ := e
    rw [keysOf_cons, List.mem_cons, not_or] at h
    have hne : (k' == k) = false := by simp; exact fun h' => h.1 h'.symm
    simp [dictInsert, hne]
    exact ih h.2

theorem any_key_false (k : Bytes) (acc : List (Bytes × Obj)) (h : k ∉ keysOf acc) :
    (acc.any fun e => e.1 == k) = false := by
  simp
  intro a b hab heq
  exact h (mem_keysOf.mpr ⟨(a, b), hab, heq⟩)

mutual
/-- the documented size limits: int64 integers, well-formed real tokens within the number cap,
    names and strings of bytes of at most `maxNameBytes` / `maxStringBytes` bytes, references below `maxXRefSize` /
    `maxGeneration`, arrays and dictionaries below their length caps, dictionary keys unique
    (a Go map), no content-stream operators -/
def good : Obj → Bool
  | .null => true
  | .nilArr => true
  | .bool _ => true
  | .int i => decide (-9223372036854775808 ≤ i ∧ i ≤ 9223372036854775807)
  | .real t => wfRealTok t && decide ((realToken t).length ≤ Gen.scanner_maxNameBytes)
  | .name n => goodName n
  | .str s => s.all (· < 256) && decide (s.length ≤ Gen.scanner_maxStringBytes)
  | .op _ => false
  | .ref n g => decide (n < Gen.xref_maxXRefSize) && decide (g ≤ Gen.xref_maxGeneration)
  | .arr xs => goodList xs && decide (xs.length ≤ Gen.scanner_maxArrayLen)
  | .dict kv => goodKV kv && decide ((keysOf kv).Nodup) && decide (kv.length ≤ Gen.scanner_maxDictLen)
def goodList : List Obj → Bool
  | [] => true
  | x :: xs => good x && goodList xs
def goodKV : List (Bytes × Obj) → Bool
  | [] => true
  | (k, v) :: rest => goodName k && good v && goodKV rest
end

/-! `good` constructor by constructor (a `name` is `goodName` and an `op` is never good, both by `rfl`; `null`, `nilArr`
and `bool` always are) and on the two kinds of list. -/

theorem good_int {i : Int} : good (.int i) = true ↔ -9223372036854775808 ≤ i ∧ i ≤ 9223372036854775807 := by
  simp only [good, decide_eq_true_eq]

theorem good_real {t : Bytes} :
    good (.real t) = true ↔ wfRealTok t = true ∧ (realToken t).length ≤ Gen.scanner_maxNameBytes := by
  simp only [good, Bool.and_eq_true, decide_eq_true_eq]

theorem good_str {s : Bytes} :
    good (.str s) = true ↔ s.all (· < 256) = true ∧ s.length ≤ Gen.scanner_maxStringBytes := by
  simp only [good, Bool.and_eq_true, decide_eq_true_eq]

theorem good_op {x : Bytes} : good (.op x) = false := rfl

theorem good_ref {n g : Nat} : good (.ref n g) = true ↔ n < Gen.xref_maxXRefSize ∧ g ≤ Gen.xref_maxGeneration := by
  simp only [good, Bool.and_eq_true, decide_eq_true_eq]

theorem xref_fits : (Gen.xref_maxXRefSize : Int) ≤ 9223372036854775807 ∧
    (Gen.xref_maxGeneration : Int) ≤ 9223372036854775807 := by decide

theorem goodList_cons {x : Obj} {xs : List Obj} : goodList (x :: xs) = true ↔ good x = true ∧ goodList xs = true := by
  simp only [goodList, Bool.and_eq_true]

theorem goodKV_cons {k : Bytes} {v : Obj} {rest : List (Bytes × Obj)} :
    goodKV ((k, v) :: rest) = true ↔ goodName k = true ∧ good v = true ∧ goodKV rest = true := by
  simp only [goodKV, Bool.and_eq_true, and_assoc]

theorem good_arr {xs : List Obj} :
    good (.arr xs) = true ↔ goodList xs = true ∧ xs.length ≤ Gen.scanner_maxArrayLen := by
  simp only [good, Bool.and_eq_true, decide_eq_true_eq]

theorem good_dict {kv : List (Bytes × Obj)} :
    good (.dict kv) = true ↔ goodKV kv = true ∧ (keysOf kv).Nodup ∧ kv.length ≤ Gen.scanner_maxDictLen := by
  simp only [good, Bool.and_eq_true, decide_eq_true_eq, and_assoc]

theorem goodList_iff (xs : List Obj) : goodList xs = true ↔ ∀ x ∈ xs, good x = true := by
  induction xs with
  | nil => simp [goodList]
  | cons x xs ih => simp only [goodList, Bool.and_eq_true, ih, List.mem_cons, forall_eq_or_imp]

theorem goodKV_iff (kv : List (Bytes × Obj)) :
    goodKV kv = true ↔ ∀ e ∈ kv, goodName e.1 = true ∧ good e.2 = true := by
  induction kv with
  | nil => simp [goodKV]
  | cons e es ih =>
    obtain ⟨k, v⟩ := e
    simp only [goodKV, Bool.and_eq_true, ih, List.mem_cons, forall_eq_or_imp]

mutual
def depthOf : Obj → Nat
  | .arr xs => depthList xs + 1
  | .dict kv => depthKV kv + 1
  | _ => 0
def depthList : List Obj → Nat
  | [] => 0
  | x :: xs => max (depthOf x) (depthList xs)
def depthKV : List (Bytes × Obj) → Nat
  | [] => 0
  | (_, v) :: rest => max (depthOf v) (depthKV rest)
end

/-! `depthOf` on the two constructors that nest, on the leaves the file writer builds (every leaf has depth 0, by
`rfl`), and on the lists -/
theorem depthOf_arr (xs : List Obj) : depthOf (.arr xs) = depthList xs + 1 := rfl
theorem depthOf_dict (kv : List (Bytes × Obj)) : depthOf (.dict kv) = depthKV kv + 1 := rfl
theorem depthOf_int (i : Int) : depthOf (.int i) = 0 := rfl
theorem depthOf_name (n : Bytes) : depthOf (.name n) = 0 := rfl
theorem depthOf_ref (n g : Nat) : depthOf (.ref n g) = 0 := rfl
theorem depthList_nil : depthList [] = 0 := rfl
theorem depthList_cons (x : Obj) (xs : List Obj) : depthList (x :: xs) = max (depthOf x) (depthList xs) := rfl
theorem depthKV_nil : depthKV [] = 0 := rfl
theorem depthKV_cons (k : Bytes) (v : Obj) (rest : List (Bytes × Obj)) :
    depthKV ((k, v) :: rest) = max (depthOf v) (depthKV rest) := rfl

theorem obj_ind {P : Obj → Prop} (arr : ∀ xs, (∀ x ∈ xs, P x) → P (.arr xs))
    (dict : ∀ kv : List (Bytes × Obj), (∀ e ∈ kv, P e.2) → P (.dict kv))
    (leaf : ∀ o, (∀ xs, o ≠ .arr xs) → (∀ kv, o ≠ .dict kv) → P o) : ∀ o, P o := by
  intro o
  refine Obj.rec (motive_1 := P) (motive_2 := fun xs => ∀ x ∈ xs, P x) (motive_3 := fun kv => ∀ e ∈ kv, P e.2)
    (motive_4 := fun e => P e.2) ?_ ?_ ?_ ?_ ?_ ?_ ?_ ?_ ?_ arr dict ?_ ?_ ?_ ?_ ?_ o
  case refine_10 => exact nofun
  case refine_11 => exact fun x xs hx hxs y hy => (List.mem_cons.mp hy).elim (· ▸ hx) (hxs y)
  case refine_12 => exact nofun
  case refine_13 => exact fun e es he hes y hy => (List.mem_cons.mp hy).elim (· ▸ he) (hes y)
  case refine_14 => exact fun _ _ h => h
  all_goals intros; exact leaf _ nofun nofun

theorem depthList_le (xs : List Obj) (n : Nat) : depthList xs ≤ n ↔ ∀ x ∈ xs, depthOf x ≤ n := by
  induction xs with
  | nil => simp [depthList]
  | cons x xs ih => simp only [depthList, List.mem_cons, forall_eq_or_imp, ← ih]; omega

theorem depthKV_le (kv : List (Bytes × Obj)) (n : Nat) :
    depthKV kv ≤ n ↔ ∀ e ∈ kv, depthOf e.2 ≤ n := by
  induction kv with
  | nil => simp [depthKV]
  | cons e es ih =>
    obtain ⟨k, v⟩ := e
    simp only [depthKV, List.mem_cons, forall_eq_or_imp, ← ih]
    omega

/-- first bytes of the object tokens the formatter writes -/
def objStart (c : Nat) : Bool :=
  isDigit c || c == 45 || c == 46 || c == 110 || c == 116 || c == 102 ||
  c == 47 || c == 40 || c == 60 || c == 91

/-- first bytes of the tokens the formatter writes, including the closing brackets, and `e`:
    the keywords `endobj` / `endstream` that follow an object in a file (C02 `indirect_obj_rt`) -/
def tokStart (c : Nat) : Bool := objStart c || c == 93 || c == 62 || c == 101

theorem objStart_tokStart {c : Nat} (h : objStart c = true) : tokStart c = true := by simp [tokStart, h]

/-- what follows a token in formatter output: end of input, another token (a delimiter if the
    previous token asked for a separator), or one space / line feed and then a token -/
def Cont (ns : Bool) : Bytes → Prop
  | [] => True
  | c :: t => (tokStart c = true ∧ (ns = true → isRegular c = false)) ∨
              ((c = 32 ∨ c = 10) ∧ ∃ c' t', t = c' :: t' ∧ tokStart c' = true)

theorem tokStart_facts (c : Nat) (h : tokStart c = true) :
    isSpace c = false ∧ c ≠ 37 ∧ c ≠ 82 ∧ c ≠ 115 ∧ c ≠ 32 ∧ c ≠ 10 ∧ c ≠ 35 := by
  simp only [tokStart, objStart, Bool.or_eq_true, beq_iff_eq] at h
  rcases h with (((((((((((hd | rfl) | rfl) | rfl) | rfl) | rfl) | rfl) | rfl) | rfl) | rfl) | rfl) | rfl) | rfl
  · have hr := (isDigit_iff c).mp hd
    exact ⟨(digit_facts' hd).1, by omega⟩
  all_goals exact ⟨by rw [isSpace_eq]; decide, by decide⟩

theorem skipWS_tok (c : Nat) (t : Bytes) (h : tokStart c = true) : skipWS (c :: t) = (c :: t, false) :=
  skipWS_cons_stop (tokStart_facts c h).1 (tokStart_facts c h).2.1 t

/-- the three shapes of a continuation, as seen through `SkipWhiteSpace` -/
theorem cont_cases {ns : Bool} {k : Bytes} (h : Cont ns k) :
    (k = [] ∧ skipWS k = ([], true)) ∨
    (∃ c t, tokStart c = true ∧ skipWS k = (c :: t, false) ∧
      ((k = c :: t ∧ (ns = true → isRegular c = false)) ∨ (k = 32 :: c :: t) ∨ (k = 10 :: c :: t))) := by
  cases k with
  | nil => left; simp [skipWS]
  | cons c t =>
    right
    rcases h with ⟨h1, h2⟩ | ⟨h1, c', t', h2, h3⟩
    · exact ⟨c, t, h1, skipWS_tok c t h1, .inl ⟨rfl, h2⟩⟩
    · subst h2
      rcases h1 with h1 | h1 <;> subst h1
      · exact ⟨c', t', h3, by rw [skipWS_sp, skipWS_tok c' t' h3], .inr (.inl rfl)⟩
      · exact ⟨c', t', h3, by rw [skipWS_lf, skipWS_tok c' t' h3], .inr (.inr rfl)⟩

theorem cont_nostream {ns : Bool} {k : Bytes} (h : Cont ns k) : startsWith (skipWS k).1 kw_stream = false := by
  rcases cont_cases h with ⟨h1, h2⟩ | ⟨c, t, h1, h2, _⟩
  · rw [h2]; rfl
  · rw [h2]; exact startsWith_head (tokStart_facts c h1).2.2.2.1 t _

theorem cont_head_nonreg {k : Bytes} (h : Cont true k) : ∀ c t, k = c :: t → isRegular c = false := by
  intro c t hk
  subst hk
  rcases h with ⟨_, h2⟩ | ⟨h1, _⟩
  · exact h2 rfl
  · rcases h1 with h1 | h1 <;> subst h1
    · exact nonreg_white (by decide)
    · exact nonreg_white (by decide)

theorem cont_weaken {ns : Bool} {k : Bytes} (h : Cont ns k) : Cont false k := by
  cases k with
  | nil => trivial
  | cons c t =>
    rcases h with ⟨h1, _⟩ | h
    · exact .inl ⟨h1, by simp⟩
    · exact .inr h

end PdfVerif.C01L
