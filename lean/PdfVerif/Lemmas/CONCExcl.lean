import PdfVerif.Lemmas.CONCSummary
/-!
Invariant behind the theorems of `Props/C18concX` (property `exclusive_once` of C18): every pending
has at most one owner frame in the whole system, the owner's frame says where the hand-over stands
(`wip` entry present and no outcome written / outcome written), and every `DecodeExclusive` that
returned through a pending returned that pending's outcome.  `reachable_inv` hands it to the other invariants.
-/
namespace PdfVerif.CONC

/-- what a frame of `DecodeExclusive` knows of the shared state.  Up to the second critical section
the owner still holds the `wip` entry of its key and its pending has no outcome; from `ex:pre-close`
on the outcome is the result the frame carries.  A waiter and a finished owner name a registered
pending. -/
def XFrame (s : State) : Frame → Prop
  | .exStart k p _ => s.wip k = some p ∧ (s.pend p).out = none
  | .exRun k p => s.wip k = some p ∧ (s.pend p).out = none
  | .exPub k p _ => s.wip k = some p ∧ (s.pend p).out = none
  | .exClose _ p res => (s.pend p).out = some res
  | .exDone _ p res => (s.pend p).out = some res ∧ p < s.npend
  | .exWait _ p => p < s.npend
  | _ => True

/-- a `DecodeExclusive` which returned through pending `p` without panicking returned the outcome
written there.  The guard `res ≠ .panic` is never false (no call returns `.panic`, see `RetAt`), but that is
recorded in `LInv` only (`resOK`).  `p < s.npend` (here and in `XFrame`) because `register` overwrites `pend s.npend`: only a
registered pending keeps its outcome. -/
def XEv (s : State) : Event → Prop
  | .exc _ _ _ res (some p) => p < s.npend ∧ (res ≠ .panic → (s.pend p).out = some res)
  | _ => True

/-- `nodup`, `disj`: a pending is owned by at most one frame of the whole system.  `bound`, `wipb`:
owned and in-progress pendings are registered (below `npend`, so a fresh one is owned by nobody).
`frames`, `hist`: see `XFrame`, `XEv`.  `doneOut`: the outcome is written before `done` is closed. -/
structure XInv (s : State) : Prop where
  nodup : ∀ t, (owned (s.thr t)).Nodup
  disj : ∀ t1 t2 p, p ∈ owned (s.thr t1) → p ∈ owned (s.thr t2) → t1 = t2
  bound : ∀ t p, p ∈ owned (s.thr t) → p < s.npend
  wipb : ∀ k p, s.wip k = some p → p < s.npend
  frames : ∀ t f, f ∈ s.thr t → XFrame s f
  hist : ∀ e ∈ s.hist, XEv s e
  doneOut : ∀ p, (s.pend p).done = true → (s.pend p).out ≠ none

theorem XFrame.congr {s s' : State} {f : Frame} (h : XFrame s f) (hn : s.npend ≤ s'.npend)
    (hw : ∀ k p, wkey f = some k → s.wip k = some p → s'.wip k = some p)
    (hp : ∀ p, pendOf f = some p → (s'.pend p).out = (s.pend p).out) : XFrame s' f := by
  cases f <;> simp only [XFrame] at h ⊢
  case exStart k p _ => exact ⟨hw k p rfl h.1, (hp p rfl).trans h.2⟩
  case exRun k p => exact ⟨hw k p rfl h.1, (hp p rfl).trans h.2⟩
  case exPub k p _ => exact ⟨hw k p rfl h.1, (hp p rfl).trans h.2⟩
  case exClose k p _ => exact (hp p rfl).trans h
  case exDone k p _ => exact ⟨(hp p rfl).trans h.1, Nat.lt_of_lt_of_le h.2 hn⟩
  case exWait k p => exact Nat.lt_of_lt_of_le h hn

theorem XEv.congr {s s' : State} (hn : s.npend ≤ s'.npend)
    (hp : ∀ p res, p < s.npend → (s.pend p).out = some res → (s'.pend p).out = some res) {e : Event}
    (h : XEv s e) : XEv s' e := by
  cases e with
  | exc t o tp res p =>
    cases p with
    | none => trivial
    | some p => exact ⟨Nat.lt_of_lt_of_le h.1 hn, fun hr => hp p res h.1 (h.2 hr)⟩
  | _ => trivial

theorem XInv.pend_lt {s : State} (hs : XInv s) {t : Tid} {f : Frame} (hf : f ∈ s.thr t) {p : Pid}
    (hp : pendOf f = some p) : p < s.npend ∧ (owns f = some p ∨ (s.pend p).out ≠ none) := by
  by_cases ho : owns f = some p
  · exact ⟨hs.bound t p (mem_owned hf ho), .inl ho⟩
  · have hx := hs.frames t f hf
    cases f <;> first | exact absurd hp ho | skip
    cases hp
    exact ⟨hx.2, .inr (by rw [hx.1]; nofun)⟩

theorem XInv.of_sub {s s' : State} (hs : XInv s)
    (hsub : ∀ t, (owned (s'.thr t)).Sublist (owned (s.thr t))) (hn : s.npend ≤ s'.npend)
    (hw : ∀ k p, s'.wip k = some p → s.wip k = some p)
    (hfr : ∀ t f, f ∈ s'.thr t → XFrame s' f) (hh : ∀ e ∈ s'.hist, XEv s' e)
    (hd : ∀ p, (s'.pend p).done = true → (s'.pend p).out ≠ none) : XInv s' :=
  ⟨fun t => (hs.nodup t).sublist (hsub t),
   fun t1 t2 p h1 h2 => hs.disj t1 t2 p ((hsub t1).subset h1) ((hsub t2).subset h2),
   fun t p h => Nat.lt_of_lt_of_le (hs.bound t p ((hsub t).subset h)) hn,
   fun k p h => Nat.lt_of_lt_of_le (hs.wipb k p (hw k p h)) hn, hfr, hh, hd⟩

theorem sublist_of_eq {α : Type} {a b : List α} (h : a = b) : a.Sublist b :=
  h ▸ List.Sublist.refl _

theorem sublist_upd {s : State} {t : Tid} {stk' : List Frame}
    (h : (owned stk').Sublist (owned (s.thr t))) (t' : Tid) :
    (owned (upd s.thr t stk' t')).Sublist (owned (s.thr t')) := by
  rw [upd_apply]; split
  · next e => exact e ▸ h
  · exact List.Sublist.refl _

/-- a transition which changes only the stack of `t` (owning no more than before) and the
history, and leaves `wip`, the outcomes and `npend` alone -/
theorem XInv.local {s s' : State} (hs : XInv s) (t : Tid) (stk' : List Frame) (evs : List Event)
    (hthr : s'.thr = upd s.thr t stk') (hsub : (owned stk').Sublist (owned (s.thr t)))
    (hw : s'.wip = s.wip)
    (hp : ∀ p, (s'.pend p).out = (s.pend p).out)
    (hn : s'.npend = s.npend)
    (hfr : ∀ f ∈ stk', XFrame s f) (hh : s'.hist = evs ++ s.hist) (hev : ∀ e ∈ evs, XEv s' e)
    (hd : ∀ p, (s'.pend p).done = true → (s'.pend p).out ≠ none) :
    XInv s' := by
  refine hs.of_sub (hthr ▸ sublist_upd hsub) (Nat.le_of_eq hn.symm) (fun k p h => hw ▸ h) ?_ ?_ hd
  · intro t' f hf
    have : XFrame s f := by
      rw [hthr, upd_apply] at hf
      split at hf
      · exact hfr f hf
      · exact hs.frames t' f hf
    exact this.congr (Nat.le_of_eq hn.symm) (fun k p _ h => hw ▸ h) (fun p _ => hp p)
  · intro e he
    rw [hh] at he
    rcases List.mem_append.mp he with h | h
    · exact hev e h
    · exact (hs.hist e h).congr (Nat.le_of_eq hn.symm) (fun p res _ h => (hp p).trans h)

theorem XFrame.holds {s : State} {f : Frame} {k : Key} (hx : XFrame s f) (hk : wkey f = some k) :
    ∃ p, owns f = some p ∧ s.wip k = some p := by
  cases f <;> cases hk <;> exact ⟨_, rfl, hx.1⟩

theorem heldBy_out {s : State} {stk : List Frame} (hx : ∀ f ∈ stk, XFrame s f) {q : Pid}
    (h : q ∈ heldBy stk) : (s.pend q).out = none := by
  obtain ⟨f, hf, k, hk, ho⟩ := mem_heldBy.mp h
  have := hx f hf
  cases f <;> cases hk <;> cases ho <;> exact this.2

theorem releaseOwned_outs (s : State) (stk : List Frame) (hx : ∀ f ∈ stk, XFrame s f) :
    (∀ q, (s.pend q).out ≠ none → ((releaseOwned s stk).pend q).out = (s.pend q).out) ∧
    ∀ q ∈ owned stk, ((releaseOwned s stk).pend q).done = true ∧
      ((releaseOwned s stk).pend q).out ≠ none := by
  refine ⟨fun q hq => ?_, fun q hq => ?_⟩
  · rw [releaseOwned_pend]
    split
    · exact if_neg fun h => hq (heldBy_out hx h)
    · rfl
  · rw [releaseOwned_pend, if_pos hq]
    refine ⟨rfl, ?_⟩
    dsimp only
    split
    · nofun
    · next hn =>
      -- an owner which holds no marker is at `ex:pre-close`: its outcome is written
      rcases owned_cases hq with h | ⟨k, r, hf⟩
      · exact absurd h hn
      · rw [show (s.pend q).out = some r from hx _ hf]; nofun

/-- a panic unwinds the stack of `t`: every pending owned on it is closed with an outcome, its
`wip` entry is gone, nothing else changes -/
theorem XInv.crash {s : State} (hs : XInv s) (t : Tid) : XInv (CONC.crash s t (.fnPanic t)) := by
  have hxt : ∀ f ∈ s.thr t, XFrame s f := hs.frames t
  have hn : s.npend ≤ (CONC.crash s t (.fnPanic t)).npend := Nat.le_of_eq (crash_npend ..).symm
  refine hs.of_sub ?_ hn (fun k p h => releaseOwned_wip_sub _ _ _ _ h) ?_ ?_ ?_
  · intro t'; rw [crash_thr]; exact sublist_upd (stk' := [.dead]) (List.nil_sublist _) t'
  · intro t' f hf
    rw [crash_thr, upd_apply] at hf
    split at hf
    · cases List.mem_singleton.mp hf; trivial
    · next hne =>
      refine (hs.frames t' f hf).congr hn ?_ ?_
      · intro k p hk hw
        rw [crash_wip, releaseOwned_wip, if_neg]
        · exact hw
        -- a frame of `t` holding the same entry would own the same pending
        intro hm
        obtain ⟨g, hg, hgk⟩ := List.mem_filterMap.mp hm
        obtain ⟨p1, ho1, hw1⟩ := (hs.frames t' f hf).holds hk
        obtain ⟨p2, ho2, hw2⟩ := (hxt g hg).holds hgk
        cases hw1.symm.trans hw2
        exact hne (hs.disj t' t p1 (mem_owned hf ho1) (mem_owned hg ho2))
      · intro q hq
        rcases (hs.pend_lt hf hq).2 with ho | ho
        · exact congrArg Pending.out (releaseOwned_pend_other s _ q
            fun hm => hne (hs.disj t' t q (mem_owned hf ho) hm))
        · exact (releaseOwned_outs s _ hxt).1 q ho
  · intro e he
    rw [crash_hist] at he
    rcases List.mem_cons.mp he with rfl | h
    · trivial
    · exact (hs.hist e h).congr hn fun q res _ h =>
        ((releaseOwned_outs s _ hxt).1 q (by rw [h]; nofun)).trans h
  · intro q hq
    simp only [crash_pend] at hq ⊢
    by_cases hm : q ∈ owned (s.thr t)
    · exact ((releaseOwned_outs s _ hxt).2 q hm).2
    · rw [releaseOwned_pend_other s _ q hm] at hq ⊢
      exact hs.doneOut q hq

theorem XInv.init : XInv State.init := by
  refine ⟨?_, ?_, ?_, ?_, ?_, ?_, ?_⟩
  · intro t; simp only [init_thr, owned_nil]; exact List.nodup_nil
  · intro t1 t2 p h; simp only [init_thr, owned_nil] at h; cases h
  · intro t p h; simp only [init_thr, owned_nil] at h; cases h
  · intro k p h; simp only [init_wip] at h; cases h
  · intro t f h; simp only [init_thr] at h; cases h
  · intro e h; simp only [init_hist] at h; cases h
  · intro p h; simp only [init_pend] at h; cases h

theorem PushAt.xframe {cfg : Cfg} {s : State} {t : Tid} {a base f evs} (hs : XInv s)
    (h : PushAt cfg s t a base f evs) : XFrame s f := by
  cases h with
  | wait _ hw => exact hs.wipb _ _ hw
  | _ => trivial

/-- a call which returns through a pending returns the outcome written there: the owner carries
it in its frame, the waiter has just read it -/
theorem RetAt.xev {cfg : Cfg} {s : State} {t : Tid} {a base c ev res} (hs : XInv s)
    (h : RetAt cfg s t a base c ev res) :
    XEv (deliver { s with cache := c, hist := ev :: s.hist } t base res) ev := by
  cases h with
  | done e =>
    have hx : XFrame s (.exDone _ _ _) := hs.frames t _ (e ▸ List.mem_cons_self)
    exact ⟨hx.2, fun _ => hx.1⟩
  | woke e hd _ ho =>
    have hx : XFrame s (.exWait _ _) := hs.frames t _ (e ▸ List.mem_cons_self)
    exact ⟨hx, fun _ => ho.elim id (fun h => absurd h.1 (hs.doneOut _ hd))⟩
  | _ => trivial

theorem XInv.step {cfg : Cfg} {s s' : State} {t : Tid} {a : Act} (hs : XInv s)
    (h : step cfg s t a = some s') : XInv s' := by
  cases step_kind h with
  | push hp =>
    refine hs.local t _ _ rfl (sublist_of_eq (by rw [owned_cons_none _ hp.owns, hp.keeps.owned]))
      rfl (fun _ => rfl) rfl ?_ rfl ?_ hs.doneOut
    · intro g hg
      rcases List.mem_cons.mp hg with rfl | hg
      · exact hp.xframe hs
      · exact hp.keeps.forall (hs.frames t) (fun _ _ _ h => h) g hg
    · intro e he
      obtain ⟨_, _, _, rfl⟩ := hp.evs e he
      trivial
  | ret hr =>
    exact hs.local t _ [_] rfl (sublist_of_eq (by rw [owned_deliverStack, hr.keeps.owned])) rfl (fun _ => rfl) rfl
      (forall_deliverStack (hr.keeps.forall (hs.frames t) (fun _ _ _ h => h)) (fun _ _ h => h)) rfl
      (by intro e he; cases List.mem_singleton.mp he; exact hr.xev hs) hs.doneOut
  | @register r tp path _ hw =>
    -- a new pending `s.npend` is registered: no frame speaks of it yet
    have hmem : ∀ t' p, p ∈ owned (upd s.thr t (.exStart (r, tp) s.npend path :: s.thr t) t') →
        p = s.npend ∧ t' = t ∨ p ∈ owned (s.thr t') := by
      intro t' p hp
      rw [upd_apply] at hp
      split at hp
      · next e => subst e; exact (List.mem_cons.mp hp).imp (fun h => ⟨h, rfl⟩) id
      · exact .inr hp
    have hfresh : ∀ t', s.npend ∉ owned (s.thr t') :=
      fun t' hm => Nat.lt_irrefl _ (hs.bound t' _ hm)
    refine ⟨?_, ?_, ?_, ?_, ?_, ?_, ?_⟩
    · exact forall_upd (P := fun stk => (owned stk).Nodup)
        (List.nodup_cons.mpr ⟨hfresh t, hs.nodup t⟩) hs.nodup
    · intro t1 t2 p h1 h2
      rcases hmem t1 p h1 with ⟨e1, g1⟩ | g1 <;> rcases hmem t2 p h2 with ⟨e2, g2⟩ | g2
      · rw [g1, g2]
      · exact absurd (e1 ▸ g2) (hfresh t2)
      · exact absurd (e2 ▸ g1) (hfresh t1)
      · exact hs.disj t1 t2 p g1 g2
    · intro t' p hp
      rcases hmem t' p hp with ⟨rfl, _⟩ | hp
      · exact Nat.lt_succ_self _
      · exact Nat.lt_succ_of_lt (hs.bound t' p hp)
    · intro k p hk
      simp only [upd_apply] at hk
      split at hk
      · cases hk; exact Nat.lt_succ_self _
      · exact Nat.lt_succ_of_lt (hs.wipb k p hk)
    · intro t' f hf
      have hf' : f = .exStart (r, tp) s.npend path ∨ ∃ t', f ∈ s.thr t' :=
        (mem_upd_cons hf).imp id fun h => h.elim (fun h => ⟨t, h.2⟩) (fun h => ⟨t', h.2⟩)
      rcases hf' with rfl | ⟨t0, hf0⟩
      · exact ⟨upd_same .., congrArg Pending.out (upd_same ..)⟩
      · refine (hs.frames t0 f hf0).congr (Nat.le_succ _) (fun k p _ hk => ?_)
          (fun p hp => congrArg Pending.out (upd_of_lt _ _ (hs.pend_lt hf0 hp).1))
        exact (upd_other _ _ _ _ fun e => nomatch (e ▸ hk).symm.trans hw).trans hk
    · exact fun e he => (hs.hist e he).congr (Nat.le_succ _)
        fun p res hp h => (congrArg Pending.out (upd_of_lt _ _ hp)).trans h
    · intro p hp
      simp only [upd_apply] at hp ⊢
      split
      · next e => simp [e] at hp
      · next e => simp only [e, if_false] at hp; exact hs.doneOut p hp
  | @publish k p res rest e =>
    -- nothing else depends on `p` (`hne`): a second owner would break `nodup`/`disj`; a finished owner or an
    -- event needs an outcome, and the top frame says there is none yet
    have htop : XFrame s (.exPub k p res) := hs.frames t _ (e ▸ List.mem_cons_self)
    have hpT : p ∈ owned (s.thr t) := by rw [e, owned_cons_some _ rfl]; exact List.mem_cons_self
    have hne : ∀ t' f, f ∈ s.thr t' → (t' = t → f ∈ rest) → ∀ q, pendOf f = some q → q ≠ p := by
      rintro t' f hf hin q hq rfl
      rcases (hs.pend_lt hf hq).2 with ho | ho
      · by_cases et : t' = t
        · have := hs.nodup t
          rw [e, owned_cons_some _ rfl] at this
          exact (List.nodup_cons.mp this).1 (mem_owned (hin et) ho)
        · exact et (hs.disj t' t q (mem_owned hf ho) hpT)
      · exact ho htop.2
    have hout : ∀ q, q ≠ p →
        (upd s.pend p ⟨(s.pend p).done, some res, (s.pend p).key⟩ q).out = (s.pend q).out :=
      fun q hq => congrArg Pending.out (upd_other _ _ _ _ hq)
    refine hs.of_sub (fun t' => sublist_upd (sublist_of_eq ?_) t') (Nat.le_refl _) ?_ ?_ ?_ ?_
    · rw [e, owned_cons_some _ rfl, owned_cons_some _ rfl]
    · intro k' q hk
      simp only [upd_apply] at hk
      split at hk
      · cases hk
      · exact hk
    · intro t' f hf
      have hf' : f = .exClose k p res ∨ ∃ t', f ∈ s.thr t' ∧ (t' = t → f ∈ rest) :=
        (mem_upd_cons hf).imp id fun h => h.elim
          (fun h => ⟨t, e ▸ List.mem_cons_of_mem _ h.2, fun _ => h.2⟩)
          (fun h => ⟨t', h.2, fun e' => absurd e' h.1⟩)
      rcases hf' with rfl | ⟨t0, hf0, hin⟩
      · exact congrArg Pending.out (upd_same ..)
      · refine (hs.frames t0 f hf0).congr (by exact Nat.le_refl _) (fun k' q hk hwq => ?_)
          (fun q hq => hout q (hne t0 f hf0 hin q hq))
        refine (upd_other _ _ _ _ ?_).trans hwq
        rintro rfl
        obtain ⟨q', ho, hw'⟩ := (hs.frames t0 f hf0).holds hk
        exact hne t0 f hf0 hin q' (pendOf_of_owns ho) (Option.some.inj (hw'.symm.trans htop.1))
    · intro ev hev
      refine (hs.hist ev hev).congr (by exact Nat.le_refl _) fun q r _ hq => ?_
      have : q ≠ p := by rintro rfl; exact nomatch hq.symm.trans htop.2
      exact (hout q this).trans hq
    · intro q hq
      simp only [upd_apply] at hq ⊢
      split
      · nofun
      · next eq => simp only [eq, if_false] at hq; exact hs.doneOut q hq
  | @close k p res rest e =>
    -- `close(p.done)` touches no outcome; that `p` has one is what the top frame says
    have htop : XFrame s (.exClose k p res) := hs.frames t _ (e ▸ List.mem_cons_self)
    have hpT : p ∈ owned (s.thr t) := by rw [e, owned_cons_some _ rfl]; exact List.mem_cons_self
    have hout := closed_out s.pend p
    refine hs.local t (.exDone k p res :: rest) [] rfl ?_ rfl hout rfl ?_ rfl (fun _ h => absurd h List.not_mem_nil) ?_
    · rw [e, owned_cons_none _ rfl, owned_cons_some _ rfl]; exact List.sublist_cons_self _ _
    · intro f hf
      rcases List.mem_cons.mp hf with rfl | hf
      · exact ⟨htop, hs.bound t p hpT⟩
      · exact hs.frames t f (e ▸ List.mem_cons_of_mem _ hf)
    · intro q hq
      show (upd s.pend p _ q).out ≠ none
      rw [hout]
      simp only [upd_apply] at hq
      split at hq
      · next eq => rw [eq, htop]; nofun
      · exact hs.doneOut q hq
  | crash => exact hs.crash t

theorem reachable_inv (cfg : Cfg) (G : State → Label → Prop) (P : State → Prop) (h0 : P State.init)
    (hstep : ∀ s t a s', G s (t, a) → XInv s → P s → step cfg s t a = some s' → P s')
    (ls : List Label) (s : State) (hl : GuardedRun cfg G State.init ls)
    (h : run cfg State.init ls = some s) : XInv s ∧ P s :=
  run_invG cfg G (fun s => XInv s ∧ P s)
    (fun s t a s' hg hi hs => ⟨hi.1.step hs, hstep s t a s' hg hi.1 hi.2 hs⟩) ls State.init s hl
    ⟨XInv.init, h0⟩ h

end PdfVerif.CONC
