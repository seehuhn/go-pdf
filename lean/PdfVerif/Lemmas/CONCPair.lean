import PdfVerif.Lemmas.CONCSummary
/-! The invariant behind `pair_atomic` (C18): no `Decode` in progress publishes under one of the two pair types
(`TyOK`), and the two entries of a reference are absent or the pair one call stored (`PAInv`).  `PairState` and `PAInv`
have the names `C18concP.*` under which the theorems of `Props/C18concP.lean` speak of them. -/
namespace PdfVerif.CONC

/-- the type a frame will publish under -/
def frameTy : Frame → Option Ty
  | .decGet tp _ _ _ => some tp
  | .decFn tp _ _ => some tp
  | .exStart k _ _ => some k.2
  | .exRun k _ => some k.2
  | _ => none

def TyOK (A B : Ty) (f : Frame) : Prop := ∀ tp, frameTy f = some tp → tp ≠ A ∧ tp ≠ B

/-- the discipline under which `A`, `B` are the two views of merged objects: they are published
only by `StoreOrLoadPair[A,B]` -/
def PairTypes (A B : Ty) : Label → Prop
  | (_, .callDecode _ tp _) => tp ≠ A ∧ tp ≠ B
  | (_, .callExcl _ tp _) => tp ≠ A ∧ tp ≠ B
  | (_, .callPair _ A' B' _ _) => (A' = A ∧ B' = B) ∨ (A' ≠ A ∧ A' ≠ B ∧ B' ≠ A ∧ B' ≠ B)
  | _ => True

theorem LoopAt.ty {cfg : Cfg} {A B : Ty} {t : Tid} {stk base : List Frame} {a tp refs path o}
    (h : LoopAt cfg stk a base tp refs path o) (hg : PairTypes A B (t, a))
    (hs : ∀ f ∈ stk, TyOK A B f) : tp ≠ A ∧ tp ≠ B := by
  cases h with
  | call => exact hg
  | next e => exact hs _ (e ▸ List.mem_cons_self) tp rfl
  | enter e => exact hs _ (e ▸ List.mem_cons_self) _ rfl

theorem tyOK_step {cfg : Cfg} {A B : Ty} {s s' : State} {t : Tid} {a : Act}
    (hg : PairTypes A B (t, a)) (hs : ∀ t', ∀ f ∈ s.thr t', TyOK A B f)
    (h : step cfg s t a = some s') : ∀ t', ∀ f ∈ s'.thr t', TyOK A B f := by
  refine (step_kind h).forall_frames hs (hpush := fun _ _ _ hp => ?_)
    (hreg := fun _ _ _ e _ e' => Option.some.inj e' ▸ (e ▸ hg : PairTypes A B (t, .callExcl _ _ _)))
    (hrun := fun _ _ _ h => h) (hpub := fun _ _ _ _ _ _ _ _ => nofun) (hclose := fun _ _ _ _ => nofun)
    (hdone := fun _ _ _ _ => nofun) (hdead := fun _ => nofun)
  cases hp with
  | fn hl => exact fun _ e => Option.some.inj e ▸ hl.ty hg (hs t)
  | get hl => exact fun _ e => Option.some.inj e ▸ hl.ty hg (hs t)
  | _ => nofun

end PdfVerif.CONC

namespace PdfVerif.C18concP
open PdfVerif PdfVerif.CONC

/-- the two entries of `r` are absent, or are the pair `(a, b)` which one call stored -/
def PairState (A B : Ty) (s : State) (r : Ref) : Prop :=
  (s.cache (r, A) = none ∧ s.cache (r, B) = none) ∨
  ∃ t a b, .pair t r A B a b (some (a, b)) ∈ s.hist ∧ s.cache (r, A) = some a ∧ s.cache (r, B) = some b

/-- `ty`: no `Decode` in progress will publish under `A` or `B`, so `StoreOrLoadPair` is the only
writer of these keys; `pairs` is the claim. -/
structure PAInv (A B : Ty) (s : State) : Prop where
  ty : ∀ t, ∀ f ∈ s.thr t, TyOK A B f
  pairs : ∀ r, PairState A B s r

theorem PAInv.step {cfg : Cfg} (hf : cfg.fixed = true) {A B : Ty} (hAB : A ≠ B) {s s' : State}
    {t : Tid} {a : Act} (hg : PairTypes A B (t, a)) (hi : PAInv A B s)
    (h : step cfg s t a = some s') : PAInv A B s' := by
  refine ⟨tyOK_step hg hi.ty h, fun r => ?_⟩
  obtain ⟨evs, hh⟩ := step_hist_grows h
  have hmem : ∀ e ∈ s.hist, e ∈ s'.hist := fun e he => hh ▸ List.mem_append_right _ he
  have keep : (∀ tp, tp = A ∨ tp = B → s'.cache (r, tp) = s.cache (r, tp)) → PairState A B s' r := by
    intro hc
    unfold PairState
    rw [hc A (.inl rfl), hc B (.inr rfl)]
    exact (hi.pairs r).imp id fun ⟨t, a, b, he, h⟩ => ⟨t, a, b, hmem _ he, h⟩
  cases step_kind h with
  | ret hr =>
    cases hr with
    | @store tp r0 rs path base v e =>
      -- `cacheStoreOrLoad` writes under the type of the returning `Decode`, which is neither `A` nor `B`
      have hty := hi.ty t _ (e ▸ List.mem_cons_self) tp rfl
      refine keep fun tp' htp => ?_
      have : tp' ≠ tp := by
        rcases htp with rfl | rfl
        · exact hty.1.symm
        · exact hty.2.symm
      exact hf ▸ storeOrLoad_fixed_other s.cache (r0 :: rs) v this
    | @pair r' A' B' a' b' x y _ hx hy =>
      have hle : CacheLe s.cache (fill (fill s.cache (r', A') a') (r', B') b') :=
        (fill_le _ _ _).trans (fill_le _ _ _)
      by_cases hr : r' = r ∧ A' = A ∧ B' = B
      · -- `StoreOrLoadPair[A,B]` on `r`: both entries were absent and are now this call's pair, or both stay
        obtain ⟨rfl, rfl, rfl⟩ := hr
        rcases hi.pairs r' with ⟨hA, hB⟩ | ⟨t0, a0, b0, he, hA, hB⟩
        · obtain ⟨ea, eb⟩ := fill_fill_none a' b' (fun h => hAB (congrArg Prod.snd h)) hA hB
          cases hx.symm.trans ea
          cases hy.symm.trans eb
          exact .inr ⟨t, a', b', List.mem_cons_self, hx, hy⟩
        · exact .inr ⟨t0, a0, b0, hmem _ he, hle _ _ hA, hle _ _ hB⟩
      · refine keep fun tp htp => ?_
        have hne : ∀ C, (C = A' ∨ C = B') → (r, tp) ≠ (r', C) := by
          rintro C hC e
          obtain ⟨rfl, rfl⟩ := Prod.mk.inj e
          exact hg.elim (fun h => hr ⟨rfl, h⟩) fun ⟨n1, n2, n3, n4⟩ =>
            hC.elim (fun e => htp.elim (e ▸ n1) (e ▸ n2)) (fun e => htp.elim (e ▸ n3) (e ▸ n4))
        exact fill_fill_other _ _ _ _ _ (hne A' (.inl rfl)) (hne B' (.inr rfl))
    | _ => exact keep fun _ _ => rfl
  | crash => exact keep fun _ _ => congrFun (crash_cache ..) _
  | _ => exact keep fun _ _ => rfl

theorem PAInv.init (A B : Ty) : PAInv A B State.init :=
  ⟨fun t _ hf => (nomatch init_thr t ▸ hf), fun _ => .inl ⟨init_cache _, init_cache _⟩⟩

end PdfVerif.C18concP
