import PdfVerif.Model.FBParams
import PdfVerif.Lemmas.FBRanges
import PdfVerif.Lemmas.TRGo
/-!
What the validators and parsers of `Model/FBPredict.lean` and `Model/FBParams.lean` do, stated once next to the model: each
validator as the range condition it accepts (`validate_iff`, `validateFlateLZW_iff`, `validateBase_iff`,
`ccitt_validate_iff`, `predictorValid_iff`), the optional-integer parsers as `readOpt`, the row cap `geoMax` in exact
arithmetic (`geoMax_eq`), lookups in concatenated and optional dictionary entries (`dlookup_*`).  Two shapes recur and are named: a validator is a chain `if <out of range> then false else …`
(`ite_false_eq_true`), and a parser of an optional integer entry keeps an admissible value or falls back to the default.
The names are those of `Props/C08fb.lean`, whose theorems rest on these characterisations.
-/
namespace PdfVerif.C08fb
open PdfVerif PdfVerif.FB

/-- the hand model's `wrap64` is the same term as the prelude's `Go.i64` (`C08trb.wrap64_eq`) -/
theorem wrap64_id (x : Int) (h0 : -9223372036854775808 ≤ x) (h1 : x < 9223372036854775808) : wrap64 x = x :=
  Go.i64_of_bounds h0 h1

theorem isBpc_cases (b : Int) (h : isBpc b = true) : b = 1 ∨ b = 2 ∨ b = 4 ∨ b = 8 ∨ b = 16 := by
  simp [isBpc] at h; omega

theorem ite_false_eq_true {c : Prop} [Decidable c] {b : Bool} :
    (if c then false else b) = true ↔ ¬ c ∧ b = true := by
  by_cases h : c <;> simp [h]

/-- the product is formed, and matters, only once the three factors are known to be small, so the `int64` arithmetic of
the model is exact there -/
theorem validate_iff (p : PParams) : p.validate = true ↔ ParamsValid p.colors p.bpc p.columns p.predictor := by
  obtain ⟨colors, bpc, cols, pred⟩ := p
  unfold PParams.validate isBpc ParamsValid Gen.limits_MaxImageWidth Gen.predict_maxBytesPerRow
  simp only [Bool.if_false_left, Bool.if_true_left, Bool.or_eq_true, Bool.and_eq_true, Bool.not_eq_true',
    decide_eq_true_eq, decide_eq_false_iff_not, Bool.or_eq_false_iff, beq_eq_false_iff_ne, ne_eq, Int.cast_ofNat_Int,
    gt_iff_lt, and_true]
  by_cases hall : (1 ≤ colors ∧ colors ≤ 256) ∧ (bpc = 1 ∨ bpc = 2 ∨ bpc = 4 ∨ bpc = 8 ∨ bpc = 16) ∧ 1 ≤ cols ∧ cols ≤ 65536
  · obtain ⟨hc, hb, hk1, hk2⟩ := hall
    obtain ⟨a1, a2, a3, a4⟩ := prod_bounds hc.1 hc.2 hb hk1 hk2
    rw [wrap64_id (colors * bpc) (by omega) (by omega), wrap64_id (colors * bpc * cols) (by omega) (by omega),
      Int.tdiv_eq_ediv_of_nonneg (by omega)]
    generalize (colors * bpc * cols + 7) / 8 = row
    grind
  · -- a factor is out of range: an earlier guard rejects whatever the quotient is, so it is generalised away
    generalize (wrap64 (wrap64 (colors * bpc) * cols) + 7).tdiv 8 = q
    generalize (colors * bpc * cols + 7) / 8 = row
    grind

theorem predictorNone_eq : (Gen.filter_FlatePredictorNone : Int) = 1 := by decide

theorem usingPredictor_iff (p : Int) : usingPredictor p = true ↔ p ≠ 0 ∧ p ≠ 1 := by
  simp [usingPredictor, predictorNone_eq]

theorem predictorValid_iff (p : Int) :
    predictorValid p = true ↔ p = 0 ∨ p = 1 ∨ p = 2 ∨ (10 ≤ p ∧ p ≤ 15) := by
  simp [predictorValid, Gen.filter_FlatePredictorNone, Gen.filter_FlatePredictorTIFF, Gen.filter_FlatePredictorPNGNone,
    Gen.filter_FlatePredictorPNGSub, Gen.filter_FlatePredictorPNGUp, Gen.filter_FlatePredictorPNGAverage,
    Gen.filter_FlatePredictorPNGPaeth, Gen.filter_FlatePredictorPNGOptimum]
  omega

theorem versions_eq : Gen.meta_V1_2 = 3 ∧ Gen.meta_V1_3 = 4 ∧ Gen.meta_V1_5 = 6 := by decide

theorem validateBase_iff (v : Nat) (p colors bpc columns : Int) :
    validateFlateLZWBase v p colors bpc columns = true ↔ FlateLZWValid v p colors bpc columns True := by
  obtain ⟨_, h13, h15⟩ := versions_eq
  unfold validateFlateLZWBase FlateLZWValid
  rw [h13, h15, ← predictorValid_iff]
  by_cases hu : p = 0 ∨ p = 1
  · have hn : usingPredictor p = false := Bool.eq_false_iff.mpr fun h => by rw [usingPredictor_iff] at h; omega
    rw [if_pos hu, hn]
    simp only [ite_false_eq_true, Bool.not_false, true_and, Bool.false_eq_true, if_false, Bool.not_eq_true',
      Bool.not_eq_false, Classical.not_not, and_true]
  · have hn : usingPredictor p = true := by rw [usingPredictor_iff]; omega
    rw [if_neg hu, hn]
    simp only [ite_false_eq_true, Bool.not_true, Bool.false_eq_true, false_and, not_false_eq_true, true_and, if_true,
      Bool.not_eq_true', Bool.not_eq_false, and_true, beq_iff_eq, Bool.or_eq_false_iff, Bool.and_eq_false_imp,
      beq_eq_false_iff_ne, decide_eq_false_iff_not]
    exact and_congr_right fun _ => and_congr (by omega) (and_congr (by omega) (by omega))

theorem validateFlateLZW_iff (v : Nat) (p colors bpc columns : Int) :
    validateFlateLZW v p colors bpc columns = true ↔
      FlateLZWValid v p colors bpc columns ((predictParams p colors bpc columns).validate = true) := by
  unfold validateFlateLZW
  rw [Bool.and_eq_true, validateBase_iff, Bool.or_eq_true, Bool.not_eq_true', ← Bool.not_eq_true, usingPredictor_iff]
  unfold FlateLZWValid
  -- `inner` is asked only with a predictor
  by_cases hu : p = 0 ∨ p = 1
  · simp only [if_pos hu]; grind
  · simp only [if_neg hu]; grind

theorem flate_validate {f : FFlate} {v : Nat} (h : f.validate v = true) :
    validateFlateLZW v f.predictor f.colors f.bpc f.columns = true :=
  (ite_false_eq_true.1 h).2

theorem flate_validateBase_eq (f : FFlate) (v : Nat) (hv : Gen.meta_V1_2 ≤ v) :
    f.validateBase v = validateFlateLZWBase v f.predictor f.colors f.bpc f.columns :=
  if_neg (by omega)

/-- the shape shared by `parsePredictor`, `parseColors`, `parseBpc`, `parseColumns` and `parseDim`:
an integer entry is kept if admissible, anything else gives the default -/
def readOpt (o : Option Int) (ok : Int → Prop) [DecidablePred ok] (dflt : Int) : Int :=
  match o with
  | some c => if ok c then c else dflt
  | none => dflt

theorem parsePredictor_eq (d : Dict) : parsePredictor d =
    readOpt (getInt d kPredictor) (fun p => predictorValid p ∧ p ≠ 0) Gen.filter_FlatePredictorNone := rfl
theorem parseColors_eq (d : Dict) : parseColors d = readOpt (getInt d kColors) (fun c => c ≥ 1 ∧ c ≤ maxInt) 1 := rfl
theorem parseBpc_eq (d : Dict) : parseBpc d =
    readOpt (getInt d kBitsPerComponent) (fun b => b = 1 ∨ b = 2 ∨ b = 4 ∨ b = 8 ∨ b = 16) 8 := rfl
theorem parseColumns_eq (d : Dict) : parseColumns d = readOpt (getInt d kColumns) (fun c => c ≥ 1 ∧ c ≤ 1048576) 1 := rfl
theorem parseDim_eq (d : Dict) (key : Bytes) (dflt : Int) : parseDim d key dflt =
    readOpt (getInt d key) (fun v => v > 0 ∧ v ≤ maxDimP) dflt := rfl

theorem readOpt_ind {P : Int → Prop} (o : Option Int) (ok : Int → Prop) [DecidablePred ok] (dflt : Int)
    (hd : P dflt) (hok : ∀ c, ok c → P c) : P (readOpt o ok dflt) := by
  fun_cases readOpt o ok dflt
  · exact hok _ ‹_›     -- an admissible entry
  · exact hd            -- an inadmissible one
  · exact hd            -- no integer entry

theorem readOpt_ite (c : Prop) [Decidable c] (x dflt : Int) (ok : Int → Prop) [DecidablePred ok] :
    readOpt (if c then some x else none) ok dflt = if c ∧ ok x then x else dflt := by
  by_cases hc : c <;> simp [readOpt, hc]

/-- an entry that `Info` leaves out for 0 and for the default is read back as the default, one
that it writes as itself -/
theorem readOpt_written (x dflt : Int) (ok : Int → Prop) [DecidablePred ok] (h : x = 0 ∨ ok x) :
    readOpt (if x ≠ 0 ∧ x ≠ dflt then some x else none) ok dflt = if x = 0 then dflt else x := by
  rw [readOpt_ite]
  by_cases h0 : x = 0
  · simp [h0]
  · by_cases hd : x = dflt
    · simp [hd]
    · simp [h0, hd, h.resolve_left h0]

theorem parsePredictor_range (d : Dict) :
    parsePredictor d = 1 ∨ parsePredictor d = 2 ∨ (10 ≤ parsePredictor d ∧ parsePredictor d ≤ 15) := by
  rw [parsePredictor_eq, predictorNone_eq]
  exact readOpt_ind (P := fun x => x = 1 ∨ x = 2 ∨ (10 ≤ x ∧ x ≤ 15)) _ _ _ (Or.inl rfl)
    fun c h => by have := (predictorValid_iff c).1 h.1; omega

theorem parseColors_range (d : Dict) : 1 ≤ parseColors d ∧ parseColors d ≤ maxInt :=
  readOpt_ind (P := fun x => 1 ≤ x ∧ x ≤ maxInt) _ _ _ (by decide) fun _ h => h

theorem parseBpc_range (d : Dict) :
    parseBpc d = 1 ∨ parseBpc d = 2 ∨ parseBpc d = 4 ∨ parseBpc d = 8 ∨ parseBpc d = 16 :=
  readOpt_ind (P := fun x => x = 1 ∨ x = 2 ∨ x = 4 ∨ x = 8 ∨ x = 16) _ _ _ (by decide) fun _ h => h

theorem parseColumns_range (d : Dict) : 1 ≤ parseColumns d ∧ parseColumns d ≤ 1048576 :=
  readOpt_ind (P := fun x => 1 ≤ x ∧ x ≤ 1048576) _ _ _ (by decide) fun _ h => h

theorem parseDim_range (d : Dict) (key : Bytes) (dflt : Int) (h0 : 0 ≤ dflt) (h1 : dflt ≤ 1048576) :
    0 ≤ parseDim d key dflt ∧ parseDim d key dflt ≤ 1048576 ∧ (0 < dflt → 0 < parseDim d key dflt) := by
  have hm : maxDimP = 1048576 := by decide
  exact readOpt_ind (P := fun x => 0 ≤ x ∧ x ≤ 1048576 ∧ (0 < dflt → 0 < x)) _ _ _ (by omega)
    fun c h => by have := h.1; have := Int.le_trans h.2 (Int.le_of_eq hm); omega

theorem parseK_range (d : Dict) : -1 ≤ parseK d ∧ parseK d ≤ maxInt := by
  have hm : maxInt = 9223372036854775807 := by decide
  rw [hm]
  fun_cases parseK d <;> omega

theorem dlookup_append (key : Bytes) (a b : Dict) :
    dlookup key (a ++ b) = (dlookup key a).or (dlookup key b) := by
  induction a with
  | nil => simp [dlookup]
  | cons kv rest ih =>
    obtain ⟨k, v⟩ := kv
    by_cases hk : k = key <;> simp [dlookup, hk, ih]

theorem dlookup_ite (key k : Bytes) (v : Obj) (c : Prop) [Decidable c] :
    dlookup key (if c then [(k, v)] else []) = if c ∧ k = key then some v else none := by
  by_cases hc : c <;> by_cases hk : k = key <;> simp [dlookup, hc, hk]

theorem dlookup_optEntry (key k : Bytes) (v : Obj) (c : Bool) :
    dlookup key (optEntry c k v) = if c = true ∧ k = key then some v else none :=
  dlookup_ite key k v (c = true)

theorem getInt_of_dlookup {d : Dict} {key : Bytes} {c : Prop} [Decidable c] {x : Int}
    (h : dlookup key d = if c then some (.int x) else none) : getInt d key = if c then some x else none := by
  by_cases hc : c <;> simp [getInt, h, hc]

theorem getBool_of_dlookup {d : Dict} {key : Bytes} {c : Prop} [Decidable c] {x : Bool}
    (h : dlookup key d = if c then some (.bool x) else none) : getBool d key = if c then some x else none := by
  by_cases hc : c <;> simp [getBool, h, hc]

theorem parseFlag_written {d : Dict} {key : Bytes} {b : Bool}
    (h : getBool d key = if b then some true else none) : parseFlag d key = b := by
  unfold parseFlag; rw [h]; cases b <;> rfl

theorem geoMax_eq (c : Int) : geoMax c = max 1 (min 65536 (134217728 / max c 1)) := by
  unfold geoMax Gen.limits_MaxImageHeight Gen.limits_MaxImagePixels
  rw [Int.tdiv_eq_ediv_of_nonneg (by omega)]; rfl

theorem geoMax_mul_le (c : Int) (h : 1 < geoMax c) : geoMax c * max c 1 ≤ 134217728 := by
  rw [geoMax_eq] at h ⊢
  have hm : max c 1 * (134217728 / max c 1) ≤ 134217728 := Int.mul_ediv_self_le (by omega)
  have hpos : (0 : Int) < max c 1 := by omega
  generalize max c 1 = m at *
  generalize (134217728 : Int) / m = q at *
  have : max 1 (min 65536 q) * m ≤ q * m := Int.mul_le_mul_of_nonneg_right (by omega) (by omega)
  rw [Int.mul_comm q m] at this
  omega

theorem ccitt_validate_iff (f : FCCITT) : f.validate = true ↔
    (0 ≤ f.columns ∧ f.columns ≤ 1048576) ∧ (0 ≤ f.rows ∧ f.rows ≤ geoMax f.cols) ∧
    (0 ≤ f.damaged ∧ f.damaged ≤ 1048576) := by
  have hm : maxDimV = 1048576 := by decide
  unfold FCCITT.validate
  simp only [ite_false_eq_true, hm, and_true]
  omega

theorem decodeMaxRows_le_geoMax (f : FCCITT) : 1 ≤ f.decodeMaxRows ∧ f.decodeMaxRows ≤ geoMax f.cols := by
  have := geoMax_eq f.cols
  unfold FCCITT.decodeMaxRows; simp only []; split <;> omega

theorem decParams_maxRows (f : FCCITT) : (f.decParams.maxRows : Int) = f.decodeMaxRows :=
  Int.toNat_of_nonneg (by have := (decodeMaxRows_le_geoMax f).1; omega)

end PdfVerif.C08fb
