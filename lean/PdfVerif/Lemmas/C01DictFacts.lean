import PdfVerif.Props.C01d
/-!
Facts about dictionaries as C01 reads them back (`rdKV`, `keysOf`, `canonKV`) that do not depend on
the order of the entries, "a dictionary is within the limits when its entries are", and `ReadDict` on
a formatted dictionary followed by anything: what the file reader (C02) needs of C01's dictionaries.
-/
namespace PdfVerif.C01L
open PdfVerif PdfVerif.C01b PdfVerif.C01d

theorem rdKV_append : ∀ (a b : List (Bytes × Obj)), rdKV (a ++ b) = rdKV a ++ rdKV b := by
  intro a b
  induction a with
  | nil => simp [rdKV]
  | cons e es ih =>
    obtain ⟨k, v⟩ := e
    by_cases hv : v = .null
    · subst hv; simpa [rdKV] using ih
    · rw [List.cons_append, rdKV_cons_nonnull k v _ hv, rdKV_cons_nonnull k v _ hv, ih]; rfl

theorem find?_key_of_mem {l : List (Bytes × Obj)} (hn : (keysOf l).Nodup) {e : Bytes × Obj} (he : e ∈ l) :
    l.find? (fun x => x.1 == e.1) = some e := by
  induction l with
  | nil => cases he
  | cons x xs ih =>
    rw [keysOf_cons, List.nodup_cons] at hn
    rcases List.mem_cons.mp he with rfl | h
    · simp
    · have : x.1 ≠ e.1 := fun hx => hn.1 (hx ▸ mem_keysOf.2 ⟨e, h, rfl⟩)
      simpa [List.find?_cons, this] using ih hn.2 h

theorem find?_key_perm {l1 l2 : List (Bytes × Obj)} (h : l1.Perm l2) (hn : (keysOf l1).Nodup) (k : Bytes) :
    l1.find? (fun x => x.1 == k) = l2.find? (fun x => x.1 == k) := by
  cases hf : l1.find? (fun x => x.1 == k) with
  | none =>
    rw [List.find?_eq_none] at hf
    exact (List.find?_eq_none.mpr fun x hx => hf x (h.mem_iff.mpr hx)).symm
  | some e =>
    have hk : e.1 = k := by simpa using List.find?_some hf
    subst hk
    exact (find?_key_of_mem ((keysOf_perm h).nodup hn) (h.mem_iff.mp (List.mem_of_find?_eq_some hf))).symm

theorem rdKV_perm {l1 l2 : List (Bytes × Obj)} (h : l1.Perm l2) : (rdKV l1).Perm (rdKV l2) := by
  have hc : ∀ x l, rdKV (x :: l) = rdKV [x] ++ rdKV l := fun x l => rdKV_append [x] l
  induction h with
  | nil => exact .refl _
  | @cons x a b _ ih => rw [hc x a, hc x b]; exact ih.append_left _
  | swap x y l => rw [hc y (x :: l), hc x l, hc x (y :: l), hc y l]; exact List.perm_append_comm_assoc _ _ _
  | trans _ _ ih1 ih2 => exact ih1.trans ih2

theorem good_dict_of_entries {kv : List (Bytes × Obj)} {n : Nat}
    (hall : ∀ e ∈ kv, goodName e.1 = true ∧ good e.2 = true ∧ depthOf e.2 ≤ n)
    (hnd : (keysOf kv).Nodup) (hlen : kv.length ≤ Gen.scanner_maxDictLen) :
    good (.dict kv) = true ∧ depthOf (.dict kv) ≤ n + 1 := by
  constructor
  · simp only [good, Bool.and_eq_true, decide_eq_true_eq]
    exact ⟨⟨(goodKV_iff _).2 fun e he => ⟨(hall e he).1, (hall e he).2.1⟩, hnd⟩, hlen⟩
  · have := (depthKV_le kv n).2 fun e he => (hall e he).2.2
    simp only [depthOf]
    omega

theorem split_at_key (k : Bytes) : ∀ (l : List (Bytes × Obj)), k ∈ keysOf l →
    ∃ x, l = l.takeWhile (fun e => e.1 != k) ++ x :: (l.dropWhile fun e => e.1 != k).drop 1 ∧ x.1 = k := by
  intro l h
  have hs := List.takeWhile_append_dropWhile (p := fun e : Bytes × Obj => e.1 != k) (l := l)
  cases hdw : l.dropWhile (fun e => e.1 != k) with
  | nil =>
    -- no element left: then every key differs from `k`
    obtain ⟨e, he, rfl⟩ := mem_keysOf.1 h
    rw [hdw, List.append_nil] at hs
    have := List.all_eq_true.1 List.all_takeWhile e (hs ▸ he)
    simp at this
  | cons x tl =>
    have hx : x.1 = k := by simpa [hdw] using List.head?_dropWhile_not (fun e => e.1 != k) l
    exact ⟨x, by rw [hdw] at hs; exact hs.symm, hx⟩

theorem rdKV_length_le (l : List (Bytes × Obj)) : (rdKV l).length ≤ l.length := by
  simpa [keysOf] using (keysOf_rdKV_sublist l).length_le

theorem canonKV_append (a b : List (Bytes × Obj)) : canonKV (a ++ b) = canonKV a ++ canonKV b := by
  rw [canonKV_eq_map, canonKV_eq_map, canonKV_eq_map, List.map_append]

theorem fmtDict_plain_or_pretty {opt : FmtOpt} {es : List (Bytes × Obj)} {b : Bytes}
    (h : (if opt.pretty = true then fmtDictPretty opt es else fmtDictPlain opt es) = some b) :
    fmtDictPlain opt es = some b ∨ fmtDictPretty opt es = some b := by
  cases hp : opt.pretty <;> simp [hp] at h
  · exact .inl h
  · exact .inr h

theorem readDict_fmt (opt : FmtOpt) (kv : List (Bytes × Obj)) (hg : good (.dict kv) = true)
    (hd : depthOk (.dict kv)) (td : Bytes) (hf : format opt [.dict kv] = some td)
    (rest : Bytes) (fuel : Nat) (hfuel : fuel ≥ 3 * (td ++ rest).length + 2) :
    readDict fuel 0 (td ++ rest) = .ok (rdKV (sortedEntries (canonKV kv)), rest) := by
  obtain ⟨ns', hfo⟩ := (format_single opt (.dict kv) td).mp hf
  have hgc := good_canon _ hg
  have hdc := depth_canon (.dict kv)
  simp only [Obj.canon] at hfo hgc hdc
  generalize sortedEntries (canonKV kv) = kv' at hfo hgc hdc ⊢
  obtain ⟨body, hbody, rfl, _⟩ := (fmtObj_dict_inv opt false kv' td ns').mp hfo
  obtain ⟨hgkv, hnd, hlen⟩ := good_dict.1 hgc
  unfold depthOk at hd
  simp only [depthOf_dict] at hd hdc
  rw [lastIsGtOp_good kv' hgkv]
  have hB := fmtDict_plain_or_pretty (by simpa using hbody)
  obtain ⟨c, t, hct, hc⟩ := dictBody_head opt kv' rest body hB
  obtain ⟨f, rfl⟩ : ∃ f, fuel = f + 1 := ⟨fuel - 1, by omega⟩
  have hloop := dictReads_all opt kv' hgkv 1 (by omega) [] rest (by simp [keysOf_nil]) hnd (by simpa using hlen)
    body hB f (by simp at hfuel ⊢; omega)
  have hsk : skipWS ((if opt.pretty = true then [10] else []) ++ (body ++ 62 :: 62 :: rest))
      = (body ++ 62 :: 62 :: rest, false) := by
    have h0 : skipWS (body ++ 62 :: 62 :: rest) = (body ++ 62 :: 62 :: rest, false) := by
      rw [hct]; exact skipWS_tok c t (close_tokStart hc).1
    cases hp : opt.pretty <;> simp [skipWS_lf, h0]
  have hshape : [60, 60] ++ (if opt.pretty = true then [10] else []) ++ body ++
      (if (!opt.pretty && false) = true then [32] else []) ++ [62, 62] ++ rest
      = 60 :: 60 :: ((if opt.pretty = true then [10] else []) ++ (body ++ 62 :: 62 :: rest)) := by simp
  rw [hshape, readDict]
  have hdd : ¬ (0 ≥ Gen.scanner_maxScannerNestDepth) := by decide
  simp only [hdd, if_false, hsk, hloop]
  rfl

end PdfVerif.C01L
