import PdfVerif.Lemmas.C01Num
import PdfVerif.Model.FIOXRef
import PdfVerif.Model.FNTSimple
/-!
The three decimal printers of the models (`natDec` of `Model/Format`, `FIO.decOf`, `FNT.dec`) are one function:
the lemmas about `natDec` in `Lemmas/C01Num.lean` serve all of them.
-/
namespace PdfVerif.C01L
open PdfVerif

theorem lt_ten_pow_succ (n : Nat) : n < 10 ^ (n + 1) :=
  Nat.lt_of_succ_lt (Nat.lt_pow_self (by decide))

theorem decDigits_eq_natDec : ∀ (f n : Nat), n < 10 ^ (f + 1) → FIO.decDigits (f + 1) n = natDec n
  | f, n, h => by
    rw [FIO.decDigits, natDec_unfold]
    split
    · rfl
    · obtain ⟨f, rfl⟩ : ∃ g, f = g + 1 := ⟨f - 1, by cases f <;> simp_all⟩
      rw [decDigits_eq_natDec f (n / 10) (by rw [Nat.pow_succ] at h; omega)]

/-- the file writer's `%d` is the formatter's `strconv.Itoa` -/
theorem decOf_eq_natDec (n : Nat) : FIO.decOf n = natDec n :=
  decDigits_eq_natDec n n (lt_ten_pow_succ n)

theorem fntDecAux_eq_decDigits : ∀ f n, FNT.decAux f n = FIO.decDigits f n
  | 0, _ => rfl
  | f + 1, n => by rw [FNT.decAux, FIO.decDigits, fntDecAux_eq_decDigits f]

/-- so is the `%d` of the glyph names -/
theorem fntDec_eq_natDec (n : Nat) : FNT.dec n = natDec n := by
  rw [FNT.dec, fntDecAux_eq_decDigits]; exact decOf_eq_natDec n

end PdfVerif.C01L
