import PdfVerif.Lemmas.TRGo
import PdfVerif.Lemmas.FBRanges
import PdfVerif.Generated.FnPredict
import PdfVerif.Generated.FnLimits
import PdfVerif.Generated.FnPdf
/-!
The functions generated from internal/filter/predict, internal/limits and filter.go read as closed forms: the validators as the
range predicates of `Lemmas/FBRanges.lean`, the budgets in exact arithmetic — the closed forms that a bridge file or a second
theorem needs (a closed form with the one theorem it serves stands beside it in `Props/C08tr.lean`).  The names are those of
`Props/C08tr.lean`.
-/
namespace PdfVerif.C08tr
open PdfVerif PdfVerif.Gen PdfVerif.Go

theorem abs_eq_natAbs {x : Int} (lo : -9223372036854775808 < x) (hi : x < 9223372036854775808) :
    pred_abs x = (x.natAbs : Int) := by
  unfold pred_abs
  simp only [Id.run, pure, decide_eq_true_eq]
  split
  · rw [i64_of_bounds (by omega) (by omega)]; omega
  · omega

theorem validate_ok_iff (p : pred_Params) :
    pred_Params_Validate p = none ↔ FB.ParamsValid p.Colors p.BitsPerComponent p.Columns p.Predictor := by
  obtain ⟨colors, bpc, cols, pred⟩ := p
  unfold pred_Params_Validate FB.ParamsValid
  simp only [go_ret, reduceCtorEq]
  -- the row size is only computed, and only matters, once the three factors are known to be small
  by_cases hall : (1 ≤ colors ∧ colors ≤ 256) ∧ (bpc = 1 ∨ bpc = 2 ∨ bpc = 4 ∨ bpc = 8 ∨ bpc = 16) ∧ 1 ≤ cols ∧ cols ≤ 65536
  · obtain ⟨hc, hb, hk1, hk2⟩ := hall
    obtain ⟨a1, a2, a3, a4⟩ := FB.prod_bounds hc.1 hc.2 hb hk1 hk2
    rw [i64_of_bounds (x := colors * bpc) (by omega) (by omega), i64_of_bounds (x := colors * bpc * cols) (by omega) (by omega),
      i64_of_bounds (x := colors * bpc * cols + 7) (by omega) (by omega), quoK_pos (by omega) (by omega) (by omega)]
    generalize (colors * bpc * cols + 7) / 8 = row
    grind
  · -- a factor is out of range: an earlier guard rejects whatever the quotient is, so it is generalised away
    generalize quoK (i64 (i64 (i64 (colors * bpc) * cols) + 7)) 8 = q
    generalize (colors * bpc * cols + 7) / 8 = row
    grind

/-- the multiplication cannot overflow because of the guard `rawLen > HardCap/Multiplier` -/
theorem streamBudget_spec (n : Int) (h : IsI64 n) :
    lim_StreamBudget n = lim_StreamBudgetBase +
      min (lim_StreamBudgetMultiplier * max n 0) lim_StreamBudgetHardCap := by
  unfold lim_StreamBudget lim_StreamBudgetBase lim_StreamBudgetMultiplier lim_StreamBudgetHardCap
  unfold IsI64 at h
  simp only [Id.run, pure, decide_eq_true_eq]
  split <;> split <;> simp (disch := omega) only [i64_of_bounds] <;> omega

/-- exact below 2⁵⁷ bytes of input (a round bound, used by the bridges too): the product `32·rawLen` is not guarded and wraps
from 2⁵⁸ − 256 on (`C08tr.maxXRefEntries_exact_false`) -/
theorem maxXRefEntries_spec_partial (n : Int) (h : IsI64 n) (hn : n < 144115188075855872) :
    lim_MaxXRefEntries n = lim_XRefEntriesBase + lim_XRefEntriesPerByte * max n 0 := by
  unfold lim_MaxXRefEntries lim_XRefEntriesBase lim_XRefEntriesPerByte
  unfold IsI64 at h
  simp only [Id.run, pure, decide_eq_true_eq]
  split <;> simp (disch := omega) only [i64_of_bounds] <;> omega

/-- `FlatePredictor.isValid`: exactly the values of PDF table 10 and the unset zero value -/
theorem predictor_isValid_iff (p : Int) :
    pdf_FlatePredictor_isValid p = true ↔ p = 0 ∨ p = 1 ∨ p = 2 ∨ (10 ≤ p ∧ p ≤ 15) := by
  unfold pdf_FlatePredictor_isValid
  simp only [go_ret, reduceCtorEq]
  omega

theorem ccittMaxRows_eq (c : Int) :
    pdf_ccittMaxRows c = some (max 1 (min 65536 (134217728 / max c 1))) := by
  unfold pdf_ccittMaxRows
  rw [quo64_pos (by omega) (by omega) (by omega)]
  rfl

theorem ccitt_validate_iff (f : pdf_FilterCCITTFax) (v : Int) :
    pdf_FilterCCITTFax_validate f v = some none ↔
      (0 ≤ f.Columns ∧ f.Columns ≤ 1048576) ∧
      (0 ≤ f.Rows ∧ f.Rows ≤ max 1 (min 65536 (134217728 / max (if f.Columns = 0 then 1728 else f.Columns) 1))) ∧
      (0 ≤ f.DamagedRowsBeforeError ∧ f.DamagedRowsBeforeError ≤ 1048576) := by
  unfold pdf_FilterCCITTFax_validate
  simp only [go_ret, ccittMaxRows_eq, bind, Option.bind_some, Bool.not_eq_true', decide_eq_false_iff_not,
    Option.some.injEq, reduceCtorEq, if_true]
  -- `Columns == 0` stands for 1728 in the argument of `ccittMaxRows`: the two cases of that shorthand
  by_cases h0 : f.Columns = 0
  · simp only [h0, if_true]
    generalize max 1 (min 65536 (134217728 / max 1728 1)) = M
    grind
  · simp only [h0, if_false]
    generalize max 1 (min 65536 (134217728 / max f.Columns 1)) = M
    grind

theorem predictParams_eq (p colors bpc columns : Int) :
    pdf_predictParams p colors bpc columns =
      ⟨if colors = 0 then 1 else colors, if bpc = 0 then 8 else bpc, if columns = 0 then 1 else columns,
       if p = 0 then 1 else p⟩ := by
  unfold pdf_predictParams
  by_cases h1 : colors = 0 <;> by_cases h2 : bpc = 0 <;> by_cases h3 : columns = 0 <;> by_cases h4 : p = 0 <;>
    simp [Id.run, pure, h1, h2, h3, h4]

/-- each guard of the Go function is one conjunct of `FlateLZWValid`; 4 and 6 are `V1_3` (in `v < V1_3 && colors > 4`) and `V1_5` (in `checkVersionV`) -/
theorem validateFlateLZW_ok_iff (v p colors bpc columns : Int) :
    pdf_validateFlateLZW v p colors bpc columns = none ↔
      FB.FlateLZWValid v p colors bpc columns (pred_Params_Validate (pdf_predictParams p colors bpc columns) = none) := by
  unfold pdf_validateFlateLZW pdf_checkVersionV FB.FlateLZWValid
  rw [← predictor_isValid_iff]
  generalize pred_Params_Validate (pdf_predictParams p colors bpc columns) = val
  generalize pdf_FlatePredictor_isValid p = ok
  simp only [Id, Id.run, pure]
  simp only [go_ret, Option.or_eq_none_iff, ne_eq, Bool.not_eq_true', Bool.and_eq_false_imp, reduceCtorEq]
  grind

end PdfVerif.C08tr
