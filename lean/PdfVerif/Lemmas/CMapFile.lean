import PdfVerif.Lemmas.CMapBox
import PdfVerif.Lemmas.CMapGroup
/-!
What CID CMap files and ToUnicode files (`Model/CCCMap.lean`) have in common, proved once: a file is a list of
singles and a list of ranges, and a range is a box of codes with a value for every position in it (`GRange`, `GFile`).
First-hit lookup, the enumeration of `All` under a budget, what a file built from a finite map answers
(`lookup_of_maps`, `mem_items_iff_maps`), the first loop of the two constructors (`Entries`) and the bookkeeping of
their run detection (`Renders`, `groups_renders`) never look at the kind of value.  The two kinds of file are the
views `cview` (Props/C13ccb) and `tview` (Props/C13ccc).
-/
/- `rangeCount` stands here, in namespace `C13ccd`, because `GRange.count` below is made of it, while the theorems of
Props/C13ccd.lean … C13ccj.lean, which state their budgets with it, come later. -/
namespace PdfVerif.C13ccd
open PdfVerif PdfVerif.CC PdfVerif.C13cc

def rangeCount (first last : Bytes) : Nat := if rangeIsValid first last then boxCount first last else 0

end PdfVerif.C13ccd

namespace PdfVerif.CMap
open PdfVerif PdfVerif.CC PdfVerif.C13cc PdfVerif.C13ccd

theorem rangeCount_append (key : Bytes) (x1 x2 : Nat) (h : x1 ≤ x2) : rangeCount (key ++ [x1]) (key ++ [x2]) = x2 - x1 + 1 := by
  have hv : rangeIsValid (key ++ [x1]) (key ++ [x2]) = true :=
    (rangeIsValid_iff _ _).mpr ⟨(inBox_append key x1 x2 _).mpr ⟨x1, rfl, Nat.le_refl _, h⟩, by simp⟩
  simp [rangeCount, hv, boxCount_append]

/-- Beyond `maxInt32` items the enumeration would go on to codes whose position `rangeIndex` refuses: hence `hn2`, which
every caller meets with the budget `MaxCMapMappings`. -/
theorem mem_codesInRange (first last : Bytes) (n : Nat) (hn : rangeCount first last ≤ n) (hn2 : n ≤ maxInt32)
    (i : Nat) (c : Bytes) :
    (i, c) ∈ codesInRange first last n ↔ rangeIsValid first last = true ∧ rangeIndex first last c = some i := by
  by_cases hv : rangeIsValid first last = true
  · simp only [rangeCount, hv, if_true] at hn
    simp only [hv, true_and, List.mem_iff_getElem?, codesInRange_getElem? first last n hv, rangeIndex_eq_some]
    constructor
    · rintro ⟨j, hj, rfl, h2, h3⟩
      exact ⟨h2, h3, Nat.le_trans (Nat.le_of_lt hj) hn2⟩
    · rintro ⟨h1, h2, _⟩
      exact ⟨i, Nat.lt_of_lt_of_le (h2 ▸ mixedIndex_lt first last c h1) hn, rfl, h1, h2⟩
  · simp [codesInRange, hv]

theorem codesInRange_len_count (first last : Bytes) (n : Nat) (hn : rangeCount first last ≤ n) :
    (codesInRange first last n).length = rangeCount first last := by
  by_cases hv : rangeIsValid first last = true
  · simp only [rangeCount, hv, if_true] at hn ⊢
    rw [length_codesInRange first last n hv, Nat.min_eq_right hn]
  · simp [codesInRange, rangeCount, hv]

theorem rangeIsValid_of_rangeIndex (f l c : Bytes) (i : Nat) (hc : c ≠ []) (h : rangeIndex f l c = some i) :
    rangeIsValid f l = true := by
  obtain ⟨h1, _, _⟩ := (rangeIndex_eq_some f l c i).mp h
  refine (rangeIsValid_iff f l).mpr ⟨inBox_first f l c h1, fun h0 => hc (List.length_eq_zero_iff.mp ?_)⟩
  rw [← (inBox_len f l c h1).1, h0]; rfl

/-- a range as both kinds of file read it: a box and the value at each position (`none`: a range that answers
nothing, as a ToUnicode range without values does) -/
structure GRange (β : Type) where
  first : Bytes
  last : Bytes
  val : Option (Nat → β)

structure GFile (β : Type) where
  singles : List (Bytes × β)
  ranges : List (GRange β)

variable {β : Type}

def GRange.hit (r : GRange β) (b : Bytes) : Option β :=
  match r.val, rangeIndex r.first r.last b with
  | some g, some i => some (g i)
  | _, _ => none

theorem GRange.hit_eq_some (r : GRange β) (b : Bytes) (v : β) :
    r.hit b = some v ↔ ∃ g i, r.val = some g ∧ rangeIndex r.first r.last b = some i ∧ v = g i := by
  unfold GRange.hit
  cases r.val <;> cases rangeIndex r.first r.last b <;> simp [eq_comm]

theorem GRange.hit_eq (r : GRange β) (b : Bytes) :
    r.hit b = r.val.bind fun g => (rangeIndex r.first r.last b).map g := by
  unfold GRange.hit
  cases r.val <;> cases rangeIndex r.first r.last b <;> rfl

/-- what the file says about `b`, whichever entry says it (the lookups return the first such `v`) -/
def GFile.Maps (G : GFile β) (b : Bytes) (v : β) : Prop :=
  (b, v) ∈ G.singles ∨ ∃ r ∈ G.ranges, r.hit b = some v

/-- singles before ranges, first hit wins: the order of `lookupMapped` and `ToUnicodeFile.Lookup` within one file -/
def GFile.lookup (G : GFile β) (b : Bytes) : Option β :=
  (G.singles.findSome? fun s => if s.1 == b then some s.2 else none).or (G.ranges.findSome? (·.hit b))

theorem GFile.lookup_eq (G : GFile β) (b : Bytes) :
    G.lookup b = (G.singles.findSome? fun s => if s.1 == b then some s.2 else none).or (G.ranges.findSome? (·.hit b)) := rfl

theorem GFile.lookup_some (G : GFile β) (b : Bytes) (v : β) (h : G.lookup b = some v) : G.Maps b v := by
  rcases Option.or_eq_some_iff.mp h with h | ⟨_, h⟩
  · obtain ⟨s, hs, hv⟩ := List.exists_of_findSome?_eq_some h
    split at hv
    · rename_i hb
      cases hv
      exact .inl (by rw [← (beq_iff_eq.mp hb)]; exact hs)
    · cases hv
  · obtain ⟨r, hr, hv⟩ := List.exists_of_findSome?_eq_some h
    exact .inr ⟨r, hr, hv⟩

theorem GFile.lookup_none (G : GFile β) (b : Bytes) (h : G.lookup b = none) (v : β) : ¬ G.Maps b v := by
  obtain ⟨h1, h2⟩ := Option.or_eq_none_iff.mp h
  rintro (hs | ⟨r, hr, hv⟩)
  · have := List.findSome?_eq_none_iff.mp h1 _ hs
    simp at this
  · rw [List.findSome?_eq_none_iff.mp h2 r hr] at hv; cases hv

def GRange.items (r : GRange β) (budget : Nat) : List (Bytes × β) :=
  match r.val with
  | none => []
  | some g => (codesInRange r.first r.last budget).map fun p => (p.2, g p.1)

def GRange.count (r : GRange β) : Nat := if r.val.isSome then rangeCount r.first r.last else 0

def itemsRanges : List (GRange β) → Nat → List (Bytes × β) × Nat
  | [], budget => ([], budget)
  | r :: rest, budget =>
    let q := itemsRanges rest (budget - (r.items budget).length)
    (r.items budget ++ q.1, q.2)

def rangesCount (l : List (GRange β)) : Nat := (l.map GRange.count).sum

/-- the ranges first, then the singles, as `All` does -/
def GFile.items (G : GFile β) (budget : Nat) : List (Bytes × β) :=
  (itemsRanges G.ranges budget).1 ++ G.singles.take (itemsRanges G.ranges budget).2

def GFile.demand (G : GFile β) : Nat := rangesCount G.ranges + G.singles.length

/-- what the enumeration lists: as `Maps`, but invalid ranges are skipped (ranges first, as `All` yields them; `Maps` has
the singles first, as the lookups search) -/
def GFile.Lists (G : GFile β) (b : Bytes) (v : β) : Prop :=
  (∃ r ∈ G.ranges, rangeIsValid r.first r.last = true ∧ r.hit b = some v) ∨ (b, v) ∈ G.singles

theorem GFile.lists_iff (G : GFile β) (b : Bytes) (v : β) :
    G.Lists b v ↔ (∃ r ∈ G.ranges, rangeIsValid r.first r.last = true ∧ r.hit b = some v) ∨ (b, v) ∈ G.singles := Iff.rfl

theorem GRange.count_of_isSome (r : GRange β) (h : r.val.isSome = true) : r.count = rangeCount r.first r.last :=
  if_pos h

theorem itemsRanges_cons (r : GRange β) (rest : List (GRange β)) (budget : Nat) :
    itemsRanges (r :: rest) budget =
      (r.items budget ++ (itemsRanges rest (budget - (r.items budget).length)).1,
        (itemsRanges rest (budget - (r.items budget).length)).2) := rfl

theorem rangesCount_cons (r : GRange β) (l : List (GRange β)) : rangesCount (r :: l) = r.count + rangesCount l := rfl

theorem GFile.items_eq (G : GFile β) (budget : Nat) :
    G.items budget = (itemsRanges G.ranges budget).1 ++ G.singles.take (itemsRanges G.ranges budget).2 := rfl

theorem GFile.demand_eq (G : GFile β) : G.demand = rangesCount G.ranges + G.singles.length := rfl

theorem GRange.length_items (r : GRange β) (n : Nat) (hn : r.count ≤ n) : (r.items n).length = r.count := by
  obtain ⟨f, l, val⟩ := r
  cases val with
  | none => rfl
  | some g => simpa [GRange.items, GRange.count] using codesInRange_len_count f l n hn

theorem GRange.mem_items (r : GRange β) (n : Nat) (hn : r.count ≤ n) (hn2 : n ≤ maxInt32) (b : Bytes) (v : β) :
    (b, v) ∈ r.items n ↔ rangeIsValid r.first r.last = true ∧ r.hit b = some v := by
  obtain ⟨f, l, val⟩ := r
  cases val with
  | none => exact ⟨fun h => (by cases h), fun h => (by cases h.2)⟩
  | some g =>
    simp only [GRange.items, List.mem_map, Prod.mk.injEq, Prod.exists]
    constructor
    · rintro ⟨i, c, hp, rfl, rfl⟩
      obtain ⟨h1, h2⟩ := (mem_codesInRange f l n hn hn2 i c).mp hp
      exact ⟨h1, by simp only [GRange.hit, h2]⟩
    · rintro ⟨h1, h⟩
      obtain ⟨_, i, e, h2, rfl⟩ := (GRange.hit_eq_some _ b v).mp h
      cases e
      exact ⟨i, b, (mem_codesInRange f l n hn hn2 i b).mpr ⟨h1, h2⟩, rfl, rfl⟩

theorem itemsRanges_count : ∀ (l : List (GRange β)) (budget : Nat), rangesCount l ≤ budget →
    (itemsRanges l budget).2 = budget - rangesCount l ∧ (itemsRanges l budget).1.length = rangesCount l := by
  intro l
  induction l with
  | nil => intro budget _; simp [itemsRanges, rangesCount]
  | cons r rest ih =>
    intro budget hb
    simp only [rangesCount, List.map_cons, List.sum_cons] at hb ⊢
    have hr : r.count ≤ budget := Nat.le_trans (Nat.le_add_right _ _) hb
    obtain ⟨i1, il⟩ := ih (budget - r.count) (Nat.le_sub_of_add_le' hb)
    refine ⟨?_, ?_⟩
    · simp only [itemsRanges, r.length_items budget hr, i1, Nat.sub_sub]; rfl
    · simp only [itemsRanges, r.length_items budget hr, List.length_append, il]; rfl

theorem mem_itemsRanges : ∀ (l : List (GRange β)) (budget : Nat), rangesCount l ≤ budget → budget ≤ maxInt32 →
    ∀ b v, (b, v) ∈ (itemsRanges l budget).1 ↔ ∃ r ∈ l, rangeIsValid r.first r.last = true ∧ r.hit b = some v := by
  intro l
  induction l with
  | nil => intro budget _ _; simp [itemsRanges]
  | cons r rest ih =>
    intro budget hb hb2 b v
    rw [rangesCount_cons] at hb
    have hr : r.count ≤ budget := Nat.le_trans (Nat.le_add_right _ _) hb
    simp only [itemsRanges, r.length_items budget hr, List.mem_append, r.mem_items budget hr hb2,
      ih (budget - r.count) (Nat.le_sub_of_add_le' hb) (Nat.le_trans (Nat.sub_le _ _) hb2), List.mem_cons, exists_eq_or_imp]

theorem GFile.mem_items (G : GFile β) (budget : Nat) (hb : G.demand ≤ budget) (hb2 : budget ≤ maxInt32) (b : Bytes) (v : β) :
    (b, v) ∈ G.items budget ↔ G.Lists b v := by
  have hr : rangesCount G.ranges ≤ budget := Nat.le_trans (Nat.le_add_right _ _) hb
  rw [GFile.items, List.mem_append, mem_itemsRanges G.ranges budget hr hb2, (itemsRanges_count G.ranges budget hr).1,
    List.take_of_length_le (Nat.le_sub_of_add_le' hb)]; rfl

theorem GFile.length_items (G : GFile β) (budget : Nat) (hb : G.demand ≤ budget) : (G.items budget).length = G.demand := by
  obtain ⟨a1, a2⟩ := itemsRanges_count G.ranges budget (Nat.le_trans (Nat.le_add_right _ _) hb)
  rw [GFile.items, List.length_append, a2, a1, List.take_of_length_le (Nat.le_sub_of_add_le' hb)]; rfl

theorem GFile.maps_of_lists (G : GFile β) {b : Bytes} {v : β} (h : G.Lists b v) : G.Maps b v :=
  h.elim (fun ⟨r, hr, _, h⟩ => .inr ⟨r, hr, h⟩) .inl

/-- the enumeration skips invalid ranges — in which no non-empty code has a position anyway -/
theorem GFile.lists_iff_maps (G : GFile β) (b : Bytes) (hne : b ≠ []) (v : β) : G.Lists b v ↔ G.Maps b v := by
  unfold GFile.Lists GFile.Maps
  rw [or_comm]
  refine or_congr_right (exists_congr fun r => and_congr_right fun _ => ⟨fun h => h.2, fun h => ⟨?_, h⟩⟩)
  obtain ⟨_, i, _, hi, _⟩ := (r.hit_eq_some b v).mp h
  exact rangeIsValid_of_rangeIndex _ _ b i hne hi

/-- `Skip` is the condition under which a pair of `data` is left out of the file (for `SetMapping`: the parents map the
code to the same value; for `NewToUnicodeFile`: never). -/
theorem GFile.lookup_of_maps {γ ε : Type} (G : GFile β) (data : List (γ × β)) (enc : γ → Except ε Bytes)
    (Skip : Bytes → β → Prop)
    (hm : ∀ b v, G.Maps b v ↔ ∃ p ∈ data, enc p.1 = .ok b ∧ p.2 = v ∧ ¬ Skip b v)
    (hfun : ∀ p ∈ data, ∀ q ∈ data, enc p.1 = enc q.1 → p.2 = q.2) :
    (∀ p ∈ data, ∀ bs, enc p.1 = .ok bs → G.lookup bs = some p.2 ∨ (G.lookup bs = none ∧ Skip bs p.2)) ∧
    (∀ bs, (∀ p ∈ data, enc p.1 ≠ .ok bs) → G.lookup bs = none) := by
  constructor
  · intro p hp bs hbs
    cases ho : G.lookup bs with
    | some v =>
      -- whatever the file maps `bs` to is the value of a pair with the same byte string
      obtain ⟨q, hq, h1, h2, _⟩ := (hm bs v).mp (G.lookup_some bs v ho)
      exact .inl (by rw [← h2, hfun q hq p hp (by rw [h1, hbs])])
    | none =>
      exact .inr ⟨rfl, Classical.not_not.mp fun hno => G.lookup_none bs ho p.2 ((hm bs p.2).mpr ⟨p, hp, hbs, rfl, hno⟩)⟩
  · intro bs hno
    cases ho : G.lookup bs with
    | none => rfl
    | some v =>
      obtain ⟨p, hp, h1, _⟩ := (hm bs v).mp (G.lookup_some bs v ho)
      exact absurd h1 (hno p hp)

theorem GFile.mem_items_iff_maps (G : GFile β) (hne : ∀ v, ¬ G.Maps [] v) (budget : Nat) (hb : G.demand ≤ budget)
    (hb2 : budget ≤ maxInt32) (b : Bytes) (v : β) : (b, v) ∈ G.items budget ↔ G.Maps b v := by
  rw [G.mem_items budget hb hb2]
  by_cases hb0 : b = []
  · subst hb0
    exact ⟨G.maps_of_lists, fun h => absurd h (hne v)⟩
  · exact G.lists_iff_maps b hb0 v

theorem eq_some_iff_of_unique {β : Type} {o : Option β} {C : β → Prop} (hsome : ∀ v, o = some v → C v)
    (hnone : o = none → ∀ v, ¬ C v) (huniq : ∀ v v', C v → C v' → v = v') (v : β) : o = some v ↔ C v := by
  refine ⟨hsome v, fun hc => ?_⟩
  cases ho : o with
  | none => exact absurd hc (hnone ho v)
  | some w => rw [huniq v w hc (hsome w ho)]

/-- `o` is any choice among the values the enumeration lists for `b`; it and the lookup hold `v` exactly when some entry
says `v`.  `b ≠ []`: an invalid range answers the lookup for the empty code but is not enumerated (`lists_iff_maps`). -/
theorem GFile.lookup_eq_of_items (G : GFile β) (b : Bytes) (hne : b ≠ [])
    (hfun : ∀ v v', G.Lists b v → G.Lists b v' → v = v') (budget : Nat) (hb : G.demand ≤ budget) (hb2 : budget ≤ maxInt32)
    (o : Option β) (hsome : ∀ v, o = some v → (b, v) ∈ G.items budget)
    (hnone : o = none → ∀ v, (b, v) ∉ G.items budget) : o = G.lookup b := by
  have hmem := G.mem_items budget hb hb2 b
  have h1 := eq_some_iff_of_unique (o := o) (C := G.Lists b) (fun v h => (hmem v).mp (hsome v h))
    (fun h v hc => hnone h v ((hmem v).mpr hc)) hfun
  have h2 := eq_some_iff_of_unique (o := G.lookup b) (C := G.Lists b)
    (fun v h => (G.lists_iff_maps b hne v).mpr (G.lookup_some b v h))
    (fun h v hc => G.lookup_none b h v ((G.lists_iff_maps b hne v).mp hc)) hfun
  exact Option.ext fun v => (h1 v).trans (h2 v).symm

/-- the first loop of `SetMapping` / `NewToUnicodeFile`, pair by pair: a pair of the map is left out (`Skip`, as in
`GFile.lookup_of_maps`) or its byte string is split into key and last byte -/
inductive Entries (codec : Codec) (Skip : Bytes → β → Prop) : List (Nat × β) → List (Entry β) → Prop
  | nil : Entries codec Skip [] []
  | skip {code v buf data es} : codec.appendCode code = .ok buf → Skip buf v → Entries codec Skip data es →
      Entries codec Skip ((code, v) :: data) es
  | keep {code v key x data es} : codec.appendCode code = .ok (key ++ [x]) → ¬ Skip (key ++ [x]) v →
      Entries codec Skip data es → Entries codec Skip ((code, v) :: data) (⟨key, x, v⟩ :: es)

theorem Entries.spec {codec : Codec} {Skip : Bytes → β → Prop} {data : List (Nat × β)} {es : List (Entry β)}
    (h : Entries codec Skip data es) :
    (∀ p ∈ data, ∃ bs, codec.appendCode p.1 = .ok bs) ∧ ((∀ b v, ¬ Skip b v) → es.length = data.length) ∧
    ∀ bytes v, (∃ e ∈ es, bytes = e.key ++ [e.x] ∧ v = e.val) ↔
      ∃ p ∈ data, codec.appendCode p.1 = .ok bytes ∧ p.2 = v ∧ ¬ Skip bytes v := by
  induction h with
  | nil => simp
  | skip hbuf hs _ ih =>
    obtain ⟨i1, _, i2⟩ := ih
    refine ⟨List.forall_mem_cons.mpr ⟨⟨_, hbuf⟩, i1⟩, fun hno => absurd hs (hno _ _), fun bytes v => ?_⟩
    simp only [i2, List.mem_cons, exists_eq_or_imp, hbuf, Except.ok.injEq]
    exact ⟨.inr, fun h => h.elim (fun ⟨e1, e2, hno⟩ => absurd (e1 ▸ e2 ▸ hs) hno) id⟩
  | keep hbuf hs _ ih =>
    obtain ⟨i1, il, i2⟩ := ih
    refine ⟨List.forall_mem_cons.mpr ⟨⟨_, hbuf⟩, i1⟩, fun hno => by rw [List.length_cons, List.length_cons, il hno],
      fun bytes v => ?_⟩
    simp only [List.mem_cons, exists_eq_or_imp, i2, hbuf, Except.ok.injEq]
    constructor
    · rintro (⟨rfl, rfl⟩ | h)
      · exact .inl ⟨rfl, rfl, hs⟩
      · exact .inr h
    · rintro (⟨rfl, rfl, _⟩ | h)
      · exact .inl ⟨rfl, rfl⟩
      · exact .inr h

theorem Entries.encodes {codec : Codec} {Skip : Bytes → β → Prop} {data : List (Nat × β)} {es : List (Entry β)}
    (h : Entries codec Skip data es) : ∀ p ∈ data, ∃ bs, codec.appendCode p.1 = .ok bs := h.spec.1

theorem Entries.length_eq {codec : Codec} {Skip : Bytes → β → Prop} {data : List (Nat × β)} {es : List (Entry β)}
    (h : Entries codec Skip data es) (hno : ∀ b v, ¬ Skip b v) : es.length = data.length := h.spec.2.1 hno

theorem Entries.mem_iff {codec : Codec} {Skip : Bytes → β → Prop} {data : List (Nat × β)} {es : List (Entry β)}
    (h : Entries codec Skip data es) (bytes : Bytes) (v : β) :
    (∃ e ∈ es, bytes = e.key ++ [e.x] ∧ v = e.val) ↔
      ∃ p ∈ data, codec.appendCode p.1 = .ok bytes ∧ p.2 = v ∧ ¬ Skip bytes v := h.spec.2.2 bytes v

abbrev GItem (β : Type) := Sum (Bytes × β) (GRange β)

def GItem.cov : GItem β → Bytes → β → Prop
  | .inl s, b, v => s = (b, v)
  | .inr r, b, v => r.hit b = some v

def GItem.size : GItem β → Nat
  | .inl _ => 1
  | .inr r => r.count

def GFile.ofItems (out : List (GItem β)) : GFile β := ⟨lefts out, rights out⟩

theorem GItem.cov_inl (s : Bytes × β) (b : Bytes) (v : β) : GItem.cov (.inl s) b v ↔ s = (b, v) := Iff.rfl

theorem GItem.cov_inr (r : GRange β) (b : Bytes) (v : β) : GItem.cov (.inr r) b v ↔ r.hit b = some v := Iff.rfl

theorem GItem.size_inl (s : Bytes × β) : GItem.size (.inl s) = 1 := rfl

theorem GItem.size_inr (r : GRange β) : GItem.size (.inr r) = r.count := rfl

/-- the file of a list of items read through a view of singles and of ranges -/
theorem GFile.ofItems_map {σ ρ : Type} (sv : σ → Bytes × β) (rv : ρ → GRange β) (out : List (Sum σ ρ)) :
    GFile.ofItems (out.map (Sum.map sv rv)) = ⟨(lefts out).map sv, (rights out).map rv⟩ := by
  rw [GFile.ofItems, lefts_map, rights_map]

theorem GFile.ofItems_maps (out : List (GItem β)) (b : Bytes) (v : β) :
    (GFile.ofItems out).Maps b v ↔ ∃ item ∈ out, item.cov b v := by
  rw [← exists_mem_lefts_or_rights out (GItem.cov · b v)]
  exact or_congr ⟨fun h => ⟨_, h, rfl⟩, fun ⟨_, h, e⟩ => e ▸ h⟩ Iff.rfl

theorem GFile.ofItems_demand (out : List (GItem β)) : (GFile.ofItems out).demand = (out.map GItem.size).sum := by
  induction out with
  | nil => rfl
  | cons x l ih =>
    rw [GFile.demand_eq] at ih ⊢
    cases x with
    | inl s =>
      show rangesCount (ofItems l).ranges + ((ofItems l).singles.length + 1) = _
      rw [List.map_cons, List.sum_cons, GItem.size_inl, ← ih]; omega
    | inr r =>
      show (r.count + rangesCount (ofItems l).ranges) + (ofItems l).singles.length = _
      rw [List.map_cons, List.sum_cons, GItem.size_inr, ← ih]; omega

/-- in a group sorted by last byte, the test `x == (prev + 1) % 256` of the run loops means `x = prev + 1`:
the wrap-around `255 → 0` would go down -/
theorem succ_byte {p x : Nat} (hle : p ≤ x) (hx : x < 256) (h : x = (p + 1) % 256) : x = p + 1 := by omega

/-- what the run loops keep: the items written for a pending run and the entries `grp` still to come say exactly what
the run (`run`, of `n` entries) and `grp` say, and ask for one enumeration item per entry -/
def Renders (key : Bytes) (items : List (GItem β)) (run : Bytes → β → Prop) (n : Nat) (grp : List (Entry β)) : Prop :=
  (∀ b v, (∃ item ∈ items, item.cov b v) ↔ run b v ∨ ∃ e ∈ grp, b = key ++ [e.x] ∧ v = e.val) ∧
  (items.map GItem.size).sum = n + grp.length

/-- the pending run is closed by `item`, and `e` starts the next one -/
theorem Renders.cons {key : Bytes} {item : GItem β} {items : List (GItem β)} {run : Bytes → β → Prop} {n : Nat}
    {e : Entry β} {grp : List (Entry β)} (hi : (∀ b v, item.cov b v ↔ run b v) ∧ item.size = n)
    (h : Renders key items (fun b v => b = key ++ [e.x] ∧ v = e.val) 1 grp) : Renders key (item :: items) run n (e :: grp) := by
  refine ⟨fun b v => ?_, ?_⟩
  · simp only [List.mem_cons, exists_eq_or_imp, hi.1, h.1]
  · simp only [List.map_cons, List.sum_cons, hi.2, h.2, List.length_cons]; omega

/-- the group ends: the pending run is closed by `item` -/
theorem Renders.single {key : Bytes} {item : GItem β} {run : Bytes → β → Prop} {n : Nat}
    (hi : (∀ b v, item.cov b v ↔ run b v) ∧ item.size = n) : Renders key [item] run n [] :=
  ⟨fun b v => by simp [hi.1], by simp [hi.2]⟩

/-- the group starts: its first entry `e` is the first pending run -/
theorem Renders.start {key : Bytes} {items : List (GItem β)} {e : Entry β} {grp : List (Entry β)}
    (h : Renders key items (fun b v => b = key ++ [e.x] ∧ v = e.val) 1 grp) :
    Renders key items (fun _ _ => False) 0 (e :: grp) :=
  ⟨fun b v => by rw [h.1]; simp only [List.mem_cons, exists_eq_or_imp, false_or],
    by rw [h.2, List.length_cons]; omega⟩

/-- `P` is whatever the run detection needs to know about single entries. -/
theorem groups_renders (runs : Bytes → List (Entry β) → List (GItem β)) (P : Entry β → Prop)
    (hruns : ∀ key grp, grp.Pairwise (fun a b => a.x ≤ b.x) → (∀ e ∈ grp, P e) → Renders key (runs key grp) (fun _ _ => False) 0 grp)
    (es : List (Entry β)) (hes : ∀ e ∈ es, P e) :
    (∀ b v, (∃ item ∈ (sortedKeys es).flatMap fun key => runs key (groupOf es key), item.cov b v) ↔
      ∃ e ∈ es, b = e.key ++ [e.x] ∧ v = e.val) ∧
    (((sortedKeys es).flatMap fun key => runs key (groupOf es key)).map GItem.size).sum = es.length := by
  have hG := fun k => hruns k _ (groupOf_sorted es k) (fun e he => hes e ((mem_groupOf es k e).mp he).1)
  refine ⟨fun b v => ⟨?_, ?_⟩, ?_⟩
  · rintro ⟨item, hitem, hc⟩
    obtain ⟨k, _, hitem⟩ := List.mem_flatMap.mp hitem
    rcases ((hG k).1 b v).mp ⟨item, hitem, hc⟩ with h | ⟨e, he, hb, hv⟩
    · exact h.elim
    · obtain ⟨he', rfl⟩ := (mem_groupOf es k e).mp he
      exact ⟨e, he', hb, hv⟩
  · rintro ⟨e, he, hb, hv⟩
    obtain ⟨item, hitem, hc⟩ := ((hG e.key).1 b v).mpr (.inr ⟨e, (mem_groupOf es _ e).mpr ⟨he, rfl⟩, hb, hv⟩)
    exact ⟨item, List.mem_flatMap.mpr ⟨e.key, (mem_sortedKeys es _).mpr ⟨e, he, rfl⟩, hitem⟩, hc⟩
  · rw [← sum_group_lengths es]
    induction sortedKeys es with
    | nil => rfl
    | cons k ks ih =>
      simp only [List.flatMap_cons, List.map_append, List.sum_append_nat, ih, List.map_cons, List.sum_cons, (hG k).2,
        Nat.zero_add]

end PdfVerif.CMap
