import PdfVerif.Model.TRSPageTree
/-!
The page tree writer's methods and `step` (`Model/TRSPageTree.lean`), read once: for each method the
inversion of its successful return (`appendHere_ok`, `newRangeHere_ok`, `close_ok`,
`nextPageNumberHere_ok`), `PW.updateAt` on the empty and on a longer path, and `step` as "the operation's
method applied at its path" (`step_eq`, `step_ok`), `run_cons`.  `Props/C16trs`, `C16trsb`, `C16trsc`,
`C16trsg` read the model through these; the methods themselves are opened only by the safety walk of
`C16trsb` (every exit, not only the successful return) and by the flat programs of `C16trsc` (`step`
computed on the flat root).  The names are `C16trs.*`, as the theorems of those files use them.
-/
namespace PdfVerif.C16trs
open PdfVerif PdfVerif.TRSP

theorem maxDegree_ge_two : 2 ≤ maxDegree := by decide

/-- the node `AppendPage*` makes of a page -/
def leaf (id : Nat) (a : Attrs) : PNode := { tree := .page id none a, count := 1, depth := 0 }

theorem appendHere_ok {id : Nat} {a : Attrs} {w w' : PW} {g g' : G} (h : appendHere id a w g = .ok (w', g')) :
    ∃ f h1 f' tail2, w.closed = false ∧ w.npn = some f ∧ whenAvailableAll f w.npnCb g.heap = .ok h1 ∧
      incFut f h1 = .ok (f', g'.heap) ∧
      appendLoop ((w.tail ++ [leaf id a]).length + 1) (w.tail ++ [leaf id a]) g.ctx = .ok (tail2, g'.ctx) ∧
      w' = .mk w.isBefore false w.children tail2 (some f') [] w.numPagesCb := by
  obtain ⟨isB, closed, children, tail, npn, npnCb, numPagesCb⟩ := w
  revert h
  fun_cases appendHere id a (.mk isB closed children tail npn npnCb numPagesCb) g <;> intro h <;> try cases h
  -- the one exit that returns a writer
  obtain ⟨rfl, rfl⟩ := Prod.mk.inj (Except.ok.inj h)
  cases (Bool.not_eq_true _).mp ‹¬_ = true›
  exact ⟨_, _, _, _, rfl, rfl, ‹whenAvailableAll _ _ _ = _›, ‹incFut _ _ = _›, ‹appendLoop _ _ _ = _›, rfl⟩

/-- what `NewRange` splits off the tail: a `before` writer holding it, or nothing if it is empty -/
def beforeOf (tail : List PNode) : List PW :=
  if tail.length > 0 then [PW.mk true false [] tail none [] []] else []

theorem append_beforeOf (children : List PW) (tail : List PNode) :
    (if tail.length > 0 then children ++ [PW.mk true false [] tail none [] []] else children) =
      children ++ beforeOf tail := by
  unfold beforeOf
  split <;> simp

theorem mem_beforeOf {tail : List PNode} {c : PW} (h : c ∈ beforeOf tail) : c = PW.mk true false [] tail none [] [] := by
  unfold beforeOf at h
  split at h
  · exact List.mem_singleton.mp h
  · cases h

theorem newRangeHere_ok {w w' : PW} {g g' : G} (h : newRangeHere w g = .ok (w', g')) :
    ∃ f h2, w.closed = false ∧ w.npn = some f ∧
      whenAvailable f (.update g.heap.futs.length)
        { g.heap with futs := g.heap.futs ++ [{ val := 0, numMissing := 2, cb := [] }] } = .ok h2 ∧
      g' = { g with heap := h2 } ∧
      w' = .mk w.isBefore false
        (w.children ++ beforeOf w.tail ++ [.mk false false [] [] (some f) [] [.update g.heap.futs.length]])
        [] (some g.heap.futs.length) w.npnCb w.numPagesCb := by
  revert h
  fun_cases newRangeHere w g <;> intro h <;> cases h
  -- the one exit that returns a writer; `+zetaDelta` unfolds the model's `let`s
  cases (Bool.not_eq_true _).mp ‹¬_ = true›
  refine ⟨_, _, rfl, rfl, ‹whenAvailable _ _ _ = _›, rfl, ?_⟩
  simp +zetaDelta only [PW.isBefore, PW.children, PW.tail, PW.npnCb, PW.numPagesCb, append_beforeOf]

theorem close_ok {w w' : PW} {g g' : G} (h : w.close g = .ok (w', g')) :
    ∃ nodes g1 tail1 ctx2 h2 h3, w.closed = false ∧ closeChildren w.children [] g = .ok (nodes, g1) ∧
      merge nodes w.tail g1.ctx = .ok (tail1, ctx2) ∧ depthsOK none tail1 = true ∧
      callAll w.numPagesCb (sumCounts tail1 : Nat) g1.heap = .ok h2 ∧ callAll w.npnCb (-1) h2 = .ok h3 ∧
      w' = .mk w.isBefore true [] tail1 w.npn [] w.numPagesCb ∧ g' = { heap := h3, ctx := ctx2 } := by
  obtain ⟨isB, closed, children, tail, npn, npnCb, numPagesCb⟩ := w
  unfold PW.close at h
  split at h
  · cases h
  · rename_i hcl
    split at h
    · cases h
    · rename_i nodes g1 hcc
      split at h
      · cases h
      · rename_i tail1 ctx2 hm
        split at h
        · cases h
        · rename_i hd
          split at h
          · cases h
          · rename_i h2 hc1
            split at h
            · cases h
            · rename_i h3 hc2
              cases h
              exact ⟨nodes, g1, tail1, ctx2, h2, h3, by simpa [PW.closed] using hcl, hcc, hm, by simpa using hd, hc1, hc2,
                rfl, rfl⟩

theorem nextPageNumberHere_closed (k : Nat) (isB : Bool) (children : List PW) (tail : List PNode)
    (npn : Option Nat) (npnCb np : List FCb) (g : G) :
    nextPageNumberHere k (.mk isB true children tail npn npnCb np) g =
      .ok (.mk isB true children tail npn npnCb np,
        { g with heap := { g.heap with log := g.heap.log ++ [(k, -1)] } }) := rfl

theorem nextPageNumberHere_open (k : Nat) (isB : Bool) (children : List PW) (tail : List PNode)
    (npn : Option Nat) (npnCb np : List FCb) (g : G) :
    nextPageNumberHere k (.mk isB false children tail npn npnCb np) g =
      .ok (.mk isB false children tail npn (npnCb ++ [.user k]) np, g) := rfl

theorem nextPageNumberHere_ok {k : Nat} {w w' : PW} {g g' : G} (h : nextPageNumberHere k w g = .ok (w', g')) :
    (w.closed = true ∧ w' = w ∧ g'.heap.futs = g.heap.futs ∧ g'.ctx = g.ctx) ∨
    (w.closed = false ∧ g' = g ∧
      w' = .mk w.isBefore false w.children w.tail w.npn (w.npnCb ++ [.user k]) w.numPagesCb) := by
  obtain ⟨isB, closed, children, tail, npn, npnCb, np⟩ := w
  cases closed with
  | true => rw [nextPageNumberHere_closed] at h; cases h; exact .inl ⟨rfl, rfl, rfl, rfl⟩
  | false => rw [nextPageNumberHere_open] at h; cases h; exact .inr ⟨rfl, rfl, rfl⟩

theorem updateAt_nil (f : PW → G → Except PErr (PW × G)) (w : PW) (g : G) : PW.updateAt f [] w g = f w g := by
  simp only [PW.updateAt]

theorem updateAt_cons_ok {f : PW → G → Except PErr (PW × G)} {i : Nat} {rest : List Nat} {isB closed : Bool}
    {children : List PW} {tail : List PNode} {npn : Option Nat} {npnCb numPagesCb : List FCb} {g g' : G} {w' : PW}
    (h : PW.updateAt f (i :: rest) (.mk isB closed children tail npn npnCb numPagesCb) g = .ok (w', g')) :
    ∃ j child child', subIndex children i = some j ∧ children[j]? = some child ∧
      PW.updateAt f rest child g = .ok (child', g') ∧
      w' = .mk isB closed (children.set j child') tail npn npnCb numPagesCb := by
  unfold PW.updateAt at h
  split at h
  · cases h
  · rename_i j hs
    split at h
    · cases h
    · rename_i child hj
      split at h
      · cases h
      · rename_i child' g1 hc
        cases h
        exact ⟨j, child, child', hs, hj, hc, rfl⟩

theorem updateAt_g (F : PW → G → Except PErr (PW × G)) (R : G → G → Prop)
    (hF : ∀ w g w' g', F w g = .ok (w', g') → R g g') :
    ∀ (path : List Nat) (w w' : PW) (g g' : G), PW.updateAt F path w g = .ok (w', g') → R g g'
  | [], w, w', g, g', hu => hF w g w' g' hu
  | i :: rest, .mk isB closed children tail npn npnCb numPagesCb, w', g, g', hu => by
    obtain ⟨j, child, child', _, _, hu', _⟩ := updateAt_cons_ok hu
    exact updateAt_g F R hF rest _ _ _ _ hu'

/-! ## an operation is its method, applied at its path -/

/-- the method an operation calls on the writer it addresses -/
def opHere : POp → PW → G → Except PErr (PW × G)
  | .append _ id a => appendHere id a
  | .newRange _ => newRangeHere
  | .close _ => PW.close
  | .nextPageNumber _ k => nextPageNumberHere k

def opPath : POp → List Nat
  | .append p _ _ | .newRange p | .close p | .nextPageNumber p _ => p

@[simp] theorem opPath_nextPageNumber (p : List Nat) (k : Nat) : opPath (.nextPageNumber p k) = p := rfl

/-- the operations addressed to the root -/
theorem opPath_eq_nil {op : POp} (h : opPath op = []) :
    (∃ id a, op = .append [] id a) ∨ op = .newRange [] ∨ op = .close [] ∨ ∃ k, op = .nextPageNumber [] k := by
  cases op with
  | append p id a => exact .inl ⟨id, a, by rw [show p = [] from h]⟩
  | newRange p => exact .inr (.inl (by rw [show p = [] from h]))
  | close p => exact .inr (.inr (.inl (by rw [show p = [] from h])))
  | nextPageNumber p k => exact .inr (.inr (.inr ⟨k, by rw [show p = [] from h]⟩))

/-- what a call on a writer that is closed or no longer exists leaves behind -/
def rejected (s : PState) : POp → PState × Outcome
  | .nextPageNumber _ k => (logCb s k (-1), .ok)
  | _ => (s, .closed)

@[simp] theorem rejected_append (s : PState) (p : List Nat) (id : Nat) (a : Attrs) :
    rejected s (.append p id a) = (s, .closed) := rfl
@[simp] theorem rejected_newRange (s : PState) (p : List Nat) : rejected s (.newRange p) = (s, .closed) := rfl
@[simp] theorem rejected_close (s : PState) (p : List Nat) : rejected s (.close p) = (s, .closed) := rfl
@[simp] theorem rejected_nextPageNumber (s : PState) (p : List Nat) (k : Nat) :
    rejected s (.nextPageNumber p k) = (logCb s k (-1), .ok) := rfl

theorem step_eq (s : PState) (op : POp) (hop : op ≠ .close []) :
    step s op = match s.root.updateAt (opHere op) (opPath op) s.g with
      | .error .closed => .ok (rejected s op)
      | .error e => .error e
      | .ok (r, g) => .ok ({ s with root := r, g := g }, .ok) := by
  cases op with
  | close p => cases p with
    | nil => exact absurd rfl hop
    | cons i q =>
      simp only [step, opHere, opPath, rejected]
      generalize PW.updateAt _ _ s.root s.g = r
      rcases r with e | ⟨r, g⟩
      · cases e <;> rfl
      · rfl
  | _ =>
    simp only [step, opHere, opPath, rejected]
    generalize PW.updateAt _ _ s.root s.g = r
    rcases r with e | ⟨r, g⟩
    · cases e <;> rfl
    · rfl

theorem step_closeRoot (s : PState) :
    step s (.close []) = match closeRoot s.root s.g with
      | .error .closed => .ok (s, .closed)
      | .error e => .error e
      | .ok (r, g, some t) => .ok ({ root := r, g := g, result := some t }, .ok)
      | .ok (r, g, none) => .ok ({ s with root := r, g := g }, .noPages) := by
  simp only [step]
  generalize closeRoot s.root s.g = r
  rcases r with e | ⟨r, g, _ | t⟩
  · cases e <;> rfl
  · rfl
  · rfl

theorem step_ok {s s' : PState} {op : POp} {o : Outcome} (h : step s op = .ok (s', o)) :
    (s', o) = rejected s op ∨
    (∃ r g, s.root.updateAt (opHere op) (opPath op) s.g = .ok (r, g) ∧ op ≠ .close [] ∧
      s' = { s with root := r, g := g } ∧ o = .ok) ∨
    (op = .close [] ∧ ∃ r g t, closeRoot s.root s.g = .ok (r, g, t) ∧ s'.root = r ∧ s'.g = g ∧
      ((∃ x, t = some x ∧ s'.result = some x ∧ o = .ok) ∨ (t = none ∧ s'.result = s.result ∧ o = .noPages))) := by
  by_cases hop : op = .close []
  · subst hop
    rw [step_closeRoot] at h
    split at h
    · cases h; exact .inl rfl
    · cases h
    · cases h; exact .inr (.inr ⟨rfl, _, _, _, ‹_›, rfl, rfl, .inl ⟨_, rfl, rfl, rfl⟩⟩)
    · cases h; exact .inr (.inr ⟨rfl, _, _, _, ‹_›, rfl, rfl, .inr ⟨rfl, rfl, rfl⟩⟩)
  · rw [step_eq s op hop] at h
    split at h
    · exact .inl (Except.ok.inj h).symm
    · cases h
    · cases h; exact .inr (.inl ⟨_, _, ‹_›, hop, rfl, rfl⟩)

theorem run_cons {s s_end : PState} {op : POp} {rest : List POp} {outs : List Outcome}
    (h : run s (op :: rest) = .ok (s_end, outs)) :
    ∃ s1 o os, step s op = .ok (s1, o) ∧ run s1 rest = .ok (s_end, os) ∧ outs = o :: os := by
  simp only [run] at h
  split at h
  · cases h
  · rename_i s1 o hs
    split at h
    · cases h
    · rename_i s2 os hr
      cases h
      exact ⟨s1, o, os, hs, hr, rfl⟩

theorem run_length : ∀ (ops : List POp) (s s1 : PState) (outs : List Outcome),
    run s ops = .ok (s1, outs) → outs.length = ops.length
  | [], s, s1, outs, h => by simp only [run] at h; cases h; rfl
  | x :: xs, s, s1, outs, h => by
    obtain ⟨sa, oa, os, hs, hr, rfl⟩ := run_cons h
    simp [run_length xs sa s1 os hr]

end PdfVerif.C16trs
