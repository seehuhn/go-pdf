import PdfVerif.Lemmas.C01Defs
import PdfVerif.Lemmas.BytesOrder
/-!
On key-unique lists the insertion sort `sortKV` and `Dict.SortedKeys`
(`sortedEntries`) depend only on the *set* of entries.  (That Go's string order `bytesLt` is a strict
total order and that the sorts permute their input is in `Lemmas/BytesOrder.lean`.)
-/
namespace PdfVerif.C01L
open PdfVerif

def KeyLt (a b : Bytes × Obj) : Prop := bytesLt a.1 b.1 = true

theorem insertKey_sorted (k : Bytes × Obj) (l : List (Bytes × Obj)) (hs : l.Pairwise KeyLt)
    (hk : k.1 ∉ keysOf l) : (insertKey k l).Pairwise KeyLt := by
  fun_induction insertKey k l with
  | case1 => exact List.pairwise_singleton _ _
  | case2 x xs hlt =>                                           -- before the head
    refine List.pairwise_cons.mpr ⟨fun y hy => ?_, hs⟩
    rcases List.mem_cons.mp hy with rfl | hy
    · exact hlt
    · exact bytesLt_trans _ _ _ hlt ((List.pairwise_cons.mp hs).1 y hy)
  | case3 x xs hlt ih =>                                         -- behind the head
    have hx := List.pairwise_cons.mp hs
    have hxk : bytesLt x.1 k.1 = true :=
      (bytesLt_total k.1 x.1 (fun h => hk (mem_keysOf.mpr ⟨x, List.mem_cons_self, h.symm⟩))).resolve_left hlt
    refine List.pairwise_cons.mpr ⟨fun y hy => ?_, ih hx.2 (fun h => hk (List.mem_cons_of_mem _ h))⟩
    rcases List.mem_cons.mp ((insertKey_perm k xs).mem_iff.mp hy) with rfl | hy
    · exact hxk
    · exact hx.1 y hy

theorem keysOf_perm {l1 l2 : List (Bytes × Obj)} (h : l1.Perm l2) : (keysOf l1).Perm (keysOf l2) :=
  h.map _

theorem sortKV_sorted (l : List (Bytes × Obj)) (hn : (keysOf l).Nodup) : (sortKV l).Pairwise KeyLt := by
  induction l with
  | nil => simp [sortKV]
  | cons x xs ih =>
    have hc := List.nodup_cons.mp (show (x.1 :: keysOf xs).Nodup from hn)
    refine insertKey_sorted x (sortKV xs) (ih hc.2) ?_
    intro h
    exact hc.1 ((keysOf_perm (sortKV_perm xs)).mem_iff.mp h)

theorem sortKV_perm_eq {l1 l2 : List (Bytes × Obj)} (h : l1.Perm l2) (hn : (keysOf l1).Nodup) :
    sortKV l1 = sortKV l2 := by
  -- two lists sorted by the strict order `KeyLt` that are permutations of each other are equal
  have hn2 : (keysOf l2).Nodup := (keysOf_perm h).nodup hn
  refine List.Perm.eq_of_pairwise (le := KeyLt) ?_ (sortKV_sorted l1 hn) (sortKV_sorted l2 hn2)
    ((sortKV_perm l1).trans (h.trans (sortKV_perm l2).symm))
  intro a b _ _ hab hba
  have := bytesLt_asymm _ _ hab
  simp [KeyLt] at hba
  simp [hba] at this

theorem filter_sub_nodup (p : Bytes × Obj → Bool) (l : List (Bytes × Obj)) (hn : (keysOf l).Nodup) :
    (keysOf (l.filter p)).Nodup :=
  List.Nodup.sublist ((List.filter_sublist).map _) hn

theorem same_key_short (k : Bytes) (l : List (Bytes × Obj)) (hn : (keysOf l).Nodup)
    (hk : ∀ e ∈ l, e.1 = k) : l = [] ∨ ∃ e, l = [e] := by
  cases l with
  | nil => left; rfl
  | cons a t =>
    cases t with
    | nil => right; exact ⟨a, rfl⟩
    | cons b t' =>
      have h1 := hk a (by simp)
      have h2 := hk b (by simp)
      rw [keysOf_cons, keysOf_cons, h1, h2] at hn
      exact absurd List.mem_cons_self (List.nodup_cons.mp hn).1

theorem filter_key_perm_eq (k : Bytes) {l1 l2 : List (Bytes × Obj)} (h : l1.Perm l2)
    (hn : (keysOf l1).Nodup) :
    l1.filter (fun e => e.1 == k) = l2.filter (fun e => e.1 == k) := by
  have hp := h.filter (fun e => e.1 == k)
  have hk : ∀ e ∈ l1.filter (fun e => e.1 == k), e.1 = k := by
    intro e he; simpa using (List.mem_filter.mp he).2
  rcases same_key_short k _ (filter_sub_nodup _ l1 hn) hk with h0 | ⟨e, h1⟩
  · rw [h0] at hp ⊢; exact (hp.symm.eq_nil).symm
  · rw [h1] at hp ⊢; exact (List.perm_singleton.mp hp.symm).symm

theorem sortedEntries_perm_eq {l1 l2 : List (Bytes × Obj)} (h : l1.Perm l2) (hn : (keysOf l1).Nodup) :
    sortedEntries l1 = sortedEntries l2 := by
  unfold sortedEntries
  rw [filter_key_perm_eq keyType h hn, filter_key_perm_eq keySubtype h hn,
    sortKV_perm_eq (h.filter _) (filter_sub_nodup _ l1 hn)]

theorem keyType_ne : (keyType == keySubtype) = false := by decide

end PdfVerif.C01L
