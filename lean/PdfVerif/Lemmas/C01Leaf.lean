import PdfVerif.Lemmas.ScanBytes
import PdfVerif.Lemmas.ScanNum
/-!
The leaf readers of the scanner model (`readNameBody`, `readStringBody`, `readOctTail`,
`readHexBody`), in two namespaces.  First, in `C04hisc`, one step of each, by the byte it looks at, while fuel and cap
last (`readNameBody_plain`, `rsb_*`, `readHexBody_lo`, …): the equations that `Props/C04hisc.lean` chains along a
conforming spelling, under the names that file cites them by.  Then, in `C01L`, for ALL inputs: how much input the
readers consume, the size of what they return, and that they fail only with `eof` or `malformed` (`ScanErr`), never
with the model's out-of-fuel error.
-/
namespace PdfVerif.C04hisc
open PdfVerif
open PdfVerif.C01L (isRegular_eq)
open PdfVerif.Spec.Grammar (isWhite isRegularCh isOctCh hexDigit? notOctHead)

/-! What the readers with a length cap and with fuel share.  `len + v.length ≤ cap`: `len` bytes are
collected, `v` is still to come.  `s.length < fuel`: the fuel covers the spelling that is left and the
byte that ends it. -/

theorem cap_head {len n cap : Nat} (h : len + n ≤ cap) : len ≤ cap := Nat.le_trans (Nat.le_add_right len n) h

theorem cap_next {len n cap : Nat} (h : len + (n + 1) ≤ cap) : len < cap := Nat.lt_of_lt_of_le (by omega) h

theorem cap_tail {len n cap : Nat} (h : len + (n + 1) ≤ cap) : len + 1 + n ≤ cap := by
  rw [Nat.add_right_comm]; exact h

/-- a step takes one unit of fuel and the first `m + 1` bytes of the spelling -/
theorem fuel_step {n fuel : Nat} (m : Nat) (h : n + m + 1 < fuel) : n < fuel - 1 := by omega

def NameEnd : Bytes → Prop
  | [] => True
  | d :: _ => isRegularCh d = false

section
variable {fuel len n : Nat} {r : Bytes} (hf : n < fuel)
include hf

theorem readNameBody_end (hr : NameEnd r) : readNameBody fuel len r = .ok ([], r) := by
  cases fuel with
  | zero => nomatch hf
  | succ f =>
    cases r with
    | nil => rfl
    | cons d ds =>
      have hr : isRegularCh d = false := hr
      have hne : d ≠ 35 := by rintro rfl; exact absurd hr (by decide)
      simp [readNameBody, hne, isRegular_eq, hr]

variable {m : Nat} (hl : len + (m + 1) ≤ Gen.scanner_maxNameBytes)
include hl

theorem readNameBody_plain {c : Nat} (hreg : isRegularCh c = true) (h35 : c ≠ 35) :
    readNameBody fuel len (c :: r) = consRes c (readNameBody (fuel - 1) (len + 1) r) := by
  cases fuel with
  | zero => nomatch hf
  | succ f => simp [readNameBody, isRegular_eq, hreg, h35, Nat.not_le.2 (cap_next hl)]

theorem readNameBody_esc {h l a b : Nat} (hh : hexDigit? h = some a) (hlo : hexDigit? l = some b) :
    readNameBody fuel len (35 :: h :: l :: r) = consRes (a * 16 + b) (readNameBody (fuel - 1) (len + 1) r) := by
  have hh' : hexVal h = some a := hh
  have hl' : hexVal l = some b := hlo
  cases fuel with
  | zero => nomatch hf
  | succ f => simp [readNameBody, hh', hl', Nat.not_le.2 (cap_next hl)]
end

/-- Table 3, and "a backslash before any other character is ignored": the byte `\e` stands for -/
def escValue (e : Nat) : Nat :=
  if e == 110 then 10 else if e == 114 then 13 else if e == 116 then 9 else if e == 98 then 8
  else if e == 102 then 12 else e

theorem escValue_self {e : Nat} (hn : e ≠ 110) (hr : e ≠ 114) (ht : e ≠ 116) (hb : e ≠ 98) (hf : e ≠ 102) :
    escValue e = e := by
  simp [escValue, hn, hr, ht, hb, hf]

theorem octTail_digit (o k : Nat) {d : Nat} (hd : d < 8) (cs : Bytes) :
    readOctTail o (k + 1) ((48 + d) :: cs) = readOctTail ((o * 8 + d) % 256) k cs := by
  have : isOct (48 + d) = true := by simp [isOct]; omega
  simp [readOctTail, this]

theorem oct2_lt {d1 d2 : Nat} (h1 : d1 < 8) (h2 : d2 < 8) : d1 * 8 + d2 < 256 := by omega

theorem octTail_stop (s rest : Bytes) (h : notOctHead s) (o k : Nat) :
    readOctTail o k (s ++ 41 :: rest) = (o, s ++ 41 :: rest) := by
  cases k with
  | zero => rfl
  | succ k =>
    cases s with
    | nil => rfl
    | cons d ds => simp [readOctTail, show isOct d = false from h]

/-! One step of `readStringBody` (`rsb_*`), by the byte (behind a backslash: the two bytes) it looks at, while
the fuel is not used up (`hf`) and the cap not exceeded (`hl`). -/
section
variable {fuel l len n m : Nat} {ign : Bool} {r : Bytes} (hf : n < fuel) (hl : len + m ≤ Gen.scanner_maxStringBytes)
include hf hl

theorem rsb_open :
    readStringBody fuel l ign len (40 :: r) = consRes 40 (readStringBody (fuel - 1) (l + 1) false (len + 1) r) := by
  cases fuel with
  | zero => nomatch hf
  | succ f => simp [readStringBody, Nat.not_lt.2 (cap_head hl)]

theorem rsb_close_outer : readStringBody fuel 1 ign len (41 :: r) = .ok ([], r) := by
  cases fuel with
  | zero => nomatch hf
  | succ f => simp [readStringBody, Nat.not_lt.2 (cap_head hl)]

theorem rsb_close (hl1 : l ≠ 1) :
    readStringBody fuel l ign len (41 :: r) = consRes 41 (readStringBody (fuel - 1) (l - 1) false (len + 1) r) := by
  cases fuel with
  | zero => nomatch hf
  | succ f => simp [readStringBody, Nat.not_lt.2 (cap_head hl), hl1]

theorem rsb_cr : readStringBody fuel l ign len (13 :: r) = consRes 10 (readStringBody (fuel - 1) l true (len + 1) r) := by
  cases fuel with
  | zero => nomatch hf
  | succ f => simp [readStringBody, Nat.not_lt.2 (cap_head hl)]

theorem rsb_lf_ignored : readStringBody fuel l true len (10 :: r) = readStringBody (fuel - 1) l false len r := by
  cases fuel with
  | zero => nomatch hf
  | succ f => simp [readStringBody, Nat.not_lt.2 (cap_head hl)]

theorem rsb_plain {b : Nat} (h40 : b ≠ 40) (h41 : b ≠ 41) (h92 : b ≠ 92) (h13 : b ≠ 13) (hig : ign = true → b ≠ 10) :
    readStringBody fuel l ign len (b :: r) = consRes b (readStringBody (fuel - 1) l false (len + 1) r) := by
  have : (ign && b == 10) = false := by cases ign <;> simp; exact hig rfl
  cases fuel with
  | zero => nomatch hf
  | succ f => simp [readStringBody, Nat.not_lt.2 (cap_head hl), h40, h41, h92, h13, this]

theorem rsb_esc_lf : readStringBody fuel l ign len (92 :: 10 :: r) = readStringBody (fuel - 1) l false len r := by
  cases fuel with
  | zero => nomatch hf
  | succ f => simp [readStringBody, Nat.not_lt.2 (cap_head hl)]

theorem rsb_esc_cr : readStringBody fuel l ign len (92 :: 13 :: r) = readStringBody (fuel - 1) l true len r := by
  cases fuel with
  | zero => nomatch hf
  | succ f => simp [readStringBody, Nat.not_lt.2 (cap_head hl)]

theorem rsb_esc_oct {d : Nat} (hd : d < 8) :
    readStringBody fuel l ign len (92 :: (48 + d) :: r) =
      consRes (readOctTail d 2 r).1 (readStringBody (fuel - 1) l false (len + 1) (readOctTail d 2 r).2) := by
  have ho : isOct (48 + d) = true := by simp [isOct]; omega
  have hne : ∀ k, 56 ≤ k ∨ k < 48 → (48 + d == k) = false := by intro k hk; simp; omega
  cases fuel with
  | zero => nomatch hf
  | succ f => simp [readStringBody, Nat.not_lt.2 (cap_head hl), hne, ho]

theorem rsb_esc_lit {e : Nat} (h10 : e ≠ 10) (h13 : e ≠ 13) (ho : isOctCh e = false) :
    readStringBody fuel l ign len (92 :: e :: r) =
      consRes (escValue e) (readStringBody (fuel - 1) l false (len + 1) r) := by
  have ho' : isOct e = false := ho
  cases fuel with
  | zero => nomatch hf
  | succ f =>
    simp [readStringBody, Nat.not_lt.2 (cap_head hl), h10, h13, ho', escValue,
      apply_ite (consRes · (readStringBody f l false (len + 1) r))]
end

theorem white_not_hex (c : Nat) (h : isWhite c = true) : (c == 62) = false ∧ hexVal c = none := by
  simp [isWhite] at h
  rcases h with ((((rfl | rfl) | rfl) | rfl) | rfl) | rfl <;> decide

theorem hexdigit_not_gt (c d : Nat) (h : hexDigit? c = some d) : (c == 62) = false := by
  cases hc : c == 62
  · rfl
  · rw [eq_of_beq hc] at h; simp [hexDigit?] at h

theorem readHexBody_white {c : Nat} (hc : isWhite c = true) (p : Option Nat) (len : Nat) (cs : Bytes) :
    readHexBody p len (c :: cs) = readHexBody p len cs := by
  simp [readHexBody, white_not_hex c hc]

theorem readHexBody_hi {c d : Nat} (hd : hexDigit? c = some d) (len : Nat) (cs : Bytes) :
    readHexBody none len (c :: cs) = readHexBody (some d) len cs := by
  simp [readHexBody, hexdigit_not_gt c d hd, show hexVal c = some d from hd]

theorem readHexBody_lo {c d : Nat} (hd : hexDigit? c = some d) (h : Nat) {len m : Nat}
    (hl : len + (m + 1) ≤ Gen.scanner_maxStringBytes) (cs : Bytes) :
    readHexBody (some h) len (c :: cs) = consRes (16 * h + d) (readHexBody none (len + 1) cs) := by
  simp [readHexBody, hexdigit_not_gt c d hd, show hexVal c = some d from hd, Nat.not_le.2 (cap_next hl)]

end PdfVerif.C04hisc

namespace PdfVerif.C01L
open PdfVerif
open PdfVerif.Spec.Grammar (isWhite isDelim isRegularCh)

/-- the error classes the scanner reports on its own: end of input, or a malformed file (never
    the model's out-of-fuel error, nor an error of the byte source) -/
def ScanErr (e : Err) : Prop := e = .eof ∨ e = .malformed

theorem ScanErr.ne_other {e : Err} (h : ScanErr e) : e ≠ .other := by
  rcases h with rfl | rfl <;> exact fun h => nomatch h

theorem consRes_ok_inv {x : Nat} {res : Except Err (Bytes × Bytes)} {s r : Bytes}
    (h : consRes x res = .ok (s, r)) : ∃ s', res = .ok (s', r) ∧ s = x :: s' := by
  cases res with
  | error e => simp at h
  | ok p => obtain ⟨s', r'⟩ := p; simp at h; exact ⟨s', by rw [h.2], h.1.symm⟩

theorem consRes_err_inv {x : Nat} {res : Except Err (Bytes × Bytes)} {e : Err}
    (h : consRes x res = .error e) : res = .error e := by
  cases res with
  | error e' => simpa using h
  | ok p => obtain ⟨a, b⟩ := p; simp at h

theorem readNameBody_spec (f len : Nat) (inp : Bytes) :
    (∀ n r, readNameBody f len inp = .ok (n, r) →
      r.length ≤ inp.length ∧ (len ≤ Gen.scanner_maxNameBytes → len + n.length ≤ Gen.scanner_maxNameBytes)) ∧
    (∀ e, readNameBody f len inp = .error e → e = .malformed) := by
  -- a branch that goes on appends one byte to what the rest gives (`res`), behind one or three input bytes
  have step : ∀ {len x : Nat} {rest' inp : Bytes} {res : Except Err (Bytes × Bytes)},
      rest'.length ≤ inp.length → ¬ len ≥ Gen.scanner_maxNameBytes →
      ((∀ n r, res = .ok (n, r) → r.length ≤ rest'.length ∧
          (len + 1 ≤ Gen.scanner_maxNameBytes → len + 1 + n.length ≤ Gen.scanner_maxNameBytes)) ∧
        (∀ e, res = .error e → e = .malformed)) →
      (∀ n r, consRes x res = .ok (n, r) → r.length ≤ inp.length ∧
          (len ≤ Gen.scanner_maxNameBytes → len + n.length ≤ Gen.scanner_maxNameBytes)) ∧
        (∀ e, consRes x res = .error e → e = .malformed) := by
    intro len x rest' inp res hr hc ih
    refine ⟨fun n r h => ?_, fun e h => ih.2 e (consRes_err_inv h)⟩
    obtain ⟨s', h1, rfl⟩ := consRes_ok_inv h
    have := ih.1 s' r h1
    exact ⟨by omega, fun _ => by have := this.2 (by omega); simp; omega⟩
  fun_induction readNameBody f len inp with
  | case1 | case2 | case3 => simp                              -- out of fuel, end of input, the terminating byte
  | case4 => simp                                               -- the cap
  | case5 _ _ _ _ hc _ _ _ _ _ _ _ _ ih => exact step (by simp; omega) hc ih   -- `#xx`
  | case6 _ _ _ _ hc _ _ _ _ _ ih => exact step (Nat.le_succ _) hc ih        -- `#` without two hex digits
  | case7 _ _ _ _ _ hc _ _ ih => exact step (Nat.le_succ _) hc ih            -- `#` with less than two bytes behind it
  | case8 _ _ _ _ _ hc _ ih => exact step (Nat.le_succ _) hc ih              -- a plain byte

theorem readName_spec (inp n r : Bytes) (h : readName inp = .ok (n, r)) :
    r.length < inp.length ∧ n.length ≤ Gen.scanner_maxNameBytes := by
  revert h
  fun_cases readName inp with
  | case1 rest =>
    intro h; have := (readNameBody_spec _ 0 rest).1 n r h
    exact ⟨by simp; omega, by have := this.2 (by omega); omega⟩
  | case2 => exact nofun

theorem readName_err (inp : Bytes) (e : Err) (h : readName inp = .error e) : e = .malformed := by
  revert h
  fun_cases readName inp with
  | case1 => exact (readNameBody_spec _ _ _).2 e
  | case2 => exact fun h => (Except.error.inj h).symm

/-- a value `readObject` returns without a recursive call, within the cap of its kind -/
def LeafVal : Obj → Prop
  | .null => True
  | .bool _ => True
  | .int i => -9223372036854775808 ≤ i ∧ i ≤ 9223372036854775807
  | .real t => t.length ≤ Gen.scanner_maxNameBytes
  | .name n => n.length ≤ Gen.scanner_maxNameBytes
  | .str s => s.length ≤ Gen.scanner_maxStringBytes
  | _ => False

theorem readNumber_spec (inp : Bytes) (o : Obj) (r : Bytes) (h : readNumber inp = .ok (o, r)) :
    r.length < inp.length ∧ LeafVal o := by
  -- a token that is not empty leaves less than the input
  have pos : ∀ {t r}, scanNumTok true false true inp = (t, r) → t ≠ [] → r.length < inp.length := fun ht hne => by
    have := scanNumTok_len true false true inp
    simp only [ht] at this
    have := List.length_pos_iff.mpr hne
    omega
  revert h
  fun_cases readNumber inp with
  | case1 | case4 => exact nofun                                -- over the cap; no digit
  | case2 t _ ht _ _ i hi =>                                     -- an integer
    rintro ⟨⟩
    have ⟨hne, hr⟩ := parseInt64_some t i (by split at hi <;> first | cases hi | exact hi)
    exact ⟨pos ht hne, hr⟩
  | case3 t _ ht hcap _ _ hd =>                                  -- a real
    rintro ⟨⟩
    exact ⟨pos ht (by rintro rfl; cases hd), Nat.le_of_not_gt hcap⟩

theorem readNumber_err (inp : Bytes) (e : Err) (h : readNumber inp = .error e) : e = .malformed := by
  revert h
  fun_cases readNumber inp with
  | case1 | case4 => exact fun h => (Except.error.inj h).symm   -- over the cap; no digit
  | case2 | case3 => exact nofun

theorem readInteger_spec (inp : Bytes) (b : Int) (r : Bytes) (h : readInteger inp = .ok (b, r)) :
    r.length ≤ inp.length := by
  revert h
  fun_cases readInteger inp with
  | case1 | case3 => exact nofun                                -- over the cap; no integer
  | case2 inp' _ hs t _ ht =>
    rintro ⟨⟩
    have h1 := skipWS_len inp
    have h2 := scanNumTok_len false false true inp'
    simp only [hs] at h1; simp only [ht] at h2; omega

theorem readInteger_err (inp : Bytes) (e : Err) (h : readInteger inp = .error e) : e = .malformed := by
  revert h
  fun_cases readInteger inp with
  | case1 | case3 => exact fun h => (Except.error.inj h).symm   -- over the cap; no integer
  | case2 => exact nofun

theorem readOctTail_len (k o : Nat) (inp : Bytes) : (readOctTail o k inp).2.length ≤ inp.length := by
  fun_induction readOctTail o k inp with
  | case1 | case2 | case4 => simp
  | case3 _ _ _ _ _ ih => exact Nat.le_succ_of_le ih

/-- what `readStringBody` returns: less input and a string within the cap, or an error of the scanner's own
    when the fuel covers the input -/
theorem readStringBody_res (f lvl : Nat) (ig : Bool) (len : Nat) (inp : Bytes) :
    (∀ s r, readStringBody f lvl ig len inp = .ok (s, r) →
      r.length < inp.length ∧ len + s.length ≤ Gen.scanner_maxStringBytes) ∧
    (∀ e, readStringBody f lvl ig len inp = .error e → inp.length < f → ScanErr e) := by
  -- a branch that goes on gives what the rest gives (`res`) on a shorter input with one unit of fuel less,
  -- as it is (`skip`) or behind one more byte (`app`)
  have skip : ∀ {f len : Nat} {inp' inp : Bytes} {res : Except Err (Bytes × Bytes)},
      ((∀ s r, res = .ok (s, r) → r.length < inp'.length ∧ len + s.length ≤ Gen.scanner_maxStringBytes) ∧
        (∀ e, res = .error e → inp'.length < f → ScanErr e)) → inp'.length < inp.length →
      (∀ s r, res = .ok (s, r) → r.length < inp.length ∧ len + s.length ≤ Gen.scanner_maxStringBytes) ∧
        (∀ e, res = .error e → inp.length < f + 1 → ScanErr e) :=
    fun ih hi => ⟨fun s r h => ⟨Nat.lt_trans (ih.1 s r h).1 hi, (ih.1 s r h).2⟩, fun e h hf => ih.2 e h (by omega)⟩
  have app : ∀ {f len x : Nat} {inp' inp : Bytes} {res : Except Err (Bytes × Bytes)},
      ((∀ s r, res = .ok (s, r) → r.length < inp'.length ∧ len + 1 + s.length ≤ Gen.scanner_maxStringBytes) ∧
        (∀ e, res = .error e → inp'.length < f → ScanErr e)) → inp'.length < inp.length →
      (∀ s r, consRes x res = .ok (s, r) → r.length < inp.length ∧ len + s.length ≤ Gen.scanner_maxStringBytes) ∧
        (∀ e, consRes x res = .error e → inp.length < f + 1 → ScanErr e) := by
    refine fun ih hi => ⟨fun s r h => ?_, fun e h hf => ih.2 e (consRes_err_inv h) (by omega)⟩
    obtain ⟨s', h1, rfl⟩ := consRes_ok_inv h
    exact ⟨Nat.lt_trans (ih.1 s' r h1).1 hi, by have := (ih.1 s' r h1).2; simp; omega⟩
  have oct : ∀ {o v : Nat} {r r2 : Bytes}, readOctTail o 2 r = (v, r2) → r2.length ≤ r.length :=
    fun {o _ r _} h => by have := readOctTail_len 2 o r; rwa [h] at this
  -- the case numbers follow the text of `readStringBody` from top to bottom
  fun_induction readStringBody f lvl ig len inp with
  | case1 => exact ⟨nofun, fun _ _ h => absurd h (Nat.not_lt_zero _)⟩              -- out of fuel
  | case2 => exact ⟨nofun, fun _ h _ => .inr (Except.error.inj h).symm⟩             -- over the cap
  | case3 | case8 => exact ⟨nofun, fun _ h _ => .inl (Except.error.inj h).symm⟩     -- end of input
  | case6 => exact ⟨by rintro _ _ ⟨⟩; exact ⟨Nat.lt_succ_self _, Nat.le_of_not_gt ‹_›⟩, nofun⟩   -- `)` that closes the string
  | case4 => exact skip ‹_› (Nat.lt_succ_self _)                 -- LF after CR: ignored
  | case14 | case15 => exact skip ‹_› (Nat.lt_succ_of_lt (Nat.lt_succ_self _))   -- `\LF`, `\CR`: ignored
  | case5 | case7 | case18 | case19 => exact app ‹_› (Nat.lt_succ_self _)        -- parentheses, CR, a plain byte
  | case9 | case10 | case11 | case12 | case13 | case17 =>        -- an escape of one byte
    exact app ‹_› (Nat.lt_succ_of_lt (Nat.lt_succ_self _))
  | case16 => exact app ‹_› (Nat.lt_of_le_of_lt (oct ‹_›) (Nat.lt_succ_of_lt (Nat.lt_succ_self _)))   -- an octal escape

/-- the cap applies to the final unpaired digit as well -/
theorem readHexBody_spec (inp : Bytes) (p : Option Nat) (len : Nat) :
    (∀ s r, readHexBody p len inp = .ok (s, r) → r.length < inp.length ∧
      (len ≤ Gen.scanner_maxStringBytes → len + s.length ≤ Gen.scanner_maxStringBytes)) ∧
    (∀ e, readHexBody p len inp = .error e → ScanErr e) := by
  -- a byte that is skipped, or kept as the pending digit: what the rest gives (`res`), one byte further on
  have skip : ∀ {len c : Nat} {cs : Bytes} {res : Except Err (Bytes × Bytes)},
      ((∀ s r, res = .ok (s, r) → r.length < cs.length ∧
          (len ≤ Gen.scanner_maxStringBytes → len + s.length ≤ Gen.scanner_maxStringBytes)) ∧
        (∀ e, res = .error e → ScanErr e)) →
      (∀ s r, res = .ok (s, r) → r.length < (c :: cs).length ∧
          (len ≤ Gen.scanner_maxStringBytes → len + s.length ≤ Gen.scanner_maxStringBytes)) ∧
        (∀ e, res = .error e → ScanErr e) :=
    fun ih => ⟨fun s r h => ⟨Nat.lt_succ_of_lt (ih.1 s r h).1, (ih.1 s r h).2⟩, ih.2⟩
  fun_induction readHexBody p len inp with
  | case1 => simp [ScanErr]                                    -- end of input
  | case2 => simp [ScanErr]                                    -- `>` with a pending digit, at the cap
  | case3 _ _ _ _ _ hc => simp; omega                          -- `>` with a pending digit
  | case4 => simp                                               -- `>`
  | case5 _ _ _ _ _ _ ih => exact skip ih
  | case6 _ _ _ _ _ _ ih => exact skip ih
  | case7 => simp [ScanErr]                                    -- the second digit of a pair, at the cap
  | case8 len c cs _ _ _ _ hc ih =>                             -- the second digit of a pair
    refine ⟨fun s r h => ?_, fun e h => ih.2 e (consRes_err_inv h)⟩
    obtain ⟨s', h1, rfl⟩ := consRes_ok_inv h
    have := ih.1 s' r h1
    exact ⟨by simp; omega, fun _ => by have := this.2 (by omega); simp; omega⟩

theorem readString_spec (inp s r : Bytes) (h : readString inp = .ok (s, r)) :
    r.length < inp.length ∧ s.length ≤ Gen.scanner_maxStringBytes := by
  have := (readStringBody_res _ _ _ _ _).1 _ _ h
  exact ⟨this.1, by omega⟩

theorem readString_err (inp : Bytes) (e : Err) (h : readString inp = .error e) : ScanErr e :=
  (readStringBody_res _ _ _ _ _).2 e h (by omega)

theorem readHexString_spec (inp s r : Bytes) (h : readHexString inp = .ok (s, r)) :
    r.length < inp.length ∧ s.length ≤ Gen.scanner_maxStringBytes := by
  have := (readHexBody_spec _ _ _).1 _ _ h
  exact ⟨this.1, by have := this.2 (by omega); omega⟩

theorem readHexString_err (inp : Bytes) (e : Err) (h : readHexString inp = .error e) : ScanErr e :=
  (readHexBody_spec _ _ _).2 e h

end PdfVerif.C01L
