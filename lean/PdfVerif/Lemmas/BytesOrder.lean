import PdfVerif.Model.Format
/-!
Go's string comparison on byte strings (`bytesLt`, `Basic.lean`) is a strict total order, and the
insertion sort of `Model/Format.lean` built on it (`insertKey`, `sortKV`, `sortedEntries` =
`Dict.SortedKeys`) permutes its input.  Used wherever keys are sorted or searched: dictionaries
(C01, C02, C11, C15), CMap entries (C13), name trees (C17).
-/
namespace PdfVerif

theorem bytesLt_cons (x y : Nat) (xs ys : Bytes) :
    bytesLt (x :: xs) (y :: ys) = true ↔ x < y ∨ (x = y ∧ bytesLt xs ys = true) := by
  simp only [bytesLt]
  by_cases h1 : x < y
  · simp [h1]
  · by_cases h2 : y < x
    · simp [h1, h2]; omega
    · have : x = y := by omega
      subst this; simp

theorem bytesLt_irrefl : ∀ a : Bytes, bytesLt a a = false
  | [] => rfl
  | x :: xs => Bool.eq_false_iff.mpr fun h =>
    ((bytesLt_cons x x xs xs).mp h).elim (Nat.lt_irrefl x) fun h' => Bool.noConfusion ((bytesLt_irrefl xs).symm.trans h'.2)

theorem bytesLt_trans : ∀ a b c : Bytes, bytesLt a b = true → bytesLt b c = true → bytesLt a c = true
  | [], [], _, h, _ => nomatch h
  | [], _ :: _, [], _, h => nomatch h
  | [], _ :: _, _ :: _, _, _ => rfl
  | _ :: _, [], _, h, _ => nomatch h
  | _ :: _, _ :: _, [], _, h => nomatch h
  | x :: xs, y :: ys, z :: zs, h1, h2 => by
    rw [bytesLt_cons] at h1 h2 ⊢
    rcases h1 with h1 | ⟨e1, h1⟩ <;> rcases h2 with h2 | ⟨e2, h2⟩
    · left; omega
    · left; omega
    · left; omega
    · right; exact ⟨by omega, bytesLt_trans xs ys zs h1 h2⟩

theorem bytesLt_trichotomy : ∀ a b : Bytes, bytesLt a b = true ∨ a = b ∨ bytesLt b a = true
  | [], [] => by simp
  | [], _ :: _ => .inl rfl
  | _ :: _, [] => .inr (.inr rfl)
  | x :: xs, y :: ys => by
    rw [bytesLt_cons, bytesLt_cons]
    rcases Nat.lt_trichotomy x y with h | h | h
    · left; left; exact h
    · subst h
      rcases bytesLt_trichotomy xs ys with h | h | h
      · left; right; exact ⟨rfl, h⟩
      · right; left; rw [h]
      · right; right; right; exact ⟨rfl, h⟩
    · right; right; left; exact h

theorem bytesLt_total (a b : Bytes) (h : a ≠ b) : bytesLt a b = true ∨ bytesLt b a = true := by
  rcases bytesLt_trichotomy a b with h1 | h1 | h1
  · exact .inl h1
  · exact absurd h1 h
  · exact .inr h1

theorem bytesLt_asymm (a b : Bytes) (h : bytesLt a b = true) : bytesLt b a = false := by
  cases hba : bytesLt b a with
  | false => rfl
  | true => have := bytesLt_trans a b a h hba; rw [bytesLt_irrefl] at this; cases this

theorem insertKey_perm (k : Bytes × Obj) (l : List (Bytes × Obj)) : (insertKey k l).Perm (k :: l) := by
  induction l with
  | nil => exact .refl _
  | cons x xs ih =>
    simp only [insertKey]
    split
    · exact .refl _
    · exact (ih.cons x).trans (.swap k x xs)

theorem sortKV_perm (l : List (Bytes × Obj)) : (sortKV l).Perm l := by
  induction l with
  | nil => exact .refl _
  | cons x xs ih => exact (insertKey_perm x (sortKV xs)).trans (ih.cons x)

/-- `SortedKeys` lists every entry exactly once: the three parts (`/Type`, `/Subtype`, the sorted
    rest) are the entries split by two successive filters -/
theorem sortedEntries_perm (l : List (Bytes × Obj)) : (sortedEntries l).Perm l := by
  unfold sortedEntries
  have h1 := List.filter_append_perm (fun e : Bytes × Obj => e.1 == keyType) l
  have h2 := List.filter_append_perm (fun e : Bytes × Obj => e.1 == keySubtype)
    (l.filter (fun e => !(e.1 == keyType)))
  have e1 : (l.filter (fun e => !(e.1 == keyType))).filter (fun e => e.1 == keySubtype)
      = l.filter (fun e => e.1 == keySubtype) := by
    rw [List.filter_filter]
    congr 1
    funext e
    by_cases hs : e.1 = keySubtype
    · have : ¬ keySubtype = keyType := by decide
      simp [hs, this]
    · simp [hs]
  have e2 : (l.filter (fun e => !(e.1 == keyType))).filter (fun e => !(e.1 == keySubtype))
      = l.filter (fun e => e.1 != keyType && e.1 != keySubtype) := by
    rw [List.filter_filter]
    congr 1
    funext e
    simp [bne, Bool.and_comm]
  rw [e1, e2] at h2
  rw [List.append_assoc]
  exact ((List.Perm.refl _).append (((List.Perm.refl _).append (sortKV_perm _)).trans h2)).trans h1

end PdfVerif
