import PdfVerif.Spec.CPYIso
/-!
C11 — lemmas about the source side of the copier (`Model/CPYGraph`), `put` and the image
functions of `Spec/CPYIso`, none of them about the copier's recursion: association lists, induction over
objects and `mapObj` constructor by constructor, `SortedKeys` under a map of the values, what `get` and
`resolve` return, sizes and references, and that no function of the source side nor `put` reports `fuel`
(each walked by its own `fun_cases`/`fun_induction`, one line per exit).
-/
namespace PdfVerif.CPY
theorem assoc_append {α : Type} (r : Ref) (a b : List (Ref × α)) :
    assoc r (a ++ b) = match assoc r a with | some v => some v | none => assoc r b := by
  induction a with
  | nil => simp [assoc]
  | cons p a ih =>
    obtain ⟨k, v⟩ := p
    simp only [List.cons_append, assoc]
    split <;> simp_all

theorem assoc_append_none {α : Type} (r : Ref) (a b : List (Ref × α)) :
    assoc r (a ++ b) = none ↔ assoc r a = none ∧ assoc r b = none := by
  rw [assoc_append]
  cases assoc r a <;> simp

theorem assoc_none_iff {α : Type} (r : Ref) (l : List (Ref × α)) :
    assoc r l = none ↔ r ∉ l.map Prod.fst := by
  induction l with
  | nil => simp [assoc]
  | cons p l ih =>
    obtain ⟨k, v⟩ := p
    simp only [assoc, List.map_cons, List.mem_cons, not_or]
    split
    · next h => simp [h]
    · next h => simp [ih, Ne.symm h]

theorem assoc_some_mem {α : Type} (r : Ref) (l : List (Ref × α)) (v : α) :
    assoc r l = some v → (r, v) ∈ l := by
  induction l with
  | nil => simp [assoc]
  | cons p l ih =>
    obtain ⟨k, w⟩ := p
    simp only [assoc]
    split
    · next h => intro hv; simp_all
    · next h => intro hv; exact List.mem_cons_of_mem _ (ih hv)

theorem assoc_of_mem_nodup {α : Type} (r : Ref) (v : α) (l : List (Ref × α))
    (hn : (l.map Prod.fst).Nodup) (hm : (r, v) ∈ l) : assoc r l = some v := by
  induction l with
  | nil => simp at hm
  | cons p l ih =>
    obtain ⟨k, w⟩ := p
    simp only [List.map_cons, List.nodup_cons] at hn
    simp only [assoc]
    rcases List.mem_cons.mp hm with h | h
    · cases h; simp
    · have : k ≠ r := by
        intro e; subst e
        exact hn.1 (List.mem_map.mpr ⟨(k, v), h, rfl⟩)
      simp [this, ih hn.2 h]

/-- `atom` is stated with the side conditions of the catch-all equations of `mapObj`, `orefs`, ... -/
theorem obj_induct {P : Obj → Prop} {PL : List Obj → Prop} {PK : KV → Prop}
    (atom : ∀ o, (∀ n g, o = .ref n g → False) → (∀ xs, o = .arr xs → False) →
      (∀ kv, o = .dict kv → False) → P o)
    (ref : ∀ n g, P (.ref n g))
    (arr : ∀ xs, PL xs → P (.arr xs)) (dict : ∀ kv, PK kv → P (.dict kv))
    (nil : PL []) (cons : ∀ x xs, P x → PL xs → PL (x :: xs))
    (knil : PK []) (kcons : ∀ k v rest, P v → PK rest → PK ((k, v) :: rest)) :
    (∀ o, P o) ∧ (∀ xs, PL xs) ∧ (∀ kv, PK kv) := by
  have atom' : ∀ o, (match o with | .ref _ _ | .arr _ | .dict _ => False | _ => True) → P o :=
    fun o h => atom o (by rintro _ _ rfl; exact h) (by rintro _ rfl; exact h) (by rintro _ rfl; exact h)
  have hO : ∀ o, P o := fun o =>
    Obj.rec (motive_1 := P) (motive_2 := PL) (motive_3 := PK) (motive_4 := fun p => P p.2)
      (atom' .null trivial) (atom' .nilArr trivial) (fun _ => atom' _ trivial) (fun _ => atom' _ trivial)
      (fun _ => atom' _ trivial) (fun _ => atom' _ trivial) (fun _ => atom' _ trivial)
      (fun _ => atom' _ trivial) ref arr dict nil (fun x xs => cons x xs) knil
      (fun p rest => kcons p.1 p.2 rest) (fun _ _ h => h) o
  refine ⟨hO, fun xs => ?_, fun kv => ?_⟩
  · induction xs with
    | nil => exact nil
    | cons x xs ih => exact cons x xs (hO x) ih
  · induction kv with
    | nil => exact knil
    | cons p rest ih => exact kcons p.1 p.2 rest (hO p.2) ih

theorem mapObj_atom (tr : List (Ref × Ref)) {o : Obj} (h1 : ∀ n g, o = .ref n g → False)
    (h2 : ∀ xs, o = .arr xs → False) (h3 : ∀ kv, o = .dict kv → False) : mapObj tr o = some o := by
  cases o <;> first | rfl | exact (h1 _ _ rfl).elim | exact (h2 _ rfl).elim | exact (h3 _ rfl).elim

theorem orefs_atom {o : Obj} (h1 : ∀ n g, o = .ref n g → False) (h2 : ∀ xs, o = .arr xs → False)
    (h3 : ∀ kv, o = .dict kv → False) : orefs o = [] := by
  cases o <;> first | rfl | exact (h1 _ _ rfl).elim | exact (h2 _ rfl).elim | exact (h3 _ rfl).elim

theorem mapObj_ref {tr : List (Ref × Ref)} {n g : Nat} {y : Obj} :
    mapObj tr (.ref n g) = some y ↔ ∃ t, assoc (n, g) tr = some t ∧ y = .ref t.1 t.2 := by
  simp only [mapObj]
  cases assoc (n, g) tr <;> simp [eq_comm]

theorem mapObj_arr {tr : List (Ref × Ref)} {xs : List Obj} {y : Obj} :
    mapObj tr (.arr xs) = some y ↔ ∃ ys, mapList tr xs = some ys ∧ y = .arr ys := by
  simp only [mapObj]
  cases mapList tr xs <;> simp [eq_comm]

theorem mapObj_dict {tr : List (Ref × Ref)} {kv : KV} {y : Obj} :
    mapObj tr (.dict kv) = some y ↔ ∃ kv', mapKV tr kv = some kv' ∧ y = .dict kv' := by
  simp only [mapObj]
  cases mapKV tr kv <;> simp [eq_comm]

theorem mapList_cons {tr : List (Ref × Ref)} {x : Obj} {xs ys : List Obj} :
    mapList tr (x :: xs) = some ys ↔
      ∃ y ys', mapObj tr x = some y ∧ mapList tr xs = some ys' ∧ ys = y :: ys' := by
  simp only [mapList]
  cases mapObj tr x with
  | none => simp
  | some y =>
    cases mapList tr xs with
    | none => simp
    | some ys' => simp [eq_comm]

theorem mapKV_cons {tr : List (Ref × Ref)} {k : Bytes} {v : Obj} {rest kv' : KV} :
    mapKV tr ((k, v) :: rest) = some kv' ↔
      ∃ v' rest', mapObj tr v = some v' ∧ mapKV tr rest = some rest' ∧ kv' = (k, v') :: rest' := by
  simp only [mapKV]
  cases mapObj tr v with
  | none => simp
  | some v' =>
    cases mapKV tr rest with
    | none => simp
    | some rest' => simp [eq_comm]

theorem mapVal_obj {tr : List (Ref × Ref)} {o : Obj} {v : Val} :
    mapVal tr (.obj o) = some v ↔ ∃ o', mapObj tr o = some o' ∧ v = .obj o' := by
  simp only [mapVal]
  cases mapObj tr o <;> simp [eq_comm]

theorem mapVal_stream {tr : List (Ref × Ref)} {d : KV} {data : Bytes} {enc : Bool} {v : Val} :
    mapVal tr (.stream d data enc) = some v ↔ ∃ d', mapKV tr d = some d' ∧ v = .stream d' data enc := by
  simp only [mapVal]
  cases mapKV tr d <;> simp [eq_comm]

theorem get_err_cases {G : Graph} {r : Ref} {cs : Bool} {e : CErr} :
    CPY.get G r cs = .error e → e = .malformed ∨ e = .read := by
  fun_cases CPY.get G r cs with
  | case1 | case5 => exact nofun   -- no entry: null; a readable value
  | case2 | case4 => exact fun h => by cases h; exact .inl rfl   -- a bad entry; a value in an object stream
  | case3 => exact fun h => by cases h; exact .inr rfl   -- an entry that cannot be read

def onVal (f : Obj → Obj) (p : Bytes × Obj) : Bytes × Obj := (p.1, f p.2)

theorem insertKey_map (f : Obj → Obj) (k : Bytes × Obj) (l : KV) :
    insertKey (onVal f k) (l.map (onVal f)) = (insertKey k l).map (onVal f) := by
  induction l with
  | nil => simp [insertKey]
  | cons x xs ih =>
    simp only [List.map_cons, insertKey, onVal]
    split
    · simp [onVal]
    · simp only [List.map_cons, onVal, List.cons.injEq, true_and]
      exact ih

theorem sortKV_map (f : Obj → Obj) (l : KV) : sortKV (l.map (onVal f)) = (sortKV l).map (onVal f) := by
  induction l with
  | nil => simp [sortKV]
  | cons x xs ih => simp only [List.map_cons, sortKV, ih, insertKey_map]

theorem sortedEntries_map (f : Obj → Obj) (l : KV) :
    sortedEntries (l.map (onVal f)) = (sortedEntries l).map (onVal f) := by
  simp only [sortedEntries, List.filter_map, List.map_append, ← sortKV_map]
  rfl

theorem orderedKV_eq_map (l : KV) : orderedKV l = l.map (onVal ordered) := by
  induction l with
  | nil => simp [orderedKV]
  | cons x xs ih => obtain ⟨k, v⟩ := x; simp [orderedKV, ih, onVal]

theorem orderedKV_sortedEntries (kv : KV) :
    orderedKV (sortedEntries kv) = sortedEntries (orderedKV kv) := by
  rw [orderedKV_eq_map, orderedKV_eq_map, sortedEntries_map]

theorem mapKV_kvSet {tr : List (Ref × Ref)} {v w : Obj} (k : Bytes) (hv : mapObj tr v = some w) :
    ∀ (R res : KV), mapKV tr R = some res → mapKV tr (kvSet k v R) = some (kvSet k w res)
  | [], res => by
    intro e; cases e
    exact mapKV_cons.mpr ⟨w, [], hv, rfl, rfl⟩
  | (k', v') :: rest, res => by
    intro h
    obtain ⟨w', rest', h1, h2, rfl⟩ := mapKV_cons.mp h
    simp only [kvSet]
    split
    · exact mapKV_cons.mpr ⟨w, rest', hv, h2, rfl⟩
    · exact mapKV_cons.mpr ⟨w', _, h1, mapKV_kvSet k hv rest rest' h2, rfl⟩

theorem mapList_length {tr : List (Ref × Ref)} :
    ∀ (xs ys : List Obj), mapList tr xs = some ys → ys.length = xs.length
  | [], ys => by simp [mapList]
  | x :: xs, ys => by
    intro h
    obtain ⟨y, ys', _, hys, rfl⟩ := mapList_cons.mp h
    simp [mapList_length xs ys' hys]

theorem orderedList_length : ∀ xs : List Obj, (orderedList xs).length = xs.length
  | [] => rfl
  | x :: xs => by simp [orderedList, orderedList_length xs]

theorem mapKV_keys {tr : List (Ref × Ref)} :
    ∀ (kv kv' : KV), mapKV tr kv = some kv' → kv'.map Prod.fst = kv.map Prod.fst
  | [], kv' => by simp [mapKV]
  | (k, v) :: rest, kv' => by
    intro h
    obtain ⟨v', rest', _, hr, rfl⟩ := mapKV_cons.mp h
    simp [mapKV_keys rest rest' hr]

theorem osize_pos (o : Obj) : 1 ≤ osize o := by cases o <;> simp [osize] <;> omega
theorem lsize_pos (xs : List Obj) : 1 ≤ lsize xs := by cases xs <;> simp [lsize] <;> omega
theorem kvsize_pos (kv : KV) : 1 ≤ kvsize kv := by
  cases kv with
  | nil => simp [kvsize]
  | cons p r => obtain ⟨k, v⟩ := p; simp [kvsize]; omega

theorem kvsize_perm {a b : KV} (h : a.Perm b) : kvsize a = kvsize b := by
  induction h with
  | nil => rfl
  | cons x _ ih => obtain ⟨k, v⟩ := x; simp [kvsize, ih]
  | swap x y l => obtain ⟨k, v⟩ := x; obtain ⟨k', v'⟩ := y; simp [kvsize]; omega
  | trans _ _ ih1 ih2 => rw [ih1, ih2]

theorem kvrefs_mem {kv : KV} {b : Ref} : b ∈ kvrefs kv ↔ ∃ p ∈ kv, b ∈ orefs p.2 := by
  induction kv with
  | nil => simp [kvrefs]
  | cons p r ih => obtain ⟨k, v⟩ := p; simp [kvrefs, ih]

theorem kvrefs_perm {a b : KV} (h : a.Perm b) (r : Ref) : r ∈ kvrefs a ↔ r ∈ kvrefs b := by
  simp only [kvrefs_mem]
  constructor
  · rintro ⟨p, hp, hr⟩; exact ⟨p, h.mem_iff.mp hp, hr⟩
  · rintro ⟨p, hp, hr⟩; exact ⟨p, h.mem_iff.mpr hp, hr⟩

theorem get_ne_fuel (G : Graph) (r : Ref) (cs : Bool) : CPY.get G r cs ≠ .error .fuel := by
  intro h
  rcases get_err_cases h with h | h <;> cases h

theorem resolveLoop_ne_fuel (G : Graph) (cs : Bool) (d : Nat) (path : List Ref) (r : Ref) :
    resolveLoop G cs d path r ≠ .error .fuel := by
  -- the cases of `resolveLoop`: 1 depth used up, 2 `r` on the path, 3 `r` unreadable, 4 one link further,
  -- 5 `r` is not a reference
  fun_induction resolveLoop G cs d path r with
  | case1 => simp
  | case2 => simp
  | case3 _ _ _ _ e he => intro h; cases h; exact get_ne_fuel G _ cs he
  | case4 _ _ _ _ _ _ _ ih => exact ih
  | case5 => simp

theorem resolve_ne_fuel (G : Graph) (cs : Bool) (o : Obj) : resolve G cs o ≠ .error .fuel := by
  fun_cases resolve G cs o with
  | case1 => exact resolveLoop_ne_fuel G cs _ _ _
  | case2 => simp

theorem passed_on {α β : Type} {x : Except CErr α} {e : CErr} (hx : x = .error e) (h : x ≠ .error .fuel) :
    (.error e : Except CErr β) ≠ .error .fuel := fun h' => h (by cases h'; exact hx)

theorem resolveElems_ne_fuel (G : Graph) (xs : List Obj) : resolveElems G xs ≠ .error .fuel := by
  fun_induction resolveElems G xs with
  | case1 => simp
  | case2 x _ e he => exact passed_on he (resolve_ne_fuel G true x)
  | case3 => simp
  | case4 _ _ _ _ e he ih => exact passed_on he ih
  | case5 => simp

theorem inlineFilterRefs_ne_fuel (G : Graph) (val : Obj) : inlineFilterRefs G val ≠ .error .fuel := by
  fun_cases inlineFilterRefs G val with
  | case1 e he => exact passed_on he (resolve_ne_fuel G true val)
  | case2 xs _ e he => exact passed_on he (resolveElems_ne_fuel G xs)
  | case3 => simp
  | case4 => simp
  | case5 => simp

theorem startsWithCrypt_ne_fuel (G : Graph) (o : Obj) : startsWithCrypt G o ≠ .error .fuel := by
  fun_cases startsWithCrypt G o with
  | case1 e he => exact passed_on he (resolve_ne_fuel G true o)
  | case4 x _ _ e he => exact passed_on he (resolve_ne_fuel G true x)
  | case2 | case3 | case5 | case6 | case7 => simp

theorem parseCryptKind_ne_fuel (p : Option KV) : parseCryptKind p ≠ .error .fuel := by
  fun_cases parseCryptKind p <;> simp

theorem makeFilterKind_ne_fuel (n : Bytes) (p : Option KV) : makeFilterKind n p ≠ .error .fuel := by
  fun_cases makeFilterKind n p with
  | case1 => exact parseCryptKind_ne_fuel p
  | case2 => simp
  | case3 => simp

theorem asParamDict_ne_fuel (v : Val) : asParamDict v ≠ .error .fuel := by
  fun_cases asParamDict v <;> simp

theorem filterKindsLoop_ne_fuel (G : Graph) (fs pa : List Obj) : filterKindsLoop G fs pa ≠ .error .fuel := by
  fun_induction filterKindsLoop G fs pa with
  | case1 => simp
  | case2 fi _ _ e he => exact passed_on he (resolve_ne_fuel G false fi)
  | case3 _ _ pa _ _ pd e he =>
    -- the parameter dictionary of the filter: absent, unreadable, or not a dictionary
    refine passed_on he ?_
    rcases pa with _ | ⟨p, _⟩
    · simp [pd]
    · simp only [pd]
      split
      · next e' he' => exact passed_on he' (resolve_ne_fuel G false p)
      · exact asParamDict_ne_fuel _
  | case4 => exact passed_on ‹makeFilterKind _ _ = .error _› (makeFilterKind_ne_fuel _ _)
  | case5 => exact passed_on ‹filterKindsLoop _ _ _ = .error _› ‹_›
  | case6 => simp
  | case7 => simp

theorem kindsOf_ne_fuel (G : Graph) (dp f : Val) : kindsOf G dp f ≠ .error .fuel := by
  fun_cases kindsOf G dp f with
  | case1 | case2 | case5 | case6 | case10 | case11 => simp
  | case3 _ _ e he => exact passed_on he (asParamDict_ne_fuel _)
  | case4 => exact passed_on ‹makeFilterKind _ _ = .error _› (makeFilterKind_ne_fuel _ _)
  | case7 | case8 | case9 => exact filterKindsLoop_ne_fuel G _ _

theorem getFilterKinds_ne_fuel (G : Graph) (dict : KV) : getFilterKinds G dict ≠ .error .fuel := by
  fun_cases getFilterKinds G dict with
  | case1 e he => exact passed_on he (resolve_ne_fuel G false _)
  | case2 _ _ e he => exact passed_on he (resolve_ne_fuel G false _)
  | case3 dp _ f _ e he => exact passed_on he (kindsOf_ne_fuel G dp f)
  | case4 => simp
  | case5 => simp

theorem streamCryptRecipe_ne_fuel (G : Graph) (dict : KV) (enc : Bool) :
    streamCryptRecipe G dict enc ≠ .error .fuel := by
  fun_cases streamCryptRecipe G dict enc with
  | case2 _ e he => exact passed_on he (startsWithCrypt_ne_fuel G _)
  | case4 _ _ e he => exact passed_on he (getFilterKinds_ne_fuel G dict)
  | case1 | case3 | case5 | case6 | case7 | case8 => simp

theorem dictCryptKind_ne_fuel (d : KV) : dictCryptKind d ≠ .error .fuel := by
  fun_cases dictCryptKind d with
  | case2 => exact passed_on ‹parseCryptKind _ = .error _› (parseCryptKind_ne_fuel _)
  | case1 | case3 | case4 | case5 | case6 => simp

theorem putRefusal_ne_fuel (tv : Nat) (v : Val) : putRefusal tv v ≠ some .fuel := by
  fun_cases putRefusal tv v with
  | case2 _ _ _ e he => exact fun h => dictCryptKind_ne_fuel _ (by cases h; exact he)
  | case1 | case3 | case4 | case5 | case6 => simp

theorem put_ne_fuel (s : St) (r : Ref) (v : Val) : put s r v ≠ .error .fuel := by
  fun_cases put s r v with
  | case1 => simp
  | case2 _ e he => exact fun h => putRefusal_ne_fuel _ _ (by cases h; exact he)
  | case3 => simp

theorem get_entry {G : Graph} {r : Ref} {cs : Bool} {v : Val} :
    CPY.get G r cs = .ok v → v = .obj .null ∨ ∃ e, (r, e) ∈ G ∧ e.node = .val v := by
  fun_cases CPY.get G r cs with
  | case1 => exact fun h => by cases h; exact .inl rfl
  | case2 | case3 | case4 => exact nofun
  | case5 e he v' hv _ => exact fun h => by cases h; exact .inr ⟨e, assoc_some_mem _ _ _ he, hv⟩

theorem get_mem {G : Graph} {r : Ref} {cs : Bool} {v : Val} (h : CPY.get G r cs = .ok v) :
    v = .obj .null ∨ ∃ k e, (k, e) ∈ G ∧ e.node = .val v :=
  (get_entry h).imp id fun ⟨e, h⟩ => ⟨r, e, h⟩

theorem resolveLoop_mem {G : Graph} {cs : Bool} (d : Nat) (path : List Ref) (r : Ref) (v : Val) :
    resolveLoop G cs d path r = .ok v → v = .obj .null ∨ ∃ k e, (k, e) ∈ G ∧ e.node = .val v := by
  -- cases as in `resolveLoop_ne_fuel`
  fun_induction resolveLoop G cs d path r with
  | case1 => simp
  | case2 => simp
  | case3 => simp
  | case4 _ _ _ _ _ _ _ ih => exact ih
  | case5 _ _ _ _ v' _ hg => intro h; cases h; exact get_mem hg

theorem resolveOrNull_mem {G : Graph} {r : Ref} {v : Val} (h : resolveOrNull G r = .ok v) :
    v = .obj .null ∨ ∃ k e, (k, e) ∈ G ∧ e.node = .val v := by
  revert h
  fun_cases resolveOrNull G r with
  | case1 => exact fun h => by cases h; exact .inl rfl   -- malformed: null
  | case2 => exact nofun
  | case3 v' hv => exact fun h => by cases h; exact resolveLoop_mem _ _ _ _ hv

theorem le_foldr_max {l : List Nat} {b x : Nat} (h : x ∈ l) : x ≤ l.foldr max b := by
  induction l with
  | nil => simp at h
  | cons a l ih =>
    simp only [List.foldr_cons]
    rcases List.mem_cons.mp h with e | e
    · subst e; exact Nat.le_max_left _ _
    · exact Nat.le_trans (ih e) (Nat.le_max_right _ _)

theorem base_le_foldr_max (l : List Nat) (b : Nat) : b ≤ l.foldr max b := by
  induction l with
  | nil => simp
  | cons a l ih => exact Nat.le_trans ih (Nat.le_max_right _ _)

theorem kvLookup_mapKV {tr : List (Ref × Ref)} (k : Bytes) :
    ∀ (kv kv' : KV), mapKV tr kv = some kv' →
      (kvLookup k kv = none ∧ kvLookup k kv' = none) ∨
      ∃ x y, kvLookup k kv = some x ∧ kvLookup k kv' = some y ∧ mapObj tr x = some y
  | [], kv' => by intro e; cases e; exact Or.inl ⟨rfl, rfl⟩
  | (k', v) :: rest, kv' => by
    intro h
    obtain ⟨v', rest', hv, hr, rfl⟩ := mapKV_cons.mp h
    simp only [kvLookup]
    split
    · exact Or.inr ⟨v, v', rfl, rfl, hv⟩
    · exact kvLookup_mapKV k rest rest' hr

theorem kvLookup_kvSet_ne {k k' : Bytes} (h : k ≠ k') (v : Obj) :
    ∀ d : KV, kvLookup k (kvSet k' v d) = kvLookup k d
  | [] => by simp [kvSet, kvLookup, Ne.symm h]
  | (a, w) :: rest => by
    simp only [kvSet]
    split
    · next e => subst e; simp [kvLookup, Ne.symm h]
    · next e => simp only [kvLookup]; split <;> simp [kvLookup_kvSet_ne h v rest]

theorem put_refused {s : St} {r : Ref} {v : Val} (h : putRefusal s.tgtV v = some .other) :
    put s r v = .error .other := by
  unfold put
  split
  · rfl
  · rw [h]

end PdfVerif.CPY
