import PdfVerif.Lemmas.C01Leaf
/-!
One step of each of the five mutually recursive readers of the scanner
model, as a case distinction proved once and stated for every fuel at the same time
(`readObject_cases`, `readArray_eq`, `readArrayLoop_cases`, `readDict_cases`,
`readDictLoop_cases`): which branch is taken never depends on the fuel.  The inductions over the
fuel in `C01Fuel.lean`, `C01Total.lean` and `C01Caps.lean` rest on these, and so do the single branches
of `readObject` by its first byte (`readObject_num`, `_name`, `_lit`, …).
-/
namespace PdfVerif.C01L
open PdfVerif

/-- `integersSeen` after appending `o` -/
def nextIntsM (o : Obj) (ints : Nat) : Nat := match o with | .int _ => ints + 1 | _ => 0

/-- the result of the dictionary branch of `readObject` -/
def dictResult (r : Except Err (List (Bytes × Obj) × Bytes)) : Except Err (Obj × Bytes) :=
  match r with
  | .error e => .error e
  | .ok (dd, r) =>
    if startsWith (skipWS r).1 kw_stream then .error .malformed else .ok (.dict dd, (skipWS r).1)

/-- what a branch of `readObject` without a recursive call guarantees -/
structure LeafRes (inp : Bytes) (res : Except Err (Obj × Bytes)) : Prop where
  err : ∀ e, res = .error e → ScanErr e
  ok : ∀ o r, res = .ok (o, r) → r.length < inp.length ∧ LeafVal o

theorem leafRes_map {α : Type} (g : α → Obj) {x : Except Err (α × Bytes)} {inp inp' : Bytes}
    (hlen : inp'.length ≤ inp.length) (herr : ∀ e, x = .error e → ScanErr e)
    (hok : ∀ a r, x = .ok (a, r) → r.length < inp'.length ∧ LeafVal (g a)) :
    LeafRes inp (x.map fun (a, r) => (g a, r)) := by
  cases x with
  | error e => exact ⟨fun e' h => Except.error.inj h ▸ herr e rfl, fun _ _ h => nomatch h⟩
  | ok p =>
    refine ⟨(fun _ h => nomatch h), fun o r h => ?_⟩
    obtain ⟨rfl, rfl⟩ := Prod.mk.inj (Except.ok.inj h)
    have := hok p.1 p.2 rfl
    exact ⟨by omega, this.2⟩

theorem leafRes_kw {inp pat : Bytes} (o : Obj) (hp : startsWith inp pat = true) (hpat : 0 < pat.length)
    (ho : LeafVal o) : LeafRes inp (.ok (o, inp.drop pat.length)) := by
  refine ⟨(fun _ h => nomatch h), fun o' r h => ?_⟩
  obtain ⟨rfl, rfl⟩ := Prod.mk.inj (Except.ok.inj h)
  have := isPrefixOf_len _ _ hp
  exact ⟨by simp; omega, ho⟩

theorem readObject_succ (f d c : Nat) (rest : Bytes) :
    readObject (f + 1) d (c :: rest) =
      if startsWith (c :: rest) kw_null then .ok (.null, (c :: rest).drop 4)
      else if startsWith (c :: rest) kw_true then .ok (.bool true, (c :: rest).drop 4)
      else if startsWith (c :: rest) kw_false then .ok (.bool false, (c :: rest).drop 5)
      else if c == 47 then (readName (c :: rest)).map fun (n, r) => (.name n, r)
      else if isDigit c || c == 43 || c == 45 || c == 46 then readNumber (c :: rest)
      else if c == 60 && rest.head? == some 60 then dictResult (readDict f d (c :: rest))
      else if c == 40 then (readString rest).map fun (s, r) => (.str s, r)
      else if c == 60 then (readHexString rest).map fun (s, r) => (.str s, r)
      else if c == 91 then (readArray f d rest).map fun (xs, r) => (.arr xs, r)
      else .error .malformed := by
  rw [readObject]
  unfold dictResult
  cases readDict f d (c :: rest) with
  | error e => rfl
  | ok p => rfl

theorem readObject_num (f d c : Nat) (t : Bytes) (h : isDigit c = true ∨ c = 43 ∨ c = 45 ∨ c = 46) :
    readObject (f + 1) d (c :: t) = readNumber (c :: t) := by
  have hc : (isDigit c || c == 43 || c == 45 || c == 46) = true := by
    rcases h with h | rfl | rfl | rfl
    · simp [h]
    all_goals simp
  have hne : c ≠ 110 ∧ c ≠ 116 ∧ c ≠ 102 ∧ c ≠ 47 := by
    rcases h with h | rfl | rfl | rfl
    · have := (isDigit_iff c).mp h; omega
    all_goals decide
  rw [readObject_succ, kw_null, kw_true, kw_false, startsWith_head hne.1, startsWith_head hne.2.1,
    startsWith_head hne.2.2.1, if_neg nofun, if_neg nofun, if_neg nofun, if_neg (mt beq_iff_eq.mp hne.2.2.2), if_pos hc]

theorem readObject_name (f d : Nat) (t : Bytes) :
    readObject (f + 1) d (47 :: t) = (readName (47 :: t)).map fun (n, r) => (.name n, r) := by
  rw [readObject_succ]; rfl

theorem readObject_arr (f d : Nat) (t : Bytes) :
    readObject (f + 1) d (91 :: t) = (readArray f d t).map fun (xs, r) => (.arr xs, r) := by
  rw [readObject_succ]; rfl

/-- the match is `dictResult`, written out: the users rewrite the `readDict` inside it and let the match reduce -/
theorem readObject_dict (f d : Nat) (t : Bytes) :
    readObject (f + 1) d (60 :: 60 :: t) =
      match readDict f d (60 :: 60 :: t) with
      | .error e => .error e
      | .ok (dd, r) =>
        if startsWith (skipWS r).1 kw_stream then .error .malformed else .ok (.dict dd, (skipWS r).1) := by
  rw [readObject_succ]; rfl

theorem readObject_lit (f d : Nat) (t : Bytes) :
    readObject (f + 1) d (40 :: t) = (readString t).map fun (s, r) => (.str s, r) := by
  rw [readObject_succ]; rfl

theorem readObject_hex (f d : Nat) (t : Bytes) (h : t.head? ≠ some 60) :
    readObject (f + 1) d (60 :: t) = (readHexString t).map fun (s, r) => (.str s, r) := by
  have : (t.head? == some 60) = false := by simpa using h
  rw [readObject_succ]
  simp only [this, Bool.and_false]
  rfl

theorem readObject_kw (f d : Nat) (rest : Bytes) :
    readObject (f + 1) d (kw_null ++ rest) = .ok (.null, rest) ∧
    readObject (f + 1) d (kw_true ++ rest) = .ok (.bool true, rest) ∧
    readObject (f + 1) d (kw_false ++ rest) = .ok (.bool false, rest) := by
  refine ⟨?_, ?_, ?_⟩
  · show readObject (f + 1) d (110 :: 117 :: 108 :: 108 :: rest) = _; rw [readObject_succ]; rfl
  · show readObject (f + 1) d (116 :: 114 :: 117 :: 101 :: rest) = _; rw [readObject_succ]; rfl
  · show readObject (f + 1) d (102 :: 97 :: 108 :: 115 :: 101 :: rest) = _; rw [readObject_succ]; rfl

/-- the branches of `readObject`: a result without recursive call (the same for every fuel and
    depth), a dictionary, or an array -/
theorem readObject_cases (d : Nat) (inp : Bytes) :
    (∃ res, LeafRes inp res ∧ ∀ f, readObject (f + 1) d inp = res) ∨
    (∀ f, readObject (f + 1) d inp = dictResult (readDict f d inp)) ∨
    (∃ c rest, inp = c :: rest ∧
      ∀ f, readObject (f + 1) d inp = (readArray f d rest).map fun (xs, r) => (.arr xs, r)) := by
  have bad : LeafRes inp (.error .malformed) := ⟨fun e h => Except.error.inj h ▸ .inr rfl, fun _ _ h => nomatch h⟩
  cases inp with
  | nil => exact .inl ⟨_, bad, fun f => by rw [readObject]⟩
  | cons c rest =>
    by_cases c1 : startsWith (c :: rest) kw_null = true
    · exact .inl ⟨_, leafRes_kw .null c1 (by decide) trivial, fun f => by rw [readObject_succ, if_pos c1]; rfl⟩
    by_cases c2 : startsWith (c :: rest) kw_true = true
    · exact .inl ⟨_, leafRes_kw (.bool true) c2 (by decide) trivial, fun f => by
        rw [readObject_succ, if_neg c1, if_pos c2]; rfl⟩
    by_cases c3 : startsWith (c :: rest) kw_false = true
    · exact .inl ⟨_, leafRes_kw (.bool false) c3 (by decide) trivial, fun f => by
        rw [readObject_succ, if_neg c1, if_neg c2, if_pos c3]; rfl⟩
    have pre : ∀ f, readObject (f + 1) d (c :: rest) =
        if c == 47 then (readName (c :: rest)).map fun (n, r) => (.name n, r)
        else if isDigit c || c == 43 || c == 45 || c == 46 then readNumber (c :: rest)
        else if c == 60 && rest.head? == some 60 then dictResult (readDict f d (c :: rest))
        else if c == 40 then (readString rest).map fun (s, r) => (.str s, r)
        else if c == 60 then (readHexString rest).map fun (s, r) => (.str s, r)
        else if c == 91 then (readArray f d rest).map fun (xs, r) => (.arr xs, r)
        else .error .malformed := fun f => by
      rw [readObject_succ, if_neg c1, if_neg c2, if_neg c3]
    by_cases c4 : (c == 47) = true
    · refine .inl ⟨_, leafRes_map Obj.name (Nat.le_refl _) ?_ ?_, fun f => by rw [pre, if_pos c4]⟩
      · intro e h; rw [readName_err _ _ h]; exact .inr rfl
      · intro n r h; have := readName_spec _ _ _ h; exact ⟨this.1, this.2⟩
    by_cases c5 : (isDigit c || c == 43 || c == 45 || c == 46) = true
    · refine .inl ⟨_, ⟨fun e h => ?_, readNumber_spec _⟩, fun f => by rw [pre, if_neg c4, if_pos c5]⟩
      rw [readNumber_err _ _ h]; exact .inr rfl
    by_cases c6 : (c == 60 && rest.head? == some 60) = true
    · exact .inr (.inl fun f => by rw [pre, if_neg c4, if_neg c5, if_pos c6])
    by_cases c7 : (c == 40) = true
    · refine .inl ⟨_, leafRes_map Obj.str (Nat.le_succ _) (fun e h => readString_err _ _ h)
        (fun s r h => readString_spec _ _ _ h), fun f => by rw [pre, if_neg c4, if_neg c5, if_neg c6, if_pos c7]⟩
    by_cases c8 : (c == 60) = true
    · refine .inl ⟨_, leafRes_map Obj.str (Nat.le_succ _) (fun e h => readHexString_err _ _ h)
        (fun s r h => readHexString_spec _ _ _ h), fun f => by
          rw [pre, if_neg c4, if_neg c5, if_neg c6, if_neg c7, if_pos c8]⟩
    by_cases c9 : (c == 91) = true
    · exact .inr (.inr ⟨c, rest, rfl, fun f => by
        rw [pre, if_neg c4, if_neg c5, if_neg c6, if_neg c7, if_neg c8, if_pos c9]⟩)
    · exact .inl ⟨_, bad, fun f => by
        rw [pre, if_neg c4, if_neg c5, if_neg c6, if_neg c7, if_neg c8, if_neg c9]⟩

theorem readArray_eq (f d : Nat) (inp : Bytes) :
    readArray (f + 1) d inp =
      if d ≥ Gen.scanner_maxScannerNestDepth then .error .malformed
      else (readArrayLoop f (d + 1) [] 0 inp).mapError Err.inComposite := by
  rw [readArray]

theorem readDict_eq (f : Nat) {d : Nat} {rest r : Bytes} (hd : d < Gen.scanner_maxScannerNestDepth)
    (hs : skipWS rest = (r, false)) :
    readDict (f + 1) d (60 :: 60 :: rest) = (readDictLoop f (d + 1) [] r).mapError Err.inComposite := by
  rw [readDict, if_neg (Nat.not_le.2 hd), hs]

theorem readDict_cases (d : Nat) (inp : Bytes) :
    (∀ f, readDict (f + 1) d inp = .error .malformed) ∨
    (∃ rest r, inp = 60 :: 60 :: rest ∧ d < Gen.scanner_maxScannerNestDepth ∧ skipWS rest = (r, false) ∧
      ∀ f, readDict (f + 1) d inp = (readDictLoop f (d + 1) [] r).mapError Err.inComposite) := by
  by_cases hshape : ∃ rest, inp = 60 :: 60 :: rest
  · obtain ⟨rest, rfl⟩ := hshape
    by_cases hd : d ≥ Gen.scanner_maxScannerNestDepth
    · exact .inl fun f => by rw [readDict, if_pos hd]
    · cases hs : skipWS rest with
      | mk r b =>
        cases b with
        | true => exact .inl fun f => by rw [readDict, if_neg hd, hs]
        | false => exact .inr ⟨rest, r, rfl, by omega, hs, fun f => readDict_eq f (by omega) hs⟩
  · refine .inl fun f => ?_
    rw [readDict]
    · split <;> rfl
    · intro rest hr; exact hshape ⟨rest, hr⟩

theorem readArrayLoop_cases (d : Nat) (acc : List Obj) (ints : Nat) (inp : Bytes) :
    (∀ f, readArrayLoop (f + 1) d acc ints inp = .error .eof) ∨
    (∃ rest, skipWS inp = (93 :: rest, false) ∧
      ∀ f, readArrayLoop (f + 1) d acc ints inp =
        if acc.length > Gen.scanner_maxArrayLen then .error .malformed else .ok (acc.reverse, rest)) ∨
    (∃ rest, skipWS inp = (82 :: rest, false) ∧ ints ≥ 2 ∧
      ((∃ b a acc', acc = .int b :: .int a :: acc' ∧
          ∀ f, readArrayLoop (f + 1) d acc ints inp =
            readArrayLoop f d ((if validRef a b then Obj.ref a.toNat b.toNat else Obj.null) :: acc') 0 rest) ∨
       ((∀ b a acc', acc ≠ .int b :: .int a :: acc') ∧
          ∀ f, readArrayLoop (f + 1) d acc ints inp = .error .other))) ∨
    (∃ c rest, skipWS inp = (c :: rest, false) ∧
      ∀ f, readArrayLoop (f + 1) d acc ints inp =
        match readObject f d (c :: rest) with
        | .error e => .error e
        | .ok (o, r) =>
          if acc.length > Gen.scanner_maxArrayLen then .error .malformed
          else readArrayLoop f d (o :: acc) (nextIntsM o ints) r) := by
  cases hs : skipWS inp with
  | mk a b =>
    cases b with
    | true => exact .inl fun f => by rw [readArrayLoop, hs]
    | false =>
      cases a with
      | nil => exact .inl fun f => by rw [readArrayLoop, hs]
      | cons c rest =>
        by_cases c1 : (c == 93) = true
        · obtain rfl : c = 93 := by simpa using c1
          exact .inr (.inl ⟨rest, rfl, fun f => by rw [readArrayLoop, hs]; rfl⟩)
        by_cases c2 : (decide (ints ≥ 2) && c == 82) = true
        · simp at c2
          obtain ⟨hi, rfl⟩ := c2
          refine .inr (.inr (.inl ⟨rest, rfl, hi, ?_⟩))
          by_cases hacc : ∃ b a acc', acc = .int b :: .int a :: acc'
          · obtain ⟨b, a, acc', rfl⟩ := hacc
            exact .inl ⟨b, a, acc', rfl, fun f => by rw [readArrayLoop, hs]; simp [hi]⟩
          · refine .inr ⟨fun b a acc' h => hacc ⟨b, a, acc', h⟩, fun f => ?_⟩
            rw [readArrayLoop, hs]
            simp only [c1, hi, decide_true, Bool.true_and, beq_self_eq_true, if_true, if_false, Bool.false_eq_true]
            split
            · rename_i b a acc'; exact absurd ⟨b, a, acc', rfl⟩ hacc
            · rfl
        · refine .inr (.inr (.inr ⟨c, rest, rfl, fun f => ?_⟩))
          rw [readArrayLoop, hs]
          dsimp only
          rw [if_neg c1, if_neg c2]
          cases readObject f d (c :: rest) with
          | error e => rfl
          | ok p => rfl

/-- the look-ahead of `ReadDict` once the value `val` of an entry has been read: white space is
    skipped, and an integer followed by `b R` becomes a reference.  Returns the value the entry ends
    up with and the input after it. -/
def entryTail (val : Obj) (r : Bytes) : Except Err (Obj × Bytes) :=
  match skipWS r with
  | (_, true) => .error .eof
  | (r, false) =>
    match val, r with
    | .int a, c :: _ =>
      if c != 47 && c != 62 then
        match readInteger r with
        | .error e => .error e
        | .ok (b, r) =>
          match skipWS r with
          | (_, true) => .error .eof
          | (82 :: r, false) =>
            (match skipWS r with
             | (_, true) => .error .eof
             | (r, false) => .ok (if validRef a b then .ref a.toNat b.toNat else .null, r))
          | _ => .error .malformed
      else .ok (val, r)
    | _, _ => .ok (val, r)

/-- one entry of the loop of `ReadDict` behind its key `key`: read the value at `r2`, look ahead for a
    reference (`entryTail`), apply the cap to a new key, go on with the entry inserted -/
def dictEntry (f d : Nat) (acc : List (Bytes × Obj)) (key r2 : Bytes) : Except Err (List (Bytes × Obj) × Bytes) :=
  match readObject f d r2 with
  | .error e => .error e
  | .ok (val, r3) =>
    match entryTail val r3 with
    | .error e => .error e
    | .ok (v, r') =>
      if !(acc.any fun e => e.1 == key) && acc.length ≥ Gen.scanner_maxDictLen then .error .malformed
      else readDictLoop f d (dictInsert key v acc) r'

theorem readDictLoop_step (f d : Nat) (acc : List (Bytes × Obj)) (inp key r1 r2 : Bytes)
    (hn : readName inp = .ok (key, r1)) (hs : skipWS r1 = (r2, false)) :
    readDictLoop (f + 1) d acc inp = dictEntry f d acc key r2 := by
  unfold dictEntry
  rw [readDictLoop]
  · rw [hn]
    dsimp only
    rw [hs]
    dsimp only
    cases readObject f d r2 with
    | error e => rfl
    | ok p =>
      obtain ⟨val, r3⟩ := p
      dsimp only
      -- `entryTail` is the text of `readDictLoop` behind the value: at each of its exits, the equations of that
      -- exit take the left side to the same value
      fun_cases entryTail val r3 with
      | case1 _ _ h1 => simp only [h1]                                              -- end of input
      | case2 _ _ _ hc _ h1 hi => simp only [h1, hi, if_pos hc]                     -- no second integer
      | case3 _ _ _ hc _ _ _ h3 h1 hi => simp only [h1, hi, h3, if_pos hc]          -- end of input behind it
      | case4 _ _ _ hc _ _ _ h3 _ h4 h1 hi => simp only [h1, hi, h3, h4, if_pos hc] -- end of input behind `R`
      | case5 _ _ _ hc _ _ _ h3 _ h4 h1 hi => simp only [h1, hi, h3, h4, if_pos hc] -- a reference
      | case6 _ _ _ hc _ _ _ _ h1 hi => simp only [h1, hi, if_pos hc]               -- no `R`
      | case7 _ _ _ hc h1 => simp only [h1, if_neg hc]                              -- `/` or `>` behind an integer
      | case8 _ _ h1 _ => simp only [h1]                                            -- anything else
  · intro rest h; subst h; simp [readName] at hn

def EntryVal (val v : Obj) : Prop :=
  v = val ∨ ∃ a b, val = .int a ∧ v = (if validRef a b then Obj.ref a.toNat b.toNat else Obj.null)

theorem entryTail_spec (val : Obj) (r : Bytes) :
    (∃ e, ScanErr e ∧ entryTail val r = .error e) ∨
    (∃ v r', entryTail val r = .ok (v, r') ∧ r'.length ≤ r.length ∧ EntryVal val v) := by
  fun_cases entryTail val r with
  | case1 => exact .inl ⟨_, .inl rfl, rfl⟩                      -- end of input behind white space
  | case2 _ _ _ _ _ _ hi => rw [hi]; exact .inl ⟨_, .inr (readInteger_err _ _ hi), rfl⟩   -- no second integer
  | case3 _ _ _ _ _ _ _ h3 _ hi => simp only [hi, h3]; exact .inl ⟨_, .inl rfl, rfl⟩      -- end of input behind it
  | case4 _ _ _ _ _ _ _ h3 _ h4 _ hi => simp only [hi, h3, h4]; exact .inl ⟨_, .inl rfl, rfl⟩   -- the same behind `R`
  | case5 a _ _ _ b _ _ h3 _ h4 hs hi =>                         -- a reference
    have := skipWS_len' hs; have := readInteger_spec _ _ _ hi; have := skipWS_len' h3; have := skipWS_len' h4
    simp only [hi, h3, h4]
    exact .inr ⟨_, _, rfl, by simp at *; omega, .inr ⟨a, b, rfl, rfl⟩⟩
  | case6 _ _ _ _ _ _ _ _ _ hi => simp only [hi]; exact .inl ⟨_, .inr rfl, rfl⟩          -- no `R`
  | case7 _ _ _ _ hs => exact .inr ⟨_, _, rfl, skipWS_len' hs, .inl rfl⟩   -- `/` or `>` behind an integer
  | case8 _ _ hs => exact .inr ⟨_, _, rfl, skipWS_len' hs, .inl rfl⟩       -- not an integer, or nothing behind it

theorem readDictLoop_cases (d : Nat) (acc : List (Bytes × Obj)) (inp : Bytes) :
    (∃ e, ScanErr e ∧ ∀ f, readDictLoop (f + 1) d acc inp = .error e) ∨
    (∃ rest, inp = 62 :: 62 :: rest ∧ ∀ f, readDictLoop (f + 1) d acc inp = .ok (acc, rest)) ∨
    (∃ key r1 r2, readName inp = .ok (key, r1) ∧ skipWS r1 = (r2, false) ∧
      ∀ f, readDictLoop (f + 1) d acc inp = dictEntry f d acc key r2) := by
  by_cases hshape : ∃ rest, inp = 62 :: 62 :: rest
  · obtain ⟨rest, rfl⟩ := hshape
    exact .inr (.inl ⟨rest, rfl, fun f => by rw [readDictLoop]; rfl⟩)
  · have hside : ∀ rest, inp = 62 :: 62 :: rest → False := fun rest hr => hshape ⟨rest, hr⟩
    cases hn : readName inp with
    | error e =>
      refine .inl ⟨.malformed, .inr rfl, fun f => ?_⟩
      rw [readDictLoop]
      · rw [hn]
      · exact hside
    | ok p =>
      obtain ⟨key, r1⟩ := p
      cases hs : skipWS r1 with
      | mk r2 b =>
        cases b with
        | true =>
          refine .inl ⟨.eof, .inl rfl, fun f => ?_⟩
          rw [readDictLoop]
          · rw [hn]; dsimp only; rw [hs]
          · exact hside
        | false => exact .inr (.inr ⟨key, r1, r2, rfl, hs, fun f => readDictLoop_step f d acc inp key r1 r2 hn hs⟩)

theorem readDictLoop_entry {f d : Nat} {acc : List (Bytes × Obj)} {key r2 : Bytes}
    {res : Except Err (List (Bytes × Obj) × Bytes)}
    (he : res = dictEntry f d acc key r2) :
    (∃ e, ScanErr e ∧ res = .error e) ∨
    (∃ e, readObject f d r2 = .error e ∧ res = .error e) ∨
    (∃ val r3 v r', readObject f d r2 = .ok (val, r3) ∧ r'.length ≤ r3.length ∧ EntryVal val v ∧
      ((acc.any fun e => e.1 == key) = true ∨ acc.length < Gen.scanner_maxDictLen) ∧
      res = readDictLoop f d (dictInsert key v acc) r') := by
  subst he
  unfold dictEntry
  cases hro : readObject f d r2 with
  | error e => exact .inr (.inl ⟨e, rfl, rfl⟩)
  | ok p =>
    obtain ⟨val, r3⟩ := p
    dsimp only
    rcases entryTail_spec val r3 with ⟨e, hne, het⟩ | ⟨v, r', het, hl, hev⟩
    · rw [het]; exact .inl ⟨e, hne, rfl⟩
    · rw [het]
      dsimp only
      split
      · exact .inl ⟨.malformed, .inr rfl, rfl⟩
      · rename_i hc
        refine .inr (.inr ⟨val, r3, v, r', rfl, hl, hev, ?_, rfl⟩)
        cases ha : (acc.any fun e => e.1 == key) with
        | true => exact .inl rfl
        | false =>
          simp only [ha, Bool.not_false, Bool.true_and, decide_eq_true_eq] at hc
          exact .inr (by omega)

end PdfVerif.C01L
