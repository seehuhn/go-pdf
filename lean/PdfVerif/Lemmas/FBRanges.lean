/-!
The ranges the validators of the predictor and filter parameters accept, as propositions over plain integers.  The
hand models (`Lemmas/FBParams.lean`) and the functions generated from the Go source (`Lemmas/TRFilter.lean`) are each
characterised by them once; the bridges compare the two characterisations.
-/
namespace PdfVerif.FB

/-- what `predict.Params.Validate` accepts (60 and 256: its colour caps for the TIFF and the PNG predictors; 65536 =
`limits.MaxImageWidth`, 4194304 = `maxBytesPerRow`) -/
def ParamsValid (colors bpc cols pred : Int) : Prop :=
  pred = 1 ∨
    (pred = 2 ∧ 1 ≤ colors ∧ colors ≤ 60 ∨ (10 ≤ pred ∧ pred ≤ 15) ∧ 1 ≤ colors ∧ colors ≤ 256) ∧
    (bpc = 1 ∨ bpc = 2 ∨ bpc = 4 ∨ bpc = 8 ∨ bpc = 16) ∧
    1 ≤ cols ∧ cols ≤ 65536 ∧ (colors * bpc * cols + 7) / 8 ≤ 4194304

/-- the factors `Validate` has range checked when it forms the product: neither product comes near 2⁶³ -/
theorem prod_bounds {colors bpc cols : Int} (h1 : 1 ≤ colors) (h2 : colors ≤ 256)
    (hb : bpc = 1 ∨ bpc = 2 ∨ bpc = 4 ∨ bpc = 8 ∨ bpc = 16) (h3 : 1 ≤ cols) (h4 : cols ≤ 65536) :
    1 ≤ colors * bpc ∧ colors * bpc ≤ 4096 ∧ 1 ≤ colors * bpc * cols ∧ colors * bpc * cols ≤ 268435456 := by
  have a : 1 ≤ colors * bpc ∧ colors * bpc ≤ 4096 := by
    rcases hb with h | h | h | h | h <;> subst h <;> omega
  refine ⟨a.1, a.2, ?_, ?_⟩
  · have := Int.mul_le_mul a.1 h3 (by omega) (by omega)
    omega
  · have := Int.mul_le_mul a.2 h4 (by omega) (by omega)
    omega

/-- what `validateFlateLZW` accepts at PDF version `v` (4 = 1.3, 6 = 1.5); `inner` stands for "the predictor accepts
`predictParams(…)`", which the function asks last and only with a predictor -/
def FlateLZWValid (v p colors bpc columns : Int) (inner : Prop) : Prop :=
  (p = 0 ∨ p = 1 ∨ p = 2 ∨ (10 ≤ p ∧ p ≤ 15)) ∧
  if p = 0 ∨ p = 1 then colors = 0 ∧ bpc = 0 ∧ columns = 0
  else (colors = 0 ∨ 1 ≤ colors ∧ (v < 4 → colors ≤ 4)) ∧
    (bpc = 0 ∨ bpc = 1 ∨ bpc = 2 ∨ bpc = 4 ∨ bpc = 8 ∨ bpc = 16 ∧ 6 ≤ v) ∧
    (columns = 0 ∨ 1 ≤ columns ∧ columns ≤ 1048576) ∧ inner

/-- what `validateFlateLZW` accepts, `Params.Validate` accepts on `predictParams(…)`: without a predictor that is
predictor 1, accepted outright; with one it is the last thing asked -/
theorem FlateLZWValid.encode_ok {v p colors bpc columns : Int} {inner : Prop} (h : FlateLZWValid v p colors bpc columns inner)
    (hi : inner ↔ ParamsValid (if colors = 0 then 1 else colors) (if bpc = 0 then 8 else bpc)
      (if columns = 0 then 1 else columns) (if p = 0 then 1 else p)) : inner := by
  by_cases hu : p = 0 ∨ p = 1
  · exact hi.mpr (Or.inl (by rcases hu with rfl | rfl <;> rfl))
  · exact ((if_neg hu).mp h.2).2.2.2

end PdfVerif.FB
