import PdfVerif.Model.Scan
import PdfVerif.Lemmas.Digits
/-!
The number scanner of `Model/Scan.lean`: one step of the accept function `scanNumTok` (a digit
anywhere, a sign in front, the first period, a stopping byte), runs of digits, `parseInt64` by
the sign of the token, and what a well-formed decimal token is (`wfRealTok`).
-/
namespace PdfVerif.C01L
open PdfVerif

theorem isDigit_iff (c : Nat) : isDigit c = true ↔ 48 ≤ c ∧ c ≤ 57 := by
  simp [isDigit]

theorem digitsVal_eq : ∀ (cs : Bytes) (acc : Nat), digitsVal cs acc = Digits.val 10 (cs.map (· - 48)) acc
  | [], _ => rfl
  | _ :: cs, _ => digitsVal_eq cs _

theorem digitsVal_append (a b : Bytes) (acc : Nat) :
    digitsVal (a ++ b) acc = digitsVal b (digitsVal a acc) := by
  simp only [digitsVal_eq, List.map_append, Digits.val_append]

/-- what may follow a number token: nothing, or a byte that the accept function of
    `ReadNumber` rejects after the first byte (`dotOk` = a dot would still be accepted) -/
def NumStop (dotOk : Bool) : Bytes → Prop
  | [] => True
  | c :: _ => isDigit c = false ∧ (dotOk = true → c ≠ 46)

theorem scanNumTok_append (a : Bool) : ∀ (inp : Bytes) (h f : Bool),
    (scanNumTok a h f inp).1 ++ (scanNumTok a h f inp).2 = inp := by
  intro inp h f
  fun_induction scanNumTok a h f inp with
  | case1 | case5 => rfl                                        -- end of input, a byte that ends the token
  | case2 _ _ c _ _ _ _ he ih => rw [he] at ih; exact congrArg (c :: ·) ih      -- the dot
  | case3 _ _ c _ _ _ _ _ he ih => rw [he] at ih; exact congrArg (c :: ·) ih    -- the sign
  | case4 _ _ c _ _ _ _ _ _ he ih => rw [he] at ih; exact congrArg (c :: ·) ih  -- a digit

theorem scanNumTok_len (a h f : Bool) (inp : Bytes) :
    (scanNumTok a h f inp).1.length + (scanNumTok a h f inp).2.length = inp.length := by
  have := congrArg List.length (scanNumTok_append a inp h f)
  simpa using this

theorem scan_digit (a dot first : Bool) {d : Nat} (hd : isDigit d = true) (cs : Bytes) :
    scanNumTok a dot first (d :: cs) = (d :: (scanNumTok a dot false cs).1, (scanNumTok a dot false cs).2) := by
  have hr := (isDigit_iff d).mp hd
  have hne : d ≠ 46 ∧ d ≠ 43 ∧ d ≠ 45 := by omega
  simp [scanNumTok, hne, hd]

theorem scan_sign (a dot : Bool) {c : Nat} (hc : c = 43 ∨ c = 45) (cs : Bytes) :
    scanNumTok a dot true (c :: cs) = (c :: (scanNumTok a dot false cs).1, (scanNumTok a dot false cs).2) := by
  rcases hc with rfl | rfl <;> simp [scanNumTok]

theorem scan_dot (first : Bool) (cs : Bytes) :
    scanNumTok true false first (46 :: cs) = (46 :: (scanNumTok true true false cs).1, (scanNumTok true true false cs).2) := by
  simp [scanNumTok]

theorem scan_stop (a dot : Bool) {rest : Bytes} (hr : NumStop (a && !dot) rest) :
    scanNumTok a dot false rest = ([], rest) := by
  cases rest with
  | nil => rfl
  | cons c cs =>
    have h0 : (a && !dot && c == 46) = false := by
      cases hb : (a && !dot) with
      | false => rfl
      | true => simp [hr.2 hb]
    simp [scanNumTok, h0, hr.1]

theorem scan_digits_pre (allowDot hasDot : Bool) (ds k : Bytes) (hds : ∀ c ∈ ds, isDigit c = true) :
    scanNumTok allowDot hasDot false (ds ++ k) =
      (ds ++ (scanNumTok allowDot hasDot false k).1, (scanNumTok allowDot hasDot false k).2) := by
  induction ds with
  | nil => rfl
  | cons d ds ih =>
    rw [List.cons_append, scan_digit allowDot hasDot false (hds d List.mem_cons_self),
      ih (fun x hx => hds x (List.mem_cons_of_mem _ hx))]
    rfl

theorem scan_digits (allowDot hasDot : Bool) (ds rest : Bytes) (hds : ∀ c ∈ ds, isDigit c = true)
    (hrest : NumStop (allowDot && !hasDot) rest) :
    scanNumTok allowDot hasDot false (ds ++ rest) = (ds, rest) := by
  rw [scan_digits_pre allowDot hasDot ds rest hds, scan_stop allowDot hasDot hrest, List.append_nil]

theorem parseInt64_some (tok : Bytes) (i : Int) (h : parseInt64 tok = some i) :
    tok ≠ [] ∧ -9223372036854775808 ≤ i ∧ i ≤ 9223372036854775807 := by
  unfold parseInt64 at h
  split at h
  rename_i neg ds heq
  simp at h
  obtain ⟨⟨h0, _⟩, h1, h2⟩ := h
  refine ⟨?_, by omega, by omega⟩
  intro ht; subst ht
  simp at heq
  exact h0 heq.2

/-! In the next three proofs the two `split`s are the model's range test `v < -2^63 || v > 2^63 - 1` against the `if`
of the statement. -/

theorem parseInt64_neg (ds : Bytes) (hne : ds ≠ []) (hall : ds.all isDigit = true) :
    parseInt64 (45 :: ds) =
      if (digitsVal ds 0 : Int) ≤ 9223372036854775808 then some (-(digitsVal ds 0 : Int)) else none := by
  have h1 : ds.isEmpty = false := by cases ds <;> simp_all
  simp only [parseInt64, h1, hall]
  simp
  split <;> split <;> first | rfl | omega

theorem parseInt64_plus (ds : Bytes) (hne : ds ≠ []) (hall : ds.all isDigit = true) :
    parseInt64 (43 :: ds) =
      if (digitsVal ds 0 : Int) ≤ 9223372036854775807 then some (digitsVal ds 0 : Int) else none := by
  have h1 : ds.isEmpty = false := by cases ds <;> simp_all
  simp only [parseInt64, h1, hall]
  simp
  split <;> split <;> first | rfl | omega

theorem parseInt64_pos (d : Nat) (t : Bytes) (hd : isDigit d = true) (hall : (d :: t).all isDigit = true) :
    parseInt64 (d :: t) =
      if (digitsVal (d :: t) 0 : Int) ≤ 9223372036854775807 then some (digitsVal (d :: t) 0 : Int) else none := by
  have hd' := (isDigit_iff d).mp hd
  unfold parseInt64
  split
  · rename_i neg ds heq
    split at heq
    · rename_i ds' h; simp at h; omega
    · rename_i ds' h; simp at h; omega
    · simp at heq
      obtain ⟨h1, h2⟩ := heq
      subst h1; subst h2
      simp only [hall]
      simp
      split <;> split <;> first | rfl | omega

def digitSpan : Bytes → Bytes × Bytes
  | [] => ([], [])
  | c :: cs => if isDigit c then ((c :: (digitSpan cs).1), (digitSpan cs).2) else ([], c :: cs)

theorem digitSpan_append (l : Bytes) : (digitSpan l).1 ++ (digitSpan l).2 = l := by
  fun_induction digitSpan l with
  | case1 | case3 => rfl
  | case2 c _ _ ih => exact congrArg (c :: ·) ih

theorem digitSpan_digits (l : Bytes) : ∀ c ∈ (digitSpan l).1, isDigit c = true := by
  fun_induction digitSpan l with
  | case1 | case3 => exact nofun
  | case2 c _ h ih => exact List.forall_mem_cons.2 ⟨h, ih⟩

/-- unsigned part of a decimal token: digits, optional dot, digits, at least one digit -/
def wfUnsigned (u : Bytes) : Bool :=
  match (digitSpan u).2 with
  | [] => !(digitSpan u).1.isEmpty
  | 46 :: fp => fp.all isDigit && (!(digitSpan u).1.isEmpty || !fp.isEmpty)
  | _ => false

/-- well-formed decimal token (what `strconv.FormatFloat(x,'f',-1,64)` produces for finite `x`,
    and a little more): optional `-`, digits, optional `.`, digits, at least one digit -/
def wfRealTok (t : Bytes) : Bool :=
  match t with
  | 45 :: u => wfUnsigned u
  | u => wfUnsigned u

end PdfVerif.C01L
