import PdfVerif.Model.TRSNameTree
/-!
Association lists of `Model/TRSNameTree.lean`, as far as no law of the key order is needed: the
linear search of a leaf (`lookupEntries`) is the lookup in the Go map of the in-memory value
(`mapGet`); `mapSet`, `mapDel` and membership, distinct keys; the insertion sort permutes.  What needs
a lawful order stands next to `Asc` in `Props/C17trs.lean`.
-/
namespace PdfVerif.TRSAssoc
open PdfVerif PdfVerif.TRSN

section
variable {K V : Type} [DecidableEq K]

/-- the third case does not occur (`lookupEntries` never answers `tooDeep`); the `match` has to be
    total -/
theorem lookupEntries_append (key : K) (a b : List (K × V)) :
    lookupEntries key (a ++ b) =
      match lookupEntries key a with
      | .found v => .found v
      | .notFound => lookupEntries key b
      | .tooDeep => .tooDeep := by
  fun_induction lookupEntries key a with
  | case1 => rfl
  | case2 v rest => simp [lookupEntries]
  | case3 k v rest hk ih => simpa [lookupEntries, hk] using ih

theorem mapGet_nil (key : K) : mapGet key ([] : List (K × V)) = none := rfl

theorem mapGet_cons (key k : K) (x : V) (rest : List (K × V)) :
    mapGet key ((k, x) :: rest) = if k = key then some x else mapGet key rest := rfl

theorem memLookup_eq (key : K) (m : List (K × V)) : memLookup m key = lookupEntries key m := by
  fun_induction lookupEntries key m with
  | case1 => rfl
  | case2 v rest => simp [memLookup, mapGet_cons]
  | case3 k v rest hk ih => simpa [memLookup, mapGet_cons, hk] using ih

theorem mapGet_none_of_notKey {k : K} {m : List (K × V)} (h : ∀ e ∈ m, e.1 ≠ k) :
    mapGet k m = none := by
  fun_induction mapGet k m with
  | case1 => rfl
  | case2 x rest => exact absurd rfl (h (k, x) List.mem_cons_self)
  | case3 a x rest _ ih => exact ih fun e he => h e (List.mem_cons_of_mem _ he)

theorem lookupEntries_notMem (key : K) (es : List (K × V)) (h : ∀ e ∈ es, e.1 ≠ key) :
    lookupEntries key es = .notFound := by
  rw [← memLookup_eq, memLookup, mapGet_none_of_notKey h]

theorem mapSet_fresh (k : K) (v : V) (m : List (K × V)) (h : ∀ e ∈ m, e.1 ≠ k) :
    mapSet k v m = m ++ [(k, v)] := by
  fun_induction mapSet k v m with
  | case1 => rfl
  | case2 x rest => exact absurd rfl (h (k, x) List.mem_cons_self)
  | case3 a x rest _ ih => rw [ih fun e he => h e (List.mem_cons_of_mem _ he)]; rfl

theorem mem_iff_mapGet {m : List (K × V)} (h : m.Pairwise (fun a b => a.1 ≠ b.1)) (k : K) (v : V) :
    (k, v) ∈ m ↔ mapGet k m = some v := by
  fun_induction mapGet k m with
  | case1 => simp
  | case2 x rest =>
    refine ⟨fun hm => ?_, fun e => by cases e; exact List.mem_cons_self⟩
    rcases List.mem_cons.mp hm with e | hm
    · cases e; rfl
    · exact absurd rfl ((List.pairwise_cons.mp h).1 (k, v) hm)
  | case3 a x rest ha ih =>
    rw [← ih (List.pairwise_cons.mp h).2]
    refine ⟨fun hm => ?_, List.mem_cons_of_mem _⟩
    rcases List.mem_cons.mp hm with e | hm
    · cases e; exact absurd rfl ha
    · exact hm

theorem lookupEntries_mem {es : List (K × V)} (h : es.Pairwise (fun a b => a.1 ≠ b.1)) {k : K} {v : V}
    (hmem : (k, v) ∈ es) : lookupEntries k es = .found v := by
  rw [← memLookup_eq, memLookup, (mem_iff_mapGet h k v).mp hmem]

theorem mem_mapSet {k : K} {v : V} {m : List (K × V)} {e : K × V} (h : e ∈ mapSet k v m) :
    e = (k, v) ∨ e ∈ m := by
  fun_induction mapSet k v m with
  | case1 => exact .inl (List.mem_singleton.mp h)
  | case2 x rest => exact (List.mem_cons.mp h).imp_right (List.mem_cons_of_mem _)
  | case3 a x rest _ ih =>
    rcases List.mem_cons.mp h with h | h
    · exact .inr (h ▸ List.mem_cons_self)
    · exact (ih h).imp_right (List.mem_cons_of_mem _)

theorem pairwise_mapSet (k : K) (v : V) (m : List (K × V)) (h : m.Pairwise (fun a b => a.1 ≠ b.1)) :
    (mapSet k v m).Pairwise (fun a b => a.1 ≠ b.1) := by
  fun_induction mapSet k v m with
  | case1 => exact List.pairwise_singleton _ _
  | case2 x rest => exact List.pairwise_cons.mpr (List.pairwise_cons.mp h)
  | case3 a x rest ha ih =>
    have h := List.pairwise_cons.mp h
    refine List.pairwise_cons.mpr ⟨fun e he => ?_, ih h.2⟩
    rcases mem_mapSet he with rfl | he'
    · exact ha
    · exact h.1 e he'

theorem mapDel_sublist (k : K) (m : List (K × V)) : (mapDel k m).Sublist m := by
  fun_induction mapDel k m with
  | case1 => exact .slnil
  | case2 x rest => exact List.sublist_cons_self _ _
  | case3 a x rest _ ih => exact ih.cons_cons _

end

section
variable {K V : Type} [KeyOrd K]

theorem insertSorted_perm (e : K × V) (l : List (K × V)) : (insertSorted e l).Perm (e :: l) := by
  fun_induction insertSorted e l with
  | case1 => exact .refl _
  | case2 x rest _ ih => exact (ih.cons x).trans (.swap e x rest)
  | case3 x rest _ => exact .refl _

theorem sortByKey_nil : sortByKey ([] : List (K × V)) = [] := rfl

theorem sortByKey_cons (e : K × V) (rest : List (K × V)) :
    sortByKey (e :: rest) = insertSorted e (sortByKey rest) := rfl

theorem sortByKey_perm : ∀ m : List (K × V), (sortByKey m).Perm m
  | [] => .refl _
  | e :: rest => by
    rw [sortByKey_cons]
    exact (insertSorted_perm e _).trans ((sortByKey_perm rest).cons e)

end

end PdfVerif.TRSAssoc
