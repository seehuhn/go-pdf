import PdfVerif.Lemmas.C01Defs
/-!
Inversion of the formatter's sequence functions (`fmtSeq_cons_inv`, `fmtDictPlain_cons_inv`, …), the shape of the bytes
written for the entries of a dictionary (`dictBody_cont`), and that `formatDict`'s space before `>>` is never written for
good objects (`lastIsGtOp_good`).
-/
namespace PdfVerif.C01L
open PdfVerif

theorem fmtSeq_cons_inv (opt : FmtOpt) (ns : Bool) (x : Obj) (xs : List Obj) (body : Bytes) :
    fmtSeq opt ns (x :: xs) = some body ↔
      ∃ a ns1 b, fmtObj opt ns x = some (a, ns1) ∧ fmtSeq opt ns1 xs = some b ∧ body = a ++ b := by
  simp only [fmtSeq, Option.bind_eq_bind, Option.bind_eq_some_iff, Option.pure_def, Option.some.injEq, Prod.exists]
  exact ⟨fun ⟨a, ns1, h1, b, h2, h3⟩ => ⟨a, ns1, b, h1, h2, h3.symm⟩,
    fun ⟨a, ns1, b, h1, h2, h3⟩ => ⟨a, ns1, h1, b, h2, h3.symm⟩⟩

theorem fmtSeqPretty_cons_inv (opt : FmtOpt) (first : Bool) (x : Obj) (xs : List Obj) (body : Bytes) :
    fmtSeqPretty opt first (x :: xs) = some body ↔
      ∃ a ns1 b, fmtObj opt false x = some (a, ns1) ∧ fmtSeqPretty opt false xs = some b ∧
        body = (if first then [] else [32]) ++ a ++ b := by
  simp only [fmtSeqPretty, Option.bind_eq_bind, Option.bind_eq_some_iff, Option.pure_def, Option.some.injEq,
    Prod.exists]
  exact ⟨fun ⟨a, ns1, h1, b, h2, h3⟩ => ⟨a, ns1, b, h1, h2, h3.symm⟩,
    fun ⟨a, ns1, b, h1, h2, h3⟩ => ⟨a, ns1, h1, b, h2, h3.symm⟩⟩

theorem fmtObj_arr_inv (opt : FmtOpt) (ns : Bool) (xs : List Obj) (bs : Bytes) (ns' : Bool) :
    fmtObj opt ns (.arr xs) = some (bs, ns') ↔
      ∃ body, (if opt.pretty then fmtSeqPretty opt true xs else fmtSeq opt false xs) = some body ∧
        bs = 91 :: (body ++ [93]) ∧ ns' = false := by
  simp only [fmtObj]
  cases hp : opt.pretty
  · simp only [Bool.false_eq_true, if_false]
    cases h : fmtSeq opt false xs with
    | none => simp
    | some body => simp; intro _; exact eq_comm
  · simp only [if_true]
    cases h : fmtSeqPretty opt true xs with
    | none => simp
    | some body => simp; intro _; exact eq_comm

theorem fmtObj_dict_inv (opt : FmtOpt) (ns : Bool) (kv : List (Bytes × Obj)) (bs : Bytes) (ns' : Bool) :
    fmtObj opt ns (.dict kv) = some (bs, ns') ↔
      ∃ body, (if opt.pretty then fmtDictPretty opt kv else fmtDictPlain opt kv) = some body ∧
        bs = [60, 60] ++ (if opt.pretty then [10] else []) ++ body ++
            (if !opt.pretty && lastIsGtOp kv then [32] else []) ++ [62, 62] ∧ ns' = false := by
  simp only [fmtObj]
  cases hp : opt.pretty
  · simp only [Bool.false_eq_true, if_false]
    cases h : fmtDictPlain opt kv with
    | none => simp
    | some body => simp; intro _; exact eq_comm
  · simp only [if_true]
    cases h : fmtDictPretty opt kv with
    | none => simp
    | some body => simp; intro _; exact eq_comm

theorem fmtDictPlain_cons_eq (opt : FmtOpt) (k : Bytes) (v : Obj) (rest : List (Bytes × Obj)) :
    fmtDictPlain opt ((k, v) :: rest) =
      (fmtDictPlain opt rest).bind fun b =>
        match v with
        | .null => some b
        | v => (fmtObj opt true v).bind fun p => some (fmtName k ++ p.1 ++ b) := by
  rw [fmtDictPlain]
  rfl

theorem fmtDictPretty_cons_eq (opt : FmtOpt) (k : Bytes) (v : Obj) (rest : List (Bytes × Obj)) :
    fmtDictPretty opt ((k, v) :: rest) =
      (fmtDictPretty opt rest).bind fun b =>
        match v with
        | .null => some b
        | v => (fmtObj opt false v).bind fun p => some (fmtName k ++ [32] ++ p.1 ++ [10] ++ b) := by
  rw [fmtDictPretty]
  rfl

theorem fmtDictPlain_cons_inv (opt : FmtOpt) (k : Bytes) (v : Obj) (rest : List (Bytes × Obj)) (body : Bytes) :
    fmtDictPlain opt ((k, v) :: rest) = some body ↔
      ∃ b, fmtDictPlain opt rest = some b ∧
        ((v = .null ∧ body = b) ∨
         (v ≠ .null ∧ ∃ a ns1, fmtObj opt true v = some (a, ns1) ∧ body = fmtName k ++ a ++ b)) := by
  rw [fmtDictPlain_cons_eq]
  cases fmtDictPlain opt rest with
  | none => simp
  | some b =>
    by_cases hv : v = .null
    · subst hv; simp [eq_comm]
    · cases hf : fmtObj opt true v with
      | none => simp [hv, hf]
      | some p => obtain ⟨a, ns1⟩ := p; simp [hv, hf, eq_comm]

theorem fmtDictPretty_cons_inv (opt : FmtOpt) (k : Bytes) (v : Obj) (rest : List (Bytes × Obj)) (body : Bytes) :
    fmtDictPretty opt ((k, v) :: rest) = some body ↔
      ∃ b, fmtDictPretty opt rest = some b ∧
        ((v = .null ∧ body = b) ∨
         (v ≠ .null ∧ ∃ a ns1, fmtObj opt false v = some (a, ns1) ∧
            body = fmtName k ++ 32 :: (a ++ 10 :: b))) := by
  rw [fmtDictPretty_cons_eq]
  cases fmtDictPretty opt rest with
  | none => simp
  | some b =>
    by_cases hv : v = .null
    · subst hv; simp [eq_comm]
    · cases hf : fmtObj opt false v with
      | none => simp [hv, hf]
      | some p => obtain ⟨a, ns1⟩ := p; simp [hv, hf, eq_comm]

theorem fmtString_head (pretty : Bool) (s : Bytes) : ∃ c t, fmtString pretty s = c :: t ∧ (c = 40 ∨ c = 60) := by
  unfold fmtString
  simp only []
  split
  · exact ⟨60, _, rfl, .inr rfl⟩
  · exact ⟨40, _, rfl, .inl rfl⟩

theorem objStart_digit {c : Nat} (h : isDigit c = true) : objStart c = true := by simp [objStart, h]

/-- the formatter writes no white space in front of the first key -/
theorem dictBody_cont (opt : FmtOpt) (kv : List (Bytes × Obj)) (c0 : Nat) (t0 : Bytes) (hc0 : c0 = 47 ∨ c0 = 62) :
    ∀ body, (fmtDictPlain opt kv = some body ∨ fmtDictPretty opt kv = some body) →
      ∃ c t, body ++ c0 :: t0 = c :: t ∧ (c = 47 ∨ c = 62) := by
  induction kv with
  | nil =>
    intro body h
    have : body = [] := by rcases h with h | h <;> simpa [fmtDictPlain, fmtDictPretty] using h.symm
    subst this
    exact ⟨c0, t0, rfl, hc0⟩
  | cons e es ih =>
    obtain ⟨k, v⟩ := e
    intro body h
    rcases h with h | h
    · obtain ⟨b, hb, hcase⟩ := (fmtDictPlain_cons_inv opt k v es body).mp h
      rcases hcase with ⟨_, rfl⟩ | ⟨_, a, ns1, _, rfl⟩
      · exact ih body (.inl hb)
      · exact ⟨47, _, rfl, .inl rfl⟩
    · obtain ⟨b, hb, hcase⟩ := (fmtDictPretty_cons_inv opt k v es body).mp h
      rcases hcase with ⟨_, rfl⟩ | ⟨_, a, ns1, _, rfl⟩
      · exact ih body (.inr hb)
      · exact ⟨47, _, rfl, .inl rfl⟩

theorem dictBody_head (opt : FmtOpt) (kv : List (Bytes × Obj)) (rest : Bytes) :
    ∀ body, (fmtDictPlain opt kv = some body ∨ fmtDictPretty opt kv = some body) →
      ∃ c t, body ++ 62 :: 62 :: rest = c :: t ∧ (c = 47 ∨ c = 62) :=
  dictBody_cont opt kv 62 (62 :: rest) (.inr rfl)

theorem close_tokStart {c : Nat} (hc : c = 47 ∨ c = 62) : tokStart c = true ∧ isRegular c = false := by
  rcases hc with h | h <;> subst h <;> exact ⟨by decide, nonreg_delim (by decide)⟩

/-- where no value is an operator the "space before `>>`" of `formatDict` is never written -/
theorem lastIsGtOp_noOp (kv : List (Bytes × Obj)) (h : ∀ e ∈ kv, ∀ o, e.2 ≠ .op o) : lastIsGtOp kv = false := by
  unfold lastIsGtOp
  split
  · rename_i k heq
    exact absurd rfl (h _ (List.mem_filter.mp (List.mem_of_getLast? heq)).1 [62])
  · rfl

theorem lastIsGtOp_good (kv : List (Bytes × Obj)) (h : goodKV kv = true) : lastIsGtOp kv = false :=
  lastIsGtOp_noOp kv fun e he o ho => by
    have := ((goodKV_iff kv).mp h e he).2
    rw [ho] at this; cases this

end PdfVerif.C01L
