import PdfVerif.Lemmas.CONCLive
/-!
`marker_released` (C18): with the deferred release in `DecodeExclusive`, on every exit path — return,
error, panic, `runtime.Goexit` (the label `.fnRet .panic` stands for both) — the in-progress marker is
cleared and `done` is closed.  As an invariant over all traces: a `wip` entry belongs to a pending which
is not closed, and a pending which is not closed has a live owner frame (`Live`).
-/
namespace PdfVerif.CONC

/-- `live` is `Live`.  `undone`: a marker belongs to an open pending.  `inj`, `closing`: a pending has
at most one marker, and none once its owner is at `ex:pre-close` — what `undone` needs when an owner
closes its pending or the deferred release runs. -/
structure MInv (s : State) : Prop where
  live : ∀ p, p < s.npend → (s.pend p).done = false → ∃ t, p ∈ owned (s.thr t)
  undone : ∀ k p, s.wip k = some p → (s.pend p).done = false
  inj : ∀ k k' p, s.wip k = some p → s.wip k' = some p → k = k'
  closing : ∀ t k p r, Frame.exClose k p r ∈ s.thr t → ∀ k', s.wip k' ≠ some p

theorem MInv.init : MInv State.init := by
  refine ⟨fun p h => ?_, fun k p h => ?_, fun k k' p h => ?_, fun t k p r h => ?_⟩
  · simp only [init_npend] at h; cases h
  · simp only [init_wip] at h; cases h
  · simp only [init_wip] at h; cases h
  · simp only [init_thr] at h; cases h

theorem MInv.quiet {s s' : State} {t : Tid} (hm : MInv s) (q : Quiet s s' t) : MInv s' := by
  refine ⟨Live.quiet hm.live q, ?_, ?_, ?_⟩
  · intro k p hk; rw [q.wip] at hk; rw [q.pend]; exact hm.undone k p hk
  · intro k k' p h1 h2; rw [q.wip] at h1 h2; exact hm.inj k k' p h1 h2
  · intro t' k p r hf k'
    rw [q.wip]
    by_cases e : t' = t
    · subst e; exact hm.closing t' k p r (q.closing k p r hf) k'
    · rw [q.others t' e] at hf; exact hm.closing t' k p r hf k'

theorem mem_of_mem_upd {s : State} {t t' : Tid} {f g : Frame} {rest : List Frame}
    (hg : g ∈ upd s.thr t (f :: rest) t') (hne : g ≠ f) (hsub : ∀ g ∈ rest, g ∈ s.thr t) :
    g ∈ s.thr t' :=
  (mem_upd_cons hg).elim (absurd · hne) fun h => h.elim (fun h => h.1 ▸ hsub g h.2) (·.2)

theorem MInv.step {cfg : Cfg} {s s' : State} {t : Tid} {a : Act} (hx : XInv s) (hm : MInv s)
    (h : step cfg s t a = some s') : MInv s' := by
  have hlive : Live s' := Live.step hx hm.live h
  cases step_kind h with
  | push hp => exact hm.quiet hp.quiet
  | ret hr => exact hm.quiet hr.quiet
  | @register r tp path _ hwk =>
    refine ⟨hlive, ?_, ?_, ?_⟩
    · intro k' p hk
      simp only [upd_apply] at hk
      split at hk
      · cases hk; exact congrArg Pending.done (upd_same ..)
      · exact (congrArg Pending.done (upd_of_lt _ _ (hx.wipb k' p hk))).trans (hm.undone k' p hk)
    · intro k1 k2 p h1 h2
      simp only [upd_apply] at h1 h2
      split at h1 <;> split at h2
      · next e1 e2 => rw [e1, e2]
      · cases h1; exact absurd (hx.wipb k2 _ h2) (Nat.lt_irrefl _)
      · cases h2; exact absurd (hx.wipb k1 _ h1) (Nat.lt_irrefl _)
      · exact hm.inj k1 k2 p h1 h2
    · intro t' k1 p1 r1 hf k'
      have hf' := mem_of_mem_upd hf nofun fun _ h => h
      simp only [upd_apply]
      split
      · rintro ⟨⟩
        exact Nat.lt_irrefl _ (hx.bound t' _ (mem_owned hf' rfl))
      · exact hm.closing t' k1 p1 r1 hf' k'
  | @publish k p res rest e =>
    have htop : XFrame s (.exPub k p res) := hx.frames t _ (e ▸ List.mem_cons_self)
    have hdone := published_done s.pend p res
    have hwsub : ∀ k' q, upd s.wip k none k' = some q → s.wip k' = some q ∧ k' ≠ k := by
      intro k' q hk
      rw [upd_apply] at hk
      split at hk
      · cases hk
      · next ne => exact ⟨hk, ne⟩
    refine ⟨hlive, fun k' q hk => (hdone q).trans (hm.undone k' q (hwsub k' q hk).1),
      fun k1 k2 q h1 h2 => hm.inj k1 k2 q (hwsub _ _ h1).1 (hwsub _ _ h2).1, ?_⟩
    intro t' k1 p1 r1 hf k' hk
    obtain ⟨hk1, hne⟩ := hwsub k' p1 hk
    -- the new `exClose` frame: `p` had one marker (`inj`), the one at `k` (`htop`), and that was just removed
    by_cases e1 : Frame.exClose k1 p1 r1 = .exClose k p res
    · cases e1; exact hne (hm.inj k' k p hk1 htop.1)
    · exact hm.closing t' k1 p1 r1
        (mem_of_mem_upd hf e1 fun g hg => e ▸ List.mem_cons_of_mem _ hg) k' hk1
  | @close k p res rest e =>
    have hcl : Frame.exClose k p res ∈ s.thr t := e ▸ List.mem_cons_self
    refine ⟨hlive, ?_, hm.inj, fun t' k1 p1 r1 hf k' => hm.closing t' k1 p1 r1
      (mem_of_mem_upd hf nofun fun g hg => e ▸ List.mem_cons_of_mem _ hg) k'⟩
    intro k' q hk
    have hqp : q ≠ p := by rintro rfl; exact hm.closing t k q res hcl k' hk
    exact (congrArg Pending.done (upd_other _ _ _ _ hqp)).trans (hm.undone k' q hk)
  | crash =>
    have hxt : ∀ f ∈ s.thr t, XFrame s f := hx.frames t
    refine ⟨hlive, ?_, fun k1 k2 q h1 h2 =>
      hm.inj k1 k2 q (releaseOwned_wip_sub _ _ _ _ h1) (releaseOwned_wip_sub _ _ _ _ h2), ?_⟩
    · intro k' q hk
      have hk0 := releaseOwned_wip_sub _ _ _ _ hk
      by_cases hmem : q ∈ owned (s.thr t)
      · -- `q` was owned on the unwound stack.  If its owner held a marker, that was its only one (`inj`)
        -- and the release removed it; if the owner was at `ex:pre-close`, `q` had none (`closing`).
        rcases owned_cases hmem with hh | ⟨kf, r, hf⟩
        · obtain ⟨f, hf, kf, hkf, ho⟩ := mem_heldBy.mp hh
          obtain ⟨q', ho', hw'⟩ := (hxt f hf).holds hkf
          cases ho.symm.trans ho'
          cases hm.inj kf k' q hw' hk0
          rw [crash_wip, releaseOwned_wip, if_pos (List.mem_filterMap.mpr ⟨f, hf, hkf⟩)] at hk
          cases hk
        · exact absurd hk0 (hm.closing t kf q r hf k')
      · exact (congrArg Pending.done (releaseOwned_pend_other s _ q hmem)).trans (hm.undone k' q hk0)
    · intro t' k1 p1 r1 hf k' hk
      rw [crash_thr, upd_apply] at hf
      split at hf
      · cases List.mem_singleton.mp hf
      · exact hm.closing t' k1 p1 r1 hf k' (releaseOwned_wip_sub _ _ _ _ hk)

end PdfVerif.CONC
