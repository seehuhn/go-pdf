import PdfVerif.Model.CPYCopier
/-!
C11 — the seven mutually recursive functions of the copier behind an interface: the state-returning
versions (`copyObjE` … `copyRefE`) as equations over `andThen`, `CopyReference` as the list of its seven
outcomes (`RefStep`), one induction for relations between the states before and after a call (`relE_main`),
and the plain versions and runs as projections (`agrees`, `stepOp_sim`, `runOps_sim`).  The definitions at
the head carry the namespaces of the `Props/C11cpy*` modules whose theorems are stated with them.
-/
namespace PdfVerif.C11cpy
open PdfVerif PdfVerif.CPY

/-- what `Writer.Alloc` returns: the number with generation 0 -/
def refOf (n : Nat) : Ref := (n, 0)

theorem refOf_injective : Function.Injective refOf := by
  intro a b h; simpa [refOf] using h

/-- the state after `CopyReference` has allocated a number and entered it for every link of `chain` -/
def entered (s : St) (chain : List Ref) : St :=
  { trans := enter chain (refOf s.next) s.trans, next := s.next + 1, puts := s.puts, tgtV := s.tgtV }

theorem entered_trans (s : St) (chain : List Ref) :
    (entered s chain).trans = enter chain (refOf s.next) s.trans := rfl

theorem entered_next (s : St) (chain : List Ref) : (entered s chain).next = s.next + 1 := rfl

theorem entered_puts (s : St) (chain : List Ref) : (entered s chain).puts = s.puts := rfl

/-- the numbers of the objects written are below `next` (true for a new Writer, kept by every
    call; it is what makes `Writer.Put` accept the freshly allocated number) -/
def PB (s : St) : Prop := ∀ k ∈ s.puts.map Prod.fst, k.1 < s.next

end PdfVerif.C11cpy

namespace PdfVerif.C11cpyc
open PdfVerif PdfVerif.CPY

def opRedirect : Op → List Ref
  | .redirectNew r _ => [r]
  | .redirectTo r _ => [r]
  | _ => []

end PdfVerif.C11cpyc

namespace PdfVerif.C11cpyd
open PdfVerif PdfVerif.CPY PdfVerif.C11cpy PdfVerif.C11cpyc

def toPlain {α : Type} : Except CErr α × St → Except CErr (α × St)
  | (.ok a, s) => .ok (a, s)
  | (.error e, _) => .error e

section
variable (G : Graph)

def AObj (f : Nat) : Prop := ∀ s o, toPlain (copyObjE f G s o) = copyObj f G s o
def AList (f : Nat) : Prop := ∀ s xs, toPlain (copyListE f G s xs) = copyList f G s xs
def AKV (f : Nat) : Prop := ∀ s L, toPlain (copyKVE f G s L) = copyKV f G s L
def AInl (f : Nat) : Prop := ∀ s src res key, toPlain (inlineKeyE f G s src res key) = inlineKey f G s src res key
def ASD (f : Nat) : Prop := ∀ s src, toPlain (copyStreamDictE f G s src) = copyStreamDict f G s src
def AVal (f : Nat) : Prop := ∀ s v, toPlain (copyValE f G s v) = copyVal f G s v
def ARef (f : Nat) : Prop := ∀ s r, toPlain (copyRefE f G s r) = copyRef f G s r

end

/-- `next` only grows; the objects written are kept and the new ones carry distinct numbers
    taken from the numbers allocated by the call -/
def Frame (s s' : St) : Prop :=
  s.next ≤ s'.next ∧ ∃ P : List (Ref × Val), s'.puts = s.puts ++ P ∧ (P.map Prod.fst).Nodup ∧
    ∀ k ∈ P.map Prod.fst, ∃ m, k = refOf m ∧ s.next ≤ m ∧ m < s'.next

theorem Frame.refl (s : St) : Frame s s := ⟨Nat.le_refl _, [], by simp, by simp, by simp⟩

theorem Frame.trans {a b c : St} (h1 : Frame a b) (h2 : Frame b c) : Frame a c := by
  obtain ⟨n1, P1, p1, d1, m1⟩ := h1
  obtain ⟨n2, P2, p2, d2, m2⟩ := h2
  refine ⟨by omega, P1 ++ P2, by rw [p2, p1, List.append_assoc], ?_, ?_⟩
  · rw [List.map_append, List.nodup_append]
    refine ⟨d1, d2, ?_⟩
    intro x hx y hy hxy
    subst hxy
    obtain ⟨m, e1, _, h1⟩ := m1 x hx
    obtain ⟨m', e2, h2, _⟩ := m2 x hy
    rw [e1] at e2
    have := refOf_injective e2
    omega
  · intro k hk
    rw [List.map_append, List.mem_append] at hk
    rcases hk with h | h
    · obtain ⟨m, e, h1, h2⟩ := m1 k h; exact ⟨m, e, h1, by omega⟩
    · obtain ⟨m, e, h1, h2⟩ := m2 k h; exact ⟨m, e, by omega, h2⟩

theorem Frame.pb {s s' : St} (h : Frame s s') (c : PB s) : PB s' := by
  obtain ⟨hle, P, hb, _, hP⟩ := h
  intro k hk
  rw [hb, List.map_append, List.mem_append] at hk
  rcases hk with hk | hk
  · have := c k hk; omega
  · obtain ⟨m, rfl, _, h2⟩ := hP k hk; exact h2

theorem Frame.nodup {s s' : St} (h : Frame s s') (c1 : (s.puts.map Prod.fst).Nodup)
    (c2 : PB s) : (s'.puts.map Prod.fst).Nodup := by
  obtain ⟨_, P, hb, hnd, hP⟩ := h
  rw [hb, List.map_append]
  refine List.nodup_append.mpr ⟨c1, hnd, fun x hx y hy hxy => ?_⟩
  subst hxy
  have := c2 x hx
  obtain ⟨m, rfl, h1, _⟩ := hP x hy
  simp only [refOf] at this
  omega

/-- every `Redirect` of the run is applied to a source reference that is not translated -/
def RedirectsFreshE (fuel : Nat) (G : Graph) : St → List (Except CErr Ref) → List Op → Prop
  | _, _, [] => True
  | s, roots, op :: ops =>
    (∀ r ∈ opRedirect op, assoc r s.trans = none) ∧
    RedirectsFreshE fuel G (stepOpE fuel G s roots op).2 (roots ++ [(stepOpE fuel G s roots op).1]) ops

end PdfVerif.C11cpyd

namespace PdfVerif.CPY
open PdfVerif.C11cpy PdfVerif.C11cpyd

abbrev Out (α : Type) := Except CErr α × St

def andThen {α β : Type} (x : Out α) (k : α → St → Out β) : Out β :=
  match x with
  | (.error e, s) => (.error e, s)
  | (.ok a, s) => k a s

theorem andThen_ok {α β : Type} {x : Out α} {k : α → St → Out β} {b : β} {s' : St} :
    andThen x k = (.ok b, s') ↔ ∃ a s1, x = (.ok a, s1) ∧ k a s1 = (.ok b, s') := by
  rcases x with ⟨_ | a, s1⟩
  · simp [andThen]
  · exact ⟨fun h => ⟨a, s1, rfl, h⟩, fun ⟨_, _, h, h'⟩ => by cases h; exact h'⟩

def NoFuel {α : Type} (x : Out α) : Prop := x.1 ≠ .error .fuel

/-- `x'`, `k'` are the nested calls with more fuel -/
theorem andThen_fuel {α β : Type} {x x' : Out α} {k k' : α → St → Out β} (hne : NoFuel (andThen x k))
    (hx : NoFuel x → x' = x) (hk : ∀ a s1, x = (.ok a, s1) → NoFuel (k a s1) → k' a s1 = k a s1) :
    andThen x' k' = andThen x k := by
  rcases x with ⟨e | a, s1⟩
  · rw [hx fun h => hne (by cases h; rfl)]; rfl
  · rw [hx nofun]; exact hk a s1 rfl hne

theorem NoFuel.andThen {α β : Type} {x : Out α} {k : α → St → Out β} (hx : NoFuel x)
    (hk : ∀ a s1, NoFuel (k a s1)) : NoFuel (andThen x k) := by
  rcases x with ⟨e | a, s1⟩
  · exact fun h => hx (by cases h; rfl)
  · exact hk a s1

theorem andThen_state {α β : Type} {P Q : St → Prop} {x : Out α} {k : α → St → Out β} (hx : P x.2)
    (he : ∀ s, P s → Q s) (hk : ∀ a s1, P s1 → Q (k a s1).2) : Q (andThen x k).2 := by
  rcases x with ⟨_ | a, s1⟩
  · exact he _ hx
  · exact hk a s1 hx

def WithinE (A : CErr → Prop) {α : Type} (x : Out α) : Prop := ∀ e, x.1 = .error e → A e

theorem WithinE.ok {A : CErr → Prop} {α : Type} {a : α} {s : St} : WithinE A ((.ok a, s) : Out α) :=
  fun _ => nofun

theorem WithinE.error {A : CErr → Prop} {α : Type} {e : CErr} {s : St} (h : A e) :
    WithinE A ((.error e, s) : Out α) :=
  fun _ h' => by cases h'; exact h

theorem WithinE.andThen {A : CErr → Prop} {α β : Type} {x : Out α} {k : α → St → Out β}
    (hx : WithinE A x) (hk : ∀ a s1, x = (.ok a, s1) → WithinE A (k a s1)) : WithinE A (andThen x k) := by
  rcases x with ⟨e | a, s1⟩
  · exact fun e' h => hx e' (by cases h; rfl)
  · exact hk a s1 rfl

-- The equations of the state-returning functions are not `rfl`: the `match` in the model and the one in
-- `andThen` are different auxiliary definitions, equal only once the nested call is a pair of constructors.

section
variable (G : Graph) (f : Nat) (s : St)

theorem copyObjE_dict (kv : KV) : copyObjE (f+1) G s (.dict kv) =
    andThen (copyKVE f G s (sortedEntries kv)) fun kv' s' => (.ok (.dict kv'), s') := by
  rw [copyObjE]; rcases copyKVE f G s (sortedEntries kv) with ⟨_ | _, _⟩ <;> rfl

theorem copyObjE_arr (xs : List Obj) : copyObjE (f+1) G s (.arr xs) =
    andThen (copyListE f G s xs) fun ys s' => (.ok (.arr ys), s') := by
  rw [copyObjE]; rcases copyListE f G s xs with ⟨_ | _, _⟩ <;> rfl

theorem copyObjE_ref (n g : Nat) : copyObjE (f+1) G s (.ref n g) =
    andThen (copyRefE f G s (n, g)) fun t s' => (.ok (.ref t.1 t.2), s') := by
  rw [copyObjE]; rcases copyRefE f G s (n, g) with ⟨_ | _, _⟩ <;> rfl

theorem copyListE_cons (x : Obj) (xs : List Obj) : copyListE (f+1) G s (x :: xs) =
    andThen (copyObjE f G s x) fun y s1 =>
      andThen (copyListE f G s1 xs) fun ys s2 => (.ok (y :: ys), s2) := by
  rw [copyListE]
  rcases copyObjE f G s x with ⟨_ | y, s1⟩
  · rfl
  · simp only [andThen]; rcases copyListE f G s1 xs with ⟨_ | _, _⟩ <;> rfl

theorem copyKVE_null (k : Bytes) (rest : KV) : copyKVE (f+1) G s ((k, .null) :: rest) =
    andThen (copyKVE f G s rest) fun rest' s' => (.ok ((k, .null) :: rest'), s') := by
  rw [copyKVE]; rcases copyKVE f G s rest with ⟨_ | _, _⟩ <;> rfl

/-- `copyKVE` has one equation for each non-null constructor; this is all of them -/
theorem copyKVE_cons (k : Bytes) (v : Obj) (rest : KV) (h : v ≠ .null) :
    copyKVE (f+1) G s ((k, v) :: rest) =
    andThen (copyObjE f G s v) fun v' s1 =>
      andThen (copyKVE f G s1 rest) fun rest' s2 => (.ok ((k, v') :: rest'), s2) := by
  have : copyKVE (f+1) G s ((k, v) :: rest) =
      match copyObjE f G s v with
      | (.error e, s1) => (.error e, s1)
      | (.ok v', s1) =>
        match copyKVE f G s1 rest with
        | (.error e, s2) => (.error e, s2)
        | (.ok rest', s2) => (.ok ((k, v') :: rest'), s2) := by
    cases v with
    | null => exact absurd rfl h
    | _ => rfl
  rw [this]
  rcases copyObjE f G s v with ⟨_ | v', s1⟩
  · rfl
  · simp only [andThen]; rcases copyKVE f G s1 rest with ⟨_ | _, _⟩ <;> rfl

theorem inlineKeyE_eq (src res : KV) (key : Bytes) : inlineKeyE (f+1) G s src res key =
    match kvLookup key src with
    | none => (.ok res, s)
    | some val =>
      match inlineFilterRefs G val with
      | .error e => (.error e, s)
      | .ok (.stream _ _ _) => (.error .other, s)
      | .ok (.obj inl) => andThen (copyObjE f G s inl) fun repl s' => (.ok (kvSet key repl res), s') := by
  rw [inlineKeyE]
  cases kvLookup key src with
  | none => rfl
  | some val =>
    simp only
    cases inlineFilterRefs G val with
    | error e => rfl
    | ok w =>
      cases w with
      | stream _ _ _ => rfl
      | obj inl => simp only; rcases copyObjE f G s inl with ⟨_ | _, _⟩ <;> rfl

theorem copyStreamDictE_eq (src : KV) : copyStreamDictE (f+1) G s src =
    andThen (copyKVE f G s (sortedEntries src)) fun res s1 =>
      andThen (inlineKeyE f G s1 src res keyFilter) fun res2 s2 =>
        inlineKeyE f G s2 src res2 keyDecodeParms := by
  rw [copyStreamDictE]
  rcases copyKVE f G s (sortedEntries src) with ⟨_ | res, s1⟩
  · rfl
  · simp only [andThen]; rcases inlineKeyE f G s1 src res keyFilter with ⟨_ | _, _⟩ <;> rfl

theorem copyValE_obj (o : Obj) : copyValE (f+1) G s (.obj o) =
    andThen (copyObjE f G s o) fun o' s' => (.ok (.obj o'), s') := by
  rw [copyValE]; rcases copyObjE f G s o with ⟨_ | _, _⟩ <;> rfl

theorem copyValE_stream (dict : KV) (data : Bytes) (enc : Bool) :
    copyValE (f+1) G s (.stream dict data enc) =
    andThen (copyStreamDictE f G s dict) fun dict' s1 =>
      match streamCryptRecipe G dict enc with
      | .error e => (.error e, s1)
      | .ok .unsupportedCF => (.error .other, s1)
      | .ok _ => (.ok (.stream dict' data false), s1) := by
  rw [copyValE]
  rcases copyStreamDictE f G s dict with ⟨_ | d', s1⟩
  · rfl
  · simp only [andThen]; split <;> simp_all

end

section
variable (fuel : Nat) (G : Graph) (s : St) (roots : List (Except CErr Ref))

theorem stepOpE_copyGet (r : Ref) : stepOpE fuel G s roots (.copyGet r) =
    match CPY.get G r true with
    | .error e => (.error e, s)
    | .ok v => andThen (copyValE fuel G s v) fun v' s1 => allocPutE s1 v' := by
  rw [stepOpE]
  cases CPY.get G r true with
  | error e => rfl
  | ok v => simp only; rcases copyValE fuel G s v with ⟨_ | _, _⟩ <;> rfl

theorem stepOpE_copyObj (o : Obj) : stepOpE fuel G s roots (.copyObj o) =
    andThen (copyObjE fuel G s o) fun o' s1 => allocPutE s1 (.obj o') := by
  rw [stepOpE]; rcases copyObjE fuel G s o with ⟨_ | _, _⟩ <;> rfl

theorem stepOpE_redirectNew (r : Ref) (m : Obj) : stepOpE fuel G s roots (.redirectNew r m) =
    andThen (allocPutE s (.obj m)) fun n s1 => (.ok n, redirect s1 r n) := by
  rw [stepOpE]; rcases allocPutE s (.obj m) with ⟨_ | _, _⟩ <;> rfl

end

theorem toPlain_ok {α : Type} {x : Out α} {a : α} {s' : St} : toPlain x = .ok (a, s') ↔ x = (.ok a, s') := by
  rcases x with ⟨_ | _, _⟩ <;> simp [toPlain]

theorem toPlain_error {α : Type} {x : Out α} {e : CErr} : toPlain x = .error e ↔ x.1 = .error e := by
  rcases x with ⟨_ | _, _⟩ <;> simp [toPlain]

section
variable (G : Graph)

theorem copyKV_cons (f : Nat) (s : St) (k : Bytes) (v : Obj) (rest : KV) (h : v ≠ .null) :
    copyKV (f+1) G s ((k, v) :: rest) =
      match copyObj f G s v with
      | .error e => .error e
      | .ok (v', s1) =>
        match copyKV f G s1 rest with
        | .error e => .error e
        | .ok (rest', s2) => .ok ((k, v') :: rest', s2) := by
  cases v with
  | null => exact absurd rfl h
  | _ => rfl

structure Agrees (f : Nat) : Prop where
  obj : AObj G f
  list : AList G f
  kv : AKV G f
  inl : AInl G f
  sd : ASD G f
  val : AVal G f
  ref : ARef G f

/-- Both versions are the same `match` on nested calls; the induction hypothesis turns the nested
    plain call into `toPlain` of the state-returning one, and the two sides agree on each of its
    outcomes by computation. -/
theorem agrees : ∀ f : Nat, Agrees G f := by
  intro f
  induction f with
  | zero => exact ⟨fun _ _ => rfl, fun _ _ => rfl, fun _ _ => rfl, fun _ _ _ _ => rfl, fun _ _ => rfl,
      fun _ _ => rfl, fun _ _ => rfl⟩
  | succ f ih =>
    obtain ⟨hO, hL, hK, hI, hS, hV, hR⟩ := ih
    refine ⟨?_, ?_, ?_, ?_, ?_, ?_, ?_⟩
    · intro s o
      cases o with
      | dict kv =>
        simp only [copyObjE, copyObj, ← hK s (sortedEntries kv)]
        rcases copyKVE f G s (sortedEntries kv) with ⟨_ | _, _⟩ <;> rfl
      | arr xs =>
        simp only [copyObjE, copyObj, ← hL s xs]
        rcases copyListE f G s xs with ⟨_ | _, _⟩ <;> rfl
      | ref n g =>
        simp only [copyObjE, copyObj, ← hR s (n, g)]
        rcases copyRefE f G s (n, g) with ⟨_ | _, _⟩ <;> rfl
      | _ => rfl
    · intro s xs
      cases xs with
      | nil => rfl
      | cons x xs =>
        simp only [copyListE, copyList, ← hO s x]
        rcases copyObjE f G s x with ⟨_ | y, s1⟩
        · rfl
        · simp only [toPlain, ← hL s1 xs]
          rcases copyListE f G s1 xs with ⟨_ | _, _⟩ <;> rfl
    · intro s L
      cases L with
      | nil => rfl
      | cons p rest =>
        obtain ⟨k, v⟩ := p
        by_cases hv : v = .null
        · subst hv
          simp only [copyKVE, copyKV, ← hK s rest]
          rcases copyKVE f G s rest with ⟨_ | _, _⟩ <;> rfl
        · rw [copyKVE_cons G f s k v rest hv, copyKV_cons G f s k v rest hv, ← hO s v]
          rcases copyObjE f G s v with ⟨_ | y, s1⟩
          · rfl
          · simp only [toPlain, andThen, ← hK s1 rest]
            rcases copyKVE f G s1 rest with ⟨_ | _, _⟩ <;> rfl
    · intro s src res key
      simp only [inlineKeyE, inlineKey]
      cases kvLookup key src with
      | none => rfl
      | some val =>
        simp only
        cases inlineFilterRefs G val with
        | error e => rfl
        | ok w =>
          cases w with
          | stream d dd en => rfl
          | obj inl =>
            simp only [← hO s inl]
            rcases copyObjE f G s inl with ⟨_ | _, _⟩ <;> rfl
    · intro s src
      simp only [copyStreamDictE, copyStreamDict, ← hK s (sortedEntries src)]
      rcases copyKVE f G s (sortedEntries src) with ⟨_ | res1, s1⟩
      · rfl
      · simp only [toPlain, ← hI s1 src res1 keyFilter]
        rcases inlineKeyE f G s1 src res1 keyFilter with ⟨_ | res2, s2⟩
        · rfl
        · exact hI s2 src res2 keyDecodeParms
    · intro s v
      cases v with
      | obj o =>
        simp only [copyValE, copyVal, ← hO s o]
        rcases copyObjE f G s o with ⟨_ | _, _⟩ <;> rfl
      | stream dict data enc =>
        simp only [copyValE, copyVal, ← hS s dict]
        rcases copyStreamDictE f G s dict with ⟨_ | d', s1⟩
        · rfl
        · simp only [toPlain]
          cases streamCryptRecipe G dict enc with
          | error e => rfl
          | ok rc => cases rc <;> rfl
    · intro s r
      simp only [copyRefE, copyRef]
      cases assoc r s.trans with
      | some t => rfl
      | none =>
        simp only
        cases walkFrom G s.trans r with
        | fails e => rfl
        | dead => rfl
        | known t chain => rfl
        | ends v chain =>
          simp only
          cases alloc s with
          | error e => rfl
          | ok p =>
            obtain ⟨n, s1⟩ := p
            simp only [← hV { s1 with trans := enter chain n s1.trans } v]
            rcases copyValE f G { s1 with trans := enter chain n s1.trans } v with ⟨_ | v', s3⟩
            · rfl
            · simp only [toPlain]
              cases put s3 n v' <;> rfl

theorem copyRefE_agrees (f : Nat) (s : St) (r : Ref) : toPlain (copyRefE f G s r) = copyRef f G s r :=
  (agrees G f).ref s r

theorem copyRefE_ok {f : Nat} {s s' : St} {r t : Ref} :
    copyRefE f G s r = (.ok t, s') ↔ copyRef f G s r = .ok (t, s') := by
  rw [← copyRefE_agrees, toPlain_ok]

theorem allocPutE_agrees (s : St) (v : Val) : toPlain (allocPutE s v) = allocPut s v := by
  unfold allocPutE allocPut
  cases alloc s with
  | error e => rfl
  | ok p =>
    obtain ⟨n, s1⟩ := p
    simp only
    cases put s1 n v <;> rfl

/-- `roots.map .ok`: as long as no earlier operation has failed -/
theorem stepOp_sim (fuel : Nat) (s : St) (roots : List Ref) (op : Op) :
    stepOp fuel G s roots op = toPlain (stepOpE fuel G s (roots.map .ok) op) := by
  cases op with
  | copyRef r => exact (copyRefE_agrees G fuel s r).symm
  | copyGet r =>
    simp only [stepOp, stepOpE]
    cases CPY.get G r true with
    | error e => rfl
    | ok v =>
      simp only [← (agrees G fuel).val s v]
      rcases copyValE fuel G s v with ⟨_ | v', s1⟩
      · rfl
      · exact (allocPutE_agrees s1 v').symm
  | copyObj o =>
    simp only [stepOp, stepOpE, ← (agrees G fuel).obj s o]
    rcases copyObjE fuel G s o with ⟨_ | o', s1⟩
    · rfl
    · exact (allocPutE_agrees s1 (.obj o')).symm
  | redirectNew r m =>
    simp only [stepOp, stepOpE, ← allocPutE_agrees s (.obj m)]
    rcases allocPutE s (.obj m) with ⟨_ | n, s1⟩ <;> rfl
  | redirectTo r k =>
    simp only [stepOp, stepOpE, List.getElem?_map]
    cases roots[k]? <;> rfl

theorem runOpsE_keeps (fuel : Nat) : ∀ (ops : List Op) (s : St) (roots : List (Except CErr Ref)),
    ∀ x ∈ roots, x ∈ (runOpsE fuel G s roots ops).1
  | [], _, _, _, hx => hx
  | _ :: ops, _, _, x, hx => runOpsE_keeps fuel ops _ _ x (List.mem_append_left _ hx)

/-- the plain run is the state-returning run up to its first failure -/
theorem runOps_sim (fuel : Nat) : ∀ (ops : List Op) (s : St) (roots : List Ref),
    match runOps fuel G s roots ops with
    | .ok (roots', s') => runOpsE fuel G s (roots.map .ok) ops = (roots'.map .ok, s')
    | .error (_, e) => .error e ∈ (runOpsE fuel G s (roots.map .ok) ops).1
  | [], _, _ => rfl
  | op :: ops, s, roots => by
    simp only [runOps, runOpsE, stepOp_sim]
    rcases stepOpE fuel G s (roots.map .ok) op with ⟨_ | t, s1⟩
    · exact runOpsE_keeps G fuel ops _ _ _ (by simp)
    · simpa [toPlain] using runOps_sim fuel ops s1 (roots ++ [t])

end

theorem alloc_ok {s s1 : St} {n : Ref} : alloc s = .ok (n, s1) →
    n = refOf s.next ∧ s1 = { s with next := s.next + 1 } := by
  fun_cases alloc s with
  | case1 => exact nofun
  | case2 => exact fun h => by cases h; exact ⟨rfl, rfl⟩

theorem alloc_err {s : St} {e : CErr} : alloc s = .error e → e = .overflow := by
  fun_cases alloc s with
  | case1 => exact fun h => by cases h; rfl
  | case2 => exact nofun

theorem put_ok {s s' : St} {r : Ref} {v : Val} : put s r v = .ok s' →
    s' = { s with puts := s.puts ++ [(r, v)], next := if s.next ≤ r.1 then r.1 + 1 else s.next } := by
  fun_cases put s r v with
  | case1 => exact nofun   -- the number is taken
  | case2 => exact nofun   -- the target refuses the stream
  | case3 => exact fun h => by cases h; rfl

theorem put_ok_lt {s s' : St} {r : Ref} {v : Val} (h : put s r v = .ok s') (hlt : r.1 < s.next) :
    s' = { s with puts := s.puts ++ [(r, v)] } := by
  rw [put_ok h, if_neg (by omega)]

theorem walkFrom_not_dead {G : Graph} {tr : List (Ref × Ref)} {r : Ref} : walkFrom G tr r ≠ .dead := by
  unfold walkFrom
  split <;> simp_all

/-- The outcomes of `CopyReference(r)` with `f+1` units of fuel from the state `s`: `r` is translated
    (`old`); the walk fails; it meets a translated link (`known`); it reaches the end of the chain
    and then no number is left (`full`), the nested `Copy` fails (`nested`), `Writer.Put` refuses the
    copy (`refused`), or the copy is written (`copied`).  The two failures after the allocation roll
    `trans` back. -/
inductive RefStep (G : Graph) (f : Nat) (s : St) (r : Ref) : Out Ref → Prop where
  | old {t} : assoc r s.trans = some t → RefStep G f s r (.ok t, s)
  | fails {e} : assoc r s.trans = none → walkFrom G s.trans r = .fails e → RefStep G f s r (.error e, s)
  | known {t chain} : assoc r s.trans = none → walkFrom G s.trans r = .known t chain →
      RefStep G f s r (.ok t, { s with trans := enter chain t s.trans })
  | full {v chain} : assoc r s.trans = none → walkFrom G s.trans r = .ends v chain →
      RefStep G f s r (.error .overflow, s)
  | nested {v chain e s3} : assoc r s.trans = none → walkFrom G s.trans r = .ends v chain →
      copyValE f G (entered s chain) v = (.error e, s3) → RefStep G f s r (.error e, restoreTrans s s3)
  | refused {v chain v' s3 e} : assoc r s.trans = none → walkFrom G s.trans r = .ends v chain →
      copyValE f G (entered s chain) v = (.ok v', s3) → put s3 (refOf s.next) v' = .error e →
      RefStep G f s r (.error e, restoreTrans s s3)
  | copied {v chain v' s3 s4} : assoc r s.trans = none → walkFrom G s.trans r = .ends v chain →
      copyValE f G (entered s chain) v = (.ok v', s3) → put s3 (refOf s.next) v' = .ok s4 →
      RefStep G f s r (.ok (refOf s.next), s4)

theorem copyRefE_step (G : Graph) (f : Nat) (s : St) (r : Ref) : RefStep G f s r (copyRefE (f+1) G s r) := by
  simp only [copyRefE]
  split
  · next ht => exact .old ht
  · next hn =>
    split
    · next hw => exact .fails hn hw
    · next hw => exact absurd hw walkFrom_not_dead
    · next hw => exact .known hn hw
    · next v chain hw =>
      split
      · next ha => rw [alloc_err ha]; exact .full hn hw
      · next n s1 ha =>
        obtain ⟨rfl, rfl⟩ := alloc_ok ha
        split
        · next hc => exact .nested hn hw hc
        · next hc =>
          split
          · next hp => exact .refused hn hw hc hp
          · next hp => exact .copied hn hw hc hp

theorem RefStep.failed {G : Graph} {f : Nat} {s s' : St} {r : Ref} {e : CErr}
    (h : RefStep G f s r (.error e, s')) : s'.trans = s.trans := by
  cases h <;> rfl

/-- `R` relates the state in which a call started to the one it leaves, whatever its outcome -/
abbrev Holds {α : Type} (R : St → St → Prop) (s : St) (x : Out α) : Prop := R s x.2

structure CallsE (G : Graph) (f : Nat) (R : St → St → Prop) : Prop where
  obj : ∀ s o, Holds R s (copyObjE f G s o)
  list : ∀ s xs, Holds R s (copyListE f G s xs)
  kv : ∀ s L, Holds R s (copyKVE f G s L)
  inl : ∀ s src res key, Holds R s (inlineKeyE f G s src res key)
  sd : ∀ s src, Holds R s (copyStreamDictE f G s src)
  val : ∀ s v, Holds R s (copyValE f G s v)
  ref : ∀ s r, Holds R s (copyRefE f G s r)

theorem CallsE.imp₂ {G : Graph} {f : Nat} {R1 R2 R : St → St → Prop} (h1 : CallsE G f R1) (h2 : CallsE G f R2)
    (h : ∀ {s s'}, R1 s s' → R2 s s' → R s s') : CallsE G f R :=
  ⟨fun s o => h (h1.obj s o) (h2.obj s o), fun s xs => h (h1.list s xs) (h2.list s xs),
    fun s L => h (h1.kv s L) (h2.kv s L), fun s a b c => h (h1.inl s a b c) (h2.inl s a b c),
    fun s src => h (h1.sd s src) (h2.sd s src), fun s v => h (h1.val s v) (h2.val s v),
    fun s r => h (h1.ref s r) (h2.ref s r)⟩

section
variable {R : St → St → Prop} (hrefl : ∀ s, R s s) (htrans : ∀ {a b c}, R a b → R b c → R a c)
include htrans

theorem Holds.andThen {α β : Type} {s : St} {x : Out α} {k : α → St → Out β}
    (hx : Holds R s x) (hk : ∀ a s1, Holds R s1 (k a s1)) : Holds R s (andThen x k) :=
  andThen_state (P := R s) (Q := R s) hx (fun _ h => h) fun a s1 h => htrans h (hk a s1)

include hrefl

/-- Only `CopyReference` changes the state, the other six functions pass it on: `hrefl` is for a call
    that changes nothing, `htrans` for a successful call followed by another.  `href` is handed the relation
    across the nested `Copy` with one unit less only; what else an instance needs of the other functions it
    takes from a theorem proved before (`copies`, `frame_calls`). -/
theorem relE_main (G : Graph)
    (href : ∀ f s r, (∀ s v, Holds R s (copyValE f G s v)) → Holds R s (copyRefE (f+1) G s r)) :
    ∀ f, CallsE G f R := by
  have pure : ∀ {α : Type} (s : St) (x : Except CErr α), Holds R s (x, s) := fun s x => hrefl s
  intro f
  induction f with
  | zero =>
    exact ⟨fun s _ => hrefl s, fun s _ => hrefl s, fun s _ => hrefl s, fun s _ _ _ => hrefl s,
      fun s _ => hrefl s, fun s _ => hrefl s, fun s _ => hrefl s⟩
  | succ f ih =>
    refine ⟨?_, ?_, ?_, ?_, ?_, ?_, fun s r => href f s r ih.val⟩
    · intro s o
      cases o with
      | dict kv => rw [copyObjE_dict]; exact (ih.kv _ _).andThen @htrans fun _ _ => pure _ _
      | arr xs => rw [copyObjE_arr]; exact (ih.list _ _).andThen @htrans fun _ _ => pure _ _
      | ref n g => rw [copyObjE_ref]; exact (ih.ref _ _).andThen @htrans fun _ _ => pure _ _
      | _ => exact pure _ _
    · intro s xs
      cases xs with
      | nil => exact pure _ _
      | cons x xs =>
        rw [copyListE_cons]
        exact (ih.obj _ _).andThen @htrans fun _ _ => (ih.list _ _).andThen @htrans fun _ _ => pure _ _
    · intro s L
      cases L with
      | nil => exact pure _ _
      | cons p rest =>
        obtain ⟨k, v⟩ := p
        by_cases hv : v = .null
        · subst hv; rw [copyKVE_null]; exact (ih.kv _ _).andThen @htrans fun _ _ => pure _ _
        · rw [copyKVE_cons _ _ _ _ _ _ hv]
          exact (ih.obj _ _).andThen @htrans fun _ _ => (ih.kv _ _).andThen @htrans fun _ _ => pure _ _
    · intro s src res key
      rw [inlineKeyE_eq]
      split
      · exact pure _ _
      · split
        · exact pure _ _
        · exact pure _ _
        · exact (ih.obj _ _).andThen @htrans fun _ _ => pure _ _
    · intro s src
      rw [copyStreamDictE_eq]
      exact (ih.kv _ _).andThen @htrans fun _ _ => (ih.inl _ _ _ _).andThen @htrans fun _ _ => ih.inl _ _ _ _
    · intro s v
      cases v with
      | obj o => rw [copyValE_obj]; exact (ih.obj _ _).andThen @htrans fun _ _ => pure _ _
      | stream dict data enc =>
        rw [copyValE_stream]
        exact (ih.sd _ _).andThen @htrans fun _ _ => by split <;> exact pure _ _

end

theorem entered_frame (s : St) (chain : List Ref) : Frame s (entered s chain) :=
  ⟨Nat.le_succ _, [], (List.append_nil _).symm, .nil, nofun⟩

/-- a failed `CopyReference` rolls `trans` back, which `Frame` does not look at -/
theorem frame_restore {s s3 : St} {chain : List Ref} (h : Frame (entered s chain) s3) :
    Frame s (restoreTrans s s3) :=
  (entered_frame s chain).trans h

theorem entered_lt {s s3 : St} {chain : List Ref} (h : Frame (entered s chain) s3) : s.next < s3.next := h.1

theorem allocPutE_frame (s : St) (v : Val) : Frame s (allocPutE s v).2 ∧ (allocPutE s v).2.trans = s.trans := by
  unfold allocPutE
  cases ha : alloc s with
  | error e => exact ⟨Frame.refl s, rfl⟩
  | ok p =>
    obtain ⟨n, s1⟩ := p
    obtain ⟨rfl, rfl⟩ := alloc_ok ha
    simp only
    cases hp : put { s with next := s.next + 1 } (refOf s.next) v with
    | error e => exact ⟨entered_frame s [], rfl⟩
    | ok s2 =>
      rw [put_ok_lt hp (Nat.lt_succ_self _)]
      refine ⟨⟨Nat.le_succ _, [(refOf s.next, v)], rfl, by simp, fun k hk => ?_⟩, rfl⟩
      exact ⟨s.next, by simpa using hk, Nat.le_refl _, Nat.lt_succ_self _⟩

end PdfVerif.CPY
