import PdfVerif.Model.FBCCITT
/-! What the writer puts around the code of a row, for any K, EndOfLine and EncodedByteAlign: the EOL code in front
(`eolp`), zero bits behind it up to the next byte boundary (`alignPad`, `padOf`), and the bits of all rows of a stream
with them (`allRowBitsP`); `encodeRowBits` on each range of K.  The definitions have the full names under which statements
of `Props/C06fbA`, `C06fbE`, `C06fbK` mention them; they stand here because `Props/C06faC`, which those import, is their first
user. -/

namespace PdfVerif.C06fbA
open PdfVerif PdfVerif.FB PdfVerif.Gen

/-- zero bits up to the next byte boundary -/
def alignPad (bits : Bits) : Bits := List.replicate ((8 - bits.length % 8) % 8) false

theorem alignPad_length_lt (bits : Bits) : (alignPad bits).length < 8 := by
  unfold alignPad; simp only [List.length_replicate]; omega

theorem alignPad_mod (bits : Bits) : (bits ++ alignPad bits).length % 8 = 0 := by
  unfold alignPad; simp only [List.length_append, List.length_replicate]; omega

end PdfVerif.C06fbA

namespace PdfVerif.C06fbE
open PdfVerif PdfVerif.FB PdfVerif.Gen PdfVerif.C06fbA

/-- the fill bits the writer adds after a row -/
def padOf (p : CParams) (bits : Bits) : Bits := if p.byteAlign then alignPad bits else []

theorem padOf_of_true (p : CParams) (hal : p.byteAlign = true) (bits : Bits) : padOf p bits = alignPad bits := by
  rw [padOf, if_pos hal]

theorem padOf_of_false (p : CParams) (hal : p.byteAlign = false) (bits : Bits) : padOf p bits = [] := by
  rw [padOf, if_neg (by simp [hal])]

end PdfVerif.C06fbE

namespace PdfVerif.C06fbK
open PdfVerif PdfVerif.FB PdfVerif.Gen PdfVerif.C06fbA PdfVerif.C06fbE

/-- the EOL code in front of a row, if `EndOfLine` is set -/
def eolp (p : CParams) : Bits := if p.endOfLine then eol12 else []

theorem eolp_cases (p : CParams) : eolp p = [] ∨ eolp p = codeBits 1 12 := by
  unfold eolp; cases p.endOfLine
  · exact .inl rfl
  · exact .inr rfl

/-- bits of the complete rows of a mixed stream (with the fill bits, if any) -/
def allRowBitsP (p : CParams) : List Bytes → Nat → List Nat → Bits
  | [], _, _ => []
  | row :: rest, c2, ref =>
    (encodeRowBits p c2 ref (pixelsOf p row)).1 ++ padOf p (encodeRowBits p c2 ref (pixelsOf p row)).1 ++
      allRowBitsP p rest (encodeRowBits p c2 ref (pixelsOf p row)).2 (pixelsOf p row)

theorem allRowBitsP_nil (p : CParams) (c2 : Nat) (ref : List Nat) : allRowBitsP p [] c2 ref = [] := rfl

theorem allRowBitsP_cons (p : CParams) (row : Bytes) (rest : List Bytes) (c2 : Nat) (ref : List Nat) :
    allRowBitsP p (row :: rest) c2 ref =
      (encodeRowBits p c2 ref (pixelsOf p row)).1 ++ padOf p (encodeRowBits p c2 ref (pixelsOf p row)).1 ++
        allRowBitsP p rest (encodeRowBits p c2 ref (pixelsOf p row)).2 (pixelsOf p row) := rfl

end PdfVerif.C06fbK

namespace PdfVerif.C06faC
open PdfVerif PdfVerif.FB PdfVerif.C06fbK

theorem encodeRowBits_k0 (p : CParams) (hk : p.k = 0) (c2 : Nat) (ref px : List Nat) :
    encodeRowBits p c2 ref px = (eolp p ++ encode1DLine p px, c2) := by
  unfold encodeRowBits eolp
  simp [hk]

theorem encodeRowBits_kneg (p : CParams) (hk : p.k < 0) (c2 : Nat) (ref px : List Nat) :
    encodeRowBits p c2 ref px = (encode2DLine p ref px, c2) := by
  unfold encodeRowBits
  rw [if_neg (by omega), if_neg (by omega)]

theorem encodeRowBits_kpos (p : CParams) (hk : p.k > 0) (c2 : Nat) (ref px : List Nat) :
    encodeRowBits p c2 ref px =
      if (c2 : Int) ≥ p.k - 1 then (eolp p ++ (true :: encode1DLine p px), 0)
      else (eolp p ++ (false :: encode2DLine p ref px), c2 + 1) := by
  unfold encodeRowBits eolp
  simp only [hk, if_true]
  split <;> simp

end PdfVerif.C06faC
