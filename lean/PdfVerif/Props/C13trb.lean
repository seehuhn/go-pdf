import PdfVerif.Lemmas.TRCmap
import PdfVerif.Props.C12trb
import PdfVerif.Model.CCCMap
/-!
# C13 (translator bridge): the CC hand model of CMap ranges = the code GENERATED from font/cmap

`Model/CCCMap.lean` (on which `Props/C13cc*.lean` are proved) models `rangeIsValid` and `rangeIndex`
by structural recursion with natural-number arithmetic, and `nextString` on the rune level.  They are proved equal
here to the functions `tools/extract` re-creates from font/cmap/{range,file,tu-mapping}.go on every run, for **all**
arguments (`rangeIndex` checks its lengths first and never panics; the `int64` arithmetic of the Go code never
wraps because `acc ≤ MaxInt32` is a loop invariant), through the closed forms of `Lemmas/TRCmap.lean`.
-/
namespace PdfVerif.C13trb
open PdfVerif PdfVerif.Gen PdfVerif.Go PdfVerif.C13tr PdfVerif.C12trb

/-- hand model `rangeIsValid` = generated `rangeIsValid` (every pair of byte strings) -/
theorem rangeIsValid_bridge (first last : List UInt8) :
    cmap_rangeIsValid first last = some (CC.rangeIsValid (nat first) (nat last)) := by
  rw [rangeIsValid_spec]
  congr 1
  rw [Bool.eq_iff_iff, decide_eq_true_eq]
  unfold CC.rangeIsValid CmapRangeValid
  rw [nat_length, nat_length]
  by_cases h : first.length = last.length
  · simp only [leAll_iff _ _ h, h, bne_self_eq_false, Bool.false_or, Bool.if_false_left, Bool.and_eq_true,
      Bool.not_eq_true', decide_eq_false_iff_not, true_and]
    exact and_congr_left' (by simp only [beq_iff_eq]; omega)
  · simp [h]

/-- the loop of the hand model = the exact mixed-radix scan of `C13tr`: the same recursion, the model in `Nat` (with
truncated subtraction), the scan in `Int`; `hacc` and the box test keep every cast exact -/
theorem rangeIndexLoop_eq (f l c : List UInt8) (hf : f.length = c.length) (hl : l.length = c.length)
    (acc : Nat) (hacc : acc ≤ 2147483647) :
    CC.rangeIndexLoop (nat f) (nat l) (nat c) acc = (idxScan f l c.zipIdx (acc : Int)).map Int.toNat := by
  induction c generalizing f l acc with
  | nil =>
    have : f = [] := List.length_eq_zero_iff.mp hf
    subst this
    simp [CC.rangeIndexLoop, idxScan]
  | cons x xs ih =>
    match f, l, hf, hl with
    | a :: f, b :: l, hf, hl =>
      simp only [List.length_cons, Nat.add_right_cancel_iff] at hf hl
      simp only [nat_cons, CC.rangeIndexLoop, List.zipIdx_cons, idxScan, Nat.zero_add]
      have hsh : idxScan (a :: f) (b :: l) (List.map shift xs.zipIdx) = idxScan f l xs.zipIdx :=
        funext (idxScan_shift a b f l xs.zipIdx)
      rw [zipIdx_succ, hsh]
      unfold idxStep
      simp only [List.getD_cons_zero]
      have hx := x.toNat_lt
      have ha := a.toNat_lt
      have hb := b.toNat_lt
      by_cases hbox : x < a ∨ x > b
      · have : (decide (x.toNat < a.toNat) || decide (x.toNat > b.toNat)) = true := by
          rcases hbox with h | h
          · have := UInt8.lt_iff_toNat_lt.mp h; simp; omega
          · have := UInt8.lt_iff_toNat_lt.mp h; simp; omega
        simp [this, hbox]
      · have h1 : a.toNat ≤ x.toNat := UInt8.le_iff_toNat_le.mp (UInt8.not_lt.mp (fun h => hbox (Or.inl h)))
        have h2 : x.toNat ≤ b.toNat := UInt8.le_iff_toNat_le.mp (UInt8.not_lt.mp (fun h => hbox (Or.inr h)))
        have : (decide (x.toNat < a.toNat) || decide (x.toNat > b.toNat)) = false := by simp; omega
        simp only [this, Bool.false_eq_true, if_false, hbox]
        have ecast : ((acc * (b.toNat - a.toNat + 1) + (x.toNat - a.toNat) : Nat) : Int)
            = (acc : Int) * ((b.toNat : Int) - a.toNat + 1) + ((x.toNat : Int) - a.toNat) := by
          have e1 : ((b.toNat - a.toNat + 1 : Nat) : Int) = (b.toNat : Int) - a.toNat + 1 := by omega
          have e2 : ((x.toNat - a.toNat : Nat) : Int) = (x.toNat : Int) - a.toNat := by omega
          rw [Int.natCast_add, Int.natCast_mul, e1, e2]
        by_cases hgt : acc * (b.toNat - a.toNat + 1) + (x.toNat - a.toNat) > CC.maxInt32
        · have : (acc : Int) * ((b.toNat : Int) - a.toNat + 1) + ((x.toNat : Int) - a.toNat) > 2147483647 := by
            rw [← ecast]; unfold CC.maxInt32 at hgt; omega
          simp [hgt, this]
        · have hn : ¬ ((acc : Int) * ((b.toNat : Int) - a.toNat + 1) + ((x.toNat : Int) - a.toNat) > 2147483647) := by
            rw [← ecast]; unfold CC.maxInt32 at hgt; omega
          simp only [hgt, if_false, hn, Option.bind_some]
          rw [← ecast]
          exact ih f l hf hl _ (by unfold CC.maxInt32 at hgt; omega)

/-- hand model `rangeIndex` = generated `rangeIndex`, for all three byte strings
(`none` ↔ `ok = false`) -/
theorem rangeIndex_bridge (f l c : List UInt8) :
    cmap_rangeIndex f l c = some (match CC.rangeIndex (nat f) (nat l) (nat c) with
      | some v => ((v : Int), true)
      | none => (0, false)) := by
  rw [rangeIndex_eq]
  congr 1
  by_cases hlen : f.length = c.length ∧ l.length = c.length
  · have hL : CC.rangeIndex (nat f) (nat l) (nat c) = (idxScan f l c.zipIdx 0).map Int.toNat := by
      unfold CC.rangeIndex
      simp only [nat_length]
      have c0 : (f.length != c.length || l.length != c.length) = false := by simp [hlen.1, hlen.2]
      simp only [c0, Bool.false_eq_true, if_false]
      exact rangeIndexLoop_eq f l c hlen.1 hlen.2 0 (by omega)
    rw [hL]
    simp only [hlen, and_self, if_true]
    cases hs : idxScan f l c.zipIdx 0 with
    | none => rfl
    | some v =>
      have hv := idxScan_nonneg f l _ 0 v (by omega) hs
      simp only [Option.map_some]
      congr 1
      omega
  · have hL : CC.rangeIndex (nat f) (nat l) (nat c) = none := by
      unfold CC.rangeIndex
      simp only [nat_length]
      have c0 : (f.length != c.length || l.length != c.length) = true := by
        simp only [Bool.or_eq_true, bne_iff_ne, ne_eq]; omega
      simp [c0]
    rw [hL]
    simp [hlen]

theorem wrapInt32_eq (x : Int) : CC.wrapInt32 x = i32 x := rfl

theorem encodeRune_clamp (r : Int) : encodeRune r = encodeRune ((CC.runeToText r : Nat) : Int) := by
  unfold CC.runeToText
  by_cases h : r < 0 ∨ r > 1114111 ∨ (55296 ≤ r ∧ r ≤ 57343)
  · have c : (decide (r < 0) || decide (r > 1114111) || (decide (55296 ≤ r) && decide (r ≤ 57343))) = true := by
      simp only [Bool.or_eq_true, Bool.and_eq_true, decide_eq_true_eq]; omega
    simp only [c, if_true]
    have e : encodeRune r = [239, 191, 189] := by unfold encodeRune; simp [h]
    rw [e]
    decide
  · have c : (decide (r < 0) || decide (r > 1114111) || (decide (55296 ≤ r) && decide (r ≤ 57343))) = false := by
      cases hh : (decide (r < 0) || decide (r > 1114111) || (decide (55296 ≤ r) && decide (r ≤ 57343)))
      · rfl
      · simp only [Bool.or_eq_true, Bool.and_eq_true, decide_eq_true_eq] at hh; omega
    simp only [c, Bool.false_eq_true, if_false]
    congr 1
    omega

/-- the bytes the generated `nextString` returns are the UTF-8 encoding of what the hand
model `CC.nextString` computes on the rune level (non-negative increments, as in the model) -/
theorem nextString_bridge (s : List UInt8) (inc : Nat) (hl : (runes s).length < 9223372036854775808) :
    cmap_nextString s (inc : Int) =
      some (stringOfRunes ((CC.nextString ((runes s).map Int.toNat) inc).map Int.ofNat)) := by
  rw [nextString_eq s inc hl]
  congr 1
  have hnn : ∀ r ∈ runes s, 0 ≤ r := runes_nonneg s
  generalize runes s = rr at hnn
  unfold CC.nextString stringOfRunes
  induction rr with
  | nil => rfl
  | cons r rs ih =>
    have hr : 0 ≤ r := hnn r (by simp)
    have hrs : ∀ q ∈ rs, 0 ≤ q := fun q hq => hnn q (by simp [hq])
    cases rs with
    | nil =>
      simp only [lastBump, List.map_cons, List.map_nil, CC.bumpLast, List.flatMap_cons, List.flatMap_nil, List.append_nil]
      have e : ((r.toNat : Nat) : Int) = r := by omega
      rw [e, wrapInt32_eq, wrapInt32_eq]
      exact encodeRune_clamp _
    | cons r' rs' =>
      have := ih hrs
      simp only [lastBump, List.map_cons, CC.bumpLast, List.flatMap_cons] at this ⊢
      rw [this]
      congr 2
      show r = ((r.toNat : Nat) : Int)
      omega

example : cmap_nextString [0x41, 0xc3, 0xa9] 1 = some [0x41, 0xc3, 0xaa] := by decide +kernel

example : CC.rangeIndex [0, 0] [255, 255] [1, 2] = some 258 := by decide +kernel

end PdfVerif.C13trb
