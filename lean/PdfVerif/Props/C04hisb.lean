import PdfVerif.Model.HISObj
import PdfVerif.Lemmas.ScanBytes
/-!
# C04 — stream extent recovery

`stream_extent_recovery` (library HEAD f33cd07, D-C20-1): with `/Length` missing or unusable, `ReadStreamData`
returns exactly the body.  `readStreamData_unusable` and `recoverExtent_body` are its two halves, over any file;
`Props/C04hisg.lean` reads off them what happens to a body with a line that starts with `endstream`.
All statements are for `limit = none` (the default argument of `readStreamData`/`recoverExtent`): `limit` is the sequential
scan's `findLimit`, see `C20hisd.recoverExtent_limit`.
-/
namespace PdfVerif.C04hisb
open PdfVerif PdfVerif.HIS

theorem isPrefixOf_before (e : Nat) (s kw cs : Bytes) (hk : ∀ x ∈ kw, x ≠ e)
    (h : isPrefixOf kw (cs ++ e :: s) = true) : isPrefixOf kw cs = true := by
  rw [C01L.isPrefixOf_iff] at h ⊢
  -- `kw` and `cs ++ [e]` are both prefixes of the text, and `e` is not in `kw`
  have h2 : cs ++ [e] <+: cs ++ e :: s := ⟨s, by simp⟩
  rcases List.prefix_or_prefix_of_prefix h h2 with h3 | h3
  · rcases List.prefix_concat_iff.mp (by simpa using h3) with h4 | h4
    · exact absurd rfl (hk e (h4 ▸ by simp))
    · exact h4
  · exact absurd rfl (hk e (h3.subset (by simp)))

theorem findEol_cons (c : Nat) (cs : Bytes) : findEolEndstream (c :: cs) =
    if (isEolByte c && isPrefixOf kwEndstream cs) = true then some 0
    else match findEolEndstream cs with
      | some i => some (i + 1)
      | none => none := by
  rw [findEolEndstream]; split <;> rfl

theorem kwEndstream_no_eol : ∀ x ∈ kwEndstream, x ≠ 10 ∧ x ≠ 13 := by decide

theorem findEol_append (e : Nat) (he : e = 10 ∨ e = 13) (s : Bytes) : ∀ (body : Bytes),
    findEolEndstream body = none →
    findEolEndstream (body ++ e :: s) = (findEolEndstream (e :: s)).map (· + body.length) := by
  intro body
  induction body with
  | nil => intro _; cases h : findEolEndstream (e :: s) <;> simp [h]
  | cons c cs ih =>
    intro hno
    have hno' := hno
    rw [findEol_cons] at hno'
    split at hno'
    · cases hno'
    · rename_i hcond
      have hcs : findEolEndstream cs = none := by
        cases hf : findEolEndstream cs with
        | none => rfl
        | some i => simp [hf] at hno'
      -- a match that starts inside `body` would be a match of `body`, or straddle the byte `e`, which is not in the keyword
      have hc2 : (isEolByte c && isPrefixOf kwEndstream (cs ++ e :: s)) = false := by
        cases hpe : isPrefixOf kwEndstream (cs ++ e :: s) with
        | false => simp
        | true =>
          have := isPrefixOf_before e s kwEndstream cs
            (fun x hx => by rcases he with rfl | rfl; exact (kwEndstream_no_eol x hx).1; exact (kwEndstream_no_eol x hx).2) hpe
          simp [this] at hcond
          simp [hcond]
      have ih' := ih hcs
      show findEolEndstream (c :: (cs ++ e :: s)) = _
      generalize findEolEndstream (e :: s) = r at ih' ⊢
      rw [findEol_cons, hc2, ih']
      cases r with
      | none => simp
      | some i => simp; omega

/-- the data ends in an end-of-line byte of its own (then `trimTrailingEOL` alone would cut into it) -/
def endsInEol (b : Bytes) : Bool :=
  match b.reverse with
  | c :: _ => isEolByte c
  | [] => false

theorem trim_noeol (b : Bytes) (h : endsInEol b = false) : trimTrailingEOL b = b.length := by
  unfold endsInEol at h
  -- one case per pattern of `trimTrailingEOL`: in the first three the body ends in an end-of-line byte
  fun_cases trimTrailingEOL b
  case case4 => rfl
  all_goals (rename_i heq; rw [heq] at h; simp [isEolByte] at h)

/-- the three spellings of an end-of-line marker (§7.2.3) -/
def IsEol (e : Bytes) : Prop := e = [10] ∨ e = [13, 10] ∨ e = [13]

/-- the one ambiguity of the recovery: data ending in a bare CR in front of a marker LF reads as the marker CR LF -/
def endsInCR (b : Bytes) : Bool :=
  match b.reverse with
  | c :: _ => c == 13
  | [] => false

theorem trim_eol (body endEol : Bytes) (hend : IsEol endEol) (hamb : endEol = [10] → endsInCR body = false) :
    trimTrailingEOL (body ++ endEol) = body.length := by
  unfold trimTrailingEOL
  rcases hend with rfl | rfl | rfl
  · have h := hamb rfl
    unfold endsInCR at h
    simp only [List.reverse_append, List.reverse_cons, List.reverse_nil, List.nil_append, List.cons_append]
    cases hr : body.reverse with
    | nil => simp
    | cons c t =>
      rw [hr] at h
      have hc : c ≠ 13 := by simpa using h
      -- `(body ++ [10]).reverse = 10 :: c :: t` with `c ≠ 13`: patterns 1 and 3 of `trimTrailingEOL` cannot fire,
      -- pattern 2 gives the length, and pattern 4 is excluded by pattern 2
      split
      · rename_i heq; simp at heq; exact absurd heq.1 hc
      · simp
      · rename_i heq; simp at heq
      · rename_i h1 h2 h3; exact absurd rfl (h2 _)
  · simp only [List.reverse_append, List.reverse_cons, List.reverse_nil, List.nil_append, List.cons_append]
    simp
  · simp only [List.reverse_append, List.reverse_cons, List.reverse_nil, List.nil_append, List.cons_append]
    simp

theorem trim_cr (b : Bytes) (h : endsInEol b = false) : trimTrailingEOL (b ++ [13]) = b.length :=
  trim_eol b [13] (.inr (.inr rfl)) nofun

/-- an unusable `/Length`: absent or unresolvable (`declared = none`), or a value that does not point at optional
    white space followed by `endstream` (`hdecl`).  `hstart`: the standard (§7.3.8.1) allows LF or CR LF behind `stream`,
    not a CR alone; the code also takes a bare CR, which these theorems leave out. -/
theorem readStreamData_unusable (file : Bytes) (pos : Nat) (startEol tail : Bytes)
    (hdrop : file.drop pos = kw_stream ++ (startEol ++ tail))
    (hstart : startEol = [10] ∨ startEol = [13, 10]) (declared : Option Nat)
    (hdecl : ∀ d, declared = some d → endstreamAt file (pos + 6 + startEol.length + d) = false) :
    readStreamData file pos declared = recoverExtent file (pos + 6 + startEol.length) := by
  have hsw : startsWith (kw_stream ++ (startEol ++ tail)) kw_stream = true := C01L.isPrefixOf_self_append _ _
  have hd6 : (kw_stream ++ (startEol ++ tail)).drop 6 = startEol ++ tail := List.drop_left (l₁ := kw_stream)
  unfold readStreamData
  simp only [hdrop, hsw, Bool.not_true, Bool.false_eq_true, if_false, hd6]
  rcases hstart with rfl | rfl <;> cases declared with
  | none => rfl
  | some d =>
    have := hdecl d rfl
    simp only [List.length_cons, List.length_nil, List.cons_append, List.nil_append] at this ⊢
    simp only [this, Bool.and_false, Bool.false_eq_true, if_false]

theorem recoverExtent_body (file : Bytes) (start : Nat) (body endEol rest : Bytes)
    (hdrop : file.drop start = body ++ (endEol ++ (kwEndstream ++ rest)))
    (hend : IsEol endEol) (hamb : endEol = [10] → endsInCR body = false) (hno : findEolEndstream body = none) :
    recoverExtent file start
      = .ok { start := start, len := body.length, after := start + body.length + endEol.length + 9 } := by
  have hfind : findEolEndstream (body ++ (endEol ++ (kwEndstream ++ rest)))
      = some (body.length + (endEol.length - 1)) := by
    have h0 : ∀ x, findEolEndstream (x :: (kwEndstream ++ rest)) = some 0 ∨ isEolByte x = false := by
      intro x
      cases hx : isEolByte x
      · exact .inr rfl
      · exact .inl (by rw [findEol_cons, hx, C01L.isPrefixOf_self_append]; rfl)
    rcases hend with rfl | rfl | rfl
    · rw [List.singleton_append, findEol_append 10 (.inl rfl) _ body hno, (h0 10).resolve_right (by decide)]
      exact congrArg some (Nat.zero_add _)
    · have h1 : isPrefixOf kwEndstream (10 :: (kwEndstream ++ rest)) = false := rfl
      rw [List.cons_append, List.singleton_append, findEol_append 13 (.inr rfl) _ body hno, findEol_cons, h1,
        (h0 10).resolve_right (by decide)]
      exact congrArg some (Nat.add_comm 1 _)
    · rw [List.singleton_append, findEol_append 13 (.inr rfl) _ body hno, (h0 13).resolve_right (by decide)]
      exact congrArg some (Nat.zero_add _)
  have htrim : trimTrailingEOL ((body ++ (endEol ++ (kwEndstream ++ rest))).take
      (body.length + (endEol.length - 1) + 1)) = body.length := by
    have h1 : body.length + (endEol.length - 1) + 1 = (body ++ endEol).length := by
      rw [List.length_append]; rcases hend with rfl | rfl | rfl <;> rfl
    rw [h1, ← List.append_assoc, List.take_left]
    exact trim_eol body endEol hend hamb
  unfold recoverExtent
  rw [hdrop, hfind]
  simp only [htrim, Bool.false_eq_true, if_false]
  -- the model's `after` is `start + i + 10`, `i = |body| + |endEol| - 1` the index of the EOL byte in front of `endstream`
  have hel : endEol.length - 1 + 10 = endEol.length + 9 := by rcases hend with rfl | rfl | rfl <;> rfl
  rw [← Nat.add_assoc, Nat.add_assoc (start + body.length), hel, ← Nat.add_assoc]

/-- `ReadStreamData` (library HEAD f33cd07) on `stream`, LF or CR LF, a body, ONE end-of-line marker (LF, CR LF or
CR), `endstream`, with an unusable `/Length` (as in `readStreamData_unusable`): the extent is exactly the body, also
one that ends in end-of-line bytes of its own.  Excluded: a body that contains EOL+`endstream` (`hno`), and a body
that ends in a bare CR in front of a marker LF (`hamb`: the file shows the ONE marker CR LF then). -/
theorem stream_extent_recovery (pre body rest startEol endEol : Bytes)
    (hstart : startEol = [10] ∨ startEol = [13, 10]) (hend : IsEol endEol)
    (hamb : endEol = [10] → endsInCR body = false) (hno : findEolEndstream body = none)
    (declared : Option Nat)
    (hdecl : ∀ d, declared = some d →
      endstreamAt (pre ++ kw_stream ++ startEol ++ body ++ endEol ++ kwEndstream ++ rest)
        (pre.length + 6 + startEol.length + d) = false) :
    let file := pre ++ kw_stream ++ startEol ++ body ++ endEol ++ kwEndstream ++ rest
    let start := pre.length + 6 + startEol.length
    readStreamData file pre.length declared
        = .ok { start := start, len := body.length, after := start + body.length + endEol.length + 9 }
      ∧ (file.drop start).take body.length = body := by
  intro file start
  have hdrop0 : file.drop pre.length = kw_stream ++ (startEol ++ (body ++ (endEol ++ (kwEndstream ++ rest)))) := by
    have : file = pre ++ (kw_stream ++ (startEol ++ (body ++ (endEol ++ (kwEndstream ++ rest))))) := by
      simp only [file, List.append_assoc]
    rw [this]; exact List.drop_left
  have hdropS : file.drop start = body ++ (endEol ++ (kwEndstream ++ rest)) := by
    have : file = (pre ++ kw_stream ++ startEol) ++ (body ++ (endEol ++ (kwEndstream ++ rest))) := by
      simp only [file, List.append_assoc]
    have hl : start = (pre ++ kw_stream ++ startEol).length := by
      simp only [start, List.length_append]; rfl
    rw [this, hl]; exact List.drop_left
  refine ⟨?_, ?_⟩
  · rw [readStreamData_unusable file pre.length startEol _ hdrop0 hstart declared hdecl]
    exact recoverExtent_body file start body endEol rest hdropS hend hamb hno
  · rw [hdropS]; exact List.take_left

/-- bfd427f: a declared length whose end does not fit an `int64` is not probed; the stream is read
    exactly as if `/Length` were missing (recovery by the `endstream` search) -/
theorem length_overflow_is_unknown (file : Bytes) (pos d : Nat)
    (h : ∀ start, pos ≤ start → lengthFits start d = false) :
    readStreamData file pos (some d) = readStreamData file pos none := by
  unfold readStreamData
  dsimp only
  congr 1
  congr 1; funext k
  rw [h (pos + 6 + k) (Nat.le_add_right_of_le (Nat.le_add_right pos 6))]
  rfl

theorem lengthFits_false (start d : Nat) (h : start + d > 9223372036854775807) : lengthFits start d = false := by
  unfold lengthFits
  simp only [decide_eq_false_iff_not]
  omega

example : (match readStreamData ("stream\nabc\nendstream".toList.map (·.toNat)) 0 (some 9223372036854775806) with
    | .ok e => e.start == 7 && e.len == 3 && e.after == 20 | _ => false) = true := by decide +kernel
example : (match readStreamData ("stream\nabc\nendstream".toList.map (·.toNat)) 0 (some 9223372036854775800) with
    | .ok e => e.start == 7 && e.len == 3 && e.after == 20 | _ => false) = true := by decide +kernel

-- non-vacuity: the body `a endstream\rb` (contains the keyword, a CR and ends in a regular byte),
-- CR LF before the real `endstream`, and a wrong `/Length 3`: hypotheses hold, extent is the body
def exPre : Bytes := [60, 60, 62, 62]
def exBody : Bytes := [97, 32] ++ kwEndstream ++ [13, 98]
def exFile : Bytes := exPre ++ kw_stream ++ [10] ++ exBody ++ [13, 10] ++ kwEndstream ++ [10]
example : endsInEol exBody = false ∧ findEolEndstream exBody = none
      ∧ endstreamAt exFile (exPre.length + 6 + 1 + 3) = false
      ∧ (match readStreamData exFile exPre.length (some 3) with
          | .ok e => e.start == 11 && e.len == exBody.length && e.after == 11 + 13 + 2 + 9
          | _ => false) = true := by
  decide +kernel

end PdfVerif.C04hisb
