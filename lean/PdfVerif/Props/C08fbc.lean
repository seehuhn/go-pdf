import PdfVerif.Model.FBGlobals
import PdfVerif.Props.C08fb

/-!
C08 (work package FB): no CCITTFax row is longer than `lineBytes = ⌈Columns/8⌉` bytes (`row_length`, for arbitrary bytes and
parameters), hence at most `MaxRows × lineBytes` bytes of output (`ccitt_decode_total_bounded`).  The invariant `LineOk` is
followed through the three scan-line decoders: the bit reader never touches the line buffer, and every
`fillRowBits(start, end)` has `end ≤ Columns` — in `decode2D` because `a1` is clamped to `Columns` and the first horizontal
run is capped after `a0 = max(a0, 0)`.  (Without these two clamps a reader emits rows of `lineBytes + 1` bytes for a
vertical-right code against `b1 = Columns` and for a first horizontal run of more than `Columns` pixels; the correspondence
line `FB cdec` on such bodies is the tie.)  Also `globalsChainFetches_bounded` (JBIG2 globals chain).
-/

namespace PdfVerif.C08fbc
open PdfVerif PdfVerif.FB PdfVerif.C08fb

theorem setRange_length : ∀ (l : Bits) (s e : Nat), (setRange l s e).length = l.length
  | [], _, _ => rfl
  | _ :: rest, s, e => by simp [setRange, setRange_length rest]

theorem reqBytes_le (stop : Int) (cap : Nat) (h : stop ≤ 8 * (cap : Int)) :
    (Int.tdiv (stop + 7) 8).toNat ≤ cap := by
  by_cases h0 : 0 ≤ stop + 7
  · rw [Int.tdiv_eq_ediv_of_nonneg h0]; omega
  · have : Int.tdiv (stop + 7) 8 ≤ 0 := by
      rw [Int.tdiv_eq_ediv]
      split
      · omega
      · have : Int.sign 8 = 1 := by decide
        omega
    omega

theorem fillRow_le (p : CParams) (line : Bits) (start stop : Int) (fill : Bool)
    (h1 : line.length ≤ 8 * p.lineBytes) (h2 : stop ≤ (p.columns : Int)) :
    (fillRow line start stop fill).length ≤ 8 * p.lineBytes := by
  -- `end ≤ Columns` is enough: `Columns ≤ 8·lineBytes`
  have hr := reqBytes_le stop p.lineBytes (by unfold CParams.lineBytes; omega)
  fun_cases fillRow line start stop fill
  · exact h1
  · rw [setRange_length, List.length_append, List.length_replicate]; omega
  · rw [List.length_append, List.length_replicate]; omega

def LineOk (p : CParams) (r : Rd) : Prop := r.line.length ≤ 8 * p.lineBytes

theorem lineOk_of_line {p : CParams} {r r' : Rd} (h : LineOk p r) (e : r'.line = r.line) : LineOk p r' := by
  unfold LineOk; rw [e]; exact h

/-- case analysis on an `if` without rewriting the branches: the decoders are nests of `if`s whose
branches are large, and a property of the result is shown branch by branch -/
theorem ite_ind {α : Sort _} {P : α → Prop} {c : Prop} [Decidable c] {a b : α} (ha : c → P a) (hb : ¬ c → P b) :
    P (if c then a else b) := by
  by_cases h : c
  · rw [if_pos h]; exact ha h
  · rw [if_neg h]; exact hb h

/-! ### the bit reader does not touch the line buffer -/

theorem load_line (n : Nat) : ∀ (fuel : Nat) (r : Rd), (r.load n fuel).line = r.line := by
  intro fuel r
  fun_induction Rd.load r n fuel
  case case1 | case6 => rfl
  all_goals assumption  -- four ways to append eight bits to the window

theorem peek_line (r : Rd) (n : Nat) : (r.peek n).2.line = r.line := by
  unfold Rd.peek; exact load_line n 4 r

theorem consume_line (r : Rd) (n : Nat) : (r.consume n).line = r.line := by
  unfold Rd.consume
  simp only []
  split <;> split <;> first | exact load_line n 4 r | rfl

theorem alignRow_line (r : Rd) (p : CParams) : (r.alignRow p).line = r.line := by
  unfold Rd.alignRow; split
  · exact consume_line r _
  · rfl

theorem readBits_line (r : Rd) (n : Nat) : (r.readBits n).2.line = r.line := by
  unfold Rd.readBits; simp only []; rw [consume_line, peek_line]

theorem waitForOne_line : ∀ (fuel : Nat) (r : Rd), (r.waitForOne fuel).line = r.line := by
  intro fuel r
  have hrb : ∀ {r r1 : Rd} {v : Nat}, r.readBits 1 = (v, r1) → r1.line = r.line := fun {r _ _} e => by
    have := readBits_line r 1; rwa [e] at this
  fun_induction Rd.waitForOne r fuel
  · rfl
  · next ih => exact ih.trans (hrb (by assumption))
  · exact hrb (by assumption)
  · rfl

theorem decodeRun_line (r : Rd) (w : Bool) : (r.decodeRun w).2.2.line = r.line := by
  unfold Rd.decodeRun
  cases w <;> simp only [Bool.false_eq_true, ↓reduceIte] <;> split <;> simp [consume_line, peek_line]

theorem decodeFullRun_line (columns : Nat) (w : Bool) : ∀ (iter : Nat) (r : Rd) (total : Nat),
    (r.decodeFullRun columns w iter total).2.line = r.line := by
  intro iter r total
  have hdr : ∀ {r r1 : Rd} {len st : Nat}, r.decodeRun w = (len, st, r1) → r1.line = r.line := fun {r _ _ _} e => by
    have := decodeRun_line r w; rwa [e] at this
  fun_induction Rd.decodeFullRun r columns w iter total
  · rfl
  · exact hdr (by assumption)
  · exact hdr (by assumption)
  · next ih => exact ih.trans (hdr (by assumption))

theorem changesGo_lt : ∀ (px : List Nat) (prev x : Nat), ∀ c ∈ changesGo prev x px, c < x + px.length := by
  intro px prev x
  fun_induction changesGo prev x px <;> intro c hc
  · cases hc
  · next ih =>
    rcases List.mem_cons.1 hc with rfl | hc
    · simp
    · have := ih c hc; simp; omega
  · next ih => have := ih c hc; simp; omega

theorem changeAt_le (ch : List Nat) (cols i : Nat) (h : ∀ c ∈ ch, c ≤ cols) : changeAt ch cols i ≤ cols := by
  unfold changeAt
  split
  · rename_i c hc; exact h c (List.mem_of_getElem? hc)
  · exact Nat.le_refl _

theorem findB1B2_le (ch : List Nat) (cols : Nat) (a0 : Int) (cur white : Nat) (h : ∀ c ∈ ch, c ≤ cols) :
    (findB1B2 ch cols a0 cur white).1 ≤ cols ∧ (findB1B2 ch cols a0 cur white).2 ≤ cols := by
  unfold findB1B2
  exact ⟨changeAt_le _ _ _ h, changeAt_le _ _ _ h⟩

theorem decode2DGo_le (p : CParams) (refCh : List Nat) (hch : ∀ c ∈ refCh, c ≤ p.columns) :
    ∀ (fuel : Nat) (r : Rd) (a0 prevA0 : Int) (cur prevCol : Nat), r.line.length ≤ 8 * p.lineBytes →
      (Rd.decode2DGo r p refCh fuel a0 prevA0 cur prevCol).line.length ≤ 8 * p.lineBytes := by
  show ∀ (fuel : Nat) (r : Rd) (a0 prevA0 : Int) (cur prevCol : Nat), LineOk p r →
    LineOk p (Rd.decode2DGo r p refCh fuel a0 prevA0 cur prevCol)
  intro fuel
  induction fuel with
  | zero => intro r _ _ _ _ h; exact h
  | succ f ih =>
    intro r a0 prevA0 cur prevCol h
    unfold Rd.decode2DGo
    refine ite_ind (fun _ => ite_ind (fun _ => h) fun _ => ?_) (fun _ => h)
    have h1 : LineOk p (r.peek 7).2 := lineOk_of_line h (peek_line r 7)
    generalize r.peek 7 = pk at h1 ⊢
    obtain ⟨value, r1⟩ := pk
    dsimp only
    refine ite_ind (fun _ => lineOk_of_line h1 (peek_line r1 11)) fun _ => ?_
    have h2 : LineOk p (r1.consume (Gen.ccitt_mainTable_Width value)) := lineOk_of_line h1 (consume_line _ _)
    generalize r1.consume (Gen.ccitt_mainTable_Width value) = r2 at h2 ⊢
    obtain ⟨hb1, hb2⟩ := findB1B2_le refCh p.columns a0 cur p.whiteBit hch
    generalize findB1B2 refCh p.columns a0 cur p.whiteBit = bb at hb1 hb2 ⊢
    obtain ⟨b1, b2⟩ := bb
    dsimp only at hb1 hb2 ⊢
    refine ite_ind (fun _ => ?_) fun _ => ite_ind (fun _ => ?_) fun _ => ite_ind (fun _ => ?_) fun _ =>
      ite_ind (fun _ => h2) fun _ => ih _ _ _ _ _ h2
    · -- pass mode: fill up to b2
      exact ih _ _ _ _ _ (fillRow_le p _ _ _ _ h2 (by omega))
    · -- horizontal mode: two runs, each capped at the end of the row
      refine ih _ _ _ _ _ (fillRow_le p _ _ _ _ ?_ (by omega))
      rw [decodeFullRun_line]
      refine fillRow_le p _ _ _ _ ?_ (by omega)
      rw [decodeFullRun_line]; exact h2
    · -- vertical mode: a1 clamped to Columns
      exact ih _ _ _ _ _ (fillRow_le p _ _ _ _ h2 (Int.min_le_right _ _))

theorem decode1DGo_le (p : CParams) :
    ∀ (fuel : Nat) (r : Rd) (xpos : Nat) (isWhite : Bool) (numEOL : Nat) (needTerm : Bool), LineOk p r →
      LineOk p (Rd.decode1DGo r p fuel xpos isWhite numEOL needTerm) := by
  -- after `decodeRun` and `fillRowBits` of the clamped run the line is still in bounds
  have hfill : ∀ {r r1 : Rd} {w : Bool} {len st xpos : Nat} {fill : Bool}, r.decodeRun w = (len, st, r1) → LineOk p r →
      LineOk p { r1 with line := fillRow r1.line ↑xpos (↑xpos + ↑(min len (p.columns - xpos))) fill } := by
    intro r r1 w len st xpos fill e h
    have hr := decodeRun_line r w; rw [e] at hr
    show (fillRow r1.line _ _ _).length ≤ _
    rw [show r1.line = r.line from hr]
    by_cases hx : xpos ≤ p.columns
    · exact fillRow_le p _ _ _ _ h (by omega)
    · -- beyond the row the clamped run is empty: the line is not touched
      unfold fillRow; rw [if_pos (by omega)]; exact h
  intro fuel r xpos isWhite numEOL needTerm
  fun_induction Rd.decode1DGo r p fuel xpos isWhite numEOL needTerm <;> intro h
  · exact h
  -- an EOL code at the start of the row: the sixth ends the data, else go on; inside the row: the row ends
  · exact lineOk_of_line (hfill (by assumption) h) (waitForOne_line ..)
  · next ih => exact ih (lineOk_of_line (hfill (by assumption) h) (waitForOne_line ..))
  · exact lineOk_of_line (hfill (by assumption) h) (waitForOne_line ..)
  -- the terminating white code, the terminating black code, a make-up code
  · next ih => exact ih (hfill (by assumption) h)
  · next ih => exact ih (hfill (by assumption) h)
  · next ih => exact ih (hfill (by assumption) h)
  · exact lineOk_of_line h (alignRow_line ..)
  · exact h

theorem decode1D_le (p : CParams) (r : Rd) : LineOk p (r.decode1D p) :=
  decode1DGo_le p _ _ _ _ _ _ (Nat.zero_le _)

theorem changingElements_le (p : CParams) (refLine : Bits) :
    ∀ c ∈ changingElements p ((refLine.take p.columns).map fun b => if b then 1 else 0), c ≤ p.columns := by
  intro c hc
  unfold changingElements at hc
  have := changesGo_lt _ _ _ c hc
  simp only [List.length_map, List.length_take] at this
  omega

theorem decode2D_le (p : CParams) (r : Rd) (refLine : Bits) : LineOk p (r.decode2D p refLine) :=
  decode2DGo_le p _ (changingElements_le p refLine) _ _ _ _ _ _ (Nat.zero_le _)

theorem decodeG4_le (p : CParams) (r : Rd) (refLine : Bits) : LineOk p (r.decodeG4 p refLine) := by
  have h0 : LineOk p ((r.decode2D p refLine).alignRow p) := lineOk_of_line (decode2D_le p r refLine) (alignRow_line _ p)
  unfold Rd.decodeG4
  generalize (r.decode2D p refLine).alignRow p = r0 at h0 ⊢
  dsimp only
  have h1 := lineOk_of_line h0 (peek_line r0 24)
  generalize r0.peek 24 = pk at h1 ⊢
  exact ite_ind (fun _ => ite_ind (fun _ => lineOk_of_line h1 (consume_line _ 24)) fun _ => h1) fun _ => h0

theorem decodeG32D_le (p : CParams) (r : Rd) (refLine : Bits) : LineOk p (r.decodeG32D p refLine) := by
  unfold Rd.decodeG32D
  exact ite_ind (fun _ => ite_ind (fun _ => ite_ind (fun _ => Nat.zero_le _) fun _ => decode1D_le p _)
    fun _ => decode1D_le p _) fun _ => lineOk_of_line (decode2D_le p _ refLine) (alignRow_line _ p)

theorem decodeScanLine_le (p : CParams) (r : Rd) (refLine : Bits) : LineOk p (r.decodeScanLine p refLine).1 := by
  unfold Rd.decodeScanLine
  exact ite_ind (fun _ => decodeG4_le p r refLine) fun _ => ite_ind (fun _ => decode1D_le p r) fun _ =>
    decodeG32D_le p r refLine

theorem packBits_length (l : Bits) : (packBits l).1.length * 8 ≤ l.length := by
  fun_induction packBits l with
  | case1 b0 b1 b2 b3 b4 b5 b6 b7 rest bytes left h ih =>
    rw [h] at ih; simp only [List.length_cons] at ih ⊢; omega
  | case2 l h => simp

theorem readRows_row_le (p : CParams) : ∀ (fuel : Nat) (r : Rd) (numRows : Nat) (refLine : Bits),
    ∀ row ∈ (Rd.readRows r p fuel numRows refLine).1, row.length ≤ p.lineBytes
  | 0, _, _, _, _, h => by simp [Rd.readRows] at h
  | fuel + 1, r, n, rl, row, h => by
    rcases readRows_cases r p fuel n rl with e | ⟨_, e⟩ <;> rw [e] at h
    · cases h
    · rcases List.mem_cons.1 h with h | h
      · have h1 : _ ≤ _ := decodeScanLine_le p r rl
        have h2 := packBits_length (r.decodeScanLine p rl).1.line
        rw [h]; omega
      · exact readRows_row_le p fuel _ _ _ row h

/-- whatever the bytes and the parameters, no row of the decoded output is longer
than `⌈Columns/8⌉` bytes -/
theorem row_length (p : CParams) (data : Bytes) : ∀ row ∈ (decodeRows p data).1, row.length ≤ p.lineBytes := by
  unfold decodeRows
  exact readRows_row_le p _ _ _ _

theorem flatten_length_le (L : Nat) : ∀ (rows : List Bytes), (∀ row ∈ rows, row.length ≤ L) →
    rows.flatten.length ≤ rows.length * L
  | [], _ => by simp
  | row :: rest, h => by
    have h1 := h row (List.mem_cons_self ..)
    have h2 := flatten_length_le L rest (fun r hr => h r (List.mem_cons_of_mem _ hr))
    simp only [List.flatten_cons, List.length_append, List.length_cons, Nat.add_mul, Nat.one_mul]
    omega

/-- the CCITTFax reader opened by `FilterCCITTFax.Decode`
delivers at most `MaxRows × ⌈Columns/8⌉` bytes, `MaxRows ≤ geoMax(Columns) ≤ MaxImageHeight`
(`decode_rows_bounded`) -/
theorem ccitt_decode_total_bounded (f : FCCITT) (data : Bytes) :
    ((decodeAll f.decParams data).1.length : Int) ≤ f.decodeMaxRows * (f.decParams.lineBytes : Int) := by
  have hrows := (decode_rows_bounded f data).1
  have hlen := flatten_length_le f.decParams.lineBytes (decodeRows f.decParams data).1 (row_length f.decParams data)
  unfold decodeAll
  simp only []
  have h0 : (0 : Int) ≤ (f.decParams.lineBytes : Int) := Int.natCast_nonneg _
  calc ((decodeRows f.decParams data).1.flatten.length : Int)
      ≤ (((decodeRows f.decParams data).1.length * f.decParams.lineBytes : Nat) : Int) := by exact_mod_cast hlen
    _ = ((decodeRows f.decParams data).1.length : Int) * (f.decParams.lineBytes : Int) := by simp
    _ ≤ f.decodeMaxRows * (f.decParams.lineBytes : Int) := Int.mul_le_mul_of_nonneg_right hrows h0

/-- two rows of one byte each, on a body on which a reader without the two clamps delivers two bytes per row -/
example : (decodeRows ⟨8, -1, 2, false, false, false, false⟩ [0x06, 0x0C, 0, 0, 0, 0]).1.map List.length = [1, 1] := by
  decide +kernel

/-- `DecodeStream` follows at most `MaxExtractDepth` `/JBIG2Globals` references, however long
the chain in the file is -/
theorem globalsChainFetches_bounded (depth : Nat) : globalsChainFetches depth ≤ Gen.limits_MaxExtractDepth := by
  unfold globalsChainFetches; omega

end PdfVerif.C08fbc
