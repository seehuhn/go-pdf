import PdfVerif.Model.FBParams
import PdfVerif.Lemmas.Digits
/-!
C06 (work package FB), CCITTFax, the layers under the row proofs of `Props/C06faC.lean`: the decode tables of
`tables.go` against its encode tables (`table_layout`: one kernel evaluation per colour on the packed table of
`Generated.FactsFB`, so a changed table entry re-runs it; `table_at`, `table_complete`, `table_sound`), the run coder
(`encodeRun_codes`), the round-trip statement `ccitt_rt_statement` with evaluated streams (`regress_*`), the bit reader
on real bits (`Rd.stream`, `Rd.clean`, `peek_spec`, `consume_spec`, `peek_code`) and the two run decoders
(`decodeRun_code`, `fullRun_rt`).
-/
namespace PdfVerif.C06fbt
open PdfVerif PdfVerif.FB PdfVerif.Gen

/-- Bool-valued bounded quantifier (cheap for the kernel) -/
def allLt : Nat → (Nat → Bool) → Bool
  | 0, _ => true
  | n + 1, p => p n && allLt n p

theorem allLt_spec (n : Nat) (p : Nat → Bool) (h : allLt n p = true) : ∀ i, i < n → p i = true := by
  induction n with
  | zero => intro i hi; omega
  | succ n ih =>
    intro i hi
    simp [allLt] at h
    by_cases hin : i = n
    · subst hin; exact h.1
    · exact ih h.2 i (by omega)

/-- the 104 run-length codes of one colour as the encoder uses them
(`encodeRun`: 64 terminating, 27 make-up, 13 extended make-up): code, width, run length, and the
state the decoder must report -/
def codeEntry (white : Bool) (i : Nat) : Nat × Nat × Nat × Nat :=
  if i < 64 then
    if white then (ccitt_whiteTermEncodeTable_Code i, ccitt_whiteTermEncodeTable_Width i, i, ccitt_S_TermW)
    else (ccitt_blackTermEncodeTable_Code i, ccitt_blackTermEncodeTable_Width i, i, ccitt_S_TermB)
  else if i < 91 then
    if white then (ccitt_whiteMakeupEncodeTable_Code (i - 64), ccitt_whiteMakeupEncodeTable_Width (i - 64), 64 * (i - 63), ccitt_S_MakeUpW)
    else (ccitt_blackMakeupEncodeTable_Code (i - 64), ccitt_blackMakeupEncodeTable_Width (i - 64), 64 * (i - 63), ccitt_S_MakeUpB)
  else (ccitt_extMakeupEncodeTable_Code (i - 91), ccitt_extMakeupEncodeTable_Width (i - 91), 1792 + 64 * (i - 91), ccitt_S_MakeUp)

def tblBits (white : Bool) : Nat := if white then 12 else 13
def tblState (white : Bool) (v : Nat) : Nat := if white then ccitt_whiteTable_State v else ccitt_blackTable_State v
def tblWidth (white : Bool) (v : Nat) : Nat := if white then ccitt_whiteTable_Width v else ccitt_blackTable_Width v
def tblParam (white : Bool) (v : Nat) : Nat := if white then ccitt_whiteTable_Param v else ccitt_blackTable_Param v

example : tblBits true = 12 ∧ tblBits false = 13 := by decide

theorem tblBits_le (white : Bool) : tblBits white ≤ 13 := by cases white <;> decide

/-- the code word of run-length code `i`; `encodeRun_eq` and `decodeRun_code` spell it out -/
def codeWord (white : Bool) (i : Nat) : Bits := codeBits (codeEntry white i).1 (codeEntry white i).2.1

theorem codeWord_term (white : Bool) (j : Nat) (hj : j < 64) : codeWord white j = termCode white j := by
  unfold codeWord codeEntry termCode; rw [if_pos hj]; cases white <;> rfl

theorem codeWord_makeup (white : Bool) (j : Nat) (hj : j < 27) : codeWord white (64 + j) = makeupCode white j := by
  unfold codeWord codeEntry makeupCode
  rw [if_neg (by omega), if_pos (by omega), Nat.add_sub_cancel_left]; cases white <;> rfl

theorem codeWord_ext (white : Bool) (j : Nat) (hj : j < 13) : codeWord white (91 + j) = extCode j := by
  unfold codeWord codeEntry extCode; rw [if_neg (by omega), if_neg (by omega), Nat.add_sub_cancel_left]

theorem codeEntry_state (white : Bool) (i : Nat) :
    (codeEntry white i).2.2.2 =
      (if i < 64 then (if white then ccitt_S_TermW else ccitt_S_TermB)
       else if i < 91 then (if white then ccitt_S_MakeUpW else ccitt_S_MakeUpB) else ccitt_S_MakeUp) := by
  unfold codeEntry
  by_cases h1 : i < 64
  · simp only [h1, if_true]; cases white <;> rfl
  · simp only [h1, if_false]
    by_cases h2 : i < 91
    · simp only [h2, if_true]; cases white <;> rfl
    · simp only [h2, if_false]

theorem state_makeup (white : Bool) (i : Nat) (h1 : 64 ≤ i) : isTermOrEOL (codeEntry white i).2.2.2 = false := by
  rw [codeEntry_state, if_neg (by omega)]
  by_cases h : i < 91
  · rw [if_pos h]; cases white <;> decide
  · rw [if_neg h]; decide

theorem state_term (white : Bool) (i : Nat) (h1 : i < 64) : isTermOrEOL (codeEntry white i).2.2.2 = true := by
  rw [codeEntry_state, if_pos h1]; cases white <;> decide

theorem isMakeUp_codeEntry (white : Bool) (i : Nat) : isMakeUp (codeEntry white i).2.2.2 = decide (64 ≤ i) := by
  rw [codeEntry_state]
  by_cases h1 : i < 64
  · rw [if_pos h1, decide_eq_false (by omega)]; cases white <;> decide
  · rw [if_neg h1, decide_eq_true (by omega)]
    by_cases h2 : i < 91
    · rw [if_pos h2]; cases white <;> decide
    · rw [if_neg h2]; decide

/-- `2 ^ span` indices of the colour's decode table start with code word `i` -/
def span (white : Bool) (i : Nat) : Nat := tblBits white - (codeEntry white i).2.1
/-- the first of them -/
def posOf (white : Bool) (i : Nat) : Nat := (codeEntry white i).1 * 2 ^ span white i

/-- code `i` is a prefix of (or equal to) code `j` -/
def isPrefixCode (white : Bool) (i j : Nat) : Bool :=
  let ei := codeEntry white i
  let ej := codeEntry white j
  Nat.ble ei.2.1 ej.2.1 && (ej.1 / 2 ^ (ej.2.1 - ei.2.1) == ei.1)

/-- index of the code a decode entry claims to be: `runValue` undone within each of the three ranges of `codeEntry` -/
def claimedIndex (st prm : Nat) : Nat :=
  if st == ccitt_S_TermW || st == ccitt_S_TermB then prm
  else if st == ccitt_S_MakeUpW || st == ccitt_S_MakeUpB then 63 + prm / 64
  else 91 + (prm - 1792) / 64

/-- a decode entry is empty (invalid code), the EOL entry (eleven zeros), or the entry of the
encoder's code that is a prefix of its index -/
def decEncOk (white : Bool) (v : Nat) : Bool :=
  let st := tblState white v
  let w := tblWidth white v
  let prm := tblParam white v
  if w == 0 then st == 0 && prm == 0
  else if st == ccitt_S_EOL then w == 11 && Nat.blt v (2 ^ (tblBits white - 11))
  else
    let i := claimedIndex st prm
    let e := codeEntry white i
    Nat.blt i 104 && e.1 == v / 2 ^ (tblBits white - w) && e.2.1 == w && e.2.2.1 == prm && e.2.2.2 == st

/-! ### the decode tables read as numbers in base `2^32`

Code `i` of a colour, `c` in `w` bits, owns the `2 ^ (B - w)` table indices that start with it, from `c * 2 ^ (B - w)` on
(`B = tblBits`): disjoint intervals, because the code is prefix free.  The generated table is one packed natural, so
"the EOL entry below `2 ^ (B - 11)`, the entry of code `i` on the indices of code `i`, zero elsewhere" is a single
equation between numbers (`table_layout`), which the kernel evaluates with a few hundred big-number operations instead
of reading 12288 entries one by one. -/

open PdfVerif.Digits (dig dig_zero dig_add_lt dig_add_ge dig_shift_lt dig_shift_ge rep rep_spec)

def tblPacked (white : Bool) : Nat := if white then ccitt_whiteTable_packed else ccitt_blackTable_packed

/-- the base of the packed tables: 32 bits per entry, state in bits 24–31, width in 16–23, run length in 0–15 -/
def tblBase : Nat := 4294967296

theorem tbl_dig (white : Bool) (v : Nat) :
    tblState white v = dig tblBase (tblPacked white) v / 16777216 % 256 ∧
    tblWidth white v = dig tblBase (tblPacked white) v / 65536 % 256 ∧
    tblParam white v = dig tblBase (tblPacked white) v % 65536 := by
  have e : ∀ X : Nat, (X >>> (32 * v)) % 4294967296 = dig tblBase X v := by
    intro X; rw [Nat.shiftRight_eq_div_pow, Nat.pow_mul]; rfl
  cases white <;>
    exact ⟨congrArg (· / 16777216 % 256) (e _), congrArg (· / 65536 % 256) (e _),
      (congrArg (· / 1 % 65536) (e _)).trans (by rw [Nat.div_one]; rfl)⟩

/-- the packed entry the decoder must find there -/
def entryOf (white : Bool) (i : Nat) : Nat :=
  (codeEntry white i).2.2.2 * 16777216 + (codeEntry white i).2.1 * 65536 + (codeEntry white i).2.2.1
def eolEntry : Nat := ccitt_S_EOL * 16777216 + 11 * 65536

def codeFacts (white : Bool) (i : Nat) : Bool :=
  let e := codeEntry white i
  Nat.ble 2 e.2.1 && Nat.ble e.2.1 (tblBits white) && Nat.blt e.1 (2 ^ e.2.1) && Nat.ble 1 e.1 &&
  Nat.ble 1 (bitsToNat ((codeBits e.1 e.2.1).take 11)) && Nat.blt (entryOf white i) tblBase &&
  entryOf white i / 16777216 % 256 == e.2.2.2 && entryOf white i / 65536 % 256 == e.2.1 && entryOf white i % 65536 == e.2.2.1 &&
  e.2.2.2 != ccitt_S_EOL && claimedIndex e.2.2.2 e.2.2.1 == i

theorem code_facts_bool (white : Bool) : allLt 104 (codeFacts white) = true := by
  cases white <;> decide +kernel

/-- `codeFacts` as propositions; `pos` and `head`: the reader's tests for EOL (eleven zeros) cannot fire on a code word -/
structure CodeOk (white : Bool) (i : Nat) : Prop where
  two_le : 2 ≤ (codeEntry white i).2.1
  le_bits : (codeEntry white i).2.1 ≤ tblBits white
  fits : (codeEntry white i).1 < 2 ^ (codeEntry white i).2.1
  pos : 1 ≤ (codeEntry white i).1
  head : 1 ≤ bitsToNat ((codeBits (codeEntry white i).1 (codeEntry white i).2.1).take 11)
  entry_lt : entryOf white i < tblBase
  state : entryOf white i / 16777216 % 256 = (codeEntry white i).2.2.2
  width : entryOf white i / 65536 % 256 = (codeEntry white i).2.1
  param : entryOf white i % 65536 = (codeEntry white i).2.2.1
  notEOLState : (codeEntry white i).2.2.2 ≠ ccitt_S_EOL
  claimed : claimedIndex (codeEntry white i).2.2.2 (codeEntry white i).2.2.1 = i

theorem code_facts (white : Bool) (i : Nat) (hi : i < 104) : CodeOk white i := by
  have h := allLt_spec _ _ (code_facts_bool white) i hi
  simp only [codeFacts, Bool.and_eq_true, Nat.ble_eq, Nat.blt_eq, beq_iff_eq, bne_iff_ne] at h
  obtain ⟨⟨⟨⟨⟨⟨⟨⟨⟨⟨h2, h3⟩, h4⟩, h5⟩, h6⟩, h7⟩, h8⟩, h9⟩, h10⟩, h11⟩, h12⟩ := h
  exact ⟨h2, h3, h4, h5, h6, h7, h8, h9, h10, h11, h12⟩

def ins (white : Bool) (i : Nat) : List Nat → List Nat
  | [] => [i]
  | j :: js => if posOf white i ≤ posOf white j then i :: j :: js else j :: ins white i js

/-- the codes sorted by their first table index; nothing is proved about the sort: `table_layout` tests its result -/
def order (white : Bool) : List Nat := (List.range 104).foldr (ins white) []

/-- the table from index `pos` on as a number in base `2^32`: zero up to the indices of the first code of `is`, that
code's entry on its `2 ^ span` indices, and so on -/
def layN (white : Bool) : Nat → List Nat → Nat
  | _, [] => 0
  | pos, i :: is => tblBase ^ (posOf white i - pos) *
      (rep tblBase (entryOf white i) (span white i) + tblBase ^ 2 ^ span white i * layN white (posOf white i + 2 ^ span white i) is)

/-- codes `< 104`, each starting at or after `pos` and after the end of the one before -/
def inOrder (white : Bool) : Nat → List Nat → Bool
  | _, [] => true
  | pos, i :: is => Nat.ble pos (posOf white i) && Nat.blt i 104 && inOrder white (posOf white i + 2 ^ span white i) is

def mask : List Nat → Nat
  | [] => 0
  | i :: is => 2 ^ i ||| mask is

/-- the decode table of a colour is the layout of its 104 codes: the EOL entry on the indices below `2 ^ (B - 11)`,
then the codes in the order of their indices; that order is sound and lists every code.  (One statement, so that the
kernel sorts once.) -/
theorem table_layout (white : Bool) :
    tblPacked white = rep tblBase eolEntry (tblBits white - 11) +
      tblBase ^ 2 ^ (tblBits white - 11) * layN white (2 ^ (tblBits white - 11)) (order white) ∧
    inOrder white (2 ^ (tblBits white - 11)) (order white) = true ∧ mask (order white) = 2 ^ 104 - 1 := by
  cases white <;> decide +kernel

theorem mem_of_mask {i : Nat} : ∀ {l : List Nat}, (mask l).testBit i = true → i ∈ l
  | [], h => by simp [mask] at h
  | j :: js, h => by
    rw [mask, Nat.testBit_or, Bool.or_eq_true, Nat.testBit_two_pow] at h
    rcases h with h | h
    · exact (of_decide_eq_true h) ▸ List.mem_cons_self
    · exact List.mem_cons_of_mem _ (mem_of_mask h)

theorem order_mem (white : Bool) (i : Nat) (hi : i < 104) : i ∈ order white :=
  mem_of_mask (by rw [(table_layout white).2.2]; exact Nat.testBit_two_pow_sub_one .. ▸ decide_eq_true hi)

theorem inOrder_le (white : Bool) : ∀ (is : List Nat) (pos : Nat), inOrder white pos is = true → ∀ i ∈ is, pos ≤ posOf white i
  | [], _, _, i, hi => by simp at hi
  | j :: js, pos, h, i, hi => by
    simp only [inOrder, Bool.and_eq_true, Nat.ble_eq] at h
    obtain ⟨⟨h1, _⟩, h3⟩ := h
    rcases List.mem_cons.mp hi with rfl | hi
    · exact h1
    · have := inOrder_le white js _ h3 i hi
      have := Nat.pow_pos (n := span white j) (show 0 < 2 by decide)
      omega

theorem layN_block (white : Bool) : ∀ (is : List Nat) (pos : Nat), inOrder white pos is = true → ∀ i ∈ is, ∀ s, s < 2 ^ span white i →
    dig tblBase (layN white pos is) (posOf white i + s - pos) = entryOf white i
  | [], _, _, i, hi, _, _ => by simp at hi
  | j :: js, pos, h, i, hi, s, hs => by
    have hle := inOrder_le white _ _ h
    simp only [inOrder, Bool.and_eq_true, Nat.ble_eq, Nat.blt_eq] at h
    obtain ⟨⟨h1, h2⟩, h3⟩ := h
    have hm : 0 < tblBase := by decide
    obtain ⟨r1, r2⟩ := rep_spec (code_facts white j h2).entry_lt (span white j)
    rw [layN]
    by_cases hij : i = j
    · subst hij
      rw [dig_shift_ge hm _ (by omega), show posOf white i + s - pos - (posOf white i - pos) = s by omega,
        dig_add_lt hm _ _ hs, r2 s hs]
    · have hi' : i ∈ js := by simpa [hij] using hi
      have hge := inOrder_le white js _ h3 i hi'
      have := Nat.pow_pos (n := span white j) (show 0 < 2 by decide)
      rw [dig_shift_ge hm _ (by omega), dig_add_ge hm r1 _ (by omega),
        show posOf white i + s - pos - (posOf white j - pos) - 2 ^ span white j = posOf white i + s - (posOf white j + 2 ^ span white j) by omega]
      exact layN_block white js _ h3 i hi' s hs

theorem layN_sound (white : Bool) : ∀ (is : List Nat) (pos : Nat), inOrder white pos is = true → ∀ u,
    dig tblBase (layN white pos is) u = 0 ∨
    ∃ i, i < 104 ∧ ∃ s, s < 2 ^ span white i ∧ pos + u = posOf white i + s ∧ dig tblBase (layN white pos is) u = entryOf white i
  | [], _, _, u => .inl (dig_zero _ _)
  | j :: js, pos, h, u => by
    simp only [inOrder, Bool.and_eq_true, Nat.ble_eq, Nat.blt_eq] at h
    obtain ⟨⟨h1, h2⟩, h3⟩ := h
    have hm : 0 < tblBase := by decide
    obtain ⟨r1, r2⟩ := rep_spec (code_facts white j h2).entry_lt (span white j)
    rw [layN]
    by_cases hu : u < posOf white j - pos
    · exact .inl (dig_shift_lt hm _ hu)
    · rw [dig_shift_ge hm _ (by omega)]
      by_cases hu2 : u - (posOf white j - pos) < 2 ^ span white j
      · rw [dig_add_lt hm _ _ hu2, r2 _ hu2]
        exact .inr ⟨j, h2, _, hu2, by omega, rfl⟩
      · rw [dig_add_ge hm r1 _ (by omega)]
        rcases layN_sound white js _ h3 (u - (posOf white j - pos) - 2 ^ span white j) with h0 | ⟨i, hi, s, hs, he, hd⟩
        · exact .inl h0
        · exact .inr ⟨i, hi, s, hs, by omega, hd⟩

/-- eleven zero bits decode as EOL of width 11 in both tables -/
theorem eol_entries (white : Bool) (v : Nat) (hv : v < 2 ^ (tblBits white - 11)) :
    tblState white v = ccitt_S_EOL ∧ tblWidth white v = 11 := by
  obtain ⟨t1, t2, _⟩ := tbl_dig white v
  rw [(table_layout white).1, dig_add_lt (by decide) _ _ hv, (rep_spec (by decide) _).2 v hv] at t1 t2
  exact ⟨t1, t2⟩

theorem tbl_code (white : Bool) (v i : Nat) (hi : i < 104) (h : dig tblBase (tblPacked white) v = entryOf white i) :
    tblState white v = (codeEntry white i).2.2.2 ∧ tblWidth white v = (codeEntry white i).2.1 ∧
    tblParam white v = (codeEntry white i).2.2.1 := by
  obtain ⟨t1, t2, t3⟩ := tbl_dig white v
  rw [h] at t1 t2 t3
  exact ⟨t1.trans (code_facts white i hi).state, t2.trans (code_facts white i hi).width, t3.trans (code_facts white i hi).param⟩

/-- what a decode table holds at index `v`: the EOL entry below `2 ^ (B - 11)`, nothing, or the entry of a code whose
word `v` starts with -/
theorem table_at (white : Bool) (v : Nat) :
    (v < 2 ^ (tblBits white - 11) ∧ tblState white v = ccitt_S_EOL ∧ tblWidth white v = 11) ∨
    (tblState white v = 0 ∧ tblWidth white v = 0 ∧ tblParam white v = 0) ∨
    ∃ i, i < 104 ∧ ∃ s, s < 2 ^ span white i ∧ v = posOf white i + s ∧ tblState white v = (codeEntry white i).2.2.2 ∧
      tblWidth white v = (codeEntry white i).2.1 ∧ tblParam white v = (codeEntry white i).2.2.1 := by
  obtain ⟨hl, ho, _⟩ := table_layout white
  by_cases hP : v < 2 ^ (tblBits white - 11)
  · exact .inl ⟨hP, eol_entries white v hP⟩
  · have hd : dig tblBase (tblPacked white) v = dig tblBase (layN white (2 ^ (tblBits white - 11)) (order white)) (v - 2 ^ (tblBits white - 11)) := by
      rw [hl, dig_add_ge (by decide) (rep_spec (by decide) _).1 _ (by omega)]
    rcases layN_sound white _ _ ho (v - 2 ^ (tblBits white - 11)) with h0 | ⟨i, hi, s, hs, he, hi'⟩
    · obtain ⟨t1, t2, t3⟩ := tbl_dig white v
      rw [hd, h0] at t1 t2 t3
      exact .inr (.inl ⟨t1, t2, t3⟩)
    · exact .inr (.inr ⟨i, hi, s, hs, by omega, tbl_code white v i hi (hd.trans hi')⟩)

/-- **encode → decode**: for every code of the encoder and every continuation of the bit stream
the decode table returns that code's state, width and run length -/
theorem table_complete (white : Bool) (i : Nat) (hi : i < 104) (s : Nat)
    (hs : s < 2 ^ (tblBits white - (codeEntry white i).2.1)) :
    let e := codeEntry white i
    let v := e.1 * 2 ^ (tblBits white - e.2.1) + s
    tblState white v = e.2.2.2 ∧ tblWidth white v = e.2.1 ∧ tblParam white v = e.2.2.1 := by
  obtain ⟨hl, ho, _⟩ := table_layout white
  have hP := inOrder_le white _ _ ho i (order_mem white i hi)
  refine tbl_code white (posOf white i + s) i hi ?_
  rw [hl, dig_add_ge (by decide) (rep_spec (by decide) _).1 _ (by omega)]
  exact layN_block white _ _ ho i (order_mem white i hi) s hs

/-- **decode → encode**: every entry of the decode tables is empty, EOL, or one of the encoder's
codes, and that code is a prefix of the entry's index (`hv` is not used: beyond the table the accessors read zero,
an empty entry) -/
theorem table_sound (white : Bool) (v : Nat) (hv : v < 2 ^ tblBits white) : decEncOk white v = true := by
  unfold decEncOk
  rcases table_at white v with ⟨hP, h1, h2⟩ | ⟨h1, h2, h3⟩ | ⟨i, hi, s, hs, hvi, h1, h2, h3⟩
  · simp [h1, h2, hP]
  · simp [h1, h2, h3]
  · have hc := code_facts white i hi
    have hcode : v / 2 ^ (tblBits white - (codeEntry white i).2.1) = (codeEntry white i).1 := by
      show v / 2 ^ span white i = _
      rw [hvi, posOf, Nat.mul_comm, Nat.mul_add_div (Nat.pow_pos (by decide)), Nat.div_eq_of_lt hs, Nat.add_zero]
    simp [h1, h2, h3, hc.claimed, Nat.ne_of_gt (Nat.lt_of_lt_of_le (by decide : 0 < 2) hc.two_le), hc.notEOLState, hi, hcode]

/-- mode codes as `encode2DGo` writes them: (code, width, state, param as uint16) for
pass, horizontal, V0, VR1, VR2, VR3, VL1, VL2, VL3 -/
def modeEntry : Nat → Nat × Nat × Nat × Nat
  | 0 => (1, 4, ccitt_S_Pass, 0)
  | 1 => (1, 3, ccitt_S_Horiz, 0)
  | 2 => (1, 1, ccitt_S_Vert, 0)
  | 3 => (3, 3, ccitt_S_Vert, 1)
  | 4 => (3, 6, ccitt_S_Vert, 2)
  | 5 => (3, 7, ccitt_S_Vert, 3)
  | 6 => (2, 3, ccitt_S_Vert, 65535)
  | 7 => (2, 6, ccitt_S_Vert, 65534)
  | _ => (2, 7, ccitt_S_Vert, 65533)

theorem vertCode_modeEntry : ∀ d : Int, -3 ≤ d → d ≤ 3 →
    ∃ i, 2 ≤ i ∧ i ≤ 8 ∧ vertCode d = codeBits (modeEntry i).1 (modeEntry i).2.1 ∧ int16 (modeEntry i).2.2.2 = d := by
  intro d h1 h2
  have : d = 0 ∨ d = 1 ∨ d = 2 ∨ d = 3 ∨ d = -1 ∨ d = -2 ∨ d = -3 := by omega
  rcases this with h | h | h | h | h | h | h <;> subst h
  · exact ⟨2, by decide⟩
  · exact ⟨3, by decide⟩
  · exact ⟨4, by decide⟩
  · exact ⟨5, by decide⟩
  · exact ⟨6, by decide⟩
  · exact ⟨7, by decide⟩
  · exact ⟨8, by decide⟩

theorem main_table_bool :
    allLt 9 (fun i => allLt (2 ^ (7 - (modeEntry i).2.1)) (fun s =>
      let e := modeEntry i
      let v := e.1 * 2 ^ (7 - e.2.1) + s
      ccitt_mainTable_State v == e.2.2.1 && ccitt_mainTable_Width v == e.2.1 && ccitt_mainTable_Param v == e.2.2.2)) = true := by
  decide +kernel

/-- `mainTable` returns the mode, width and offset of every mode code the encoder writes, whatever bits follow -/
theorem main_table_complete (i : Nat) (hi : i < 9) (s : Nat) (hs : s < 2 ^ (7 - (modeEntry i).2.1)) :
    let e := modeEntry i
    let v := e.1 * 2 ^ (7 - e.2.1) + s
    ccitt_mainTable_State v = e.2.2.1 ∧ ccitt_mainTable_Width v = e.2.1 ∧ ccitt_mainTable_Param v = e.2.2.2 := by
  have := allLt_spec _ _ (allLt_spec _ _ main_table_bool i hi) s hs
  simp at this
  exact ⟨this.1.1, this.1.2, this.2⟩

/-- the remaining two `mainTable` entries: seven zeros = EOL (not consumed), `0000001` = extension -/
theorem main_table_rest :
    ccitt_mainTable_State 0 = ccitt_S_EOL ∧ ccitt_mainTable_State 1 = ccitt_S_Ext ∧ ccitt_mainTable_Width 1 = 7 ∧
    allLt 128 (fun v => Nat.blt 0 (ccitt_mainTable_Width v) && Nat.ble (ccitt_mainTable_Width v) 7) = true := by
  decide +kernel

example : codeEntry true 0 = (53, 8, 0, 5) := by decide +kernel         -- white run 0: 00110101
example : codeEntry false 90 = (101, 13, 1728, 8) := by decide +kernel  -- black make-up 1728
example : codeEntry true 103 = (31, 12, 2560, 9) := by decide +kernel   -- extended make-up 2560

/-- indices (into `codeEntry`) of the code words `encode1DRun` writes for a run of `len` pixels:
`len/2560` times the 2560 make-up code, at most one extended and one ordinary make-up code, one
terminating code -/
def runIndices (len : Nat) : List Nat :=
  let r := len % 2560
  List.replicate (len / 2560) 103
  ++ (if r ≥ 1792 then [91 + (r - 1792) / 64] else [])
  ++ (let r' := if r ≥ 1792 then r - ((r - 1792) / 64 + 28) * 64 else r
      (if r' ≥ 64 then [63 + r' / 64] else []) ++ [r' % 64])

/-- run length of code `i` (indices as in `codeEntry`: 64 terminating codes, 27 make-up codes from 64 on, 13 extended
ones from 91 on) -/
def runValue (i : Nat) : Nat := if i < 64 then i else if i < 91 then 64 * (i - 63) else 1792 + 64 * (i - 91)

theorem runValue_eq (white : Bool) (i : Nat) : (codeEntry white i).2.2.1 = runValue i := by
  unfold codeEntry runValue
  by_cases h1 : i < 64
  · rw [if_pos h1, if_pos h1]; cases white <;> rfl
  · rw [if_neg h1, if_neg h1]
    by_cases h2 : i < 91
    · rw [if_pos h2, if_pos h2]; cases white <;> rfl
    · rw [if_neg h2, if_neg h2]

/-- a make-up code `63 + q`, ordinary or extended, stands for `64 * q` pixels (`1792 = 28 * 64`) -/
theorem runValue_cases (i : Nat) : (i < 64 ∧ runValue i = i) ∨ (64 ≤ i ∧ runValue i = 64 * (i - 63)) := by
  unfold runValue
  by_cases h1 : i < 64
  · rw [if_pos h1]; exact .inl ⟨h1, rfl⟩
  · rw [if_neg h1]; refine .inr ⟨by omega, ?_⟩
    split <;> omega

theorem runValue_inj (i j : Nat) (h : runValue i = runValue j) : i = j := by
  have hi := runValue_cases i
  have hj := runValue_cases j
  omega

theorem runValue_makeup (i : Nat) (h : 64 ≤ i) : 64 ≤ runValue i := by
  have := runValue_cases i
  omega

/-- no run-length code of a colour is a prefix of another one (the decode table would have to answer
with both at the indices that start with the longer one, `table_complete`) -/
theorem codes_prefix_free (white : Bool) (i j : Nat) (hi : i < 104) (hj : j < 104) (hne : i ≠ j) :
    isPrefixCode white i j = false := by
  cases hp : isPrefixCode white i j
  · rfl
  · exfalso
    unfold isPrefixCode at hp
    simp only [Bool.and_eq_true, Nat.ble_eq, beq_iff_eq] at hp
    obtain ⟨hw, hc⟩ := hp
    have hwB := (code_facts white j hj).le_bits
    have ti := table_complete white i hi
    have tj := table_complete white j hj 0 (Nat.pow_pos (by omega))
    simp only [runValue_eq] at ti tj
    generalize (codeEntry white i).1 = ci at *
    generalize (codeEntry white j).1 = cj at *
    generalize (codeEntry white i).2.1 = wi at *
    generalize (codeEntry white j).2.1 = wj at *
    generalize tblBits white = B at *
    obtain ⟨a, rfl⟩ : ∃ a, wj = wi + a := ⟨wj - wi, by omega⟩
    obtain ⟨b, rfl⟩ : ∃ b, B = wi + a + b := ⟨B - (wi + a), by omega⟩
    have e1 : wi + a - wi = a := by omega
    have e2 : wi + a + b - (wi + a) = b := by omega
    have e3 : wi + a + b - wi = a + b := by omega
    rw [e1] at hc
    rw [e2, Nat.add_zero] at tj
    rw [e3] at ti
    have h2a : 0 < 2 ^ a := Nat.pow_pos (by omega)
    have h2b : 0 < 2 ^ b := Nat.pow_pos (by omega)
    have hdm := Nat.div_add_mod cj (2 ^ a)
    rw [hc] at hdm
    -- the index `cj * 2 ^ b` (code `j`, then zeros) starts with code `i` as well: it is `i`'s first index plus
    -- `cj % 2 ^ a * 2 ^ b`, so `table_complete` gives it the run lengths of both
    have hidx : ci * 2 ^ (a + b) + cj % 2 ^ a * 2 ^ b = cj * 2 ^ b := by
      rw [Nat.pow_add, ← Nat.mul_assoc, ← Nat.add_mul, Nat.mul_comm ci, hdm]
    have hs : cj % 2 ^ a * 2 ^ b < 2 ^ (a + b) := by
      rw [Nat.pow_add]; exact Nat.mul_lt_mul_of_pos_right (Nat.mod_lt _ h2a) h2b
    have ti' := ti _ hs
    rw [hidx] at ti'
    exact hne (runValue_inj i j (by rw [← ti'.2.2, ← tj.2.2]))

/-- the ordinary and the extended make-up codes continue each other: `91 + (r - 1792) / 64 = 63 + r / 64` -/
theorem runIndices_eq (len : Nat) : runIndices len =
    (List.replicate (len / 2560) 103 ++ if 64 ≤ len % 2560 then [63 + len % 2560 / 64] else []) ++ [len % 64] := by
  have hlt : len % 2560 < 2560 := Nat.mod_lt _ (by omega)
  have h64 : len % 2560 % 64 = len % 64 := Nat.mod_mod_of_dvd _ (by decide)
  unfold runIndices
  by_cases h1 : len % 2560 ≥ 1792
  · have hr' : len % 2560 - ((len % 2560 - 1792) / 64 + 28) * 64 = len % 64 := by omega
    have hmk : 91 + (len % 2560 - 1792) / 64 = 63 + len % 2560 / 64 := by omega
    simp only [h1, if_true, hr', hmk]
    rw [if_neg (by omega), if_pos (by omega), Nat.mod_mod_of_dvd _ (by decide)]
    simp
  · simp only [h1, if_false, h64]
    by_cases h2 : len % 2560 ≥ 64 <;> simp [h2]

theorem run_codes_sum (len : Nat) : ((runIndices len).map runValue).sum = len := by
  have hlt : len % 2560 < 2560 := Nat.mod_lt _ (by omega)
  have h103 : runValue 103 = 2560 := by decide
  have ht := runValue_cases (len % 64)
  rw [runIndices_eq]
  simp only [List.map_append, List.sum_append, List.map_replicate, List.sum_replicate_nat, List.map_cons, List.map_nil,
    List.sum_cons, List.sum_nil, h103]
  by_cases h : 64 ≤ len % 2560
  · have hm := runValue_cases (63 + len % 2560 / 64)
    rw [if_pos h, List.map_cons, List.map_nil, List.sum_cons, List.sum_nil]; omega
  · rw [if_neg h, List.map_nil, List.sum_nil]; omega

theorem run_codes_count (len : Nat) :
    (runIndices len).length = len / 2560 + (if len % 2560 ≥ 64 then 1 else 0) + 1 := by
  rw [runIndices_eq]
  split <;> simp

/-- class `ccitt-2d-long-run`: 64 code words say runs of up to 161343 pixels; `decodeFullRun` admits `Columns/64 + 2`
(`fullRun_rt`) -/
theorem run_codes_le_64_iff (len : Nat) : (runIndices len).length ≤ 64 ↔ len < 161344 := by
  rw [run_codes_count]
  have hlt : len % 2560 < 2560 := Nat.mod_lt _ (by omega)
  have hd := Nat.div_add_mod len 2560
  constructor
  · intro h; split at h <;> omega
  · intro h; split <;> omega

/-- the bits `encodeRun` writes are the code words of `runIndices`, in order -/
theorem encodeRun_eq (white : Bool) (len : Nat) :
    encodeRun white len = ((runIndices len).map fun i => codeBits (codeEntry white i).1 (codeEntry white i).2.1).flatten := by
  have hlt : len % 2560 < 2560 := Nat.mod_lt _ (by omega)
  show encodeRun white len = ((runIndices len).map (codeWord white)).flatten
  have hrep : ∀ n, ((List.replicate n 103).map (codeWord white)).flatten
      = (List.replicate n (extCode (ccitt_extMakeupEncodeTable_len - 1))).flatten := by
    intro n
    have hl : ccitt_extMakeupEncodeTable_len - 1 = 12 := by decide
    rw [hl, ← codeWord_ext white 12 (by omega), List.map_replicate]
  unfold encodeRun runIndices
  simp only [List.map_append, List.flatten_append, hrep]
  by_cases h1 : len % 2560 ≥ 1792
  · simp only [h1, if_true]
    have hr' : len % 2560 - ((len % 2560 - 1792) / 64 + 28) * 64 < 64 := by omega
    rw [if_neg (by omega), if_neg (by omega)]
    simp only [List.map_cons, List.map_nil, List.flatten_cons, List.flatten_nil, List.append_nil, List.nil_append]
    rw [codeWord_ext _ _ (by omega), Nat.mod_eq_of_lt hr', codeWord_term _ _ hr']
  · simp only [h1, if_false]
    by_cases h2 : len % 2560 ≥ 64
    · simp only [h2, if_true]
      simp only [List.map_cons, List.map_nil, List.flatten_cons, List.flatten_nil, List.append_nil]
      have : 63 + len % 2560 / 64 = 64 + (len % 2560 / 64 - 1) := by omega
      rw [this, codeWord_makeup _ _ (by omega), codeWord_term _ _ (Nat.mod_lt _ (by omega))]
      simp [List.append_assoc]
    · simp only [h2, if_false]
      simp only [List.map_cons, List.map_nil, List.flatten_cons, List.flatten_nil, List.append_nil, List.nil_append]
      rw [Nat.mod_eq_of_lt (by omega : len % 2560 < 64), codeWord_term _ _ (by omega)]

/-- what `encode1DRun` writes: make-up codes `pre`, then a terminating code `t`, run lengths adding up to `len` -/
theorem encodeRun_codes (white : Bool) (len : Nat) :
    ∃ pre t, t < 64 ∧ (∀ i ∈ pre, 64 ≤ i ∧ i < 104) ∧ runIndices len = pre ++ [t] ∧
      encodeRun white len = ((pre ++ [t]).map (codeWord white)).flatten ∧ ((pre ++ [t]).map runValue).sum = len := by
  have hlt : len % 2560 < 2560 := Nat.mod_lt _ (by omega)
  refine ⟨_, _, Nat.mod_lt _ (by omega), fun i hi => ?_, runIndices_eq len, ?_, ?_⟩
  · rcases List.mem_append.mp hi with hi | hi
    · obtain rfl := (List.mem_replicate.mp hi).2; omega
    · split at hi <;> simp at hi; omega
  · rw [← runIndices_eq, encodeRun_eq]; rfl
  · rw [← runIndices_eq]; exact run_codes_sum len

example : runIndices 2561 = [103, 1] := by decide
example : runIndices 1728 = [90, 0] := by decide
example : (runIndices 161344).length = 65 := by decide +kernel

/-- admissible shape: whole rows of `lineBytes` bytes (`AllBytes`: the reader returns bytes, `C06faC.packBits_bytes`) with
zero padding bits, not more than `/Rows` -/
def ccittAdmissible (p : CParams) (rows : List Bytes) : Prop :=
  (∀ row ∈ rows, row.length = p.lineBytes ∧ AllBytes row ∧ paddingOk p row = true) ∧
  (p.maxRows = 0 ∨ rows.length ≤ p.maxRows)

instance (p : CParams) (rows : List Bytes) : Decidable (ccittAdmissible p rows) := by
  unfold ccittAdmissible; infer_instance

/-- the full-strength statement of C06 for CCITTFax: every validated parameter set, every admissible image within
the reader's geometry cap (that last hypothesis adds nothing: `ccittAdmissible` bounds the rows by `maxRows`, which is
`decodeMaxRows.toNat`).  Proved for every K, EndOfLine and EncodedByteAlign with the end-of-block pattern
(`C06fbK.ccitt_rt_supported_partial`).  Not proved without it (IgnoreEndOfBlock, see `Rd.clean`): validated on every
run by the oracle `fb-ccitt-rt`, the model/implementation correspondence and the independent decoder. -/
def ccitt_rt_statement : Prop :=
  ∀ (f : FCCITT) (rows : List Bytes), f.validate = true → ccittAdmissible f.encParams rows →
    (rows.length : Int) ≤ f.decodeMaxRows →
    decodeAll f.decParams (encodeAll f.encParams rows.flatten).1 = (rows.flatten, 1)

def w3 : List Bytes := [[224], [224], [224], [224], [224]]

/-- class `ccitt-noeob` (D10): Group 4, 3 columns, five rows `111`, no EOFB — all five rows come back (the
look-ahead's EOF must not become the reader's error while real bits are in the window) -/
theorem regress_noeob :
    decodeAll (⟨-1, false, false, 3, 0, true, false, 0⟩ : FCCITT).decParams
      (encodeAll (⟨-1, false, false, 3, 0, true, false, 0⟩ : FCCITT).encParams w3.flatten).1 = (w3.flatten, 1) := by
  decide +kernel

/-- class `ccitt-bytealign` (D10): Group 4 with EncodedByteAlign — the fill bits after a row are skipped, not
decoded as codes -/
theorem regress_bytealign :
    decodeAll (⟨-1, false, true, 3, 0, false, false, 0⟩ : FCCITT).decParams
      (encodeAll (⟨-1, false, true, 3, 0, false, false, 0⟩ : FCCITT).encParams [224, 224, 0, 224, 0]).1 = ([224, 224, 0, 224, 0], 1) := by
  decide +kernel

/-- class `ccitt-kpos-rows` (D10): K=1 without Rows, two rows written — the return-to-control sequence ends the
data and is not decoded into a third row -/
theorem regress_kpos_rows :
    decodeAll (⟨1, false, false, 3, 0, false, false, 0⟩ : FCCITT).decParams
      (encodeAll (⟨1, false, false, 3, 0, false, false, 0⟩ : FCCITT).encParams [224, 224]).1 = ([224, 224], 1) := by
  decide +kernel

/-- class `ccitt-1d-final-run-64` (D10): K=0, 64 columns, first row all black — a run of 64 is a make-up code and a
terminating code of length 0, and the reader takes the latter although the row is full (`needTerm`) -/
theorem regress_1d_final_run_64 :
    decodeAll (⟨0, false, false, 64, 0, false, false, 0⟩ : FCCITT).decParams
      (encodeAll (⟨0, false, false, 64, 0, false, false, 0⟩ : FCCITT).encParams
        [0, 0, 0, 0, 0, 0, 0, 0, 255, 0, 0, 0, 0, 0, 0, 1]).1 = ([0, 0, 0, 0, 0, 0, 0, 0, 255, 0, 0, 0, 0, 0, 0, 1], 1) := by
  decide +kernel

example : decodeAll (⟨-1, false, false, 3, 0, false, false, 0⟩ : FCCITT).decParams
    (encodeAll (⟨-1, false, false, 3, 0, false, false, 0⟩ : FCCITT).encParams w3.flatten).1 = (w3.flatten, 1) := by decide +kernel

/-- the bits the reader will deliver while no error has occurred.  (Declared here, so the name is `C06fbt.Rd.stream`, not
a field of the model's `Rd`: it is written `Rd.stream r`, `r.stream` does not elaborate; likewise `Rd.clean`.) -/
def Rd.stream (r : Rd) : Bits := r.win ++ bytesToBits r.src

/-- no error so far, the source not exhausted, no made-up bits in the window.  `peekBits` shifts in zeros once the
source is exhausted, so a reader stays `clean` only while every look-ahead finds real bits: hence the unread bits the
lemmas ask for (13 = `tblBits false` for a run code, 24 for the EOFB test) and the 13 bits behind every row.  The
end-of-block pattern supplies them; without it (IgnoreEndOfBlock) the last rows' look-ahead is not `clean`, which is
why those streams are outside the proved class. -/
def Rd.clean (r : Rd) : Prop := r.err = 0 ∧ r.srcErr = 0 ∧ r.fake = 0

theorem codeBits_eq (c : Nat) : ∀ w, codeBits c w = Digits.bits c w
  | 0 => rfl
  | w + 1 => by rw [codeBits, codeBits_eq c w]; rfl

theorem bitsToNat_eq (bs : Bits) : bitsToNat bs = Digits.bitsVal bs := Digits.bitsVal_foldl bs

theorem codeBits_length (c w : Nat) : (codeBits c w).length = w := by rw [codeBits_eq, Digits.bits_length]

theorem byteBits_length (b : Nat) : (byteBits b).length = 8 := codeBits_length b 8

theorem bytesToBits_nil : bytesToBits [] = [] := rfl

theorem bytesToBits_cons (a : Nat) (b : Bytes) : bytesToBits (a :: b) = byteBits a ++ bytesToBits b := by
  simp [bytesToBits]

theorem bitsToNat_append (a b : Bits) : bitsToNat (a ++ b) = bitsToNat a * 2 ^ b.length + bitsToNat b := by
  simp only [bitsToNat_eq, Digits.bitsVal_append]

theorem bitsToNat_cons (b : Bool) (rest : Bits) :
    bitsToNat (b :: rest) = (if b then 1 else 0) * 2 ^ rest.length + bitsToNat rest := by
  rw [← List.singleton_append, bitsToNat_append]; cases b <;> rfl

theorem bitsToNat_take_append (a t : Bits) (n : Nat) (h1 : a.length ≤ n) (h2 : n ≤ (a ++ t).length) :
    bitsToNat ((a ++ t).take n) = bitsToNat a * 2 ^ (n - a.length) + bitsToNat (t.take (n - a.length)) := by
  rw [List.length_append] at h2
  rw [List.take_append, List.take_of_length_le h1, bitsToNat_append, List.length_take, Nat.min_eq_left (by omega)]

theorem bitsToNat_lt (bs : Bits) : bitsToNat bs < 2 ^ bs.length := by rw [bitsToNat_eq]; exact Digits.bitsVal_lt bs

theorem bitsToNat_codeBits (c w : Nat) : bitsToNat (codeBits c w) = c % 2 ^ w := by
  rw [bitsToNat_eq, codeBits_eq, Digits.bitsVal_bits]

theorem codeBits_add_mul (w a c : Nat) : codeBits (a * 2 ^ w + c) w = codeBits c w := by
  rw [codeBits_eq, Digits.bits_add_mul, codeBits_eq]

theorem codeBits_bitsToNat (bs : Bits) : codeBits (bitsToNat bs) bs.length = bs := by
  rw [codeBits_eq, bitsToNat_eq, Digits.bits_bitsVal]

theorem codeBits_zero (w : Nat) : codeBits 0 w = List.replicate w false := by
  induction w with
  | zero => rfl
  | succ w ih => simp [codeBits, ih, List.replicate_succ]

theorem codeBits_zero_of_mod (w c : Nat) (h : c % 2 ^ w = 0) : codeBits c w = List.replicate w false := by
  have := codeBits_add_mul w (c / 2 ^ w) (c % 2 ^ w)
  rw [Nat.mul_comm, Nat.div_add_mod, h] at this
  rw [this, codeBits_zero]

theorem codeBits_drop (k a c : Nat) : (codeBits c (a + k)).drop a = codeBits c k := by
  rw [codeBits_eq, Digits.bits_add, List.drop_left' (Digits.bits_length ..), codeBits_eq]

theorem bitsToNat_byteBits (b : Nat) (hb : b < 256) : bitsToNat (byteBits b) = b := by
  unfold byteBits; rw [bitsToNat_codeBits]; exact Nat.mod_eq_of_lt hb

theorem byteBits_eight (b : Nat) : ∃ b0 b1 b2 b3 b4 b5 b6 b7, byteBits b = [b0, b1, b2, b3, b4, b5, b6, b7] :=
  ⟨_, _, _, _, _, _, _, _, rfl⟩

theorem byteBits_bitsToNat (bs : Bits) (h : bs.length = 8) : byteBits (bitsToNat bs) = bs := by
  unfold byteBits; rw [← h, codeBits_bitsToNat]

theorem load_spec (n : Nat) : ∀ (fuel : Nat) (r : Rd), Rd.clean r → n ≤ (Rd.stream r).length → n ≤ r.win.length + 8 * fuel →
    Rd.clean (r.load n fuel) ∧ Rd.stream (r.load n fuel) = Rd.stream r ∧ n ≤ (r.load n fuel).win.length ∧
    (r.load n fuel).line = r.line := by
  intro fuel r
  fun_induction Rd.load r n fuel with
  | case1 r => exact fun he _ hf => ⟨he, rfl, by omega, rfl⟩
  | case2 r f hw _ b rest hsrc ih =>  -- a byte of the source goes into the window
    intro he hs hf
    have hst : Rd.stream { r with win := r.win ++ byteBits b, src := rest } = Rd.stream r := by
      simp [Rd.stream, hsrc, bytesToBits_cons, List.append_assoc]
    have := ih he (by rw [hst]; exact hs) (by simp [byteBits_length]; omega)
    rwa [hst] at this
  | case3 r f hw _ hsrc =>  -- the source is empty: fewer than `n` real bits
    intro _ hs _; simp [Rd.stream, hsrc, bytesToBits_nil] at hs; omega
  | case4 r f _ hc | case5 r f _ hc => exact fun he => absurd ⟨he.1, he.2.1⟩ hc  -- not `clean`
  | case6 r f hw => exact fun he _ _ => ⟨he, rfl, by omega, rfl⟩

/-- `n ≤ 24`: the widest look-ahead of the model (the EOFB test); four loads of `Rd.load` fill the window to more -/
theorem peek_spec (r : Rd) (n : Nat) (he : Rd.clean r) (hn : n ≤ 24) (hs : n ≤ (Rd.stream r).length) :
    (r.peek n).1 = bitsToNat ((Rd.stream r).take n) ∧ Rd.clean (r.peek n).2 ∧ Rd.stream (r.peek n).2 = Rd.stream r ∧
    (r.peek n).2.line = r.line := by
  obtain ⟨h1, h2, h3, h4⟩ := load_spec n 4 r he hs (by omega)
  unfold Rd.peek
  simp only []
  refine ⟨?_, h1, h2, h4⟩
  rw [← h2]
  unfold Rd.stream
  rw [List.take_append_of_le_length h3]

theorem consume_spec (r : Rd) (n : Nat) (he : Rd.clean r) (hn : n ≤ 24) (hs : n ≤ (Rd.stream r).length) :
    Rd.clean (r.consume n) ∧ Rd.stream (r.consume n) = (Rd.stream r).drop n ∧ (r.consume n).line = r.line := by
  unfold Rd.consume
  by_cases hw : r.win.length < n
  · obtain ⟨h1, h2, h3, h4⟩ := load_spec n 4 r he hs (by omega)
    simp only [hw, if_true]
    have hf : (r.load n 4).fake = 0 := h1.2.2
    simp only [hf, Nat.not_lt_zero, if_false]
    refine ⟨⟨h1.1, h1.2.1, rfl⟩, ?_, h4⟩
    rw [← h2]
    simp only [Rd.stream]
    rw [List.drop_append_of_le_length h3]
  · simp only [hw, if_false]
    have hf : r.fake = 0 := he.2.2
    simp only [hf, Nat.not_lt_zero, if_false]
    refine ⟨⟨he.1, he.2.1, rfl⟩, ?_, trivial⟩
    simp only [Rd.stream]
    rw [List.drop_append_of_le_length (by omega)]

/-- the reader in front of a code word `c` of `w` bits, looking at `B ≥ w` bits for its table index -/
theorem peek_code (r : Rd) (B c w : Nat) (rest : Bits) (he : Rd.clean r) (hB : B ≤ 24) (hw : w ≤ B) (hfit : c < 2 ^ w)
    (hs : Rd.stream r = codeBits c w ++ rest) (hrest : B ≤ rest.length) :
    (∃ s, s < 2 ^ (B - w) ∧ (r.peek B).1 = c * 2 ^ (B - w) + s) ∧ Rd.clean ((r.peek B).2.consume w) ∧
    Rd.stream ((r.peek B).2.consume w) = rest ∧ ((r.peek B).2.consume w).line = r.line := by
  have hlen : B ≤ (Rd.stream r).length := by rw [hs, List.length_append]; omega
  obtain ⟨p1, p2, p3, p4⟩ := peek_spec r B he hB hlen
  obtain ⟨c1, c2, c3⟩ := consume_spec (r.peek B).2 w p2 (by omega) (by rw [p3]; omega)
  have hl : (rest.take (B - w)).length = B - w := by rw [List.length_take, Nat.min_eq_left (by omega)]
  refine ⟨⟨bitsToNat (rest.take (B - w)), by have := bitsToNat_lt (rest.take (B - w)); rwa [hl] at this, ?_⟩, c1, ?_,
    by rw [c3, p4]⟩
  · rw [p1, hs, bitsToNat_take_append _ _ _ (by rw [codeBits_length]; exact hw) (by rw [← hs]; exact hlen), codeBits_length,
      bitsToNat_codeBits, Nat.mod_eq_of_lt hfit]
  · rw [c2, p3, hs, List.drop_left' (codeBits_length ..)]

theorem decodeRun_eq (r : Rd) (white : Bool) : r.decodeRun white =
    if tblWidth white (r.peek (tblBits white)).1 = 0 then
      (0, tblState white (r.peek (tblBits white)).1, { (r.peek (tblBits white)).2 with err := 2 })
    else (tblParam white (r.peek (tblBits white)).1, tblState white (r.peek (tblBits white)).1,
      (r.peek (tblBits white)).2.consume (tblWidth white (r.peek (tblBits white)).1)) := by
  cases white <;> rfl

/-- `decodeRun` reads every code word: whenever the unread bits start with the code word of run-length code `i` (any of
the 104 codes of either colour) and at least one table index worth of real bits follows, it returns that code's run
length and state, consumes exactly the code word and raises no error. -/
theorem decodeRun_code (white : Bool) (i : Nat) (hi : i < 104) (r : Rd) (rest : Bits) (he : Rd.clean r)
    (hs : Rd.stream r = codeBits (codeEntry white i).1 (codeEntry white i).2.1 ++ rest)
    (hrest : tblBits white ≤ rest.length) :
    (r.decodeRun white).1 = runValue i ∧ (r.decodeRun white).2.1 = (codeEntry white i).2.2.2 ∧
    Rd.clean (r.decodeRun white).2.2 ∧ Rd.stream (r.decodeRun white).2.2 = rest ∧
    (r.decodeRun white).2.2.line = r.line := by
  have hw2 := (code_facts white i hi).two_le
  have hwB := (code_facts white i hi).le_bits
  obtain ⟨⟨s, hs1, hval⟩, hcons⟩ := peek_code r (tblBits white) _ _ rest he (Nat.le_trans (tblBits_le white) (by decide)) hwB
    (code_facts white i hi).fits hs hrest
  obtain ⟨t1, t2, t3⟩ := table_complete white i hi s hs1
  rw [runValue_eq] at t3
  rw [decodeRun_eq, hval, t2, if_neg (by omega), t1, t3]
  exact ⟨rfl, rfl, hcons⟩

theorem fullRun_go (white : Bool) (columns : Nat) (rest : Bits) (hrest : tblBits white ≤ rest.length) (t : Nat) (ht : t < 64) :
    ∀ (pre : List Nat) (iter total : Nat) (r : Rd), (∀ i ∈ pre, 64 ≤ i ∧ i < 104) → pre.length < iter → Rd.clean r →
      Rd.stream r = ((pre ++ [t]).map (codeWord white)).flatten ++ rest →
      total + ((pre ++ [t]).map runValue).sum ≤ columns →
      (Rd.decodeFullRun r columns white iter total).1 = total + ((pre ++ [t]).map runValue).sum ∧
      Rd.clean (Rd.decodeFullRun r columns white iter total).2 ∧
      Rd.stream (Rd.decodeFullRun r columns white iter total).2 = rest ∧
      (Rd.decodeFullRun r columns white iter total).2.line = r.line := by
  intro pre
  induction pre with
  | nil =>
    intro iter total r _ hit he hs hsum
    cases iter with
    | zero => simp at hit
    | succ it =>
      simp only [List.nil_append, List.map_cons, List.map_nil, List.flatten_cons, List.flatten_nil, List.append_nil] at hs
      obtain ⟨d1, d2, d3, d4, d5⟩ := decodeRun_code white t (by omega) r rest he hs hrest
      unfold Rd.decodeFullRun
      simp only [d1, d2, state_term white t ht, Bool.true_or, if_true]
      simp
      exact ⟨d3, d4, d5⟩
  | cons i pre ih =>
    intro iter total r hpre hit he hs hsum
    have hi := hpre i (by simp)
    cases iter with
    | zero => simp at hit
    | succ it =>
      simp only [List.cons_append, List.map_cons, List.flatten_cons, List.append_assoc] at hs
      have hcont : tblBits white ≤ (((pre ++ [t]).map (codeWord white)).flatten ++ rest).length := by
        rw [List.length_append]; omega
      obtain ⟨d1, d2, d3, d4, d5⟩ := decodeRun_code white i hi.2 r _ he hs hcont
      simp only [List.cons_append, List.map_cons, List.sum_cons] at hsum ⊢
      have hrec := ih it (total + runValue i) (r.decodeRun white).2.2 (fun j hj => hpre j (by simp [hj]))
        (by simp at hit; omega) d3 d4 (by omega)
      unfold Rd.decodeFullRun
      simp only [d1, d2, state_makeup white i hi.1, Bool.false_or, d3.1]
      simp only [ne_eq, not_true_eq_false, decide_false, Bool.false_eq_true, if_false]
      rw [if_neg (by omega)]
      obtain ⟨r1, r2, r3, r4⟩ := hrec
      exact ⟨by rw [r1]; omega, r2, r3, by rw [r4, d5]⟩

/-- every make-up code stands for at least 64 pixels -/
theorem makeup_sum_ge (pre : List Nat) (h : ∀ i ∈ pre, 64 ≤ i ∧ i < 104) : 64 * pre.length ≤ (pre.map runValue).sum := by
  induction pre with
  | nil => simp
  | cons i pre ih =>
    have hi := h i (by simp)
    have := ih (fun j hj => h j (by simp [hj]))
    have hv := runValue_makeup i hi.1
    simp only [List.length_cons, List.map_cons, List.sum_cons]; omega

/-- `decodeFullRun ∘ encode1DRun` (the run coder of the horizontal mode): for EVERY run length that fits into the row
(`len ≤ Columns`; the reader admits `Columns/64 + 2` code words, a run of `len` pixels has at most `len/64 + 1`) and
either colour the reader gets the run length back, consumes exactly the run's code words and raises no error
(class `ccitt-2d-long-run`, see `run_codes_le_64_iff`). -/
theorem fullRun_rt (white : Bool) (len columns : Nat) (hlen : len ≤ columns)
    (r : Rd) (rest : Bits) (he : Rd.clean r) (hs : Rd.stream r = encodeRun white len ++ rest)
    (hrest : tblBits white ≤ rest.length) :
    (Rd.decodeFullRun r columns white (columns / 64 + 2) 0).1 = len ∧
    Rd.clean (Rd.decodeFullRun r columns white (columns / 64 + 2) 0).2 ∧
    Rd.stream (Rd.decodeFullRun r columns white (columns / 64 + 2) 0).2 = rest ∧
    (Rd.decodeFullRun r columns white (columns / 64 + 2) 0).2.line = r.line := by
  obtain ⟨pre, t, ht, hpre', _, henc, hsum⟩ := encodeRun_codes white len
  rw [henc] at hs
  have hge := makeup_sum_ge pre hpre'
  have hpl : pre.length < columns / 64 + 2 := by
    simp only [List.map_append, List.sum_append] at hsum
    have : 64 * pre.length ≤ columns := by omega
    omega
  have := fullRun_go white columns rest hrest t ht pre (columns / 64 + 2) 0 r hpre' hpl he hs (by rw [hsum]; omega)
  rw [hsum] at this
  simpa using this

end PdfVerif.C06fbt
