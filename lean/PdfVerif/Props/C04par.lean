import PdfVerif.Lemmas.C04ParB
import PdfVerif.Lemmas.C01Canon
/-!
# C04 — `parse_any_rendering`: every conforming serialisation of a value is read as that value

`Spec/C04Renders.lean` defines, from ISO 32000-2 §7.2–7.3 and independently of go-pdf's formatter,
the relation `Renders L o bs` ("`bs` is a specification-conforming way of writing `o`"): any white
space and comments between tokens, every spelling of numbers, names and both string forms
(`Props/C04hisc.lean`), arrays, dictionaries, references `n g R`.  `parse_any_rendering`: the scanner
model reads every such `bs` as exactly `o`, for every value within the caps that `ReadObject`
guarantees for its results (`capsOK`, `Props/C01h.lean`), with distinct dictionary keys, nested at most
`maxScannerNestDepth` deep.  The proof is a mutual structural recursion over the derivations
(`Lemmas/C04ParB.lean`: `rb_all`, `seqReads_all`, `kvRBK_all`).
-/
namespace PdfVerif.C04par
open PdfVerif PdfVerif.C01L PdfVerif.C04L
open PdfVerif.Spec.Renders

theorem seq_all : ∀ {p : Bool} {xs : List Obj} {body : Bytes},
    RendersSeq Gen.scanner_maxNameBytes p xs body → SeqRB xs body :=
  fun h => seqRB_of (seqReads_all h)

theorem kv_all : ∀ {kv : List (Bytes × Obj)} {body : Bytes},
    RendersKV Gen.scanner_maxNameBytes kv body → KVRB kv body :=
  fun h => kvRB_of_K (kvRBK_all h)

/-- the hypotheses about the value: within the caps the scanner enforces on everything it returns
    (`capsOK`: int64 integers, number tokens and names ≤ `maxNameBytes`, strings ≤ `maxStringBytes`,
    arrays ≤ `maxArrayLen`, dictionaries ≤ `maxDictLen`, references below `maxXRefSize` /
    `maxGeneration`), distinct keys in every dictionary, nesting ≤ `maxScannerNestDepth` -/
def Fits (o : Obj) : Prop :=
  capsOK o = true ∧ uniqueKeys o = true ∧ depthOf o ≤ Gen.scanner_maxScannerNestDepth

/-- Let `bs` be any specification-conforming serialisation of the value `o` (`Renders`, number tokens
at most `maxNameBytes` long), `o` within the caps (`Fits`) and not a bare reference (`n g R` is a
reference only inside an array or dictionary and in `ReadIndirectObject`).  What follows must end the
last token if `o` is written with regular characters (`EndsToken`), and behind a dictionary must not
show the keyword `stream` after white space (that would make the dictionary a stream).  Then a fresh
scanner's `ReadObject` returns exactly `o` and stops there — behind a dictionary with the white space
and comments skipped that it consumes while looking for `stream`. -/
theorem parse_any_rendering (o : Obj) (bs : Bytes) (hr : Renders Gen.scanner_maxNameBytes o bs)
    (hf : Fits o) (hnr : isRefObj o = false) (rest : Bytes)
    (hend : selfDelimited o = false → EndsToken rest) (hns : isDictObj o = true → NoStream rest) :
    parseObject (bs ++ rest) = .ok (o, restAfter o rest) := by
  obtain ⟨hc, hu, hd⟩ := hf
  exact rb_all hr hc hu hnr 0 (by omega) rest hend hns (scanFuel (bs ++ rest)) (scanFuel_ge _)

/-- the property's wording: the value read is equal to `o` under the comparison form `nrm` (nil
    dictionary entries — written `null` — count as absent, dictionaries as key-sorted lists) -/
theorem parse_any_rendering_nrm (o : Obj) (bs : Bytes) (hr : Renders Gen.scanner_maxNameBytes o bs)
    (hf : Fits o) (hnr : isRefObj o = false) (rest : Bytes)
    (hend : selfDelimited o = false → EndsToken rest) (hns : isDictObj o = true → NoStream rest) :
    ∃ r rest', parseObject (bs ++ rest) = .ok (r, rest') ∧ nrm r = nrm o ∧ skipWS rest' = skipWS rest :=
  ⟨o, restAfter o rest, parse_any_rendering o bs hr hf hnr rest hend hns, rfl, skip_restAfter o rest⟩

/-- the same at any nesting depth and with any sufficient fuel (what `ReadObject` does inside
    `ReadIndirectObject`, object streams, …) -/
theorem read_any_rendering (o : Obj) (bs : Bytes) (hr : Renders Gen.scanner_maxNameBytes o bs)
    (hc : capsOK o = true) (hu : uniqueKeys o = true) (hnr : isRefObj o = false)
    (d : Nat) (hd : d + depthOf o ≤ Gen.scanner_maxScannerNestDepth) (rest : Bytes)
    (hend : selfDelimited o = false → EndsToken rest) (hns : isDictObj o = true → NoStream rest)
    (fuel : Nat) (hfuel : fuel ≥ 3 * (bs ++ rest).length + 3) :
    readObject fuel d (bs ++ rest) = .ok (o, restAfter o rest) :=
  rb_all hr hc hu hnr d hd rest hend hns fuel hfuel

/-- references are read inside arrays: any conforming spelling of `[ n g R ]` -/
theorem ref_in_array_any (n g : Nat) (bs : Bytes) (hr : Renders Gen.scanner_maxNameBytes (.arr [.ref n g]) bs)
    (hn : n < Gen.xref_maxXRefSize) (hg : g ≤ Gen.xref_maxGeneration) (rest : Bytes) :
    parseObject (bs ++ rest) = .ok (.arr [.ref n g], rest) := by
  have h1 : 1 ≤ Gen.scanner_maxArrayLen := by decide
  have h2 : 1 ≤ Gen.scanner_maxScannerNestDepth := by decide
  have := parse_any_rendering _ bs hr
    ⟨capsOK_arr_iff.mpr ⟨h1, capsList_cons.mpr ⟨capsOK_ref.mpr ⟨hn, hg⟩, rfl⟩⟩, rfl, h2⟩
    rfl rest nofun nofun
  exact this

/-! non-vacuity: `<</A[1 2 0 R(x)]%c` LF `/B<4 1>/C/D>>` with a comment, no white space where none
is needed, a reference inside an array, a hex string with white space -/
def sampleObj : Obj :=
  .dict [([65], .arr [.int 1, .ref 2 0, .str [120]]), ([66], .str [65]), ([67], .name [68])]

def sampleBytes : Bytes :=
  [60, 60, 47, 65, 91, 49, 32, 50, 32, 48, 32, 82, 40, 120, 41, 93, 37, 99, 10,
   47, 66, 60, 52, 32, 49, 62, 47, 67, 47, 68, 62, 62]

example : Renders Gen.scanner_maxNameBytes sampleObj sampleBytes := by
  have n1 : Spec.Grammar.NameR [65] [65] := .plain 65 _ _ (by decide) (by decide) (by decide) .nil
  have n2 : Spec.Grammar.NameR [66] [66] := .plain 66 _ _ (by decide) (by decide) (by decide) .nil
  have n3 : Spec.Grammar.NameR [67] [67] := .plain 67 _ _ (by decide) (by decide) (by decide) .nil
  have n4 : Spec.Grammar.NameR [68] [68] := .plain 68 _ _ (by decide) (by decide) (by decide) .nil
  have i1 : Spec.Grammar.IntR 1 [49] := .unsigned [49] (by decide) (by decide)
  have i2 : Spec.Grammar.IntR ((2 : Nat) : Int) [50] := .unsigned [50] (by decide) (by decide)
  have i0 : Spec.Grammar.IntR ((0 : Nat) : Int) [48] := .unsigned [48] (by decide) (by decide)
  have sp : Spec.Grammar.WsR [32] := .white 32 _ (by decide) .nil
  have cap : (1 : Nat) ≤ Gen.scanner_maxNameBytes := by decide
  have sx : Spec.Grammar.StrR 1 [120] [120] := .plain 1 120 _ _ (by decide) (by decide) (by decide) (by decide) (by decide) .done
  have hx : Spec.Grammar.HexR none [65] [52, 32, 49] :=
    .hi 52 4 _ _ (by decide) (.white _ 32 _ _ (by decide) (.lo 49 1 4 _ _ (by decide) .doneEven))
  -- the array [1 2 0 R(x)]
  have arr : Renders Gen.scanner_maxNameBytes (.arr [.int 1, .ref 2 0, .str [120]])
      (91 :: ([49, 32, 50, 32, 48, 32, 82, 40, 120, 41] ++ [93])) := by
    refine .arr _ _ ?_
    exact .cons true [] [49] _ (.int 1) _ .nil (.int 1 [49] i1 cap) (fun _ => .inl rfl)
      (.cons false [32] ([50] ++ [32] ++ [48] ++ [32] ++ [82]) _ (.ref 2 0) _ sp
        (.ref 2 0 [50] [32] [48] [32] i2 cap sp (by simp) i0 cap sp (by simp)) (fun h => by simp at h)
        (.cons false [] (40 :: ([120] ++ [41])) [] (.str [120]) [] .nil (.strLit [120] [120] sx) (fun _ => .inr rfl)
          (.nil true [] .nil)))
  have kv : RendersKV Gen.scanner_maxNameBytes
      [([65], .arr [.int 1, .ref 2 0, .str [120]]), ([66], .str [65]), ([67], .name [68])]
      ([] ++ 47 :: [65] ++ [] ++ (91 :: ([49, 32, 50, 32, 48, 32, 82, 40, 120, 41] ++ [93])) ++
        ([37, 99, 10] ++ 47 :: [66] ++ [] ++ (60 :: ([52, 32, 49] ++ [62])) ++
          ([] ++ 47 :: [67] ++ [] ++ (47 :: [68]) ++ []))) :=
    .cons [] [65] [] _ _ [65] _ _ .nil n1 .nil arr (fun _ => rfl)
      (.cons [37, 99, 10] [66] [] (60 :: ([52, 32, 49] ++ [62])) _ [66] (.str [65]) _
        (.comment [99] 10 [] (by decide) (by decide) .nil) n2 .nil (.strHex [65] _ hx) (fun _ => rfl)
        (.cons [] [67] [] (47 :: [68]) [] [67] (.name [68]) [] .nil n3 .nil (.name [68] [68] n4) (fun _ => rfl)
          (.nil [] .nil)))
  exact Renders.dict _ _ kv

example : Fits sampleObj ∧ isRefObj sampleObj = false := by
  refine ⟨⟨by decide +kernel, by decide +kernel, by decide +kernel⟩, rfl⟩

example : (match parseObject (sampleBytes ++ [32, 120]) with
    | .ok (o, r) => o.wire == sampleObj.wire && r == [120] | _ => false) = true := by decide +kernel

end PdfVerif.C04par
