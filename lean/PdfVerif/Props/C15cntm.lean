import PdfVerif.Props.C15cnt
import PdfVerif.Lemmas.C01Seq
/-!
# C15 — operands of any nesting against the composite stack of `Scan`

The composite stack of `Scan` against the recursive formatter `pdf.Format`: for every operand built
from flat operands by arrays and dictionaries (nesting up to `maxContentNestDepth`, sizes up to the
scanner's caps), scanning the written form in any state of the stack machine delivers the operand to the
innermost open composite (`objT`/`seqT`/`dictT`, mutual structural induction).  `opD_step` lifts this to
one operator; `C15cnto`, `C15cntn` take flat operands and operands of depth one as instances, `C15cnti`
adds inline images.
-/
namespace PdfVerif.C15cntm
open PdfVerif PdfVerif.CNT PdfVerif.C15cnt

mutual
/-- operands built from flat operands by arrays and dictionaries (within the size caps) -/
def GoodO : Obj → Prop
  | .arr xs => GoodL xs ∧ xs.length ≤ Gen.content_maxArrayLen
  | .dict kv => GoodKV kv ∧ (dataKV kv).length ≤ 2 * Gen.content_maxDictLen
  | o => FlatOk o
def GoodL : List Obj → Prop
  | [] => True
  | x :: xs => GoodO x ∧ GoodL xs
def GoodKV : List (Bytes × Obj) → Prop
  | [] => True
  | (k, v) :: r => AllBytes k ∧ k.length ≤ Gen.content_maxNameBytes ∧ GoodO v ∧ GoodKV r
/-- the operand as the scanner returns it -/
def normD : Obj → Obj
  | .arr xs => .arr (normDL xs)
  | .dict kv => .dict (mkDict (dataKV kv) [])
  | o => normA o
def normDL : List Obj → List Obj
  | [] => []
  | x :: xs => normD x :: normDL xs
/-- the contents of the dictionary frame before `>>` -/
def dataKV : List (Bytes × Obj) → List Obj
  | [] => []
  | (k, v) :: r =>
    match v with
    | .null => dataKV r
    | v => .name k :: normD v :: dataKV r
/-- number of tokens -/
def costO : Obj → Nat
  | .arr xs => costL xs + 2
  | .dict kv => costKV kv + 2
  | _ => 1
def costL : List Obj → Nat
  | [] => 0
  | x :: xs => costO x + costL xs
def costKV : List (Bytes × Obj) → Nat
  | [] => 0
  | (_, v) :: r =>
    match v with
    | .null => costKV r
    | v => 1 + costO v + costKV r
def depthO : Obj → Nat
  | .arr xs => depthL xs + 1
  | .dict kv => depthKV kv + 1
  | _ => 0
def depthL : List Obj → Nat
  | [] => 0
  | x :: xs => max (depthO x) (depthL xs)
def depthKV : List (Bytes × Obj) → Nat
  | [] => 0
  | (_, v) :: r => max (depthO v) (depthKV r)
end

theorem goodO_arr_iff (xs : List Obj) : GoodO (.arr xs) ↔ GoodL xs ∧ xs.length ≤ Gen.content_maxArrayLen := by
  unfold GoodO; exact Iff.rfl

theorem goodO_dict_iff (kv : List (Bytes × Obj)) :
    GoodO (.dict kv) ↔ GoodKV kv ∧ (dataKV kv).length ≤ 2 * Gen.content_maxDictLen := by
  unfold GoodO; exact Iff.rfl

theorem goodL_cons (x : Obj) (xs : List Obj) : GoodL (x :: xs) ↔ GoodO x ∧ GoodL xs := by
  rw [GoodL]

theorem goodKV_cons (k : Bytes) (v : Obj) (r : List (Bytes × Obj)) :
    GoodKV ((k, v) :: r) ↔ AllBytes k ∧ k.length ≤ Gen.content_maxNameBytes ∧ GoodO v ∧ GoodKV r := by
  rw [GoodKV]

/-- on every constructor but `arr` and `dict` (those of depth 0; callers give `rfl`) `GoodO` is `FlatOk` -/
theorem goodO_flat_iff (c : Obj) (h0 : depthO c = 0) : GoodO c ↔ FlatOk c := by
  cases c with
  | arr xs => simp [depthO] at h0
  | dict kv => simp [depthO] at h0
  | _ => unfold GoodO; exact Iff.rfl

theorem goodO_cases (c : Obj) (h : GoodO c) : FlatOk c ∨ (∃ xs, c = .arr xs) ∨ ∃ kv, c = .dict kv := by
  cases c with
  | arr xs => exact .inr (.inl ⟨xs, rfl⟩)
  | dict kv => exact .inr (.inr ⟨kv, rfl⟩)
  | _ => exact .inl ((goodO_flat_iff _ rfl).mp h)

theorem goodO_flat (a : Obj) (h : FlatOk a) : GoodO a := by
  cases a with
  | arr xs => exact h.elim
  | dict kv => exact h.elim
  | _ => exact (goodO_flat_iff _ rfl).mpr h

theorem normD_flat (a : Obj) (h : FlatOk a) : normD a = normA a := by
  cases a <;> first | rfl | exact absurd h (by simp [FlatOk])

theorem depthO_flat (a : Obj) (h : FlatOk a) : depthO a = 0 := by
  cases a <;> first | rfl | exact absurd h (by simp [FlatOk])

theorem flat_canon_good (a : Obj) (h : FlatOk a) : GoodO a.canon ∧ depthO a.canon = 0 := by
  rw [canon_flat a h]
  exact ⟨goodO_flat a h, depthO_flat a h⟩

theorem costO_pos (c : Obj) : 1 ≤ costO c := by
  cases c <;> simp [costO]

mutual
theorem depthO_eq : ∀ c : Obj, depthO c = C01L.depthOf c
  | .arr xs => by rw [depthO, C01L.depthOf, depthL_eq xs]
  | .dict kv => by rw [depthO, C01L.depthOf, depthKV_eq kv]
  | .null | .nilArr | .bool _ | .int _ | .real _ | .name _ | .str _ | .op _ | .ref _ _ => rfl
theorem depthL_eq : ∀ xs : List Obj, depthL xs = C01L.depthList xs
  | [] => rfl
  | x :: xs => by rw [depthL, C01L.depthList, depthO_eq x, depthL_eq xs]
theorem depthKV_eq : ∀ kv : List (Bytes × Obj), depthKV kv = C01L.depthKV kv
  | [] => rfl
  | (k, v) :: r => by rw [depthKV, C01L.depthKV, depthO_eq v, depthKV_eq r]
end
theorem depthKV_le (kv : List (Bytes × Obj)) (n : Nat) : depthKV kv ≤ n ↔ ∀ e ∈ kv, depthO e.2 ≤ n := by
  simpa only [depthKV_eq, depthO_eq] using C01L.depthKV_le kv n

theorem depthL_le (xs : List Obj) (n : Nat) : depthL xs ≤ n ↔ ∀ x ∈ xs, depthO x ≤ n := by
  simpa only [depthL_eq, depthO_eq] using C01L.depthList_le xs n

theorem goodL_iff (xs : List Obj) : GoodL xs ↔ ∀ x ∈ xs, GoodO x := by
  induction xs with
  | nil => simp [GoodL]
  | cons x r ih => simp [GoodL, ih]

theorem goodKV_iff (kv : List (Bytes × Obj)) :
    GoodKV kv ↔ ∀ e ∈ kv, AllBytes e.1 ∧ e.1.length ≤ Gen.content_maxNameBytes ∧ GoodO e.2 := by
  induction kv with
  | nil => simp [GoodKV]
  | cons x r ih =>
    obtain ⟨k, v⟩ := x
    simp only [GoodKV, List.mem_cons, forall_eq_or_imp, ih, and_assoc]

theorem goodO_arr (xs : List Obj) (h : ∀ x ∈ xs, GoodO x) (hlen : xs.length ≤ Gen.content_maxArrayLen) :
    GoodO (.arr xs) :=
  (goodO_arr_iff xs).mpr ⟨(goodL_iff xs).mpr h, hlen⟩

theorem goodO_dict (kv : List (Bytes × Obj))
    (h : ∀ e ∈ kv, AllBytes e.1 ∧ e.1.length ≤ Gen.content_maxNameBytes ∧ GoodO e.2)
    (hlen : (dataKV kv).length ≤ 2 * Gen.content_maxDictLen) : GoodO (.dict kv) :=
  (goodO_dict_iff kv).mpr ⟨(goodKV_iff kv).mpr h, hlen⟩

theorem dataKV_cons_null (k : Bytes) (kv : List (Bytes × Obj)) : dataKV ((k, .null) :: kv) = dataKV kv := by
  simp only [dataKV]

theorem costKV_cons_null (k : Bytes) (kv : List (Bytes × Obj)) : costKV ((k, .null) :: kv) = costKV kv := by
  simp only [costKV]

theorem dataKV_cons (k : Bytes) (v : Obj) (kv : List (Bytes × Obj)) (hv : v ≠ .null) :
    dataKV ((k, v) :: kv) = .name k :: normD v :: dataKV kv := by
  cases v <;> first | rfl | exact absurd rfl hv

theorem costKV_cons (k : Bytes) (v : Obj) (kv : List (Bytes × Obj)) (hv : v ≠ .null) :
    costKV ((k, v) :: kv) = 1 + costO v + costKV kv := by
  cases v <;> first | rfl | exact absurd rfl hv

def nonNull (e : Bytes × Obj) : Bool :=
  match e.2 with
  | .null => false
  | _ => true

theorem dataKV_length (kv : List (Bytes × Obj)) : (dataKV kv).length = 2 * kv.countP nonNull := by
  induction kv with
  | nil => simp [dataKV]
  | cons x r ih =>
    obtain ⟨k, v⟩ := x
    by_cases hv : v = .null
    · rw [hv, dataKV_cons_null, ih]; simp [nonNull]
    · have : nonNull (k, v) = true := by cases v <;> first | rfl | exact absurd rfl hv
      rw [dataKV_cons k v r hv]; simp [this, ih]; omega

theorem dataKV_even (kv : List (Bytes × Obj)) : (dataKV kv).length % 2 = 0 := by
  rw [dataKV_length]; omega

theorem lastIsGtOp_good (kv : List (Bytes × Obj)) (h : GoodKV kv) : lastIsGtOp kv = false :=
  C01L.lastIsGtOp_noOp kv fun e he o heq => by
    have := ((goodKV_iff kv).mp h e he).2.2
    rw [heq] at this
    exact (goodO_flat_iff _ rfl).mp this

theorem fmtObj_dict_inv {ns : Bool} {kv : List (Bytes × Obj)} {bs : Bytes} {ns' : Bool} (hg : GoodKV kv)
    (h : fmtObj copt ns (.dict kv) = some (bs, ns')) :
    ∃ body, fmtDictPlain copt kv = some body ∧ bs = 60 :: 60 :: (body ++ [62, 62]) := by
  obtain ⟨body, hbody, rfl, _⟩ := (C01L.fmtObj_dict_inv _ _ _ _ _).mp h
  exact ⟨body, hbody, by simp [copt, lastIsGtOp_good kv hg]⟩

theorem fmtArg_canon (a : Obj) (bs : Bytes) (hb : fmtArg a = some bs) :
    ∃ ns', fmtObj copt false a.canon = some (bs, ns') := by
  simp only [fmtArg, format, copt, Bool.false_eq_true, if_false, canonList, fmtSeq] at hb
  cases hx : fmtObj { pretty := false, content := true } false a.canon with
  | none => simp [hx] at hb
  | some p =>
    obtain ⟨x, ns⟩ := p
    simp [hx] at hb
    subst hb
    exact ⟨ns, hx⟩

/-- The first byte of a written operand: behind the separator (`needSep` set) it is not regular,
so it ends the token before it; without it, it is neither white space nor `%`. -/
theorem obj_head (y : Obj) (h : GoodO y) (ns : Bool) (bs : Bytes) (ns' : Bool)
    (hb : fmtObj copt ns y = some (bs, ns')) :
    bs ≠ [] ∧ (ns = true → TokEnd bs) ∧ (ns = false → Starts bs) := by
  have delim : ∀ d ∈ [37, 40, 41, 47, 60, 62, 91, 93], d ≠ 37 → ∀ tl : Bytes,
      d :: tl ≠ [] ∧ (ns = true → TokEnd (d :: tl)) ∧ (ns = false → Starts (d :: tl)) :=
    fun d hd hne tl =>
      ⟨List.cons_ne_nil _ _, fun _ => cReg_delim hd, fun _ => ⟨cSpace_delim hd, beq_eq_false_iff_ne.mpr hne⟩⟩
  rcases goodO_cases y h with hf | ⟨xs, rfl⟩ | ⟨kv, rfl⟩
  · rcases flat_cases y hf ns bs ns' hb with ⟨w, hw, rfl, rfl⟩ | ⟨n, rfl, rfl, rfl⟩ | ⟨s, rfl, rfl, rfl⟩
    · cases ns with
      | true => exact ⟨by simp [sep], fun _ => cReg_32, (fun h => nomatch h)⟩
      | false =>
        match w, hw.ne, hw.reg with
        | c :: tl, _, hreg => exact ⟨by simp [sep], (fun h => nomatch h), fun _ => starts_reg tl (hreg c (by simp))⟩
    · exact delim 47 (by simp) (by decide) (fmtNameBody n)
    · exact delim 40 (by simp) (by decide) (fmtStrLoop none 0 (countClose s) s ++ [41])
  · obtain ⟨body, _, rfl, _⟩ := (C01L.fmtObj_arr_inv _ _ _ _ _).mp hb
    exact delim 91 (by simp) (by decide) _
  · rw [goodO_dict_iff] at h
    obtain ⟨body, _, rfl⟩ := fmtObj_dict_inv h.1 hb
    exact delim 60 (by simp) (by decide) _

theorem tokEnd_seq (xs : List Obj) (hg : GoodL xs) (b rest : Bytes) (hy : fmtSeq copt true xs = some b) :
    TokEnd (b ++ 93 :: rest) := by
  cases xs with
  | nil => obtain rfl : [] = b := by simpa [fmtSeq] using hy
           exact cReg_delim (by simp)
  | cons y ys =>
    obtain ⟨c, ns2, c2, hy1, _, rfl⟩ := (C01L.fmtSeq_cons_inv _ _ _ _ _).mp hy
    obtain ⟨hne, hte, _⟩ := obj_head y hg.1 true c ns2 hy1
    rw [List.append_assoc]
    exact tokEnd_append c _ hne (hte rfl)

theorem tokEnd_dictBody (kv : List (Bytes × Obj)) : ∀ (b rest : Bytes), fmtDictPlain copt kv = some b →
    TokEnd (b ++ 62 :: 62 :: rest) := by
  induction kv with
  | nil =>
    intro b rest hb
    obtain rfl : [] = b := by simpa [fmtDictPlain] using hb
    exact cReg_delim (by simp)
  | cons e kv ih =>
    intro b rest hb
    obtain ⟨k, v⟩ := e
    obtain ⟨b0, hb0, ⟨_, rfl⟩ | ⟨_, a, ns1, _, rfl⟩⟩ := (C01L.fmtDictPlain_cons_inv _ _ _ _ _).mp hb
    · exact ih b rest hb0
    · exact cReg_delim (c := 47) (by simp)

/-- where a completed value goes: to the innermost open composite, else to the operand list; it ignores the caps
and is `deliver` only under `CapOK` (`deliver_push`) -/
def pushV (stk : List Frame) (args : List Obj) (v : Obj) : List Frame × List Obj :=
  match stk with
  | [] => ([], args ++ [v])
  | top :: below => ({ top with data := top.data ++ [v] } :: below, args)

/-- there is room for one more value -/
def CapOK (stk : List Frame) (args : List Obj) : Prop :=
  match stk with
  | [] => args.length < Gen.content_maxOperatorArgs
  | top :: _ => top.data.length < (if top.isDict then 2 * Gen.content_maxDictLen else Gen.content_maxArrayLen)

theorem deliver_push (stk : List Frame) (args : List Obj) (v : Obj) (hno : ∀ n, v ≠ .op n) (hcap : CapOK stk args) :
    deliver stk args v = .cont (pushV stk args v).1 (pushV stk args v).2 := by
  match stk with
  | [] =>
    simp only [CapOK] at hcap
    cases v <;> simp_all [deliver, pushV]
  | top :: below =>
    simp only [CapOK] at hcap
    have : ¬ ((if top.isDict then 2 * Gen.content_maxDictLen else Gen.content_maxArrayLen) ≤ top.data.length) := by omega
    simp [deliver, pushV, this]

theorem step_push (stk : List Frame) (args : List Obj) (v : Obj) (hno : ∀ n, v ≠ .op n) (hcap : CapOK stk args) :
    step stk args v = .cont (pushV stk args v).1 (pushV stk args v).2 := by
  rw [← deliver_push stk args v hno hcap]
  cases v <;> simp_all [step]

theorem tok_open_arr (r : Bytes) : scanToken (91 :: r) = .ok (.op [91]) r := by
  simp [scanToken, skipWS_starts (starts_delim (c := 91) (by simp) r), cReg_delim (c := 91) (by simp)]
  rfl

theorem tok_close_arr (r : Bytes) : scanToken (93 :: r) = .ok (.op [93]) r := by
  simp [scanToken, skipWS_starts (starts_delim (c := 93) (by simp) r), cReg_delim (c := 93) (by simp)]
  rfl

theorem tok_open_dict (r : Bytes) : scanToken (60 :: 60 :: r) = .ok (.op [60, 60]) r := by
  simp [scanToken, skipWS_starts (starts_delim (c := 60) (by simp) _)]

theorem tok_close_dict (r : Bytes) : scanToken (62 :: 62 :: r) = .ok (.op [62, 62]) r := by
  simp [scanToken, skipWS_starts (starts_delim (c := 62) (by simp) _)]

theorem atomT (c : Obj) (h : FlatOk c) (ns : Bool) (bs : Bytes) (ns' : Bool) (stk : List Frame) (args : List Obj)
    (rest : Bytes) (fuel : Nat) (hb : fmtObj copt ns c = some (bs, ns')) (hend : ns' = true → TokEnd rest)
    (hcap : CapOK stk args) (hfuel : fuel ≥ 1) :
    scanLoop fuel stk args (bs ++ rest) =
      scanLoop (fuel - 1) (pushV stk args (normA c)).1 (pushV stk args (normA c)).2 rest := by
  match fuel, hfuel with
  | f+1, _ =>
    rw [scanLoop, atom_seq c h ns bs ns' hb rest hend]
    simp only [step_push stk args (normA c) (normA_not_op c h) hcap]
    simp

/-- `[`, the elements, `]`: a frame is opened, filled (`hel`) and delivered as an array.  `hel` is written
with `data := [] ++ ys` because that is literally what `seqT … []` (and `dictT … []` below) conclude. -/
theorem arr_brackets (stk : List Frame) (args ys : List Obj) (body rest : Bytes) (f k : Nat)
    (hcap : CapOK stk args) (hdepth : stk.length < Gen.content_maxContentNestDepth) (hk : k ≤ f)
    (hel : scanLoop (f + 1) ({ isDict := false, data := [] } :: stk) args (body ++ 93 :: rest) =
      scanLoop (f + 1 - k) ({ isDict := false, data := [] ++ ys } :: stk) args (93 :: rest)) :
    scanLoop (f + 2) stk args (91 :: (body ++ [93]) ++ rest) =
      scanLoop (f - k) (pushV stk args (.arr ys)).1 (pushV stk args (.arr ys)).2 rest := by
  have hopen : step stk args (.op [91]) = .cont ({ isDict := false, data := [] } :: stk) args := by
    have : ¬ (Gen.content_maxContentNestDepth ≤ stk.length) := by omega
    simp [step, this]
  have hclose : step ({ isDict := false, data := [] ++ ys } :: stk) args (.op [93]) =
      .cont (pushV stk args (.arr ys)).1 (pushV stk args (.arr ys)).2 := by
    rw [← deliver_push stk args (.arr ys) (by intro n; simp) hcap]
    simp [step]
  have e : 91 :: (body ++ [93]) ++ rest = 91 :: (body ++ 93 :: rest) := by simp
  have hf2 : f + 1 - k = (f - k) + 1 := by omega
  rw [e, scanLoop, tok_open_arr]
  simp only [hopen]
  rw [hel, hf2, scanLoop, tok_close_arr]
  simp only [hclose]

/-- `<<`, the entries, `>>`: a frame is opened, filled (`hel`) with an even number of tokens and
delivered as the dictionary `mkDict` builds from them -/
theorem dict_brackets (stk : List Frame) (args ys : List Obj) (body rest : Bytes) (f k : Nat)
    (hcap : CapOK stk args) (hdepth : stk.length < Gen.content_maxContentNestDepth) (hk : k ≤ f)
    (heven : ys.length % 2 = 0)
    (hel : scanLoop (f + 1) ({ isDict := true, data := [] } :: stk) args (body ++ 62 :: 62 :: rest) =
      scanLoop (f + 1 - k) ({ isDict := true, data := [] ++ ys } :: stk) args (62 :: 62 :: rest)) :
    scanLoop (f + 2) stk args (60 :: 60 :: (body ++ [62, 62]) ++ rest) =
      scanLoop (f - k) (pushV stk args (.dict (mkDict ys []))).1 (pushV stk args (.dict (mkDict ys []))).2 rest := by
  have hopen : step stk args (.op [60, 60]) = .cont ({ isDict := true, data := [] } :: stk) args := by
    have : ¬ (Gen.content_maxContentNestDepth ≤ stk.length) := by omega
    simp [step, this]
  have hclose : step ({ isDict := true, data := [] ++ ys } :: stk) args (.op [62, 62]) =
      .cont (pushV stk args (.dict (mkDict ys []))).1 (pushV stk args (.dict (mkDict ys []))).2 := by
    rw [← deliver_push stk args (.dict (mkDict ys [])) (by intro n; simp) hcap]
    simp [step, heven]
  have e : 60 :: 60 :: (body ++ [62, 62]) ++ rest = 60 :: 60 :: (body ++ 62 :: 62 :: rest) := by simp
  have hf2 : f + 1 - k = (f - k) + 1 := by omega
  rw [e, scanLoop, tok_open_dict]
  simp only [hopen]
  rw [hel, hf2, scanLoop, tok_close_dict]
  simp only [hclose]

mutual
/-- any nested operand, in any state of the stack machine: scanning its written form delivers `normD c`
to the innermost open composite (or to the operand list) and leaves the rest of the input -/
theorem objT : ∀ (c : Obj) (ns : Bool) (bs : Bytes) (ns' : Bool) (stk : List Frame) (args : List Obj)
    (rest : Bytes) (fuel : Nat),
    GoodO c → fmtObj copt ns c = some (bs, ns') → (ns' = true → TokEnd rest) → CapOK stk args →
    stk.length + depthO c ≤ Gen.content_maxContentNestDepth → fuel ≥ costO c →
    scanLoop fuel stk args (bs ++ rest) =
      scanLoop (fuel - costO c) (pushV stk args (normD c)).1 (pushV stk args (normD c)).2 rest := by
  intro c ns bs ns' stk args rest fuel hg hb hend hcap hdepth hfuel
  cases c with
  | arr xs =>
    rw [goodO_arr_iff] at hg
    obtain ⟨body, hbody, rfl, _⟩ := (C01L.fmtObj_arr_inv _ _ _ _ _).mp hb
    simp only [depthO, costO, normD] at hdepth hfuel ⊢
    match fuel, hfuel with
    | f+2, hf =>
      rw [Nat.add_sub_add_right]
      exact arr_brackets stk args (normDL xs) body rest f (costL xs) hcap (by omega) (by omega)
        (seqT xs false [] stk args body rest (f + 1) hg.1 hbody (by simpa using hg.2) (by omega) (by omega))
  | dict kv =>
    rw [goodO_dict_iff] at hg
    obtain ⟨body, hbody, rfl⟩ := fmtObj_dict_inv hg.1 hb
    simp only [depthO, costO, normD] at hdepth hfuel ⊢
    match fuel, hfuel with
    | f+2, hf =>
      rw [Nat.add_sub_add_right]
      exact dict_brackets stk args (dataKV kv) body rest f (costKV kv) hcap (by omega) (by omega) (dataKV_even kv)
        (dictT kv [] stk args body rest (f + 1) hg.1 hbody (by simpa using hg.2) (by omega) (by omega))
  | _ =>
    simpa [costO, normD] using
      atomT _ ((goodO_flat_iff _ rfl).mp hg) ns bs ns' stk args rest fuel hb hend hcap (by simpa [costO] using hfuel)
-- the decreasing argument is named: several arguments are lists of objects, and the search is slow
termination_by structural c => c
/-- the elements of an array, appended to its frame -/
theorem seqT : ∀ (xs : List Obj) (ns : Bool) (d : List Obj) (below : List Frame) (args : List Obj)
    (body rest : Bytes) (fuel : Nat),
    GoodL xs → fmtSeq copt ns xs = some body → d.length + xs.length ≤ Gen.content_maxArrayLen →
    below.length + 1 + depthL xs ≤ Gen.content_maxContentNestDepth → fuel ≥ costL xs →
    scanLoop fuel ({ isDict := false, data := d } :: below) args (body ++ 93 :: rest) =
      scanLoop (fuel - costL xs) ({ isDict := false, data := d ++ normDL xs } :: below) args (93 :: rest)
  | [], ns, d, below, args, body, rest, fuel, _, hb, _, _, _ => by
    simp [fmtSeq] at hb
    subst hb
    simp [costL, normDL]
  | x :: xs, ns, d, below, args, body, rest, fuel, hg, hb, hcap, hdepth, hfuel => by
    obtain ⟨a, ns1, b, hx, hy, rfl⟩ := (C01L.fmtSeq_cons_inv _ _ _ _ _).mp hb
    simp only [costL, depthL, List.length_cons] at hfuel hdepth hcap ⊢
    rw [List.append_assoc,
      objT x ns a ns1 ({ isDict := false, data := d } :: below) args (b ++ 93 :: rest) fuel hg.1 hx
        (fun h => tokEnd_seq xs hg.2 b rest (h ▸ hy)) (by simp [CapOK]; omega) (by simp; omega) (by omega)]
    simp only [pushV]
    rw [seqT xs ns1 (d ++ [normD x]) below args b rest (fuel - costO x) hg.2 hy (by simp; omega) (by omega) (by omega)]
    simp [normDL, Nat.sub_sub]
termination_by structural xs => xs
/-- the entries of a dictionary, appended to its frame -/
theorem dictT : ∀ (kv : List (Bytes × Obj)) (d : List Obj) (below : List Frame) (args : List Obj)
    (body rest : Bytes) (fuel : Nat),
    GoodKV kv → fmtDictPlain copt kv = some body → d.length + (dataKV kv).length ≤ 2 * Gen.content_maxDictLen →
    below.length + 1 + depthKV kv ≤ Gen.content_maxContentNestDepth → fuel ≥ costKV kv →
    scanLoop fuel ({ isDict := true, data := d } :: below) args (body ++ 62 :: 62 :: rest) =
      scanLoop (fuel - costKV kv) ({ isDict := true, data := d ++ dataKV kv } :: below) args (62 :: 62 :: rest)
  | [], d, below, args, body, rest, fuel, _, hb, _, _, _ => by
    simp [fmtDictPlain] at hb
    subst hb
    simp [costKV, dataKV]
  | (k, v) :: kv, d, below, args, body, rest, fuel, hg, hb, hcap, hdepth, hfuel => by
    obtain ⟨hk1, hk2, hgv, hgr⟩ := hg
    simp only [depthKV] at hdepth
    obtain ⟨b, hy, ⟨rfl, rfl⟩ | ⟨hnull, a, ns1, hx, rfl⟩⟩ := (C01L.fmtDictPlain_cons_inv _ _ _ _ _).mp hb
    · rw [dataKV_cons_null] at hcap ⊢
      rw [costKV_cons_null] at hfuel ⊢
      exact dictT kv d below args body rest fuel hgr hy hcap (by omega) hfuel
    · obtain ⟨hne, hte, _⟩ := obj_head v hgv true a ns1 hx
      rw [costKV_cons k v kv hnull] at hfuel ⊢
      rw [dataKV_cons k v kv hnull] at hcap ⊢
      simp only [List.length_cons] at hcap
      -- the key is a name token (ended by the value's first byte), then the value, then the rest
      simp only [List.append_assoc]
      rw [atomT (.name k) ⟨hk1, hk2⟩ false (fmtName k) true ({ isDict := true, data := d } :: below) args _ fuel
          (fmtObj_name _ _ _) (fun _ => tokEnd_append a _ hne (hte rfl)) (by simp [CapOK]; omega) (by omega)]
      simp only [pushV, normA]
      rw [objT v true a ns1 _ args (b ++ 62 :: 62 :: rest) (fuel - 1) hgv hx (fun _ => tokEnd_dictBody kv b rest hy)
          (by simp [CapOK]; omega) (by simp; omega) (by omega)]
      simp only [pushV]
      rw [dictT kv (d ++ [Obj.name k] ++ [normD v]) below args b rest (fuel - 1 - costO v) hgr hy
          (by simp; omega) (by omega) (by omega)]
      simp [Nat.sub_sub]
termination_by structural kv => kv
end

mutual
theorem lenO : ∀ (c : Obj) (ns : Bool) (bs : Bytes) (ns' : Bool),
    GoodO c → fmtObj copt ns c = some (bs, ns') → costO c ≤ bs.length := by
  intro c ns bs ns' hg hb
  cases c with
  | arr xs =>
    rw [goodO_arr_iff] at hg
    obtain ⟨body, hbody, rfl, _⟩ := (C01L.fmtObj_arr_inv _ _ _ _ _).mp hb
    have := lenL xs false body hg.1 hbody
    simp [costO]
    omega
  | dict kv =>
    rw [goodO_dict_iff] at hg
    obtain ⟨body, hbody, rfl⟩ := fmtObj_dict_inv hg.1 hb
    have := lenKV kv body hg.1 hbody
    simp [costO]
    omega
  | _ =>
    have := (obj_head _ hg ns bs ns' hb).1
    cases bs with
    | nil => exact absurd rfl this
    | cons b tl => simp [costO]
theorem lenL : ∀ (xs : List Obj) (ns : Bool) (body : Bytes),
    GoodL xs → fmtSeq copt ns xs = some body → costL xs ≤ body.length
  | [], _, body, _, _ => by simp [costL]
  | x :: xs, ns, body, hg, hb => by
    obtain ⟨a, ns1, b, hx, hy, rfl⟩ := (C01L.fmtSeq_cons_inv _ _ _ _ _).mp hb
    have h1 := lenO x ns a ns1 hg.1 hx
    have h2 := lenL xs ns1 b hg.2 hy
    simp [costL]
    omega
theorem lenKV : ∀ (kv : List (Bytes × Obj)) (body : Bytes),
    GoodKV kv → fmtDictPlain copt kv = some body → costKV kv ≤ body.length
  | [], body, _, _ => by simp [costKV]
  | (k, v) :: kv, body, hg, hb => by
    obtain ⟨_, _, hgv, hgr⟩ := hg
    obtain ⟨b, hy, ⟨rfl, rfl⟩ | ⟨hnull, a, ns1, hx, rfl⟩⟩ := (C01L.fmtDictPlain_cons_inv _ _ _ _ _).mp hb
    · rw [costKV_cons_null]
      exact lenKV kv body hgr hy
    · have h1 := lenO v true a ns1 hgv hx
      have h2 := lenKV kv b hgr hy
      rw [costKV_cons k v kv hnull]
      simp [fmtName]
      omega
end

/-- operands covered: the canonical form (`SortedKeys` order in every dictionary, which is what
`pdf.Format` writes) is built from flat operands by arrays and dictionaries within the size
caps, nested at most `maxContentNestDepth` deep.  On the operand as given: `C15cntp.argD_of_good`. -/
def ArgD (a : Obj) : Prop := GoodO a.canon ∧ depthO a.canon ≤ Gen.content_maxContentNestDepth

theorem argD_step (a : Obj) (h : ArgD a) (acc : List Obj) (bs rest : Bytes) (fuel : Nat)
    (hb : fmtArg a = some bs) (hacc : acc.length < Gen.content_maxOperatorArgs) (hfuel : fuel ≥ costO a.canon) :
    scanLoop fuel [] acc (bs ++ 32 :: rest) =
      scanLoop (fuel - costO a.canon) [] (acc ++ [normD a.canon]) rest := by
  obtain ⟨ns', hb'⟩ := fmtArg_canon a bs hb
  have := objT a.canon false bs ns' [] acc (32 :: rest) fuel h.1 hb' (fun _ => tokEnd_32 rest)
    (by simpa [CapOK] using hacc) (by simpa using h.2) hfuel
  -- the separating space is skipped by the next `ScanToken`
  rw [scanLoop_space 32 _ cSpace_32] at this
  simpa [pushV] using this

theorem scanLoop_argsD (args : List Obj) : ∀ (acc : List Obj) (ab : Bytes) (name rest : Bytes) (fuel : Nat),
    (∀ a ∈ args, ArgD a) → fmtArgs args = some ab → OpNameOk name →
    acc.length + args.length < Gen.content_maxOperatorArgs → fuel ≥ (args.map fun a => costO a.canon).sum + 1 →
    scanLoop fuel [] acc (ab ++ name ++ 10 :: rest) =
      .ok (name, acc ++ args.map fun a => normD a.canon) (10 :: rest) := by
  induction args with
  | nil =>
    intro acc ab name rest fuel _ hab hname hlen hfuel
    obtain rfl : [] = ab := Option.some.inj hab
    match fuel, hfuel with
    | f+1, _ => simpa using scanLoop_name acc name rest f hname (by simpa using hlen)
  | cons a as ih =>
    intro acc ab name rest fuel hall hab hname hlen hfuel
    obtain ⟨x, y, hx, hy, rfl⟩ := fmtArgs_cons_inv hab
    simp only [List.map_cons, List.sum_cons, List.length_cons] at hfuel hlen
    have e1 : (x ++ 32 :: y) ++ name ++ 10 :: rest = x ++ 32 :: (y ++ name ++ 10 :: rest) := by simp
    rw [e1, argD_step a (hall a (by simp)) acc x _ fuel hx (by omega) (by omega),
      ih (acc ++ [normD a.canon]) y name rest (fuel - costO a.canon)
        (fun b hb => hall b (by simp [hb])) hy hname (by simp; omega) (by omega)]
    simp

theorem fmtArgs_costD (args : List Obj) : ∀ ab, (∀ a ∈ args, ArgD a) → fmtArgs args = some ab →
    (args.map fun a => costO a.canon).sum ≤ ab.length := by
  induction args with
  | nil => intro ab _ _; simp
  | cons a as ih =>
    intro ab hall hab
    obtain ⟨x, y, hx, hy, rfl⟩ := fmtArgs_cons_inv hab
    obtain ⟨ns', hx'⟩ := fmtArg_canon a x hx
    have h1 := lenO a.canon false x ns' (hall a (by simp)).1 hx'
    have h2 := ih y (fun b hb => hall b (by simp [hb])) hy
    simp
    omega

/-- operators with arbitrarily nested operands -/
structure OpD (op : Bytes × List Obj) : Prop where
  name : OpNameOk op.1
  args : ∀ a ∈ op.2, ArgD a
  count : op.2.length < Gen.content_maxOperatorArgs

/-- scanning the bytes `Operator.Format` wrote (every operand followed by a space, then the name) returns
the name and the operands and stops before the newline, whatever follows -/
theorem opD_step (op : Bytes × List Obj) (h : OpD op) (b : Bytes) (hb : fmtOp op.1 op.2 = some b) :
    OpStep b (op.1, op.2.map fun a => normD a.canon) := by
  obtain ⟨name, args⟩ := op
  obtain ⟨p1, p2⟩ := opName_not_pseudo name h.name
  simp only [fmtOp, p1, p2, Bool.false_eq_true, if_false] at hb
  cases hab : fmtArgs args with
  | none => simp [hab] at hb
  | some ab =>
    simp [hab] at hb
    subst hb
    refine ⟨ab ++ name, by simp, fun rest => ?_⟩
    have hfirst : Starts (ab ++ name) := by
      match args, hab, h.args with
      | [], hab, _ =>
        obtain rfl : [] = ab := Option.some.inj hab
        match name, h.name.ne, h.name.reg with
        | c :: tl, _, hreg => exact starts_reg tl (hreg c (by simp))
      | a :: as, hab, hargs =>
        obtain ⟨x, y, hx, _, rfl⟩ := fmtArgs_cons_inv hab
        obtain ⟨ns', hx'⟩ := fmtArg_canon a x hx
        have hs := (obj_head a.canon (hargs a (by simp)).1 false x ns' hx').2.2 rfl
        simpa using starts_append (32 :: y ++ name) hs
    have hcost := fmtArgs_costD args ab h.args hab
    have hloop := scanLoop_argsD args [] ab name rest ((ab ++ name ++ 10 :: rest).length + 1)
      h.args hab h.name (by simpa using h.count) (by simp; omega)
    rw [scanOne_starts _ (starts_append _ hfirst)]
    simpa using hloop

end PdfVerif.C15cntm
