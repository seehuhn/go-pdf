import PdfVerif.Generated.InvROB
import PdfVerif.Props.C05rob
import PdfVerif.Props.C19rob
import PdfVerif.Props.C01g
/-!
# C05/C19 — inventory of panic sites, unchecked assertions, index/slice expressions and
# unbounded loops in the anchored functions (DESIGN.md 2.1 a3)

`Generated/InvROB.lean` is re-extracted from the Go sources on every check (tools/extract
inventory mode).  `reviewed` below lists every key with the reason why it cannot fail / does
terminate: a lemma of the Props files, a guard visible in the function, a contract of the standard
library, or a waiver with its argument.  `inventory_reviewed` says the two lists are equal, so
a NEW panic call, unchecked type assertion, index/slice expression or loop without syntactic
bound in an anchored function — or a change of the `shouldExit` closures — breaks the build
until the entry has been reviewed here.  The lemmas named in the reasons are referenced at the
end of the file, so a reason cannot outlive its lemma.
-/
namespace PdfVerif.C05robinv

/-- how an item is discharged: by a theorem of the Props files, by a guard or bound that is
    evident in the function itself (incl. map accesses, fixed tables indexed by a byte, callers
    passing constants), by a contract of the standard library, or by a reviewed waiver -/
inductive Kind where
  | lemma | guard | contract | waiver
  deriving DecidableEq, Repr

/-- the reviewed keys with kind and reason -/
def reviewed : List (String × Kind × String) := [
  ("scanner.go:endstreamAt:index:buf[i]", .guard,
   "guard: the loop condition tests i < n first and n <= len(buf) = 64"),
  ("scanner.go:endstreamAt:index:class[buf[i]]", .guard,
   "table: class has 256 entries and the index is a byte"),
  ("scanner.go:endstreamAt:loop:for", .waiver,
   "waiver: every iteration breaks, returns, or advances pos by n = 64; a ReaderAt delivers n < 64 at the end of the data, which returns false (relies on the io.ReaderAt contract; monitored by the C05 hang watchdog)"),
  ("scanner.go:endstreamAt:loop:for i < n && class[buf[i]] == space", .guard,
   "guard: i is incremented in the body and bounded by n <= 64"),
  ("scanner.go:endstreamAt:slice:buf[:]", .guard,
   "full slice of a fixed-size array"),
  ("scanner.go:endstreamAt:slice:kw[:]", .guard,
   "full slice of a fixed-size array"),
  ("scanner.go:endstreamAt:slice:kw[:]#2", .guard,
   "full slice of a fixed-size array"),
  ("scanner.go:scanner.Discard:panic:panic(fmt.Sprintf(\"negative discard offset %d\", n))", .guard,
   "callers: ReadStreamData passes declared >= 0 (tested), getFromObjStm tests delta < 0 before the call, decodeXRefSection passes 20"),
  ("scanner.go:scanner.Find:index:m[0]", .contract,
   "regexp contract: FindSubmatchIndex returns 2*(groups+1) >= 2 entries; res has len(m)/2 entries and i ranges over res"),
  ("scanner.go:scanner.Find:index:m[1]", .contract,
   "regexp contract: FindSubmatchIndex returns 2*(groups+1) >= 2 entries; res has len(m)/2 entries and i ranges over res"),
  ("scanner.go:scanner.Find:index:m[2*i+1]", .contract,
   "regexp contract: FindSubmatchIndex returns 2*(groups+1) >= 2 entries; res has len(m)/2 entries and i ranges over res"),
  ("scanner.go:scanner.Find:index:m[2*i]", .contract,
   "regexp contract: FindSubmatchIndex returns 2*(groups+1) >= 2 entries; res has len(m)/2 entries and i ranges over res"),
  ("scanner.go:scanner.Find:index:res[i]", .guard,
   "guard: i ranges over res"),
  ("scanner.go:scanner.Find:loop:for", .waiver,
   "waiver: an iteration without a match refills; the window moves forward by at least scannerBufSize - regexpOverlap bytes while the buffer is full and the loop ends with io.EOF as soon as a refill adds nothing to a non-full buffer (Find belongs to C20; monitored by the C05 hang watchdog)"),
  ("scanner.go:scanner.Find:slice:s.buf[s.pos+a : s.pos+b]", .contract,
   "regexp contract: 0 <= a <= b <= length of the searched slice s.buf[s.pos:s.used]"),
  ("scanner.go:scanner.Find:slice:s.buf[s.pos:s.used]", .lemma,
   "lemma C05robbuf.Coh.pos_le: pos <= used <= len(buf) is an invariant of every modelled operation (refill_spec, peekN_spec, scanBytes_spec keep Coh)"),
  ("scanner.go:scanner.PeekN:panic:panic(\"peek window too large\")", .guard,
   "model: ROB.peekN sets `panicked` for n > bufSize (harness line p1025); callers pass 1, 2, 3, 4, 5, 6, 20 and len of the literals given to SkipString (at most 9)"),
  ("scanner.go:scanner.PeekN:slice:s.buf[s.pos : s.pos+n]", .guard,
   "guard: reached only when s.pos+n <= s.used (second test of PeekN); lemma C05robbuf.peekN_spec"),
  ("scanner.go:scanner.PeekN:slice:s.buf[s.pos:s.used]", .lemma,
   "lemma C05robbuf.Coh.pos_le: pos <= used <= len(buf) is an invariant of every modelled operation (refill_spec, peekN_spec, scanBytes_spec keep Coh)"),
  ("scanner.go:scanner.ReadArray:assert:array[k-1].(Integer)", .lemma,
   "lemma C01g.parse_total: the model mirrors this as `match acc with | .int b :: .int a :: acc' => … | _ => .error .other`; parse_total shows that no input makes the parser return `.other`, so whenever integersSeen >= 2 the last two elements are Integers"),
  ("scanner.go:scanner.ReadArray:assert:array[k-2].(Integer)", .lemma,
   "lemma C01g.parse_total: the model mirrors this as `match acc with | .int b :: .int a :: acc' => … | _ => .error .other`; parse_total shows that no input makes the parser return `.other`, so whenever integersSeen >= 2 the last two elements are Integers"),
  ("scanner.go:scanner.ReadArray:index:array[k-1]", .lemma,
   "lemma C01g.parse_total: see the assertions above; integersSeen >= 2 implies len(array) >= 2, so k-2 >= 0"),
  ("scanner.go:scanner.ReadArray:index:array[k-2]", .lemma,
   "lemma C01g.parse_total: see the assertions above; integersSeen >= 2 implies len(array) >= 2, so k-2 >= 0"),
  ("scanner.go:scanner.ReadArray:index:buf[0]", .guard,
   "guard: SkipWhiteSpace returned nil, so a byte that is not white space is in the window and PeekN(1) returns it (ScanBytes returns nil only after accept refused a byte at s.pos < s.used)"),
  ("scanner.go:scanner.ReadArray:index:buf[0]#2", .guard,
   "guard: SkipWhiteSpace returned nil, so a byte that is not white space is in the window and PeekN(1) returns it (ScanBytes returns nil only after accept refused a byte at s.pos < s.used)"),
  ("scanner.go:scanner.ReadArray:loop:for", .lemma,
   "lemma C01g.parse_total, C01g.readObject_consumes: every iteration consumes at least one byte of the input or returns (the model's loops are fuel-recursive and never run out of fuel)"),
  ("scanner.go:scanner.ReadArray:slice:array[:k-2]", .lemma,
   "lemma C01g.parse_total: see the assertions above; k >= 2"),
  ("scanner.go:scanner.ReadArray:slice:array[:k-2]#2", .lemma,
   "lemma C01g.parse_total: see the assertions above; k >= 2"),
  ("scanner.go:scanner.ReadByte:index:buf[0]", .guard,
   "guard: len(buf) == 0 returns first"),
  ("scanner.go:scanner.ReadDict:index:buf[0]", .guard,
   "guard: first use after the len(buf) == 0 test; second use after ReadInteger and a SkipWhiteSpace that returned nil (a non-space byte is in the window)"),
  ("scanner.go:scanner.ReadDict:index:buf[0]#2", .guard,
   "guard: first use after the len(buf) == 0 test; second use after ReadInteger and a SkipWhiteSpace that returned nil (a non-space byte is in the window)"),
  ("scanner.go:scanner.ReadDict:index:buf[0]#3", .guard,
   "guard: first use after the len(buf) == 0 test; second use after ReadInteger and a SkipWhiteSpace that returned nil (a non-space byte is in the window)"),
  ("scanner.go:scanner.ReadDict:index:dict[key]", .guard,
   "map access"),
  ("scanner.go:scanner.ReadDict:index:dict[key]#2", .guard,
   "map access"),
  ("scanner.go:scanner.ReadDict:loop:for", .lemma,
   "lemma C01g.parse_total, C01g.readObject_consumes: every iteration consumes at least one byte of the input or returns (the model's loops are fuel-recursive and never run out of fuel)"),
  ("scanner.go:scanner.ReadIndirectObject:index:s.unencrypted[ref]", .guard,
   "map access (nil map reads are allowed)"),
  ("scanner.go:scanner.ReadName:index:buf[0]", .guard,
   "guard: len(buf) == 0 breaks first"),
  ("scanner.go:scanner.ReadName:index:class[b]", .guard,
   "table: class has 256 entries and the index is a byte"),
  ("scanner.go:scanner.ReadName:loop:for", .lemma,
   "lemma C01g.parse_total, C01g.readObject_consumes: every iteration consumes at least one byte of the input or returns (the model's loops are fuel-recursive and never run out of fuel)"),
  ("scanner.go:scanner.ReadObject:index:buf[0]", .guard,
   "guard: `case len(buf) == 0` is the first case of the switch"),
  ("scanner.go:scanner.ReadObject:index:buf[0]#10", .guard,
   "guard: `case len(buf) == 0` is the first case of the switch"),
  ("scanner.go:scanner.ReadObject:index:buf[0]#2", .guard,
   "guard: `case len(buf) == 0` is the first case of the switch"),
  ("scanner.go:scanner.ReadObject:index:buf[0]#3", .guard,
   "guard: `case len(buf) == 0` is the first case of the switch"),
  ("scanner.go:scanner.ReadObject:index:buf[0]#4", .guard,
   "guard: `case len(buf) == 0` is the first case of the switch"),
  ("scanner.go:scanner.ReadObject:index:buf[0]#5", .guard,
   "guard: `case len(buf) == 0` is the first case of the switch"),
  ("scanner.go:scanner.ReadObject:index:buf[0]#6", .guard,
   "guard: `case len(buf) == 0` is the first case of the switch"),
  ("scanner.go:scanner.ReadObject:index:buf[0]#7", .guard,
   "guard: `case len(buf) == 0` is the first case of the switch"),
  ("scanner.go:scanner.ReadObject:index:buf[0]#8", .guard,
   "guard: `case len(buf) == 0` is the first case of the switch"),
  ("scanner.go:scanner.ReadObject:index:buf[0]#9", .guard,
   "guard: `case len(buf) == 0` is the first case of the switch"),
  ("scanner.go:scanner.ReadStreamData:index:buf[0]", .guard,
   "guard: each use is behind len(buf) >= 1 resp. len(buf) >= 2 in the same condition"),
  ("scanner.go:scanner.ReadStreamData:index:buf[0]#2", .guard,
   "guard: each use is behind len(buf) >= 1 resp. len(buf) >= 2 in the same condition"),
  ("scanner.go:scanner.ReadStreamData:index:buf[0]#3", .guard,
   "guard: each use is behind len(buf) >= 1 resp. len(buf) >= 2 in the same condition"),
  ("scanner.go:scanner.ReadStreamData:index:buf[1]", .guard,
   "guard: each use is behind len(buf) >= 1 resp. len(buf) >= 2 in the same condition"),
  ("scanner.go:scanner.ReadString:index:buf[0]", .guard,
   "guard: `len(buf) == 0 ||` short-circuits before the index"),
  ("scanner.go:scanner.ReadString:index:buf[0]#2", .guard,
   "guard: `len(buf) == 0 ||` short-circuits before the index"),
  ("scanner.go:scanner.ReadString:index:buf[0]#3", .guard,
   "guard: `len(buf) == 0 ||` short-circuits before the index"),
  ("scanner.go:scanner.ReadString:loop:for", .lemma,
   "lemma C01g.parse_total, C01g.readObject_consumes: every iteration consumes at least one byte of the input or returns (the model's loops are fuel-recursive and never run out of fuel)"),
  ("scanner.go:scanner.ScanBytes:index:s.buf[s.pos]", .guard,
   "guard: loop condition s.pos < s.used <= len(buf)"),
  ("scanner.go:scanner.ScanBytes:loop:for", .lemma,
   "lemma C05robbuf.scanBytes_terminates: the bytes the reader has not delivered yet decrease with every iteration that does not return (the D8 fix supplies the return after a latched error)"),
  ("scanner.go:scanner.ScanBytes:loop:for s.pos < s.used", .guard,
   "guard: s.pos is incremented in the body (model: scanInner is structural on the window)"),
  ("scanner.go:scanner.SkipAfter:loop:for", .waiver,
   "waiver: SkipAfter has no caller in the library (grep); each iteration consumes the window or returns"),
  ("scanner.go:scanner.SkipAfter:panic:panic(\"SkipAfter target string too long\")", .waiver,
   "waiver: SkipAfter has no caller in the library"),
  ("scanner.go:scanner.SkipAfter:slice:s.buf[s.pos:s.used]", .lemma,
   "lemma C05robbuf.Coh.pos_le: pos <= used <= len(buf) is an invariant of every modelled operation (refill_spec, peekN_spec, scanBytes_spec keep Coh)"),
  ("scanner.go:scanner.SkipWhiteSpace:index:class[b]", .guard,
   "table: class has 256 entries and the index is a byte"),
  ("scanner.go:scanner.readReferenceTail:index:buf[0]", .guard,
   "guard: `len(buf) > 0 &&` short-circuits before the index"),
  ("scanner.go:scanner.readReferenceTail:index:class[buf[0]]", .guard,
   "table: class has 256 entries and the index is a byte"),
  ("scanner.go:scanner.refill:slice:s.buf[s.pos:s.used]", .lemma,
   "lemma C05robbuf.Coh.pos_le: pos <= used <= len(buf) is an invariant of every modelled operation (refill_spec, peekN_spec, scanBytes_spec keep Coh)"),
  ("scanner.go:scanner.refill:slice:s.buf[s.used:]", .lemma,
   "lemma C05robbuf.Coh.len_le: used <= len(buf) = scannerBufSize"),
  ("scanner.go:scanner.tryHex:index:buf[1]", .guard,
   "guard: len(buf) != 3 returns first"),
  ("scanner.go:scanner.tryHex:index:buf[2]", .guard,
   "guard: len(buf) != 3 returns first"),
  ("scanner.go:streamReader.Read:slice:buf[:r.end-r.pos]", .guard,
   "guard: r.pos < r.end and the slice is taken only when len(buf) > r.end-r.pos"),
  ("scanner.go:trimTrailingEOL:index:probe[n-1]", .guard,
   "guard: n == 0 returns first, n <= readLen <= 2"),
  ("scanner.go:trimTrailingEOL:index:probe[n-2]", .guard,
   "guard: behind n >= 2"),
  ("scanner.go:trimTrailingEOL:slice:probe[:readLen]", .guard,
   "guard: readLen is 2 or int(length) with 0 < length < 2"),
  ("reader.go:NewReader:closure:shouldExit:func(err error) bool { if err == nil { return false } if !IsMalformed(err) { return true } if opt.ErrorHandling == ErrorHandlingReport { var e *MalformedFileError if errors.As(err, &e) { r.Errors = append(r.Errors, e) return false } } return opt.ErrorHandling != ErrorHandlingRecover }", .lemma,
   "lemma C19rob.open_fault, C19rob.shouldExit_malformed: this text is what Model/ROBErr.shouldExit transcribes (non-malformed errors exit in every mode)"),
  ("reader.go:NewReader:index:r.unencrypted[metaRef]", .guard,
   "map access"),
  ("reader.go:NewReader:index:r.unencrypted[ref]", .guard,
   "map access"),
  ("reader.go:Reader.Close:assert:r.r.(io.Closer)", .guard,
   "guard: ownsReader is set only by Open, which passes an *os.File"),
  ("reader.go:Reader.get:index:r.xref[ref.Number()]", .guard,
   "map access (IsFree accepts the nil entry)"),
  ("reader.go:Reader.getID:index:id[i]", .guard,
   "guard: id has 2 entries and i ranges over arr with len(arr) == 2 tested"),
  ("reader.go:getFromObjStm:index:contents.idx[m]", .guard,
   "guard: m < 0 returns first; m is an index found by ranging over contents.idx"),
  ("reader.go:getIDDirect:index:id[i]", .guard,
   "guard: id has 2 entries and i ranges over arr with len(arr) == 2 tested"),
  ("reader.go:getObjStm:index:idx[i]", .guard,
   "guard: i ranges over n = len(idx) resp. over idx"),
  ("reader.go:getObjStm:index:idx[i]#2", .guard,
   "guard: i ranges over n = len(idx) resp. over idx"),
  ("reader.go:getObjStm:index:idx[i]#3", .guard,
   "guard: i ranges over n = len(idx) resp. over idx"),
  ("reader.go:getObjStm:index:idx[i]#4", .guard,
   "guard: i ranges over n = len(idx) resp. over idx"),
  ("reader.go:getObjStm:index:idx[i]#5", .guard,
   "guard: i ranges over n = len(idx) resp. over idx"),
  ("xref.go:Reader.lastOccurence:loop:for pos >= k", .guard,
   "guard: the new pos is start+k-1 with start = max(pos-1024, 0), which is smaller than pos (k = 9 < 1025) or below k"),
  ("xref.go:Reader.lastOccurence:slice:buf[:n]", .contract,
   "io.ReaderAt contract: n <= len of the slice passed"),
  ("xref.go:Reader.lastOccurence:slice:buf[:pos-start]", .guard,
   "guard: pos-start <= chunkSize = len(buf)"),
  ("xref.go:Reader.readXRef:index:r.unencrypted[ref]", .guard,
   "map access"),
  ("xref.go:Reader.readXRef:index:seen[key]", .guard,
   "map access"),
  ("xref.go:Reader.readXRef:index:seen[key]#2", .guard,
   "map access"),
  ("xref.go:Reader.readXRef:index:seen[stmKey]", .guard,
   "map access"),
  ("xref.go:Reader.readXRef:index:seen[stmKey]#2", .guard,
   "map access"),
  ("xref.go:Reader.readXRef:index:trailer[key]", .guard,
   "map access"),
  ("xref.go:Reader.readXRef:loop:for", .lemma,
   "lemma C05rob.prevWalk_terminates: (after D-C05-3-4) the loop ends when the position of the first non-white-space byte at the offset has been seen before; seen grows by a new position in (0, size) in every other iteration (pigeonhole), and the bytes read as tables are bounded by the file size"),
  ("xref.go:checkXRefStreamDict:index:ind[i+1]", .guard,
   "guard: len(ind) is even and i < len(ind), so i+1 < len(ind)"),
  ("xref.go:checkXRefStreamDict:index:ind[i]", .guard,
   "guard: len(ind) is even and i < len(ind), so i+1 < len(ind)"),
  ("xref.go:checkXRefStreamDict:index:w[0]", .guard,
   "guard: len(W) == 3 is tested and w gets one entry per element of W"),
  ("xref.go:checkXRefStreamDict:index:w[1]", .guard,
   "guard: len(W) == 3 is tested and w gets one entry per element of W"),
  ("xref.go:checkXRefStreamDict:index:w[2]", .guard,
   "guard: len(W) == 3 is tested and w gets one entry per element of W"),
  ("xref.go:decodeXRefSection:index:buf[17]", .guard,
   "guard: len(buf) < 20 returns first (PeekN(20))"),
  ("xref.go:decodeXRefSection:index:buf[17]#2", .guard,
   "guard: len(buf) < 20 returns first (PeekN(20))"),
  ("xref.go:decodeXRefSection:index:buf[19]", .guard,
   "guard: len(buf) < 20 returns first (PeekN(20))"),
  ("xref.go:decodeXRefSection:index:buf[19]#2", .guard,
   "guard: len(buf) < 20 returns first (PeekN(20))"),
  ("xref.go:decodeXRefSection:index:xref[i-offByOne]", .guard,
   "map access"),
  ("xref.go:decodeXRefSection:index:xref[i-offByOne]#2", .guard,
   "map access"),
  ("xref.go:decodeXRefSection:index:xref[i]", .guard,
   "map access"),
  ("xref.go:decodeXRefSection:slice:buf[11:16]", .guard,
   "guard: len(buf) < 20 returns first"),
  ("xref.go:decodeXRefSection:slice:buf[:10]", .guard,
   "guard: len(buf) < 20 returns first"),
  ("xref.go:decodeXRefStream:index:w[0]", .guard,
   "guard: len(W) == 3 is tested and w gets one entry per element of W"),
  ("xref.go:decodeXRefStream:index:w[1]", .guard,
   "guard: len(W) == 3 is tested and w gets one entry per element of W"),
  ("xref.go:decodeXRefStream:index:w[2]", .guard,
   "guard: len(W) == 3 is tested and w gets one entry per element of W"),
  ("xref.go:decodeXRefStream:index:xref[i]", .guard,
   "map access"),
  ("xref.go:decodeXRefStream:index:xref[i]#2", .guard,
   "map access"),
  ("xref.go:decodeXRefStream:index:xref[i]#3", .guard,
   "map access"),
  ("xref.go:decodeXRefStream:index:xref[i]#4", .guard,
   "map access"),
  ("xref.go:decodeXRefStream:slice:buf[:w0]", .guard,
   "guard: buf has w0+w1+w2 bytes"),
  ("xref.go:decodeXRefStream:slice:buf[w0 : w0+w1]", .guard,
   "guard: buf has w0+w1+w2 bytes"),
  ("xref.go:decodeXRefStream:slice:buf[w0+w1 : w0+w1+w2]", .guard,
   "guard: buf has w0+w1+w2 bytes"),
  ("xref.go:readXRefTable:index:buf[0]", .guard,
   "guard: `len(buf) == 0 ||` short-circuits before the index"),
  ("xref.go:readXRefTable:index:buf[0]#2", .guard,
   "guard: `len(buf) == 0 ||` short-circuits before the index"),
  ("xref.go:readXRefTable:loop:for", .guard,
   "guard: an iteration continues only after ReadInteger consumed the digit that PeekN saw; otherwise it breaks or returns"),
  ("sequential.go:FileInfo.MakeReader:closure:shouldExit:func(err error) bool { if err == nil { return false } if !IsMalformed(err) { return true } if opt.ErrorHandling == ErrorHandlingReport { var e *MalformedFileError if errors.As(err, &e) { r.Errors = append(r.Errors, e) return false } } return opt.ErrorHandling != ErrorHandlingRecover }", .lemma,
   "lemma C19rob.open_fault: same text as in NewReader"),
  ("sequential.go:FileInfo.MakeReader:index:ID[i]", .guard,
   "guard: len(ID) >= 2 and i ranges over 2"),
  ("sequential.go:FileInfo.MakeReader:index:r.unencrypted[metaRef]", .guard,
   "map access"),
  ("sequential.go:FileInfo.MakeReader:index:r.unencrypted[ref]", .guard,
   "map access"),
  ("sequential.go:FileInfo.doRead:index:fi.objStarts[i]", .guard,
   "guard: (after D-C05-5-10) i is the result of sort.Search and is used behind i < len(fi.objStarts) in the same if statement"),
  ("sequential.go:FileInfo.doRead:index:fi.objStarts[i]#2", .guard,
   "guard: (after D-C05-5-10) i is the result of sort.Search and is used behind i < len(fi.objStarts) in the same if statement"),
  ("sequential.go:FileInfo.doRead:panic:panic(\"unreachable\")", .waiver,
   "waiver: the marker regexp and ReadIndirectObject read the same digits at ObjStart (object number < maxXRefSize and generation <= 65535 are tested by locateObjects); reachable only if the bytes change between the two reads; a panic is reported by the C05 harness as C05-panic"),
  ("sequential.go:FileInfo.findObject:index:fi.objIndex[ref]", .guard,
   "map access"),
  ("sequential.go:FileInfo.getTrailer:index:fi.Sections[j]", .guard,
   "guard: j counts down from len-1 to 0"),
  ("sequential.go:FileInfo.indexObjects:index:index[obj.Reference]", .guard,
   "map access"),
  ("sequential.go:FileInfo.locateObjects:index:m[0]", .contract,
   "regexp contract: startRegexp has 1 group (m has 2 entries), markerRegexp has 3 groups (m has 4 entries)"),
  ("sequential.go:FileInfo.locateObjects:index:m[1]", .contract,
   "regexp contract: startRegexp has 1 group (m has 2 entries), markerRegexp has 3 groups (m has 4 entries)"),
  ("sequential.go:FileInfo.locateObjects:index:m[1]#2", .contract,
   "regexp contract: startRegexp has 1 group (m has 2 entries), markerRegexp has 3 groups (m has 4 entries)"),
  ("sequential.go:FileInfo.locateObjects:index:m[1]#3", .contract,
   "regexp contract: startRegexp has 1 group (m has 2 entries), markerRegexp has 3 groups (m has 4 entries)"),
  ("sequential.go:FileInfo.locateObjects:index:m[1]#4", .contract,
   "regexp contract: startRegexp has 1 group (m has 2 entries), markerRegexp has 3 groups (m has 4 entries)"),
  ("sequential.go:FileInfo.locateObjects:index:m[1]#5", .contract,
   "regexp contract: startRegexp has 1 group (m has 2 entries), markerRegexp has 3 groups (m has 4 entries)"),
  ("sequential.go:FileInfo.locateObjects:index:m[2]", .contract,
   "regexp contract: startRegexp has 1 group (m has 2 entries), markerRegexp has 3 groups (m has 4 entries)"),
  ("sequential.go:FileInfo.locateObjects:index:m[2]#2", .contract,
   "regexp contract: startRegexp has 1 group (m has 2 entries), markerRegexp has 3 groups (m has 4 entries)"),
  ("sequential.go:FileInfo.locateObjects:index:m[3]", .contract,
   "regexp contract: startRegexp has 1 group (m has 2 entries), markerRegexp has 3 groups (m has 4 entries)"),
  ("sequential.go:FileInfo.locateObjects:index:prev[0]", .guard,
   "guard: prev is a [1]byte array and the index is the constant 0"),
  ("sequential.go:FileInfo.locateObjects:index:prev[0]#2", .guard,
   "guard: prev is a [1]byte array and the index is the constant 0"),
  ("sequential.go:FileInfo.locateObjects:loop:for", .waiver,
   "waiver: every iteration is one scanner.Find, which consumes at least the non-empty match or ends with io.EOF (see scanner.Find)"),
  ("sequential.go:FileInfo.locateObjects:panic:panic(\"unreachable\")", .contract,
   "regexp: the alternatives of markerRegexp are exactly the cases of the switch"),
  ("sequential.go:FileInfo.locateObjects:slice:prev[:]", .guard,
   "full slice of a fixed-size array"),
  ("sequential.go:FileInfo.makeSafeGetInt:index:seen[ref]", .guard,
   "map access"),
  ("sequential.go:FileInfo.makeSafeGetInt:index:seen[ref]#2", .guard,
   "map access"),
  ("sequential.go:FileInfo.makeSafeGetInt:loop:for", .guard,
   "guard: each iteration adds a new reference to seen and len(seen) > 8 ends it"),
  ("sequential.go:FileInfo.makeXRef:index:xref[obj.Reference.Number()]", .guard,
   "map access"),
  ("sequential.go:FileInfo.makeXRef:index:xref[ref.Number()]", .guard,
   "map access"),
  ("sequential.go:countLeadingSpaces:index:class[s[n]]", .guard,
   "table: class has 256 entries and the index is a byte"),
  ("sequential.go:countLeadingSpaces:index:s[n]", .guard,
   "guard: n < len(s) is tested first in the same condition"),
  ("sequential.go:countLeadingSpaces:loop:for n < int64(len(s)) && class[s[n]] == space", .guard,
   "guard: n is incremented in the body and bounded by len(s)"),
  ("resolve.go:resolvePath:loop:for", .lemma,
   "lemma C05rob.resolve_fuel_suffices, C05rob.resolve_depth: path.step bounds the number of iterations by MaxExtractDepth"),
  ("container.go:DecodeStream:index:filters[0]", .guard,
   "guard: len(filters) > 0 in the same condition"),
  ("container.go:DecodeStream:index:lower[i]", .guard,
   "guard: i runs from len(lower)-1 down to 0 in the loop header (i >= 0 tested before every use, i < len(lower) initially and only decremented)"),
  ("container.go:GetFilters:index:pa[i]", .guard,
   "guard: len(pa) > i"),
  ("container.go:RawStreamReader:panic:panic(\"unreachable\")", .guard,
   "the switch covers the four values of cryptRecipe that streamCryptRecipe returns"),
  ("container.go:filterChainStartsWithCrypt:index:f[0]", .guard,
   "guard: len(f) == 0 returns first"),
  ("container.go:sourceAwareReader.Close:index:s.lower[i]", .guard,
   "guard: i runs from len(s.lower)-1 down to 0 in the loop header (i >= 0 tested before every use, i < len(s.lower) initially and only decremented)"),
  ("container.go:streamCryptRecipe:index:filters[0]", .waiver,
   "waiver: filterChainStartsWithCrypt found the name Crypt at position 0, so GetFilters either fails (returned) or yields at least that filter; the two functions resolve /Filter with different canObjStm flags, a disagreement makes GetFilters return an error first"),
  ("cursor.go:Cursor.Array:index:cursorCast[Array]", .guard,
   "not an index: instantiation of a generic function"),
  ("cursor.go:Cursor.Boolean:index:cursorCast[Boolean]", .guard,
   "not an index: instantiation of a generic function"),
  ("cursor.go:Cursor.Dict:index:cursorCast[Dict]", .guard,
   "not an index: instantiation of a generic function"),
  ("cursor.go:Cursor.FloatArray:index:result[i]", .guard,
   "guard: result has len(array) entries and i ranges over array"),
  ("cursor.go:Cursor.Matrix:slice:m[:]", .guard,
   "full slice of a fixed-size array"),
  ("cursor.go:Cursor.Name:index:cursorCast[Name]", .guard,
   "not an index: instantiation of a generic function"),
  ("cursor.go:Cursor.Real:index:cursorCast[Real]", .guard,
   "not an index: instantiation of a generic function"),
  ("cursor.go:Cursor.Rectangle:index:values[0]", .guard,
   "guard: len(values) != 4 returns first"),
  ("cursor.go:Cursor.Rectangle:index:values[0]#2", .guard,
   "guard: len(values) != 4 returns first"),
  ("cursor.go:Cursor.Rectangle:index:values[1]", .guard,
   "guard: len(values) != 4 returns first"),
  ("cursor.go:Cursor.Rectangle:index:values[1]#2", .guard,
   "guard: len(values) != 4 returns first"),
  ("cursor.go:Cursor.Rectangle:index:values[2]", .guard,
   "guard: len(values) != 4 returns first"),
  ("cursor.go:Cursor.Rectangle:index:values[2]#2", .guard,
   "guard: len(values) != 4 returns first"),
  ("cursor.go:Cursor.Rectangle:index:values[3]", .guard,
   "guard: len(values) != 4 returns first"),
  ("cursor.go:Cursor.Rectangle:index:values[3]#2", .guard,
   "guard: len(values) != 4 returns first"),
  ("cursor.go:Cursor.Stream:index:cursorCast[*Stream]", .guard,
   "not an index: instantiation of a generic function"),
  ("cursor.go:Cursor.String:index:cursorCast[String]", .guard,
   "not an index: instantiation of a generic function"),
  ("cursor.go:Decode:index:reflect.TypeFor[T]", .guard,
   "not an index: instantiation of a generic function"),
  ("cursor.go:Decode:loop:for", .lemma,
   "lemma C05rob.resolve_depth: every iteration extends the path by path.step, which fails beyond MaxExtractDepth and on a repeated reference"),
  ("cursor.go:DecodeExclusive:index:reflect.TypeFor[T]", .guard,
   "not an index: instantiation of a generic function"),
  ("cursor.go:DecodeExclusive:index:x.cache[key]", .guard,
   "map access"),
  ("cursor.go:DecodeExclusive:index:x.wip[key]", .guard,
   "map access"),
  ("cursor.go:DecodeExclusive:index:x.wip[key]#2", .guard,
   "map access"),
  ("cursor.go:cursorCast:index:as[T]", .guard,
   "not an index: instantiation of a generic function"),
  ("error.go:MalformedFileError.Error:index:err.Loc[i]", .guard,
   "guard: i counts down from len(err.Loc)-1 to 0"),
  ("pagetree/read.go:FindPages:index:kids[i]", .guard,
   "guard: i counts down from len(kids)-1 to 0"),
  ("pagetree/read.go:FindPages:index:seen[kidRef]", .guard,
   "map access"),
  ("pagetree/read.go:FindPages:index:seen[kidRef]#2", .guard,
   "map access"),
  ("pagetree/read.go:FindPages:index:todo[k]", .guard,
   "guard: k = len-1 and the loop condition (resp. the preceding test) makes the slice non-empty"),
  ("pagetree/read.go:FindPages:loop:for len(todo) > 0", .waiver,
   "waiver: every iteration pops one reference; a reference is pushed only when it is not in seen and is then added to seen, so at most one push per distinct reference of the file (finite); Kids cycles are cut by seen (exercised by the C05 harness: /Kids and /Parent rewiring)"),
  ("pagetree/read.go:FindPages:slice:todo[:k]", .guard,
   "guard: k = len-1 >= 0"),
  ("pagetree/read.go:Iterator.All:index:inherited[name]", .guard,
   "map access"),
  ("pagetree/read.go:Iterator.All:index:inherited[name]#2", .guard,
   "map access"),
  ("pagetree/read.go:Iterator.All:index:kids[i]", .guard,
   "guard: i counts down from len(kids)-1 to 0"),
  ("pagetree/read.go:Iterator.All:index:node[name]", .guard,
   "map access"),
  ("pagetree/read.go:Iterator.All:index:node[name]#2", .guard,
   "map access"),
  ("pagetree/read.go:Iterator.All:index:node[name]#3", .guard,
   "map access"),
  ("pagetree/read.go:Iterator.All:index:node[name]#4", .guard,
   "map access"),
  ("pagetree/read.go:Iterator.All:index:seen[kidRef]", .guard,
   "map access"),
  ("pagetree/read.go:Iterator.All:index:seen[kidRef]#2", .guard,
   "map access"),
  ("pagetree/read.go:Iterator.All:index:stack[k]", .guard,
   "guard: k = len-1 and the loop condition (resp. the preceding test) makes the slice non-empty"),
  ("pagetree/read.go:Iterator.All:index:todo[k]", .guard,
   "guard: k = len-1 and the loop condition (resp. the preceding test) makes the slice non-empty"),
  ("pagetree/read.go:Iterator.All:loop:for len(todo) > 0 || len(stack) > 0", .waiver,
   "waiver: every iteration pops one reference; a reference is pushed only when it is not in seen and is then added to seen, so at most one push per distinct reference of the file (finite); Kids cycles are cut by seen (exercised by the C05 harness: /Kids and /Parent rewiring)"),
  ("pagetree/read.go:Iterator.All:slice:stack[:k]", .guard,
   "guard: k = len-1 >= 0"),
  ("pagetree/read.go:Iterator.All:slice:todo[:k]", .guard,
   "guard: k = len-1 >= 0"),
  ("writer.go:Writer.Close:assert:w.origW.(io.Closer)", .guard,
   "guard: closeOrigW is set only by Create, which passes an *os.File"),
  ("writer.go:Writer.Close:index:w.meta.ID[0]", .guard,
   "guard: first occurrence (fix D50): behind `len(w.meta.ID) != 2 ||` in the same condition"),
  ("writer.go:Writer.Close:index:w.meta.ID[0]#2", .waiver,
   "waiver: NewWriter stores nil or a two-element ID; a caller that replaces GetMeta().ID by a shorter slice makes Close panic (API misuse on the writing side, outside 'arbitrary input bytes'; recorded)"),
  ("writer.go:Writer.Close:index:w.meta.ID[1]", .waiver,
   "waiver: NewWriter stores nil or a two-element ID; a caller that replaces GetMeta().ID by a shorter slice makes Close panic (API misuse on the writing side, outside 'arbitrary input bytes'; recorded)"),
  ("writer.go:Writer.Close:panic:panic(r)", .guard,
   "guard: the deferred recover in Close (fix D71) re-raises every panic that is not the object-number-overflow sentinel of Alloc; it introduces no panic of its own"),
  ("writer.go:Writer.OpenStream:index:streamDict[key]", .guard,
   "map access"),
  ("writer.go:Writer.OpenStream:index:streamDict[key]#2", .guard,
   "map access"),
  ("writer.go:Writer.OpenStream:index:w.refIsPlaintext[ref]", .guard,
   "map access"),
  ("writer.go:Writer.WriteCompressed:index:objects[i]", .guard,
   "guard: checkCompressed rejects len(refs) != len(objects); i ranges over objects, refs resp. N = len(objects)"),
  ("writer.go:Writer.WriteCompressed:index:refs[i]", .guard,
   "guard: checkCompressed rejects len(refs) != len(objects); i ranges over objects, refs resp. N = len(objects)"),
  ("writer.go:Writer.WriteCompressed:index:seen[ref.Number()]", .guard,
   "map access"),
  ("writer.go:Writer.WriteCompressed:index:seen[ref.Number()]#2", .guard,
   "map access"),
  ("writer.go:Writer.WriteCompressed:index:w.xref[ref.Number()]", .guard,
   "map access"),
  ("writer.go:Writer.WriteCompressed:loop:for len(objects) > maxObjStmObjects", .guard,
   "guard: every iteration removes maxObjStmObjects > 0 elements from objects"),
  ("writer.go:Writer.WriteCompressed:slice:objects[:maxObjStmObjects]", .guard,
   "guard: inside the loop len(objects) = len(refs) > maxObjStmObjects"),
  ("writer.go:Writer.WriteCompressed:slice:objects[maxObjStmObjects:]", .guard,
   "guard: inside the loop len(objects) = len(refs) > maxObjStmObjects"),
  ("writer.go:Writer.WriteCompressed:slice:refs[:maxObjStmObjects]", .guard,
   "guard: inside the loop len(objects) = len(refs) > maxObjStmObjects"),
  ("writer.go:Writer.WriteCompressed:slice:refs[maxObjStmObjects:]", .guard,
   "guard: inside the loop len(objects) = len(refs) > maxObjStmObjects"),
  ("types.go:Placeholder.Set:assert:x.pdf.origW.(io.WriteSeeker)", .guard,
   "guard: x.pos is non-empty only if Placeholder.AsPDF took method 2, which tests origW.(io.WriteSeeker) with comma-ok first; len(x.pos) == 0 returns before the assertion"),
  ("types.go:Placeholder.Set:index:fills[i]", .guard,
   "guard: fills has len(x.pos) entries and i ranges over x.pos"),
  ("types.go:Placeholder.Set:index:fills[i]#2", .guard,
   "guard: fills has len(x.pos) entries and i ranges over x.pos"),
  ("types.go:Placeholder.Set:index:fills[i]#3", .guard,
   "guard: fills has len(x.pos) entries and i ranges over x.pos"),
  ("types.go:Placeholder.Set:index:fills[i]#4", .guard,
   "guard: fills has len(x.pos) entries and i ranges over x.pos"),
  ("types.go:Placeholder.Set:index:x.posRef[i]", .guard,
   "guard: x.pos and x.posRef are only ever appended to together (doFormat, method 2) and reset together (Set), i ranges over x.pos")
]

/-- the inventory as regenerated from the sources -/
def generated : List String :=
  Gen.rob_scanner_inventory ++
  Gen.rob_reader_inventory ++
  Gen.rob_xref_inventory ++
  Gen.rob_sequential_inventory ++
  Gen.rob_resolve_inventory ++
  Gen.rob_container_inventory ++
  Gen.rob_cursor_inventory ++
  Gen.rob_error_inventory ++
  Gen.rob_limits_inventory ++
  Gen.rob_pagetree_inventory ++
  Gen.rob_writer_inventory ++
  Gen.rob_types_inventory

/-- **every inventory item has been reviewed** (and nothing else is listed) -/
theorem inventory_reviewed : generated = reviewed.map Prod.fst := by rfl

/-- number of items per kind (visible in the evidence; a new waiver changes this statement) -/
theorem inventory_counts :
    (reviewed.length, (reviewed.filter (·.2.1 = .lemma)).length, (reviewed.filter (·.2.1 = .guard)).length,
     (reviewed.filter (·.2.1 = .contract)).length, (reviewed.filter (·.2.1 = .waiver)).length) = (233, 21, 185, 16, 11) := by decide +kernel

-- the lemmas the reasons refer to exist
example := @PdfVerif.C01g.parse_total
example := @PdfVerif.C01g.readObject_consumes
example := @PdfVerif.C05rob.prevWalk_terminates
example := @PdfVerif.C05rob.resolve_depth
example := @PdfVerif.C05rob.resolve_fuel_suffices
example := @PdfVerif.C05robbuf.Coh.len_le
example := @PdfVerif.C05robbuf.Coh.pos_le
example := @PdfVerif.C05robbuf.peekN_spec
example := @PdfVerif.C05robbuf.scanBytes_terminates
example := @PdfVerif.C19rob.open_fault
example := @PdfVerif.C19rob.shouldExit_malformed

end PdfVerif.C05robinv
