import PdfVerif.Props.C12ccf
/-!
# C12 (part 8) — `Codec.CodeSpaceRange` never panics

The boxes found by `walk` are pairwise disjoint and non-empty, merging keeps that; hence the
merge loop never meets two identical ranges (the only way its `pos` loop could run off the end),
never indexes out of range and terminates.  Together with part 6: `CodeSpaceRange` always
returns, and reports exactly the codes of the original range set.
-/
namespace PdfVerif.C12cch
open PdfVerif PdfVerif.CC PdfVerif.C12cc PdfVerif.C12ccc PdfVerif.C12cce PdfVerif.C12ccf
open PdfVerif.Spec.CodeSpace

def BDisjoint (b1 b2 : Bytes × Bytes) : Prop := ∀ bs, ¬ (BoxMatch b1 bs ∧ BoxMatch b2 bs)

theorem bdisjoint_symm (a b : Bytes × Bytes) (h : BDisjoint a b) : BDisjoint b a :=
  fun bs ⟨m1, m2⟩ => h bs ⟨m2, m1⟩

theorem bdisjoint_cons (l h : Nat) (b1 b2 : Bytes × Bytes) (hd : BDisjoint b1 b2) :
    BDisjoint (l :: b1.1, h :: b1.2) (l :: b2.1, h :: b2.2) := by
  intro bs ⟨m1, m2⟩
  cases bs with
  | nil => exact absurd m1 (boxMatch_cons_nil _ _ _ _)
  | cons x t =>
    rw [boxMatch_cons] at m1 m2
    exact hd t ⟨m1.2.2, m2.2.2⟩

mutual
theorem nodeBoxes_pairwise (n : Node) (hs : nodeSorted n) : List.Pairwise BDisjoint (nodeBoxes n) := by
  match n with
  | .valid => simp [nodeBoxes_valid]
  | .invalid k => simp [nodeBoxes_invalid]
  | .sub cs => simp only [nodeSorted] at hs; simp only [nodeBoxes_sub]; exact kidsBoxes_pairwise 0 cs hs
theorem kidsBoxes_pairwise (nl : Nat) (cs : List (Nat × Node)) (hs : kidsSorted nl cs) :
    List.Pairwise BDisjoint (kidsBoxes nl cs) := by
  match cs with
  | [] => simp [kidsBoxes_nil]
  | (hi, n) :: rest =>
    simp only [kidsSorted] at hs
    simp only [kidsBoxes_cons]
    rw [List.pairwise_append]
    refine ⟨?_, kidsBoxes_pairwise (hi + 1) rest hs.2.2.2, ?_⟩
    · rw [List.pairwise_map]
      exact (nodeBoxes_pairwise n hs.2.2.1).imp (fun {a b} h => bdisjoint_cons nl hi a b h)
    · intro a ha b hb
      simp only [List.mem_map] at ha
      obtain ⟨a', _, rfl⟩ := ha
      -- a string matched by a box of a later child starts above `hi`
      intro bs ⟨m1, m2⟩
      obtain ⟨x, t, rfl, hx⟩ := kidsBoxes_cons_match (hi + 1) rest hs.2.2.2 b hb bs m2
      rw [boxMatch_cons] at m1
      omega
end

/-- no byte string is a code of two entries: what the merge loop needs so as never to meet one range twice -/
def PairwiseDisjoint (csr : CSR) : Prop := csr.Pairwise fun r s => BDisjoint (r.low, r.high) (s.low, s.high)

theorem shape_nonempty (r : Range) (h : Shape r) : BoxMatch (r.low, r.high) r.low := by
  rw [boxMatch_iff, withinFirst_iff]
  exact ⟨rfl, h.1, Nat.le_refl _, Nat.le_of_eq h.1, Nat.le_refl _,
    fun i hi => ⟨Nat.le_refl _, (leAll_iff _ _ h.1).mp h.2 i hi⟩⟩

theorem diffPos_none (rl rh sl sh : Bytes) (h1 : rl.length = rh.length) (h2 : rl.length = sl.length)
    (h3 : rl.length = sh.length) : diffPos rl rh sl sh = none → rl = sl ∧ rh = sh := by
  refine four_lists (P := fun rl rh sl sh => diffPos rl rh sl sh = none → rl = sl ∧ rh = sh)
    (fun _ => ⟨rfl, rfl⟩) ?_ rl rh sl sh h1 h2 h3
  intro a b c d rl rh sl sh ih h
  simp only [diffPos] at h
  split at h
  · rename_i heq
    simp only [Bool.and_eq_true, beq_iff_eq] at heq
    simp only [Option.map_eq_none_iff] at h
    rw [heq.1, heq.2, (ih h).1, (ih h).2]; exact ⟨rfl, rfl⟩
  · cases h

theorem candidates_ok (csr : CSR) (hsh : ∀ r ∈ csr, Shape r) (hd : PairwiseDisjoint csr) :
    ∃ cands, candidates csr = .ok cands := by
  unfold candidates
  apply mapE_ok
  intro p hp
  simp only [List.mem_filter, List.mem_flatMap, List.mem_map, Bool.and_eq_true, bne_iff_ne, ne_eq] at hp
  obtain ⟨⟨a, ha, b, hb, rfl⟩, hne, hcm⟩ := hp
  obtain ⟨ai, ar⟩ := a
  obtain ⟨bi, br⟩ := b
  simp only at hne hcm ⊢
  have ga := zip_range_mem csr ai ar ha
  have gb := zip_range_mem csr bi br hb
  cases hdp : diffPos ar.low ar.high br.low br.high with
  | some pos => exact ⟨_, rfl⟩
  | none =>
    exfalso
    have sa := hsh ar (List.mem_of_getElem? ga)
    have sb := hsh br (List.mem_of_getElem? gb)
    have hl : ar.low.length = br.low.length := by
      unfold canMerge at hcm
      split at hcm
      · cases hcm
      · rename_i hl; simpa using hl
    obtain ⟨e1, e2⟩ := diffPos_none ar.low ar.high br.low br.high sa.1 hl (by rw [hl]; exact sb.1) hdp
    -- `diffPos` runs off the end only on the same range at two positions, and a non-empty range is not disjoint
    -- from itself
    obtain ⟨rest, p1, _⟩ := merge_perm csr ai bi ar br ar hne ga gb
    have := (List.pairwise_cons.mp ((p1.pairwise_iff fun h => bdisjoint_symm _ _ h).mp hd)).1 br (by simp)
    exact this ar.low ⟨shape_nonempty ar sa, by rw [← e1, ← e2]; exact shape_nonempty ar sa⟩

theorem pairwiseDisjoint_merge (csr : CSR) (i j : Nat) (ri rj : Range) (hij : i ≠ j) (hi : csr[i]? = some ri)
    (hj : csr[j]? = some rj) (hsh : ∀ r ∈ csr, Shape r) (hd : PairwiseDisjoint csr) (hcm : canMerge ri rj = true) :
    PairwiseDisjoint ((csr.set i { ri with high := rj.high }).eraseIdx j) := by
  obtain ⟨rest, p1, p2⟩ := merge_perm csr i j ri rj ⟨ri.low, rj.high⟩ hij hi hj
  have sym : ∀ {x y : Range}, BDisjoint (x.low, x.high) (y.low, y.high) → BDisjoint (y.low, y.high) (x.low, x.high) :=
    fun h => bdisjoint_symm _ _ h
  have ⟨d1, d⟩ := List.pairwise_cons.mp ((p1.pairwise_iff sym).mp hd)
  have ⟨d2, d3⟩ := List.pairwise_cons.mp d
  refine (p2.pairwise_iff sym).mpr (List.pairwise_cons.mpr ⟨fun x hx bs ⟨m1, m2⟩ => ?_, d3⟩)
  -- a code of the merged range is one of `ri` or of `rj`
  rcases ((merge_pair ri rj (hsh ri (List.mem_of_getElem? hi)) (hsh rj (List.mem_of_getElem? hj)) hcm).2 bs).mp m1
    with m | m
  · exact d1 x (List.mem_cons_of_mem _ hx) bs ⟨m, m2⟩
  · exact d2 x hx bs ⟨m, m2⟩

theorem mergeLoop_total : ∀ (fuel : Nat) (csr : CSR), csr.length < fuel → (∀ r ∈ csr, Shape r) → PairwiseDisjoint csr →
    ∃ out, mergeLoop fuel csr = .ok out := by
  intro fuel
  induction fuel with
  | zero => intro csr h; omega
  | succ fuel ih =>
    intro csr hlen hsh hd
    obtain ⟨cands, hc⟩ := candidates_ok csr hsh hd
    rcases mergeLoop_succ fuel csr cands hc with e | ⟨i, j, ri, rj, hij, hi, hj, hcm, e⟩
    · exact ⟨csr, e⟩
    · rw [e]
      have hjlt : j < csr.length := (List.getElem?_eq_some_iff.mp hj).1
      apply ih
      · rw [List.length_eraseIdx]
        simp only [List.length_set, hjlt, if_true]
        omega
      · exact (merge_step csr i j ri rj hij hi hj hsh hcm).1
      · exact pairwiseDisjoint_merge csr i j ri rj hij hi hj hsh hd hcm

/-- `Codec.CodeSpaceRange` never panics and reports the same codes — for every codec
`NewCodec` returns (range bounds being bytes). -/
theorem codeSpaceRange_total (csr : CSR) (c : Codec) (hC : newCodec csr = .ok c) (hbytes : ∀ r ∈ csr, AllBytes r.high) :
    ∃ out, c.codeSpaceRange = .ok out ∧ (∀ r ∈ out, Shape r) ∧ ∀ bs, IsCodeOf out bs ↔ IsCodeOf csr bs := by
  obtain ⟨hv, tree, hT, hR⟩ := newCodec_repr hC
  have hs := (newTree_shape hT).1
  obtain ⟨out, hout⟩ := mergeLoop_total (((kidsBoxes 0 tree).map (toRange [] [])).length + 1) _ (by omega)
    (boxes_shape tree hs) (List.pairwise_map.mpr (kidsBoxes_pairwise 0 tree hs))
  have hcsr : c.codeSpaceRange = .ok out := by
    unfold Codec.codeSpaceRange
    rw [walk_tree csr tree c hv hT hR]
    exact hout
  exact ⟨out, hcsr, csr_equiv csr c hC hbytes out hcsr⟩

end PdfVerif.C12cch
