import PdfVerif.Props.C01tr
import PdfVerif.Lemmas.TRFilter
import PdfVerif.Model.HISReader
/-!
# C04/C20 (translator bridge): helpers of the HIS reader model = code GENERATED from the Go sources

`Model/HISReader.lean` uses two small pure functions of the library: the trailer-key filter
(`Name.isSecondClassName` / `isThirdClassName`, types.go) and the xref-stream entry cap
(`limits.MaxXRefEntries`).  Both are proved equal to the generated functions.
-/
namespace PdfVerif.C04trb
open PdfVerif PdfVerif.Gen PdfVerif.Go

def nat (bs : List UInt8) : Bytes := bs.map (·.toNat)

/-- `HIS.isSpecialName` = `isSecondClassName || isThirdClassName` of the generated code
(neither panics), for every name -/
theorem isSpecialName_bridge (k : List UInt8) :
    ∃ b2 b3, pdf_Name_isSecondClassName k = some b2 ∧ pdf_Name_isThirdClassName k = some b3 ∧
      HIS.isSpecialName (nat k) = (b2 || b3) := by
  refine ⟨_, _, C01tr.isSecondClassName_spec k, C01tr.isThirdClassName_spec k, ?_⟩
  unfold HIS.isSpecialName nat
  congr 1
  · rw [← List.map_take, List.any_map]
    congr 1
    funext c
    simp only [Function.comp]
    rw [Bool.eq_iff_iff]
    simp [← UInt8.toNat_inj]
  · match k with
    | [] => simp
    | [a] => simp
    | a :: b :: rest =>
      -- the model's `match` on `88 :: 88 :: _` and the generated test on `take 2` both say: the two bytes are 88
      rw [Bool.eq_iff_iff]
      simp only [List.map_cons, List.take_succ_cons, List.take_zero, decide_eq_true_eq, List.cons.injEq, and_true,
        ← UInt8.toNat_inj]
      constructor
      · intro h
        split at h
        · simp_all
        · cases h
      · rintro ⟨h1, h2⟩
        simp [h1, h2]

/-- the entry cap of the HIS model = generated `limits.MaxXRefEntries` (lengths < 2⁵⁷, the bound
below which `C08tr.maxXRefEntries_spec_partial` shows the generated `int64` arithmetic exact) -/
theorem maxXRefEntries_bridge (rawLen : Nat) (hn : rawLen < 144115188075855872) :
    ((limits_XRefEntriesBase + limits_XRefEntriesPerByte * rawLen : Nat) : Int) = lim_MaxXRefEntries (rawLen : Int) := by
  rw [C08tr.maxXRefEntries_spec_partial (rawLen : Int) ⟨by omega, by omega⟩ (by omega)]
  unfold limits_XRefEntriesBase limits_XRefEntriesPerByte lim_XRefEntriesBase lim_XRefEntriesPerByte
  omega

end PdfVerif.C04trb
