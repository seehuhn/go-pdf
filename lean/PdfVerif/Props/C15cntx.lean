import PdfVerif.Props.C15cntp
import PdfVerif.Props.C15cntn
/-!
# C15 — the operator table's names are admissible; concrete instances of `ops_rt`/`split_rt`
-/
namespace PdfVerif.C15cntx
open PdfVerif PdfVerif.CNT PdfVerif.C15cnt PdfVerif.C15cnto PdfVerif.C15cntd PdfVerif.C15cnti PdfVerif.C15cntn PdfVerif.C15cntm PdfVerif.C15cntp

/-- decidable form of `OpNameOk` -/
def opNameOkB (name : Bytes) : Bool :=
  !name.isEmpty && name.all cReg && decide (name.length ≤ Gen.content_maxNameBytes) &&
    (match classify name with
     | .op n => n == name
     | _ => false) &&
    name != Gen.content_opBeginInlineImage

theorem opNameOkB_sound (name : Bytes) (h : opNameOkB name = true) : OpNameOk name := by
  simp only [opNameOkB, Bool.and_eq_true, Bool.not_eq_true', decide_eq_true_eq, bne_iff_ne, ne_eq] at h
  obtain ⟨⟨⟨⟨h1, h2⟩, h3⟩, h4⟩, h5⟩ := h
  refine ⟨by intro e; subst e; simp at h1, ?_, h3, ?_, h5⟩
  · intro b hb
    exact List.all_eq_true.mp h2 b hb
  · split at h4
    · rename_i n heq
      simp at h4
      rw [heq, h4]
    · simp at h4

/-- every operator of the operator table (except the pseudo-operators and `BI`, which starts an inline
image) is an admissible operator name -/
theorem table_names_ok : ∀ e ∈ Gen.content_operators,
    (e.1 != Gen.content_OpRawContent && e.1 != Gen.content_OpInlineImage && e.1 != Gen.content_opBeginInlineImage) = true →
    opNameOkB e.1 = true := by decide +kernel

/-- unknown operator names, including number-like and keyword-like ones, are admissible -/
theorem odd_names_ok : ∀ n ∈ ([[102, 111, 111], [43], [45, 45], [49, 46, 50, 46, 51], [49, 97], [110, 117, 108],
    [116, 114, 117, 101, 120], [66, 73, 120], [69, 73], [73, 68], [128, 255], [35], [92]] : List Bytes),
    opNameOkB n = true := by decide +kernel

/-- decidable form of "the written token of a real is a number token" -/
def realTokB (w : Bytes) : Bool :=
  !w.isEmpty && w.all cReg && decide (w.length ≤ Gen.content_maxNameBytes) &&
    (match classify w with
     | .real t => t == w
     | _ => false)

theorem realTokB_sound (w : Bytes) (h : realTokB w = true) : RegTok w (.real w) := by
  simp only [realTokB, Bool.and_eq_true, Bool.not_eq_true', decide_eq_true_eq] at h
  obtain ⟨⟨⟨h1, h2⟩, h3⟩, h4⟩ := h
  refine ⟨by intro e; subst e; simp at h1, ?_, h3, ?_⟩
  · intro b hb
    exact List.all_eq_true.mp h2 b hb
  · split at h4
    · rename_i t heq
      simp at h4
      rw [heq, h4]
    · simp at h4

theorem flatOk_real (t : Bytes) (h : realTokB (realToken t) = true) : FlatOk (.real t) :=
  realTokB_sound _ h

/-- real tokens as `strconv.FormatFloat(x, 'f', -1, 64)` writes them are number tokens:
`-0.5`, `12` (written `12.`), `0.000001`, 1e21 written out -/
example : FlatOk (.real [45, 48, 46, 53]) := flatOk_real _ (by decide +kernel)
example : FlatOk (.real [49, 50]) := flatOk_real _ (by decide +kernel)
example : FlatOk (.real [48, 46, 48, 48, 48, 48, 48, 49]) := flatOk_real _ (by decide +kernel)
example : FlatOk (.real ([49] ++ List.replicate 21 48)) := flatOk_real _ (by decide +kernel)

/-- a concrete sequence meeting the hypotheses of `ops_rt_deep`:
`1 2.5 -3 4 re`, `(a)\(( Tj` (string with unbalanced parentheses, a backslash, CR LF),
`/F#201 12 Tf` (name with a space), a comment, `null true foo`, and an inline image whose
dictionary has a key with a space and a `#` (`A #B`), a nil entry, an empty array and a nested
array as values, and whose data contains `EI` look-alikes -/
def sampleOps : List (Bytes × List Obj) :=
  [([114, 101], [.int 1, .real [50, 46, 53], .int (-3), .int 4]),
   ([84, 106], [.str [97, 41, 92, 40, 40, 13, 10]]),
   ([84, 102], [.name [70, 32, 49], .int 12]),
   (Gen.content_OpRawContent, [.str [37, 32, 99, 40]]),
   ([102, 111, 111], [.null, .bool true]),
   (Gen.content_OpInlineImage,
     [.dict [([65, 32, 35, 66], .int 7), ([68], .arr []), ([72], .int 3), ([78], .null),
             ([87], .int 2), ([88], .arr [.arr [.int 0, .name [97]], .str [40]])],
      .str [97, 10, 69, 73, 120, 32, 69, 73, 10]])]

theorem sampleOps_ok : ∀ op ∈ sampleOps, OpOkD op := by
  intro op hop
  simp only [sampleOps, List.mem_cons, List.mem_nil_iff, or_false] at hop
  rcases hop with rfl | rfl | rfl | rfl | rfl | rfl
  · refine .inl ⟨opNameOkB_sound _ (by decide +kernel), ?_, by decide +kernel⟩
    intro a ha
    simp at ha
    rcases ha with rfl | rfl | rfl | rfl
    · exact argD_flat _ (int_tok 1 (by decide) (by decide))
    · exact argD_flat _ (flatOk_real _ (by decide +kernel))
    · exact argD_flat _ (int_tok (-3) (by decide) (by decide))
    · exact argD_flat _ (int_tok 4 (by decide) (by decide))
  · refine .inl ⟨opNameOkB_sound _ (by decide +kernel), ?_, by decide +kernel⟩
    intro a ha
    simp at ha
    subst ha
    refine argD_flat _ ?_
    show (7 : Nat) < Gen.content_maxStringBytes
    decide +kernel
  · refine .inl ⟨opNameOkB_sound _ (by decide +kernel), ?_, by decide +kernel⟩
    intro a ha
    simp at ha
    rcases ha with rfl | rfl
    · exact argD_flat _ ⟨by decide, by decide +kernel⟩
    · exact argD_flat _ (int_tok 12 (by decide) (by decide))
  · exact .inr (.inl ⟨rfl, _, rfl, ⟨by decide, by decide, by decide +kernel⟩⟩)
  · refine .inl ⟨opNameOkB_sound _ (by decide +kernel), ?_, by decide +kernel⟩
    intro a ha
    simp at ha
    rcases ha with rfl | rfl <;> exact argD_flat _ trivial
  · refine .inr (.inr ⟨rfl, _, _, rfl, ?_⟩)
    have g0 : GoodO (.int 0) := goodO_flat _ (int_tok 0 (by decide) (by decide))
    have gn : GoodO (.name [97]) := goodO_flat _ ⟨by decide, by decide +kernel⟩
    have gs : GoodO (.str [40]) := goodO_flat _ (by
      show (1 : Nat) < Gen.content_maxStringBytes
      decide +kernel)
    have ge := goodO_arr [] (by simp) (by decide +kernel)
    have gi := goodO_arr [.int 0, .name [97]] (by simpa using ⟨g0, gn⟩) (by decide +kernel)
    have gx := goodO_arr [.arr [.int 0, .name [97]], .str [40]] (by simpa using ⟨gi, gs⟩) (by decide +kernel)
    exact {
      entries := by
        intro e he
        simp at he
        rcases he with rfl | rfl | rfl | rfl | rfl | rfl
        · exact ⟨by decide, by decide +kernel, valD_flat _ (int_tok 7 (by decide) (by decide))⟩
        · exact ⟨by decide, by decide +kernel, valD_of_good _ ge (by decide +kernel)⟩
        · exact ⟨by decide, by decide +kernel, valD_flat _ (int_tok 3 (by decide) (by decide))⟩
        · exact ⟨by decide, by decide +kernel, .inl rfl⟩
        · exact ⟨by decide, by decide +kernel, valD_flat _ (int_tok 2 (by decide) (by decide))⟩
        · exact ⟨by decide, by decide +kernel, valD_of_good _ gx (by decide +kernel)⟩
      count := by decide +kernel
      width := by decide +kernel
      height := by decide +kernel
      pixels := by decide +kernel
      dataLen := by decide +kernel
      framing := .inl ⟨by decide +kernel, by decide +kernel, by decide +kernel⟩ }

/-- the instance of `ops_rt_deep`: the written bytes of `sampleOps` scan back as `sampleOps` -/
theorem sampleOps_rt (bs : Bytes) (hb : fmtOps sampleOps = some bs) :
    scan bs = some (sampleOps.map normOpD) := ops_rt_deep sampleOps sampleOps_ok bs hb

/-- and the writer does produce bytes for it (the hypothesis `fmtOps … = some bs` is satisfiable) -/
theorem sampleOps_written : (fmtOps sampleOps).isSome = true := by decide +kernel

/-- the image dictionary comes back without its nil entry, with the escaped key decoded and the
empty array as an empty array -/
example : (match imgDict [([65, 32, 35, 66], .int 7), ([68], .arr []), ([72], .int 3), ([78], .null), ([87], .int 2)] with
    | [(k1, .int 7), (k2, .arr []), (k3, .int 3), (k4, .int 2)] =>
      k1 == [65, 32, 35, 66] && k2 == [68] && k3 == [72] && k4 == [87]
    | _ => false) = true := by decide +kernel

/-- `[(a) -120 (\() /N] TJ` and `/Span <</MCID 3 /ActualText (x)y) /A null>> BDC`: operators with
an array of flat operands and with a dictionary of flat values meet the hypotheses of
`C15cntn.ops_rt` -/
def sampleOps1 : List (Bytes × List Obj) :=
  [([84, 74], [.arr [.str [97], .int (-120), .str [40], .name [78]]]),
   ([66, 68, 67], [.name [83, 112, 97, 110],
      .dict [([77, 67, 73, 68], .int 3), ([65, 99, 116, 117, 97, 108, 84, 101, 120, 116], .str [120, 41, 121]), ([65], .null)]])]

theorem sampleOps1_ok : ∀ op ∈ sampleOps1, OpOkN op := by
  intro op hop
  simp only [sampleOps1, List.mem_cons, List.mem_nil_iff, or_false] at hop
  have hstr : ∀ s : Bytes, s.length < 10 → FlatOk (.str s) := by
    intro s hs
    show s.length < Gen.content_maxStringBytes
    have : (10 : Nat) ≤ Gen.content_maxStringBytes := by decide +kernel
    omega
  rcases hop with rfl | rfl
  · refine .inl ⟨opNameOkB_sound _ (by decide +kernel), ?_, by decide +kernel⟩
    intro a ha
    simp at ha
    subst ha
    refine .arr _ ?_ (by decide +kernel)
    intro x hx
    simp at hx
    rcases hx with rfl | rfl | rfl | rfl
    · exact hstr _ (by decide)
    · exact int_tok _ (by decide) (by decide)
    · exact hstr _ (by decide)
    · exact ⟨by decide, by decide +kernel⟩
  · refine .inl ⟨opNameOkB_sound _ (by decide +kernel), ?_, by decide +kernel⟩
    intro a ha
    simp at ha
    rcases ha with rfl | rfl
    · exact .flat _ ⟨by decide, by decide +kernel⟩
    · refine .dict _ ?_ (by decide +kernel)
      intro e he
      simp at he
      rcases he with rfl | rfl | rfl
      · exact ⟨by decide, by decide +kernel, int_tok _ (by decide) (by decide)⟩
      · exact ⟨by decide, by decide +kernel, hstr _ (by decide)⟩
      · exact ⟨by decide, by decide +kernel, trivial⟩

theorem sampleOps1_rt (bs : Bytes) (hb : fmtOps sampleOps1 = some bs) :
    scan bs = some (sampleOps1.map normOpN) := C15cntn.ops_rt sampleOps1 sampleOps1_ok bs hb

theorem sampleOps1_written : (fmtOps sampleOps1).isSome = true := by decide +kernel

/-- the dictionary comes back in written (`SortedKeys`) order without its null entry -/
example : (match norm1 (.dict [([77, 67, 73, 68], .int 3), ([65, 99, 116, 117, 97, 108, 84, 101, 120, 116], .str [120, 41, 121]), ([65], .null)]) with
    | .dict [(k1, .str _), (k2, .int 3)] => k1 == [65, 99, 116, 117, 97, 108, 84, 101, 120, 116] && k2 == [77, 67, 73, 68]
    | _ => false) = true := by decide +kernel

/-- `[[1 [(x)]] <</K [/a null] /B <<>>>> []] foo` — arrays in arrays, a dictionary inside an array
with an array and an empty dictionary as values, an empty array -/
def deepArg : Obj :=
  .arr [.arr [.int 1, .arr [.str [120]]],
        .dict [([75], .arr [.name [97], .null]), ([66], .dict [])],
        .arr []]

/-- `deepArg` is an operand of `ops_rt_deep`; the hypotheses are checked on the operand as given
(unsorted dictionary), through `argD_of_good` -/
theorem deepArg_ok_given : ArgD deepArg := by
  refine argD_of_good deepArg ?_ (by decide +kernel)
  have i1 : GoodO (.int 1) := goodO_flat _ (int_tok 1 (by decide) (by decide))
  have s1 : GoodO (.str [120]) := goodO_flat _ (by
    show (1 : Nat) < Gen.content_maxStringBytes
    decide +kernel)
  have n1 : GoodO (.name [97]) := goodO_flat _ ⟨by decide, by decide +kernel⟩
  have z1 : GoodO .null := goodO_flat _ trivial
  have a3 := goodO_arr [.str [120]] (by simpa using s1) (by decide +kernel)
  have a2 := goodO_arr [.int 1, .arr [.str [120]]] (by simpa using ⟨i1, a3⟩) (by decide +kernel)
  have d0 := goodO_dict [] (by simp) (by decide +kernel)
  have a4 := goodO_arr [.name [97], .null] (by simpa using ⟨n1, z1⟩) (by decide +kernel)
  have d1 := goodO_dict [([75], .arr [.name [97], .null]), ([66], .dict [])]
    (by simp only [List.mem_cons, List.mem_nil_iff, or_false, forall_eq_or_imp, forall_eq]
        exact ⟨⟨by decide, by decide +kernel, a4⟩, by decide, by decide +kernel, d0⟩) (by decide +kernel)
  have a5 := goodO_arr [] (by simp) (by decide +kernel)
  exact goodO_arr _ (by simpa using ⟨a2, d1, a5⟩) (by decide +kernel)

theorem deepOp_ok : OpOkD ([102, 111, 111], [deepArg]) :=
  .inl ⟨opNameOkB_sound _ (by decide +kernel), by intro a ha; simp at ha; subst ha; exact deepArg_ok_given, by decide +kernel⟩

theorem deepOp_rt (bs : Bytes) (hb : fmtOps [([102, 111, 111], [deepArg])] = some bs) :
    scan bs = some ([([102, 111, 111], [deepArg])].map normOpD) :=
  ops_rt_deep _ (by intro op hop; simp at hop; subst hop; exact deepOp_ok) bs hb

theorem deepOp_written : (fmtOps [([102, 111, 111], [deepArg])]).isSome = true := by decide +kernel

/-- the dictionary operand of `deepArg` comes back as its two entries in `SortedKeys` order -/
example : (match normD (.dict [([66], .dict []), ([75], .arr [.name [97], .null])]) with
    | .dict [(k1, .dict []), (k2, .arr [.name _, .null])] => k1 == [66] && k2 == [75]
    | _ => false) = true := by decide +kernel

end PdfVerif.C15cntx
