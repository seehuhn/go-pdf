import PdfVerif.Lemmas.C01Caps
import PdfVerif.Props.C01b
/-!
# C01/C05 (part h) — size caps of the scanner, for all inputs

Whatever `ReadObject` returns — on ANY input, well-formed or not — respects the caps of
`scanner.go`: names and number tokens ≤ `maxNameBytes`, strings ≤ `maxStringBytes` (literal and hex form
alike, including a hex string's final unpaired digit: finding C05-H1), arrays ≤ `maxArrayLen`, dictionaries
≤ `maxDictLen` entries with keys ≤ `maxNameBytes`, integers in int64, references below
`maxXRefSize`/`maxGeneration`, nesting ≤ `maxScannerNestDepth`; recursively for every nested value.
(These statements are also listed under C05.)
-/
namespace PdfVerif.C01h
open PdfVerif PdfVerif.C01L

/-- **Caps, general form**: a value read at nesting depth `d ≤ maxScannerNestDepth` with any fuel
is within all caps (`capsOK`, recursively) and `d` plus its own depth is within the nesting limit. -/
theorem read_caps (f d : Nat) (inp : Bytes) (o : Obj) (r : Bytes)
    (h : readObject f d inp = .ok (o, r)) (hd : d ≤ Gen.scanner_maxScannerNestDepth) :
    capsOK o = true ∧ d + depthOf o ≤ Gen.scanner_maxScannerNestDepth :=
  (caps_all f).1 d inp o r h hd

/-- **Caps of `parseObject`** (a fresh scanner). -/
theorem parse_caps (inp : Bytes) (o : Obj) (r : Bytes) (h : parseObject inp = .ok (o, r)) :
    capsOK o = true ∧ depthOf o ≤ Gen.scanner_maxScannerNestDepth := by
  have := read_caps _ 0 inp o r h (Nat.zero_le _)
  exact ⟨this.1, by omega⟩

/-- arrays: at most `maxArrayLen` elements -/
theorem parse_array_cap (inp : Bytes) (xs : List Obj) (r : Bytes)
    (h : parseObject inp = .ok (.arr xs, r)) : xs.length ≤ Gen.scanner_maxArrayLen :=
  (capsOK_arr_iff.mp (parse_caps inp _ r h).1).1

/-- dictionaries: at most `maxDictLen` entries, keys at most `maxNameBytes` bytes -/
theorem parse_dict_cap (inp : Bytes) (kv : List (Bytes × Obj)) (r : Bytes)
    (h : parseObject inp = .ok (.dict kv, r)) :
    kv.length ≤ Gen.scanner_maxDictLen ∧ ∀ e ∈ kv, e.1.length ≤ Gen.scanner_maxNameBytes := by
  have := capsOK_dict_iff.mp (parse_caps inp _ r h).1
  exact ⟨this.1, fun e he => ((capsKV_iff kv).mp this.2 e he).1⟩

/-- names: at most `maxNameBytes` bytes -/
theorem parse_name_cap (inp n r : Bytes) (h : parseObject inp = .ok (.name n, r)) :
    n.length ≤ Gen.scanner_maxNameBytes :=
  capsOK_name.mp (parse_caps inp _ r h).1

/-- strings: at most `maxStringBytes` bytes -/
theorem parse_string_cap (inp s r : Bytes) (h : parseObject inp = .ok (.str s, r)) :
    s.length ≤ Gen.scanner_maxStringBytes :=
  capsOK_str.mp (parse_caps inp _ r h).1

/-- literal strings: `ReadString` never returns more than `maxStringBytes` bytes -/
theorem literal_string_cap (inp s r : Bytes) (h : readString inp = .ok (s, r)) :
    s.length ≤ Gen.scanner_maxStringBytes :=
  (readString_spec inp s r h).2

/-- hex strings: `ReadHexString` never returns more than `maxStringBytes` bytes — the cap applies
    to the final unpaired digit as well (applied to pairs only, `2·maxStringBytes + 1` digits give
    `maxStringBytes + 1` bytes: finding C05-H1) -/
theorem hex_string_cap (inp s r : Bytes) (h : readHexString inp = .ok (s, r)) :
    s.length ≤ Gen.scanner_maxStringBytes :=
  (readHexString_spec inp s r h).2

/-- nesting: at most `maxScannerNestDepth` levels -/
theorem parse_depth_cap (inp : Bytes) (o : Obj) (r : Bytes) (h : parseObject inp = .ok (o, r)) :
    depthOf o ≤ Gen.scanner_maxScannerNestDepth :=
  (parse_caps inp o r h).2

/-- a literal string, a hex string and a name of exactly the cap size read back -/
theorem caps_attained (rest : Bytes) :
    (∀ s : Bytes, s.length = Gen.scanner_maxStringBytes →
      ∃ body, fmtStrLiteral s = 40 :: body ∧ readString (body ++ rest) = .ok (s, rest)) ∧
    (∀ s : Bytes, AllBytes s → s.length = Gen.scanner_maxStringBytes →
      ∃ body, fmtStrHex s = 60 :: body ∧ readHexString (body ++ rest) = .ok (s, rest)) ∧
    (∀ n : Bytes, AllBytes n → n.length = Gen.scanner_maxNameBytes → C01.NameEnd rest →
      readName (fmtName n ++ rest) = .ok (n, rest)) :=
  ⟨fun s hs => C01b.string_rt_literal s (by omega) rest,
   fun s hb hs => C01b.string_rt_hex s hb (by omega) rest,
   fun n hb hn hr => C01.name_rt n hb (by omega) rest hr⟩

-- non-vacuity: a nested value is read and is within the caps
example : (match parseObject [91, 60, 60, 47, 65, 91, 40, 120, 41, 93, 62, 62, 60, 48, 62, 93] with
    | .ok (o, []) => capsOK o && depthOf o == 3 | _ => false) = true := by decide +kernel

end PdfVerif.C01h
