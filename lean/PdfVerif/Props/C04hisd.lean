import PdfVerif.Model.HISReader
import PdfVerif.Props.C04his
/-!
# C04 — the byte-level decoders implement "first entry wins"

The decoders of `Model/HISReader.lean` against `fillSection` of `Props/C04his.lean`: `decodeXRefStream` is
`fillSection` of the entries the data encodes (`decodeXRefStream_fill`); `decodeXRefSection` never rebinds a number
unless its off-by-one repair triggers (`table_decoder_first_wins`; an example shows that it then does: discrepancy 2
of `notes/C04.md`); `xrefStep` is a step function as `C04his.prev_chain_terminates` asks (`readXRef_loop_terminates`).
-/
namespace PdfVerif.C04hisd
open PdfVerif PdfVerif.HIS PdfVerif.C04his

theorem fillSection_append {β} (a : List (Nat × β)) : ∀ (m : List (Nat × β)) (b : List (Nat × β)),
    fillSection m (a ++ b) = fillSection (fillSection m a) b := by
  induction a with
  | nil => intro m b; rfl
  | cons p rest ih => intro m b; obtain ⟨n, e⟩ := p; simp only [List.cons_append, fillSection, ih]

/-- the entries a subsection of `k` fields of width `wT` encodes, numbered from `cur` -/
def subEntries : Nat → Bytes → (cur wT w0 w1 w2 : Nat) → List (Nat × XEntry)
  | 0, _, _, _, _, _, _ => []
  | k+1, data, cur, wT, w0, w1, w2 =>
    if data.length < wT then [] else
    (match decodeEntry (data.take wT) w0 w1 w2 with
     | some e => [(cur, e)]
     | none => []) ++ subEntries k (data.drop wT) (cur + 1) wT w0 w1 w2

theorem xrefStreamSub_fill : ∀ (k : Nat) (m : XMap) (data : Bytes) (cur wT w0 w1 w2 : Nat) (m' : XMap) (rest : Bytes),
    xrefStreamSub k m data cur wT w0 w1 w2 = .ok (m', rest) →
      m' = fillSection m (subEntries k data cur wT w0 w1 w2) ∧ rest = data.drop (k * wT) := by
  intro k m data cur wT w0 w1 w2 m' rest
  fun_induction xrefStreamSub k m data cur wT w0 w1 w2
  case case1 => intro h; cases h; simp [subEntries, fillSection]
  case case4 k m data cur wT w0 w1 w2 hl ih =>
    -- one more entry: it is stored first-wins, then the rest of the subsection
    intro h
    obtain ⟨h1, h2⟩ := ih h
    refine ⟨?_, ?_⟩
    · rw [h1, subEntries, if_neg hl, fillSection_append]
      congr 1
      unfold xrefStreamEntry
      cases decodeEntry (data.take wT) w0 w1 w2 <;> simp [fillSection]
    · rw [h2, List.drop_drop]; congr 1; rw [Nat.succ_mul]; omega
  all_goals exact fun h => nomatch h

/-- all entries of a cross-reference stream with subsections `ss` -/
def streamEntries (data : Bytes) (w0 w1 w2 : Nat) : List (Nat × Nat) → List (Nat × XEntry)
  | [] => []
  | (start, size) :: ss =>
    subEntries size data start (w0 + w1 + w2) w0 w1 w2 ++ streamEntries (data.drop (size * (w0 + w1 + w2))) w0 w1 w2 ss

/-- For every map `m`, data, `/W` and `/Index`: if `decodeXRefStream` succeeds, the new map is `m` filled — first
entry wins — with the entries the data encodes, in file order. -/
theorem decodeXRefStream_fill (w0 w1 w2 : Nat) : ∀ (ss : List (Nat × Nat)) (m : XMap) (data : Bytes) (m' : XMap),
    decodeXRefStream m data w0 w1 w2 ss = .ok m' → m' = fillSection m (streamEntries data w0 w1 w2 ss) := by
  intro ss m data m'
  fun_induction decodeXRefStream m data w0 w1 w2 ss
  case case1 => intro h; cases h; simp [streamEntries, fillSection]
  case case2 => exact fun h => nomatch h
  case case3 m data start size ss m1 data1 hsub ih =>
    intro h
    obtain ⟨h1, h2⟩ := xrefStreamSub_fill _ _ _ _ _ _ _ _ _ _ hsub
    rw [ih h, h1, h2]
    simp only [streamEntries, fillSection_append]

/-- a binding that exists before a cross-reference stream is decoded survives it -/
theorem stream_decoder_first_wins (w0 w1 w2 : Nat) (ss : List (Nat × Nat)) (m : XMap) (data : Bytes) (m' : XMap)
    (h : decodeXRefStream m data w0 w1 w2 ss = .ok m') (k : Nat) (e : XEntry) (hk : m.lookup k = some e) :
    m'.lookup k = some e := by
  rw [decodeXRefStream_fill w0 w1 w2 ss m data m' h, lookup_fillSection, hk, Option.some_or]

-- non-vacuity: /W [1 1 1], /Index [3 2]: object 3 in use at 16, object 4 free; 3 was bound before
example : (match decodeXRefStream [(3, ⟨99, 0, 0⟩)] [1, 16, 0, 0, 0, 1] 1 1 1 [(3, 2)] with
    | .ok m => m == [(4, ⟨-1, 1, 0⟩), (3, ⟨99, 0, 0⟩)]
    | _ => false) = true := by decide +kernel

theorem lookup_setEntry_ne {β} (m : List (Nat × β)) (n k : Nat) (e : β) (h : k ≠ n) :
    (setEntry m n e).lookup k = m.lookup k := by
  have : (k == n) = false := by simpa using h
  simp [setEntry, List.lookup_cons, this]

/-- with `first ≠ 1` the repair test is false, `offByOne` stays 0, and every store goes to `cur - 0`, a number that has
    just been found unbound: so it is not `k` -/
theorem decodeXRefSection_keeps (n : Nat) (m : XMap) (inp : Bytes) (first cur end_ off : Nat) (m' : XMap) (rest : Bytes)
    (hf : first ≠ 1) (h0 : off = 0) (h : decodeXRefSection n m inp first cur end_ off = .ok (m', rest))
    (k : Nat) (e : XEntry) (hk : m.lookup k = some e) : m'.lookup k = some e := by
  revert h hk
  have hoff : ∀ (f c a b o : Nat) (x : Int), f ≠ 1 → o = 0 →
      (if (c == f && f == 1 && x == 0 && b == a) = true then 1 else o) = 0 := by
    intro f c a b o x hf ho
    simp [hf, ho]
  have keep : ∀ (mm : XMap) (c o : Nat) (x : XEntry), o = 0 → mm.lookup c = none → mm.lookup k = some e →
      (setEntry mm (c - o) x).lookup k = some e := by
    intro mm c o x ho hc hk
    rw [ho, Nat.sub_zero, lookup_setEntry_ne _ _ _ _ (by rintro rfl; rw [hc] at hk; cases hk)]
    exact hk
  fun_induction decodeXRefSection n m inp first cur end_ off
  case case1 => exact fun h hk => by cases h; exact hk
  case case2 => exact fun h hk => by cases h; exact hk
  case case4 ih => exact fun h hk => ih hf h0 h hk    -- `cur` is bound: the line is skipped
  -- the two stores, for a line `f` and a line `n`
  case case8 ih => exact fun h hk => ih hf (hoff _ _ _ _ _ _ hf h0) h (keep _ _ _ _ (hoff _ _ _ _ _ _ hf h0) ‹_› hk)
  case case9 ih => exact fun h hk => ih hf (hoff _ _ _ _ _ _ hf h0) h (keep _ _ _ _ (hoff _ _ _ _ _ _ hf h0) ‹_› hk)
  all_goals exact fun h => nomatch h

/-- The table decoder never rebinds a number when the off-by-one repair cannot trigger (the subsection does not
start at object 1). -/
theorem table_decoder_first_wins : ∀ (n : Nat) (m : XMap) (inp : Bytes) (first cur end_ : Nat) (m' : XMap) (rest : Bytes),
    first ≠ 1 → decodeXRefSection n m inp first cur end_ 0 = .ok (m', rest) →
    ∀ k e, m.lookup k = some e → m'.lookup k = some e :=
  fun n m inp first cur end_ m' rest hf h k e hk => decodeXRefSection_keeps n m inp first cur end_ 0 m' rest hf rfl h k e hk

/-- the repair path is different: a subsection `1 3` whose first line is the head of the free
    list makes the decoder store line `i` under number `i-1` without looking at `xref[i-1]` —
    here object 2, already bound by a newer section to offset 777, is rebound to offset 99
    (discrepancy 2 in notes/C04.md; such a table is malformed, outside C04's quantifier) -/
example :
    (match decodeXRefSection 3 [(2, ⟨777, 0, 0⟩)]
        (bytesOfString "0000000000 65535 f \n0000000016 00000 n \n0000000099 00000 n \n") 1 1 4 0 with
      | .ok (m, _) => m.lookup 2 == some ⟨99, 0, 0⟩
      | _ => false) = true := by decide +kernel

theorem xrefStep_seenGrows (file : Bytes) (hdr : Nat) (decodedAt : Nat → Option Bytes) :
    SeenGrows (xrefStep file hdr decodedAt) := by
  intro st seen start st' seen' nx h x hx
  unfold xrefStep at h
  by_cases h0 : start < 0
  · rw [if_pos h0] at h; cases h
  · rw [if_neg h0] at h
    simp only [] at h
    split at h
    · cases h
    · rename_i m d seen2 hres
      -- `seen2` is `seen` in every branch of the section reader except the one that follows `/XRefStm`, which
      -- conses the position of that stream
      have hs2 : x ∈ seen2 := by
        split at hres
        · split at hres
          · cases hres
          · split at hres
            · cases hres; exact hx
            · split at hres
              · cases hres; exact hx
              · split at hres
                · cases hres
                · split at hres
                  · cases hres
                  · cases hres; exact List.mem_cons_of_mem _ hx
            · cases hres
        · split at hres
          · cases hres
          · cases hres; exact hx
      split at h
      · cases h; exact hs2
      · cases h; exact hs2
      · cases h

theorem findXRef_range (file : Bytes) (hdr start : Nat) (h : findXRef file hdr = .ok start) :
    start < file.length := by
  revert h
  fun_cases findXRef file hdr
  case case5 =>
    intro h; cases h
    rename_i hx
    simp only [Bool.or_eq_true, decide_eq_true_eq, not_or, Int.not_le] at hx
    omega
  all_goals exact fun h => nomatch h

/-- `readXRef` terminates on every file: the fuel `size + 1` given to the `/Prev` loop of the reader model is never
exhausted, whatever the bytes are (cyclic, self-referential or forward `/Prev` chains, shared or cyclic `/XRefStm`). -/
theorem readXRef_loop_terminates (file : Bytes) (hdr : Nat) (decodedAt : Nat → Option Bytes) (start : Nat)
    (h : findXRef file hdr = .ok start) :
    (prevLoop file.length hdr (xrefStep file hdr decodedAt) (file.length + 1) {} [] start).isSome = true :=
  prev_chain_terminates file.length hdr _ (xrefStep_seenGrows file hdr decodedAt) {} start
    (by omega) (by have := findXRef_range file hdr start h; omega)

end PdfVerif.C04hisd
