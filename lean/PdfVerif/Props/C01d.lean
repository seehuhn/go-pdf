import PdfVerif.Lemmas.C01Canon
import PdfVerif.Lemmas.C01Fmt
import PdfVerif.Props.C01c
/-!
# C01 (part d) — nested objects: `obj_rt`

Arrays and dictionaries nested to any depth up to `maxScannerNestDepth`, under both values of
`OptPretty`: the text written by `doFormat` is read back by `ReadObject` as the same tree
(`rd`: nil dictionary entries are not written, a nil array reads as null, a real reads as its
written token).  The text written is one of the serialisations the standard allows
(`Lemmas/C01Fmt.lean`: `fmt_renders`), so this is the theorem about every conforming serialisation
(`Lemmas/C04ParB.lean`: `rb_all`, behind `Props/C04par.lean`) at the formatter's output.
-/
namespace PdfVerif.C01d
open PdfVerif PdfVerif.C01b PdfVerif.C01L

/-- Every object reads back (a reference is read by the enclosing array/dictionary loop): `rb_all` at
`fmt_renders`.  After a dictionary the scanner stops at `k` with its leading white space skipped (`ReadObject`
looks for `stream` there); `Cont` is how the callers in C02 and C20 say what follows. -/
theorem readsBack_all (opt : FmtOpt) (o : Obj) (hg : good o = true) (hr : isRefObj o = false)
    (d : Nat) (hd : d + depthOf o ≤ Gen.scanner_maxScannerNestDepth)
    (tok : Bytes) (ns' : Bool) (hfmt : fmtObj opt false o = some (tok, ns'))
    (k : Bytes) (hk : Cont ns' k) (fuel : Nat) (hfuel : fuel ≥ 3 * (tok ++ k).length + 3) :
    ∃ k', readObject fuel d (tok ++ k) = .ok (rd o, k') ∧ (k' = k ∨ k' = (skipWS k).1) ∧ (ns' = true → k' = k) := by
  obtain ⟨hc, hu, hdep⟩ := rd_fits o hg
  have hns := fmtObj_ns opt false o tok ns' hfmt
  have := C04L.rb_all (fmt_renders opt o hg tok ns' hfmt) hc hu ((isRefObj_rd o).trans hr)
    d (by omega) k (fun h => cont_endsToken (by rw [hns, h] at hk; exact hk)) (fun _ => cont_nostream hk) fuel hfuel
  exact ⟨_, this, C04L.restAfter_cases _ k, fun h => C04L.restAfter_self (by rw [hns] at h; simpa using h) k⟩

theorem dictReads_all (opt : FmtOpt) (kv : List (Bytes × Obj)) (hg : goodKV kv = true)
    (d : Nat) (hd : d + depthKV kv ≤ Gen.scanner_maxScannerNestDepth)
    (acc : List (Bytes × Obj)) (rest : Bytes)
    (hdisj : ∀ e ∈ kv, e.1 ∉ keysOf acc) (hnd : (keysOf kv).Nodup) (hlen : acc.length + kv.length ≤ Gen.scanner_maxDictLen)
    (body : Bytes) (hbody : fmtDictPlain opt kv = some body ∨ fmtDictPretty opt kv = some body)
    (fuel : Nat) (hfuel : fuel ≥ 3 * (body ++ 62 :: 62 :: rest).length + 1) :
    readDictLoop fuel d acc (body ++ 62 :: 62 :: rest) = .ok (acc ++ rdKV kv, rest) :=
  dictReadsCont_all opt kv hg d hd acc _ 62 (62 :: rest) rfl (.inr rfl) hdisj hnd hlen body hbody _ DReads.done fuel hfuel

theorem format_single (opt : FmtOpt) (o : Obj) (bytes : Bytes) :
    format opt [o] = some bytes ↔ ∃ ns', fmtObj opt false o.canon = some (bytes, ns') := by
  rw [format_eq]
  cases opt.pretty <;>
    simp [canonList, fmtSeq, fmtSeqPretty, Option.bind_eq_some_iff]

/-- the nesting limit of the scanner, as the hypothesis of the theorems below -/
def depthOk (o : Obj) : Prop := depthOf o ≤ Gen.scanner_maxScannerNestDepth

/-- **Object round trip, exact form.**  For every object tree within the size limits (`good`) and
nested at most `maxScannerNestDepth` deep, under every option set: `Format` succeeds, and a fresh
scanner's `ReadObject` on the text returns exactly `rd o.canon` and consumes all input.  (A top-level
reference is excluded: `1 0 R` is only recognised inside arrays and dictionaries and by
`ReadIndirectObject`.) -/
theorem obj_rt_exact (opt : FmtOpt) (o : Obj) (hg : good o = true) (hd : depthOk o)
    (hr : isRefObj o = false) :
    ∃ bytes, format opt [o] = some bytes ∧ parseObject bytes = .ok (rd o.canon, []) := by
  have hgc := good_canon o hg
  obtain ⟨⟨bytes, ns'⟩, hf⟩ := fmtObj_some opt o.canon hgc false
  refine ⟨bytes, (format_single opt o bytes).mpr ⟨ns', hf⟩, ?_⟩
  have hdc : 0 + depthOf o.canon ≤ Gen.scanner_maxScannerNestDepth := by
    have := depth_canon o; unfold depthOk at hd; omega
  obtain ⟨k', h1, h2, _⟩ := readsBack_all opt o.canon hgc (by rw [isRefObj_canon]; exact hr) 0 hdc
    bytes ns' hf [] trivial (scanFuel bytes) (by rw [List.append_nil]; exact scanFuel_ge bytes)
  have hk : k' = [] := by rcases h2 with h | h <;> simpa [skipWS] using h
  subst hk
  simpa [parseObject] using h1

/-- **Object round trip.**  Formatting any object tree within the documented limits,
under any option set, and parsing the text yields a value equal to the original — a nil
dictionary entry counting as absent, a nil array as null, dictionaries compared as key-sorted
association lists (`nrm`). -/
theorem obj_rt (opt : FmtOpt) (o : Obj) (hg : good o = true) (hd : depthOk o) (hr : isRefObj o = false) :
    ∃ bytes r, format opt [o] = some bytes ∧ parseObject bytes = .ok (r, []) ∧ nrm r = nrm o := by
  obtain ⟨bytes, h1, h2⟩ := obj_rt_exact opt o hg hd hr
  exact ⟨bytes, rd o.canon, h1, h2, nrm_rd_canon o hg⟩

/-- **Sequences.**  Any list of objects (nested, references included) written by one
`Format` call is read back, in order, between brackets — what `ReadArray` and the harness oracle
do — and whatever follows the closing bracket is left untouched. -/
theorem seq_rt (opt : FmtOpt) (xs : List Obj) (hg : goodList xs = true)
    (hlen : xs.length ≤ Gen.scanner_maxArrayLen)
    (hd : depthList xs < Gen.scanner_maxScannerNestDepth) (rest : Bytes) :
    ∃ body r, format opt xs = some body ∧
      parseObject (91 :: (body ++ 93 :: rest)) = .ok (.arr r, rest) ∧ nrmList r = nrmList xs := by
  have hgc := goodList_canon xs hg
  have hga : good (.arr (canonList xs)) = true := good_arr.mpr ⟨hgc, by rw [canonList_length]; exact hlen⟩
  obtain ⟨hp, hq⟩ := fmtSeq_some opt (canonList xs) hgc
  have hbody : ∃ body, (if opt.pretty then fmtSeqPretty opt true (canonList xs)
      else fmtSeq opt false (canonList xs)) = some body := by
    cases opt.pretty
    · simpa using hp false
    · simpa using hq true
  obtain ⟨body, hb⟩ := hbody
  refine ⟨body, rdList (canonList xs), (format_eq opt xs).trans hb, ?_, nrmList_rd_canon xs hg⟩
  have hdd : 0 + depthOf (.arr (canonList xs)) ≤ Gen.scanner_maxScannerNestDepth := by
    have := depthList_canon xs
    rw [depthOf_arr]; omega
  have := arr_read opt (canonList xs) hga 0 hdd body hb rest
    (scanFuel (91 :: (body ++ 93 :: rest))) (scanFuel_ge _)
  simpa [parseObject] using this

/-- **Formatting is injective up to `nrm`**: two good objects with the same text are the same
value (a corollary of `obj_rt`: the parser is a function). -/
theorem format_injective (opt : FmtOpt) (o1 o2 : Obj) (h1 : good o1 = true) (h2 : good o2 = true)
    (d1 : depthOk o1) (d2 : depthOk o2) (r1 : isRefObj o1 = false) (r2 : isRefObj o2 = false)
    (h : format opt [o1] = format opt [o2]) : nrm o1 = nrm o2 := by
  obtain ⟨b1, x1, f1, p1, n1⟩ := obj_rt opt o1 h1 d1 r1
  obtain ⟨b2, x2, f2, p2, n2⟩ := obj_rt opt o2 h2 d2 r2
  rw [h, f2] at f1
  have hb : b2 = b1 := Option.some.inj f1
  subst hb
  rw [p2] at p1
  have hx : x2 = x1 := by
    have := Except.ok.inj p1
    exact (Prod.mk.inj this).1
  rw [← n1, ← n2, hx]

theorem sortedEntries_single (k : Bytes) (v : Obj) : sortedEntries [(k, v)] = [(k, v)] :=
  List.perm_singleton.mp (sortedEntries_perm [(k, v)])

/-- **Reference as a dictionary value**: `<</K n g R>>` is read
back as the dictionary with that reference — the look-ahead `ReadInteger`, `R` after an integer
value. -/
theorem ref_rt_dict (opt : FmtOpt) (k : Bytes) (hk : goodName k = true) (n g : Nat)
    (hn : n < Gen.xref_maxXRefSize) (hgen : g ≤ Gen.xref_maxGeneration) :
    ∃ bytes, format opt [.dict [(k, .ref n g)]] = some bytes ∧
      parseObject bytes = .ok (.dict [(k, .ref n g)], []) := by
  have h1 : 1 ≤ Gen.scanner_maxDictLen := by decide
  have h2 := C01c.nest_room
  have hg : good (.dict [(k, .ref n g)]) = true :=
    good_dict.mpr ⟨goodKV_cons.mpr ⟨hk, good_ref.mpr ⟨hn, hgen⟩, rfl⟩, List.pairwise_singleton _ k, h1⟩
  obtain ⟨bytes, hb, hp⟩ := obj_rt_exact opt _ hg (show depthOf _ ≤ _ from h2) rfl
  refine ⟨bytes, hb, ?_⟩
  have e : (Obj.dict [(k, .ref n g)]).canon = .dict [(k, .ref n g)] := by
    rw [canon_dict]; exact congrArg Obj.dict (sortedEntries_single k _)
  rw [e] at hp; exact hp

/-! non-vacuity: a nested tree with every kind of value, `Type`/`Subtype` ordering, nil entry,
reference values in arrays and dictionaries -/
def sample : Obj :=
  .dict [([90], .arr [.int 1, .int 2, .ref 3 0, .dict [([65], .ref 7 1), ([66], .null)], .arr []]),
         ([83, 117, 98, 116, 121, 112, 101], .name [88]), ([65, 32], .str [40, 13, 10]),
         ([84, 121, 112, 101], .real [45, 48, 46, 53]), ([78], .nilArr), ([66], .bool false)]

example : good sample = true ∧ depthOf sample = 3 ∧ isRefObj sample = false := by decide +kernel

example : (match format ⟨true, false⟩ [sample] with
    | some bytes => (match parseObject bytes with
      | .ok (.dict kv, []) => kv.length == 6 | _ => false)
    | none => false) = true := by decide +kernel

example : goodList [sample, .ref 1 0, .int 2, .name [82]] = true := by decide +kernel

example : (match format ⟨false, false⟩ [sample, .ref 1 0, .int 2, .name [82]] with
    | some body => (match parseObject (91 :: (body ++ 93 :: [37])) with
      | .ok (.arr ys, r) => ys.length == 4 && r == [37] | _ => false)
    | none => false) = true := by decide +kernel

end PdfVerif.C01d
