import PdfVerif.Lemmas.FBParams
/-!
C08 (work package FB): the parameter side of "decoders are total and resource-bounded".  `Params.Validate` never wraps
(`validate_product_no_overflow`); parsed `/DecodeParms` lie in range for EVERY dictionary (`parse_clamps_*`: Flate/LZW pass
`validateBase`, and `validate` exactly when the predictor accepts them, `parse_validate_iff`); the row clamp of
`FilterCCITTFax.Decode` (`geoMax_pos`, `decode_clamp_unconditional`, `decode_rows_bounded`; the row length is in
`Props/C08fbc.lean`); `GetFilters` (`getFilters_bounded`, `getFilters_crypt_first`); the JBIG2 input cap; the inline literals
the models repeat from the Go functions.  What each validator accepts and each parser returns: `Lemmas/FBParams.lean`.
-/
namespace PdfVerif.C08fb
open PdfVerif PdfVerif.FB

example : wrap64 9223372036854775808 = -9223372036854775808 := by decide   -- the wrap the theorem excludes

/-- what `Params.Validate` has established when it reaches the `int64` product -/
structure Reached (p : PParams) : Prop where
  colors : 1 ≤ p.colors ∧ p.colors ≤ 256
  bpc : p.bpc = 1 ∨ p.bpc = 2 ∨ p.bpc = 4 ∨ p.bpc = 8 ∨ p.bpc = 16
  columns : 1 ≤ p.columns ∧ p.columns ≤ (Gen.limits_MaxImageWidth : Int)

theorem product_bounds (p : PParams) (h : Reached p) :
    1 ≤ p.colors * p.bpc ∧ p.colors * p.bpc ≤ 4096 ∧
    1 ≤ p.colors * p.bpc * p.columns ∧ p.colors * p.bpc * p.columns ≤ 268435456 :=
  prod_bounds h.colors.1 h.colors.2 h.bpc h.columns.1 h.columns.2

/-- whenever `Validate` computes `Colors·BitsPerComponent·Columns` in `int64`, nothing wraps -/
theorem validate_product_no_overflow (p : PParams) (h : Reached p) :
    wrap64 (wrap64 (p.colors * p.bpc) * p.columns) = p.colors * p.bpc * p.columns := by
  obtain ⟨h1, h2, h3, h4⟩ := product_bounds p h
  rw [wrap64_id (p.colors * p.bpc) (by omega) (by omega), wrap64_id _ (by omega) (by omega)]

example : Reached ⟨256, 16, 65536, 15⟩ := ⟨by decide, by decide, by decide⟩

theorem validate_reached (p : PParams) (hv : p.validate = true) (h1 : p.predictor ≠ 1) :
    Reached p ∧ (p.predictor = 2 ∨ (10 ≤ p.predictor ∧ p.predictor ≤ 15)) ∧
    Int.tdiv (p.colors * p.bpc * p.columns + 7) 8 ≤ (Gen.predict_maxBytesPerRow : Int) := by
  obtain ⟨hc, hb, k1, k2, hrow⟩ := ((validate_iff p).mp hv).resolve_left h1
  have hreach : Reached p := ⟨by omega, hb, k1, k2⟩
  have := (product_bounds p hreach).2.2.1
  exact ⟨hreach, by omega, by rw [Int.tdiv_eq_ediv_of_nonneg (by omega)]; exact hrow⟩

/-- the product line of `Validate` is reached only with range-checked factors: stated on the
branch structure (all earlier `return`s not taken) for arbitrary field values -/
theorem validate_overflow_free_on_every_input (p : PParams) :
    p.predictor = 1 ∨
    (p.predictor = 2 ∧ (p.colors < 1 ∨ p.colors > 60)) ∨
    ((10 ≤ p.predictor ∧ p.predictor ≤ 15) ∧ (p.colors < 1 ∨ p.colors > 256)) ∨
    ¬ (p.predictor = 2 ∨ (10 ≤ p.predictor ∧ p.predictor ≤ 15)) ∨
    isBpc p.bpc = false ∨
    (p.columns < 1 ∨ p.columns > (Gen.limits_MaxImageWidth : Int)) ∨
    Reached p := by
  refine Classical.byContradiction fun h => ?_
  simp only [not_or] at h
  obtain ⟨_, hA, hB, hC, hD, hE, hR⟩ := h
  exact hR ⟨by omega, isBpc_cases _ (by simpa using hD), by omega⟩

theorem bitsPerPixel_eq (p : PParams) (h : Reached p) : p.bitsPerPixel = p.colors * p.bpc := by
  obtain ⟨h1, h2, _⟩ := product_bounds p h
  exact wrap64_id _ (by omega) (by omega)

theorem bitsPerRow_eq (p : PParams) (h : Reached p) : p.bitsPerRow = p.colors * p.bpc * p.columns :=
  validate_product_no_overflow p h

/-- sizes derived from validated parameters: no wrap, at least one byte per pixel and per row,
and the reader's three row buffers stay below `4·maxBytesPerRow` -/
theorem predict_buffers_bounded (p : PParams) (hv : p.validate = true) (h1 : p.predictor ≠ 1) :
    1 ≤ p.bytesPerPixel ∧ p.bytesPerPixel ≤ 512 ∧
    1 ≤ p.bytesPerRow ∧ p.bytesPerRow ≤ (Gen.predict_maxBytesPerRow : Int) ∧
    p.bytesPerRow + (p.bytesPerPixel + p.bytesPerRow) + (p.bytesPerRow + 1) ≤ 4 * (Gen.predict_maxBytesPerRow : Int) := by
  obtain ⟨hr, _, hrow⟩ := validate_reached p hv h1
  obtain ⟨b1, b2, b3, b4⟩ := product_bounds p hr
  have hm : (Gen.predict_maxBytesPerRow : Int) = 4194304 := by decide
  unfold PParams.bytesPerPixel PParams.bytesPerRow
  rw [bitsPerPixel_eq p hr, bitsPerRow_eq p hr]
  rw [Int.tdiv_eq_ediv_of_nonneg (by omega)] at hrow
  rw [Int.tdiv_eq_ediv_of_nonneg (by omega), Int.tdiv_eq_ediv_of_nonneg (by omega)]
  omega

/-- ranges of the result of `parseFlate`, for every dictionary -/
structure FlateClamped (f : FFlate) : Prop where
  pred : f.predictor = 1 ∨ f.predictor = 2 ∨ (10 ≤ f.predictor ∧ f.predictor ≤ 15)
  unused : f.predictor = 1 → f.colors = 0 ∧ f.bpc = 0 ∧ f.columns = 0
  colors : f.predictor ≠ 1 → 1 ≤ f.colors ∧ f.colors ≤ maxInt
  bpc : f.predictor ≠ 1 → (f.bpc = 1 ∨ f.bpc = 2 ∨ f.bpc = 4 ∨ f.bpc = 8 ∨ f.bpc = 16)
  columns : f.predictor ≠ 1 → 1 ≤ f.columns ∧ f.columns ≤ 1048576

theorem parseFlate_clamped (d : Dict) : FlateClamped (parseFlate d) := by
  unfold parseFlate
  rw [predictorNone_eq]
  split
  · rename_i h1
    exact ⟨parsePredictor_range d, fun h => absurd h h1, fun _ => parseColors_range d,
      fun _ => parseBpc_range d, fun _ => parseColumns_range d⟩
  · rename_i h1
    exact ⟨Or.inl (Classical.not_not.1 h1), fun _ => ⟨rfl, rfl, rfl⟩, fun h => absurd (Classical.not_not.1 h1) h,
      fun h => absurd (Classical.not_not.1 h1) h, fun h => absurd (Classical.not_not.1 h1) h⟩

/-- for ALL parameters, whatever `validateFlateLZW` accepts is accepted by `predict.Params.Validate` on `predictParams(…)`
(its final check, library commit 879cf71; finding D22 `predict-validate-gap`), so `predict.NewWriter`/`NewReader` cannot
fail on the parameters of a validated Flate/LZW filter -/
theorem validate_ok_encode_ok (v : Nat) (p colors bpc columns : Int)
    (h : validateFlateLZW v p colors bpc columns = true) : (predictParams p colors bpc columns).validate = true :=
  ((validateFlateLZW_iff ..).mp h).encode_ok (validate_iff _)

theorem flate_validate_ok_encode_ok (f : FFlate) (v : Nat) (h : f.validate v = true) : f.pparams.validate = true :=
  validate_ok_encode_ok v _ _ _ _ (flate_validate h)

theorem lzw_validate_ok_encode_ok (f : FLZW) (v : Nat) (h : f.validate v = true) :
    (predictParams f.predictor f.colors f.bpc f.columns).validate = true :=
  validate_ok_encode_ok v _ _ _ _ h

theorem clamped_validateBase (f : FFlate) (hc : FlateClamped f) (v : Nat) (hv : Gen.meta_V1_2 ≤ v)
    (h3 : f.colors > 4 → Gen.meta_V1_3 ≤ v) (h5 : f.bpc = 16 → Gen.meta_V1_5 ≤ v) : f.validateBase v = true := by
  obtain ⟨_, h13, h15⟩ := versions_eq
  rw [flate_validateBase_eq f v hv, validateBase_iff]
  refine ⟨Or.inr hc.pred, ?_⟩
  by_cases h1 : f.predictor = 1
  · rw [if_pos (Or.inr h1)]
    exact hc.unused h1
  · have := hc.pred
    have := hc.bpc h1
    rw [if_neg (by omega)]
    exact ⟨Or.inr ⟨(hc.colors h1).1, by omega⟩, by omega, Or.inr (hc.columns h1), trivial⟩

/-- for EVERY `/DecodeParms` dictionary the parsed filter passes `FilterFlate.validate`'s own checks (`validateBase`) from
PDF 1.5 on (below: `parse_clamps_flate_old`).  `validate` also applies the predictor's limits (library commit 879cf71),
which parsing does not clamp to: `parse_validate_iff` -/
theorem parse_clamps_flate (d : Dict) (v : Nat) (hv : Gen.meta_V1_5 ≤ v) : (parseFlate d).validateBase v = true := by
  obtain ⟨h12, h13, h15⟩ := versions_eq
  exact clamped_validateBase _ (parseFlate_clamped d) v (by omega) (fun _ => by omega) (fun _ => hv)

theorem parse_clamps_flate_old (d : Dict) (v : Nat) (hv : Gen.meta_V1_2 ≤ v) :
    (parseFlate d).validateBase v = true ∨
    ((parseFlate d).colors > 4 ∧ v < Gen.meta_V1_3) ∨ ((parseFlate d).bpc = 16 ∧ v < Gen.meta_V1_5) := by
  by_cases h3 : (parseFlate d).colors > 4 ∧ v < Gen.meta_V1_3; · exact Or.inr (Or.inl h3)
  by_cases h5 : (parseFlate d).bpc = 16 ∧ v < Gen.meta_V1_5; · exact Or.inr (Or.inr h5)
  exact Or.inl (clamped_validateBase _ (parseFlate_clamped d) v hv (by omega) (by omega))

/-- LZW shares the predictor parameters (no version floor of its own) -/
theorem parse_clamps_lzw (d : Dict) (v : Nat) (hv : Gen.meta_V1_5 ≤ v) : (parseLZW d).validateBase v = true := by
  obtain ⟨h12, _, h15⟩ := versions_eq
  have h := parse_clamps_flate d v hv
  rwa [flate_validateBase_eq _ v (by omega)] at h

theorem parse_validate_iff (d : Dict) (v : Nat) (hv : Gen.meta_V1_5 ≤ v) :
    (parseFlate d).validate v = (!usingPredictor (parseFlate d).predictor || (parseFlate d).pparams.validate) := by
  obtain ⟨h12, _, h15⟩ := versions_eq
  have hb := parse_clamps_flate d v hv
  rw [flate_validateBase_eq _ v (by omega)] at hb
  unfold FFlate.validate validateFlateLZW FFlate.pparams
  rw [if_neg (by omega), hb, Bool.true_and]

example : (parseFlate [(kPredictor, .int 15), (kColors, .int 9223372036854775807), (kColumns, .int (-3))]).validateBase 9 = true ∧
    (parseFlate [(kPredictor, .int 15), (kColors, .int 9223372036854775807), (kColumns, .int (-3))]).validate 9 = false ∧
    (parseFlate [(kPredictor, .int 15), (kColors, .int 3), (kColumns, .int 100)]).validate 9 = true := by
  decide +kernel

/-- after parsing, the predictor parameters either fail `Params.Validate` cleanly or reach the
product with range-checked factors: a hostile dictionary cannot make the `int64` product wrap -/
theorem parse_clamps_no_overflow (d : Dict) :
    let p := (parseFlate d).pparams
    p.validate = true → p.predictor ≠ 1 →
    wrap64 (wrap64 (p.colors * p.bpc) * p.columns) = p.colors * p.bpc * p.columns ∧
    p.colors * p.bpc * p.columns ≤ 268435456 := by
  intro p hv h1
  obtain ⟨hr, _, _⟩ := validate_reached p hv h1
  exact ⟨validate_product_no_overflow p hr, (product_bounds p hr).2.2.2⟩

/-- for every `Columns` value the row cap is at least 1 and at most
`MaxImageHeight` — the clamp can never produce 0 ("no limit") -/
theorem geoMax_pos (cols : Int) : 1 ≤ geoMax cols ∧ geoMax cols ≤ (Gen.limits_MaxImageHeight : Int) := by
  have hh : (Gen.limits_MaxImageHeight : Int) = 65536 := by decide
  rw [geoMax_eq, hh]
  omega

/-- for EVERY dictionary the parsed filter passes `FilterCCITTFax.validate`; `Columns` is never the 0 shorthand and `Rows` at
most `ccittMaxRows(Columns)` -/
theorem parse_clamps_ccitt (d : Dict) :
    (parseCCITTFax d).validate = true ∧
    1 ≤ (parseCCITTFax d).columns ∧ (parseCCITTFax d).columns ≤ 1048576 ∧
    0 ≤ (parseCCITTFax d).rows ∧ (parseCCITTFax d).rows ≤ 1048576 ∧
    -1 ≤ (parseCCITTFax d).k ∧ (parseCCITTFax d).k ≤ maxInt ∧
    (parseCCITTFax d).rows ≤ geoMax (parseCCITTFax d).cols := by
  obtain ⟨c0, c1, c2⟩ := parseDim_range d kColumns 1728 (by omega) (by omega)
  obtain ⟨r0, r1, _⟩ := parseDim_range d kRows 0 (by omega) (by omega)
  obtain ⟨d0, d1, _⟩ := parseDim_range d kDamaged 0 (by omega) (by omega)
  obtain ⟨k0, k1⟩ := parseK_range d
  have c3 := c2 (by omega)
  obtain ⟨g1, g2⟩ := geoMax_pos (parseDim d kColumns 1728)
  have hcols : (parseCCITTFax d).cols = parseDim d kColumns 1728 :=
    if_neg (show ¬ parseDim d kColumns 1728 = 0 by omega)
  have hrows : (parseCCITTFax d).rows = min (parseDim d kRows 0) (geoMax (parseDim d kColumns 1728)) := rfl
  have hcl : (parseCCITTFax d).columns = parseDim d kColumns 1728 := rfl
  have hdm : (parseCCITTFax d).damaged = parseDim d kDamaged 0 := rfl
  have hk : (parseCCITTFax d).k = parseK d := rfl
  refine ⟨?_, by omega, by omega, by omega, by omega, by omega, by rw [hk]; exact k1, by rw [hcols]; omega⟩
  rw [ccitt_validate_iff, hcols]
  omega

theorem decodeMaxRows_pos (f : FCCITT) :
    1 ≤ f.decodeMaxRows ∧ f.decodeMaxRows ≤ (Gen.limits_MaxImageHeight : Int) ∧ f.decParams.maxRows ≠ 0 := by
  obtain ⟨h1, h2⟩ := decodeMaxRows_le_geoMax f
  have := decParams_maxRows f
  exact ⟨h1, Int.le_trans h2 (geoMax_pos f.cols).2, by omega⟩

example : (⟨-1, false, false, 1048576, 0, true, false, 0⟩ : FCCITT).decodeMaxRows = 128 := by decide
example : (⟨-1, false, false, 9223372036854775807, 0, true, false, 0⟩ : FCCITT).decodeMaxRows = 1 := by decide

/-- rows × columns after the clamp, for EVERY filter value (any K, EndOfBlock, Rows, Columns ≥ 1,
not only parsed ones): at most `MaxImagePixels` pixels, or one row when a single row is wider -/
theorem clamp_pixels_bound (f : FCCITT) (hc : 1 ≤ f.cols) :
    f.decodeMaxRows * f.cols ≤ max (Gen.limits_MaxImagePixels : Int) f.cols := by
  have hp : (Gen.limits_MaxImagePixels : Int) = 134217728 := by decide
  obtain ⟨hpos, hle⟩ := decodeMaxRows_le_geoMax f
  rw [hp]
  by_cases h1 : 1 < geoMax f.cols
  · have := geoMax_mul_le f.cols h1
    rw [show max f.cols 1 = f.cols by omega] at this
    have : f.decodeMaxRows * f.cols ≤ geoMax f.cols * f.cols := Int.mul_le_mul_of_nonneg_right hle (by omega)
    omega
  · have : f.decodeMaxRows = 1 := by omega
    rw [this]; omega

/-- rows × pixels per row after the clamp is bounded for every parsed dictionary: at most
`MaxImagePixels` pixels (a single row when `Columns` alone exceeds that cannot happen after
parsing: `Columns ≤ 2^20`) -/
theorem ccitt_output_bound (d : Dict) :
    (parseCCITTFax d).decodeMaxRows * (parseCCITTFax d).cols ≤ (Gen.limits_MaxImagePixels : Int) := by
  obtain ⟨_, c1, c2, _⟩ := parse_clamps_ccitt d
  generalize parseCCITTFax d = f at *
  have hp : (Gen.limits_MaxImagePixels : Int) = 134217728 := by decide
  have hcols : f.cols = f.columns := by unfold FCCITT.cols; rw [if_neg (by omega)]
  have := clamp_pixels_bound f (by omega)
  omega

theorem getFiltersArr_length (names parms : List Obj) (fs : List Filter)
    (h : getFiltersArr names parms = .ok fs) : fs.length = names.length := by
  fun_induction getFiltersArr names parms generalizing fs with
  | case1 => cases h; rfl                                          -- no names left
  | case5 _ _ _ _ _ _ _ _ he ih => cases h; simp [ih _ he]         -- a name, its filter, and the rest succeeds
  | _ => cases h                                                   -- an error on the way, or an entry that is not a name

theorem single_length (r : Except Err Filter) (fs : List Filter) (h : single r = .ok fs) : fs.length = 1 := by
  cases r <;> cases h; rfl

theorem getFiltersRaw_bounded (filter parms : Obj) (fs : List Filter) (h : getFiltersRaw filter parms = .ok fs) :
    fs.length ≤ Gen.container_maxFilterChainLength := by
  have h8 : Gen.container_maxFilterChainLength = 8 := by decide
  revert h
  fun_cases getFiltersRaw filter parms <;> intro h
  · cases h; simp                                        -- no /Filter
  · rw [single_length _ _ h, h8]; omega                  -- a name, no /DecodeParms
  · rw [single_length _ _ h, h8]; omega                  -- a name and a dictionary
  · cases h                                              -- a name, /DecodeParms of another type
  · cases h                                              -- an array longer than the cap
  · rw [getFiltersArr_length _ _ _ h]; omega             -- an array, no /DecodeParms
  · rw [getFiltersArr_length _ _ _ h]; omega             -- an array and an array
  · cases h                                              -- an array, /DecodeParms of another type
  · cases h                                              -- /Filter of another type

theorem getFilters_ok {filter parms : Obj} {fs : List Filter} (h : getFilters filter parms = .ok fs) :
    getFiltersRaw filter parms = .ok fs ∧ cryptPositionsOk 0 fs = true := by
  revert h
  fun_cases getFilters filter parms <;> intro h
  · cases h                                             -- the chain is refused
  · rename_i fs' hr hok; cases h; exact ⟨hr, hok⟩       -- accepted, Crypt only in front
  · cases h                                             -- a Crypt filter further back

/-- whatever `/Filter` and `/DecodeParms` are, `GetFilters` returns at most
`maxFilterChainLength` filters -/
theorem getFilters_bounded (filter parms : Obj) (fs : List Filter) (h : getFilters filter parms = .ok fs) :
    fs.length ≤ Gen.container_maxFilterChainLength :=
  getFiltersRaw_bounded _ _ _ (getFilters_ok h).1

theorem cryptPositionsOk_spec (fs : List Filter) (i : Nat) (h : cryptPositionsOk i fs = true)
    (j : Nat) (hj : j < fs.length) (hc : fs[j].isCrypt = true) : i + j = 0 := by
  fun_induction cryptPositionsOk i fs generalizing j with
  | case1 => simp at hj
  | case2 i f rest ih =>
    simp at h
    cases j with
    | zero =>
      simp at hc
      rcases h.1 with h0 | h0
      · rw [hc] at h0; simp at h0
      · omega
    | succ j' => have := ih h.2 j' (by simpa using hj) (by simpa using hc); omega

/-- in every accepted chain a Crypt filter can only be the first entry -/
theorem getFilters_crypt_first (filter parms : Obj) (fs : List Filter) (h : getFilters filter parms = .ok fs)
    (j : Nat) (hj : j < fs.length) (hc : fs[j].isCrypt = true) : j = 0 := by
  have := cryptPositionsOk_spec fs 0 (getFilters_ok h).2 j hj hc
  omega

example : (getFilters (.arr (List.replicate 9 (.name nFlate))) .null).toOption.isNone = true := by decide +kernel
example : (getFilters (.arr [.name nFlate, .name nCrypt]) .null).toOption.isNone = true := by decide
example : ((getFilters (.arr [.name nCrypt, .name nFlate]) .null).toOption.map List.length) = some 2 := by decide

/-- the effective `MaxRows` is a function of `/Columns` and `/Rows` alone: no value of K,
EndOfLine, EncodedByteAlign, EndOfBlock, BlackIs1 or DamagedRowsBeforeError bypasses the clamp -/
theorem decodeMaxRows_depends_only_on_geometry (f g : FCCITT) (hc : f.columns = g.columns) (hr : f.rows = g.rows) :
    f.decodeMaxRows = g.decodeMaxRows := by
  unfold FCCITT.decodeMaxRows FCCITT.cols; rw [hc, hr]

/-- for every K, Columns, Rows (any integer), EndOfBlock, EndOfLine, EncodedByteAlign, BlackIs1 the reader is built with
`1 ≤ MaxRows ≤ geoMax(Columns) ≤ MaxImageHeight`; an explicit `/Rows` survives exactly when it is positive and not above the
geometric cap; all other reader parameters are the encoder's -/
theorem decode_clamp_unconditional (k cols rows dmg : Int) (eol align ieob b1 : Bool) :
    let f : FCCITT := ⟨k, eol, align, cols, rows, ieob, b1, dmg⟩
    1 ≤ f.decParams.maxRows ∧ (f.decParams.maxRows : Int) ≤ geoMax f.cols ∧
    geoMax f.cols ≤ (Gen.limits_MaxImageHeight : Int) ∧
    ((0 < rows ∧ rows ≤ geoMax f.cols) → (f.decParams.maxRows : Int) = rows) ∧
    (¬ (0 < rows ∧ rows ≤ geoMax f.cols) → (f.decParams.maxRows : Int) = geoMax f.cols) ∧
    f.decParams.columns = f.encParams.columns ∧ f.decParams.k = k ∧ f.decParams.ignoreEOB = ieob := by
  intro f
  obtain ⟨h1, h2⟩ := decodeMaxRows_le_geoMax f
  have hd : f.decodeMaxRows = (if rows ≤ 0 ∨ rows > geoMax f.cols then geoMax f.cols else rows) := rfl
  have hm := decParams_maxRows f
  refine ⟨by omega, by omega, (geoMax_pos f.cols).2, ?_, ?_, rfl, rfl, rfl⟩
  · intro h; rw [hm, hd, if_neg (by omega)]
  · intro h; rw [hm, hd, if_pos (by omega)]

/-- one turn of the row loop of `Reader.Read`: no row, or one more row while `numRows` is below a
positive `MaxRows` -/
theorem readRows_cases (r : Rd) (p : CParams) (fuel numRows : Nat) (refLine : Bits) :
    (Rd.readRows r p (fuel + 1) numRows refLine).1 = [] ∨
    ((p.maxRows = 0 ∨ numRows < p.maxRows) ∧
      (Rd.readRows r p (fuel + 1) numRows refLine).1 = (packBits (r.decodeScanLine p refLine).1.line).1 ::
        (Rd.readRows { (r.decodeScanLine p refLine).1 with line := [] } p fuel (numRows + 1)
          (r.decodeScanLine p refLine).2).1) := by
  rw [Rd.readRows]
  by_cases hc : r.err = 0 ∧ (p.maxRows = 0 ∨ numRows < p.maxRows)
  · rw [if_pos hc]
    by_cases he : (r.decodeScanLine p refLine).1.line.isEmpty = true
    · exact Or.inl (congrArg Prod.fst (if_pos he))
    · exact Or.inr ⟨hc.2, congrArg Prod.fst (if_neg he)⟩
  · rw [if_neg hc]; exact Or.inl rfl

/-- the model reader never delivers more rows than `MaxRows` (here `MaxRows > 0`, which
`decode_clamp_unconditional` guarantees for every stream the filter opens) -/
theorem readRows_count (p : CParams) : ∀ (fuel : Nat) (r : Rd) (numRows : Nat) (refLine : Bits),
    0 < p.maxRows → numRows ≤ p.maxRows → (Rd.readRows r p fuel numRows refLine).1.length + numRows ≤ p.maxRows
  | 0, _, _, _, _, h => by simp [Rd.readRows]; exact h
  | fuel + 1, r, n, rl, h0, h => by
    rcases readRows_cases r p fuel n rl with e | ⟨hc, e⟩
    · rw [e]; simp; exact h
    · have := readRows_count p fuel { (r.decodeScanLine p rl).1 with line := [] } (n + 1) (r.decodeScanLine p rl).2 h0
        (by omega)
      rw [e, List.length_cons]; omega

/-- whatever the body and whatever the parameters, the
CCITTFax reader opened by `FilterCCITTFax.Decode` delivers at most `geoMax(Columns)` rows, hence
at most `MaxImageHeight`, and at most `/Rows` when that is in range -/
theorem decode_rows_bounded (f : FCCITT) (data : Bytes) :
    ((decodeRows f.decParams data).1.length : Int) ≤ f.decodeMaxRows ∧
    f.decodeMaxRows ≤ geoMax f.cols ∧ geoMax f.cols ≤ (Gen.limits_MaxImageHeight : Int) := by
  obtain ⟨h1, h2⟩ := decodeMaxRows_le_geoMax f
  have hm := decParams_maxRows f
  have := readRows_count f.decParams (8 * data.length + 8) { win := [], src := data, err := 0, line := [] } 0
    (if f.decParams.k ≠ 0 then List.replicate (f.decParams.lineBytes * 8) (!f.decParams.blackIs1) else [])
    (by omega) (Nat.zero_le _)
  exact ⟨by unfold decodeRows; simp only []; omega, h2, (geoMax_pos f.cols).2⟩

-- 32 one-bit rows (V0 codes) in four bytes, no EOFB: all of them are delivered (a reader whose look-ahead
-- swallows the last five is class `ccitt-noeob`)
example : ((decodeRows (⟨-1, false, false, 8, 65536, true, false, 0⟩ : FCCITT).decParams (List.replicate 4 255)).1.length) = 32 := by
  decide +kernel
example : (⟨-1, false, false, 1048576, 1048576, true, false, 0⟩ : FCCITT).decParams.maxRows = 128 := by decide

/-- `limit := min(budget.Available(), int64(limits.MaxJBIG2PageBytes)+1)` (filter.go): the number
of bytes `FilterJBIG2.Decode` may buffer from the layers below it -/
def jbig2InputCap (available : Int) : Int := min available ((Gen.limits_MaxJBIG2PageBytes : Int) + 1)

/-- the cap never exceeds what is left of the stream budget, nor the page size limit + 1 -/
theorem jbig2_input_cap_bounded (available : Int) :
    jbig2InputCap available ≤ available ∧ jbig2InputCap available ≤ (Gen.limits_MaxJBIG2PageBytes : Int) + 1 := by
  unfold jbig2InputCap; omega

/-- for a raw stream of `rawLen` bytes with a fresh budget the decoder pulls at most
`StreamBudget(rawLen) + 1` bytes (the cap and one probe byte), whatever the upstream offers -/
theorem jbig2_pull_le_budget (rawLen : Nat) :
    jbig2InputCap (streamBudget rawLen) + 1 ≤ (streamBudget rawLen : Int) + 1 := by
  have := (jbig2_input_cap_bounded (streamBudget rawLen)).1; omega

/-- the constants and inline literals the cap is written with -/
theorem jbig2_cap_literals_pinned :
    Gen.filter_FilterJBIG2_Decode_lits = [1, 1, 0, 255] ∧ Gen.limits_MaxJBIG2PageBytes = 67108864 ∧
    Gen.limits_MaxJBIG2GlobalsBytes = 8388608 := by decide

example : jbig2InputCap (streamBudget 300) = (Gen.limits_StreamBudgetBase : Int) + 307200 := by decide

/-- The models repeat the integer literals that the Go code writes inline (`p.Colors > 60`, `val <= 1<<20`, the bit widths of
`peekBits`, the predictor numbers, …).  The extractor lists the literals of each modelled function in source order; this
theorem pins the lists the models were written against, so that a changed inline bound breaks the build. -/
theorem inline_literals_pinned :
    Gen.limits_StreamBudget_lits = [0, 0] ∧
    Gen.predict_Params_Validate_lits = [1, 2, 1, 60, 10, 11, 12, 13, 14, 15, 1, 256, 1, 2, 4, 8, 16, 1, 7, 8] ∧
    Gen.predict_Params_bytesPerRow_lits = [7, 8] ∧
    Gen.predict_Params_bytesPerPixel_lits = [7, 8] ∧
    Gen.predict_paethPredictor_lits = [] ∧
    Gen.predict_writer_processRow_lits = [2, 10, 0, 11, 1, 12, 2, 13, 3, 14, 4, 15] ∧
    Gen.predict_writer_filterRow_lits = [0, 0, 1, 2, 3, 2, 4] ∧
    Gen.predict_reader_decodePNGRow_lits = [0, 0, 1, 0, 0, 1, 2, 3, 2, 4] ∧
    Gen.filter_parseFlate_lits = [0, 1, 1, 8, 1, 2, 4, 8, 16, 1, 1, 1048576] ∧
    Gen.filter_parseLZW_lits = [0] ∧
    Gen.filter_parseCCITTFax_lits = [1048576, 1728, 0, 1, 0, 0, 0] ∧
    Gen.filter_validateFlateLZW_lits = [0, 0, 0, 0, 0, 1, 4, 0, 1, 2, 4, 8, 16, 0, 1, 1048576] ∧
    Gen.filter_predictParams_lits = [0, 1, 0, 8, 0, 1, 0, 1] ∧
    Gen.filter_FilterFlate_toDict_lits = [0, 0, 1, 0, 8, 0, 1, 0] ∧
    Gen.filter_FilterCCITTFax_Info_lits = [0, 0, 1728, 0, 0, 0] ∧
    Gen.filter_FilterCCITTFax_Decode_lits = [1, 1, 0] ∧
    Gen.filter_FilterCCITTFax_Encode_lits = [0] ∧
    Gen.filter_FilterCCITTFax_validate_lits = [1048576, 0, 0, 1728, 0, 0] ∧
    Gen.filter_FilterCCITTFax_toParams_lits = [0, 1728] ∧
    Gen.filter_FlatePredictor_isValid_lits = [0] ∧
    Gen.filter_appendFilter_lits = [0, 0, 0, 0, 0] ∧
    Gen.ccitt_BufferBytes_lits = [0, 1728, 0, 0, 7, 8, 0, 8, 2] ∧
    Gen.ccitt_NewReaderRaw_lits = [0, 1728, 0, 7, 8, 0, 255, 0, 0] ∧
    Gen.ccitt_Reader_decodeG4ScanLine_lits = [24, 4097, 24] ∧
    Gen.ccitt_Reader_decodeG3ScanLine1D_lits = [0, 0, 0, 0, 6] ∧
    Gen.ccitt_Reader_decodeG3ScanLine2D_lits = [11, 0, 11, 1, 1, 11, 0, 0] ∧
    Gen.ccitt_Reader_decodeFullRun_lits = [0, 64, 2] ∧
    Gen.ccitt_Reader_peekBits_lits = [24, 8, 24, 8, 32] ∧
    Gen.ccitt_Reader_consumeBits_lits = [] ∧
    Gen.ccitt_Reader_decodeRun_lits = [12, 13, 0, 0] ∧
    Gen.ccitt_Reader_decode2D_lits = [0, 0, 1, 2, 1, 7, 11, 0, 0, 1, 0, 1, 0, 1, 1] ∧
    Gen.ccitt_NewWriter_lits = [0, 1728, 0, 7, 8, 0, 0, 255, 0] ∧
    Gen.ccitt_Writer_Close_lits = [0, 4097, 24, 0, 6, 1, 12, 0, 6, 3, 13] ∧
    Gen.ccitt_Writer_writeRow_lits = [8, 0, 1, 8, 8, 8, 1, 1, 0, 0, 1, 12, 1, 1, 1, 0, 0, 1, 0, 1, 12, 0, 0] ∧
    Gen.ccitt_Writer_encode1DRun_lits = [2560, 1, 2560, 1792, 1792, 64, 28, 64, 64, 64, 1, 64] ∧
    Gen.ccitt_Writer_encode2DLineG3_lits = [1, 0, 0, 1, 4, 3, 3, 0, 1, 1, 1, 3, 3, 2, 3, 6, 3, 3, 7, 1, 2, 3, 2, 2, 6, 3, 2, 7, 1, 1, 3, 0, 1] := by decide +kernel

end PdfVerif.C08fb
