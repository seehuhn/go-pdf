import PdfVerif.Props.C13ccb
/-!
# C13 (part 3) — `NewToUnicodeFile` followed by `Lookup`

The run compression of `NewToUnicodeFile` (`font/cmap/tu-mapping.go`) is lossless for every
finite map from codes to texts: value lists and the single-start form (`nextString`) alike.

A ToUnicode file is read as a file of the generic kind (`tview`; `GFile`, Lemmas/CMapFile.lean): a range gives
position `i` the value `valueAt values i`; a range without values answers nothing.
-/
namespace PdfVerif.C13ccc
open PdfVerif PdfVerif.CC PdfVerif.CMap PdfVerif.C13cc PdfVerif.C13ccd PdfVerif.C13ccb

/-- the value a reader computes for position `i` of a bfrange -/
def valueAt (values : List Text) (i : Nat) : Option Text :=
  match values with
  | [] => none
  | v0 :: _ =>
    match values[i]? with
    | some v => some v
    | none => some (nextString v0 i)

def tsingle (s : TUSingle) : Bytes × Text := (s.code, s.value)

/-- `valueAt` with the case distinction on the list made once, outside the position: the shape `GRange.val` asks for -/
def tuVal : List Text → Option (Nat → Text)
  | [] => none
  | v0 :: vs => some fun i => match (v0 :: vs)[i]? with
    | some v => v
    | none => nextString v0 i

def trange (r : TURange) : GRange Text := ⟨r.first, r.last, tuVal r.values⟩

def tview (f : TUFile) : GFile Text := ⟨f.singles.map tsingle, f.ranges.map trange⟩

def titem : Sum TUSingle TURange → GItem Text := Sum.map tsingle trange

theorem tview_singles (f : TUFile) : (tview f).singles = f.singles.map tsingle := rfl

theorem tview_ranges (f : TUFile) : (tview f).ranges = f.ranges.map trange := rfl

theorem valueAt_eq_tuVal (values : List Text) (i : Nat) : valueAt values i = (tuVal values).map (· i) := by
  cases values with
  | nil => rfl
  | cons v0 vs => simp only [valueAt, tuVal, Option.map_some]; cases (v0 :: vs)[i]? <;> rfl

theorem trange_hit (r : TURange) (b : Bytes) (v : Text) :
    (trange r).hit b = some v ↔ ∃ i, rangeIndex r.first r.last b = some i ∧ valueAt r.values i = some v := by
  rw [GRange.hit_eq_some]
  simp only [trange, valueAt_eq_tuVal, Option.map_eq_some_iff]
  exact ⟨fun ⟨g, i, hg, hi, hv⟩ => ⟨i, hi, g, hg, hv.symm⟩, fun ⟨i, hi, g, hg, hv⟩ => ⟨g, i, hg, hi, hv.symm⟩⟩

theorem findTUSingle_eq (b : Bytes) (l : List TUSingle) :
    findTUSingle b l = (l.map tsingle).findSome? fun s => if s.1 == b then some s.2 else none := by
  induction l with
  | nil => rfl
  | cons s l ih => simp only [findTUSingle, List.map_cons, List.findSome?_cons, ih, tsingle]; split <;> rfl

theorem findTURange_eq (b : Bytes) (l : List TURange) : findTURange b l = (l.map trange).findSome? (·.hit b) := by
  induction l with
  | nil => rfl
  | cons r l ih =>
    simp only [findTURange, List.map_cons, List.findSome?_cons, ih, GRange.hit_eq, trange]
    cases hv : r.values with
    | nil => rfl
    | cons v0 vs =>
      cases rangeIndex r.first r.last b with
      | none => rfl
      | some i => simp only [tuVal, Option.bind_some, Option.map_some]; cases (v0 :: vs)[i]? <;> rfl

theorem tuLookup_cons (f : TUFile) (parents : TUChain) (b : Bytes) :
    tuLookup (f :: parents) b = ((tview f).lookup b).or (tuLookup parents b) := by
  simp only [tuLookup, GFile.lookup_eq, tview_singles, tview_ranges, ← findTUSingle_eq, ← findTURange_eq]
  cases findTUSingle b f.singles with
  | some v => rfl
  | none => cases findTURange b f.ranges <;> rfl

theorem tuLookup_one (f : TUFile) (b : Bytes) : tuLookup [f] b = (tview f).lookup b := by
  rw [tuLookup_cons]; simp [tuLookup]

theorem tuNeedsList_false (v0 : Text) : ∀ (vs : List Text) (j : Nat), tuNeedsList v0 j vs = false →
    ∀ i v, vs[i]? = some v → v = nextString v0 (j + i) := by
  intro vs
  induction vs with
  | nil => intro j _ i v h; simp at h
  | cons w vs ih =>
    intro j h i v hv
    simp only [tuNeedsList] at h
    split at h
    · cases h
    · rename_i hw
      cases i with
      | zero => simp at hv; subst hv; simpa using hw
      | succ i =>
        rw [ih (j + 1) h i v (by simpa using hv), Nat.add_assoc, Nat.add_comm 1 i]

/-- `c` stands for the guard `tuLastByteOverflows …` of `tuEmit`: it can only force the full list, so any `c` will do. -/
theorem valueAt_emit (v0 : Text) (more : List Text) (c : Bool) (j : Nat) (hj : j ≤ more.length) :
    valueAt (if c || tuNeedsList v0 1 more then v0 :: more else [v0]) j = (v0 :: more)[j]? := by
  split
  · have hlt : j < (v0 :: more).length := Nat.lt_succ_of_le hj
    simp [valueAt, List.getElem?_eq_getElem hlt]
  · rename_i hnl
    cases j with
    | zero => rfl
    | succ j =>
      have hlt : j < more.length := Nat.lt_of_succ_le hj
      have := tuNeedsList_false v0 more 1 (by simpa using (Bool.or_eq_false_iff.mp (by simpa using hnl)).2) j _
        (List.getElem?_eq_getElem hlt)
      simp [valueAt, List.getElem?_eq_getElem hlt, this, Nat.add_comm]

theorem tuEmit_spec (key : Bytes) (start : Entry Text) (lastX : Nat) (more : List Text)
    (hlast : lastX = start.x + more.length) (h256 : lastX < 256) :
    (∀ b v, (titem (tuEmit key start lastX more)).cov b v ↔
      ∃ j, (start.val :: more)[j]? = some v ∧ b = key ++ [start.x + j]) ∧
    (titem (tuEmit key start lastX more)).size = more.length + 1 := by
  unfold tuEmit
  cases more with
  | nil =>
    refine ⟨fun b v => ?_, rfl⟩
    simp only [titem, tsingle, Sum.map_inl, GItem.cov_inl, Prod.mk.injEq]
    constructor
    · rintro ⟨rfl, rfl⟩; exact ⟨0, rfl, rfl⟩
    · rintro ⟨j, hj, rfl⟩
      cases j with
      | zero => exact ⟨rfl, by simpa using hj⟩
      | succ j => simp at hj
  | cons m more =>
    refine ⟨fun b v => ?_, ?_⟩
    · simp only [titem, Sum.map_inr, GItem.cov_inr, trange_hit, rangeIndex_append key _ _ h256]
      constructor
      · rintro ⟨i, ⟨hi, rfl⟩, hv⟩
        rw [valueAt_emit _ _ _ i (Nat.le_of_add_le_add_left (hlast ▸ hi))] at hv
        exact ⟨i, hv, rfl⟩
      · rintro ⟨j, hj, rfl⟩
        have hlt : j ≤ (m :: more).length := Nat.le_of_lt_succ (List.getElem?_eq_some_iff.mp hj).1
        exact ⟨j, ⟨hlast ▸ Nat.add_le_add_left hlt _, rfl⟩, by rw [valueAt_emit _ _ _ j hlt]; exact hj⟩
    · have hne : ∀ (b : Bool), (tuVal (if b = true then start.val :: m :: more else [start.val])).isSome = true := by
        intro b; cases b <;> rfl
      simp only [titem, trange, Sum.map_inr, GItem.size_inr]
      rw [GRange.count_of_isSome _ (hne _), rangeCount_append key _ _ (by omega : start.x ≤ lastX)]
      omega

theorem exists_getElem?_concat {α : Type} (l : List α) (a v : α) (Q : Nat → Prop) :
    (∃ j, (l ++ [a])[j]? = some v ∧ Q j) ↔ (∃ j, l[j]? = some v ∧ Q j) ∨ (Q l.length ∧ v = a) := by
  constructor
  · rintro ⟨j, hj, hq⟩
    by_cases hlt : j < l.length
    · exact .inl ⟨j, by rwa [List.getElem?_append_left hlt] at hj, hq⟩
    · have hjl := (List.getElem?_eq_some_iff.mp hj).1
      rw [List.length_append, List.length_singleton] at hjl
      have : j = l.length := Nat.le_antisymm (Nat.le_of_lt_succ hjl) (Nat.not_lt.mp hlt)
      subst this
      exact .inr ⟨hq, by simpa using hj.symm⟩
  · rintro (⟨j, hj, hq⟩ | ⟨hq, rfl⟩)
    · exact ⟨j, by rw [List.getElem?_append_left (List.getElem?_eq_some_iff.mp hj).1]; exact hj, hq⟩
    · exact ⟨l.length, by simp, hq⟩

theorem exists_getElem?_singleton {α : Type} (a v : α) (Q : Nat → Prop) :
    (∃ j, [a][j]? = some v ∧ Q j) ↔ Q 0 ∧ v = a :=
  (exists_getElem?_concat [] a v Q).trans (or_iff_right fun ⟨_, h, _⟩ => by cases h)

/-- The invariant of the Go loop: `start` is `info[start]`, `prevX` is `info[i-1].x`, `moreRev` holds the texts of
`info[start+1 … i-1]`, last first; the pending run consists of the entries `start.x + j ↦ (start.val :: moreRev.reverse)[j]`. -/
theorem tuRuns_renders (key : Bytes) (start : Entry Text) (prevX : Nat) (moreRev : List Text) (rest : List (Entry Text))
    (hp : prevX = start.x + moreRev.length) (h256 : prevX < 256) (hrest : ∀ e ∈ rest, prevX ≤ e.x ∧ e.x < 256)
    (hs : rest.Pairwise (fun a b => a.x ≤ b.x)) :
    Renders key ((tuRuns key start prevX moreRev rest).map titem)
      (fun b v => ∃ j, (start.val :: moreRev.reverse)[j]? = some v ∧ b = key ++ [start.x + j])
      (moreRev.length + 1) rest := by
  -- the three exits of `tuRuns`: end of the group, run closed, run continued
  fun_induction tuRuns key start prevX moreRev rest with
  | case1 start prevX moreRev =>
    have he := tuEmit_spec key start prevX moreRev.reverse (by rw [List.length_reverse]; exact hp) h256
    rw [List.length_reverse] at he
    exact .single he
  | case2 start prevX moreRev e rest hcut ih =>
    obtain ⟨hle, he256⟩ := hrest e List.mem_cons_self
    obtain ⟨hes, hs'⟩ := List.pairwise_cons.mp hs
    have := ih rfl he256 (fun a ha => ⟨hes a ha, (hrest a (List.mem_cons_of_mem _ ha)).2⟩) hs'
    simp only [List.reverse_nil, exists_getElem?_singleton, Nat.add_zero, List.length_nil, Nat.zero_add] at this
    have he := tuEmit_spec key start prevX moreRev.reverse (by rw [List.length_reverse]; exact hp) h256
    rw [List.length_reverse] at he
    exact .cons he ⟨fun b v => by rw [this.1], this.2⟩
  | case3 start prevX moreRev e rest hcont ih =>
    obtain ⟨hle, he256⟩ := hrest e List.mem_cons_self
    obtain ⟨hes, hs'⟩ := List.pairwise_cons.mp hs
    simp only [bne_iff_ne, ne_eq, Decidable.not_not] at hcont
    have hx : e.x = start.x + (moreRev.reverse.length + 1) := by
      rw [succ_byte hle he256 hcont, hp, List.length_reverse, Nat.add_assoc]
    -- `e` moves from the entries to come to the end of the run
    obtain ⟨c, s⟩ := ih (by simpa using hx) he256 (fun a ha => ⟨hes a ha, (hrest a (List.mem_cons_of_mem _ ha)).2⟩) hs'
    refine ⟨fun b v => ?_, by rw [s, List.length_cons, List.length_cons]; omega⟩
    rw [c]
    simp only [List.reverse_cons, ← List.cons_append, exists_getElem?_concat, List.mem_cons, exists_eq_or_imp,
      List.length_cons, hx, or_assoc]

theorem tuRunsOfGroup_renders (key : Bytes) (G : List (Entry Text)) (hs : G.Pairwise fun a b => a.x ≤ b.x)
    (h256 : ∀ e ∈ G, e.x < 256) : Renders key ((tuRunsOfGroup key G).map titem) (fun _ _ => False) 0 G := by
  cases G with
  | nil => exact ⟨fun b v => by simp [tuRunsOfGroup], rfl⟩
  | cons e rest =>
    obtain ⟨hes, hs'⟩ := List.pairwise_cons.mp hs
    have := tuRuns_renders key e e.x [] rest rfl (h256 e List.mem_cons_self)
      (fun a ha => ⟨hes a ha, h256 a (List.mem_cons_of_mem _ ha)⟩) hs'
    simp only [List.reverse_nil, exists_getElem?_singleton, Nat.add_zero, List.length_nil, Nat.zero_add] at this
    exact .start (items := (tuRuns key e e.x [] rest).map titem) ⟨fun b v => by rw [this.1], this.2⟩

def tuOutOf (es : List (Entry Text)) : List (Sum TUSingle TURange) :=
  (sortedKeys es).flatMap fun key => tuRunsOfGroup key (groupOf es key)

theorem tuOutOf_renders (es : List (Entry Text)) (hes : ∀ e ∈ es, e.x < 256) :
    (∀ b v, (∃ item ∈ (tuOutOf es).map titem, item.cov b v) ↔ ∃ e ∈ es, b = e.key ++ [e.x] ∧ v = e.val) ∧
    (((tuOutOf es).map titem).map GItem.size).sum = es.length := by
  rw [tuOutOf, List.map_flatMap]
  exact groups_renders (fun key G => (tuRunsOfGroup key G).map titem) (fun e => e.x < 256) tuRunsOfGroup_renders es hes

theorem tuEntries_rel {codec : Codec} {data : List (Nat × Text)} {es : List (Entry Text)}
    (h : tuEntries codec data = .ok es) : Entries codec (fun _ _ => False) data es := by
  fun_induction tuEntries codec data generalizing es with
  | case1 => cases h; exact .nil
  | case2 | case3 | case4 => cases h
  | case5 code t rest buf hbuf es' hes' key x hsplit ih =>
    cases h
    cases splitLast_eq buf key x hsplit
    exact .keep hbuf id (ih hes')

theorem tview_newToUnicodeFile {csr : CSR} {data : List (Nat × Text)} {f : TUFile} {codec : Codec}
    (hc : newCodec csr = .ok codec) (h : newToUnicodeFile csr data = .ok f) :
    ∃ es, tuEntries codec data = .ok es ∧ (∀ e ∈ es, e.x < 256) ∧ tview f = GFile.ofItems ((tuOutOf es).map titem) := by
  unfold newToUnicodeFile at h
  rw [hc] at h
  simp only at h
  split at h
  · cases h
  · rename_i es hes
    cases h
    refine ⟨es, hes, fun e he => ?_, by rw [titem, GFile.ofItems_map]; rfl⟩
    obtain ⟨p, _, h1, _⟩ := ((tuEntries_rel hes).mem_iff _ _).mp ⟨e, he, rfl, rfl⟩
    exact (appendCode_allBytes hc h1).1 e.x (by simp)

theorem newToUnicodeFile_maps {csr : CSR} {data : List (Nat × Text)} {f : TUFile} {codec : Codec}
    (hc : newCodec csr = .ok codec) (h : newToUnicodeFile csr data = .ok f) (bytes : Bytes) (v : Text) :
    (tview f).Maps bytes v ↔ ∃ p ∈ data, codec.appendCode p.1 = .ok bytes ∧ p.2 = v := by
  obtain ⟨es, hes, hok, hv⟩ := tview_newToUnicodeFile hc h
  rw [hv, GFile.ofItems_maps, (tuOutOf_renders es hok).1, (tuEntries_rel hes).mem_iff]
  simp only [not_false_eq_true, and_true]

theorem newToUnicodeFile_maps_nil {csr : CSR} {data : List (Nat × Text)} {f : TUFile} {codec : Codec}
    (hc : newCodec csr = .ok codec) (h : newToUnicodeFile csr data = .ok f) (v : Text) : ¬ (tview f).Maps [] v := by
  obtain ⟨es, _, hok, hv⟩ := tview_newToUnicodeFile hc h
  rw [hv, GFile.ofItems_maps, (tuOutOf_renders es hok).1]
  rintro ⟨e, _, h0, _⟩
  simp at h0

theorem lookup_newToUnicodeFile {csr : CSR} {data : List (Nat × Text)} {f : TUFile} {codec : Codec}
    (hc : newCodec csr = .ok codec) (h : newToUnicodeFile csr data = .ok f)
    (hfun : ∀ p ∈ data, ∀ q ∈ data, codec.appendCode p.1 = codec.appendCode q.1 → p.2 = q.2) :
    (∀ p ∈ data, ∃ bs, codec.appendCode p.1 = .ok bs ∧ (tview f).lookup bs = some p.2) ∧
    (∀ bs, (∀ p ∈ data, codec.appendCode p.1 ≠ .ok bs) → (tview f).lookup bs = none) := by
  obtain ⟨l1, l2⟩ := (tview f).lookup_of_maps data codec.appendCode (fun _ _ => False)
    (fun b v => by rw [newToUnicodeFile_maps hc h]; simp) hfun
  obtain ⟨es, hes, _⟩ := tview_newToUnicodeFile hc h
  refine ⟨fun p hp => ?_, l2⟩
  obtain ⟨bs, hbs⟩ := (tuEntries_rel hes).encodes p hp
  exact ⟨bs, hbs, (l1 p hp bs hbs).resolve_right fun h => h.2⟩

/-- For every accepted code space and every finite map from codes to texts (codes with equal byte strings carry equal
texts — a Go map with canonical codes), the file built by `NewToUnicodeFile` answers `Lookup` with the mapped text for
every mapped code and with "absent" for every other byte string: value lists and the single-start form alike.  (The
single-start form is only chosen when every value equals `nextString(first, offset)`, the value `Lookup` computes: the
run test of D13's fix.) -/
theorem tounicode_lookup (csr : CSR) (data : List (Nat × Text)) (f : TUFile) (codec : Codec)
    (hc : newCodec csr = .ok codec) (h : newToUnicodeFile csr data = .ok f)
    (hfun : ∀ p ∈ data, ∀ q ∈ data, codec.appendCode p.1 = codec.appendCode q.1 → p.2 = q.2) :
    (∀ p ∈ data, ∃ bs, codec.appendCode p.1 = .ok bs ∧ tuLookup [f] bs = some p.2) ∧
    (∀ bs, (∀ p ∈ data, codec.appendCode p.1 ≠ .ok bs) → tuLookup [f] bs = none) := by
  simpa only [tuLookup_one] using lookup_newToUnicodeFile hc h hfun

/-- non-vacuity and the D13 witness: `41↦U+D7FF, 42↦U+FFFD, 43↦U+FFFE` is stored as a value list
(the single-start form would read back `U+FFFD` for `43`) -/
example : tuRunsOfGroup [] [⟨[], 0x41, [0xD7FF]⟩, ⟨[], 0x42, [0xFFFD]⟩, ⟨[], 0x43, [0xFFFE]⟩] =
    [.inr ⟨[0x41], [0x43], [[0xD7FF], [0xFFFD], [0xFFFE]]⟩] := by decide +kernel
example : tuRunsOfGroup [] [⟨[], 0x41, [0x41]⟩, ⟨[], 0x42, [0x42]⟩, ⟨[], 0x43, [0x43]⟩] =
    [.inr ⟨[0x41], [0x43], [[0x41]]⟩] := by decide +kernel
example : nextString [0xD7FF] 2 = [0xFFFD] := by decide +kernel

end PdfVerif.C13ccc
