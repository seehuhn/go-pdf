import PdfVerif.Model.CNTBufScan
import PdfVerif.Props.C15cnt
/-!
# C15 (and C05, robustness) — the 512-byte buffer of the content scanner refines the whole-input model

`Model/CNTBuf.lean` models `scanner.{buf, pos, used, err}`, `refill` (one `Read` per call) and the leaf
operations on top of it for fault-free readers with arbitrary chunking (any sequence of chunk sizes ≥ 1,
`io.EOF` together with the last chunk or on its own).  With `view s = buf[pos:] ++ unread` each operation
is proved to be the corresponding list function of `view`, for every chunking (`refill_spec`, `peek_spec`,
`readByte_spec`, `skipN_spec`, `peekN_spec`, `skipWhiteSpace_spec`, `tryHex_spec`, `checkEIB_spec`,
`iiLoopB_spec`); no loop runs out of fuel (`hang` is never produced).  `C15cnty` lifts this to the whole
reader.
-/
namespace PdfVerif.C15cntu
open PdfVerif PdfVerif.CNT PdfVerif.CNTB

/-- invariant of the buffered scanner on a fault-free reader (`used` of the Go struct is `buf.length`) -/
structure Inv (s : BS) : Prop where
  pos_le : s.pos ≤ s.buf.length
  size : s.buf.length ≤ bufSize
  eof_rem : s.eof = true → s.rem = []

def avail (s : BS) : Nat := s.buf.length - s.pos

theorem inv_init (data : Bytes) : Inv (BS.init data) := by
  constructor <;> simp [BS.init, bufSize]

theorem view_init (data : Bytes) : view (BS.init data) = data := by
  simp [view, BS.init]

theorem refill_eof (ch : Chunking) (s : BS) (he : s.eof = true) : refill ch s = (s, true) := by
  simp [refill, he]

theorem refill_empty (ch : Chunking) (s : BS) (he : s.eof = false) (hr : s.rem = []) :
    refill ch s = ({ buf := s.buf.drop s.pos, pos := 0, rem := [], calls := s.calls + 1, eof := true }, true) := by
  simp [refill, he, srcRead, hr]

/-- number of bytes one `Read` delivers into a window with `want` free bytes -/
def chunkLen (ch : Chunking) (calls want : Nat) : Nat := min (max 1 (ch.chunk calls)) want

theorem chunkLen_pos (ch : Chunking) (calls want : Nat) (h : 0 < want) : 1 ≤ chunkLen ch calls want := by
  have : 1 ≤ max 1 (ch.chunk calls) := Nat.le_max_left _ _
  simp only [chunkLen]; omega

theorem chunkLen_le (ch : Chunking) (calls want : Nat) : chunkLen ch calls want ≤ want := by
  simp only [chunkLen]; omega

theorem refill_data (ch : Chunking) (s : BS) (he : s.eof = false) (hr : s.rem ≠ [])
    (hw : 0 < bufSize - (s.buf.length - s.pos)) :
    refill ch s =
      ({ buf := s.buf.drop s.pos ++ s.rem.take (chunkLen ch s.calls (bufSize - (s.buf.length - s.pos))),
         pos := 0, rem := s.rem.drop (chunkLen ch s.calls (bufSize - (s.buf.length - s.pos))),
         calls := s.calls + 1,
         eof := ch.eofWithData && (s.rem.drop (chunkLen ch s.calls (bufSize - (s.buf.length - s.pos)))).isEmpty },
       false) := by
  have hr' : s.rem.isEmpty = false := by cases hs : s.rem with | nil => exact absurd hs hr | cons a t => rfl
  have hw' : ¬ (bufSize - (s.buf.length - s.pos) = 0) := by omega
  have hlen : 1 ≤ s.rem.length := by cases hs : s.rem with | nil => exact absurd hs hr | cons a t => simp
  have hn := chunkLen_pos ch s.calls _ hw
  have hemp : (s.rem.take (chunkLen ch s.calls (bufSize - (s.buf.length - s.pos)))).isEmpty = false := by
    cases ht : s.rem.take (chunkLen ch s.calls (bufSize - (s.buf.length - s.pos))) with
    | nil =>
      have : (s.rem.take (chunkLen ch s.calls (bufSize - (s.buf.length - s.pos)))).length = 0 := by rw [ht]; rfl
      simp only [List.length_take] at this
      omega
    | cons a t => rfl
  simp only [chunkLen] at hemp ⊢
  simp only [refill, he, Bool.false_eq_true, if_false, srcRead, hr', List.length_drop, hw', hemp,
    Bool.false_and]

theorem refill_full (ch : Chunking) (s : BS) (he : s.eof = false) (hr : s.rem ≠ [])
    (hw : bufSize - (s.buf.length - s.pos) = 0) :
    refill ch s = ({ buf := s.buf.drop s.pos, pos := 0, rem := s.rem, calls := s.calls + 1, eof := false }, false) := by
  have hr' : s.rem.isEmpty = false := by cases hs : s.rem with | nil => exact absurd hs hr | cons a t => rfl
  simp [refill, he, srcRead, hr', hw]

/-- `refill` keeps the invariant and the remaining input; reports an error only at the end
of the data (without adding bytes); otherwise, if the window was not full, at least one byte
becomes available — for every chunking. -/
theorem refill_spec (ch : Chunking) (s : BS) (h : Inv s) :
    Inv (refill ch s).1 ∧ view (refill ch s).1 = view s ∧
    ((refill ch s).2 = true → s.rem = [] ∧ avail (refill ch s).1 = avail s ∧ (refill ch s).1.rem = []) ∧
    ((refill ch s).2 = false → avail s < bufSize → avail s < avail (refill ch s).1) := by
  have hsz := h.size
  have hpl := h.pos_le
  cases he : s.eof with
  | true =>
    rw [refill_eof ch s he]
    exact ⟨h, rfl, fun _ => ⟨h.eof_rem he, rfl, h.eof_rem he⟩, by simp⟩
  | false =>
    by_cases hr : s.rem = []
    · rw [refill_empty ch s he hr]
      refine ⟨⟨by simp, by simp; omega, by simp⟩, by simp [view, hr], ?_, by simp⟩
      intro _
      exact ⟨hr, by simp [avail], rfl⟩
    · by_cases hw : 0 < bufSize - (s.buf.length - s.pos)
      · rw [refill_data ch s he hr hw]
        have hn := chunkLen_pos ch s.calls _ hw
        have hn2 := chunkLen_le ch s.calls (bufSize - (s.buf.length - s.pos))
        have hlen : 1 ≤ s.rem.length := by cases hs : s.rem with | nil => exact absurd hs hr | cons a t => simp
        refine ⟨⟨by simp, ?_, ?_⟩, by simp [view], by simp, ?_⟩
        · simp only [List.length_append, List.length_take, List.length_drop]; omega
        · simp
        · intro _ _
          simp only [avail, List.length_append, List.length_take, List.length_drop, Nat.sub_zero]
          omega
      · -- the window is full: `Read` gets an empty slice
        rw [refill_full ch s he hr (by omega)]
        refine ⟨⟨by simp, by simp; omega, by simp⟩, by simp [view], by simp, ?_⟩
        intro _ hlt
        simp only [avail] at hlt
        omega

theorem view_of_getElem (s : BS) (c : Nat) (h : s.buf[s.pos]? = some c) :
    ∃ t, view s = c :: t ∧ s.pos < s.buf.length := by
  have hlt : s.pos < s.buf.length := by
    by_cases hl : s.pos < s.buf.length
    · exact hl
    · simp [List.getElem?_eq_none (by omega : s.buf.length ≤ s.pos)] at h
  have hc : s.buf[s.pos] = c := by
    rw [List.getElem?_eq_getElem hlt] at h
    simpa using h
  refine ⟨s.buf.drop (s.pos + 1) ++ s.rem, ?_, hlt⟩
  simp only [view]
  rw [List.drop_eq_getElem_cons hlt, hc]
  simp

/-- the head of the remaining input -/
def headRes (l : Bytes) : PeekRes :=
  match l with
  | [] => .eof
  | c :: _ => .byte c

/-- `Peek` refines "look at the head of the remaining input", whatever the chunking, and
never hangs (two iterations suffice: at most one refill is needed). -/
theorem peek_spec (ch : Chunking) : ∀ (fuel : Nat) (s : BS), Inv s → 2 ≤ fuel →
    Inv (peek ch fuel s).1 ∧ view (peek ch fuel s).1 = view s ∧ (peek ch fuel s).2 = headRes (view s) ∧
    (∀ c, (peek ch fuel s).2 = .byte c → (peek ch fuel s).1.pos < (peek ch fuel s).1.buf.length) := by
  intro fuel s h hf
  match fuel, hf with
  | f+2, _ =>
    rw [peek]
    cases hg : s.buf[s.pos]? with
    | some c =>
      obtain ⟨t, hv, hlt⟩ := view_of_getElem s c hg
      exact ⟨h, rfl, by rw [hv]; rfl, fun _ _ => hlt⟩
    | none =>
      simp only []
      have hpos : s.buf.length ≤ s.pos := by
        by_cases hl : s.pos < s.buf.length
        · rw [List.getElem?_eq_getElem hl] at hg; simp at hg
        · omega
      have hav : avail s = 0 := by simp [avail]; omega
      obtain ⟨r1, r2, r3, r4⟩ := refill_spec ch s h
      cases herr : (refill ch s).2 with
      | true =>
        have := r3 herr
        have hv : view s = [] := by
          simp only [view, this.1, List.append_nil]
          exact List.drop_eq_nil_of_le hpos
        have e : refill ch s = ((refill ch s).1, true) := by rw [← herr]
        rw [e]
        simp only [if_true]
        exact ⟨r1, r2, by rw [hv]; rfl, by intro c hc; simp at hc⟩
      | false =>
        have hgt := r4 herr (by rw [hav]; decide)
        have e : refill ch s = ((refill ch s).1, false) := by rw [← herr]
        rw [e]
        simp only [Bool.false_eq_true, if_false]
        generalize (refill ch s).1 = s1 at r1 r2 hgt
        have hlt : s1.pos < s1.buf.length := by simp only [avail] at hgt; omega
        rw [peek]
        have hg1 : s1.buf[s1.pos]? = some s1.buf[s1.pos] := List.getElem?_eq_getElem hlt
        rw [hg1]
        simp only []
        obtain ⟨t, hv, _⟩ := view_of_getElem s1 _ hg1
        exact ⟨r1, r2, by rw [← r2, hv]; rfl, fun _ _ => hlt⟩

theorem peek_pair (ch : Chunking) (s : BS) (h : Inv s) :
    ∃ s', peek ch 2 s = (s', headRes (view s)) ∧ Inv s' ∧ view s' = view s ∧
      (view s ≠ [] → s'.pos < s'.buf.length) := by
  obtain ⟨p1, p2, p3, p4⟩ := peek_spec ch 2 s h (Nat.le_refl _)
  refine ⟨(peek ch 2 s).1, by rw [← p3], p1, p2, fun hne => ?_⟩
  cases hv : view s with
  | nil => exact absurd hv hne
  | cons c t => exact p4 c (by rw [p3, hv]; rfl)

theorem readByte_spec (ch : Chunking) (s : BS) (h : Inv s) :
    Inv (readByte ch s).1 ∧ (readByte ch s).2 = headRes (view s) ∧ view (readByte ch s).1 = (view s).tail := by
  obtain ⟨s', hp, hi, hv, hlt⟩ := peek_pair ch s h
  rw [readByte, hp]
  cases hvs : view s with
  | nil => exact ⟨hi, rfl, hv.trans hvs⟩
  | cons c t =>
    have hlt := hlt (by rw [hvs]; nofun)
    refine ⟨⟨hlt, hi.size, hi.eof_rem⟩, rfl, ?_⟩
    rw [← hvs, ← hv]
    simp only [view]
    rw [List.drop_eq_getElem_cons hlt]
    rfl

theorem skipN_spec (ch : Chunking) : ∀ (n : Nat) (s : BS), Inv s →
    Inv (skipN ch n s) ∧ view (skipN ch n s) = (view s).drop n := by
  intro n
  induction n with
  | zero => intro s h; exact ⟨h, by simp [skipN]⟩
  | succ n ih =>
    intro s h
    obtain ⟨r1, _, r3⟩ := readByte_spec ch s h
    obtain ⟨i1, i2⟩ := ih (readByte ch s).1 r1
    rw [skipN]
    refine ⟨i1, ?_⟩
    rw [i2, r3]
    cases view s <;> simp

/-- `PeekN(n)` returns the first `n` bytes of the remaining input (fewer only at its end), for
every chunking — the loop refills until the window is long enough; `n + 1` iterations suffice
even if the reader delivers one byte at a time. -/
theorem peekN_spec (ch : Chunking) (n : Nat) (hn : n ≤ bufSize) : ∀ (fuel : Nat) (s : BS), Inv s →
    1 ≤ fuel → n + 1 ≤ fuel + avail s →
    Inv (peekN ch n fuel s).1 ∧ view (peekN ch n fuel s).1 = view s ∧
    (peekN ch n fuel s).2 = some ((view s).take n) := by
  intro fuel
  induction fuel with
  | zero => intro s _ h1; omega
  | succ f ih =>
    intro s h _ hf
    rw [peekN]
    by_cases hneed : s.pos + n > s.buf.length
    · simp only [hneed, if_true]
      have hav : avail s < n := by have := h.pos_le; simp only [avail]; omega
      obtain ⟨r1, r2, r3, r4⟩ := refill_spec ch s h
      cases herr : (refill ch s).2 with
      | true =>
        have e : refill ch s = ((refill ch s).1, true) := by rw [← herr]
        rw [e]
        simp only [if_true]
        obtain ⟨_, _, hrem⟩ := r3 herr
        refine ⟨r1, r2, ?_⟩
        rw [← r2]
        simp [view, hrem]
      | false =>
        have e : refill ch s = ((refill ch s).1, false) := by rw [← herr]
        rw [e]
        simp only [Bool.false_eq_true, if_false]
        have hgt := r4 herr (by omega)
        have hf1 : 1 ≤ f := by omega
        obtain ⟨i1, i2, i3⟩ := ih (refill ch s).1 r1 hf1 (by omega)
        exact ⟨i1, by rw [i2, r2], by rw [i3, r2]⟩
    · simp only [hneed, if_false]
      refine ⟨h, by simp, ?_⟩
      have : n ≤ (s.buf.drop s.pos).length := by simp; omega
      simp only [view]
      rw [List.take_append_of_le_length this]

theorem skipCmt_spanCmt (l : Bytes) : skipCmt l = CNT.skipWS (spanCmt l).2 := by
  induction l with
  | nil => simp [skipCmt, spanCmt, CNT.skipWS]
  | cons c cs ih =>
    by_cases he : (c == 10 || c == 13) = true
    · have h37 : (c == 37) = false := by
        simp at he ⊢
        rcases he with e | e <;> simp [e]
      simp [skipCmt, C15cnt.spanCmt_snd_cons, he, CNT.skipWS, h37]
    · simp [skipCmt, C15cnt.spanCmt_snd_cons, he, ih]

theorem skipToEOL_spec (ch : Chunking) : ∀ (fuel : Nat) (s : BS), Inv s → (view s).length + 1 ≤ fuel →
    (skipToEOL ch fuel s).2 = false ∧ Inv (skipToEOL ch fuel s).1 ∧
    view (skipToEOL ch fuel s).1 = (spanCmt (view s)).2 := by
  intro fuel
  induction fuel with
  | zero => intro s _ hf; omega
  | succ f ih =>
    intro s h hf
    obtain ⟨s', hp, hi, hv, _⟩ := peek_pair ch s h
    rw [skipToEOL, hp]
    cases hvs : view s with
    | nil =>
      simp only [headRes]
      exact ⟨trivial, hi, by rw [hv, hvs]; rfl⟩
    | cons b t =>
      simp only [headRes]
      by_cases he : (b == 10 || b == 13) = true
      · simp only [he, if_true]
        exact ⟨trivial, hi, by rw [hv, hvs]; simp [C15cnt.spanCmt_snd_cons, he]⟩
      · simp only [he, Bool.false_eq_true, if_false]
        obtain ⟨r1, _, r3⟩ := readByte_spec ch s' hi
        have hvt : view (readByte ch s').1 = t := by rw [r3, hv, hvs]; rfl
        obtain ⟨i1, i2, i3⟩ := ih (readByte ch s').1 r1 (by rw [hvt]; rw [hvs] at hf; simp at hf; omega)
        exact ⟨i1, i2, by rw [i3, hvt]; simp [C15cnt.spanCmt_snd_cons, he]⟩

/-- `SkipWhiteSpace` (white space and comments) computes the model's `skipWS` of the remaining
input and reports `io.EOF` exactly when nothing is left; `len + 2` iterations suffice. -/
theorem skipWhiteSpace_spec (ch : Chunking) : ∀ (fuel : Nat) (s : BS), Inv s → (view s).length + 2 ≤ fuel →
    (skipWhiteSpace ch fuel s).2 = some (CNT.skipWS (view s)).isEmpty ∧ Inv (skipWhiteSpace ch fuel s).1 ∧
    view (skipWhiteSpace ch fuel s).1 = CNT.skipWS (view s) := by
  intro fuel
  induction fuel with
  | zero => intro s _ hf; omega
  | succ f ih =>
    intro s h hf
    obtain ⟨s', hp, hi, hv, _⟩ := peek_pair ch s h
    rw [skipWhiteSpace, hp]
    cases hvs : view s with
    | nil =>
      simp only [headRes]
      exact ⟨by simp [C15cnt.skipWS_nil], hi, by rw [hv, hvs, C15cnt.skipWS_nil]⟩
    | cons b t =>
      rw [hvs] at hf
      simp only [List.length_cons] at hf
      simp only [headRes]
      by_cases hsp : cSpace b = true
      · simp only [hsp, if_true]
        obtain ⟨r1, _, r3⟩ := readByte_spec ch s' hi
        have hvt : view (readByte ch s').1 = t := by rw [r3, hv, hvs]; rfl
        obtain ⟨i1, i2, i3⟩ := ih (readByte ch s').1 r1 (by rw [hvt]; omega)
        rw [hvt] at i1 i3
        exact ⟨by rw [i1, C15cnt.skipWS_space b t hsp], i2, by rw [i3, C15cnt.skipWS_space b t hsp]⟩
      · simp only [hsp, Bool.false_eq_true, if_false]
        by_cases h37 : (b == 37) = true
        · simp only [h37, if_true]
          have hb : b = 37 := by simpa using h37
          obtain ⟨e1, e2, e3⟩ := skipToEOL_spec ch f s' hi (by rw [hv, hvs]; simp; omega)
          have hte : (spanCmt (b :: t)).2 = (spanCmt t).2 := by subst hb; simp [C15cnt.spanCmt_snd_cons]
          cases hst : skipToEOL ch f s' with
          | mk s2 hang =>
            rw [hst] at e1 e2 e3
            simp only [] at e1 e2 e3
            subst e1
            simp only []
            have hlen := C15cnt.spanCmt_le t
            obtain ⟨i1, i2, i3⟩ := ih s2 e2 (by rw [e3, hv, hvs, hte]; omega)
            rw [e3, hv, hvs, hte] at i1 i3
            have hsk : CNT.skipWS (b :: t) = CNT.skipWS (spanCmt t).2 := by
              rw [hb, C15cnt.skipWS_pct, skipCmt_spanCmt]
            exact ⟨by rw [i1, hsk], i2, by rw [i3, hsk]⟩
        · simp only [h37, Bool.false_eq_true, if_false]
          have hsk : CNT.skipWS (b :: t) = b :: t :=
            C15cnt.skipWS_starts ⟨by simpa using hsp, by simpa using h37⟩
          exact ⟨by rw [hsk]; rfl, hi, by rw [hv, hvs, hsk]⟩

theorem peekN3 (ch : Chunking) (s : BS) (h : Inv s) :
    ∃ s', peekN ch 3 4 s = (s', some ((view s).take 3)) ∧ Inv s' ∧ view s' = view s := by
  obtain ⟨p1, p2, p3⟩ := peekN_spec ch 3 (by decide) 4 s h (by decide) (by omega)
  exact ⟨(peekN ch 3 4 s).1, by rw [← p3], p1, p2⟩

/-- `tryHex`: the 3-byte peek sees `#` and two hex digits exactly when the remaining input
has them — also when they straddle the edge of the window — and then consumes the three bytes. -/
theorem tryHex_spec (ch : Chunking) (s : BS) (h : Inv s) :
    Inv (tryHex ch s).1 ∧ (tryHex ch s).2 = hex2 (view s).tail ∧
    view (tryHex ch s).1 = (match hex2 (view s).tail with
      | some _ => (view s).drop 3
      | none => view s) := by
  obtain ⟨s', hp, hi, hv⟩ := peekN3 ch s h
  unfold tryHex
  rw [hp]
  match hvs : view s with
  | [] => simp [hex2]; exact ⟨hi, by rw [hv, hvs]⟩
  | [a] => simp [hex2]; exact ⟨hi, by rw [hv, hvs]⟩
  | [a, b] => simp [hex2]; exact ⟨hi, by rw [hv, hvs]⟩
  | a :: hh :: l :: t =>
    simp only [List.take, List.tail_cons, hex2]
    cases h1 : hexVal hh with
    | none => simp only []; exact ⟨hi, trivial, by rw [hv, hvs]⟩
    | some x =>
      cases h2 : hexVal l with
      | none => simp only []; exact ⟨hi, trivial, by rw [hv, hvs]⟩
      | some y =>
        simp only []
        obtain ⟨k1, k2⟩ := skipN_spec ch 3 s' hi
        exact ⟨k1, trivial, by rw [k2, hv, hvs]⟩

theorem checkEI_take3 (l : Bytes) : checkEI (l.take 3) = checkEI l := by
  match l with
  | [] => rfl
  | [a] => rfl
  | [a, b] => rfl
  | a :: b :: c :: t => simp [checkEI]

theorem checkEIB_spec (ch : Chunking) (s : BS) (h : Inv s) :
    ∃ s', checkEIB ch s = (s', checkEI (view s)) ∧ Inv s' ∧ view s' = view s := by
  obtain ⟨s', hp, hi, hv⟩ := peekN3 ch s h
  refine ⟨s', ?_, hi, hv⟩
  simp [checkEIB, hp, checkEI_take3]

theorem iiB_cons (b : Nat) (r : IIRes) : iiB (r.cons b) = (iiB r).cons b := by
  cases r <;> rfl

theorem iiRest_cons (b : Nat) (r : IIRes) : iiRest (r.cons b) = iiRest r := by
  cases r <;> rfl

/-- `iiLoop` without the case split on the input in front of the two tests -/
theorem iiLoop_eq (n prev : Nat) (l : Bytes) : iiLoop n prev l =
    if (prev == 13 || prev == 10) && checkEI l then .found [] l
    else if n > Gen.content_maxInlineImageBytes then .capped l
    else match l with
      | [] => .eof
      | b :: r => (iiLoop (n + 1) b r).cons b := by
  cases l <;> rfl

/-- The `EI` search of `readInlineImage` on the buffered scanner finds what the whole-input
model finds — `checkEI`'s 3-byte peek refills at the edge of the window — and stops at the same
place, for every chunking; `len + 1` iterations suffice. -/
theorem iiLoopB_spec (ch : Chunking) : ∀ (fuel n prev : Nat) (s : BS), Inv s → (view s).length + 1 ≤ fuel →
    (iiLoopB ch fuel n prev s).2 = iiB (iiLoop n prev (view s)) ∧ Inv (iiLoopB ch fuel n prev s).1 ∧
    view (iiLoopB ch fuel n prev s).1 = iiRest (iiLoop n prev (view s)) := by
  intro fuel
  induction fuel with
  | zero => intro n prev s _ hf; omega
  | succ f ih =>
    intro n prev s h hf
    rw [iiLoopB, iiLoop_eq]
    obtain ⟨s1, hck, hi1, hv1⟩ : ∃ s1, (if (prev == 13 || prev == 10) = true then checkEIB ch s else (s, false)) =
        (s1, (prev == 13 || prev == 10) && checkEI (view s)) ∧ Inv s1 ∧ view s1 = view s := by
      by_cases hprev : (prev == 13 || prev == 10) = true
      · obtain ⟨s1, e, i, v⟩ := checkEIB_spec ch s h
        exact ⟨s1, by simp [hprev, e], i, v⟩
      · exact ⟨s, by simp [hprev], h, rfl⟩
    rw [hck]
    simp only []
    by_cases hei : ((prev == 13 || prev == 10) && checkEI (view s)) = true
    · rw [if_pos hei, if_pos hei]
      exact ⟨rfl, hi1, hv1⟩
    rw [if_neg hei, if_neg hei]
    by_cases hcap : n > Gen.content_maxInlineImageBytes
    · rw [if_pos hcap, if_pos hcap]
      exact ⟨rfl, hi1, hv1⟩
    rw [if_neg hcap, if_neg hcap]
    obtain ⟨r1, r2, r3⟩ := readByte_spec ch s1 hi1
    rw [hv1] at r2 r3
    cases hrb : readByte ch s1 with
    | mk s2 res =>
      rw [hrb] at r1 r2 r3
      simp only [] at r1 r2 r3
      subst r2
      cases hvs : view s with
      | nil => rw [hvs] at r3; exact ⟨rfl, r1, r3⟩
      | cons b t =>
        rw [hvs] at hf r3
        simp only [headRes, List.tail_cons] at r3 ⊢
        obtain ⟨i1, i2, i3⟩ := ih (n + 1) b s2 r1 (by rw [r3]; simp at hf; omega)
        rw [r3] at i1 i3
        rw [iiB_cons, iiRest_cons]
        cases hrec : iiLoopB ch f (n + 1) b s2 with
        | mk s3 r =>
          rw [hrec] at i1 i2 i3
          exact ⟨by rw [← i1], i2, i3⟩

end PdfVerif.C15cntu
