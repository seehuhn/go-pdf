import PdfVerif.Props.C15cntu
/-!
# C15 — the buffered content scanner refines the whole-input scanner

`Model/CNTBufScan.lean` writes the whole reader of `graphics/content/stream.go` as programs over the
window operations and interprets them on the 512-byte window (`runB`) and on the whole remaining input
(`runL`).  `runB_refines`: for every program the two agree (induction over the program; the cases are the
leaf refinements of `C15cntu`).  `…P_eq`: each program on the whole input is the corresponding function of
`Model/CNTScan.lean`, with identical fuel.  Together: `scanBuf_refines`, and per call from any coherent
state `scanOneBuf_refines`, `scanTokenBuf_refines`.  The examples at the end evaluate a name with a `#xx`
escape straddling offset 512 under three chunkings.
-/
namespace PdfVerif.C15cnty
open PdfVerif PdfVerif.CNT PdfVerif.CNTB PdfVerif.C15cntu

theorem hdRes_eq (l : Bytes) : hdRes l = headRes l := by cases l <;> rfl

theorem toRes_ok {α : Type} (a : α) (rest : Bytes) : toRes (R.ok a, rest) = .ok a rest := rfl

theorem hdRes_ne_hang (l : Bytes) : hdRes l ≠ .hang := by cases l <;> nofun

/-- For every program over the window operations, every chunking of the
reader and every coherent buffer state: the run on the 512-byte window never hangs, returns the
value of the run on the whole remaining input `view s`, and leaves exactly the remaining input
of that run. -/
theorem runB_refines {α : Type} (ch : Chunking) (p : Prog α) : ∀ (s : BS), Inv s →
    (runB ch p s).2 = some (runL p (view s)).1 ∧ Inv (runB ch p s).1 ∧
    view (runB ch p s).1 = (runL p (view s)).2 := by
  induction p with
  | ret a => intro s h; exact ⟨rfl, h, rfl⟩
  | rd k ih =>
    intro s h
    obtain ⟨r1, r2, r3⟩ := readByte_spec ch s h
    rw [runB, runL, r2, ← hdRes_eq, ← r3]
    have hx := hdRes_ne_hang (view s)
    generalize hdRes (view s) = x at hx ⊢
    cases x with
    | hang => exact absurd rfl hx
    | _ => exact ih _ _ r1
  | pk k ih =>
    intro s h
    obtain ⟨r1, r2, r3, _⟩ := peek_spec ch 2 s h (Nat.le_refl _)
    rw [runB, runL, r3, ← hdRes_eq]
    have hx := hdRes_ne_hang (view s)
    generalize hdRes (view s) = x at hx ⊢
    rw [← r2]
    cases x with
    | hang => exact absurd rfl hx
    | _ => exact ih _ _ r1
  | pkN n k ih =>
    intro s h
    obtain ⟨r1, r2, r3⟩ := peekN_spec ch n.val (by have := n.isLt; simp [bufSize]; omega) 4 s h (by decide)
      (by have := n.isLt; omega)
    simp only [runB, runL]
    rw [r3]
    have := ih ((view s).take n.val) _ r1
    rw [r2] at this
    simpa using this
  | ws k ih =>
    intro s h
    obtain ⟨r1, r2, r3⟩ := skipWhiteSpace_spec ch ((view s).length + 2) s h (Nat.le_refl _)
    simp only [runB, runL]
    rw [r1]
    have := ih (CNT.skipWS (view s)).isEmpty _ r2
    rw [r3] at this
    simpa using this
  | hx k ih =>
    intro s h
    obtain ⟨r1, r2, r3⟩ := tryHex_spec ch s h
    simp only [runB, runL]
    have := ih (tryHex ch s).2 _ r1
    rw [r3] at this
    rw [r2] at this ⊢
    exact this
  | ei n prev k ih =>
    intro s h
    obtain ⟨r1, r2, r3⟩ := iiLoopB_spec ch ((view s).length + 1) n prev s h (Nat.le_refl _)
    rw [runB, runL, r1, ← r3]
    have hx : iiB (iiLoop n prev (view s)) ≠ .hang := by cases iiLoop n prev (view s) <;> nofun
    generalize iiB (iiLoop n prev (view s)) = x at hx ⊢
    cases x with
    | hang => exact absurd rfl hx
    | _ => exact ih _ _ r2
  | len k ih =>
    intro s h
    simp only [runB, runL]
    exact ih _ s h

theorem runL_bind {α β : Type} (p : Prog α) (g : α → Prog β) : ∀ l : Bytes,
    runL (p.bind g) l = runL (g (runL p l).1) (runL p l).2 := by
  -- every operation hands its continuation the same argument before and after `bind`
  induction p with
  | ret a => intro l; rfl
  | _ => intro l; rename_i ih; simp only [Prog.bind, runL]; exact ih _ _

theorem runL_map {α β : Type} (f : α → β) (p : Prog α) (l : Bytes) :
    runL (p.map f) l = (f (runL p l).1, (runL p l).2) := by
  simp [Prog.map, runL_bind, runL]

theorem skipSpP_eq : ∀ (f : Nat) (l : Bytes), l.length + 1 ≤ f →
    runL (skipSpP f) l = ((skipSp l).isEmpty, skipSp l) := by
  intro f
  induction f with
  | zero => intro l h; omega
  | succ f ih =>
    intro l h
    cases l with
    | nil => simp [skipSpP, runL, hdRes, skipSp]
    | cons c t =>
      simp only [skipSpP, runL, hdRes, skipSp]
      by_cases hc : cSpace c = true
      · simp only [hc, if_true, runL, List.tail_cons]
        exact ih t (by simp at h; omega)
      · simp [hc, runL]

theorem cmtP_eq : ∀ (f : Nat) (l : Bytes), l.length + 1 ≤ f → runL (cmtP f) l = spanCmt l := by
  intro f
  induction f with
  | zero => intro l h; omega
  | succ f ih =>
    intro l h
    cases l with
    | nil => simp [cmtP, runL, hdRes, spanCmt]
    | cons c t =>
      simp only [cmtP, runL, hdRes, spanCmt]
      by_cases hc : (c == 10 || c == 13) = true
      · simp [hc, runL]
      · simp only [hc, Bool.false_eq_true, if_false, runL, List.tail_cons, runL_map]
        rw [ih t (by simp at h; omega)]

theorem regP_eq : ∀ (f : Nat) (l : Bytes), l.length + 1 ≤ f → runL (regP f) l = spanReg l := by
  intro f
  induction f with
  | zero => intro l h; omega
  | succ f ih =>
    intro l h
    cases l with
    | nil => simp [regP, runL, hdRes, spanReg]
    | cons c t =>
      simp only [regP, runL, hdRes, spanReg]
      by_cases hc : cReg c = true
      · simp only [hc, if_true, runL, List.tail_cons, runL_map]
        rw [ih t (by simp at h; omega)]
      · simp [hc, runL]

theorem nameBodyS_drop : ∀ (k : Nat) (l : Bytes), nameBodyS k l = nameBodyS 0 (l.drop k) := by
  intro k
  induction k with
  | zero => intro l; simp
  | succ k ih =>
    intro l
    cases l with
    | nil => simp [nameBodyS]
    | cons x t => simp only [nameBodyS, List.drop_succ_cons]; exact ih t

theorem nameP_eq : ∀ (f : Nat) (l : Bytes), l.length + 1 ≤ f → runL (nameP f) l = nameBody l := by
  intro f
  induction f with
  | zero => intro l h; omega
  | succ f ih =>
    intro l h
    cases l with
    | nil => simp [nameP, runL, hdRes, nameBody, nameBodyS]
    | cons c t =>
      simp only [nameP, runL, hdRes, nameBody, nameBodyS]
      by_cases hc : cReg c = true
      · simp only [hc, Bool.not_true, Bool.false_eq_true, if_false]
        by_cases h35 : (c == 35) = true
        · simp only [h35, if_true, runL, List.tail_cons]
          cases hh : hex2 t with
          | none =>
            simp only [runL, List.tail_cons, runL_map]
            have := ih t (by simp at h; omega)
            simp only [nameBody] at this
            rw [this]
          | some v =>
            simp only [runL_map]
            have := ih (t.drop 2) (by simp at h ⊢; omega)
            simp only [nameBody] at this
            rw [nameBodyS_drop 2 t, show List.drop 3 (c :: t) = List.drop 2 t from rfl, this]
        · simp only [h35, Bool.false_eq_true, if_false, runL, List.tail_cons, runL_map]
          have := ih t (by simp at h; omega)
          simp only [nameBody] at this
          rw [this]
      · simp [hc, runL]

theorem toRes_consR (x : Nat) (p : Prog (R Bytes)) (l : Bytes) :
    toRes (runL (consR x p) l) = consB x (toRes (runL p l)) := by
  simp only [consR, runL_map]
  cases h : (runL p l).1 <;> simp [toRes, h, R.map, consB, Res.map]

theorem toRes_map {α β : Type} (g : α → β) (p : Prog (R α)) (l : Bytes) :
    toRes (runL (p.map (R.map g)) l) = (toRes (runL p l)).map g := by
  simp only [runL_map]
  cases h : (runL p l).1 <;> simp [toRes, h, R.map, Res.map]

theorem hexP_eq : ∀ (f : Nat) (hi : Option Nat) (len : Nat) (l : Bytes), l.length + 1 ≤ f →
    toRes (runL (hexP f hi len) l) = readHex hi len l := by
  intro f
  induction f with
  | zero => intro hi len l h; omega
  | succ f ih =>
    intro hi len l h
    cases l with
    | nil => simp [hexP, runL, hdRes, readHex, toRes]
    | cons b t =>
      have ht : t.length + 1 ≤ f := by simp at h; omega
      simp only [hexP, runL, hdRes, readHex, List.tail_cons]
      by_cases h62 : (b == 62) = true
      · simp only [h62, if_true, runL]
        cases hi <;> simp [toRes]
      · simp only [h62, Bool.false_eq_true, if_false]
        by_cases hs : cSpace b = true
        · simp only [hs, if_true]; exact ih hi len t ht
        · simp only [hs, Bool.false_eq_true, if_false]
          cases hv : hexVal b with
          | none => simp [runL, toRes]
          | some lo =>
            simp only []
            cases hi with
            | none => simp only []; exact ih (some lo) len t ht
            | some hh =>
              simp only []
              by_cases hl : len ≥ Gen.content_maxStringBytes
              · simp [hl, runL, toRes]
              · simp only [hl, if_false]
                rw [toRes_consR, ih none (len + 1) t ht]

/-- `strP` has the branches of `readStr` in the same order, so both sides take the same branch under each
condition (`if_pos`/`if_neg` on the program and on the model); every recursive call is `ih`, and the
byte `consR` puts in front goes to `consB` by `toRes_consR`.  `tokP_eq` below walks `ScanToken` the same way. -/
theorem strP_eq : ∀ (f : Nat) (level : Nat) (ign : Bool) (len : Nat) (l : Bytes), l.length + 1 ≤ f →
    toRes (runL (strP f level ign len) l) = readStr level ign len l := by
  intro f
  induction f with
  | zero => intro level ign len l h; omega
  | succ f ih =>
    intro level ign len l h
    rw [readStr.eq_def]
    simp only [strP]
    by_cases hl : len ≥ Gen.content_maxStringBytes
    · cases l <;> simp [hl, runL, toRes]
    · cases l with
      | nil => simp [runL, hdRes, toRes, hl]
      | cons b t =>
        have ht : t.length + 1 ≤ f := by simp at h; omega
        simp only [hl, if_false, runL, hdRes, List.tail_cons]
        by_cases c1 : (ign && b == 10) = true
        · rw [if_pos c1, if_pos c1]; exact ih _ _ _ t ht
        rw [if_neg c1, if_neg c1]
        by_cases c2 : (b == 40) = true
        · rw [if_pos c2, if_pos c2, toRes_consR, ih _ _ _ t ht]
        rw [if_neg c2, if_neg c2]
        by_cases c3 : (b == 41) = true
        · rw [if_pos c3, if_pos c3]
          by_cases c4 : (level == 1) = true
          · simp [c4, runL, toRes]
          · rw [if_neg c4, if_neg c4, toRes_consR, ih _ _ _ t ht]
        rw [if_neg c3, if_neg c3]
        by_cases c5 : (b == 92) = true
        · rw [if_pos c5, if_pos c5]
          cases t with
          | nil => simp [runL, hdRes, toRes]
          | cons e t' =>
            have ht' : t'.length + 1 ≤ f := by simp at ht; omega
            simp only [runL, hdRes, List.tail_cons]
            by_cases e1 : (e == 110) = true
            · rw [if_pos e1, if_pos e1, toRes_consR, ih _ _ _ t' ht']
            rw [if_neg e1, if_neg e1]
            by_cases e2 : (e == 114) = true
            · rw [if_pos e2, if_pos e2, toRes_consR, ih _ _ _ t' ht']
            rw [if_neg e2, if_neg e2]
            by_cases e3 : (e == 116) = true
            · rw [if_pos e3, if_pos e3, toRes_consR, ih _ _ _ t' ht']
            rw [if_neg e3, if_neg e3]
            by_cases e4 : (e == 98) = true
            · rw [if_pos e4, if_pos e4, toRes_consR, ih _ _ _ t' ht']
            rw [if_neg e4, if_neg e4]
            by_cases e5 : (e == 102) = true
            · rw [if_pos e5, if_pos e5, toRes_consR, ih _ _ _ t' ht']
            rw [if_neg e5, if_neg e5]
            by_cases e6 : (e == 10) = true
            · rw [if_pos e6, if_pos e6]; exact ih _ _ _ t' ht'
            rw [if_neg e6, if_neg e6]
            by_cases e7 : (e == 13) = true
            · rw [if_pos e7, if_pos e7]; exact ih _ _ _ t' ht'
            rw [if_neg e7, if_neg e7]
            by_cases e8 : isOct e = true
            · rw [if_pos e8, if_pos e8]
              cases t' with
              | nil =>
                simp only [runL, hdRes]
                rw [toRes_consR, ih _ _ _ [] (by simp at ht' ⊢; omega)]
              | cons d2 r2 =>
                have hr2 : r2.length + 1 ≤ f := by simp at ht'; omega
                simp only [runL, hdRes]
                by_cases o2 : isOct d2 = true
                · simp only [o2, if_true, runL, List.tail_cons]
                  cases r2 with
                  | nil =>
                    simp only [hdRes]
                    rw [toRes_consR, ih _ _ _ [] (by simp at hr2 ⊢; omega)]
                  | cons d3 r3 =>
                    simp only [hdRes]
                    by_cases o3 : isOct d3 = true
                    · simp only [o3, if_true, runL, List.tail_cons]
                      rw [toRes_consR, ih _ _ _ r3 (by simp at hr2 ⊢; omega)]
                    · rw [if_neg o3, if_neg o3]
                      rw [toRes_consR, ih _ _ _ (d3 :: r3) hr2]
                · rw [if_neg o2, if_neg o2]
                  rw [toRes_consR, ih _ _ _ (d2 :: r2) ht']
            · rw [if_neg e8, if_neg e8]
              rw [toRes_consR, ih _ _ _ t' ht']
        rw [if_neg c5, if_neg c5]
        by_cases c6 : (b == 13) = true
        · rw [if_pos c6, if_pos c6, toRes_consR, ih _ _ _ t ht]
        · rw [if_neg c6, if_neg c6, toRes_consR, ih _ _ _ t ht]

theorem tokP_eq (l : Bytes) : toRes (runL tokP l) = scanToken l := by
  simp only [tokP, scanToken, runL]
  cases hsk : CNT.skipWS l with
  | nil => rfl
  | cons c r =>
    simp only [List.isEmpty_cons, Bool.false_eq_true, if_false, runL,
      show ((2 : Fin 4).val) = 2 from rfl, show List.take 2 (c :: r) = c :: List.take 1 r from rfl]
    by_cases c47 : (c == 47) = true
    · rw [if_pos c47, if_pos c47]
      simp only [runL, List.tail_cons]
      rw [runL_bind, nameP_eq _ r (Nat.le_refl _)]
      rcases nameBody r with ⟨n, rest⟩
      simp only [runL, toRes]
      by_cases hn : n.length > Gen.content_maxNameBytes <;> simp [hn]
    rw [if_neg c47, if_neg c47]
    by_cases c40 : (c == 40) = true
    · rw [if_pos c40, if_pos c40]
      simp only [runL, List.tail_cons]
      rw [toRes_map, strP_eq _ _ _ _ r (Nat.le_refl _)]
    rw [if_neg c40, if_neg c40]
    by_cases c60 : (c == 60) = true
    · rw [if_pos c60, if_pos c60]
      cases r with
      | nil =>
        simp only [List.take_nil, show (([] : Bytes) == [60]) = false from rfl, Bool.false_eq_true, if_false,
          runL, List.tail_cons]
        rw [toRes_map, hexP_eq _ _ _ [] (Nat.le_refl _)]
      | cons d r' =>
        simp only [show List.take 1 (d :: r') = [d] from rfl]
        by_cases d60 : (d == 60) = true
        · have : ([d] == [60]) = true := by simp at d60; simp [d60]
          rw [if_pos this, if_pos d60]
          rfl
        · have : ([d] == [60]) = false := by simp at d60; simp [d60]
          simp only [this, d60, Bool.false_eq_true, if_false, runL, List.tail_cons]
          rw [toRes_map, hexP_eq _ _ _ (d :: r') (Nat.le_refl _)]
    rw [if_neg c60, if_neg c60]
    have hgt : (c == 62 && List.take 1 r == [62]) = (c == 62 && r.head? == some 62) := by
      cases r with
      | nil => simp
      | cons d r' => simp
    rw [hgt]
    by_cases c62 : (c == 62 && r.head? == some 62) = true
    · rw [if_pos c62, if_pos c62]
      rfl
    rw [if_neg c62, if_neg c62]
    simp only [runL, List.tail_cons]
    by_cases cr : cReg c = true
    · rw [if_pos cr, if_pos cr]
      simp only [runL]
      rw [runL_bind, regP_eq _ r (Nat.le_refl _)]
      rcases spanReg r with ⟨run, rest⟩
      simp only [runL, toRes]
      by_cases hn : run.length + 1 > Gen.content_maxNameBytes <;> simp [hn]
    · rw [if_neg cr, if_neg cr]
      rfl

theorem take2_prefix (term l : Bytes) (h : term.length = 2) : (l.take 2 == term) = isPrefixOf term l := by
  match term, h with
  | [a, b], _ =>
    match l with
    | [] => simp [isPrefixOf]
    | [x] => simp [isPrefixOf]
    | x :: y :: r => simp [isPrefixOf, Bool.beq_comm]

theorem bind_tok {β : Type} (g : R Obj → Prog (R β)) (l : Bytes) :
    ∃ r rest, runL (tokP.bind g) l = runL (g r) rest ∧ toRes (r, rest) = scanToken l := by
  refine ⟨(runL tokP l).1, (runL tokP l).2, runL_bind _ _ _, ?_⟩
  exact tokP_eq l

theorem value_eq : ∀ (f : Nat),
    (∀ depth l, toRes (runL (valueP f depth) l) = readValue f depth l) ∧
    (∀ depth acc l, toRes (runL (arrP f depth acc) l) = readArr f depth acc l) ∧
    (∀ term vd acc l, term.length = 2 →
      toRes (runL (dictP f term vd acc) l) = readDictBody f term vd acc l) := by
  intro f
  induction f with
  | zero =>
    refine ⟨?_, ?_, ?_⟩ <;> intros <;> rfl
  | succ f ih =>
    obtain ⟨ihv, iha, ihd⟩ := ih
    refine ⟨?_, ?_, ?_⟩
    · intro depth l
      -- the token the program reads is the token of the model: compare the continuations
      rw [valueP, readValue, runL_bind, ← tokP_eq l]
      rcases runL tokP l with ⟨r, rest⟩
      cases r with
      | ok a =>
        cases a with
        | op o =>
          simp only [toRes_ok]
          by_cases h91 : (o == [91]) = true
          · rw [if_pos h91, if_pos h91]
            by_cases hd : depth ≥ Gen.content_maxValueDepth
            · rw [if_pos hd, if_pos hd]; rfl
            · rw [if_neg hd, if_neg hd]; exact iha _ _ _
          rw [if_neg h91, if_neg h91]
          by_cases h60 : (o == [60, 60]) = true
          · rw [if_pos h60, if_pos h60]
            by_cases hd : depth ≥ Gen.content_maxValueDepth
            · rw [if_pos hd, if_pos hd]; rfl
            · rw [if_neg hd, if_neg hd, toRes_map, ihd _ _ _ _ rfl]
          · rw [if_neg h60, if_neg h60]; rfl
        | _ => rfl
      | _ => rfl
    · intro depth acc l
      simp only [arrP, readArr, runL]
      cases hsk : CNT.skipWS l with
      | nil => rfl
      | cons c r =>
        simp only [List.isEmpty_cons, Bool.false_eq_true, if_false, runL,
          show ((1 : Fin 4).val) = 1 from rfl, show List.take 1 (c :: r) = [c] from rfl]
        by_cases h93 : (c == 93) = true
        · have : ([c] == [93]) = true := by simp at h93; simp [h93]
          rw [if_pos this, if_pos h93]; rfl
        · have : ([c] == [93]) = false := by simp at h93; simp [h93]
          simp only [this, h93, Bool.false_eq_true, if_false]
          by_cases hlen : acc.length ≥ Gen.content_maxArrayLen
          · rw [if_pos hlen, if_pos hlen]; rfl
          · rw [if_neg hlen, if_neg hlen, runL_bind, ← ihv depth (c :: r)]
            rcases runL (valueP f depth) (c :: r) with ⟨rv, rest⟩
            cases rv with
            | ok e => exact iha _ _ _
            | _ => rfl
    · intro term vd acc l hterm
      simp only [dictP, readDictBody, runL]
      cases hsk : CNT.skipWS l with
      | nil => rfl
      | cons c r =>
        simp only [List.isEmpty_cons, Bool.false_eq_true, if_false, runL,
          show ((2 : Fin 4).val) = 2 from rfl]
        rw [take2_prefix term (c :: r) hterm]
        by_cases hp : isPrefixOf term (c :: r) = true
        · simp only [hp, if_true, runL, toRes, hterm]
          cases r <;> rfl
        · simp only [hp, Bool.false_eq_true, if_false]
          rw [runL_bind, ← ihv vd (c :: r)]
          rcases runL (valueP f vd) (c :: r) with ⟨rk, rest⟩
          cases rk with
          | ok k =>
            cases k with
            | name key =>
              simp only [toRes_ok]
              rw [runL_bind, ← ihv vd rest]
              rcases runL (valueP f vd) rest with ⟨rv, rest'⟩
              cases rv with
              | ok v =>
                cases v with
                | null => exact ihd _ _ _ _ hterm
                | _ =>
                  simp only [toRes_ok]
                  split
                  · rfl
                  · exact ihd _ _ _ _ hterm
              | _ => rfl
            | _ => rfl
          | _ => rfl

theorem readNP_short : ∀ (n : Nat) (l : Bytes), l.length < n → (runL (readNP n) l).1 = none := by
  intro n
  induction n with
  | zero => intro l h; omega
  | succ n ih =>
    intro l h
    cases l with
    | nil => simp [readNP, runL, hdRes]
    | cons b t =>
      simp only [readNP, runL, hdRes, List.tail_cons, runL_map]
      rw [ih t (by simp at h; omega)]
      rfl

theorem readNP_ok : ∀ (n : Nat) (l : Bytes), n ≤ l.length →
    runL (readNP n) l = (some (l.take n), l.drop n) := by
  intro n
  induction n with
  | zero => intro l _; simp [readNP, runL]
  | succ n ih =>
    intro l h
    cases l with
    | nil => simp at h
    | cons b t =>
      simp only [readNP, runL, hdRes, List.tail_cons, runL_map]
      rw [ih t (by simp at h; omega)]
      simp

theorem finP_eq (kv : List (Bytes × Obj)) (data l : Bytes) :
    toRes (runL (finP kv data) l) = iiFinish kv data l := by
  simp only [finP, runL, show ((2 : Fin 4).val) = 2 from rfl, kwEI]
  match l with
  | [] => simp [iiFinish, runL, toRes]
  | [a] =>
    have : ([a] == [69, 73]) = false := by simp
    simp [this, iiFinish, runL, toRes]
  | a :: b :: rest =>
    simp only [show List.take 2 (a :: b :: rest) = [a, b] from rfl]
    by_cases hab : a = 69 ∧ b = 73
    · obtain ⟨ha, hb⟩ := hab
      subst ha hb
      simp only [show (([69, 73] : Bytes) == [69, 73]) = true from rfl, if_true, runL, List.tail_cons, iiFinish]
      cases rest with
      | nil => simp [hdRes, runL, toRes]
      | cons c t =>
        simp only [hdRes]
        by_cases hc : cReg c = true <;> simp [hc, runL, toRes]
    · have h1 : ([a, b] == [69, 73]) = false := by
        simp only [not_and] at hab
        by_cases ha : a = 69
        · have := hab ha; simp [ha, this]
        · simp [ha]
      simp only [h1, Bool.false_eq_true, if_false, List.length_cons, List.length_nil]
      have h2 : iiFinish kv data (a :: b :: rest) = .perr (a :: b :: rest) := by
        unfold iiFinish
        split
        · rename_i r heq
          simp at heq
          exact absurd ⟨heq.1, heq.2.1⟩ hab
        · rename_i heq; simp at heq
        · rename_i heq; simp at heq
        · rfl
      rw [h2]
      simp [runL, toRes]

theorem dataP_eq (kv : List (Bytes × Obj)) (l : Bytes) (hc : (skipsWS kv && l.isEmpty) = false) :
    toRes (runL (dataP kv) l) = imageData kv l := by
  simp only [dataP, imageData, hc, Bool.false_eq_true, if_false]
  by_cases hpos : iiInt kv nmL nmLength > 0
  · simp only [hpos, if_true]
    by_cases hmax : iiInt kv nmL nmLength > ↑Gen.content_maxInlineImageBytes
    · simp [hmax, runL, toRes]
    · simp only [hmax, if_false]
      rw [runL_bind]
      by_cases hshort : l.length < (iiInt kv nmL nmLength).toNat
      · simp only [hshort, if_true, readNP_short _ _ hshort, runL, toRes]
      · simp only [hshort, if_false]
        rw [readNP_ok _ _ (Nat.le_of_not_lt hshort)]
        simp only [runL]
        cases hsk : CNT.skipWS (List.drop (iiInt kv nmL nmLength).toNat l) with
        | nil => simp [runL, toRes]
        | cons c r =>
          simp only [List.isEmpty_cons, Bool.false_eq_true, if_false]
          exact finP_eq _ _ _
  · simp only [hpos, if_false, runL]
    cases hl : iiLoop 0 0 l with
    | eof => simp [iiB, runL, toRes]
    | capped r => simp [iiB, iiRest, runL, toRes]
    | found d r => simp only [iiB, iiRest]; exact finP_eq _ _ _

theorem goP_eq (kv : List (Bytes × Obj)) (x : Bytes) :
    toRes (runL (goP kv) x) = imageData kv (if skipsWS kv then CNT.skipWS x else x) := by
  unfold goP
  cases hs : skipsWS kv with
  | false =>
    simp only [Bool.false_eq_true, if_false]
    exact dataP_eq kv x (by simp [hs])
  | true =>
    simp only [if_true, runL]
    cases hsk : CNT.skipWS x with
    | nil => simp [runL, toRes, imageData, hs]
    | cons c r =>
      simp only [List.isEmpty_cons, Bool.false_eq_true, if_false]
      exact dataP_eq kv (c :: r) (by simp)

theorem afterIDP_eq (kv : List (Bytes × Obj)) (l : Bytes) :
    toRes (runL (afterIDP kv) l) = imageData kv (afterID kv l) := by
  unfold afterIDP afterID
  cases l with
  | nil => simp only [runL, hdRes]; exact goP_eq kv []
  | cons c r =>
    simp only [runL, hdRes]
    by_cases hc : cSpace c = true
    · simp only [hc, if_true, runL, List.tail_cons]; exact goP_eq kv r
    · simp only [hc, Bool.false_eq_true, if_false]; exact goP_eq kv (c :: r)

theorem imageP_eq (l : Bytes) : toRes (runL imageP l) = readInlineImage l := by
  simp only [imageP, readInlineImage, runL]
  rw [runL_bind, ← (value_eq (2 * l.length + 2)).2.2 kwID 0 [] l rfl]
  rcases runL (dictP (2 * l.length + 2) kwID 0 []) l with ⟨r, rest⟩
  cases r with
  | ok kv =>
    simp only [toRes_ok]
    split
    · rfl
    · split
      · rfl
      · exact afterIDP_eq kv rest
  | _ => rfl

theorem scanLoopP_eq : ∀ (f : Nat) (stk : List Frame) (args : List Obj) (l : Bytes),
    toRes (runL (scanLoopP f stk args) l) = scanLoop f stk args l := by
  intro f
  induction f with
  | zero => intro stk args l; rfl
  | succ f ih =>
    intro stk args l
    rw [scanLoopP, scanLoop, runL_bind, ← tokP_eq l]
    rcases runL tokP l with ⟨r, rest⟩
    cases r with
    | ok tok =>
      simp only [toRes_ok]
      cases step stk args tok with
      | cont stk' args' => exact ih _ _ _
      | emit name args' => rfl
      | image => exact imageP_eq rest
      | perr => rfl
    | _ => rfl

theorem scanOneP_eq (l : Bytes) : toRes (runL scanOneP l) = scanOne l := by
  simp only [scanOneP, scanOne, runL]
  rw [runL_bind, skipSpP_eq _ l (Nat.le_refl _)]
  cases hsk : skipSp l with
  | nil => simp [runL, toRes]
  | cons c r =>
    simp only [List.isEmpty_cons, Bool.false_eq_true, if_false, runL,
      show ((1 : Fin 4).val) = 1 from rfl, show List.take 1 (c :: r) = [c] from rfl]
    by_cases h37 : (c == 37) = true
    · have : ([c] == [37]) = true := by simp at h37; simp [h37]
      simp only [this, h37, if_true, runL]
      rw [runL_bind, cmtP_eq _ (c :: r) (Nat.le_refl _)]
      rcases spanCmt (c :: r) with ⟨cm, rest⟩
      simp only [runL, toRes]
      by_cases hn : cm.length > Gen.content_maxNameBytes <;> simp [hn]
    · have : ([c] == [37]) = false := by simp at h37; simp [h37]
      simp only [this, h37, Bool.false_eq_true, if_false, runL]
      exact scanLoopP_eq _ _ _ _

theorem scanAllP_eq : ∀ (f : Nat) (l : Bytes), (runL (scanAllP f) l).1 = scanAll f l := by
  intro f
  induction f with
  | zero => intro l; rfl
  | succ f ih =>
    intro l
    rw [scanAllP, scanAll, runL_bind, ← scanOneP_eq l]
    rcases runL scanOneP l with ⟨r, rest⟩
    cases r with
    | ok op => simp only [toRes_ok, runL_map, ih]
    | eof => rfl
    | perr => exact ih _
    | fuel => rfl

/-- the program `scanP`, run on the whole input, is the scanner model of `Model/CNTScan.lean` -/
theorem scanP_eq (l : Bytes) : (runL scanP l).1 = scan l := by
  simp only [scanP, scan, runL]
  exact scanAllP_eq _ _

/-- `scanBuf_refines` for a scanner in the middle of its work: any coherent buffer state -/
theorem scanBuf_refines_from (ch : Chunking) (s : BS) (h : Inv s) :
    (runB ch scanP s).2 = some (scan (view s)) := by
  obtain ⟨h1, _, _⟩ := runB_refines ch scanP s h
  rw [h1, scanP_eq]

/-- For every input and every chunking of it by the underlying reader (any sequence of read sizes ≥ 1,
the last chunk with or without `io.EOF`), the content scanner running on its 512-byte window — the window
operations and on top of them the whole token reader, `readValueDepth`/`readDictBody`, `readInlineImage`,
the composite stack of `Scan` and the resynchronising loop of `pumpScanner` — never hangs and yields
exactly the operator sequence of the whole-input model `scan`. -/
theorem scanBuf_refines (ch : Chunking) (data : Bytes) : scanBuf ch data = some (scan data) := by
  unfold scanBuf
  rw [scanBuf_refines_from ch _ (inv_init data), view_init]

theorem runB_toRes {α : Type} (ch : Chunking) (p : Prog (R α)) (m : Bytes → Res α)
    (hm : ∀ l, toRes (runL p l) = m l) (s : BS) (h : Inv s) :
    ∃ r, (runB ch p s).2 = some r ∧ Inv (runB ch p s).1 ∧ toRes (r, view (runB ch p s).1) = m (view s) := by
  obtain ⟨h1, h2, h3⟩ := runB_refines ch p s h
  exact ⟨_, h1, h2, by rw [h3]; exact hm (view s)⟩

/-- one `Scan` call from any coherent state: the operator (or `io.EOF` / parse error) of the
whole-input model, and the scanner is left exactly where the model resumes -/
theorem scanOneBuf_refines (ch : Chunking) (s : BS) (h : Inv s) :
    ∃ r, (runB ch scanOneP s).2 = some r ∧ Inv (runB ch scanOneP s).1 ∧
      toRes (r, view (runB ch scanOneP s).1) = scanOne (view s) :=
  runB_toRes ch scanOneP scanOne scanOneP_eq s h

/-- one `ScanToken` call from any coherent state -/
theorem scanTokenBuf_refines (ch : Chunking) (s : BS) (h : Inv s) :
    ∃ r, (runB ch tokP s).2 = some r ∧ Inv (runB ch tokP s).1 ∧
      toRes (r, view (runB ch tokP s).1) = scanToken (view s) :=
  runB_toRes ch tokP scanToken tokP_eq s h

/-- 509 blanks, then `/AbCd#41 q`: the name (with its `#41` escape, which `tryHex` peeks with
`PeekN(3)`) occupies the offsets 509–516 and straddles the edge of the 512-byte window -/
def edgeInput : Bytes := List.replicate 509 32 ++ [47, 65, 98, 67, 100, 35, 52, 49, 32, 113, 10]

def isEdgeResult (r : Option (Option (List (Bytes × List Obj)))) : Bool :=
  match r with
  | some (some [(n, [.name x])]) => n == [113] && x == [65, 98, 67, 100, 65]
  | _ => false

/-- reads of one byte each -/
example : isEdgeResult (scanBuf ⟨fun _ => 1, false⟩ edgeInput) = true := by decide +kernel

/-- reads which fill the window (512, then the rest), the last one together with `io.EOF` -/
example : isEdgeResult (scanBuf ⟨fun _ => 512, true⟩ edgeInput) = true := by decide +kernel

/-- irregular short reads -/
example : isEdgeResult (scanBuf ⟨fun k => 7 * k % 13 + 1, false⟩ edgeInput) = true := by decide +kernel

/-- and the whole-input model says the same, as `scanBuf_refines` demands -/
example : isEdgeResult (some (scan edgeInput)) = true := by decide +kernel

end PdfVerif.C15cnty
