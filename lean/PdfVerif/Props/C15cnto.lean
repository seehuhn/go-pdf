import PdfVerif.Props.C15cntm
/-!
# C15 — `ops_rt` and `split_rt` for operators with flat operands and comments

The lexical layer: operators whose operands are flat are an instance of `C15cntm.opD_step`;
comments are read back by `ReadComment`.
-/
namespace PdfVerif.C15cnto
open PdfVerif PdfVerif.CNT PdfVerif.C15cnt PdfVerif.C15cntm

/-- operators of the lexical layer: admissible name, fewer than `maxOperatorArgs` flat operands -/
structure FlatOp (op : Bytes × List Obj) : Prop where
  name : OpNameOk op.1
  args : ∀ a ∈ op.2, FlatOk a
  count : op.2.length < Gen.content_maxOperatorArgs

theorem argD_flat (a : Obj) (h : FlatOk a) : ArgD a :=
  ⟨(flat_canon_good a h).1, (flat_canon_good a h).2 ▸ Nat.zero_le _⟩

theorem flat_opstep (op : Bytes × List Obj) (h : FlatOp op) (b : Bytes) (hb : fmtOp op.1 op.2 = some b) :
    OpStep b (op.1, op.2.map normA) := by
  have := opD_step op ⟨h.name, fun a ha => argD_flat a (h.args a ha), h.count⟩ b hb
  rwa [List.map_congr_left fun a ha => by rw [canon_flat a (h.args a ha), normD_flat a (h.args a ha)]] at this

/-- comments: `%` followed by bytes other than CR and LF, at most `maxNameBytes` in all -/
structure CommentOk (s : Bytes) : Prop where
  pct : s.head? = some 37
  noEOL : ∀ b ∈ s, b ≠ 10 ∧ b ≠ 13
  len : s.length ≤ Gen.content_maxNameBytes

theorem spanCmt_all (s rest : Bytes) (h : ∀ b ∈ s, b ≠ 10 ∧ b ≠ 13) : spanCmt (s ++ 10 :: rest) = (s, 10 :: rest) := by
  induction s with
  | nil => simp [spanCmt]
  | cons c cs ih =>
    have hc := h c (by simp)
    have := ih (fun b hb => h b (by simp [hb]))
    simp [spanCmt, hc.1, hc.2, this]

/-- a comment is written as it stands, followed by a newline, and comes back as the pseudo-operator `%raw%` -/
theorem comment_opstep (op : Bytes × List Obj) (hn : op.1 = Gen.content_OpRawContent) (s : Bytes)
    (ha : op.2 = [.str s]) (h : CommentOk s) (b : Bytes) (hb : fmtOp op.1 op.2 = some b) :
    OpStep b (Gen.content_OpRawContent, [.str s]) := by
  rw [hn, ha] at hb
  obtain rfl : s ++ [10] = b := by simpa [fmtOp] using hb
  refine ⟨s, rfl, ?_⟩
  intro rest
  match s, h.pct with
  | c :: tl, hp =>
    simp at hp
    subst hp
    have hl : ¬ (Gen.content_maxNameBytes < tl.length + 1) := by have := h.len; simp at this; omega
    have hs := spanCmt_all (37 :: tl) rest h.noEOL
    simp only [List.cons_append] at hs
    simp [scanOne, skipSp, cSpace_delim (c := 37) (by simp), hs, hl]

/-- operators of the lexical layer: flat operators and comments -/
def OpOk (op : Bytes × List Obj) : Prop :=
  FlatOp op ∨ (op.1 = Gen.content_OpRawContent ∧ ∃ s, op.2 = [.str s] ∧ CommentOk s)

/-- the operator as the scanner returns it: operands through `normA` (a comment, `[.str s]`, is unchanged by it) -/
def normOp (op : Bytes × List Obj) : Bytes × List Obj := (op.1, op.2.map normA)

theorem opOk_step (op : Bytes × List Obj) (h : OpOk op) (b : Bytes) (hb : fmtOp op.1 op.2 = some b) :
    OpStep b (normOp op) := by
  rcases h with h | ⟨hn, s, ha, hc⟩
  · exact flat_opstep op h b hb
  · simpa [normOp, normA, hn, ha] using comment_opstep op hn s ha hc b hb

/-- `ops_rt` and `split_rt` for the lexical layer: for every sequence of comments and of operators with
admissible names whose operands are null, booleans, integers, reals, names and strings (any bytes, below
the scanner's caps), scanning what the content writer wrote returns the sequence (reals with their
written token, nil arrays as null); written in segments split at operator boundaries and joined by
newlines (as `page.SegmentsReader` does) it reads as the unsplit stream. -/
theorem split_rt_flat (segs : List (List (Bytes × List Obj))) (hall : ∀ seg ∈ segs, ∀ op ∈ seg, OpOk op)
    (bss : List Bytes) (hb : segs.mapM fmtOps = some bss) (whole : Bytes) (hw : fmtOps segs.flatten = some whole) :
    scan (joinSegments bss) = scan whole ∧ scan whole = some (segs.flatten.map normOp) :=
  scan_split OpOk normOp opOk_step segs hall bss hb whole hw

end PdfVerif.C15cnto
