import PdfVerif.Model.FAAsciiHex
import PdfVerif.Model.FAAscii85
import PdfVerif.Model.FARunLength
import PdfVerif.Lemmas.FALZW
/-!
# C08 (part A) — the byte-codec decoders on arbitrary input

For every byte string (no assumption on the input, not even `< 256`) the decoder ends with a clean end
of data or with `malformed`, never with another class (the LZW model's internal `other` — prefix chain
leaves the table or does not end — is unreachable), and its output is bounded in the length of the
input.  Typing and bound are proved together (`Bounded`), by induction along the branches of each decoder.
The decoders are structurally recursive on their input, so termination is by construction; the one
loop of the Go code without a syntactic bound (the prefix walk `for c >= clear`, which the LZW reader
runs in two places) is covered by `lzw_expand_fuel`.
-/
namespace PdfVerif.C08fa
open PdfVerif PdfVerif.FA

/-- a decoder result is well-typed: end of data or a malformed-input error -/
def Typed (r : DecRes) : Prop := r.2 = none ∨ r.2 = some .malformed

/-- an output byte costs `a`, `n` is what the input read so far has paid (units chosen per decoder
    so that no division occurs) -/
def Bounded (a n : Nat) (r : DecRes) : Prop := Typed r ∧ a * r.1.length ≤ n

theorem bounded_pre {a n m : Nat} {r : DecRes} (F : Bytes) (h : Bounded a n r)
    (hm : a * F.length + n ≤ m) : Bounded a m (DecRes.pre F r) := by
  refine ⟨h.1, ?_⟩
  rw [DecRes.pre_fst, List.length_append, Nat.mul_add]
  exact Nat.le_trans (Nat.add_le_add_left h.2 _) hm

theorem bounded_mono {a n m : Nat} {r : DecRes} (h : Bounded a n r) (hm : n ≤ m) : Bounded a m r :=
  ⟨h.1, Nat.le_trans h.2 hm⟩

theorem bounded_eod (a n : Nat) : Bounded a n ([], none) := ⟨.inl rfl, Nat.zero_le _⟩

theorem bounded_malformed (a n : Nat) : Bounded a n ([], some .malformed) := ⟨.inr rfl, Nat.zero_le _⟩

/-- a pending high nibble is one character already paid for -/
theorem asciihex_bounded (s : Bytes) : ∀ high,
    Bounded 2 (s.length + if high.isSome then 1 else 0) (AsciiHex.dec high s) := by
  intro high
  fun_induction AsciiHex.dec high s with
  | case1 => exact bounded_malformed _ _
  | case2 _ _ _ _ _ ih => exact bounded_pre _ ih (by simp; omega)  -- second digit of a pair
  | case3 _ _ _ _ ih => exact bounded_mono ih (by simp)  -- first digit
  | case4 _ _ _ _ _ ih => exact bounded_mono ih (by rw [List.length_cons]; omega)  -- white space
  | case5 => exact ⟨.inl rfl, by simp⟩  -- `>` after an odd digit
  | case6 => exact bounded_eod _ _
  | case7 => exact bounded_malformed _ _

/-- **ASCIIHex output bound**: at most one byte per two input characters. -/
theorem asciihex_out (s : Bytes) : 2 * (AsciiHex.decode s).1.length ≤ s.length :=
  (asciihex_bounded s none).2

theorem asciihex_decode_total (s : Bytes) : Typed (AsciiHex.decode s) := (asciihex_bounded s none).1

theorem ascii85_decEnd (s : Bytes) :
    Ascii85.decEnd s = ([], none) ∨ Ascii85.decEnd s = ([], some .malformed) := by
  cases s with
  | nil => exact .inr rfl
  | cons c cs => rw [Ascii85.decEnd]; split <;> simp

theorem bytes4_length (v : Nat) : (Ascii85.bytes4 v).length = 4 := rfl

theorem ascii85_bounded (s : Bytes) : ∀ v k, Bounded 1 (4 * s.length) (Ascii85.dec v k s) := by
  intro v k
  have hend : ∀ F cs : Bytes, F.length ≤ 4 → Bounded 1 (4 * (cs.length + 1)) (DecRes.pre F (Ascii85.decEnd cs)) := by
    intro F cs hF
    rcases ascii85_decEnd cs with h | h <;> rw [h]
    · exact ⟨.inl rfl, by simp; omega⟩
    · exact ⟨.inr rfl, by simp; omega⟩
  fun_induction Ascii85.dec v k s with
  | case1 => exact bounded_malformed _ _
  | case2 _ _ _ _ _ _ _ ih | case4 _ _ _ _ _ _ ih =>  -- fifth digit of a group, `z`
    exact bounded_pre _ ih (by rw [bytes4_length, List.length_cons]; omega)
  | case3 _ _ _ _ _ _ _ ih | case5 _ _ _ _ _ _ _ ih =>  -- another digit, white space
    exact bounded_mono ih (by rw [List.length_cons]; omega)
  -- `~` after no digit, after two or more, after one; another character
  | case6 => exact hend [] _ (by decide)
  | case8 => exact hend _ _ (by rw [List.length_take, bytes4_length]; omega)
  | case7 | case9 => exact bounded_malformed _ _

/-- **ASCII85 output bound**: at most four bytes per input character (`z`). -/
theorem ascii85_out (s : Bytes) : (Ascii85.decode s).1.length ≤ 4 * s.length :=
  Nat.le_trans (Nat.le_of_eq (Nat.one_mul _).symm) (ascii85_bounded s 0 0).2

theorem ascii85_decode_total (s : Bytes) : Typed (Ascii85.decode s) := (ascii85_bounded s 0 0).1

/-- the state's pending repeat count is one the reader can have computed (`257 − length`) -/
def RlStOK : RunLength.R → Prop
  | .rep n => n ≤ 128
  | _ => True

theorem runlength_bounded (s : Bytes) : ∀ st, RlStOK st → Bounded 1 (128 * s.length) (RunLength.dec st s) := by
  intro st
  fun_induction RunLength.dec st s with
  | case1 | case2 | case5 | case8 => exact fun _ => bounded_eod _ _  -- the EOD byte; the input ends where it may
  | case6 _ fresh h => cases fresh; exact fun _ => bounded_malformed _ _; exact absurd rfl h
  | case3 _ _ _ _ ih => exact fun _ => bounded_mono (ih trivial) (by rw [List.length_cons]; omega)
  | case4 l _ h1 h2 ih =>  -- the length byte of a repeat run is above 128
    exact fun _ => bounded_mono (ih (by
      simp only [Gen.rl_rlReader_Read_eod, Gen.rl_rlReader_Read_litBound, beq_iff_eq] at h1 h2
      simp only [RlStOK, Gen.rl_rlReader_Read_repBase]; omega)) (by rw [List.length_cons]; omega)
  | case7 _ _ _ _ ih1 ih2 =>
    intro _; split
    · exact bounded_pre _ (ih1 trivial) (by simp; omega)
    · exact bounded_pre _ (ih2 trivial) (by simp; omega)
  | case9 n _ _ ih => exact fun (hst : n ≤ 128) => bounded_pre _ (ih trivial) (by simp; omega)

/-- **RunLength output bound**: at most 128 bytes per input byte. -/
theorem runlength_out (s : Bytes) : (RunLength.decode s).1.length ≤ 128 * s.length :=
  Nat.le_trans (Nat.le_of_eq (Nat.one_mul _).symm) (runlength_bounded s .len trivial).2

theorem runlength_decode_total (s : Bytes) : Typed (RunLength.decode s) := (runlength_bounded s .len trivial).1

section LZW
open LZW
/-! The condition on a prefix in `EntryOK` and `RInv.last` is `C06faL.ValidPrefix` (Lemmas/FALZW) written
out.  The invariant is not the `RAt` of the round trip (C06faL): a hostile stream can go on with a full
table, where `last = none` although `hi > 257`, a state the protocol does not have, and no strings
are tracked. -/

/-- table entry `c` is usable: present, and its prefix is a literal or an earlier entry -/
def EntryOK (t : Array (Nat × Nat)) (c : Nat) : Prop :=
  ∃ p s, t[c]? = some (p, s) ∧ (p < 256 ∨ (258 ≤ p ∧ p < c))

/-- **Reader invariant**, maintained for every code sequence whatsoever. -/
structure RInv (r : R) : Prop where
  size : r.table.size = 4096
  ec_le : r.ec ≤ 1
  ov_pow : r.overflow = 2 ^ r.width
  w_lo : 9 ≤ r.width
  w_hi : r.width ≤ 12
  hi_lo : 257 ≤ r.hi
  hi_ov : r.hi + r.ec < r.overflow
  /-- every code the reader accepts has a usable entry -/
  ent : ∀ c, 258 ≤ c → (c < r.hi ∨ (c = r.hi ∧ r.last = none)) → EntryOK r.table c
  last : ∀ l, r.last = some l → l < 256 ∨ (258 ≤ l ∧ l < r.hi)
  /-- `last` is invalid only right after a clear code or while the table is full -/
  lastnone : r.last = none → r.hi = 257 ∨ (r.hi + 1 + r.ec = r.overflow ∧ r.width = 12)

theorem rinv_hi_le {r : R} (h : RInv r) : r.hi ≤ 4095 := by
  have := h.hi_ov; have := h.ov_pow
  have : 2 ^ r.width ≤ 2 ^ 12 := Nat.pow_le_pow_right (by decide) h.w_hi
  omega

/-- **The prefix walk terminates inside the table** (`for c >= clear { … c = prefix[c] }` of
    `reader.go` has no syntactic bound): from any accepted code `c`, with any fuel above
    `c` (the model gives `tableSize`), the walk returns, with at least one byte and at most `c + 1`. -/
theorem lzw_expand_fuel (t : Array (Nat × Nat)) : ∀ c, (∀ c', 258 ≤ c' → c' ≤ c → EntryOK t c') →
    (c < 256 ∨ 258 ≤ c) → ∀ fuel, c < fuel → ∀ acc,
    ∃ h tl, expand t fuel c acc = some (h :: tl) ∧ (h :: tl).length ≤ acc.length + c + 1 := by
  intro c hent hc fuel hf acc
  fun_induction expand t fuel c acc with
  | case1 => omega
  | case2 _ c acc => exact ⟨c, acc, rfl, by simp⟩
  | case3 f c acc hlit p s hget ih =>
    rw [clear_eq] at hlit
    obtain ⟨p', s', hget', hp⟩ := hent c (by omega) (Nat.le_refl _)
    obtain ⟨rfl, rfl⟩ : p' = p ∧ s' = s := by simpa [hget] using hget'.symm
    -- the walk goes down (`p < c`), so the fuel left suffices
    obtain ⟨h, tl, he, hl⟩ := ih (fun c' h1 h2 => hent c' h1 (by omega)) (by omega) (by omega)
    exact ⟨h, tl, he, by simp only [List.length_cons] at hl ⊢; omega⟩
  | case4 _ c _ hlit hget =>
    obtain ⟨p, s, hget', -⟩ := hent c (by rw [clear_eq] at hlit; omega) (Nat.le_refl _)
    rw [hget] at hget'; nomatch hget'

theorem save_entries (r : R) (first : Nat) (h : RInv r) :
    ∀ c, 258 ≤ c → c ≤ r.hi → EntryOK (save r first) c := by
  intro c h1 h2
  have hhi := rinv_hi_le h
  by_cases hc : c < r.hi
  · obtain ⟨p, s, hg, hp⟩ := h.ent c h1 (.inl hc)
    exact ⟨p, s, (save_get_ne r first (by omega)).trans hg, hp⟩
  · have hce : c = r.hi := by omega
    cases hl : r.last with
    | none =>
      obtain ⟨p, s, hg, hp⟩ := h.ent c h1 (.inr ⟨hce, hl⟩)
      exact ⟨p, s, by unfold save; rw [hl]; exact hg, hp⟩
    | some l =>
      refine ⟨l, first, ?_, ?_⟩
      · rw [hce]
        exact save_get_hi r first hl (by rw [h.size]; omega)
      · exact C06faL.ValidPrefix.mono (h.last l hl) (by omega)

theorem advance_inv (r : R) (h : RInv r) (code first : Nat)
    (hcode : code < 256 ∨ (258 ≤ code ∧ code ≤ r.hi)) : RInv (advance r code (save r first)) := by
  have hent : ∀ c, 258 ≤ c → c < r.hi + 1 ∨ c = r.hi + 1 ∧ some code = none → EntryOK (save r first) c :=
    fun c h1 h2 => save_entries r first h c h1 (h2.elim Nat.le_of_lt_succ fun h3 => nomatch h3.2)
  have hlast : ∀ l, some code = some l → l < 256 ∨ (258 ≤ l ∧ l < r.hi + 1) :=
    fun l hl => Option.some.inj hl ▸ C06faL.ValidPrefix.of_le hcode
  have hsz := save_size r first h.size
  have hhi : 257 ≤ r.hi + 1 := Nat.le_succ_of_le h.hi_lo
  by_cases hge : r.hi + 1 + r.ec ≥ r.overflow
  · by_cases hw : r.width ≥ maxWidth
    · rw [advance_full r code _ hge hw]
      have hw12 : r.width = 12 := Nat.le_antisymm h.w_hi hw
      have heq : r.hi + 1 + r.ec = r.overflow := by have := h.hi_ov; omega
      exact { h with
              size := hsz
              ent := fun c h1 h2 => save_entries r first h c h1 (h2.elim Nat.le_of_lt fun h3 => Nat.le_of_eq h3.1)
              last := fun _ hl => nomatch hl
              lastnone := fun _ => .inr ⟨heq, hw12⟩ }
    · rw [advance_wider r code _ hge hw]
      have hov : r.hi + 1 + r.ec < 2 ^ (r.width + 1) := by
        have := h.hi_ov; rw [Nat.pow_succ, ← h.ov_pow]; omega
      exact { size := hsz, ec_le := h.ec_le, ov_pow := rfl, w_lo := Nat.le_succ_of_le h.w_lo,
              w_hi := Nat.lt_of_not_le hw, hi_lo := hhi, hi_ov := hov, ent := hent, last := hlast,
              lastnone := fun hl => (nomatch hl) }
  · rw [advance_same r code _ hge]
    exact { h with size := hsz, hi_lo := hhi, hi_ov := Nat.lt_of_not_le hge, ent := hent, last := hlast,
                   lastnone := fun hl => (nomatch hl) }

theorem rinv_reset (t : Array (Nat × Nat)) (ec : Nat) (hs : t.size = 4096) (hec : ec ≤ 1) :
    RInv { width := initWidth, hi := LZW.eof, overflow := 2 ^ initWidth, last := none, table := t, ec := ec } :=
  { size := hs, ec_le := hec, ov_pow := rfl, w_lo := (by decide : 9 ≤ 9), w_hi := (by decide : 9 ≤ 12),
    hi_lo := (by decide : 257 ≤ 257), hi_ov := (by omega : 257 + ec < 512),
    ent := fun c h1 h2 => by
      have h2 : c < 257 ∨ c = 257 ∧ _ := h2
      omega,
    last := fun _ hl => (nomatch hl), lastnone := fun _ => .inl rfl }

theorem expand_accepted {r : R} (h : RInv r) (c : Nat)
    (hc : c < 256 ∨ (258 ≤ c ∧ (c < r.hi ∨ (c = r.hi ∧ r.last = none)))) :
    ∃ hd tl, expand r.table tableSize c [] = some (hd :: tl) ∧ (hd :: tl).length ≤ c + 1 ∧ c ≤ 4095 := by
  have hc4 : c ≤ 4095 := by
    have := rinv_hi_le h
    rcases hc with h1 | ⟨_, h1 | ⟨h1, _⟩⟩ <;> omega
  obtain ⟨hd, tl, he, hl⟩ := lzw_expand_fuel r.table c
    (fun c' h1 h2 => h.ent c' h1 (by
      rcases hc with h3 | ⟨_, h3 | ⟨h3, h4⟩⟩
      · omega
      · exact .inl (by omega)
      · exact if h5 : c' = r.hi then .inr ⟨h5, h4⟩ else .inl (by omega)))
    (hc.imp id And.left) tableSize (Nat.lt_succ_of_le hc4) []
  exact ⟨hd, tl, he, by simpa using hl, hc4⟩

/-- **One code, any code.**  The reader either continues in a state satisfying the invariant
    with fewer than 4097 new bytes, or stops at the eof code, or reports `malformed`; the
    model's internal error `other` (prefix chain broken) cannot occur. -/
theorem stepCode_inv (r : R) (h : RInv r) (code : Nat) :
    match stepCode r code with
    | .cont r' out => RInv r' ∧ out.length ≤ 4096
    | .eof => True
    | .bad e => e = .malformed := by
  rw [stepCode]
  by_cases hlit : code < clear
  · rw [if_pos hlit]
    exact ⟨advance_inv r h code code (.inl hlit), Nat.le_add_left 1 4095⟩
  · rw [if_neg hlit]
    by_cases hclr : (code == clear) = true
    · rw [if_pos hclr]
      exact ⟨rinv_reset r.table r.ec h.size h.ec_le, Nat.zero_le _⟩
    · rw [if_neg hclr]
      by_cases heof : (code == LZW.eof) = true
      · rw [if_pos heof]; trivial
      · rw [if_neg heof]
        by_cases hle : code ≤ r.hi
        · rw [if_pos hle]
          have h258 : 258 ≤ code := by
            rw [clear_eq] at hlit hclr; rw [eof_eq] at heof
            simp only [beq_iff_eq] at hclr heof; omega
          have hadv := fun first => advance_inv r h code first (.inr ⟨h258, hle⟩)
          by_cases hc : (code == r.hi) = true
          · rw [if_pos hc]
            cases hl : r.last with
            | some l =>
              -- code = hi with a valid `last`: the expansion of `last` and its first byte once more
              have hlv := h.last l hl
              obtain ⟨hd, tl, he, hlen, _⟩ := expand_accepted h l (hlv.imp id fun h3 => ⟨h3.1, .inl h3.2⟩)
              have := rinv_hi_le h
              simp only [he]
              refine ⟨hadv hd, ?_⟩
              simp only [List.length_cons, List.length_append, List.length_nil] at hlen ⊢
              rcases hlv with h3 | h3 <;> omega
            | none =>  -- code = hi while `last` is invalid: the entry itself
              obtain ⟨hd, tl, he, hlen, _⟩ := expand_accepted h code (.inr ⟨h258, .inr ⟨beq_iff_eq.mp hc, hl⟩⟩)
              simp only [he]
              exact ⟨hadv hd, by omega⟩
          · rw [if_neg hc]
            obtain ⟨hd, tl, he, hlen, _⟩ := expand_accepted h code
              (.inr ⟨h258, .inl (Nat.lt_of_le_of_ne hle (by simpa using hc))⟩)
            simp only [he]
            exact ⟨hadv hd, by omega⟩
        · rw [if_neg hle]

/-- An output byte costs 9, an input bit pays 4096: a code has at least 9 bits and yields at most 4096
    bytes.  The `r.width - need` bits of the current code already read stay in the budget, so
    that the whole code pays for its bytes when its last bit arrives. -/
theorem decBits_inv (bits : Bits) : ∀ r need acc, RInv r → need ≤ r.width →
    Bounded 9 (4096 * (bits.length + (r.width - need))) (decBits r need acc bits) := by
  intro r need acc
  fun_induction decBits r need acc bits with
  | case1 => exact fun _ _ => bounded_malformed _ _
  | case2 r _ _ _ _ acc' _ _ out hs ih =>  -- the last bit of a code that is accepted
    intro h _
    have hstep := stepCode_inv r h acc'
    rw [hs] at hstep
    exact bounded_pre out (ih hstep.1 (Nat.le_refl _)) (by
      have := hstep.2; have := h.w_lo; rw [List.length_cons]; omega)
  | case3 => exact fun _ _ => bounded_eod _ _  -- … of the eof code
  | case4 r _ _ _ _ acc' _ e hs =>  -- … of a code that is rejected
    intro h _
    have hstep := stepCode_inv r h acc'
    rw [hs] at hstep
    rw [show e = .malformed from hstep]
    exact bounded_malformed _ _
  | case5 _ _ _ _ _ _ _ ih =>  -- a bit inside a code
    exact fun h _ => bounded_mono (ih h (by omega)) (by rw [List.length_cons]; omega)

theorem rinv_init (early : Bool) : RInv (R.init early) :=
  rinv_reset _ _ (by simp [tableSize_eq]) (by cases early <;> decide)

/-- **LZW decoder totality** on arbitrary bytes, both `EarlyChange` settings. -/
theorem lzw_decode_total (early : Bool) (s : Bytes) : Typed (decode early s) :=
  (decBits_inv (bytesToBits s) (R.init early) initWidth 0 (rinv_init early) (Nat.le_refl _)).1

/-- **LZW output bound**: every code is at least 9 bits long and expands to at most 4096
    bytes, so `9·|out| ≤ 4096·8·|in|`. -/
theorem lzw_out (early : Bool) (s : Bytes) : (decode early s).1.length * 9 ≤ 4096 * (8 * s.length) := by
  have := (decBits_inv (bytesToBits s) (R.init early) initWidth 0 (rinv_init early) (Nat.le_refl _)).2
  rwa [bytesToBits_length, show (R.init early).width - initWidth = 0 from Nat.sub_self _, Nat.add_zero, Nat.mul_comm 9] at this

-- non-vacuity: a hostile stream (a code above `hi`) is classified, by evaluation; the second example is
-- the theorem at a stream without eof code; a full table without a clear code is exercised by the harness
example : decode false [0x80, 0x7f, 0xc0] = ([], some .malformed) := by decide +kernel
example : (decode true [0x80, 0x10, 0x60, 0x50]).2 = none ∨ (decode true [0x80, 0x10, 0x60, 0x50]).2 = some .malformed :=
  lzw_decode_total true _

end LZW
end PdfVerif.C08fa
