import PdfVerif.Props.C13ccf
/-!
# C13 (part 7) — ToUnicode: parent chains, `All` with the `Decode` filter
-/
namespace PdfVerif.C13ccg
open PdfVerif PdfVerif.CC PdfVerif.CMap PdfVerif.C13cc PdfVerif.C13ccb PdfVerif.C13ccc PdfVerif.C13ccd PdfVerif.C13ccf

/-- **`tounicode_lookup` with a parent chain** (`usecmap`): the child's entries shadow the
parents', every other byte string gets the parents' answer. -/
theorem tounicode_lookup_parents (csr : CSR) (data : List (Nat × Text)) (f : TUFile) (codec : Codec)
    (parents : TUChain)
    (hc : newCodec csr = .ok codec) (h : newToUnicodeFile csr data = .ok f)
    (hfun : ∀ p ∈ data, ∀ q ∈ data, codec.appendCode p.1 = codec.appendCode q.1 → p.2 = q.2) :
    (∀ p ∈ data, ∃ bs, codec.appendCode p.1 = .ok bs ∧ tuLookup (f :: parents) bs = some p.2) ∧
    (∀ bs, (∀ p ∈ data, codec.appendCode p.1 ≠ .ok bs) → tuLookup (f :: parents) bs = tuLookup parents bs) := by
  obtain ⟨l1, l2⟩ := lookup_newToUnicodeFile hc h hfun
  constructor
  · intro p hp
    obtain ⟨bs, h1, h2⟩ := l1 p hp
    exact ⟨bs, h1, by rw [tuLookup_cons, h2]; rfl⟩
  · intro bs hno
    rw [tuLookup_cons, l2 bs hno]; rfl

/-- `ToUnicodeFile.All` (with the `Decode` filter) on the file built by
`NewToUnicodeFile` yields exactly the pairs `(code, text)` of the map whose code is valid for
the codec — provided the enumeration budget is not exhausted. -/
theorem tounicode_all (csr : CSR) (data : List (Nat × Text)) (f : TUFile) (codec : Codec)
    (hc : newCodec csr = .ok codec) (h : newToUnicodeFile csr data = .ok f)
    (hb : tuRangesDemand f.ranges + f.singles.length ≤ Gen.limits_MaxCMapMappings) :
    ∃ out, tuAll [f] codec = .ok out ∧
      ∀ code v, (code, v) ∈ out ↔
        ∃ p ∈ data, p.2 = v ∧ ∃ bs, codec.appendCode p.1 = .ok bs ∧ codec.decode bs = .ok (code, bs.length, true) :=
  decodeItems_of_map csr codec hc _ data (tounicode_all_bytes csr data f codec hc h _ hb (by decide))

end PdfVerif.C13ccg
