import PdfVerif.Lemmas.C12Tree
/-!
# C12 (part 2) — `Codec.Decode` on the linearised tree

`Decode` (Model/CCCodec.lean `decodeLoop`, mirroring `font/charcode/codec.go`) run on a node
array that represents the tree of `newTree` (`reprOK`) returns exactly what the reference
semantics of ISO 32000-2 9.7.6.3 prescribes; the code is the little-endian value of the consumed
bytes; bounds of the reference semantics.  That `linearize` produces such an array whenever
`NewCodec` accepts is `Props/C12ccc.lean`.
-/
namespace PdfVerif.C12ccb
open PdfVerif PdfVerif.CC PdfVerif.Spec.CodeSpace PdfVerif.C12cc

/-- the `switch` on a child value that `Decode`, `AppendCode` and `walk` share -/
def childSwitch {α : Type} (c : Nat) (valid : α) (invalid : Nat → α) (index : α) : α :=
  if c == Gen.cc_validLeaf then valid
  else if c == Gen.cc_invalidConsume3 then invalid 3
  else if c == Gen.cc_invalidConsume2 then invalid 2
  else if c == Gen.cc_invalidConsume1 then invalid 1
  else if c == Gen.cc_invalidConsume0 then invalid 0
  else index

/-- the `switch next` of `Codec.Decode` -/
def cont (nodes : List LNode) (next : Nat) (s : Bytes) (code consumed : Nat) : Except CErr (Nat × Nat × Bool) :=
  childSwitch next (.ok (code, consumed, true))
    (fun k => .ok ((takeInvalid k s code consumed).1, (takeInvalid k s code consumed).2, false))
    (decodeLoop nodes s next code consumed)

theorem decodeLoop_cons (nodes : List LNode) (b : Nat) (s : Bytes) (cur code consumed : Nat) :
    decodeLoop nodes (b :: s) cur code consumed =
      match scan nodes nodes.length cur b with
      | none => .error .panic
      | some (_, node) => cont nodes node.child s (orByte code b consumed) (consumed + 1) := by
  rw [decodeLoop]
  cases scan nodes nodes.length cur b with
  | none => rfl
  | some p => obtain ⟨i, node⟩ := p; rfl

/-- the fold that `decodeLoop` and `takeInvalid` perform on `code` over further bytes -/
def accum : Bytes → (code consumed : Nat) → Nat
  | [], code, _ => code
  | b :: bs, code, consumed => accum bs (orByte code b consumed) (consumed + 1)

theorem takeInvalid_eq : ∀ (k : Nat) (s : Bytes) (code consumed : Nat),
    takeInvalid k s code consumed = (accum (s.take (min k s.length)) code consumed, consumed + min k s.length) := by
  intro k
  induction k with
  | zero => intro s code consumed; simp [takeInvalid, accum]
  | succ k ih =>
    intro s code consumed
    cases s with
    | nil => simp [takeInvalid, accum]
    | cons b s =>
      simp only [takeInvalid, ih, List.length_cons]
      rw [Nat.succ_min_succ]
      simp [accum]; omega

theorem scan_fuel (nodes : List LNode) : ∀ (f1 f2 cur b : Nat), nodes.length ≤ cur + f1 → nodes.length ≤ cur + f2 →
    scan nodes f1 cur b = scan nodes f2 cur b := by
  intro f1
  induction f1 with
  | zero =>
    intro f2 cur b h1 h2
    have : nodes[cur]? = none := by simp; omega
    cases f2 <;> simp [scan, this]
  | succ f1 ih =>
    intro f2 cur b h1 h2
    cases f2 with
    | zero =>
      have : nodes[cur]? = none := by simp; omega
      simp [scan, this]
    | succ f2 =>
      simp only [scan]
      cases h : nodes[cur]? with
      | none => rfl
      | some n =>
        simp only
        split
        · rfl
        · exact ih f2 (cur + 1) b (by omega) (by omega)

theorem scan_hit (nodes : List LNode) (cur b : Nat) (ln : LNode) (h : nodes[cur]? = some ln) (hb : b ≤ ln.bound) :
    scan nodes nodes.length cur b = some (cur, ln) := by
  have hl : cur < nodes.length := by
    have := List.getElem?_eq_some_iff.mp h; exact this.1
  cases hn : nodes.length with
  | zero => omega
  | succ n => simp [scan, h, hb]

theorem scan_miss (nodes : List LNode) (cur b : Nat) (ln : LNode) (h : nodes[cur]? = some ln) (hb : ¬ b ≤ ln.bound) :
    scan nodes nodes.length cur b = scan nodes nodes.length (cur + 1) b := by
  have hl : cur < nodes.length := by
    have := List.getElem?_eq_some_iff.mp h; exact this.1
  cases hn : nodes.length with
  | zero => omega
  | succ n =>
    simp only [scan, h, hb, if_false]
    exact scan_fuel nodes n (n + 1) (cur + 1) b (by omega) (by omega)

theorem decodeLoop_miss (nodes : List LNode) (cur b : Nat) (s : Bytes) (code consumed : Nat) (ln : LNode)
    (h : nodes[cur]? = some ln) (hb : ¬ b ≤ ln.bound) :
    decodeLoop nodes (b :: s) cur code consumed = decodeLoop nodes (b :: s) (cur + 1) code consumed := by
  rw [decodeLoop_cons, decodeLoop_cons, scan_miss nodes cur b ln h hb]

theorem reprOK_cons (nodes : List LNode) (hi : Nat) (n : Node) (rest : List (Nat × Node)) (idx : Nat) :
    reprOK nodes ((hi, n) :: rest) idx = true ↔
      ∃ ln, nodes[idx]? = some ln ∧ ln.bound = hi ∧ childOK nodes n ln.child = true ∧
        reprOK nodes rest (idx + 1) = true := by
  simp only [reprOK]
  cases nodes[idx]? with
  | none => simp
  | some ln => simp [and_assoc]

theorem childOK_valid (nodes : List LNode) (c : Nat) : childOK nodes .valid c = true ↔ c = Gen.cc_validLeaf := by
  simp [childOK]

theorem childOK_invalid (nodes : List LNode) (k c : Nat) :
    childOK nodes (.invalid k) c = true ↔ k ≤ 3 ∧ c = Gen.cc_invalidConsume0 - k := by
  simp [childOK]

theorem childOK_sub (nodes : List LNode) (cs : List (Nat × Node)) (c : Nat) :
    childOK nodes (.sub cs) c = true ↔ ¬ c = Gen.cc_validLeaf ∧ c < Gen.cc_maxNodes ∧ reprOK nodes cs c = true := by
  simp [childOK, and_assoc]

theorem kidsCover_cons (hi : Nat) (n : Node) (rest : List (Nat × Node)) (h : kidsCover ((hi, n) :: rest) = true) :
    n.covers = true ∧ (hi = 255 ∨ kidsCover rest = true) := by
  cases rest with
  | nil => simpa [kidsCover, and_comm] using h
  | cons _ _ => simp only [kidsCover, Bool.and_eq_true] at h; exact ⟨h.1, .inr h.2⟩

theorem childSwitch_of_childOK {α : Type} {nodes : List LNode} {n : Node} {c : Nat}
    (valid : α) (invalid : Nat → α) (index : α) : childOK nodes n c = true →
    childSwitch c valid invalid index =
      match n with
      | .valid => valid
      | .invalid k => invalid k
      | .sub _ => index := by
  intro h
  cases n with
  | valid => rw [(childOK_valid nodes c).mp h]; rfl
  | invalid k =>
    obtain ⟨hk, rfl⟩ := (childOK_invalid nodes k c).mp h
    have : k = 0 ∨ k = 1 ∨ k = 2 ∨ k = 3 := by omega
    rcases this with rfl | rfl | rfl | rfl <;> rfl
  | sub cs =>
    -- an index below `maxNodes` is none of the five special values
    obtain ⟨h0, hlt, _⟩ := (childOK_sub nodes cs c).mp h
    have : (c == Gen.cc_validLeaf) = false ∧ (c == Gen.cc_invalidConsume3) = false ∧
        (c == Gen.cc_invalidConsume2) = false ∧ (c == Gen.cc_invalidConsume1) = false ∧
        (c == Gen.cc_invalidConsume0) = false := by
      simp only [Gen.cc_validLeaf, Gen.cc_invalidConsume0, Gen.cc_invalidConsume1, Gen.cc_invalidConsume2,
        Gen.cc_invalidConsume3, Gen.cc_maxNodes, beq_eq_false_iff_ne, ne_eq] at *
      omega
    obtain ⟨e0, e3, e2, e1, e0'⟩ := this
    simp only [childSwitch, e0, e3, e2, e1, e0', Bool.false_eq_true, if_false]

mutual
theorem node_dec (nodes : List LNode) (n : Node) (c : Nat) (hr : childOK nodes n c = true) (hc : n.covers = true)
    (s : Bytes) (hs : AllBytes s) (code consumed : Nat) :
    cont nodes c s code consumed =
      .ok (accum (s.take (n.dec s).1) code consumed, consumed + (n.dec s).1, (n.dec s).2) := by
  rw [cont, childSwitch_of_childOK _ _ _ hr]
  match n with
  | .valid => simp [dec_valid, accum]
  | .invalid k => simp only [takeInvalid_eq]; rfl
  | .sub cs => exact kids_dec nodes cs c ((childOK_sub nodes cs c).mp hr).2.2 hc s hs code consumed
theorem kids_dec (nodes : List LNode) (cs : List (Nat × Node)) (idx : Nat) (hr : reprOK nodes cs idx = true)
    (hc : kidsCover cs = true) (s : Bytes) (hs : AllBytes s) (code consumed : Nat) :
    decodeLoop nodes s idx code consumed =
      .ok (accum (s.take (kidsDec cs s).1) code consumed, consumed + (kidsDec cs s).1, (kidsDec cs s).2) := by
  match cs, s with
  | cs, [] => simp [decodeLoop, kidsDec_nil, accum]
  | [], _ :: _ => simp [kidsCover] at hc
  | (hi, n) :: rest, b :: s =>
    obtain ⟨hb, hs'⟩ := (allBytes_cons b s).mp hs
    obtain ⟨ln, hln, hbound, hchild, hrest⟩ := (reprOK_cons nodes hi n rest idx).mp hr
    obtain ⟨hcov, hlast⟩ := kidsCover_cons hi n rest hc
    by_cases hsel : b ≤ hi
    · rw [decodeLoop_cons, scan_hit nodes idx b ln hln (hbound ▸ hsel)]
      simp only
      rw [node_dec nodes n ln.child hchild hcov s hs']
      simp only [kidsDec_hit hsel, List.take_succ_cons, accum, Except.ok.injEq, Prod.mk.injEq, and_true,
        true_and]
      omega
    · rcases hlast with h255 | hcov'
      · omega
      · rw [decodeLoop_miss nodes idx b s code consumed ln hln (hbound ▸ hsel),
          kids_dec nodes rest (idx + 1) hrest hcov' (b :: s) hs code consumed]
        rw [kidsDec_miss hsel]
end

theorem orByte_eq (code b consumed : Nat) (hc : code < 256 ^ consumed) (hb : b < 256) (h4 : consumed < 4) :
    orByte code b consumed = code + 256 ^ consumed * b := by
  unfold orByte
  have h2 : (256 : Nat) ^ consumed = 2 ^ (8 * consumed) := by
    rw [show (256 : Nat) = 2 ^ 8 from rfl, ← Nat.pow_mul]
  have hlt : code < 2 ^ (8 * consumed) := by rw [← h2]; exact hc
  rw [Nat.or_comm, ← Nat.shiftLeft_add_eq_or_of_lt hlt, Nat.shiftLeft_eq, ← h2]
  -- below `256 ^ (consumed + 1) ≤ 256 ^ 4`: the `uint32` does not overflow
  have : b * 256 ^ consumed + code < 4294967296 := by
    have h1 : b * 256 ^ consumed + code < 256 ^ (consumed + 1) := by
      have := Nat.mul_le_mul_right (256 ^ consumed) (Nat.le_of_lt_succ hb)
      rw [Nat.pow_succ]; omega
    exact Nat.lt_of_lt_of_le h1 (Nat.pow_le_pow_right (by omega) (show consumed + 1 ≤ 4 by omega))
  rw [Nat.mod_eq_of_lt this, Nat.mul_comm, Nat.add_comm]

theorem codeValue_nil : codeValue [] = 0 := rfl

theorem codeValue_cons (b : Nat) (bs : List Nat) : codeValue (b :: bs) = b + 256 * codeValue bs := rfl

theorem accum_eq : ∀ (bs : Bytes) (code consumed : Nat), AllBytes bs → code < 256 ^ consumed →
    consumed + bs.length ≤ 4 → accum bs code consumed = code + 256 ^ consumed * codeValue bs := by
  intro bs
  induction bs with
  | nil => intro code consumed _ _ _; simp [accum, codeValue_nil]
  | cons b bs ih =>
    intro code consumed hbs hc hl
    obtain ⟨hb, hbs'⟩ := (allBytes_cons b bs).mp hbs
    simp only [List.length_cons] at hl
    simp only [accum, codeValue_cons]
    rw [orByte_eq code b consumed hc hb (by omega)]
    rw [ih _ _ hbs' (by
      rw [Nat.pow_succ]
      have : 256 ^ consumed * b ≤ 256 ^ consumed * 255 := Nat.mul_le_mul_left _ (by omega)
      omega) (by omega)]
    rw [Nat.pow_succ, Nat.mul_add, Nat.mul_assoc, Nat.add_assoc]

theorem shortest_bounds (l : List Nat) (h : ∀ x ∈ l, 1 ≤ x ∧ x ≤ 4) : 1 ≤ shortest l ∧ shortest l ≤ 4 := by
  by_cases hl : l = []
  · subst hl; simp [shortest]
  · exact h _ (shortest_mem l hl)

theorem spec_bounds (csr : List CodeRange) (hwf : ∀ r ∈ csr, 1 ≤ r.len ∧ r.len ≤ 4) (s : List Nat) :
    (decode csr s).1 ≤ s.length ∧ (decode csr s).1 ≤ 4 ∧ (s ≠ [] → 1 ≤ (decode csr s).1) := by
  fun_cases decode csr s with
  | case1 h => exact ⟨Nat.zero_le _, Nat.zero_le _, fun hne => absurd (by simpa using h) hne⟩
  | case2 h r hr =>
    have h2 := List.find?_some hr
    have h3 := (withinFirst_len _ _ _ _ h2).2.2
    have := hwf r (List.mem_of_find?_eq_some hr)
    exact ⟨h3, this.2, fun _ => this.1⟩
  | case3 h hnone k chosen =>
    have := shortest_bounds (chosen.map CodeRange.len) (by
      simp only [chosen, List.mem_map, List.mem_filter]
      rintro x ⟨r, ⟨hr, _⟩, rfl⟩
      exact hwf r hr)
    have hpos : 1 ≤ s.length := List.length_pos_iff.mpr (by simpa using h)
    exact ⟨Nat.min_le_right _ _, Nat.le_trans (Nat.min_le_left _ _) this.2, fun _ => Nat.le_min.mpr ⟨this.1, hpos⟩⟩

theorem toSpec_wf (csr : CSR) (hv : ∀ r ∈ csr, r.isValid = true) : ∀ r ∈ toSpec csr, 1 ≤ r.len ∧ r.len ≤ 4 := by
  simp only [toSpec, List.forall_mem_map]
  intro r hr
  have := isValid_parts r (hv r hr)
  exact ⟨this.2.1, this.2.2.1⟩

theorem decode_tree (csr : CSR) (tree : List (Nat × Node)) (c : Codec)
    (hv : ∀ r ∈ csr, r.isValid = true) (hT : newTree 4 csr 0 = .ok tree)
    (hR : reprOK c.nodes tree 0 = true) (s : Bytes) (hs : AllBytes s) :
    c.decode s = .ok (codeValue (s.take (kidsDec tree s).1), (kidsDec tree s).1, (kidsDec tree s).2) ∧
      (kidsDec tree s).1 ≤ 4 := by
  -- the bound is that of the reference semantics
  have hle : (kidsDec tree s).1 ≤ 4 := by
    rw [tree_sem csr tree hT s hs]; exact (spec_bounds _ (toSpec_wf csr hv) s).2.1
  refine ⟨?_, hle⟩
  unfold Codec.decode
  rw [kids_dec c.nodes tree 0 hR (newTree_covers 4 csr 0 tree hT) s hs 0 0,
    accum_eq _ 0 0 (fun b hb => hs b (List.mem_of_mem_take hb)) (by simp)
      (by simp only [List.length_take, Nat.zero_add]; omega)]
  simp

/-- Relative to the representation certificate: if the node array of the
codec represents the tree that `newTree` built from `csr`, then `Codec.Decode` returns, for every
byte string, exactly what ISO 32000-2 9.7.6.3 prescribes: the number of bytes consumed, the
validity, and as code the little-endian value of the consumed bytes; it never panics. -/
theorem decode_spec (csr : CSR) (tree : List (Nat × Node)) (c : Codec)
    (hv : ∀ r ∈ csr, r.isValid = true) (hT : newTree 4 csr 0 = .ok tree)
    (hR : reprOK c.nodes tree 0 = true) (s : Bytes) (hs : AllBytes s) :
    c.decode s = .ok (codeValue (s.take (decode (toSpec csr) s).1), (decode (toSpec csr) s).1,
                      (decode (toSpec csr) s).2) := by
  rw [← tree_sem csr tree hT s hs]
  exact (decode_tree csr tree c hv hT hR s hs).1

end PdfVerif.C12ccb
