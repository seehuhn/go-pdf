import PdfVerif.Lemmas.C01Num
import PdfVerif.Lemmas.C01Step
import PdfVerif.Props.C01
/-!
# C01 (part b) — lexical round trips: strings and numbers

What the model of `types.go:formatString` writes, read by the model of `scanner.go:ReadString/ReadHexString`; the
decimal form of an integer and the written token of a real, read by `ReadNumber`; the keywords.  All statements are for
every input, with the size caps the scanner enforces as explicit hypotheses.
-/
namespace PdfVerif.C01b
open PdfVerif PdfVerif.C01L

/-- how `formatString` writes one byte `c` at parenthesis depth `l` (the reader's count: 1 = only the
    outer pair is open), and the depth behind it: CR and, next to a CR, LF by name; `\`, an
    unbalanced `(` or `)` behind a backslash; a balanced parenthesis and every other byte as itself -/
inductive StrTok : (l c : Nat) → Bytes → (l' : Nat) → Prop
  | cr (l) : StrTok l 13 [92, 114] l
  | lf (l) : StrTok l 10 [92, 110] l
  | esc (l c) : c = 40 ∨ c = 41 ∨ c = 92 → StrTok l c [92, c] l
  | popen (l) : StrTok l 40 [40] (l + 1)
  | pclose (l) : 1 ≤ l → StrTok (l + 1) 41 [41] l
  | plain (l c) : c ≠ 40 → c ≠ 41 → c ≠ 92 → c ≠ 13 → StrTok l c [c] l

theorem StrTok.pos {l c l' : Nat} {e : Bytes} (h : StrTok l c e l') : 0 < e.length := by
  cases h <;> exact Nat.succ_pos _

theorem fmtStrLoop_step (prev : Option Nat) (level c : Nat) (cs : Bytes) (hl : level ≤ countClose (c :: cs)) :
    ∃ e lvl', StrTok (level + 1) c e (lvl' + 1) ∧ lvl' ≤ countClose cs ∧
      fmtStrLoop prev level (countClose (c :: cs)) (c :: cs) = e ++ fmtStrLoop (some c) lvl' (countClose cs) cs := by
  have b : ∀ k, c = k → (c == k) = true := fun k h => beq_iff_eq.mpr h
  have nb : ∀ k, c ≠ k → ¬ (c == k) = true := fun k h => mt beq_iff_eq.mp h
  rw [fmtStrLoop]
  by_cases h41 : c = 41
  · have hc1 : countClose (c :: cs) = countClose cs + 1 := by rw [countClose, if_pos (b 41 h41), Nat.add_comm]
    rw [if_neg (nb 13 (by omega)), if_neg (nb 10 (by omega)), if_neg (nb 40 (by omega)), if_pos (b 41 h41), hc1,
      Nat.add_sub_cancel]
    rw [hc1] at hl
    subst h41
    by_cases hh : level > 0
    · obtain ⟨k, rfl⟩ : ∃ k, level = k + 1 := ⟨level - 1, by omega⟩
      rw [if_pos hh]
      exact ⟨_, k, .pclose _ (Nat.succ_pos _), Nat.le_of_succ_le_succ hl, rfl⟩
    · rw [if_neg hh]
      exact ⟨_, level, .esc _ _ (.inr (.inl rfl)), by omega, rfl⟩
  have hc0 : countClose (c :: cs) = countClose cs := by rw [countClose, if_neg (nb 41 h41), Nat.zero_add]
  rw [hc0] at hl ⊢
  by_cases h13 : c = 13
  · rw [if_pos (b 13 h13)]; subst h13; exact ⟨_, level, .cr _, hl, rfl⟩
  rw [if_neg (nb 13 h13)]
  by_cases h10 : c = 10
  · rw [if_pos (b 10 h10)]; subst h10
    by_cases hh : (prev == some 13 || cs.head? == some 13) = true
    · rw [if_pos hh]; exact ⟨_, level, .lf _, hl, rfl⟩
    · rw [if_neg hh]; exact ⟨_, level, .plain _ _ (by decide) (by decide) (by decide) (by decide), hl, rfl⟩
  rw [if_neg (nb 10 h10)]
  by_cases h40 : c = 40
  · rw [if_pos (b 40 h40)]; subst h40
    by_cases hh : level < countClose cs
    · rw [if_pos hh]; exact ⟨_, level + 1, .popen _, hh, rfl⟩
    · rw [if_neg hh]; exact ⟨_, level, .esc _ _ (.inl rfl), hl, rfl⟩
  rw [if_neg (nb 40 h40), if_neg (nb 41 h41)]
  by_cases h92 : c = 92
  · rw [if_pos (b 92 h92)]; subst h92; exact ⟨_, level, .esc _ _ (.inr (.inr rfl)), hl, rfl⟩
  · rw [if_neg (nb 92 h92)]; exact ⟨_, level, .plain _ _ h40 h41 h92 h13, hl, rfl⟩

theorem rsb_tok {l c l' : Nat} {e : Bytes} (h : StrTok l c e l') {fuel n len m : Nat} (hf : n < fuel)
    (hl : len + m ≤ Gen.scanner_maxStringBytes) (r : Bytes) :
    readStringBody fuel l false len (e ++ r) = consRes c (readStringBody (fuel - 1) l' false (len + 1) r) := by
  cases h with
  | cr => exact C04hisc.rsb_esc_lit hf hl (by decide) (by decide) (by decide)
  | lf => exact C04hisc.rsb_esc_lit hf hl (by decide) (by decide) (by decide)
  | esc _ _ hc => rcases hc with rfl | rfl | rfl <;> exact C04hisc.rsb_esc_lit hf hl (by decide) (by decide) (by decide)
  | popen => exact C04hisc.rsb_open hf hl
  | pclose _ h1 => exact C04hisc.rsb_close hf hl (by omega)
  | plain _ _ h40 h41 h92 h13 => exact C04hisc.rsb_plain hf hl h40 h41 h92 h13 nofun

theorem strR_tok {l c l' : Nat} {e : Bytes} (h : StrTok l c e l') (hc : c < 256) {v s : Bytes} (hs : Spec.Grammar.StrR l' v s) :
    Spec.Grammar.StrR l (c :: v) (e ++ s) := by
  cases h with
  | cr => exact .escR _ _ _ hs
  | lf => exact .escN _ _ _ hs
  | esc _ _ hc' =>
    rcases hc' with rfl | rfl | rfl <;>
      exact .escSelf _ _ _ _ (by decide) (by decide) (by decide) (by decide) (by decide) (by decide) (by decide)
        (by decide) (by decide) hs
  | popen => exact .popen _ _ _ hs
  | pclose _ h1 => exact .pclose _ _ _ h1 hs
  | plain _ _ h40 h41 h92 h13 => exact .plain _ _ _ _ hc h40 h41 h92 h13 hs

/-- Invariant of the two passes of `formatString`: while `level ≤` the number of closing
parentheses still to come, the reader (at bracket level `level + 1`) reproduces the rest of
the string and stops exactly at the final `)`.  For byte strings this is `C04hisc.strBody_any` at
`fmtStrLoop_strR`; it is proved on its own because `string_rt_literal` is stated for every list of
numbers, and the grammar (`StrR.plain`) speaks of bytes only. -/
theorem strBody_rt (rest : Bytes) (s : Bytes) :
    ∀ (prev : Option Nat) (level len fuel : Nat),
      level ≤ countClose s →
      len + s.length ≤ Gen.scanner_maxStringBytes →
      fuel ≥ (fmtStrLoop prev level (countClose s) s).length + 2 →
      readStringBody fuel (level + 1) false len
        (fmtStrLoop prev level (countClose s) s ++ 41 :: rest) = .ok (s, rest) := by
  induction s with
  | nil =>
    intro prev level len fuel hl hlen hf
    obtain rfl : level = 0 := by simpa [countClose] using hl
    exact C04hisc.rsb_close_outer (n := 0) (by omega) hlen
  | cons c cs ih =>
    intro prev level len fuel hl hlen hf
    obtain ⟨e, lvl', ht, hl', he⟩ := fmtStrLoop_step prev level c cs hl
    rw [he] at hf ⊢
    have := ht.pos
    rw [List.length_append] at hf
    rw [List.append_assoc, rsb_tok ht (n := 0) (by omega) hlen,
      ih (some c) lvl' (len + 1) (fuel - 1) hl' (by rw [List.length_cons] at hlen; omega) (by omega)]
    rfl

theorem fmtStrLoop_strR (s : Bytes) (hs : AllBytes s) : ∀ (prev : Option Nat) (level : Nat),
    level ≤ countClose s → Spec.Grammar.StrR (level + 1) s (fmtStrLoop prev level (countClose s) s) := by
  induction s with
  | nil =>
    intro prev level hl
    obtain rfl : level = 0 := by simpa [countClose] using hl
    exact .done
  | cons c cs ih =>
    obtain ⟨hc, hcs⟩ := (allBytes_cons c cs).mp hs
    intro prev level hl
    obtain ⟨e, lvl', ht, hl', he⟩ := fmtStrLoop_step prev level c cs hl
    rw [he]
    exact strR_tok ht hc (ih hcs _ _ hl')

/-- **Literal string round trip** (`formatString` read by `ReadString`): for every string of at most
`maxStringBytes` bytes and every continuation.  Covers CR/LF escaping, backslash, balanced and
unbalanced parentheses. -/
theorem string_rt_literal (s : Bytes) (hlen : s.length ≤ Gen.scanner_maxStringBytes) (rest : Bytes) :
    ∃ body, fmtStrLiteral s = 40 :: body ∧ readString (body ++ rest) = .ok (s, rest) := by
  refine ⟨fmtStrLoop none 0 (countClose s) s ++ [41], by simp [fmtStrLiteral], ?_⟩
  have := strBody_rt rest s none 0 0 ((fmtStrLoop none 0 (countClose s) s ++ [41] ++ rest).length + 1)
    (by omega) (by omega) (by simp)
  simpa [readString] using this

example : (match readString ((fmtStrLiteral [40, 13, 10, 41, 41, 92, 40, 10, 0, 255]).drop 1 ++ [47]) with
    | .ok (s, r) => s == [40, 13, 10, 41, 41, 92, 40, 10, 0, 255] && r == [47] | _ => false) = true := by
  decide +kernel

def hexBody (s : Bytes) : Bytes := s.flatMap (fun b => [hexLower (b / 16), hexLower (b % 16)])

/-- `%x` writes one of the spellings the standard allows: two digits a byte, no white space -/
theorem hexBody_hexR (s : Bytes) (hs : AllBytes s) : Spec.Grammar.HexR none s (hexBody s) := by
  induction s with
  | nil => exact .doneEven
  | cons b bs ih =>
    obtain ⟨hb, hbs⟩ := (allBytes_cons b bs).mp hs
    have h := Spec.Grammar.HexR.hi _ _ _ _ (C01.hexLower_nibble (b / 16) (by omega)).1
      (.lo _ _ (b / 16) _ _ (C01.hexLower_nibble (b % 16) (by omega)).1 (ih hbs))
    rwa [Nat.div_add_mod] at h

theorem hexBody_rt (rest : Bytes) (s : Bytes) (hs : AllBytes s) (len : Nat)
    (hlen : len + s.length ≤ Gen.scanner_maxStringBytes) :
    readHexBody none len (hexBody s ++ 62 :: rest) = .ok (s, rest) :=
  C04hisc.hexBody_any none s _ (hexBody_hexR s hs) rest len hlen

/-- **Hex string round trip** (`fmt.Fprintf("<%x>")` read by `ReadHexString`). -/
theorem string_rt_hex (s : Bytes) (hs : AllBytes s) (hlen : s.length ≤ Gen.scanner_maxStringBytes)
    (rest : Bytes) :
    ∃ body, fmtStrHex s = 60 :: body ∧ readHexString (body ++ rest) = .ok (s, rest) := by
  refine ⟨hexBody s ++ [62], by simp [fmtStrHex, hexBody], ?_⟩
  have := hexBody_rt rest s hs 0 (by omega)
  simpa [readHexString] using this

example : (match readHexString ((fmtStrHex [0, 10, 255, 62, 60]).drop 1 ++ [47]) with
    | .ok (s, r) => s == [0, 10, 255, 62, 60] && r == [47] | _ => false) = true := by decide +kernel

/-- **String round trip through `ReadObject`**, for either value of `pretty` (literal or hex
form, whichever `formatString` chooses). -/
theorem string_rt (pretty : Bool) (s : Bytes) (hs : AllBytes s)
    (hlen : s.length ≤ Gen.scanner_maxStringBytes) (rest : Bytes) (fuel depth : Nat) :
    readObject (fuel + 1) depth (fmtString pretty s ++ rest) = .ok (.str s, rest) := by
  unfold fmtString
  simp only []
  split
  · have e : fmtStrHex s ++ rest = 60 :: (hexBody s ++ 62 :: rest) := by simp [fmtStrHex, hexBody]
    rw [e, readObject_hex fuel depth _ (C04hisc.hexR_head (hexBody_hexR s hs) rest), readHexString,
      hexBody_rt rest s hs 0 (by omega)]
    rfl
  · obtain ⟨body, hb, hr⟩ := string_rt_literal s hlen rest
    rw [hb, List.cons_append, readObject_lit, hr]
    rfl

example : (match readObject 1 0 (fmtString true [0, 1, 2, 40] ++ [47]) with
    | .ok (.str s, r) => s == [0, 1, 2, 40] && r == [47] | _ => false) = true := by decide +kernel
example : (match readObject 1 0 (fmtString false [0, 1, 2, 40] ++ [47]) with
    | .ok (.str s, r) => s == [0, 1, 2, 40] && r == [47] | _ => false) = true := by decide +kernel

def Int64Range (i : Int) : Prop := -9223372036854775808 ≤ i ∧ i ≤ 9223372036854775807

/-- **`parseInt64` range lemma**: the printed decimal form of `i` is accepted exactly when `i`
is an int64, and then yields `i`. -/
theorem parseInt64_intDec (i : Int) :
    parseInt64 (intDec i) =
      if -9223372036854775808 ≤ i ∧ i ≤ 9223372036854775807 then some i else none := by
  cases i with
  | ofNat n =>
    obtain ⟨d, t, hdt, hd⟩ := natDec_head n
    have hall := all_digits_natDec n
    have hv := digitsVal_natDec n
    simp only [intDec]
    rw [hdt] at hall hv ⊢
    rw [parseInt64_pos d t hd hall, hv]
    simp only [Int.ofNat_eq_natCast]
    split <;> split <;> first | rfl | omega
  | negSucc n =>
    simp only [intDec]
    rw [parseInt64_neg _ (natDec_ne_nil _) (all_digits_natDec _), digitsVal_natDec]
    split <;> split <;> first | rfl | omega

theorem intDec_length (i : Int) (hi : Int64Range i) : (intDec i).length ≤ 20 := by
  obtain ⟨h1, h2⟩ := hi
  cases i with
  | ofNat n =>
    have := natDec_length_le 19 n (by omega) (by simp at h2; omega)
    simp [intDec]; omega
  | negSucc n =>
    have := natDec_length_le 19 (n + 1) (by omega) (by omega)
    simp [intDec]; omega

/-- the number cap of `ReadNumber` (`maxNameBytes`) leaves room for every int64 -/
theorem int_fits_cap : 20 ≤ Gen.scanner_maxNameBytes := by decide

theorem natDec_intR (n : Nat) : Spec.Grammar.IntR (n : Int) (natDec n) := by
  have h := Spec.Grammar.IntR.unsigned (natDec n) (natDec_ne_nil n) (natDec_digits n)
  rwa [← C04hisc.digitsVal_decVal, digitsVal_natDec] at h

/-- `strconv.FormatInt` writes one of the spellings the standard allows: no plus sign, no leading zero -/
theorem intDec_intR (i : Int) : Spec.Grammar.IntR i (intDec i) := by
  cases i with
  | ofNat n => exact natDec_intR n
  | negSucc n =>
    have h := Spec.Grammar.IntR.minus (natDec (n + 1)) (natDec_ne_nil _) (natDec_digits _)
    rwa [← C04hisc.digitsVal_decVal, digitsVal_natDec] at h

/-- **Integer round trip** (`strconv.FormatInt` read by `ReadNumber`): for every int64 and every
continuation that does not continue a number (end of input, or a byte that is neither a digit nor a
dot). -/
theorem int_rt (i : Int) (hi : Int64Range i) (rest : Bytes) (hrest : NumStop true rest) :
    readNumber (intDec i ++ rest) = .ok (.int i, rest) :=
  C04hisc.int_any_spelling i _ (intDec_intR i) hi (Nat.le_trans (intDec_length i hi) int_fits_cap) rest hrest

example : (match readNumber (intDec (-9223372036854775808) ++ [93]) with
    | .ok (.int i, r) => i == -9223372036854775808 && r == [93] | _ => false) = true := by decide +kernel

/-- outside int64 the same text is *not* read as an integer (it falls through to Real) -/
example : (match readNumber (intDec 9223372036854775808 ++ [93]) with
    | .ok (.real _, _) => true | _ => false) = true := by decide +kernel

theorem realToken_realTok (t : Bytes) (ht : wfRealTok t = true) : Spec.Grammar.RealTok (realToken t) := by
  obtain ⟨sgn, ip, fp, h, hs, hip, hfp, hne⟩ := realToken_shape t ht
  rw [h]
  refine .mk sgn ip fp (by rcases hs with h | h <;> simp [h]) hip hfp ?_
  rcases hne with h | h <;> simp [h]

/-- **Real token round trip.**  For every well-formed decimal token `t` (the model's stand-in
for `strconv.FormatFloat`), `ReadNumber` on what `doFormat` writes (`t`, with a dot appended if
it has none) returns that token as a Real, before every continuation that does not start with a digit. -/
theorem real_token_rt (t : Bytes) (ht : wfRealTok t = true)
    (hlen : (realToken t).length ≤ Gen.scanner_maxNameBytes)
    (rest : Bytes) (hrest : NumStop false rest) :
    readNumber (realToken t ++ rest) = .ok (.real (realToken t), rest) :=
  C04hisc.real_token _ (realToken_realTok t ht) hlen rest hrest

example : wfRealTok [45, 48, 46, 53] = true ∧ wfRealTok [49, 48, 48] = true ∧ wfRealTok [46, 53] = true
    ∧ wfRealTok [46] = false ∧ wfRealTok [45] = false ∧ wfRealTok [49, 46, 50, 46] = false := by decide
example : (match readNumber (realToken [49, 48, 48] ++ [49, 46]) with
    | .ok (.real t, r) => t == [49, 48, 48, 46] && r == [49, 46] | _ => false) = false := by decide +kernel
example : (match readNumber (realToken [49, 48, 48] ++ [32, 49]) with
    | .ok (.real t, r) => t == [49, 48, 48, 46] && r == [32, 49] | _ => false) = true := by decide +kernel

/-- **Keywords.**  `null`, `true`, `false` are recognised by prefix, whatever follows. -/
theorem bool_null_rt (rest : Bytes) (fuel depth : Nat) :
    readObject (fuel + 1) depth (kw_null ++ rest) = .ok (.null, rest) ∧
    readObject (fuel + 1) depth (kw_true ++ rest) = .ok (.bool true, rest) ∧
    readObject (fuel + 1) depth (kw_false ++ rest) = .ok (.bool false, rest) :=
  readObject_kw fuel depth rest

end PdfVerif.C01b
