import PdfVerif.Props.C12ccc
/-!
# C12 (part 4) — `AppendCode` and the round trips

`AppendCode` on a node array that represents the tree equals the tree-level encoder; encoding
then decoding reproduces the code, decoding then re-encoding reproduces the consumed bytes.
-/
namespace PdfVerif.C12ccd
open PdfVerif PdfVerif.CC PdfVerif.C12cc PdfVerif.C12ccb PdfVerif.C12ccc PdfVerif.Spec.CodeSpace

mutual
/-- bytes emitted after the byte that selected the node -/
def nodeEnc : Node → (code : Nat) → Bytes
  | .valid, _ => []
  | .invalid k, code => emitBytes k code
  | .sub cs, code => kidsEnc cs code
/-- `AppendCode` on a child list: the low byte of `code` selects the child -/
def kidsEnc : List (Nat × Node) → (code : Nat) → Bytes
  | [], code => [code % 256]
  | (hi, n) :: rest, code =>
    if code % 256 ≤ hi then (code % 256) :: nodeEnc n (code / 256) else kidsEnc rest code
end

/-- the `switch next` of `Codec.AppendCode` -/
def contEnc (nodes : List LNode) (fuel next b code : Nat) : Except CErr Bytes :=
  childSwitch next (.ok [b]) (fun k => .ok (b :: emitBytes k code))
    (match appendLoop nodes fuel next code with
      | .error e => .error e
      | .ok bs => .ok (b :: bs))

theorem appendLoop_succ (nodes : List LNode) (fuel cur code : Nat) :
    appendLoop nodes (fuel + 1) cur code =
      match scan nodes nodes.length cur (code % 256) with
      | none => .error .panic
      | some (_, node) => contEnc nodes fuel node.child (code % 256) (code / 256) := by
  rw [appendLoop]
  cases scan nodes nodes.length cur (code % 256) with
  | none => rfl
  | some p => obtain ⟨i, node⟩ := p; rfl

theorem appendLoop_miss (nodes : List LNode) (fuel cur code : Nat) (ln : LNode)
    (h : nodes[cur]? = some ln) (hb : ¬ code % 256 ≤ ln.bound) :
    appendLoop nodes (fuel + 1) cur code = appendLoop nodes (fuel + 1) (cur + 1) code := by
  rw [appendLoop_succ, appendLoop_succ, scan_miss nodes cur _ ln h hb]

theorem emitBytes_length (k code : Nat) : (emitBytes k code).length = k := by
  induction k generalizing code with
  | zero => simp [emitBytes]
  | succ k ih => simp [emitBytes, ih]

theorem emitBytes_allBytes (k code : Nat) : AllBytes (emitBytes k code) := by
  induction k generalizing code with
  | zero => simp [emitBytes]
  | succ k ih =>
    simp only [emitBytes, allBytes_cons]
    exact ⟨Nat.mod_lt _ (by omega), ih _⟩

theorem codeValue_emitBytes (k code : Nat) : codeValue (emitBytes k code) = code % 256 ^ k := by
  induction k generalizing code with
  | zero => simp [emitBytes, codeValue_nil, Nat.mod_one]
  | succ k ih =>
    simp only [emitBytes, codeValue_cons, ih]
    rw [Nat.pow_succ, Nat.mul_comm (256 ^ k) 256, Nat.mod_mul]

theorem codeValue_cons_divmod (b : Nat) (t : Bytes) (hb : b < 256) :
    codeValue (b :: t) % 256 = b ∧ codeValue (b :: t) / 256 = codeValue t := by
  simp only [codeValue_cons]; omega

theorem emitBytes_codeValue (t : Bytes) (h : AllBytes t) : emitBytes t.length (codeValue t) = t := by
  induction t with
  | nil => simp [emitBytes]
  | cons b t ih =>
    obtain ⟨hb, ht⟩ := (allBytes_cons b t).mp h
    rw [List.length_cons, emitBytes, (codeValue_cons_divmod b t hb).1, (codeValue_cons_divmod b t hb).2, ih ht]

theorem kidsEnc_head (cs : List (Nat × Node)) (code : Nat) : ∃ t, kidsEnc cs code = (code % 256) :: t := by
  induction cs with
  | nil => exact ⟨[], rfl⟩
  | cons kid cs ih =>
    obtain ⟨hi, n⟩ := kid
    simp only [kidsEnc]
    split
    · exact ⟨_, rfl⟩
    · exact ih

mutual
/-- decoding what the tree encoder emits for `code` consumes all of it, and the emitted bytes are the low bytes of
`code` -/
theorem node_rt1 (n : Node) (code : Nat) :
    (n.dec (nodeEnc n code)).1 = (nodeEnc n code).length ∧
    codeValue (nodeEnc n code) = code % 256 ^ (nodeEnc n code).length ∧ AllBytes (nodeEnc n code) := by
  match n with
  | .valid => simp [nodeEnc, dec_valid, codeValue_nil, Nat.mod_one]
  | .invalid k =>
    simp [nodeEnc, dec_invalid, emitBytes_length, codeValue_emitBytes, emitBytes_allBytes]
  | .sub cs => simp only [nodeEnc, dec_sub]; exact kids_rt1 cs code
theorem kids_rt1 (cs : List (Nat × Node)) (code : Nat) :
    (kidsDec cs (kidsEnc cs code)).1 = (kidsEnc cs code).length ∧
    codeValue (kidsEnc cs code) = code % 256 ^ (kidsEnc cs code).length ∧ AllBytes (kidsEnc cs code) := by
  match cs with
  | [] => simp [kidsEnc, kidsDec_nil_cons, codeValue_cons, codeValue_nil]; exact Nat.mod_lt _ (by omega)
  | (hi, n) :: rest =>
    simp only [kidsEnc]
    by_cases hsel : code % 256 ≤ hi
    · simp only [hsel, if_true, kidsDec_hit hsel, List.length_cons, codeValue_cons, allBytes_cons]
      obtain ⟨a, b, c⟩ := node_rt1 n (code / 256)
      refine ⟨by omega, ?_, Nat.mod_lt _ (by omega), c⟩
      rw [b, Nat.pow_succ, Nat.mul_comm _ 256, Nat.mod_mul]
    · simp only [hsel, if_false]
      obtain ⟨a, b, c⟩ := kids_rt1 rest code
      refine ⟨?_, b, c⟩
      obtain ⟨t, ht⟩ := kidsEnc_head rest code
      rw [ht] at a ⊢
      rw [kidsDec_miss hsel]
      exact a
end

mutual
/-- decoding did not run out of input before the code was complete.  Otherwise an invalid code takes fewer bytes than
its node asks for, and re-encoding its value emits bytes the input did not have. -/
def nodeNotCut : Node → Bytes → Bool
  | .valid, _ => true
  | .invalid k, s => decide (k ≤ s.length)
  | .sub cs, s => kidsNotCut cs s
def kidsNotCut : List (Nat × Node) → Bytes → Bool
  | _, [] => false
  | [], _ :: _ => true
  | (hi, n) :: rest, b :: s => if b ≤ hi then nodeNotCut n s else kidsNotCut rest (b :: s)
end

mutual
theorem node_valid_notCut (n : Node) (s : Bytes) (h : (n.dec s).2 = true) : nodeNotCut n s = true := by
  match n with
  | .valid => simp [nodeNotCut]
  | .invalid k => simp [dec_invalid] at h
  | .sub cs => simp only [dec_sub] at h; simp only [nodeNotCut]; exact kids_valid_notCut cs s h
theorem kids_valid_notCut (cs : List (Nat × Node)) (s : Bytes) (h : (kidsDec cs s).2 = true) : kidsNotCut cs s = true := by
  match cs, s with
  | cs, [] => simp [kidsDec_nil] at h
  | [], _ :: _ => simp [kidsNotCut]
  | (hi, n) :: rest, b :: s =>
    simp only [kidsNotCut]
    by_cases hsel : b ≤ hi
    · rw [kidsDec_hit hsel] at h; rw [if_pos hsel]; exact node_valid_notCut n s h
    · rw [kidsDec_miss hsel] at h; rw [if_neg hsel]; exact kids_valid_notCut rest (b :: s) h
end

theorem kidsDec_pos (cs : List (Nat × Node)) (b : Nat) (s : Bytes) : 1 ≤ (kidsDec cs (b :: s)).1 := by
  induction cs with
  | nil => simp [kidsDec_nil_cons]
  | cons k r ih =>
    obtain ⟨hi', n'⟩ := k
    by_cases h : b ≤ hi'
    · rw [kidsDec_hit h]; exact Nat.le_add_left _ _
    · rw [kidsDec_miss h]; exact ih

mutual
/-- re-encoding the value of the bytes that decoding consumed gives these bytes back, if the end of the input did
not cut the code short -/
theorem node_rt2 (n : Node) (s : Bytes) (hs : AllBytes s) (h : nodeNotCut n s = true) :
    nodeEnc n (codeValue (s.take (n.dec s).1)) = s.take (n.dec s).1 := by
  match n with
  | .valid => simp [nodeEnc, dec_valid]
  | .invalid k =>
    simp only [nodeNotCut, decide_eq_true_eq] at h
    simp only [nodeEnc, dec_invalid, Nat.min_eq_left h]
    have := emitBytes_codeValue (s.take k) (fun b hb => hs b (List.mem_of_mem_take hb))
    simp only [List.length_take, Nat.min_eq_left h] at this
    exact this
  | .sub cs => simp only [nodeNotCut] at h; simp only [nodeEnc, dec_sub]; exact kids_rt2 cs s hs h
theorem kids_rt2 (cs : List (Nat × Node)) (s : Bytes) (hs : AllBytes s) (h : kidsNotCut cs s = true) :
    kidsEnc cs (codeValue (s.take (kidsDec cs s).1)) = s.take (kidsDec cs s).1 := by
  match cs, s with
  | cs, [] => cases cs <;> simp [kidsNotCut] at h
  | [], b :: s =>
    have hb : b < 256 := ((allBytes_cons b s).mp hs).1
    simp [kidsDec_nil_cons, kidsEnc, codeValue_cons, codeValue_nil]; omega
  | (hi, n) :: rest, b :: s =>
    obtain ⟨hb, hs'⟩ := (allBytes_cons b s).mp hs
    simp only [kidsNotCut] at h
    by_cases hsel : b ≤ hi
    · simp only [hsel, if_true] at h
      simp only [kidsDec_hit hsel, hsel, if_true, List.take_succ_cons, kidsEnc, (codeValue_cons_divmod b _ hb).1,
        (codeValue_cons_divmod b _ hb).2, node_rt2 n s hs' h]
    · simp only [hsel, if_false] at h
      have ih := kids_rt2 rest (b :: s) hs h
      simp only [kidsDec_miss hsel, kidsEnc]
      -- the selecting byte of the code is `b` again
      have hpos : 1 ≤ (kidsDec rest (b :: s)).1 := kidsDec_pos rest b s
      have hb' : codeValue (List.take (kidsDec rest (b :: s)).1 (b :: s)) % 256 = b := by
        obtain ⟨m, hm⟩ : ∃ m, (kidsDec rest (b :: s)).1 = m + 1 := ⟨_, (Nat.sub_add_cancel hpos).symm⟩
        rw [hm, List.take_succ_cons]; exact (codeValue_cons_divmod b _ hb).1
      rw [hb']
      simp only [hsel, if_false]
      exact ih
end

mutual
theorem node_notCut_of_len (n : Node) (s : Bytes) (h : nodeBudget n ≤ s.length) : nodeNotCut n s = true := by
  match n with
  | .valid => simp [nodeNotCut]
  | .invalid k => simp only [nodeBudget] at h; simp [nodeNotCut, h]
  | .sub cs => simp only [nodeBudget] at h; simp only [nodeNotCut]; exact kids_notCut_of_len cs s h
theorem kids_notCut_of_len (cs : List (Nat × Node)) (s : Bytes) (h : kidsBudget cs ≤ s.length) : kidsNotCut cs s = true := by
  match cs, s with
  | [], [] => simp [kidsBudget] at h
  | (_, _) :: _, [] => simp only [kidsBudget, List.length_nil] at h; omega
  | [], _ :: _ => simp [kidsNotCut]
  | (hi, n) :: rest, b :: s =>
    simp only [kidsBudget, List.length_cons] at h
    simp only [kidsNotCut]
    split
    · exact node_notCut_of_len n s (Nat.le_of_succ_le_succ (Nat.le_trans (Nat.le_max_left _ _) h))
    · exact kids_notCut_of_len rest (b :: s) (Nat.le_trans (Nat.le_max_right _ _) h)
end

/-! Every level of the walk consumes a byte, so the budget also bounds the levels: it serves as fuel. -/

mutual
theorem node_enc (nodes : List LNode) (n : Node) (c : Nat) (hr : childOK nodes n c = true) (hc : n.covers = true)
    (fuel b code : Nat) (hd : nodeBudget n ≤ fuel) :
    contEnc nodes fuel c b code = .ok (b :: nodeEnc n code) := by
  rw [contEnc, childSwitch_of_childOK _ _ _ hr]
  match n with
  | .valid => rfl
  | .invalid k => rfl
  | .sub cs =>
    simp only [Node.covers] at hc
    simp only [nodeBudget] at hd
    simp only [kids_enc nodes cs c ((childOK_sub nodes cs c).mp hr).2.2 hc fuel code hd, nodeEnc]
theorem kids_enc (nodes : List LNode) (cs : List (Nat × Node)) (idx : Nat) (hr : reprOK nodes cs idx = true)
    (hc : kidsCover cs = true) (fuel code : Nat) (hd : kidsBudget cs ≤ fuel) :
    appendLoop nodes fuel idx code = .ok (kidsEnc cs code) := by
  match cs with
  | [] => simp [kidsCover] at hc
  | (hi, n) :: rest =>
    simp only [kidsBudget] at hd
    cases fuel with
    | zero => omega
    | succ fuel =>
      have hb : code % 256 ≤ 255 := Nat.le_of_lt_succ (Nat.mod_lt _ (by omega))
      obtain ⟨ln, hln, hbound, hchild, hrest⟩ := (reprOK_cons nodes hi n rest idx).mp hr
      obtain ⟨hcov, hlast⟩ := kidsCover_cons hi n rest hc
      have hd1 : nodeBudget n ≤ fuel := Nat.le_of_succ_le_succ (Nat.le_trans (Nat.le_max_left _ _) hd)
      have hd2 : kidsBudget rest ≤ fuel + 1 := Nat.le_trans (Nat.le_max_right _ _) hd
      by_cases hsel : code % 256 ≤ hi
      · rw [appendLoop_succ, scan_hit nodes idx _ ln hln (hbound ▸ hsel)]
        simp only
        rw [node_enc nodes n ln.child hchild hcov fuel _ _ hd1]
        simp [kidsEnc, hsel]
      · rcases hlast with h255 | hcov'
        · exact absurd (h255 ▸ hb) hsel
        · rw [appendLoop_miss nodes fuel idx code ln hln (hbound ▸ hsel),
            kids_enc nodes rest (idx + 1) hrest hcov' (fuel + 1) code hd2]
          simp [kidsEnc, hsel]
end

theorem codeValue_lt (t : Bytes) (h : AllBytes t) : codeValue t < 256 ^ t.length := by
  induction t with
  | nil => simp [codeValue_nil]
  | cons b t ih =>
    obtain ⟨hb, ht⟩ := (allBytes_cons b t).mp h
    simp only [codeValue_cons, List.length_cons, Nat.pow_succ]
    have := ih ht
    omega

theorem appendCode_tree (csr : CSR) (tree : List (Nat × Node)) (c : Codec) (hv : ∀ r ∈ csr, r.isValid = true)
    (hT : newTree 4 csr 0 = .ok tree) (hR : reprOK c.nodes tree 0 = true) (code : Nat) :
    c.appendCode code = .ok (kidsEnc tree (code % 4294967296)) :=
  kids_enc c.nodes tree 0 hR (newTree_covers 4 csr 0 tree hT) 4 _ (tree_budget csr tree hv hT)

/-- Encoding then decoding reproduces the code (`append_decode` of DESIGN.md §5 C12).  For every accepted range
set and every `uint32` code, `AppendCode` emits 1 to 4 bytes, `Decode` consumes exactly these
bytes and returns the code again (the part of it that the emitted bytes hold). -/
theorem append_then_decode (csr : CSR) (c : Codec) (hC : newCodec csr = .ok c) (code : Nat) :
    ∃ bs v, c.appendCode code = .ok bs ∧ 1 ≤ bs.length ∧ bs.length ≤ 4 ∧ AllBytes bs ∧
      c.decode bs = .ok ((code % 4294967296) % 256 ^ bs.length, bs.length, v) := by
  obtain ⟨hv, tree, hT, hR⟩ := newCodec_repr hC
  obtain ⟨r1, r2, r3⟩ := kids_rt1 tree (code % 4294967296)
  obtain ⟨hd, h4⟩ := decode_tree csr tree c hv hT hR _ r3
  obtain ⟨t, ht⟩ := kidsEnc_head tree (code % 4294967296)
  refine ⟨_, (kidsDec tree (kidsEnc tree (code % 4294967296))).2, appendCode_tree csr tree c hv hT hR code,
    by rw [ht]; simp, by rw [← r1]; exact h4, r3, ?_⟩
  rw [hd, r1, List.take_length, r2]

/-- the common core of the two theorems below: `kidsNotCut` is a condition on the proof device, which they
replace by one on the result or on the input -/
theorem decode_then_append_notCut (csr : CSR) (c : Codec) (hC : newCodec csr = .ok c) (s : Bytes) (hs : AllBytes s)
    (code n : Nat) (v : Bool) (h : c.decode s = .ok (code, n, v))
    (hnc : ∀ tree, newTree 4 csr 0 = .ok tree → (kidsDec tree s).2 = v → kidsNotCut tree s = true) :
    c.appendCode code = .ok (s.take n) := by
  obtain ⟨hv, tree, hT, hR⟩ := newCodec_repr hC
  obtain ⟨hd, h4⟩ := decode_tree csr tree c hv hT hR s hs
  rw [hd] at h
  injection h with h
  simp only [Prod.mk.injEq] at h
  obtain ⟨h1, h2, h3⟩ := h
  have htake : AllBytes (s.take (kidsDec tree s).1) := fun b hb => hs b (List.mem_of_mem_take hb)
  have hlt : code < 4294967296 :=
    h1 ▸ Nat.lt_of_lt_of_le (codeValue_lt _ htake)
      (Nat.pow_le_pow_right (by omega) (Nat.le_trans (List.length_take_le _ _) h4))
  rw [appendCode_tree csr tree c hv hT hR, Nat.mod_eq_of_lt hlt, ← h1, ← h2, kids_rt2 tree s hs (hnc tree hT h3)]

/-- Decoding then re-encoding reproduces the consumed bytes of every valid code (`decode_append` of
DESIGN.md §5 C12; for invalid codes see `decode_then_append_uncut`). -/
theorem decode_then_append (csr : CSR) (c : Codec) (hC : newCodec csr = .ok c) (s : Bytes) (hs : AllBytes s)
    (code n : Nat) (h : c.decode s = .ok (code, n, true)) :
    c.appendCode code = .ok (s.take n) :=
  decode_then_append_notCut csr c hC s hs code n true h fun tree _ hv => kids_valid_notCut tree s hv


/-- `decode_append` for every code, valid or not, when the input holds at least four bytes
(so that no code can have been cut short): re-encoding the returned code reproduces exactly the
consumed bytes. -/
theorem decode_then_append_uncut (csr : CSR) (c : Codec) (hC : newCodec csr = .ok c) (s : Bytes) (hs : AllBytes s)
    (hlen : 4 ≤ s.length) (code n : Nat) (v : Bool) (h : c.decode s = .ok (code, n, v)) :
    c.appendCode code = .ok (s.take n) :=
  decode_then_append_notCut csr c hC s hs code n v h fun tree hT _ =>
    kids_notCut_of_len tree s (Nat.le_trans (tree_budget csr tree (newCodec_repr hC).1 hT) hlen)

end PdfVerif.C12ccd
