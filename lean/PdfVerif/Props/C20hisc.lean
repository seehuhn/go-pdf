import PdfVerif.Model.HISSeq
import PdfVerif.Lemmas.ScanBytes
import PdfVerif.Lemmas.ScanNum
/-!
# C20 — the marker matcher, `Find` and the scan loop: what a match is

Both directions, for the other files of C20: what the matcher answers on a header
(`header_recognised`, `marker_found_at`, `locStep_records`), and what a match is when the matcher,
`Find`, the scan loop or `locateObjects` answers: `Hit t p lead len mk` says it in the coordinates of
the text (`at_hit`, `matchMarker_hit`; `find_hit_spec` in those of the file, whatever the window
showed), `locLoop_inv` and `locateObjects_ok` are the loop and its caller.
-/
namespace PdfVerif.C20hisc
open PdfVerif PdfVerif.HIS

theorem spanP_eq_takeWhile (p : Nat → Bool) : ∀ t : Bytes, spanP p t = (t.takeWhile p, t.dropWhile p)
  | [] => rfl
  | c :: cs => by
    unfold spanP
    cases h : p c <;> simp [h, spanP_eq_takeWhile p cs]

theorem spanP_append (p : Nat → Bool) (a b : Bytes) (ha : ∀ x ∈ a, p x = true)
    (hb : match b with | [] => True | c :: _ => p c = false) : spanP p (a ++ b) = (a, b) := by
  have hb' : b.takeWhile p = [] ∧ b.dropWhile p = b := by
    cases b with
    | nil => exact ⟨rfl, rfl⟩
    | cons c cs => simp [show p c = false from hb]
  rw [spanP_eq_takeWhile, List.takeWhile_append_of_pos ha, List.dropWhile_append_of_pos ha, hb'.1, hb'.2, List.append_nil]

theorem spanP_spec (p : Nat → Bool) (t : Bytes) :
    (spanP p t).1 ++ (spanP p t).2 = t ∧ ∀ x ∈ (spanP p t).1, p x = true := by
  rw [spanP_eq_takeWhile]
  exact ⟨List.takeWhile_append_dropWhile, fun x hx => List.all_eq_true.mp List.all_takeWhile x hx⟩

/-- a line-initial object header: digits, marker white space, digits, marker white space, `obj` -/
def headerBytes (n w1 g w2 : Bytes) : Bytes := n ++ w1 ++ g ++ w2 ++ kwObj

/-- the parts of an object header `N ws G ws obj`: non-empty runs of digits and of marker white
    space (NUL, HT, FF, SP) -/
structure HeaderParts (n w1 g w2 : Bytes) : Prop where
  hn : n ≠ []
  hw1 : w1 ≠ []
  hg : g ≠ []
  hw2 : w2 ≠ []
  hnd : ∀ x ∈ n, isDigit x = true
  hgd : ∀ x ∈ g, isDigit x = true
  hw1s : ∀ x ∈ w1, isMarkerWS x = true
  hw2s : ∀ x ∈ w2, isMarkerWS x = true

theorem isEolByte_iff (c : Nat) : isEolByte c = true ↔ c = 10 ∨ c = 13 := by
  simp [isEolByte]

theorem isMarkerWS_iff (c : Nat) : isMarkerWS c = true ↔ c = 0 ∨ c = 9 ∨ c = 12 ∨ c = 32 := by
  simp [isMarkerWS, or_assoc]

theorem ws_not_digit (x : Nat) (hx : isMarkerWS x = true) : isDigit x = false := by
  rcases (isMarkerWS_iff x).mp hx with rfl | rfl | rfl | rfl <;> decide

theorem digit_not_ws (x : Nat) (hx : isDigit x = true) : isMarkerWS x = false := by
  cases h : isMarkerWS x with
  | false => rfl
  | true => rw [ws_not_digit x h] at hx; cases hx

theorem ws_not_eol (x : Nat) (hx : isMarkerWS x = true) : isEolByte x = false := by
  rcases (isMarkerWS_iff x).mp hx with rfl | rfl | rfl | rfl <;> decide

theorem digit_not_eol (x : Nat) (hx : isDigit x = true) : isEolByte x = false := by
  have := (C01L.isDigit_iff x).mp hx
  cases h : isEolByte x with
  | false => rfl
  | true => rcases (isEolByte_iff x).mp h with rfl | rfl <;> omega

theorem headerBytes_length (n w1 g w2 : Bytes) :
    (headerBytes n w1 g w2).length = n.length + w1.length + g.length + w2.length + 3 := by
  simp only [headerBytes, kwObj, List.length_append, List.length_cons, List.length_nil]

theorem headerBytes_cons (d : Nat) (n w1 g w2 : Bytes) : headerBytes (d :: n) w1 g w2 = d :: headerBytes n w1 g w2 := rfl

theorem mem_headerBytes {x : Nat} {n w1 g w2 : Bytes} :
    x ∈ headerBytes n w1 g w2 ↔ x ∈ n ∨ x ∈ w1 ∨ x ∈ g ∨ x ∈ w2 ∨ x ∈ kwObj := by
  simp only [headerBytes, List.mem_append, or_assoc]

theorem header_spans {n w1 g w2 : Bytes} (h : HeaderParts n w1 g w2) (rest : Bytes) :
    spanP isDigit (n ++ (w1 ++ (g ++ (w2 ++ (kwObj ++ rest))))) = (n, w1 ++ (g ++ (w2 ++ (kwObj ++ rest)))) ∧
    spanP isMarkerWS (w1 ++ (g ++ (w2 ++ (kwObj ++ rest)))) = (w1, g ++ (w2 ++ (kwObj ++ rest))) ∧
    spanP isDigit (g ++ (w2 ++ (kwObj ++ rest))) = (g, w2 ++ (kwObj ++ rest)) ∧
    spanP isMarkerWS (w2 ++ (kwObj ++ rest)) = (w2, kwObj ++ rest) := by
  obtain ⟨c1, t1, e1⟩ := List.exists_cons_of_ne_nil h.hw1
  obtain ⟨c2, t2, e2⟩ := List.exists_cons_of_ne_nil h.hg
  obtain ⟨c3, t3, e3⟩ := List.exists_cons_of_ne_nil h.hw2
  refine ⟨spanP_append _ _ _ h.hnd ?_, spanP_append _ _ _ h.hw1s ?_, spanP_append _ _ _ h.hgd ?_,
    spanP_append _ _ _ h.hw2s (by simp [kwObj, isMarkerWS])⟩
  · rw [e1]; exact ws_not_digit c1 (h.hw1s c1 (by simp [e1]))
  · rw [e2]; exact digit_not_ws c2 (h.hgd c2 (by simp [e2]))
  · rw [e3]; exact ws_not_digit c3 (h.hw2s c3 (by simp [e3]))

theorem headerBytes_append (n w1 g w2 rest : Bytes) :
    headerBytes n w1 g w2 ++ rest = n ++ (w1 ++ (g ++ (w2 ++ (kwObj ++ rest)))) := by
  simp only [headerBytes, List.append_assoc]

theorem header_body_recognised {n w1 g w2 : Bytes} (h : HeaderParts n w1 g w2) (rest : Bytes)
    (hrest : wordEnd rest = true) :
    matchMarkerBody (headerBytes n w1 g w2 ++ rest)
      = some (n.length + w1.length + g.length + w2.length + 3, .obj n g) := by
  obtain ⟨s1, s2, s3, s4⟩ := header_spans h rest
  have hpre : isPrefixOf kwObj (kwObj ++ rest) = true := C01L.isPrefixOf_self_append _ _
  have hdrop : (kwObj ++ rest).drop 3 = rest := by simp [kwObj]
  unfold matchMarkerBody
  simp only [headerBytes_append, s1, s2, s3, s4, hpre, hdrop, hrest]
  have b1 : n.isEmpty = false := by simpa using h.hn
  have b2 : w1.isEmpty = false := by simpa using h.hw1
  have b3 : g.isEmpty = false := by simpa using h.hg
  have b4 : w2.isEmpty = false := by simpa using h.hw2
  simp [b1, b2, b3, b4]

/-- two texts `N ws G ws obj …` with a common beginning have the same parts: `spanP` finds them -/
theorem header_unique {n w1 g w2 n' w1' g' w2' : Bytes} (hp : HeaderParts n w1 g w2) (hp' : HeaderParts n' w1' g' w2')
    {r r' : Bytes} (h : headerBytes n w1 g w2 ++ r = headerBytes n' w1' g' w2' ++ r') :
    n = n' ∧ g = g' ∧ w1 = w1' ∧ w2 = w2' := by
  obtain ⟨a1, a2, a3, a4⟩ := header_spans hp r
  obtain ⟨b1, b2, b3, b4⟩ := header_spans hp' r'
  rw [headerBytes_append, headerBytes_append] at h
  rw [h, b1] at a1
  obtain ⟨e1, h2⟩ := Prod.mk.inj a1
  rw [← h2, b2] at a2
  obtain ⟨e2, h3⟩ := Prod.mk.inj a2
  rw [← h3, b3] at a3
  obtain ⟨e3, h4⟩ := Prod.mk.inj a3
  rw [← h4, b4] at a4
  exact ⟨e1.symm, e3.symm, e2.symm, (Prod.mk.inj a4).1.symm⟩

theorem header_no_eol {n w1 g w2 : Bytes} (h : HeaderParts n w1 g w2) :
    ∀ x ∈ headerBytes n w1 g w2, isEolByte x = false := by
  intro x hx
  rcases mem_headerBytes.mp hx with hx | hx | hx | hx | hx
  · exact digit_not_eol x (h.hnd x hx)
  · exact ws_not_eol x (h.hw1s x hx)
  · exact digit_not_eol x (h.hgd x hx)
  · exact ws_not_eol x (h.hw2s x hx)
  · simp [kwObj] at hx; rcases hx with rfl | rfl | rfl <;> decide

/-- with any of the three end-of-line markers in front (or at the start of the text) the whole
    match and `countLeadingSpaces` are what `locateObjects` expects: the object starts right
    behind the end-of-line marker -/
theorem header_parts_recognised {n w1 g w2 : Bytes} (hp : HeaderParts n w1 g w2) (eol rest : Bytes)
    (heol : eol = [10] ∨ eol = [13] ∨ eol = [13, 10]) (hrest : wordEnd rest = true) (atStart : Bool) :
    matchMarkerAt atStart (eol ++ (headerBytes n w1 g w2 ++ rest))
      = some (eol.length + (n.length + w1.length + g.length + w2.length + 3), eol.length, .obj n g) := by
  have hb := header_body_recognised hp rest hrest
  rcases heol with rfl | rfl | rfl
  · simp [matchMarkerAt, hb]
  · -- a lone CR: the first alternative (CR LF) does not apply because a header starts with a digit
    obtain ⟨c, t, e⟩ := List.exists_cons_of_ne_nil hp.hn
    have hc : c ≠ 10 := by
      have := (C01L.isDigit_iff c).mp (hp.hnd c (by simp [e])); omega
    subst e
    simp only [headerBytes_cons, List.cons_append, List.nil_append] at hb ⊢
    simp [matchMarkerAt, hb, hc]
  · simp [matchMarkerAt, hb]

/-- `header_parts_recognised` with the parts of the header given one by one -/
theorem header_recognised (eol n w1 g w2 rest : Bytes)
    (heol : eol = [10] ∨ eol = [13] ∨ eol = [13, 10])
    (hn : n ≠ []) (hw1 : w1 ≠ []) (hg : g ≠ []) (hw2 : w2 ≠ [])
    (hnd : ∀ x ∈ n, isDigit x = true) (hgd : ∀ x ∈ g, isDigit x = true)
    (hw1s : ∀ x ∈ w1, isMarkerWS x = true) (hw2s : ∀ x ∈ w2, isMarkerWS x = true)
    (hrest : wordEnd rest = true) (atStart : Bool) :
    matchMarkerAt atStart (eol ++ (headerBytes n w1 g w2 ++ rest))
      = some (eol.length + (n.length + w1.length + g.length + w2.length + 3), eol.length, .obj n g) :=
  header_parts_recognised ⟨hn, hw1, hg, hw2, hnd, hgd, hw1s, hw2s⟩ eol rest heol hrest atStart

-- non-vacuity: CR LF "12 0 obj" LF
example : matchMarkerAt false ([13, 10] ++ (headerBytes [49, 50] [32] [48] [32] ++ [10]))
    = some (10, 2, .obj [49, 50] [48]) := by decide +kernel

theorem matchMarkerFrom_hit {i c : Nat} {cs : Bytes} {len lead : Nat} {m : Marker}
    (h : matchMarkerAt (i == 0) (c :: cs) = some (len, lead, m)) :
    matchMarkerFrom i (c :: cs) = some { a := i, b := i + len, tag := (lead, m) } := by
  simp only [matchMarkerFrom, h]

theorem matchMarkerFrom_miss {i c : Nat} {cs : Bytes} (h : matchMarkerAt (i == 0) (c :: cs) = none) :
    matchMarkerFrom i (c :: cs) = matchMarkerFrom (i + 1) cs := by
  simp only [matchMarkerFrom, h]

theorem matchMarkerFrom_skip : ∀ (pre t : Bytes) (i : Nat),
    (∀ j, j < pre.length → matchMarkerAt (i + j == 0) ((pre ++ t).drop j) = none) →
    matchMarkerFrom i (pre ++ t) = matchMarkerFrom (i + pre.length) t := by
  intro pre
  induction pre with
  | nil => intro t i _; simp
  | cons c cs ih =>
    intro t i h
    have h0 := h 0 (by simp)
    simp only [Nat.add_zero, List.drop_zero, List.cons_append] at h0
    rw [List.cons_append, matchMarkerFrom_miss h0, ih t (i + 1)]
    · simp only [List.length_cons]; congr 1; omega
    · intro j hj
      have := h (j + 1) (by simp; omega)
      simp only [List.cons_append, List.drop_succ_cons] at this
      have e : (i + 1 + j == 0) = (i + (j + 1) == 0) := by congr 1; omega
      rw [e]; exact this

theorem matchMarker_found (pre : Bytes) (c : Nat) (t : Bytes) (len lead : Nat) (m : Marker)
    (hpre : ∀ j, j < pre.length → matchMarkerAt (j == 0) ((pre ++ c :: t).drop j) = none)
    (hm : matchMarkerAt (pre.length == 0) (c :: t) = some (len, lead, m)) :
    matchMarker (pre ++ c :: t) = some { a := pre.length, b := pre.length + len, tag := (lead, m) } := by
  unfold matchMarker
  rw [matchMarkerFrom_skip pre (c :: t) 0 (by intro j hj; simpa using hpre j hj)]
  rw [Nat.zero_add, matchMarkerFrom_hit hm]

/-- the leftmost match is found at its position: `matchMarker_found`, as the triple of its fields -/
theorem marker_found_at (pre : Bytes) (c : Nat) (t : Bytes) (len lead : Nat) (m : Marker)
    (hpre : ∀ j, j < pre.length → matchMarkerAt (j == 0) ((pre ++ c :: t).drop j) = none)
    (hm : matchMarkerAt (pre.length == 0) (c :: t) = some (len, lead, m)) :
    (matchMarker (pre ++ c :: t)).map (fun r => (r.a, r.b, r.tag))
      = some (pre.length, pre.length + len, (lead, m)) := by
  rw [matchMarker_found pre c t len lead m hpre hm]; rfl

theorem parseUint_ok (ds : Bytes) (bits : Nat) (h : digitsVal ds 0 < 2 ^ bits) :
    parseUint ds bits = some (digitsVal ds 0) := by
  simp [parseUint, h]

/-- A recognised header is recorded at its offset: `locateObjects` appends the object (number and generation as
written, any number of leading zeros) with `ObjStart = pos`. -/
theorem locStep_records (s : LocState) (pos : Nat) (n g : Bytes)
    (hn : digitsVal n 0 < Gen.his_xref_maxXRefSize) (hg : digitsVal g 0 < 65536) :
    (locStep s pos (.obj n g)).cur.objects.head? = some { num := digitsVal n 0, gen := digitsVal g 0, start := pos }
      ∧ (locStep s pos (.obj n g)).used = true := by
  have h32 : digitsVal n 0 < 2 ^ 32 := by
    have : Gen.his_xref_maxXRefSize ≤ 2 ^ 32 := by decide
    omega
  have h16 : digitsVal g 0 < 2 ^ 16 := by simpa using hg
  have hx : ¬ (digitsVal n 0 ≥ Gen.his_xref_maxXRefSize) := by omega
  simp only [locStep, parseUint_ok n 32 h32, parseUint_ok g 16 h16, hx, if_false]
  cases s.inTrailer <;> simp

/-- `locStep` is made of `finish` and updates of the current section: what these preserve, it
    preserves -/
theorem locStep_ind (P : LocState → Prop) (pos : Nat)
    (hfin : ∀ t, P t → P t.finish)
    (hobj : ∀ t n g, P t →
      P { t with cur := { t.cur with objects := { num := n, gen := g, start := pos } :: t.cur.objects }, used := true })
    (hxref : ∀ t, P t → P { t with cur := { t.cur with xrefPos := pos }, inTrailer := true, used := true })
    (htrailer : ∀ t, P t → P { t with cur := { t.cur with trailerPos := pos }, inTrailer := true, used := true })
    (hstartxref : ∀ t, P t → P { t with cur := { t.cur with startXRefPos := pos }, inTrailer := true, used := true })
    (heof : ∀ t, P t → P { t with cur := { t.cur with eofPos := pos } })
    (s : LocState) (m : Marker) (hs : P s) : P (locStep s pos m) := by
  -- the first three exits are the headers it does not record
  fun_cases locStep s pos m
  · exact hs
  · exact hs
  · exact hs
  · exact hobj _ _ _ (show P (if s.inTrailer = true then s.finish else s) by split; exact hfin s hs; exact hs)
  · exact hxref s hs
  · exact htrailer s hs
  · exact hstartxref s hs
  · exact hfin _ (heof s hs)

def kwMarkers : List (Bytes × Marker) :=
  [(kwXref, .xref), (kwTrailer, .trailer), (kwStartxref, .startxref), (kwEOF, .eof)]

theorem kwMarkers_bytes : ∀ p ∈ kwMarkers, p.1 ≠ [] ∧ ∀ y ∈ p.1, isEolByte y = false ∧ isDigit y = false := by
  decide

/-- the text of the group of the marker pattern for the marker `mk`: an object header, or one of the keywords -/
def GroupText (x : Bytes) (mk : Marker) : Prop :=
  (∃ n w1 g w2, mk = .obj n g ∧ x = headerBytes n w1 g w2 ∧ HeaderParts n w1 g w2) ∨ (x, mk) ∈ kwMarkers

theorem GroupText.no_eol {x : Bytes} {mk : Marker} (h : GroupText x mk) : ∀ c ∈ x, isEolByte c = false := by
  rcases h with ⟨n, w1, g, w2, _, rfl, hp⟩ | hk
  · exact header_no_eol hp
  · exact fun c hc => ((kwMarkers_bytes _ hk).2 c hc).1

theorem GroupText.ne_nil {x : Bytes} {mk : Marker} (h : GroupText x mk) : x ≠ [] := by
  rcases h with ⟨n, w1, g, w2, _, rfl, hp⟩ | hk
  · obtain ⟨d, nt, rfl⟩ := List.exists_cons_of_ne_nil hp.hn
    exact List.cons_ne_nil _ _
  · exact (kwMarkers_bytes _ hk).1

theorem body_struct (t : Bytes) (len : Nat) (mk : Marker) (h : matchMarkerBody t = some (len, mk)) :
    ∃ x r, t = x ++ r ∧ len = x.length ∧ GroupText x mk := by
  unfold matchMarkerBody at h
  obtain ⟨e1, a1⟩ := spanP_spec isDigit t
  rcases hs1 : spanP isDigit t with ⟨n, r1⟩
  obtain ⟨e2, a2⟩ := spanP_spec isMarkerWS r1
  rcases hs2 : spanP isMarkerWS r1 with ⟨w1, r2⟩
  obtain ⟨e3, a3⟩ := spanP_spec isDigit r2
  rcases hs3 : spanP isDigit r2 with ⟨g, r3⟩
  obtain ⟨e4, a4⟩ := spanP_spec isMarkerWS r3
  rcases hs4 : spanP isMarkerWS r3 with ⟨w2, r4⟩
  simp only [hs1, hs2, hs3, hs4] at h e1 e2 e3 e4 a1 a2 a3 a4
  have kwl : ∀ (k : Bytes) (x : Marker), (k, x) ∈ kwMarkers →
      (if (isPrefixOf k t && wordEnd (t.drop k.length)) = true then some (k.length, x) else none) = some (len, mk) →
      ∃ x r, t = x ++ r ∧ len = x.length ∧ GroupText x mk := by
    intro k x hk hif
    split at hif
    · rename_i hc
      simp only [Bool.and_eq_true] at hc
      cases hif
      exact ⟨k, _, C01L.isPrefixOf_eq_append _ _ hc.1, rfl, .inr hk⟩
    · cases hif
  split at h
  · rename_i r hr
    split at hr
    · rename_i hc
      simp only [Bool.and_eq_true, Bool.not_eq_true', List.isEmpty_eq_false_iff] at hc
      obtain ⟨⟨⟨⟨⟨hn, hw1⟩, hg⟩, hw2⟩, hobj⟩, _⟩ := hc
      cases hr
      cases h
      obtain ⟨r5, hr5⟩ : ∃ r5, r4 = kwObj ++ r5 := ⟨_, C01L.isPrefixOf_eq_append _ _ hobj⟩
      refine ⟨headerBytes n w1 g w2, r5, ?_, (headerBytes_length n w1 g w2).symm,
        .inl ⟨n, w1, g, w2, rfl, rfl, hn, hw1, hg, hw2, a1, a3, a2, a4⟩⟩
      rw [← e1, ← e2, ← e3, ← e4, hr5, headerBytes_append]
    · cases hr
  · split at h
    · rename_i r hk; cases h; exact kwl _ _ (by decide) hk
    · split at h
      · rename_i r hk; cases h; exact kwl _ _ (by decide) hk
      · split at h
        · rename_i r hk; cases h; exact kwl _ _ (by decide) hk
        · exact kwl _ _ (by decide) h

/-- At offset `p` the text has `lead` end-of-line bytes and behind them the group of `mk`, `len` bytes in
    all.  This is what is left of a match when the matcher saw only a part of the text (a scan window):
    the word boundary behind the group is not in it. -/
structure Hit (t : Bytes) (p lead len : Nat) (mk : Marker) : Prop where
  lead_le : lead ≤ 2
  eol : ∀ i, i < lead → ∃ c, t[p + i]? = some c ∧ isEolByte c = true
  group : ∃ x, GroupText x mk ∧ len = lead + x.length ∧ x <+: t.drop (p + lead)

theorem Hit.of_prefix {t t' : Bytes} (ht : t <+: t') {p lead len : Nat} {mk : Marker} (h : Hit t p lead len mk) :
    Hit t' p lead len mk := by
  obtain ⟨r, rfl⟩ := ht
  refine ⟨h.lead_le, fun i hi => ?_, ?_⟩
  · obtain ⟨c, hc, he⟩ := h.eol i hi
    exact ⟨c, by rw [List.getElem?_append_left (List.getElem?_eq_some_iff.mp hc).1]; exact hc, he⟩
  · obtain ⟨x, hx, hl, hp⟩ := h.group
    refine ⟨x, hx, hl, hp.trans ?_⟩
    rcases Nat.le_total (p + lead) t.length with h | h
    · rw [List.drop_append_of_le_length h]; exact List.prefix_append _ _
    · rw [List.drop_eq_nil_of_le h]; exact List.nil_prefix

theorem Hit.of_drop {t : Bytes} {j p lead len : Nat} {mk : Marker} (h : Hit (t.drop j) p lead len mk) :
    Hit t (j + p) lead len mk := by
  refine ⟨h.lead_le, fun i hi => ?_, ?_⟩
  · obtain ⟨c, hc, he⟩ := h.eol i hi
    exact ⟨c, by rw [List.getElem?_drop, ← Nat.add_assoc] at hc; exact hc, he⟩
  · obtain ⟨x, hx, hl, hp⟩ := h.group
    exact ⟨x, hx, hl, by rw [List.drop_drop, ← Nat.add_assoc] at hp; exact hp⟩

theorem Hit.len_le {t : Bytes} {p lead len : Nat} {mk : Marker} (h : Hit t p lead len mk) :
    p < t.length ∧ p + len ≤ t.length := by
  obtain ⟨x, hx, hl, hp⟩ := h.group
  have h1 := hp.length_le
  have h2 := List.length_pos_iff.mpr hx.ne_nil
  rw [List.length_drop] at h1
  omega

/-- a match at the head of a text; it has no line-start part only where `^` matches -/
theorem at_hit {b : Bool} {t : Bytes} {len lead : Nat} {mk : Marker} (h : matchMarkerAt b t = some (len, lead, mk)) :
    Hit t 0 lead len mk ∧ (lead = 0 → b = true) := by
  -- every alternative is `tryAt k`, `k ≤ 2` the number of end-of-line bytes it has matched
  have key : ∀ (k : Nat), k ≤ 2 → (k = 0 → b = true) → (∀ i, i < k → ∃ c, t[0 + i]? = some c ∧ isEolByte c = true) →
      (matchMarkerBody (t.drop k)).map (fun (x : Nat × Marker) => (k + x.1, k, x.2)) = some (len, lead, mk) →
      Hit t 0 lead len mk ∧ (lead = 0 → b = true) := by
    intro k hk2 hb heol hx
    cases hbody : matchMarkerBody (t.drop k) with
    | none => rw [hbody] at hx; cases hx
    | some x =>
      obtain ⟨l, m2⟩ := x
      rw [hbody] at hx
      simp only [Option.map, Option.some.injEq, Prod.mk.injEq] at hx
      obtain ⟨rfl, rfl, rfl⟩ := hx
      obtain ⟨x, r, ht, rfl, hx⟩ := body_struct _ _ _ hbody
      exact ⟨⟨hk2, heol, x, hx, rfl, r, by rw [Nat.zero_add]; exact ht.symm⟩, hb⟩
  unfold matchMarkerAt at h
  simp only [] at h
  split at h
  · rename_i r hr
    split at hr
    · cases h
      refine key 2 (by omega) (by omega) (fun i hi => ?_) hr
      obtain rfl | rfl : i = 0 ∨ i = 1 := by omega
      · exact ⟨13, rfl, rfl⟩
      · exact ⟨10, rfl, rfl⟩
    · cases hr
  · split at h
    · rename_i r hr
      split at hr
      · cases h
        refine key 1 (by omega) (by omega) (fun i hi => ?_) hr
        obtain rfl : i = 0 := by omega
        exact ⟨13, rfl, rfl⟩
      · cases hr
    · split at h
      · rename_i r hr
        split at hr
        · cases h
          refine key 1 (by omega) (by omega) (fun i hi => ?_) hr
          obtain rfl : i = 0 := by omega
          exact ⟨10, rfl, rfl⟩
        · cases hr
      · split at h
        · rename_i hb
          exact key 0 (by omega) (fun _ => hb) (fun i hi => absurd hi (Nat.not_lt_zero i)) h
        · cases h

theorem from_struct : ∀ (t : Bytes) (i : Nat) (m : Match (Nat × Marker)), matchMarkerFrom i t = some m →
    ∃ j len, m.a = i + j ∧ m.b = i + j + len ∧
      matchMarkerAt (i + j == 0) (t.drop j) = some (len, m.tag.1, m.tag.2) := by
  intro t
  induction t with
  | nil => intro i m h; cases h
  | cons c cs ih =>
    intro i m h
    cases hat : matchMarkerAt (i == 0) (c :: cs) with
    | some r =>
      obtain ⟨len, lead, mk⟩ := r
      rw [matchMarkerFrom_hit hat] at h
      cases h
      exact ⟨0, len, rfl, rfl, by simpa using hat⟩
    | none =>
      rw [matchMarkerFrom_miss hat] at h
      obtain ⟨j, len, h1, h2, h4⟩ := ih _ _ h
      refine ⟨j + 1, len, by omega, by omega, ?_⟩
      have : (i + (j + 1) == 0) = (i + 1 + j == 0) := by congr 1; omega
      rw [this]; simpa using h4

/-- a match of the marker pattern in a text that was searched from its head -/
theorem matchMarker_hit {t : Bytes} {m : Match (Nat × Marker)} (h : matchMarker t = some m) :
    Hit t m.a m.tag.1 (m.b - m.a) m.tag.2 ∧ (m.tag.1 = 0 → m.a = 0) ∧ m.a ≤ m.b := by
  obtain ⟨j, len, ha, hb, hat⟩ := from_struct t 0 m h
  obtain ⟨hh, h0⟩ := at_hit hat
  rw [Nat.zero_add] at ha hb
  have : m.b - m.a = len := by omega
  rw [this, ha]
  exact ⟨hh.of_drop, fun hl => by simpa using h0 hl, by omega⟩

theorem Hit.no_eol {t : Bytes} {p lead len : Nat} {mk : Marker} (h : Hit t p lead len mk) :
    ∀ j c, lead ≤ j → j < len → t[p + j]? = some c → isEolByte c = false := by
  obtain ⟨x, hx, hl, s, hs⟩ := h.group
  intro j c h1 h2 hc
  obtain ⟨k, rfl⟩ : ∃ k, j = lead + k := ⟨j - lead, by omega⟩
  rw [← Nat.add_assoc, ← List.getElem?_drop, ← hs, List.getElem?_append_left (by omega)] at hc
  exact hx.no_eol c (List.mem_of_getElem? hc)

/-- a match that starts in front of a line feed whose predecessor is no end-of-line byte ends at
    or in front of that line feed -/
theorem Hit.ends_before_lf {t : Bytes} {p lead len : Nat} {mk : Marker} (h : Hit t p lead len mk) {a : Nat}
    (hfa : t[a]? = some 10) (hprev : a = 0 ∨ ∃ c, t[a - 1]? = some c ∧ isEolByte c = false) (hlt : p < a) :
    p + len ≤ a := by
  refine Nat.le_of_not_lt fun hover => ?_
  -- the line feed is byte `k` of the match
  obtain ⟨k, rfl⟩ : ∃ k, a = p + k := ⟨a - p, by omega⟩
  by_cases hl : lead ≤ k
  · exact absurd (h.no_eol k 10 hl (by omega) hfa) (by decide)
  · -- it would be the second byte of the match's line start, behind a CR
    have := h.lead_le
    obtain ⟨c0, hc0, hc0e⟩ := h.eol 0 (by omega)
    rcases hprev with h0 | ⟨c1, hc1, hc1e⟩
    · omega
    · rw [show p + k - 1 = p + 0 by omega, hc0] at hc1
      cases hc1
      rw [hc0e] at hc1e
      cases hc1e

/-- a match at the line feed of a header `LF N ws G ws obj` is this header (line start 1, number `N`,
    generation `G`), however much of the text behind it the matcher saw: a truncated header has no other
    match -/
theorem Hit.at_header {t : Bytes} {a lead len : Nat} {mk : Marker} {n w1 g w2 rest : Bytes}
    (hp : HeaderParts n w1 g w2) (heq : t.drop a = 10 :: (headerBytes n w1 g w2 ++ rest)) (h : Hit t a lead len mk) :
    lead = 1 ∧ mk = .obj n g ∧ len = 1 + (headerBytes n w1 g w2).length := by
  obtain ⟨x, hx, hl, s, hs⟩ := h.group
  obtain ⟨c, xr, rfl⟩ := List.exists_cons_of_ne_nil hx.ne_nil
  obtain ⟨d, nt, hd⟩ := List.exists_cons_of_ne_nil hp.hn
  have hdig : isDigit d = true := hp.hnd d (by simp [hd])
  have hhead : headerBytes n w1 g w2 ++ rest = d :: (headerBytes nt w1 g w2 ++ rest) := by
    rw [hd, headerBytes_cons, List.cons_append]
  have hl2 := h.lead_le
  obtain rfl | rfl | rfl : lead = 0 ∨ lead = 1 ∨ lead = 2 := by omega
  · -- the group does not begin with the line feed
    rw [Nat.add_zero, heq, List.cons_append] at hs
    obtain rfl := (List.cons.inj hs).1
    exact absurd (hx.no_eol 10 (by simp)) (by decide)
  · rw [← List.drop_drop, heq, List.drop_succ_cons, List.drop_zero] at hs
    rcases hx with ⟨n', w1', g', w2', rfl, hx', hp'⟩ | hk
    · rw [hx'] at hs hl
      obtain ⟨rfl, rfl, rfl, rfl⟩ := header_unique hp' hp hs
      exact ⟨rfl, rfl, by omega⟩
    · -- a keyword starts with a byte that is not a digit
      rw [hhead, List.cons_append] at hs
      obtain rfl := (List.cons.inj hs).1
      rw [((kwMarkers_bytes _ hk).2 c (by simp)).2] at hdig
      cases hdig
  · -- the second byte is a digit, no end-of-line byte
    obtain ⟨e, he, hee⟩ := h.eol 1 (by omega)
    rw [← List.getElem?_drop, heq, hhead] at he
    cases he
    rw [digit_not_eol _ hdig] at hee
    cases hee

/-- where `Find` searches again when its window holds no match: `regexpOverlap` bytes before the end of
    the window, but not before the present position.  The model writes this expression out, in `find` and in
    `findEofWin`; `find_miss` ties it to `find` (nothing here speaks of `findEofWin`). -/
def restart (w : Win) : Nat :=
  if w.used ≥ Gen.his_scanner_regexpOverlap + w.pos + 1 then w.used - Gen.his_scanner_regexpOverlap else w.pos

/-- a refill moves the buffer, not the read position -/
theorem refill_start (size : Nat) (w : Win) : (w.refill size).base + (w.refill size).pos = w.base + w.pos := rfl

theorem restart_ge (w : Win) : w.pos ≤ restart w := by
  unfold restart; split <;> omega

theorem restart_le (w : Win) (h : w.pos ≤ w.used) : restart w ≤ w.used := by
  unfold restart; split <;> omega

theorem find_hit {τ} (file : Bytes) (matcher : Bytes → Option (Match τ)) (fuel : Nat) (w : Win) (m : Match τ)
    (h : matcher ((file.drop (w.base + w.pos)).take (w.used - w.pos)) = some m) :
    find file matcher (fuel + 1) w = .ok ({ w with pos := w.pos + m.b }, w.base + w.pos + m.a, m.b - m.a, m.tag) := by
  simp only [find, h]

/-- no match in the current window: `Find` refills from the restart position and searches again, unless the
    window was not full and nothing came in (`io.EOF`) -/
theorem find_miss {τ} (file : Bytes) (matcher : Bytes → Option (Match τ)) (fuel : Nat) (w : Win)
    (h : matcher ((file.drop (w.base + w.pos)).take (w.used - w.pos)) = none) :
    find file matcher (fuel + 1) w =
      if (decide (w.used < Gen.his_scanner_scannerBufSize) &&
          w.used == (Win.refill file.length { w with pos := restart w }).used) = true then .error .eof
      else find file matcher fuel (Win.refill file.length { w with pos := restart w }) := by
  simp only [find, h, restart]
  rfl

theorem find_ok_spec {τ} (file : Bytes) (matcher : Bytes → Option (Match τ)) :
    ∀ (fuel : Nat) (w w' : Win) (p l : Nat) (t : τ), find file matcher fuel w = .ok (w', p, l, t) →
    ∃ P cnt m, w.base + w.pos ≤ P ∧ matcher ((file.drop P).take cnt) = some m ∧
      p = P + m.a ∧ t = m.tag ∧ w'.base + w'.pos = P + m.b := by
  intro fuel
  induction fuel with
  | zero => intro w w' p l t h; cases h
  | succ fuel ih =>
    intro w w' p l t h
    cases hm : matcher ((file.drop (w.base + w.pos)).take (w.used - w.pos)) with
    | some m =>
      rw [find_hit file matcher fuel w m hm] at h
      cases h
      exact ⟨w.base + w.pos, w.used - w.pos, m, Nat.le_refl _, hm, rfl, rfl, (Nat.add_assoc _ _ _).symm⟩
    | none =>
      rw [find_miss file matcher fuel w hm] at h
      split at h
      · cases h
      · obtain ⟨P, cnt, m, hP, hm, h1, h2, h3⟩ := ih _ _ _ _ _ h
        have := restart_ge w
        exact ⟨P, cnt, m, by rw [refill_start] at hP; exact Nat.le_trans (Nat.add_le_add_left this _) hP, hm, h1, h2, h3⟩

/-- an answer of `Find` for the marker pattern, in the coordinates of the file, whatever the window showed -/
theorem find_hit_spec {file : Bytes} {fuel : Nat} {w w' : Win} {p l lead : Nat} {mk : Marker}
    (h : find file matchMarker fuel w = .ok (w', p, l, (lead, mk))) :
    ∃ len, w.base + w.pos ≤ p ∧ Hit file p lead len mk ∧ w'.base + w'.pos = p + len := by
  obtain ⟨P, cnt, m, hP, hm, rfl, htag, hend⟩ := find_ok_spec file matchMarker fuel w w' p l (lead, mk) h
  obtain ⟨hh, _, hab⟩ := matchMarker_hit hm
  rw [← htag] at hh
  exact ⟨m.b - m.a, Nat.le_add_right_of_le hP, (hh.of_prefix (List.take_prefix _ _)).of_drop, by omega⟩

/-- an invariant of window and state which every recorded (or skipped) match preserves holds
    when the scan loop returns, in the window in which `Find` answered `io.EOF` -/
theorem locLoop_inv (file : Bytes) (I : Win → LocState → Prop)
    (step : ∀ w w' pos len lead m s, I w s → find file matchMarker (file.length + 8) w = .ok (w', pos, len, (lead, m)) →
      I w' (if lineInitial file pos lead then locStep s (pos + lead) m else s)) :
    ∀ (fuel : Nat) (w wfin : Win) (s sfin : LocState), I w s → locLoop file fuel w s = .ok (sfin, wfin) →
      I wfin sfin ∧ find file matchMarker (file.length + 8) wfin = .error .eof := by
  intro fuel w wfin s sfin
  fun_induction locLoop file fuel w s
  case case1 => exact fun _ h => nomatch h
  case case2 heof => exact fun hs h => by cases h; exact ⟨hs, heof⟩
  case case3 => exact fun _ h => nomatch h
  case case4 hfind ih => exact fun hs h => ih (step _ _ _ _ _ _ _ hs hfind) h

theorem locateObjects_ok (file : Bytes) (loc : Located) (h : locateObjects file = .ok loc) :
    ∃ w0 p0 l0 v0 s w, find file matchStart (file.length + 8) { base := 0, pos := 0, used := 0 } = .ok (w0, p0, l0, v0) ∧
      locLoop file (file.length + 2) w0 { done := [], cur := {}, used := false, inTrailer := false } = .ok (s, w) ∧
      loc.sections = s.finish.done.reverse := by
  revert h
  fun_cases locateObjects file
  case case5 => intro h; cases h; exact ⟨_, _, _, _, _, _, ‹_›, ‹_›, rfl⟩
  all_goals exact fun h => nomatch h

end PdfVerif.C20hisc
