import PdfVerif.Props.C15cnti
/-!
# C15 — the hypotheses of `ops_rt_deep` on the operands as given; dictionaries with distinct keys

* `mkDict_dataKV`, `normD_dict_nodup`, `imgDict_nodup` — for distinct keys (every Go map) the
  dictionary the scanner builds at `>>` (and the inline image dictionary) is the list of written
  entries, without nil/null entries;
* `canonO_good`, `argD_of_good`, `valD_of_good` — sorting every dictionary into `SortedKeys`
  order preserves goodness and does not increase the depth, so the hypotheses of
  `ops_rt_deep`/`inline_image_rt` can be checked on the operands as given.
-/
namespace PdfVerif.C15cntp
open PdfVerif PdfVerif.CNT PdfVerif.C15cnt PdfVerif.C15cnto PdfVerif.C15cntm PdfVerif.C15cnti

/-- prepend an entry unless its (scanned) value is null -/
def consEntry (k : Bytes) (w : Obj) (rest : List (Bytes × Obj)) : List (Bytes × Obj) :=
  match w with
  | .null => rest
  | w => (k, w) :: rest

/-- the entries of a dictionary as the scanner returns them: nil entries and entries whose value
is written as `null` are absent, values in scanned form -/
def entriesD : List (Bytes × Obj) → List (Bytes × Obj)
  | [] => []
  | (k, v) :: r =>
    match v with
    | .null => entriesD r
    | v => consEntry k (normD v) (entriesD r)

theorem consEntry_cons (k : Bytes) (w : Obj) (rest : List (Bytes × Obj)) (hw : w ≠ .null) :
    consEntry k w rest = (k, w) :: rest := by
  cases w <;> first | rfl | exact absurd rfl hw

theorem entriesD_cons (k : Bytes) (v : Obj) (r : List (Bytes × Obj)) :
    entriesD ((k, v) :: r) = consEntry k (normD v) (entriesD r) := by
  cases v <;> rfl

/-- for distinct keys the dictionary built at `>>` is the list of written entries -/
theorem mkDict_dataKV (kv : List (Bytes × Obj)) : ∀ (acc : List (Bytes × Obj)),
    ((acc ++ entriesD kv).map (·.1)).Nodup → mkDict (dataKV kv) acc = acc ++ entriesD kv := by
  induction kv with
  | nil => intro acc _; simp [dataKV, mkDict, entriesD]
  | cons e r ih =>
    intro acc hnd
    obtain ⟨k, v⟩ := e
    by_cases hnull : v = .null
    · subst hnull
      exact ih acc hnd
    · rw [dataKV_cons k v r hnull, mkDict_cons]
      rw [entriesD_cons k v r] at hnd ⊢
      by_cases hw : normD v = .null
      · rw [hw] at hnd ⊢
        exact ih acc hnd
      · rw [consEntry_cons k _ _ hw] at hnd ⊢
        -- the key is new, so the entry goes to the end of the accumulator
        have hnew : k ∉ C01L.keysOf acc := by
          simp only [C01L.keysOf, List.mem_map, not_exists, not_and]
          intro e he heq
          simp [List.nodup_append] at hnd
          exact (hnd.2.2 e.1 e.2 (by simpa using he)).1 heq
        rw [putEntry_nonnull k _ acc hw, C01L.dictInsert_new k (normD v) acc hnew,
          ih (acc ++ [(k, normD v)]) (by simpa using hnd)]
        simp

theorem normD_dict_nodup (kv : List (Bytes × Obj)) (h : ((entriesD kv).map (·.1)).Nodup) :
    normD (.dict kv) = .dict (entriesD kv) := by
  simp [normD, mkDict_dataKV kv [] (by simpa using h)]

/-- for distinct keys the dictionary of an inline image comes back as its written entries -/
theorem imgDict_nodup (kv : List (Bytes × Obj)) (h : ((entriesD (canonKV (sortKV kv))).map (·.1)).Nodup) :
    imgDict kv = entriesD (canonKV (sortKV kv)) := by
  simp [imgDict, dataI_eq, mkDict_dataKV _ [] (by simpa using h)]

theorem canon_null_iff (v : Obj) : v.canon = .null ↔ v = .null := by
  cases v <;> simp [Obj.canon]

theorem countP_canonKV (kv : List (Bytes × Obj)) : (canonKV kv).countP nonNull = kv.countP nonNull := by
  rw [C01L.canonKV_eq_map, List.countP_map]
  exact List.countP_congr fun e _ => by cases h : e.2 <;> simp [nonNull, Obj.canon, h]

mutual
/-- canonicalisation (sorting every dictionary into `SortedKeys` order) preserves goodness and
does not increase the depth: the hypotheses of `ops_rt_deep` can be checked on the operand as
given. -/
theorem canonO_good : ∀ (c : Obj), GoodO c → GoodO c.canon ∧ depthO c.canon ≤ depthO c := by
  intro c hg
  have hd : depthO c.canon ≤ depthO c := by simpa only [depthO_eq] using C01L.depth_canon c
  cases c with
  | arr xs =>
    rw [goodO_arr_iff] at hg
    have hl := canonL_good xs hg.1
    rw [C01L.canon_arr, goodO_arr_iff]
    refine ⟨⟨(goodL_iff _).mpr ?_, by rw [C01L.canonList_length]; exact hg.2⟩, hd⟩
    · intro y hy
      obtain ⟨x, hx, rfl⟩ := List.mem_map.mp (C01L.canonList_eq_map xs ▸ hy)
      exact (hl x hx).1
  | dict kv =>
    rw [goodO_dict_iff] at hg
    have hk := canonKV_good kv hg.1
    rw [C01L.canon_dict, goodO_dict_iff]
    have hperm := sortedEntries_perm (canonKV kv)
    refine ⟨⟨(goodKV_iff _).mpr ?_, ?_⟩, hd⟩
    · intro e he
      obtain ⟨e', he', rfl⟩ := List.mem_map.mp (C01L.canonKV_eq_map kv ▸ hperm.mem_iff.mp he)
      have := (goodKV_iff kv).mp hg.1 e' he'
      exact ⟨this.1, this.2.1, (hk e' he').1⟩
    · rw [dataKV_length, hperm.countP_eq, countP_canonKV, ← dataKV_length]
      exact hg.2
  | _ => exact ⟨hg, Nat.le_refl _⟩
termination_by structural c => c
theorem canonL_good : ∀ (xs : List Obj), GoodL xs → ∀ x ∈ xs, GoodO x.canon ∧ depthO x.canon ≤ depthO x
  | [], _ => by intro x hx; simp at hx
  | y :: ys, hg => by
    rw [goodL_cons] at hg
    intro x hx
    simp at hx
    rcases hx with hx | hx
    · -- not `rfl`: the recursive call has to be on the pattern variable `y`
      exact hx ▸ canonO_good y hg.1
    · exact canonL_good ys hg.2 x hx
termination_by structural xs => xs
theorem canonKV_good : ∀ (kv : List (Bytes × Obj)), GoodKV kv → ∀ e ∈ kv, GoodO e.2.canon ∧ depthO e.2.canon ≤ depthO e.2
  | [], _ => by intro e he; simp at he
  | (k, v) :: r, hg => by
    rw [goodKV_cons] at hg
    intro e he
    simp at he
    rcases he with he | he
    · exact he ▸ canonO_good v hg.2.2.1
    · exact canonKV_good r hg.2.2.2 e he
termination_by structural kv => kv
end

theorem argD_of_good (a : Obj) (h : GoodO a) (hd : depthO a ≤ Gen.content_maxContentNestDepth) : ArgD a :=
  ⟨(canonO_good a h).1, Nat.le_trans (canonO_good a h).2 hd⟩

theorem valD_of_good (v : Obj) (h : GoodO v) (hd : depthO v ≤ Gen.content_maxValueDepth) : ValD v :=
  .inr ⟨(canonO_good v h).1, Nat.le_trans (canonO_good v h).2 hd⟩

end PdfVerif.C15cntp
