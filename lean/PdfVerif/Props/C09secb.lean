import PdfVerif.Props.C09sec
/-!
# C09 (continued) — the stream reader `decryptReader` as a byte machine

For every behaviour of the underlying `io.Reader` that `Src` models (per-call limits, zero-length
reads, `io.EOF` with or after the last bytes) and every sequence of caller buffer sizes, `DecR` (the
model of `decryptReader.Read`) read to the end returns what `DecryptBytes` returns for the stored bytes
(`decryptStream_of_decryptBytes`), hence the plaintext (`decrypt_stream_chunking`,
`encrypt_decrypt_stream`), and the model's fuel bounds are never hit.  Hypotheses: `PrimsOK` and
`hdec`, that an AES block decryption yields 16 bytes whatever the block (not a field of `PrimsOK`,
see there).
-/
namespace PdfVerif.C09secb
open PdfVerif PdfVerif.SEC C09sec

/-- the last clause is what bounds the fuel of the loops below: a read that does not report the
end uses up an entry of `sizes` or delivers a byte.  The fourth follows from the third; it stands
here in the form in which both loops rewrite with it. -/
theorem src_read_spec (s : Src) (room : Nat) :
    ∃ n eof s1, s.read room = (s.rest.take n, eof, s1) ∧ n ≤ room ∧ n ≤ s.rest.length ∧
      (∀ acc : Bytes, (acc ++ s.rest.take n).length = acc.length + n) ∧
      s1.rest = s.rest.drop n ∧
      (eof = true → n = s.rest.length) ∧
      (eof = false → 0 < room → s1.sizes.length < s.sizes.length + n) := by
  have hend : ∀ n, n ≤ s.rest.length → (s.rest.drop n).isEmpty = true → n = s.rest.length := by
    intro n hn he
    simp only [List.isEmpty_iff, List.drop_eq_nil_iff] at he
    omega
  have hacc : ∀ n, n ≤ s.rest.length → ∀ acc : Bytes, (acc ++ s.rest.take n).length = acc.length + n := by
    intro n hn acc
    rw [List.length_append, List.length_take, Nat.min_eq_left hn]
  unfold Src.read
  cases hs : s.sizes with
  | nil =>
    refine ⟨min room s.rest.length, _, _, rfl, by omega, by omega, hacc _ (by omega), rfl, ?_, ?_⟩
    · dsimp only
      intro h
      split at h
      · exact hend _ (by omega) ‹_›
      · cases h
    · dsimp only
      intro h hroom
      split at h
      · have hn : min room s.rest.length ≠ 0 := by intro h0; simp [h0] at h
        simp; omega
      · rename_i he
        simp only [List.isEmpty_iff, List.drop_eq_nil_iff] at he
        simp; omega
  | cons z zs =>
    refine ⟨min (min z room) s.rest.length, _, _, rfl, by omega, by omega, hacc _ (by omega), rfl, ?_, ?_⟩
    · dsimp only
      intro h
      split at h
      · exact hend _ (by omega) ‹_›
      · cases h
    · intro _ _; simp; omega

theorem fill_none (fuel : Nat) (buf : Bytes) : DecR.fill fuel buf none = .ok (buf, none) := by
  cases fuel <;> simp [DecR.fill]

/-- On a source whose remaining length makes the total a multiple of 16 the refill loop of
`decryptReader.Read` cannot fail, and the model's fuel is enough; `t` is what this refill takes from the
source, 32 the size of the reader's buffer.  The fuel hypothesis is a potential: while `buf` has at most
16 bytes, every read that does not report the end uses up an entry of `sizes` or adds a byte to `buf`
(`src_read_spec`); `18` is the `17 - buf.length` bytes until `buf` has more than 16 and one call for the
read that reports the end (`DecR.read` passes `sizes.length + 40`). -/
theorem fill_spec : ∀ (fuel : Nat) (buf : Bytes) (s : Src), 1 ≤ fuel →
    (buf.length ≤ 16 → s.sizes.length + 18 ≤ fuel + buf.length) → buf.length ≤ 32 →
    (buf.length + s.rest.length) % 16 = 0 →
    ∃ t, t ≤ s.rest.length ∧ buf.length + t ≤ 32 ∧
      ((DecR.fill fuel buf (some s) = .ok (buf ++ s.rest.take t, none) ∧ t = s.rest.length) ∨
       (∃ s', DecR.fill fuel buf (some s) = .ok (buf ++ s.rest.take t, some s') ∧
          s'.rest = s.rest.drop t ∧ 16 < buf.length + t)) := by
  intro fuel
  induction fuel with
  | zero => intro buf s h; omega
  | succ f ih =>
    intro buf s _ hfuel h32 hmod
    by_cases hle : buf.length ≤ 16
    · obtain ⟨n, eof, s1, hread, hn1, hn2, hlen, hr, heof, hpot⟩ := src_read_spec s (32 - buf.length)
      have hlen := hlen buf
      simp only [DecR.fill, hle, ↓reduceIte, hread, hlen]
      cases eof with
      | true =>
        have hn : n = s.rest.length := heof rfl
        have hl : ((buf.length + n) % 16 != 0) = false := by simp [hn, hmod]
        simp only [↓reduceIte, hl, Bool.false_eq_true, fill_none]
        exact ⟨n, hn2, by omega, .inl ⟨rfl, hn⟩⟩
      | false =>
        -- the total is unchanged; the `%` fact is only for the induction hypothesis and is dropped
        -- after it, since it slows every `omega` that sees it
        have hmod' : ((buf ++ s.rest.take n).length + s1.rest.length) % 16 = 0 := by
          rw [hlen, hr, List.length_drop, Nat.add_assoc, Nat.add_sub_cancel' hn2]; exact hmod
        clear hmod
        have := hfuel hle
        have := hpot rfl (by omega)
        obtain ⟨t, ht1, ht2, hcase⟩ := ih (buf ++ s.rest.take n) s1 (by omega)
          (by rw [hlen]; omega) (by rw [hlen]; omega) hmod'
        clear hmod'
        rw [hr, hlen, List.append_assoc, ← List.take_add] at hcase
        rw [hr, List.length_drop] at ht1
        rw [hlen] at ht2
        simp only [Bool.false_eq_true, ↓reduceIte]
        refine ⟨n + t, by omega, by omega, ?_⟩
        rcases hcase with ⟨h1, h2⟩ | ⟨s', h1, h2, h3⟩
        · exact .inl ⟨h1, by rw [List.length_drop] at h2; omega⟩
        · exact .inr ⟨s', h1, by rw [h2, List.drop_drop], by omega⟩
    · refine ⟨0, by omega, by omega, Or.inr ⟨s, ?_, by simp, by omega⟩⟩
      simp [DecR.fill, hle]

theorem unpad_append (a b : Bytes) (ha : a.length % 16 = 0) (hb : 16 ≤ b.length) (hb' : b.length % 16 = 0) :
    unpadPKCS7 (a ++ b) = match unpadPKCS7 b with | .ok u => .ok (a ++ u) | .error e => .error e := by
  have hne : b ≠ [] := by intro h; simp [h] at hb
  have hlast : (a ++ b).getLast? = b.getLast? := by
    rw [List.getLast?_append, List.getLast?_eq_some_getLast hne]; rfl
  have hgood : ∀ p, padGood (a ++ b) p = padGood b p := by
    intro p
    unfold padGood
    congr 1
    rw [Bool.eq_iff_iff, List.all_eq_true, List.all_eq_true]
    refine forall_congr' fun i => imp_congr_right fun hi => ?_
    rw [List.mem_range] at hi
    rw [List.reverse_append, List.getElem?_append_left (by simp; omega)]
  unfold unpadPKCS7
  have h1 : (decide ((a ++ b).length < 16) || (a ++ b).length % 16 != 0) = false := by simp; omega
  have h2 : (decide (b.length < 16) || b.length % 16 != 0) = false := by simp; omega
  simp only [h1, h2, Bool.false_eq_true, ↓reduceIte, hlast, hgood]
  cases b.getLast? with
  | none => rfl
  | some p =>
    dsimp only
    split
    · rename_i hg
      have hp : p ≤ 16 := by
        simp only [padGood, Bool.and_eq_true, decide_eq_true_eq] at hg
        exact hg.1.1
      rw [List.length_append, List.take_append, List.take_of_length_le (by omega)]
      congr 3
      omega
    · rfl

theorem unpad_dec_cons {P : Prims} (hdec : ∀ k b, (P.aesDec k b).length = 16) (k iv a b : Bytes)
    (hiv : iv.length = 16) (ha : a.length = 16) (hb : 16 ≤ b.length) (hbm : b.length % 16 = 0) :
    (cbcDecBlocks P k 1 iv a).1.length = 16 ∧ (cbcDecBlocks P k 1 iv a).2.length = 16 ∧
    unpadPKCS7 (cbcDecBlocks P k ((a ++ b).length / 16) iv (a ++ b)).1 =
      match unpadPKCS7 (cbcDecBlocks P k (b.length / 16) (cbcDecBlocks P k 1 iv a).2 b).1 with
      | .ok u => .ok ((cbcDecBlocks P k 1 iv a).1 ++ u)
      | .error e => .error e := by
  obtain ⟨h1, h2⟩ := cbcDecBlocks_length hdec k 1 iv a hiv (by omega)
  obtain ⟨h3, _⟩ := cbcDecBlocks_length hdec k (b.length / 16) _ b h2 (by omega)
  have hn : (a ++ b).length / 16 = 1 + b.length / 16 := by rw [List.length_append]; omega
  refine ⟨by omega, h2, ?_⟩
  rw [hn, (cbcBlocks_append k 1 _ iv a b (by omega)).2, unpad_append _ _ (by omega) (by omega) (by omega)]

/-- invariant of the reader between `Read` calls; `16 ≤ reserved + rest` says that a source still
open holds at least the padding block, so that the refill ends with a block to decrypt -/
def Valid (r : DecR) : Prop :=
  r.iv.length = 16 ∧
  match r.src with
  | none => r.reserved = []
  | some s => (r.reserved.length + s.rest.length) % 16 = 0 ∧ r.reserved.length ≤ 16 ∧
      16 ≤ r.reserved.length + s.rest.length

/-- what the reader is still going to deliver: the decrypted bytes it holds and the unpadded CBC
decryption of everything it has not decrypted yet -/
def denote (P : Prims) (r : DecR) : Except Err Bytes :=
  match r.src with
  | none => .ok r.ready
  | some s =>
    match unpadPKCS7 (cbcDecBlocks P r.key ((r.reserved ++ s.rest).length / 16) r.iv (r.reserved ++ s.rest)).1 with
    | .ok un => .ok (r.ready ++ un)
    | .error e => .error e

/-- `+ 1` while the source is open: the `Read` that sees its end may deliver nothing; `decryptStream` passes
`src.rest.length + 8` for it -/
def measure (r : DecR) (x : Bytes) : Nat := x.length + (if r.src.isSome then 1 else 0)

theorem denote_ready {P : Prims} {r : DecR} {x : Bytes} (hd : denote P r = .ok x) :
    ∃ u, x = r.ready ++ u ∧ ∀ ready, denote P { r with ready := ready } = .ok (ready ++ u) := by
  revert hd
  fun_cases denote P r <;> intro hd <;> cases hd
  · next hsrc => exact ⟨[], by simp, fun _ => by simp [denote, hsrc]⟩
  · next s hsrc un hun => exact ⟨un, rfl, fun _ => by simp only [denote, hsrc, hun]⟩

theorem read_ready (P : Prims) (r : DecR) (want : Nat) (h : r.ready ≠ []) :
    r.read P want = .ok (r.ready.take want, false, { r with ready := r.ready.drop want }) := by
  have : r.ready.isEmpty = false := by simpa using h
  simp [DecR.read, this]

theorem read_done (P : Prims) (r : DecR) (want : Nat) (h0 : r.ready = []) (hsrc : r.src = none)
    (hres : r.reserved = []) : r.read P want = .ok ([], true, { r with reserved := [], src := none }) := by
  simp [DecR.read, h0, hsrc, hres, fill_none]

theorem read_last (P : Prims) (r : DecR) (want : Nat) (s : Src) (buf un : Bytes) (h0 : r.ready = [])
    (hsrc : r.src = some s) (hfill : DecR.fill (s.sizes.length + 40) r.reserved (some s) = .ok (buf, none))
    (h16 : 16 ≤ buf.length) (hm : buf.length % 16 = 0)
    (hun : unpadPKCS7 (cbcDecBlocks P r.key (buf.length / 16) r.iv buf).1 = .ok un) :
    r.read P want =
      if un.isEmpty then
        .ok ([], true,
          { r with iv := (cbcDecBlocks P r.key (buf.length / 16) r.iv buf).2, reserved := [], ready := [],
                   src := none })
      else
        .ok (un.take want, false,
          { r with iv := (cbcDecBlocks P r.key (buf.length / 16) r.iv buf).2, reserved := [],
                   ready := un.drop want, src := none }) := by
  have hl : buf.length - buf.length % 16 = buf.length := by omega
  have hlt : ¬ buf.length < 16 := by omega
  simp only [DecR.read, h0, List.isEmpty_nil, ↓reduceIte, hsrc, hfill, hlt, Option.isSome_none, Bool.false_eq_true,
    Option.isNone_none, hl, List.take_length, List.drop_length, hun]

/-- only one block is decrypted: the last block carries the padding, so one is held back until the
end of the source has been seen -/
theorem read_more (P : Prims) (r : DecR) (want : Nat) (s : Src) (buf : Bytes) (s' : Src) (h0 : r.ready = [])
    (hsrc : r.src = some s) (hfill : DecR.fill (s.sizes.length + 40) r.reserved (some s) = .ok (buf, some s'))
    (h16 : 16 < buf.length) (h32 : buf.length ≤ 32) :
    r.read P want =
      .ok ((cbcDecBlocks P r.key 1 r.iv (buf.take 16)).1.take want, false,
        { r with iv := (cbcDecBlocks P r.key 1 r.iv (buf.take 16)).2, reserved := buf.drop 16,
                 ready := (cbcDecBlocks P r.key 1 r.iv (buf.take 16)).1.drop want, src := some s' }) := by
  have hl : buf.length - 1 - (buf.length - 1) % 16 = 16 := by omega
  have hlt : ¬ buf.length < 16 := by omega
  simp only [DecR.read, h0, List.isEmpty_nil, ↓reduceIte, hsrc, hfill, hlt, Option.isSome_some, Option.isNone_some,
    Bool.false_eq_true, hl, Nat.reduceDiv]

theorem take_ne_nil (un : Bytes) (want : Nat) (hw : 0 < want) (hne : un ≠ []) : un.take want ≠ [] := by
  intro h
  rcases List.take_eq_nil_iff.mp h with h | h
  · omega
  · exact hne h

/-- One `Read` against `denote`; `measure` is the fuel of `readAll`. -/
theorem read_step {P : Prims} (hdec : ∀ k b, (P.aesDec k b).length = 16) (r : DecR) (x : Bytes)
    (want : Nat) (hv : Valid r) (hd : denote P r = .ok x) (hw : 0 < want) :
    ∃ out eof r', r.read P want = .ok (out, eof, r') ∧
      (eof = true → x = [] ∧ out = []) ∧
      (eof = false → Valid r' ∧ ∃ x', denote P r' = .ok x' ∧ x = out ++ x' ∧ measure r' x' < measure r x) ∧
      (eof = false → out ≠ []) := by
  obtain ⟨hiv, hv⟩ := hv
  by_cases hready : r.ready = []
  · cases hsrc : r.src with
    | none =>
      simp only [hsrc] at hv
      simp only [denote, hsrc, hready, Except.ok.injEq] at hd
      exact ⟨[], true, _, read_done P r want hready hsrc hv, fun _ => ⟨hd.symm, rfl⟩, by simp, by simp⟩
    | some s =>
      simp only [hsrc] at hv
      obtain ⟨hmod, hres, h16⟩ := hv
      have hcl : (r.reserved ++ s.rest).length = r.reserved.length + s.rest.length := List.length_append
      obtain ⟨t, ht1, ht2, hcase⟩ := fill_spec (s.sizes.length + 40) r.reserved s (by omega) (by omega) (by omega) hmod
      simp only [denote, hsrc, hready, List.nil_append] at hd
      rcases hcase with ⟨hfill, rfl⟩ | ⟨s', hfill, hrest', hgt⟩
      · -- the source ended
        rw [List.take_length] at hfill
        split at hd
        · rename_i un hun
          have hx := Except.ok.inj hd
          subst hx
          have hread := read_last P r want s _ un hready hsrc hfill (by omega) (by omega) hun
          by_cases hempty : un = []
          · -- only padding was left: end of data at once, not a read of nothing
            rw [hempty] at hread
            exact ⟨_, true, _, hread, fun _ => ⟨hempty, rfl⟩, by simp, by simp⟩
          · rw [if_neg (by simpa using hempty)] at hread
            refine ⟨_, false, _, hread, by simp, fun _ => ⟨⟨?_, rfl⟩, un.drop want, rfl,
              (List.take_append_drop want un).symm, ?_⟩, fun _ => take_ne_nil un want hw hempty⟩
            · exact (cbcDecBlocks_length hdec r.key _ r.iv _ hiv (Nat.mul_div_le _ 16)).2
            · simp only [measure, hsrc, Option.isSome_some, ↓reduceIte, Option.isSome_none, Bool.false_eq_true,
                List.length_drop]
              omega
        · cases hd
      · -- the source goes on: `fill` returned more than 16 bytes, `read_more` decrypts exactly `buf.take 16`, and by
        -- `unpad_dec_cons` what `r` denotes is that block followed by what the new state denotes
        obtain ⟨buf, hbuf⟩ : ∃ buf, buf = r.reserved ++ s.rest.take t := ⟨_, rfl⟩
        have hbl : buf.length = r.reserved.length + t := by
          rw [hbuf, List.length_append, List.length_take, Nat.min_eq_left ht1]
        have hsplit : r.reserved ++ s.rest = buf.take 16 ++ (buf.drop 16 ++ s'.rest) := by
          rw [hrest', ← List.append_assoc, List.take_append_drop, hbuf, List.append_assoc, List.take_append_drop]
        have hdl : r.reserved.length + s.rest.length = 16 + (buf.drop 16 ++ s'.rest).length := by
          have := congrArg List.length hsplit
          rwa [List.length_append, List.length_append, List.length_take, hbl, Nat.min_eq_left (by omega)] at this
        rw [← hbuf] at hfill
        have hread := read_more P r want s buf s' hready hsrc hfill (by omega) (by omega)
        obtain ⟨hd1, hd2, hcons⟩ := unpad_dec_cons hdec r.key r.iv (buf.take 16) (buf.drop 16 ++ s'.rest) hiv
          (by rw [List.length_take, hbl]; omega) (by omega) (by omega)
        rw [hsplit, hcons] at hd
        generalize cbcDecBlocks P r.key 1 r.iv (buf.take 16) = d at hread hd1 hd2 hd
        split at hd
        · rename_i u hu
          split at hu
          · rename_i u' hu'
            cases hu
            cases hd
            refine ⟨_, false, _, hread, by simp, fun _ => ⟨⟨hd2, ?_⟩, d.1.drop want ++ u', ?_, ?_, ?_⟩,
              fun _ => take_ne_nil _ want hw (by intro h; simp [h] at hd1)⟩
            · rw [List.length_append, List.length_drop, hbl] at hdl
              simp only [List.length_drop, hbl]
              omega
            · simp only [denote, hu']
            · rw [← List.append_assoc, List.take_append_drop]
            · simp only [measure, hsrc, Option.isSome_some, ↓reduceIte, List.length_append, List.length_drop, hd1]
              omega
          · cases hu
        · cases hd
  · obtain ⟨u, rfl, hden⟩ := denote_ready hd
    refine ⟨_, false, _, read_ready P r want hready, by simp, fun _ => ⟨⟨hiv, hv⟩, _, hden _, ?_, ?_⟩,
      fun _ => take_ne_nil _ want hw hready⟩
    · rw [← List.append_assoc, List.take_append_drop]
    · have : 0 < r.ready.length := List.length_pos_iff.mpr hready
      simp only [measure, List.length_append, List.length_drop]
      omega

/-- On a reader in a `Valid` state whose remaining data decrypt and unpad
(`denote`), a `Read` with a non-empty buffer never returns "0 bytes, no error": it delivers at
least one byte or reports the end of the data (the `io.Reader` contract consumers such as the XMP
parser insist on; the case to watch is a plaintext whose length is a multiple of 16, which ends
with a block of padding only). -/
theorem read_progress {P : Prims} (hdec : ∀ k b, (P.aesDec k b).length = 16) (r : DecR) (x : Bytes)
    (want : Nat) (hv : Valid r) (hd : denote P r = .ok x) (hw : 0 < want)
    (out : Bytes) (r' : DecR) (h : r.read P want = .ok (out, false, r')) : out ≠ [] := by
  obtain ⟨out', eof', r'', hread, _, _, hp⟩ := read_step hdec r x want hv hd hw
  rw [h] at hread
  simp only [Except.ok.injEq, Prod.mk.injEq] at hread
  obtain ⟨h1, h2, _⟩ := hread
  subst h1 h2
  exact hp rfl

theorem readAll_unfold (P : Prims) (f : Nat) (r : DecR) (wants : List Nat) (dflt : Nat) :
    DecR.readAll P (f + 1) r wants dflt =
      match r.read P (wants.headD dflt) with
      | .error e => .error e
      | .ok (out, eof, r') =>
        if eof then .ok out
        else match DecR.readAll P f r' (wants.drop 1) dflt with
          | .error e => .error e
          | .ok more => .ok (out ++ more) := by
  cases wants <;> rfl

theorem readAll_spec {P : Prims} (hdec : ∀ k b, (P.aesDec k b).length = 16) :
    ∀ (fuel : Nat) (r : DecR) (wants : List Nat) (dflt : Nat) (x : Bytes),
      Valid r → denote P r = .ok x → (∀ w ∈ wants, 0 < w) → 0 < dflt → measure r x < fuel →
      DecR.readAll P fuel r wants dflt = .ok x := by
  intro fuel
  induction fuel with
  | zero => intro r wants dflt x _ _ _ _ h; omega
  | succ f ih =>
    intro r wants dflt x hv hd hw hdf hm
    have hwant : 0 < wants.headD dflt := by
      cases wants with
      | nil => exact hdf
      | cons w ws => exact hw w (by simp)
    obtain ⟨out, eof, r', hread, heof, hgo, _⟩ := read_step hdec r x _ hv hd hwant
    rw [readAll_unfold, hread]
    cases eof with
    | true =>
      obtain ⟨hx, ho⟩ := heof rfl
      simp only [↓reduceIte, hx, ho]
    | false =>
      obtain ⟨hv', x', hd', hx, hm'⟩ := hgo rfl
      have := ih r' (wants.drop 1) dflt x' hv' hd'
        (by intro w hw'; exact hw w (List.mem_of_mem_drop hw')) hdf (by omega)
      simp only [Bool.false_eq_true, ↓reduceIte, this, hx]

/-- The fuel hypothesis is the potential of `fill_spec`: `need - acc.length` bytes to come and an entry of `sizes`
for each read that brings none (`decryptStream` passes `sizes.length + 20` for 16 bytes). -/
theorem readFull_spec (need : Nat) : ∀ (fuel : Nat) (acc : Bytes) (s : Src),
    acc.length ≤ need → need ≤ acc.length + s.rest.length → s.sizes.length + need + 1 < fuel + acc.length →
    ∃ s', Src.readFull fuel acc need s = .ok (acc ++ s.rest.take (need - acc.length), s') ∧
      s'.rest = s.rest.drop (need - acc.length) := by
  intro fuel
  induction fuel with
  | zero => intro acc s _ _ h; omega
  | succ f ih =>
    intro acc s hacc htot hf
    by_cases hfull : acc.length ≥ need
    · have : acc.length = need := by omega
      exact ⟨s, by simp [Src.readFull, this], by simp [this]⟩
    · obtain ⟨n, eof, s1, hread, hn1, hn2, hlen, hr, heof, hpot⟩ := src_read_spec s (need - acc.length)
      have hlen := hlen acc
      simp only [Src.readFull, hfull, ↓reduceIte, hread, hlen]
      by_cases hdone : acc.length + n ≥ need
      · have hn : n = need - acc.length := by omega
        simp only [hdone, ↓reduceIte]
        exact ⟨s1, by rw [hn], by rw [hr, hn]⟩
      · have he : eof = false := by
          cases eof with
          | false => rfl
          | true => have := heof rfl; omega
        have := hpot he (by omega)
        obtain ⟨s', h1, h2⟩ := ih (acc ++ s.rest.take n) s1 (by omega)
          (by rw [hlen, hr, List.length_drop]; omega) (by rw [hlen]; omega)
        simp only [hdone, ↓reduceIte, he, Bool.false_eq_true]
        have e : n + (need - (acc.length + n)) = need - acc.length := by omega
        rw [hlen, hr, List.append_assoc, ← List.take_add, e] at h1
        rw [hlen, hr, List.drop_drop, e] at h2
        exact ⟨s', h1, h2⟩

/-- `DecryptStream` read to the end returns what `DecryptBytes` under the stream filter returns for the
stored bytes, whoever made them, whenever that succeeds.  Where `DecryptBytes` fails the two differ: an
AES stream of no bytes, or of an IV and nothing else, reads as empty data, and a bad length or padding
is `malformed` to the reader, `other` there. -/
theorem decryptStream_of_decryptBytes {P : Prims} (hdec : ∀ k b, (P.aesDec k b).length = 16)
    (enc : EncInfo) (num gen : Nat) (src : Src) (wants : List Nat) (x : Bytes) (hw : ∀ w ∈ wants, 0 < w)
    (h : decryptBytes P { enc with strF := enc.stmF } num gen src.rest = .ok x) :
    decryptStream P enc num gen src wants = .ok x := by
  cases hf : enc.stmF with
  | none => simpa [decryptBytes, decryptStream, hf] using h
  | some cf =>
    cases hc : cf.cipher with
    | rc4 =>
      simp only [decryptBytes, hf, hc] at h
      simp only [decryptStream, hf, hc]
      exact h
    | aes =>
      obtain ⟨key, hk, hko, hd⟩ := (decryptBytes_aes (enc := { enc with strF := enc.stmF }) hf hc).mp h
      obtain ⟨h32, hm, hun⟩ := decryptAES_ok.mp hd
      obtain ⟨s', hrf, hrest⟩ := readFull_spec 16 (src.sizes.length + 20) [] src (by simp) (by simp; omega) (by simp)
      simp only [List.length_nil, Nat.sub_zero, List.nil_append] at hrf hrest
      have hiv : (src.rest.take 16).length = 16 := by rw [List.length_take]; omega
      -- the fuel of `readAll` is measured against the stored bytes, so the plaintext must be no longer than they are
      have hx := unpadPKCS7_length_le hun
      unfold cbcDecrypt at hun hx
      rw [(cbcDecBlocks_length hdec key _ _ _ hiv (Nat.mul_div_le _ 16)).1, List.length_drop] at hx
      unfold decryptStream
      simp only [hf, hc, hk, hrf, hko, Bool.not_true, Bool.false_eq_true, ↓reduceIte]
      refine readAll_spec hdec _ _ wants 512 x ⟨hiv, ?_⟩ ?_ hw (by omega) ?_
      · simp only [hrest, List.length_nil, List.length_drop]
        omega
      · simp only [denote, hrest, List.nil_append, hun]
      · simp only [measure, Option.isSome_some, ↓reduceIte]
        omega

/-- (AES.)  Whatever pieces the underlying reader delivers the stored
bytes in (any sequence of per-call limits, zero-length reads included, end-of-file reported with
or after the last bytes) and whatever buffer sizes the caller reads with, `DecryptStream` read to
the end returns exactly the plaintext whose `EncryptBytes`/`EncryptStream` form was stored.  The stored
bytes are given as `encryptAES P key iv data` for any 16-byte `iv`, not as a result of `EncryptStream`. -/
theorem decrypt_stream_chunking {P : Prims} (ok : PrimsOK P) (hdec : ∀ k b, (P.aesDec k b).length = 16)
    (enc : EncInfo) (l num gen : Nat) (key iv data : Bytes) (src : Src) (wants : List Nat)
    (hf : enc.stmF = some ⟨.aes, l⟩) (hk : keyForRef P enc.sec ⟨.aes, l⟩ num gen = .ok key)
    (hko : aesKeyOk key = true) (hiv : iv.length = 16)
    (hsrc : src.rest = encryptAES P key iv data) (hw : ∀ w ∈ wants, 0 < w) :
    decryptStream P enc num gen src wants = .ok data := by
  refine decryptStream_of_decryptBytes hdec enc num gen src wants data hw ?_
  rw [hsrc]
  exact (decryptBytes_aes (enc := { enc with strF := enc.stmF }) hf rfl).mpr
    ⟨key, hk, hko, decrypt_encrypt_AES ok key iv data hiv⟩

/-- For every crypt filter (none, RC4, AES), every object, every way
of cutting the data into `Write` calls, every way the stored bytes come back from the underlying
reader and every sequence of caller buffer sizes: what `DecryptStream` returns is what was
written to `EncryptStream`. -/
theorem encrypt_decrypt_stream {P : Prims} (ok : PrimsOK P) (hdec : ∀ k b, (P.aesDec k b).length = 16)
    (enc : EncInfo) (num gen : Nat) (chunks : List Bytes) (rng out rng' : Bytes)
    (sizes : List Nat) (eofWithData : Bool) (wants : List Nat) (hw : ∀ w ∈ wants, 0 < w)
    (h : encryptStream P enc num gen chunks rng = .ok (out, rng')) :
    decryptStream P enc num gen { rest := out, sizes := sizes, eofWithData := eofWithData } wants =
      .ok chunks.flatten :=
  decryptStream_of_decryptBytes hdec enc num gen _ wants _ hw
    (encrypt_decrypt_bytes ok _ num gen _ rng out rng' ((encryptStream_ok ..).mp h))

/-- An embedded file stream is decrypted with the `/EFF` crypt filter, every
other stream with `/StmF`; what was encrypted under the filter selected for its kind reads back,
whatever the two filters are (Identity, RC4, AES; equal or different). -/
theorem eff_selection {P : Prims} (ok : PrimsOK P) (hdec : ∀ k b, (P.aesDec k b).length = 16)
    (enc : EncInfo) (embeddedFile : Bool) (num gen : Nat) (chunks : List Bytes) (rng out rng' : Bytes)
    (sizes : List Nat) (eofWithData : Bool) (wants : List Nat) (hw : ∀ w ∈ wants, 0 < w)
    (h : encryptStream P { enc with stmF := if embeddedFile then enc.efF else enc.stmF } num gen chunks rng
          = .ok (out, rng')) :
    decryptStreamFor P enc embeddedFile num gen { rest := out, sizes := sizes, eofWithData := eofWithData } wants =
      .ok chunks.flatten :=
  encrypt_decrypt_stream ok hdec _ num gen chunks rng out rng' sizes eofWithData wants hw h

/-- `Close` writes an `/Encrypt` entry exactly when the file is encrypted, and then the one made
together with the key -/
theorem closeEncryptEntry_spec (d : Option Obj) (tr : List (Bytes × Obj)) :
    ((closeEncryptEntry d tr).filter fun e => e.1 == key "Encrypt").map (·.2) = d.toList := by
  have hrest : ((tr.filter fun e => e.1 != key "Encrypt").filter fun e => e.1 == key "Encrypt") = [] := by
    rw [List.filter_filter]
    apply List.filter_eq_nil_iff.mpr
    intro e _
    simp
  cases d with
  | none => simp [closeEncryptEntry, hrest]
  | some x => simp [closeEncryptEntry, hrest]

/-! ## non-vacuity: a reader that delivers 1, 0, 7, 16, … bytes at a time, EOF after the data -/

example : decryptStream toyPrims toyEnc 7 0
    { rest := (match encryptStream toyPrims toyEnc 7 0 [[1, 2, 3], [], List.range 40] (List.range 16) with
               | .ok (o, _) => o | .error _ => []),
      sizes := [1, 0, 7, 16, 0, 3, 40], eofWithData := false } [5, 1, 17] = .ok ([1, 2, 3] ++ List.range 40) := by
  have : (∀ w ∈ [5, 1, 17], 0 < w) := by decide
  exact encrypt_decrypt_stream toyOK (by intro k b; simp [toyPrims]) toyEnc 7 0 _ (List.range 16) _ _ _ _ _ this
    (by rfl)

end PdfVerif.C09secb
