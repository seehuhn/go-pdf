import PdfVerif.Props.C15cnto
import PdfVerif.Lemmas.BytesOrder
import PdfVerif.Lemmas.C01Canon
import PdfVerif.Props.C15cntd
import PdfVerif.Lemmas.C01Caps
/-!
# C15 — inline images, and the final `ops_rt_deep` / `split_rt_deep`

`inline_image_rt`: an inline image written by `Operator.Format` (`BI`, the entries with keys as escaped
names and nil entries skipped, `ID`, the data, `EI`) is read back by one `Scan` call as the same dictionary
and the same data, under `ImageOk`: any key bytes, nil entries, values nested up to `maxValueDepth`
(`valT`/`arrVT`/`dictVT`, mutual structural induction against the recursive reader `readValueDepth`), and
data which comes with its `Length` (then arbitrary, D-C15-9) or contains no end-of-line byte followed by
`EI` and a non-regular byte.  `inline_image_rt_full_false`: that last hypothesis cannot be dropped (D11).
`noL_cap_eq_L_cap`: the `EI` search and the `Length` branch both read back up to `maxInlineImageBytes`
bytes (D-C15-2; `noL_cap_old_off_by_two` refutes it for the search loop of the library before that fix).
The theorems hold for the library with D16–D18 fixed (b0fd5e1, c042ca9, 9604029); the D-numbers are those
of `notes/C15.md`.
-/
namespace PdfVerif.C15cnti
open PdfVerif PdfVerif.CNT PdfVerif.C15cnt PdfVerif.C15cnto PdfVerif.C15cntd PdfVerif.C15cntm

theorem readValue_nonop (f d : Nat) (inp rest : Bytes) (t : Obj) (h : scanToken inp = .ok t rest)
    (hno : ∀ n, t ≠ .op n) : readValue (f + 1) d inp = .ok t rest := by
  rw [readValue, h]
  cases t <;> simp_all

theorem readValue_space (c : Nat) (z : Bytes) (hc : cSpace c = true) (fuel d : Nat) :
    readValue fuel d (c :: z) = readValue fuel d z := by
  cases fuel with
  | zero => simp [readValue]
  | succ f => rw [readValue, readValue, scanToken_space c z hc]

theorem readDictBody_space (c : Nat) (z : Bytes) (hc : cSpace c = true) (fuel : Nat) (term : Bytes) (vd : Nat)
    (acc : List (Bytes × Obj)) : readDictBody fuel term vd acc (c :: z) = readDictBody fuel term vd acc z := by
  cases fuel with
  | zero => simp [readDictBody]
  | succ f => rw [readDictBody, readDictBody, skipWS_space c z hc]

theorem readArr_space (c : Nat) (z : Bytes) (hc : cSpace c = true) (fuel d : Nat) (acc : List Obj) :
    readArr fuel d acc (c :: z) = readArr fuel d acc z := by
  cases fuel with
  | zero => simp [readArr]
  | succ f => rw [readArr, readArr, skipWS_space c z hc]

theorem atomV (c : Obj) (h : FlatOk c) (ns : Bool) (bs : Bytes) (ns' : Bool) (d : Nat) (rest : Bytes) (fuel : Nat)
    (hb : fmtObj copt ns c = some (bs, ns')) (hend : ns' = true → TokEnd rest) (hfuel : fuel ≥ 1) :
    readValue fuel d (bs ++ rest) = .ok (normA c) rest := by
  match fuel, hfuel with
  | f+1, _ => exact readValue_nonop f d _ _ _ (atom_seq c h ns bs ns' hb rest hend) (normA_not_op c h)

/-- what `>>` and `readDictBody` do with a key and its value: an entry whose value is `null` is
dropped, any other is inserted (a later entry overwrites an earlier one) -/
def putEntry (k : Bytes) (v : Obj) (acc : List (Bytes × Obj)) : List (Bytes × Obj) :=
  match v with
  | .null => acc
  | v => dictInsert k v acc

theorem mkDict_cons (k : Bytes) (v : Obj) (data : List Obj) (acc : List (Bytes × Obj)) :
    mkDict (.name k :: v :: data) acc = mkDict data (putEntry k v acc) := by
  cases v <;> rfl

theorem putEntry_nonnull (k : Bytes) (v : Obj) (acc : List (Bytes × Obj)) (hv : v ≠ .null) :
    putEntry k v acc = dictInsert k v acc := by
  cases v <;> first | rfl | exact absurd rfl hv

theorem putEntry_length (k : Bytes) (v : Obj) (acc : List (Bytes × Obj)) :
    (putEntry k v acc).length ≤ acc.length + 1 := by
  have : (dictInsert k v acc).length ≤ acc.length + 1 := by rw [C01L.length_dictInsert]; split <;> omega
  cases v <;> simp only [putEntry] <;> omega

theorem readDictBody_entry (f : Nat) (term : Bytes) (vd : Nat) (acc : List (Bytes × Obj)) (k r0 r1 r2 : Bytes) (v : Obj)
    (hterm : isPrefixOf term (fmtName k ++ r0) = false)
    (hk : readValue f vd (fmtName k ++ r0) = .ok (.name k) r1) (hv : readValue f vd r1 = .ok v r2)
    (hcap : acc.length < Gen.content_maxDictLen) :
    readDictBody (f + 1) term vd acc (fmtName k ++ r0) = readDictBody f term vd (putEntry k v acc) r2 := by
  have e : fmtName k ++ r0 = 47 :: (fmtNameBody k ++ r0) := rfl
  have hcap' : ¬ (Gen.content_maxDictLen ≤ acc.length) := by omega
  rw [e] at hterm hk ⊢
  rw [readDictBody, skipWS_starts (starts_delim (c := 47) (by simp) _)]
  simp only [hterm, Bool.false_eq_true, if_false, hk, hv]
  cases v <;> simp [putEntry, hcap']

theorem readValue_skipWS (fuel d : Nat) (l : Bytes) : readValue fuel d (CNT.skipWS l) = readValue fuel d l := by
  cases fuel with
  | zero => simp [readValue]
  | succ f => rw [readValue, readValue, scanToken_skipWS]

theorem readValue_eof (f d : Nat) (l : Bytes) (h : CNT.skipWS l = []) : readValue (f + 1) d l = .eof := by
  rw [readValue, scanToken_eof l h]

theorem normD_not_op (c : Obj) (h : GoodO c) : ∀ n, normD c ≠ .op n := by
  rcases goodO_cases c h with hf | ⟨xs, rfl⟩ | ⟨kv, rfl⟩
  · rw [normD_flat c hf]
    exact normA_not_op c hf
  · intro n; simp [normD]
  · intro n; simp [normD]

mutual
/-- `readValueDepth` reads back any good value written by `pdf.Format` within the depth limit
`maxValueDepth` -/
theorem valT : ∀ (c : Obj) (ns : Bool) (bs : Bytes) (ns' : Bool) (d : Nat) (rest : Bytes) (fuel : Nat),
    GoodO c → fmtObj copt ns c = some (bs, ns') → (ns' = true → TokEnd rest) →
    d + depthO c ≤ Gen.content_maxValueDepth → fuel ≥ costO c →
    readValue fuel d (bs ++ rest) = .ok (normD c) rest := by
  intro c ns bs ns' d rest fuel hg hb hend hdepth hfuel
  cases c with
  | arr xs =>
    rw [goodO_arr_iff] at hg
    obtain ⟨body, hbody, rfl, _⟩ := (C01L.fmtObj_arr_inv _ _ _ _ _).mp hb
    simp only [depthO, costO] at hdepth hfuel
    match fuel, hfuel with
    | f+1, hf =>
      have hel := arrVT xs false (d + 1) [] body rest f hg.1 hbody (by simpa using hg.2) (by omega) (by omega)
      have e : (91 :: (body ++ [93])) ++ rest = 91 :: (body ++ 93 :: rest) := by simp
      have hd : ¬ (Gen.content_maxValueDepth ≤ d) := by omega
      rw [e, readValue, tok_open_arr]
      simp [hd, hel, normD]
  | dict kv =>
    rw [goodO_dict_iff] at hg
    obtain ⟨body, hbody, rfl⟩ := fmtObj_dict_inv hg.1 hb
    simp only [depthO, costO] at hdepth hfuel
    match fuel, hfuel with
    | f+1, hf =>
      have hel := dictVT kv (d + 1) [] body rest f hg.1 hbody (by simpa using hg.2) (by omega) (by omega)
      have e : (60 :: 60 :: (body ++ [62, 62])) ++ rest = 60 :: 60 :: (body ++ 62 :: 62 :: rest) := by simp
      have hd : ¬ (Gen.content_maxValueDepth ≤ d) := by omega
      rw [e, readValue, tok_open_dict]
      simp [hd, hel, normD]
  | _ =>
    simpa [normD] using
      atomV _ ((goodO_flat_iff _ rfl).mp hg) ns bs ns' d rest fuel hb hend (by simpa [costO] using hfuel)
termination_by structural c => c
/-- the array loop of `readValueDepth` -/
theorem arrVT : ∀ (xs : List Obj) (ns : Bool) (d : Nat) (acc : List Obj) (body rest : Bytes) (fuel : Nat),
    GoodL xs → fmtSeq copt ns xs = some body → acc.length + xs.length ≤ Gen.content_maxArrayLen →
    d + depthL xs ≤ Gen.content_maxValueDepth → fuel ≥ costL xs + 1 →
    readArr fuel d acc (body ++ 93 :: rest) = .ok (.arr (acc ++ normDL xs)) rest
  | [], ns, d, acc, body, rest, fuel, _, hb, _, _, hfuel => by
    simp [fmtSeq] at hb
    subst hb
    match fuel, hfuel with
    | f+1, _ =>
      rw [readArr, List.nil_append, skipWS_starts (starts_delim (c := 93) (by simp) rest)]
      simp [normDL]
  | x :: xs, ns, d, acc, body, rest, fuel, hg, hb, hcap, hdepth, hfuel => by
    obtain ⟨a, ns1, b, hx, hy, rfl⟩ := (C01L.fmtSeq_cons_inv _ _ _ _ _).mp hb
    have hpos := costO_pos x
    simp only [costL, depthL, List.length_cons] at hfuel hdepth hcap
    obtain ⟨g, rfl⟩ : ∃ g, fuel = g + 2 := ⟨fuel - 2, by omega⟩
    -- `readArr` skips white space itself before `readValue`; behind a separator (`ns = true`) that is the space it
    -- eats, so `Starts a` is not to be had and the element is found through `readValue_skipWS`
    · have hx' := valT x ns a ns1 d (b ++ 93 :: rest) (g + 1) hg.1 hx
        (fun h => tokEnd_seq xs hg.2 b rest (h ▸ hy)) (by omega) (by omega)
      have hxs := arrVT xs ns1 d (acc ++ [normD x]) b rest (g + 1) hg.2 hy (by simp; omega) (by omega) (by omega)
      rw [List.append_assoc, readArr]
      cases hs : CNT.skipWS (a ++ (b ++ 93 :: rest)) with
      | nil =>
        rw [readValue_eof g d _ hs] at hx'
        simp at hx'
      | cons c r =>
        have hrv : readValue (g + 1) d (c :: r) = .ok (normD x) (b ++ 93 :: rest) := by
          rw [← hs, readValue_skipWS]; exact hx'
        -- the element does not start with `]`: it would be read as that operator token
        have hc93 : (c == 93) = false := by
          by_cases h : c = 93
          · subst h
            rw [readValue, tok_close_arr] at hrv
            simp at hrv
            exact absurd hrv.1.symm (normD_not_op x hg.1 [93])
          · simpa using h
        have hcap' : ¬ (Gen.content_maxArrayLen ≤ acc.length) := by omega
        simp only [hc93, Bool.false_eq_true, if_false, ge_iff_le, hcap', hrv, hxs]
        simp [normDL]
termination_by structural xs => xs
/-- `readDictBody` with terminator `>>` -/
theorem dictVT : ∀ (kv : List (Bytes × Obj)) (vd : Nat) (acc : List (Bytes × Obj)) (body rest : Bytes) (fuel : Nat),
    GoodKV kv → fmtDictPlain copt kv = some body → 2 * acc.length + (dataKV kv).length ≤ 2 * Gen.content_maxDictLen →
    vd + depthKV kv ≤ Gen.content_maxValueDepth → fuel ≥ costKV kv + 1 →
    readDictBody fuel [62, 62] vd acc (body ++ 62 :: 62 :: rest) = .ok (mkDict (dataKV kv) acc) rest
  | [], vd, acc, body, rest, fuel, _, hb, _, _, hfuel => by
    simp [fmtDictPlain] at hb
    subst hb
    match fuel, hfuel with
    | f+1, _ =>
      rw [readDictBody, List.nil_append, skipWS_starts (starts_delim (c := 62) (by simp) _)]
      simp [isPrefixOf, dataKV, mkDict]
  | (k, v) :: kv, vd, acc, body, rest, fuel, hg, hb, hcap, hdepth, hfuel => by
    obtain ⟨hk1, hk2, hgv, hgr⟩ := hg
    simp only [depthKV] at hdepth
    obtain ⟨b, hy, ⟨rfl, rfl⟩ | ⟨hnull, a, ns1, hx, rfl⟩⟩ := (C01L.fmtDictPlain_cons_inv _ _ _ _ _).mp hb
    · rw [dataKV_cons_null] at hcap ⊢
      rw [costKV_cons_null] at hfuel
      exact dictVT kv vd acc body rest fuel hgr hy hcap (by omega) hfuel
    · have hpos := costO_pos v
      obtain ⟨hne, hte, _⟩ := obj_head v hgv true a ns1 hx
      rw [costKV_cons k v kv hnull] at hfuel
      rw [dataKV_cons k v kv hnull] at hcap ⊢
      simp only [List.length_cons] at hcap
      obtain ⟨g, rfl⟩ : ∃ g, fuel = g + 2 := ⟨fuel - 2, by omega⟩
      · have htk := readValue_nonop g vd _ _ _
          (name_rt k hk1 hk2 (a ++ (b ++ 62 :: 62 :: rest)) (tokEnd_append a _ hne (hte rfl))) (by intro n; simp)
        have hv := valT v true a ns1 vd (b ++ 62 :: 62 :: rest) (g + 1) hgv hx
          (fun _ => tokEnd_dictBody kv b rest hy) (by omega) (by omega)
        have hlen := putEntry_length k (normD v) acc
        simp only [List.append_assoc]
        rw [readDictBody_entry (g + 1) [62, 62] vd acc k _ _ _ (normD v) (by simp [isPrefixOf, fmtName]) htk hv
          (by omega), mkDict_cons]
        exact dictVT kv vd (putEntry k (normD v) acc) b rest (g + 1) hgr hy (by omega) (by omega) (by omega)
termination_by structural kv => kv
end

/-- values of an inline image dictionary: nil (an absent entry), or a value whose canonical form
is good and within the nesting limit `maxValueDepth` of `readValueDepth` -/
def ValD (v : Obj) : Prop :=
  v = .null ∨ (GoodO v.canon ∧ depthO v.canon ≤ Gen.content_maxValueDepth)

theorem valD_flat (a : Obj) (h : FlatOk a) : ValD a :=
  .inr ⟨(flat_canon_good a h).1, (flat_canon_good a h).2 ▸ Nat.zero_le _⟩

/-- key/value sequence which the scanner sees -/
def dataI : List (Bytes × Obj) → List Obj
  | [] => []
  | (k, v) :: r =>
    match v with
    | .null => dataI r
    | v => .name k :: normD v.canon :: dataI r

/-- the frame contents of the image dictionary are those of its canonical form, so `dataKV`'s lemmas serve -/
theorem dataI_eq (kv : List (Bytes × Obj)) : dataI kv = dataKV (canonKV kv) := by
  induction kv with
  | nil => rfl
  | cons e r ih =>
    obtain ⟨k, v⟩ := e
    cases v <;> simp [dataI, canonKV, dataKV, Obj.canon, ih]

theorem canon_ne_null {v : Obj} (h : v ≠ .null) : v.canon ≠ .null := by
  cases v <;> first | exact absurd rfl h | simp [Obj.canon]

theorem fmtImageEntries_cons_null (k : Bytes) (kv : List (Bytes × Obj)) :
    fmtImageEntries ((k, .null) :: kv) = fmtImageEntries kv := by
  simp only [fmtImageEntries]

theorem fmtImageEntries_cons_inv {k : Bytes} {v : Obj} {kv : List (Bytes × Obj)} {eb : Bytes} (hv : v ≠ .null)
    (h : fmtImageEntries ((k, v) :: kv) = some eb) :
    ∃ x y, fmtArg v = some x ∧ fmtImageEntries kv = some y ∧ eb = fmtName k ++ 32 :: x ++ 10 :: y := by
  unfold fmtImageEntries at h
  split at h
  · exact absurd rfl hv
  · simp only [joinEntry] at h
    split at h
    · rename_i x y hx hy
      exact ⟨x, y, hx, hy, (Option.some.inj h).symm⟩
    · cases h

/-- the image dictionary is read back entry by entry, up to and including `ID` -/
theorem readDict_entries (kv : List (Bytes × Obj)) : ∀ (acc : List (Bytes × Obj)) (eb rest : Bytes) (fuel : Nat),
    (∀ e ∈ kv, AllBytes e.1 ∧ e.1.length ≤ Gen.content_maxNameBytes ∧ ValD e.2) → fmtImageEntries kv = some eb →
    2 * acc.length + (dataKV (canonKV kv)).length ≤ 2 * Gen.content_maxDictLen → fuel ≥ costKV (canonKV kv) + 1 →
    readDictBody fuel kwID 0 acc (eb ++ 73 :: 68 :: rest) = .ok (mkDict (dataKV (canonKV kv)) acc) rest := by
  induction kv with
  | nil =>
    intro acc eb rest fuel _ heb _ hfuel
    simp [fmtImageEntries] at heb
    subst heb
    match fuel, hfuel with
    | f+1, _ =>
      rw [readDictBody]
      simp [skipWS_starts (starts_reg _ cReg_73), kwID, isPrefixOf, canonKV, dataKV, mkDict]
  | cons e kv ih =>
    intro acc eb rest fuel hok heb hcap hfuel
    obtain ⟨k, v⟩ := e
    obtain ⟨hk1, hk2, hv⟩ := hok (k, v) (by simp)
    have hok' := fun e he => hok e (List.mem_cons_of_mem _ he)
    simp only [C01L.canonKV_cons] at hcap hfuel ⊢
    by_cases hnull : v = .null
    · subst hnull
      rw [fmtImageEntries_cons_null] at heb
      rw [show Obj.null.canon = .null from rfl, dataKV_cons_null] at hcap ⊢
      rw [show Obj.null.canon = .null from rfl, costKV_cons_null] at hfuel
      exact ih acc eb rest fuel hok' heb hcap hfuel
    · have hvg : GoodO v.canon ∧ depthO v.canon ≤ Gen.content_maxValueDepth := hv.resolve_left hnull
      have hpos := costO_pos v.canon
      obtain ⟨x, y, hx, hy, rfl⟩ := fmtImageEntries_cons_inv hnull heb
      obtain ⟨ns', hx'⟩ := fmtArg_canon v x hx
      rw [costKV_cons k _ _ (canon_ne_null hnull)] at hfuel
      rw [dataKV_cons k _ _ (canon_ne_null hnull)] at hcap ⊢
      simp only [List.length_cons] at hcap
      obtain ⟨g, rfl⟩ : ∃ g, fuel = g + 2 := ⟨fuel - 2, by omega⟩
      have htk := readValue_nonop g 0 _ _ _
        (name_rt k hk1 hk2 (32 :: (x ++ 10 :: (y ++ 73 :: 68 :: rest))) (tokEnd_32 _)) (by intro n; simp)
      have hval : readValue (g + 1) 0 (32 :: (x ++ 10 :: (y ++ 73 :: 68 :: rest))) =
          .ok (normD v.canon) (10 :: (y ++ 73 :: 68 :: rest)) := by
        rw [readValue_space 32 _ cSpace_32]
        exact valT v.canon false x ns' 0 _ (g + 1) hvg.1 hx' (fun _ => tokEnd_10 _) (by omega) (by omega)
      have hlen := putEntry_length k (normD v.canon) acc
      simp only [List.append_assoc, List.cons_append]
      rw [readDictBody_entry (g + 1) kwID 0 acc k _ _ _ (normD v.canon) (by simp [kwID, isPrefixOf, fmtName]) htk hval
        (by omega), mkDict_cons, readDictBody_space 10 _ cSpace_10]
      exact ih (putEntry k (normD v.canon) acc) y rest (g + 1) hok' hy (by omega) (by omega)

/-- `EOL E I non-regular` occurs in `prev :: data ++ trailer` starting inside `data`
    (`prev` = the byte before `data`; the scanner starts with `prev = 0`) -/
def hasFalseEI : (prev : Nat) → Bytes → (trailer : Bytes) → Bool
  | _, [], _ => false
  | prev, b :: r, tr => ((prev == 13 || prev == 10) && checkEI (b :: r ++ tr)) || hasFalseEI b r tr

/-- the bytes `Operator.Format` writes after the data -/
def trailer : Bytes := [10, 69, 73, 10]

theorem checkEI_trailer (b : Nat) (r rest : Bytes) :
    checkEI (b :: r ++ trailer ++ rest) = checkEI (b :: r ++ trailer) := by
  match r with
  | [] => simp [trailer, checkEI]
  | [c] => simp [trailer, checkEI]
  | c :: d :: r' => simp [checkEI]

theorem hasFalseEI_cons {prev b : Nat} {r : Bytes} (h : hasFalseEI prev (b :: r) trailer = false) (rest : Bytes) :
    ((prev == 13 || prev == 10) && checkEI (b :: (r ++ (trailer ++ rest)))) = false ∧
      hasFalseEI b r trailer = false := by
  simp only [hasFalseEI, Bool.or_eq_false_iff] at h
  have := checkEI_trailer b r rest
  simp only [List.cons_append, List.append_assoc] at this h
  exact ⟨by rw [this]; exact h.1, h.2⟩

theorem iiLoop_data (data : Bytes) : ∀ (n prev : Nat) (rest : Bytes),
    hasFalseEI prev data trailer = false → n + data.length ≤ Gen.content_maxInlineImageBytes →
    iiLoop n prev (data ++ trailer ++ rest) = .found (data ++ [10]) (69 :: 73 :: 10 :: rest) := by
  induction data with
  | nil =>
    intro n prev rest _ hlen
    have h1 : ¬ (n > Gen.content_maxInlineImageBytes) := by simp at hlen; omega
    simp [trailer, iiLoop, h1, checkEI, cReg_10, IIRes.cons]
  | cons b r ih =>
    intro n prev rest hno hlen
    have h1 : ¬ (n > Gen.content_maxInlineImageBytes) := by simp at hlen; omega
    obtain ⟨hck, hrest⟩ := hasFalseEI_cons hno rest
    have ih' := ih (n + 1) b rest hrest (by simp at hlen ⊢; omega)
    simp only [List.cons_append, List.append_assoc] at ih' ⊢
    rw [iiLoop]
    simp only [h1, hck, if_false, Bool.false_eq_true, ih', IIRes.cons]

/-- longer data is not found: the loop gives up (the scanner reports a parse error) -/
theorem iiLoop_capped (data : Bytes) : ∀ (n prev : Nat) (rest : Bytes),
    hasFalseEI prev data trailer = false → n + data.length > Gen.content_maxInlineImageBytes →
    ∃ r, iiLoop n prev (data ++ trailer ++ rest) = .capped r := by
  induction data with
  | nil =>
    intro n prev rest _ hlen
    have h1 : n > Gen.content_maxInlineImageBytes := by simpa using hlen
    exact ⟨10 :: 69 :: 73 :: 10 :: rest, by simp [trailer, iiLoop, h1, checkEI]⟩
  | cons b r ih =>
    intro n prev rest hno hlen
    obtain ⟨hck, hrest⟩ := hasFalseEI_cons hno rest
    simp only [List.cons_append, List.append_assoc]
    rw [iiLoop]
    simp only [hck, Bool.false_eq_true, if_false]
    by_cases h1 : n > Gen.content_maxInlineImageBytes
    · exact ⟨b :: (r ++ (trailer ++ rest)), by simp only [h1, if_true]⟩
    · obtain ⟨r', hr'⟩ := ih (n + 1) b rest hrest (by simp at hlen ⊢; omega)
      simp only [List.append_assoc] at hr'
      exact ⟨r', by simp only [h1, if_false, hr', IIRes.cons]⟩

/-- The two caps agree: written data (without a false `EI`) of `n` bytes is found by the
`EI` search iff the `Length` branch of `imageData` accepts `Length = n` (its test is
`length > maxInlineImageBytes → parse error`): both read back up to `maxInlineImageBytes` bytes. -/
theorem noL_cap_eq_L_cap (data rest : Bytes) (hclean : hasFalseEI 0 data trailer = false) :
    (∃ d r, iiLoop 0 0 (data ++ trailer ++ rest) = .found d r) ↔
      ¬ ((data.length : Int) > (Gen.content_maxInlineImageBytes : Nat)) := by
  constructor
  · intro ⟨d, r, h⟩ hgt
    obtain ⟨r', hr'⟩ := iiLoop_capped data 0 0 rest hclean (by omega)
    rw [hr'] at h
    cases h
  · intro hle
    exact ⟨_, _, iiLoop_data data 0 0 rest hclean (by omega)⟩

/-- the search loop of `readInlineImage` as it was before D-C15-2
    (`for len(imageData) < maxInlineImageBytes { if EI … break; read }`, then
    `if len(imageData) >= maxInlineImageBytes → parse error`) -/
def iiLoopOld : (n : Nat) → (prev : Nat) → Bytes → IIRes
  | n, prev, [] =>
    if n ≥ Gen.content_maxInlineImageBytes then .capped []
    else if (prev == 13 || prev == 10) && checkEI [] then .found [] []
    else .eof
  | n, prev, b :: r =>
    if n ≥ Gen.content_maxInlineImageBytes then .capped (b :: r)
    else if (prev == 13 || prev == 10) && checkEI (b :: r) then .found [] (b :: r)
    else (iiLoopOld (n + 1) b r).cons b

theorem iiLoopOld_capped (data : Bytes) : ∀ (n prev : Nat) (rest : Bytes),
    hasFalseEI prev data trailer = false → n + data.length + 1 ≥ Gen.content_maxInlineImageBytes →
    ∃ r, iiLoopOld n prev (data ++ trailer ++ rest) = .capped r := by
  induction data with
  | nil =>
    intro n prev rest _ hlen
    by_cases h1 : n ≥ Gen.content_maxInlineImageBytes
    · exact ⟨10 :: 69 :: 73 :: 10 :: rest, by simp [trailer, iiLoopOld, h1]⟩
    · have h2 : n + 1 ≥ Gen.content_maxInlineImageBytes := by simpa using hlen
      exact ⟨69 :: 73 :: 10 :: rest, by simp [trailer, iiLoopOld, h1, h2, checkEI, IIRes.cons]⟩
  | cons b r ih =>
    intro n prev rest hno hlen
    obtain ⟨hck, hrest⟩ := hasFalseEI_cons hno rest
    simp only [List.cons_append, List.append_assoc]
    rw [iiLoopOld]
    by_cases h1 : n ≥ Gen.content_maxInlineImageBytes
    · exact ⟨b :: (r ++ (trailer ++ rest)), by simp only [h1, if_true]⟩
    · obtain ⟨r', hr'⟩ := ih (n + 1) b rest hrest (by simp at hlen ⊢; omega)
      simp only [List.append_assoc] at hr'
      exact ⟨r', by simp only [h1, hck, Bool.false_eq_true, if_false, hr', IIRes.cons]⟩

theorem checkEI_120 (r : Bytes) : checkEI (120 :: r) = false := by
  cases r <;> simp [checkEI]

theorem clean_replicate (k prev : Nat) : hasFalseEI prev (List.replicate k 120) trailer = false := by
  induction k generalizing prev with
  | zero => rfl
  | succ k ih =>
    rw [List.replicate_succ, hasFalseEI, List.cons_append, checkEI_120, ih]
    simp

/-- `noL_cap_eq_L_cap` fails for the loop before the fix: there is written data without a
false `EI` (`maxInlineImageBytes − 1` bytes `x`) which the `Length` branch accepts and the old
search does not find. -/
theorem noL_cap_old_off_by_two :
    ∃ data, hasFalseEI 0 data trailer = false ∧
      ¬ ((data.length : Int) > (Gen.content_maxInlineImageBytes : Nat)) ∧
      ∀ rest, ¬ ∃ d r, iiLoopOld 0 0 (data ++ trailer ++ rest) = .found d r := by
  refine ⟨List.replicate (Gen.content_maxInlineImageBytes - 1) 120, clean_replicate _ 0, ?_, ?_⟩
  · rw [List.length_replicate]
    generalize Gen.content_maxInlineImageBytes = c
    omega
  · intro rest ⟨d, r, h⟩
    obtain ⟨r', hr'⟩ := iiLoopOld_capped (List.replicate (Gen.content_maxInlineImageBytes - 1) 120) 0 0 rest
      (clean_replicate _ 0) (by
        rw [List.length_replicate]
        generalize Gen.content_maxInlineImageBytes = c
        omega)
    rw [hr'] at h
    cases h

theorem mem_of_mem_sortKV (e : Bytes × Obj) (l : List (Bytes × Obj)) (h : e ∈ sortKV l) : e ∈ l :=
  (sortKV_perm l).mem_iff.mp h

theorem costKV_image_le (kv : List (Bytes × Obj)) : ∀ eb, (∀ e ∈ kv, ValD e.2) → fmtImageEntries kv = some eb →
    costKV (canonKV kv) ≤ eb.length := by
  induction kv with
  | nil => intro eb _ _; simp [canonKV, costKV]
  | cons e kv ih =>
    intro eb hok heb
    obtain ⟨k, v⟩ := e
    have hok' := fun e he => hok e (List.mem_cons_of_mem _ he)
    simp only [C01L.canonKV_cons]
    by_cases hnull : v = .null
    · subst hnull
      rw [fmtImageEntries_cons_null] at heb
      rw [show Obj.null.canon = .null from rfl, costKV_cons_null]
      exact ih eb hok' heb
    · obtain ⟨x, y, hx, hy, rfl⟩ := fmtImageEntries_cons_inv hnull heb
      obtain ⟨ns', hx'⟩ := fmtArg_canon v x hx
      have h1 := lenO v.canon false x ns' ((hok (k, v) (by simp)).resolve_left hnull).1 hx'
      have h2 := ih y hok' hy
      rw [costKV_cons k _ _ (canon_ne_null hnull)]
      simp [fmtName]
      omega

/-- the dictionary of an inline image as the scanner returns it: entries in `slices.Sort` order,
nil entries (and entries whose value is written as `null`) absent, values in canonical form -/
def imgDict (kv : List (Bytes × Obj)) : List (Bytes × Obj) := mkDict (dataI (sortKV kv)) []

/-- hypotheses on an inline image under which it is read back unchanged -/
structure ImageOk (kv : List (Bytes × Obj)) (data : Bytes) : Prop where
  entries : ∀ e ∈ kv, AllBytes e.1 ∧ e.1.length ≤ Gen.content_maxNameBytes ∧ ValD e.2
  -- coarser than the scanner's test (distinct non-null keys): all entries, nil ones included
  count : kv.length ≤ Gen.content_maxDictLen
  width : 0 < iiInt (imgDict kv) nmW nmWidth ∧ iiInt (imgDict kv) nmW nmWidth ≤ Gen.content_maxInlineImageDim
  height : 0 < iiInt (imgDict kv) nmH nmHeight ∧ iiInt (imgDict kv) nmH nmHeight ≤ Gen.content_maxInlineImageDim
  pixels : iiInt (imgDict kv) nmW nmWidth * iiInt (imgDict kv) nmH nmHeight ≤ Gen.content_maxInlineImagePixels
  dataLen : data.length ≤ Gen.content_maxInlineImageBytes
  -- the second alternative is a hypothesis on `kv`: the caller has put the right `L`/`Length`, the writer adds none
  framing :
    (iiInt (imgDict kv) nmL nmLength ≤ 0 ∧ isASCIIFilter (iiFilter (imgDict kv)) = false ∧
      hasFalseEI 0 data trailer = false) ∨
    (iiInt (imgDict kv) nmL nmLength = data.length ∧ 0 < data.length)

theorem imageData_written (D : List (Bytes × Obj)) (data rest : Bytes)
    (hlen : data.length ≤ Gen.content_maxInlineImageBytes)
    (hfr : (iiInt D nmL nmLength ≤ 0 ∧ isASCIIFilter (iiFilter D) = false ∧ hasFalseEI 0 data trailer = false) ∨
      (iiInt D nmL nmLength = data.length ∧ 0 < data.length)) :
    imageData D (afterID D (10 :: (data ++ trailer ++ rest))) =
      .ok (Gen.content_OpInlineImage, [.dict D, .str data]) (10 :: rest) := by
  rcases hfr with ⟨hnl, hna, hclean⟩ | ⟨hl, hpos⟩
  · have hloop := iiLoop_data data 0 0 rest hclean (by omega)
    -- `c6`, `c7`, … (and `c1`–`c5` in `readInlineImage_written`) decide the model's tests, in the model's order
    have c6 : ¬ (iiInt D nmL nmLength > 0) := by omega
    have hsk : skipsWS D = false := by simp [skipsWS, hna]
    simp only [c6, hsk, Bool.false_eq_true, if_false, cSpace_10, if_true, Bool.false_and, hloop, afterID, imageData]
    simp [iiFinish, cReg_10]
  · -- the Length key: the data is taken as it stands, `EI` is looked for behind white space
    have c6 : iiInt D nmL nmLength > 0 := by omega
    have c7 : ¬ (iiInt D nmL nmLength > ↑Gen.content_maxInlineImageBytes) := by omega
    have hsk : skipsWS D = false := by
      have : ¬ (iiInt D nmL nmLength ≤ 0) := by omega
      simp [skipsWS, this]
    have hn : (iiInt D nmL nmLength).toNat = data.length := by omega
    have e1 : (data ++ trailer ++ rest).take data.length = data := by simp
    have e2 : (data ++ trailer ++ rest).drop data.length = 10 :: 69 :: 73 :: 10 :: rest := by
      simp [trailer]
    have e3 : ¬ ((data ++ trailer ++ rest).length < data.length) := by simp
    have h69 : cReg 69 = true := by decide +kernel
    simp only [c6, c7, hsk, hn, e1, e2, e3, Bool.false_eq_true, if_false, cSpace_10,
      if_true, Bool.false_and, afterID, imageData, skipWS_space 10 _ cSpace_10,
      skipWS_starts (starts_reg _ h69)]
    simp [iiFinish, cReg_10]

/-- the entries written for an image dictionary, `ID` included, read back as `imgDict kv`; the
white-space byte behind `ID` is left -/
theorem imgDict_read (kv : List (Bytes × Obj))
    (hent : ∀ e ∈ kv, AllBytes e.1 ∧ e.1.length ≤ Gen.content_maxNameBytes ∧ ValD e.2)
    (hcount : kv.length ≤ Gen.content_maxDictLen) (eb : Bytes) (heb : fmtImageEntries (sortKV kv) = some eb)
    (tail : Bytes) (fuel : Nat) (hfuel : fuel ≥ eb.length + 1) :
    readDictBody fuel kwID 0 [] (10 :: (eb ++ (bytesID ++ tail))) = .ok (imgDict kv) (10 :: tail) := by
  have hent' : ∀ e ∈ sortKV kv, AllBytes e.1 ∧ e.1.length ≤ Gen.content_maxNameBytes ∧ ValD e.2 :=
    fun e he => hent e (mem_of_mem_sortKV e kv he)
  have hcost := costKV_image_le (sortKV kv) eb (fun e he => (hent' e he).2.2) heb
  have hdl : (dataKV (canonKV (sortKV kv))).length ≤ 2 * (sortKV kv).length := by
    rw [dataKV_length, ← C01L.canonKV_length (sortKV kv)]
    exact Nat.mul_le_mul_left 2 List.countP_le_length
  have hsl := (sortKV_perm kv).length_eq
  rw [readDictBody_space 10 _ cSpace_10]
  simpa [bytesID, imgDict, dataI_eq] using
    readDict_entries (sortKV kv) [] eb (10 :: tail) fuel hent' heb (by simp; omega) (by omega)

/-- behind `BI`: the dictionary, the checks of width and height, the data and `EI` -/
theorem readInlineImage_written (kv : List (Bytes × Obj)) (data : Bytes) (h : ImageOk kv data) (eb : Bytes)
    (heb : fmtImageEntries (sortKV kv) = some eb) (rest : Bytes) :
    readInlineImage (10 :: (eb ++ (bytesID ++ (data ++ trailer ++ rest)))) =
      .ok (Gen.content_OpInlineImage, [.dict (imgDict kv), .str data]) (10 :: rest) := by
  have hw := h.width
  have hh := h.height
  have hp := h.pixels
  unfold readInlineImage
  rw [imgDict_read kv h.entries h.count eb heb _ _ (by simp; omega)]
  have c1 : ¬ (iiInt (imgDict kv) nmW nmWidth ≤ 0) := by omega
  have c2 : ¬ (iiInt (imgDict kv) nmH nmHeight ≤ 0) := by omega
  have c3 : ¬ (iiInt (imgDict kv) nmW nmWidth > ↑Gen.content_maxInlineImageDim) := by omega
  have c4 : ¬ (iiInt (imgDict kv) nmH nmHeight > ↑Gen.content_maxInlineImageDim) := by omega
  have c5 : ¬ (iiInt (imgDict kv) nmW nmWidth * iiInt (imgDict kv) nmH nmHeight > ↑Gen.content_maxInlineImagePixels) := by omega
  simp only [c1, c2, c3, c4, c5, decide_false, Bool.or_self, Bool.false_eq_true, if_false]
  exact imageData_written (imgDict kv) data rest h.dataLen h.framing

/-- An inline image satisfying `ImageOk` — any keys, nil entries, nested
values; data of up to `maxInlineImageBytes` bytes, either with its `Length` or without
`EOL "EI" non-regular` — written by `Operator.Format` is read back by one `Scan` call as the same
dictionary and the same data, whatever follows. -/
theorem inline_image_rt (kv : List (Bytes × Obj)) (data : Bytes) (h : ImageOk kv data) (bs : Bytes)
    (hb : fmtOp Gen.content_OpInlineImage [.dict kv, .str data] = some bs) :
    OpStep bs (Gen.content_OpInlineImage, [.dict (imgDict kv), .str data]) := by
  simp only [fmtOp, show (Gen.content_OpInlineImage == Gen.content_OpRawContent) = false from by decide,
    Bool.false_eq_true, if_false, beq_self_eq_true, if_true] at hb
  cases heb : fmtImageEntries (sortKV kv) with
  | none => simp [heb] at hb
  | some eb =>
    simp [heb] at hb
    subst hb
    refine ⟨bytesBI ++ (eb ++ (bytesID ++ (data ++ [10, 69, 73]))), by simp [bytesEI], ?_⟩
    intro rest
    -- the token `BI` starts the image; the rest is `readInlineImage_written`
    have hBI : ∀ tail, scanToken (66 :: 73 :: 10 :: tail) = .ok (.op [66, 73]) (10 :: tail) := fun tail => by
      simpa using regTok_scan [66, 73] (.op [66, 73]) ⟨by simp, by decide +kernel, by decide +kernel, rfl⟩
        (10 :: tail) (tokEnd_10 _)
    have hstep : step [] [] (.op [66, 73]) = .image := by
      simp [step, deliver, Gen.content_opBeginInlineImage, Gen.content_maxOperatorArgs]
    have e0 : bytesBI ++ (eb ++ (bytesID ++ (data ++ [10, 69, 73]))) ++ 10 :: rest =
        66 :: 73 :: 10 :: (eb ++ (bytesID ++ (data ++ trailer ++ rest))) := by
      simp [bytesBI, trailer]
    rw [e0, scanOne_starts _ (starts_reg _ (by decide +kernel)), scanLoop, hBI]
    simp only [hstep, readInlineImage_written kv data h eb heb rest]

/-- `inline_image_rt` without the hypothesis on the data, for images of width 2 and height 3 with
two entries and at most 8 data bytes: refuting this instance refutes the unrestricted statement. -/
def inline_image_rt_full : Prop :=
  ∀ (kv : List (Bytes × Obj)) (data : Bytes) (bs : Bytes),
    (∀ e ∈ kv, AllBytes e.1 ∧ e.1.length ≤ Gen.content_maxNameBytes ∧ ValD e.2) →
    iiInt (imgDict kv) nmW nmWidth = 2 → iiInt (imgDict kv) nmH nmHeight = 3 → kv.length = 2 → data.length ≤ 8 →
    fmtOp Gen.content_OpInlineImage [.dict kv, .str data] = some bs →
    scan bs = some [(Gen.content_OpInlineImage, [.dict (imgDict kv), .str data])]

/-- the witness of D11: `/H 3 /W 2`, data `a LF E I SP b` -/
def d11_kv : List (Bytes × Obj) := [([72], .int 3), ([87], .int 2)]
def d11_data : Bytes := [97, 10, 69, 73, 32, 98]

/-- what the scanner makes of the written witness: data `a`, then the operators `b` and `EI` -/
def d11_scan : Bool :=
  match fmtOp Gen.content_OpInlineImage [.dict d11_kv, .str d11_data] with
  | some bs =>
    (match scan bs with
     | some [(n1, [.dict _, .str d]), (n2, []), (n3, [])] =>
       n1 == Gen.content_OpInlineImage && d == [97] && n2 == [98] && n3 == [69, 73]
     | _ => false)
  | none => false

theorem d11_witness : d11_scan = true := by decide +kernel

theorem d11_hasFalseEI : hasFalseEI 0 d11_data trailer = true := by decide +kernel

/-- D11 on the model: the full statement is false.  The witness satisfies every hypothesis
of `inline_image_rt` except `hasFalseEI … = false`, and is read back as three operators
(`d11_witness`). -/
theorem inline_image_rt_full_false : ¬ inline_image_rt_full := by
  intro hfull
  have hw := d11_witness
  unfold d11_scan at hw
  cases hb : fmtOp Gen.content_OpInlineImage [.dict d11_kv, .str d11_data] with
  | none => simp [hb] at hw
  | some bs =>
    have h := hfull d11_kv d11_data bs
      (by
        intro e he
        simp [d11_kv] at he
        rcases he with rfl | rfl
        · exact ⟨by decide, by decide +kernel, valD_flat _ (int_tok 3 (by decide) (by decide))⟩
        · exact ⟨by decide, by decide +kernel, valD_flat _ (int_tok 2 (by decide) (by decide))⟩)
      (by decide +kernel) (by decide +kernel) (by decide) (by decide) hb
    simp [hb, h] at hw

/-- all operators covered: arbitrarily nested operands, comments, inline images -/
def OpOkD (op : Bytes × List Obj) : Prop :=
  OpD op ∨ (op.1 = Gen.content_OpRawContent ∧ ∃ s, op.2 = [.str s] ∧ CommentOk s) ∨
    (op.1 = Gen.content_OpInlineImage ∧ ∃ kv data, op.2 = [.dict kv, .str data] ∧ ImageOk kv data)

/-- the operator as the scanner returns it: a comment as it is, an inline image with its dictionary as `imgDict`,
any other operator with its operands in canonical form through `normD` -/
def normOpD (op : Bytes × List Obj) : Bytes × List Obj :=
  if op.1 == Gen.content_OpRawContent then op
  else if op.1 == Gen.content_OpInlineImage then
    (match op.2 with
     | [.dict kv, .str data] => (op.1, [.dict (imgDict kv), .str data])
     | _ => op)
  else (op.1, op.2.map fun a => normD a.canon)

theorem opOkD_step (op : Bytes × List Obj) (h : OpOkD op) (b : Bytes) (hb : fmtOp op.1 op.2 = some b) :
    OpStep b (normOpD op) := by
  obtain ⟨n, args⟩ := op
  rcases h with h | ⟨hn, s, ha, hc⟩ | ⟨hn, kv, data, ha, hok⟩
  · obtain ⟨p1, p2⟩ := opName_not_pseudo n h.name
    have := opD_step (n, args) h b hb
    simpa [normOpD, p1, p2] using this
  · simp only at hn ha
    subst hn ha
    simpa [normOpD] using comment_opstep _ rfl s rfl hc b hb
  · simp at hn ha
    subst hn ha
    have := inline_image_rt kv data hok b hb
    simpa [normOpD, show (Gen.content_OpInlineImage == Gen.content_OpRawContent) = false from by decide] using this

/-- `ops_rt`, full strength: for every sequence of comments, of inline images (`ImageOk`) and of operators
with admissible names and fewer than `maxOperatorArgs` operands — null, booleans, 64-bit integers, reals,
names, strings, and arrays and dictionaries of these nested up to `maxContentNestDepth`, sizes within the
scanner's caps —, scanning what the content writer wrote returns the sequence, operands in canonical
form (`normD`: dictionaries in written order without null entries, reals as their written token). -/
theorem ops_rt_deep (ops : List (Bytes × List Obj)) (hall : ∀ op ∈ ops, OpOkD op) (bs : Bytes)
    (hb : fmtOps ops = some bs) : scan bs = some (ops.map normOpD) :=
  scan_ops OpOkD normOpD opOkD_step ops bs hall hb

/-- `split_rt`, full strength: the same sequence split at operator boundaries into any number
of content streams (joined by newlines as `page.SegmentsReader` does) reads as the unsplit stream. -/
theorem split_rt_deep (segs : List (List (Bytes × List Obj))) (hall : ∀ seg ∈ segs, ∀ op ∈ seg, OpOkD op)
    (bss : List Bytes) (hb : segs.mapM fmtOps = some bss) (whole : Bytes) (hw : fmtOps segs.flatten = some whole) :
    scan (joinSegments bss) = scan whole ∧ scan whole = some (segs.flatten.map normOpD) :=
  scan_split OpOkD normOpD opOkD_step segs hall bss hb whole hw

end PdfVerif.C15cnti
