import PdfVerif.Props.C12trb
import PdfVerif.Props.C12cci
/-!
# C12 (translator part): charcode range predicates on the GENERATED code (font/charcode)

`Gen.charcode_Range_IsValid`, `Gen.charcode_canMerge`, `Gen.charcode_minLength` and
`Gen.charcode_CodeSpaceRange_matchLen` are re-created from font/charcode/{range,codec}.go on every run; their closed
forms are in `Lemmas/TRCharcode.lean`, the equality with the hand model in `Props/C12trb.lean`.  What the hand-model
theorems say of `canMerge` holds of the generated function through that equality (`canMerge_union`).
-/
namespace PdfVerif.C12tr
open PdfVerif PdfVerif.Gen PdfVerif.Go

example : charcode_Range_IsValid ⟨[0, 0x80], [0x7f, 0xff]⟩ = some true := by decide +kernel
example : RangeValid ⟨[0, 0x80], [0x7f, 0xff]⟩ ∧ ¬ RangeValid ⟨[1], [0]⟩ := by decide +kernel

theorem minLength_nil : charcode_minLength [] = some 1 := by decide +kernel

example : charcode_CodeSpaceRange_matchLen [⟨[0], [0x7f]⟩, ⟨[0x80, 0x40], [0xff, 0xfc]⟩] [0x81, 0x41, 0] = some 2 := by
  decide +kernel

/-- `code` lies in the box `[lo, hi]` (the set of codes of a range) -/
def inBox (lo hi code : List UInt8) : Prop :=
  code.length = lo.length ∧ ∀ k, k < lo.length → lo.getD k 0 ≤ code.getD k 0 ∧ code.getD k 0 ≤ hi.getD k 0

theorem inBox_iff_boxMatch (lo hi code : List UInt8) (h : hi.length = lo.length) :
    inBox lo hi code ↔ C12ccf.BoxMatch (C12trb.nat lo, C12trb.nat hi) (C12trb.nat code) := by
  -- both are `withinFirst` on the whole length: `BoxMatch` by `boxMatch_iff`, the indexed form through `rangeMatches`
  unfold inBox
  rw [C12ccf.boxMatch_iff, ← C12cci.rangeMatches_eq _ _ _ (by simp [h]), C12trb.nat_length, C12trb.nat_length,
    C12trb.nat_length]
  exact and_congr_right fun hc =>
    ⟨fun hb => ⟨h.symm, (C12trb.rangeMatches_iff lo hi code (by omega) (by omega)).mpr hb⟩,
     fun hb => (C12trb.rangeMatches_iff lo hi code (by omega) (by omega)).mp hb.2⟩

/-- `canMerge` is sound ("merging only joins adjacent boxes"): if `canMerge r s` answers true for
two ranges with `Low ≤ High` bytewise and equal lengths, the merged range `[r.Low, s.High]`
contains exactly the codes of `r` and of `s`. -/
theorem canMerge_union (r s : charcode_Range) (hl : r.Low.length < 4611686018427387904)
    (h2 : r.High.length = r.Low.length) (h3 : s.Low.length = r.Low.length) (h4 : s.High.length = r.Low.length)
    (hr : ∀ k, k < r.Low.length → r.Low.getD k 0 ≤ r.High.getD k 0)
    (hs : ∀ k, k < r.Low.length → s.Low.getD k 0 ≤ s.High.getD k 0)
    (hm : charcode_canMerge r s = some true) (code : List UInt8) :
    inBox r.Low s.High code ↔ inBox r.Low r.High code ∨ inBox s.Low s.High code := by
  -- the generated function is the hand model's `canMerge` (bridge), for which `C12ccf.merge_pair` says this
  rw [C12trb.canMerge_bridge r s hl h2 h3 h4, Option.some.injEq] at hm
  have sr : C12ccf.Shape (C12trb.mr r) := ⟨by simp [C12trb.mr, h2], (C12trb.leAll_iff _ _ h2.symm).mpr hr⟩
  have ss : C12ccf.Shape (C12trb.mr s) := ⟨by simp [C12trb.mr, h3, h4], (C12trb.leAll_iff _ _ (h3.trans h4.symm)).mpr (h3 ▸ hs)⟩
  obtain ⟨_, key⟩ := C12ccf.merge_pair (C12trb.mr r) (C12trb.mr s) sr ss hm
  rw [inBox_iff_boxMatch _ _ _ h4, inBox_iff_boxMatch _ _ _ h2, inBox_iff_boxMatch _ _ _ (h4.trans h3.symm)]
  exact key (C12trb.nat code)

example : charcode_canMerge ⟨[0], [0x7f]⟩ ⟨[0x80], [0xff]⟩ = some true := by decide +kernel
example : charcode_canMerge ⟨[0, 0], [0x7f, 0xff]⟩ ⟨[0x80, 0], [0xff, 0xfe]⟩ = some false := by decide +kernel
/-- on malformed ranges (High shorter than Low) the Go code indexes out of range; the generated
function reports the panic.  `NewCodec` calls `canMerge` only on ranges that passed `IsValid`. -/
example : charcode_canMerge ⟨[0, 0], [0x7f]⟩ ⟨[0x80, 0], [0xff]⟩ = none := by decide +kernel

end PdfVerif.C12tr
