import PdfVerif.Model.HISObj
import PdfVerif.Props.C04hisb
/-!
# C04/C20 — the recovery stops at the first line that starts with `endstream`
(known finding `scan-stream-broken-by-endstream-line-in-data`)

When `/Length` is missing or unusable, `ReadStreamData` takes the FIRST EOL byte followed by `endstream` as the end
of the data.  A stream whose data has a line starting with `endstream` is cut there (`first_match_extent`): the
object is then an error / `Broken` — or, when the data goes on with `endobj`, a shorter stream is accepted (the
examples).  The library keeps this: preferring the EOL+`endstream` that is followed by `endobj` would need a second,
unbounded search in the recovery path.
-/
namespace PdfVerif.C04hisg
open PdfVerif PdfVerif.HIS PdfVerif.C04hisb

/-- `C04hisb.readStreamData_unusable` for a file written as `pre ++ stream ++ EOL ++ tail` -/
theorem readStreamData_recover (pre tail startEol : Bytes) (hstart : startEol = [10] ∨ startEol = [13, 10])
    (declared : Option Nat)
    (hdecl : ∀ d, declared = some d →
      endstreamAt (pre ++ (kw_stream ++ (startEol ++ tail))) (pre.length + 6 + startEol.length + d) = false) :
    readStreamData (pre ++ (kw_stream ++ (startEol ++ tail))) pre.length declared
      = recoverExtent (pre ++ (kw_stream ++ (startEol ++ tail))) (pre.length + 6 + startEol.length) :=
  readStreamData_unusable _ pre.length startEol tail List.drop_left hstart declared hdecl

/-- The known finding, as a theorem: `stream_extent_recovery` puts no condition on `rest`, so for data
`body ++ EOL ++ "endstream" ++ more` (a line of the data starts with `endstream`) exactly `body` comes back. -/
theorem first_match_extent (pre body more startEol endEol : Bytes)
    (hstart : startEol = [10] ∨ startEol = [13, 10]) (hend : IsEol endEol)
    (hamb : endEol = [10] → endsInCR body = false) (hno : findEolEndstream body = none) :
    let file := pre ++ kw_stream ++ startEol ++ body ++ endEol ++ kwEndstream ++ more
    let start := pre.length + 6 + startEol.length
    readStreamData file pre.length none
      = .ok { start := start, len := body.length, after := start + body.length + endEol.length + 9 } :=
  (stream_extent_recovery pre body more startEol endEol hstart hend hamb hno none (fun _ h => by cases h)).1

-- the data `a⏎endstream x⏎y` (15 bytes), written as `stream⏎ data ⏎endstream⏎endobj`:
def exData : Bytes := bytesOfString "a\nendstream x\ny"
def exObj : Bytes := bytesOfString "1 0 obj\n<</Length 9 0 R>>\nstream\n" ++ exData ++ bytesOfString "\nendstream\nendobj\n"
-- with the length (15) the object reads back with its data …
example : (match readIndirect exObj 0 (fun _ => .ok 15) false with
    | .ok { val := .stream _ start len, .. } => (exObj.drop start).take len == exData
    | _ => false) = true := by decide +kernel
-- … without it (the length object is lost) the extent is the one byte `a` and the object fails
example : (match readStreamData exObj 26 none with
    | .ok e => e.start == 33 && e.len == 1
    | _ => false) = true := by decide +kernel
example : (match readIndirect exObj 0 (fun _ => .error .malformed) false with
    | .error .malformed => true
    | _ => false) = true := by decide +kernel
-- data which goes on with `endobj`: a shorter stream is accepted (outside the property: the data
-- contains the text of an object end)
def exObj2 : Bytes := bytesOfString "1 0 obj\n<</Length 9 0 R>>\nstream\nab\nendstream\nendobj\ncd\nendstream\nendobj\n"
example : (match readIndirect exObj2 0 (fun _ => .error .malformed) false with
    | .ok { val := .stream _ _ len, .. } => len == 2
    | _ => false) = true := by decide +kernel

end PdfVerif.C04hisg
