import PdfVerif.Props.C12cce
/-!
# C12 (part 7) — `NewCodec` never panics

`newCodec_no_panic`: on every input `NewCodec` returns a codec or `errInvalidCodeSpaceRange`.  Its two halves are
proved earlier: `newTree` on valid ranges fails only with `errInvalidCodeSpaceRange` (`C12cce.newTree_error`: no
index out of range, never more than four levels), and `AppendNodes` always returns (`C12ccc.fillTotal_all`: the
`panic("unreachable")` is unreachable, also above the node limit; `fillKids_total` states that part on its own).
-/
namespace PdfVerif.C12ccg
open PdfVerif PdfVerif.CC PdfVerif.C12cc PdfVerif.C12ccb PdfVerif.C12ccc PdfVerif.C12cce

theorem fillKids_total (rest : List (Nat × Node)) (l : Lin) (base i : Nat)
    (hb : base + i + rest.length ≤ l.nodes.length) :
    ∃ l' a, fillKids l base i rest = .ok (l', a) ∧ l.nodes.length ≤ l'.nodes.length ∧
      (a = true → l'.nodes.length > 65532) :=
  let ⟨l', a, h1, h2, h3, _⟩ := fillTotal_all rest l base i hb
  ⟨l', a, h1, h2, h3⟩

/-- `NewCodec` never panics: on every input it returns a codec or `errInvalidCodeSpaceRange`
(no index out of range in `newTree`, the `panic("unreachable")` of `AppendNodes` is unreachable). -/
theorem newCodec_no_panic (csr : CSR) : newCodec csr ≠ .error .panic := by
  fun_cases newCodec csr with
  | case1 | case4 | case5 => simp
  | case2 hv e hT => rw [(newTree_error_top csr (by simpa using hv) e hT).1]; simp
  | case3 hv tree hT e happ =>
    obtain ⟨l', idx, h1, _⟩ := appendNodes_total tree (fillTotal_all tree) newLin
    rw [h1] at happ; cases happ

end PdfVerif.C12ccg
