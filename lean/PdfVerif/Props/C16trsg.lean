import PdfVerif.Props.C16trsf
/-!
# C16 — the tree side of the page-number clause: what each writer is promised

`WInv gh fired ρ o w`: the writer `w`, whose first page has `o` pages before it in document
order when every range `r` that is still open ends up with `ρ r` pages, satisfies

* its pending callbacks are user callbacks;
* if it is open, the futureInt of its next page is promised
  `o + (sizes of its children under ρ) + (pages in its tail)` — the number of pages before that
  next page, a prefix sum over everything that precedes it;
* if it is a sub-range, its `numPagesCb` is the `Update` of a futureInt that waits for a range,
  recorded in `fired` with the range's page count exactly when the range is closed;
* the same holds for its children, each at its own offset.

The size of a sub-range under `ρ` is `ρ (its range id)` whether it is open or closed (for a
closed one `Cons fired ρ` pins it to its page count), so whatever happens inside a range does
not move its later siblings.
-/
namespace PdfVerif.C16trsg
open PdfVerif PdfVerif.TRSP PdfVerif.C16trs PdfVerif.C16trsd PdfVerif.C16trsf

/-- in `Int`, like the futureInt values it is added to -/
def tailLen (t : List PNode) : Int := ((pagesOf t).length : Nat)

/-- the futureInt that waits for the page count of the range `w` -/
def rangeId (w : PW) : Option Nat :=
  match w.numPagesCb with
  | [.update g] => some g
  | _ => none

/-- pages of a child under `ρ` -/
def childSize (ρ : Rho) (c : PW) : Int :=
  if c.isBefore then tailLen c.tail
  else match rangeId c with
    | some g => ρ g
    | none => 0

def childrenSize (ρ : Rho) : List PW → Int
  | [] => 0
  | c :: cs => childSize ρ c + childrenSize ρ cs

theorem childrenSize_nil (ρ : Rho) : childrenSize ρ [] = 0 := rfl
theorem childrenSize_cons (ρ : Rho) (c : PW) (cs : List PW) :
    childrenSize ρ (c :: cs) = childSize ρ c + childrenSize ρ cs := rfl

theorem childrenSize_append (ρ : Rho) (a b : List PW) :
    childrenSize ρ (a ++ b) = childrenSize ρ a + childrenSize ρ b := by
  induction a with
  | nil => simp [childrenSize_nil]
  | cons x xs ih => simp only [List.cons_append, childrenSize_cons, ih]; omega

mutual
/-- the futureInts of the next pages of the open writers -/
def openFuts : PW → List Nat
  | .mk isB closed children _ npn _ _ =>
    (if closed || isB then [] else npn.toList) ++ openFutsList children
def openFutsList : List PW → List Nat
  | [] => []
  | c :: cs => openFuts c ++ openFutsList cs
end

/-- the part of `WInv` about the writer itself -/
def WLocal (gh : List GFut) (fired : List (Nat × Int)) (ρ : Rho) (o : Int)
    (isB closed : Bool) (children : List PW) (tail : List PNode) (npn : Option Nat)
    (npnCb numPagesCb : List FCb) : Prop :=
  (∀ c ∈ npnCb, ∃ k, c = FCb.user k) ∧
  (closed = false → isB = false → ∃ f γ, npn = some f ∧ gh[f]? = some γ ∧
    γ.m ρ = o + childrenSize ρ children + tailLen tail) ∧
  (isB = true ∨ numPagesCb = [] ∨ ∃ g γ, numPagesCb = [.update g] ∧ gh[g]? = some γ ∧ γ.isRange = true ∧
    (closed = true → (g, tailLen tail) ∈ fired) ∧
    (closed = false → (fired.map (·.1)).contains g = false))

mutual
def WInv (gh : List GFut) (fired : List (Nat × Int)) (ρ : Rho) : Int → PW → Prop
  | o, .mk isB closed children tail npn npnCb numPagesCb =>
    WLocal gh fired ρ o isB closed children tail npn npnCb numPagesCb ∧ WInvList gh fired ρ o children
def WInvList (gh : List GFut) (fired : List (Nat × Int)) (ρ : Rho) : Int → List PW → Prop
  | _, [] => True
  | o, c :: cs => WInv gh fired ρ o c ∧ WInvList gh fired ρ (o + childSize ρ c) cs
end

theorem wInv_mk {gh : List GFut} {fired : List (Nat × Int)} {ρ : Rho} (o : Int) (isB closed : Bool)
    (children : List PW) (tail : List PNode) (npn : Option Nat) (npnCb numPagesCb : List FCb) :
    WInv gh fired ρ o (.mk isB closed children tail npn npnCb numPagesCb) ↔
      WLocal gh fired ρ o isB closed children tail npn npnCb numPagesCb ∧ WInvList gh fired ρ o children := by
  simp only [WInv]
theorem wInvList_nil {gh : List GFut} {fired : List (Nat × Int)} {ρ : Rho} (o : Int) :
    WInvList gh fired ρ o [] ↔ True := by simp only [WInvList]
theorem wInvList_cons {gh : List GFut} {fired : List (Nat × Int)} {ρ : Rho} (o : Int) (c : PW) (cs : List PW) :
    WInvList gh fired ρ o (c :: cs) ↔ WInv gh fired ρ o c ∧ WInvList gh fired ρ (o + childSize ρ c) cs := by
  simp only [WInvList]

theorem WInvList_append {gh : List GFut} {fired : List (Nat × Int)} {ρ : Rho} :
    ∀ (a b : List PW) (o : Int),
      WInvList gh fired ρ o (a ++ b) ↔ WInvList gh fired ρ o a ∧ WInvList gh fired ρ (o + childrenSize ρ a) b
  | [], b, o => by simp [wInvList_nil, childrenSize_nil]
  | c :: cs, b, o => by
    simp only [List.cons_append, wInvList_cons, childrenSize_cons, WInvList_append cs b]
    rw [show o + childSize ρ c + childrenSize ρ cs = o + (childSize ρ c + childrenSize ρ cs) by omega]
    exact and_assoc.symm

section
variable {gh gh' : List GFut} {fired : List (Nat × Int)} {ρ : Rho} {o : Int} {isB closed : Bool}
  {children : List PW} {tail : List PNode} {npn : Option Nat} {npnCb numPagesCb : List FCb}

theorem WLocal.users (h : WLocal gh fired ρ o isB closed children tail npn npnCb numPagesCb) :
    ∀ c ∈ npnCb, ∃ k, c = FCb.user k := h.1

theorem WLocal.promise (h : WLocal gh fired ρ o isB closed children tail npn npnCb numPagesCb)
    (hc : closed = false) (hb : isB = false) :
    ∃ f γ, npn = some f ∧ gh[f]? = some γ ∧ γ.m ρ = o + childrenSize ρ children + tailLen tail := h.2.1 hc hb

/-- the clause about the writer as a sub-range looks at the ghost list only for `isRange`, and at
    the `tail` only once the range is closed -/
theorem WLocal.range_ext (h : WLocal gh fired ρ o isB closed children tail npn npnCb numPagesCb)
    {bad : List Nat} (e : GhExt bad gh gh') {tail' : List PNode} (ht : closed = true → tailLen tail' = tailLen tail) :
    isB = true ∨ numPagesCb = [] ∨ ∃ g γ, numPagesCb = [.update g] ∧ gh'[g]? = some γ ∧ γ.isRange = true ∧
      (closed = true → (g, tailLen tail') ∈ fired) ∧
      (closed = false → (fired.map (·.1)).contains g = false) := by
  rcases h.2.2 with h | h | ⟨g, γ, a, b, c, d, e'⟩
  · exact Or.inl h
  · exact Or.inr (Or.inl h)
  · obtain ⟨γ', hg', hr'⟩ := e.range g γ b
    exact Or.inr (Or.inr ⟨g, γ', a, hg', by rw [hr']; exact c, fun hcl => by rw [ht hcl]; exact d hcl, e'⟩)

theorem WLocal.frame (h : WLocal gh fired ρ o isB closed children tail npn npnCb numPagesCb) {bad : List Nat}
    (e : GhExt bad gh gh') {children' : List PW} (hs : childrenSize ρ children' = childrenSize ρ children)
    (hd : ∀ i ∈ (if closed || isB then [] else npn.toList), i ∉ bad) :
    WLocal gh' fired ρ o isB closed children' tail npn npnCb numPagesCb := by
  refine ⟨h.users, fun hc hb => ?_, h.range_ext e fun _ => rfl⟩
  obtain ⟨f, γ, hn, hg, hm⟩ := h.promise hc hb
  exact ⟨f, γ, hn, e.keep f γ hg (hd f (by simp [hc, hb, hn])), by rw [hs]; exact hm⟩
end

mutual
theorem WInv_frame {gh gh' : List GFut} {fired : List (Nat × Int)} {ρ : Rho} {bad : List Nat}
    (e : GhExt bad gh gh') :
    ∀ (w : PW) (o : Int), WInv gh fired ρ o w → (∀ i ∈ openFuts w, i ∉ bad) → WInv gh' fired ρ o w
  | .mk isB closed children tail npn npnCb numPagesCb, o, h, hd => by
    simp only [wInv_mk] at h ⊢
    obtain ⟨hl, hk⟩ := h
    simp only [openFuts, List.mem_append] at hd
    exact ⟨hl.frame e rfl fun i hi => hd i (Or.inl hi),
      WInvList_frame e children o hk (fun i hi => hd i (Or.inr hi))⟩
theorem WInvList_frame {gh gh' : List GFut} {fired : List (Nat × Int)} {ρ : Rho} {bad : List Nat}
    (e : GhExt bad gh gh') :
    ∀ (cs : List PW) (o : Int), WInvList gh fired ρ o cs → (∀ i ∈ openFutsList cs, i ∉ bad) →
      WInvList gh' fired ρ o cs
  | [], _, _, _ => by simp [wInvList_nil]
  | c :: cs, o, h, hd => by
    simp only [wInvList_cons] at h ⊢
    simp only [openFutsList, List.mem_append] at hd
    exact ⟨WInv_frame e c o h.1 (fun i hi => hd i (Or.inl hi)),
      WInvList_frame e cs _ h.2 (fun i hi => hd i (Or.inr hi))⟩
end

/-- `NextPageNumber` on an open writer: one more pending user callback -/
theorem nextPageNumberHere_preserves {gh : List GFut} {fired : List (Nat × Int)} {ρ : Rho} {o : Int}
    {w w' : PW} {g g' : G} (k : Nat) (hw : WInv gh fired ρ o w) (hopen : w.closed = false)
    (h : nextPageNumberHere k w g = .ok (w', g')) : WInv gh fired ρ o w' ∧ g' = g := by
  rcases nextPageNumberHere_ok h with ⟨hc, _⟩ | ⟨_, rfl, rfl⟩
  · rw [hopen] at hc; cases hc
  obtain ⟨isB, closed, children, tail, npn, npnCb, numPagesCb⟩ := w
  cases hopen
  refine ⟨?_, rfl⟩
  simp only [wInv_mk] at hw ⊢
  obtain ⟨hl, hk⟩ := hw
  refine ⟨⟨fun c hc => ?_, hl.2⟩, hk⟩
  rcases List.mem_append.mp hc with hc | hc
  · exact hl.users c hc
  · exact ⟨k, List.mem_singleton.mp hc⟩

theorem tailLen_nil : tailLen [] = 0 := by simp [tailLen, pagesOf_nil]

theorem childrenSize_beforeOf (ρ : Rho) (tail : List PNode) : childrenSize ρ (beforeOf tail) = tailLen tail := by
  unfold beforeOf
  split
  · simp [childrenSize_nil, childrenSize_cons, childSize, PW.isBefore, PW.tail]
  · rename_i ht
    rw [List.eq_nil_of_length_eq_zero (by omega : tail.length = 0)]
    simp [childrenSize_nil, tailLen_nil]

theorem wInvList_beforeOf {gh : List GFut} {fired : List (Nat × Int)} {ρ : Rho} (o : Int) (tail : List PNode) :
    WInvList gh fired ρ o (beforeOf tail) := by
  unfold beforeOf
  split
  · simp only [wInvList_nil, wInvList_cons, wInv_mk, WLocal]
    exact ⟨⟨⟨nofun, nofun, Or.inl trivial⟩, trivial⟩, trivial⟩
  · trivial

/-- **`NewRange`** on an open writer at offset `o`: the new sub-range starts where the writer's
    next page would have been and inherits that promise; the writer's own next page is now
    promised that position plus the final size `ρ gid` of the new range -/
theorem newRangeHere_preserves {futs : List Fut} {gh : List GFut} {fired : List (Nat × Int)} {ρ : Rho}
    (hheap : HeapInv futs gh [] fired ρ) (hc : Cons fired ρ) {o : Int} {w w' : PW} {g' : G}
    (hw : WInv gh fired ρ o w) (hnb : w.isBefore = false)
    (hnf : (fired.map (·.1)).contains futs.length = false) {log : List (Nat × Int)} {ctx : MCtx}
    (h : newRangeHere w { heap := { futs := futs, log := log }, ctx := ctx } = .ok (w', g')) :
    ∃ γ' L, g'.heap.log = log ++ L ∧ g'.ctx = ctx ∧ g'.heap.futs.length = futs.length + 1 ∧
      HeapInv g'.heap.futs (gh ++ [γ']) [] fired ρ ∧ WInv (gh ++ [γ']) fired ρ o w' := by
  obtain ⟨f, h2, hcl, hn0, hwa0, rfl, rfl⟩ := newRangeHere_ok h
  obtain ⟨isB, closed, children, tail, npn, npnCb, numPagesCb⟩ := w
  simp only [PW.isBefore, PW.closed, PW.npn] at hnb hcl hn0 hwa0
  subst hnb hcl hn0
  simp only [wInv_mk] at hw
  obtain ⟨hl, hk⟩ := hw
  obtain ⟨_, γf, hn, hgf, hmf⟩ := hl.promise rfl rfl
  cases hn
  have hflt : f < futs.length := by rw [← hheap.len]; exact lt_of_getElem? hgf
  obtain ⟨futs', L, γ', hwa, hinv', hr', hp', hm'⟩ :=
    newRange_heap_spec hheap hc (List.getElem?_eq_getElem hflt) hgf hnf log
  cases hwa0.symm.trans hwa
  have hlen' : futs'.length = futs.length + 1 := by
    have a := hinv'.len
    have b := hheap.len
    simp at a; omega
  have hgid : (gh ++ [γ'])[futs.length]? = some γ' := by rw [← hheap.len]; simp
  have hold : ∀ (i : Nat) (γ : GFut), gh[i]? = some γ → (gh ++ [γ'])[i]? = some γ :=
    fun i γ hg => (GhExt.push [] gh γ').keep i γ hg List.not_mem_nil
  refine ⟨γ', L, rfl, rfl, hlen', hinv', ?_⟩
  have hsize1 : childrenSize ρ (children ++ beforeOf tail) = childrenSize ρ children + tailLen tail := by
    rw [childrenSize_append, childrenSize_beforeOf]
  simp only [wInv_mk, PW.children, PW.tail, PW.isBefore, PW.npnCb, PW.numPagesCb]
  refine ⟨⟨hl.users, fun _ _ => ⟨futs.length, γ', rfl, hgid, ?_⟩, hl.range_ext (GhExt.push [] gh γ') nofun⟩, ?_⟩
  · have hs : childrenSize ρ [PW.mk false false [] [] (some f) [] [FCb.update futs.length]] = ρ futs.length := by
      simp [childrenSize_nil, childrenSize_cons, childSize, PW.isBefore, rangeId, PW.numPagesCb]
    rw [hm', hmf, childrenSize_append, hsize1, hs, tailLen_nil]
    omega
  · rw [WInvList_append, WInvList_append]
    refine ⟨⟨WInvList_frame (GhExt.push [] gh γ') children o hk (fun _ _ => by simp), wInvList_beforeOf _ _⟩, ?_⟩
    -- the new sub-range starts where the writer's next page would have been and has its futureInt
    simp only [wInvList_nil, wInvList_cons, wInv_mk, WLocal]
    refine ⟨⟨⟨nofun, fun _ _ => ⟨f, γf, rfl, hold f γf hgf, ?_⟩, ?_⟩, trivial⟩, trivial⟩
    · rw [hmf, hsize1, tailLen_nil]
      simp only [childrenSize_nil]
      omega
    · exact Or.inr (Or.inr ⟨futs.length, γ', rfl, hgid, hr', nofun, fun _ => hnf⟩)

theorem users_eq_map : ∀ (l : List FCb), (∀ c ∈ l, ∃ k, c = FCb.user k) → l = (usersOf l).map FCb.user
  | [], _ => by simp [usersOf_nil]
  | c :: cs, h => by
    obtain ⟨k, rfl⟩ := h c (by simp)
    have ih := users_eq_map cs (fun c hc => h c (by simp [hc]))
    rw [usersOf_user, List.map_cons, ← ih]

theorem tailLen_snoc_page (tail : List PNode) (id : Nat) (a : Attrs) :
    tailLen (tail ++ [leaf id a]) = tailLen tail + 1 := by
  simp [tailLen, pagesOf_append, pagesOf_leaf]

/-- **`AppendPage*`** on an open writer at offset `o`: the pending callbacks are handed to the
    futureInt of the page being appended, whose promise is the number of pages before that page
    (`o` + sizes of the children + pages already in the tail): they are logged with exactly that
    value, or wait for it; the futureInt of the NEXT page is promised one more.  `hdist`: no
    open writer below shares the writer's futureInt. -/
theorem appendHere_preserves {futs : List Fut} {gh : List GFut} {fired : List (Nat × Int)} {ρ : Rho}
    (hheap : HeapInv futs gh [] fired ρ) (hc : Cons fired ρ) {o : Int} {w w' : PW} {g' : G}
    (hw : WInv gh fired ρ o w) (hnb : w.isBefore = false)
    (hdist : ∀ i ∈ openFutsList w.children, w.npn ≠ some i)
    {id : Nat} {a : Attrs} {log : List (Nat × Int)} {ctx : MCtx}
    (h : appendHere id a w { heap := { futs := futs, log := log }, ctx := ctx } = .ok (w', g')) :
    ∃ gh' L, g'.heap.log = log ++ L ∧ HeapInv g'.heap.futs gh' [] fired ρ ∧ WInv gh' fired ρ o w' ∧
      (L = [] ∨ L = (usersOf w.npnCb).map fun k => (k, o + childrenSize ρ w.children + tailLen w.tail)) := by
  obtain ⟨f, h1, f'', tail2, hcl, hn0, hwa0, hinc0, hl, rfl⟩ := appendHere_ok h
  obtain ⟨isB, closed, children, tail, npn, npnCb, numPagesCb⟩ := w
  simp only [PW.isBefore, PW.closed, PW.npn, PW.npnCb, PW.tail, PW.children, PW.numPagesCb] at hnb hcl hn0 hwa0 hl hdist ⊢
  subst hnb hcl hn0
  simp only [wInv_mk] at hw
  obtain ⟨hlw, hk⟩ := hw
  obtain ⟨_, γf, hn, hgf, hmf⟩ := hlw.promise rfl rfl
  cases hn
  have hflt : f < futs.length := by rw [← hheap.len]; exact lt_of_getElem? hgf
  have hfx := List.getElem?_eq_getElem hflt
  -- the pending callbacks go to `f`
  obtain ⟨futs1, L, hwa, hinv1, hcase⟩ := whenAvailableAll_users hgf (usersOf npnCb) futs futs[f] log hheap hfx
  rw [← users_eq_map npnCb hlw.users, hwa0] at hwa
  cases hwa
  have hf1 : ∃ x1, futs1[f]? = some x1 := by
    have : f < futs1.length := by
      rcases hcase with ⟨_, e, _⟩ | ⟨_, _, e⟩
      · rw [e]; exact hflt
      · rw [e]; simpa using hflt
    exact ⟨_, List.getElem?_eq_getElem this⟩
  obtain ⟨x1, hx1⟩ := hf1
  obtain ⟨f', futs2, gh', γ', hinc, hinv2, hg', hm', e⟩ := incFut_ghost hinv1 hc hx1 hgf (log ++ L)
  rw [hinc0] at hinc
  obtain ⟨rfl, hheap'⟩ : f'' = f' ∧ g'.heap = { futs := futs2, log := log ++ L } := by simpa using hinc
  have hsame := appendLoop_same hl
  have htl : tailLen tail2 = tailLen tail + 1 := by
    rw [← tailLen_snoc_page tail id a]
    simp only [tailLen, hsame.pages]
  refine ⟨gh', L, by rw [hheap'], by rw [hheap']; exact hinv2, ?_, ?_⟩
  · simp only [wInv_mk]
    exact ⟨⟨nofun, fun _ _ => ⟨f'', γ', rfl, hg', by rw [hm', hmf, htl]; omega⟩, hlw.range_ext e nofun⟩,
      WInvList_frame e children o hk (fun i hi => by
        simp only [List.mem_singleton]
        intro hif
        exact hdist i hi (by rw [hif]))⟩
  · rcases hcase with ⟨_, _, e⟩ | ⟨_, e, _⟩
    · right
      rw [e, hmf]
    · exact Or.inl e

/-- one child is replaced by a child of the same size that satisfies the invariant for the new
    ghost list; its siblings do not look at the changed entries -/
theorem WInvList_set {gh gh' : List GFut} {fired : List (Nat × Int)} {ρ : Rho} {bad : List Nat}
    (e : GhExt bad gh gh') {c c' : PW}
    (hc : ∀ o', WInv gh fired ρ o' c → WInv gh' fired ρ o' c' ∧ childSize ρ c' = childSize ρ c) :
    ∀ (cs : List PW) (j : Nat) (o : Int), cs[j]? = some c → WInvList gh fired ρ o cs →
      (∀ i ∈ openFutsList (cs.take j) ++ openFutsList (cs.drop (j + 1)), i ∉ bad) →
      WInvList gh' fired ρ o (cs.set j c') ∧ childrenSize ρ (cs.set j c') = childrenSize ρ cs
  | [], j, o, hj, _, _ => by simp at hj
  | x :: rest, 0, o, hj, h, hd => by
    simp only [List.getElem?_cons_zero, Option.some.injEq] at hj
    subst hj
    simp only [wInvList_cons] at h
    obtain ⟨hx', hsize⟩ := hc o h.1
    simp only [List.set_cons_zero, wInvList_cons, childrenSize_cons, hsize]
    refine ⟨⟨hx', ?_⟩, trivial⟩
    exact WInvList_frame e rest _ h.2 (fun i hi => hd i (by simp [openFutsList, hi]))
  | x :: rest, j + 1, o, hj, h, hd => by
    simp only [List.getElem?_cons_succ] at hj
    simp only [wInvList_cons] at h
    have hd' : ∀ i ∈ openFutsList (rest.take j) ++ openFutsList (rest.drop (j + 1)), i ∉ bad := by
      intro i hi
      apply hd i
      simp only [List.take_succ_cons, List.drop_succ_cons, openFutsList, List.mem_append] at hi ⊢
      rcases hi with hi | hi
      · exact Or.inl (Or.inr hi)
      · exact Or.inr hi
    obtain ⟨ih1, ih2⟩ := WInvList_set e hc rest j (o + childSize ρ x) hj h.2 hd'
    simp only [List.set_cons_succ, wInvList_cons, childrenSize_cons, ih2]
    refine ⟨⟨?_, ih1⟩, trivial⟩
    exact WInv_frame e x o h.1 (fun i hi => hd i (by
      simp only [List.take_succ_cons, openFutsList, List.mem_append]
      exact Or.inl (Or.inl hi)))

/-- the futureInts of the open writers that are NOT in the subtree addressed by `path` -/
def outsideFuts : List Nat → PW → List Nat
  | [], _ => []
  | i :: rest, .mk isB closed children _ npn _ _ =>
    (if closed || isB then [] else npn.toList) ++
      match subIndex children i with
      | none => []
      | some j =>
        match children[j]? with
        | none => []
        | some c => openFutsList (children.take j) ++ outsideFuts rest c ++ openFutsList (children.drop (j + 1))

/-- **an operation addressed by a path**: if, on the writer it reaches, the operation keeps the
    invariant (for the ghost list `gh'` after it) and the writer's size as a child, and no open
    writer outside that subtree looks at a changed ghost entry, then the whole tree keeps it -/
theorem updateAt_preserves {gh gh' : List GFut} {fired : List (Nat × Int)} {ρ : Rho} (bad : List Nat)
    (hfr : ∀ (i : Nat) (γ : GFut), gh[i]? = some γ → i ∉ bad → gh'[i]? = some γ)
    (hrg : ∀ (i : Nat) (γ : GFut), gh[i]? = some γ → ∃ γ' : GFut, gh'[i]? = some γ' ∧ γ'.isRange = γ.isRange)
    (F : PW → G → Except PErr (PW × G)) (g g' : G)
    (hloc : ∀ (o : Int) (wt wt' : PW), F wt g = .ok (wt', g') → WInv gh fired ρ o wt →
      WInv gh' fired ρ o wt' ∧ childSize ρ wt' = childSize ρ wt) :
    ∀ (path : List Nat) (w w' : PW) (o : Int), PW.updateAt F path w g = .ok (w', g') →
      WInv gh fired ρ o w → (∀ i ∈ outsideFuts path w, i ∉ bad) →
      WInv gh' fired ρ o w' ∧ childSize ρ w' = childSize ρ w
  | [], w, w', o, h, hw, _ => by
    rw [updateAt_nil] at h
    exact hloc o w w' h hw
  | i :: rest, .mk isB closed children tail npn npnCb numPagesCb, w', o, h, hw, hd => by
    obtain ⟨j, child, child', hj, hch, hu, rfl⟩ := updateAt_cons_ok h
    simp only [outsideFuts, hj, hch, List.mem_append] at hd
    simp only [wInv_mk] at hw ⊢
    obtain ⟨hl, hk⟩ := hw
    obtain ⟨hl1, hl2⟩ := WInvList_set ⟨hfr, hrg⟩ (c := child) (c' := child')
      (fun o' hc' => updateAt_preserves bad hfr hrg F g g' hloc rest child child' o' hu hc'
        (fun x hx => hd x (Or.inr (Or.inl (Or.inr hx))))) children j o hch hk
      (fun x hx => by
        rcases List.mem_append.mp hx with hx | hx
        · exact hd x (Or.inr (Or.inl (Or.inl hx)))
        · exact hd x (Or.inr (Or.inr hx)))
    exact ⟨⟨hl.frame ⟨hfr, hrg⟩ hl2 fun i hi => hd i (Or.inl hi), hl1⟩, rfl⟩

theorem WInv_init (old : Bool) (hints : List Hint) (ρ : Rho) :
    WInv [{ m := fun _ => 0, pred := none, isRange := false }] [] ρ 0 (PState.init old hints).root := by
  simp only [PState.init, wInv_mk, WLocal, wInvList_nil, and_true]
  refine ⟨(by intro c hc; cases hc), ?_, Or.inr (Or.inl trivial)⟩
  intro _ _
  exact ⟨0, _, rfl, rfl, by simp [childrenSize_nil, tailLen_nil]⟩

/-- `NextPageNumber` on any writer of the tree, as an operation of the program -/
theorem step_nextPageNumber_preserves {gh : List GFut} {fired : List (Nat × Int)} {ρ : Rho}
    {s s' : PState} {out : Outcome} (path : List Nat) (k : Nat)
    (hw : WInv gh fired ρ 0 s.root) (h : step s (.nextPageNumber path k) = .ok (s', out)) :
    WInv gh fired ρ 0 s'.root ∧ s'.g.heap.futs = s.g.heap.futs := by
  rcases step_ok h with hr | ⟨r, g, hu, _, rfl, _⟩ | ⟨hop, _⟩
  · cases hr; exact ⟨hw, rfl⟩
  · have hloc : ∀ (o : Int) (wt wt' : PW) (g0 g1 : G), nextPageNumberHere k wt g0 = .ok (wt', g1) →
        g1.heap.futs = g0.heap.futs ∧ (WInv gh fired ρ o wt → WInv gh fired ρ o wt' ∧ childSize ρ wt' = childSize ρ wt) := by
      intro o wt wt' g0 g1 hn
      rcases nextPageNumberHere_ok hn with ⟨_, rfl, hf, _⟩ | ⟨hc, rfl, hw'⟩
      · exact ⟨hf, fun hwt => ⟨hwt, rfl⟩⟩
      · refine ⟨rfl, fun hwt => ⟨(nextPageNumberHere_preserves k hwt hc hn).1, ?_⟩⟩
        -- `childSize` looks at `isBefore`, the `tail` and `numPagesCb` only
        rw [hw']; cases wt; rfl
    exact ⟨(updateAt_preserves [] (GhExt.refl gh).keep (GhExt.refl gh).range
        (nextPageNumberHere k) s.g g (fun o wt wt' hn hwt => (hloc o wt wt' _ _ hn).2 hwt)
        path s.root r 0 hu hw (fun _ _ => by simp)).1,
      updateAt_g _ (fun g0 g1 => g1.heap.futs = g0.heap.futs) (fun w g0 w' g1 hn => (hloc 0 w w' g0 g1 hn).1)
        path _ _ _ _ hu⟩
  · cases hop

/-! ## where this leaves `PageNumbersStatement`

Proved for the heap (`Props/C16trsd.lean`, `C16trsf.lean`): `HeapInv`, `cascade` (`Update` and all
deliveries it causes), and that every heap access of the writers keeps `HeapInv` and logs a user
callback only with the promised value (`page_numbers_heap_partial`).
Proved here: the invariant (`WInv`, with `HeapInv` of C16trsd for the heap), that the initial
state satisfies it (`WInv_init`, `heapInv_init`), its preservation on the writer an operation is
applied to for `NextPageNumber`, `NewRange` and `AppendPage*` (`…Here_preserves`; for
`AppendPage*` together with the statement that the callbacks handed over are logged with the
position of the appended page under `ρ`, or wait for exactly that value), the lifting of such a
local step to an operation addressed by a path (`updateAt_preserves`, given that no open writer
outside the addressed subtree looks at a changed ghost entry), and one complete operation
(`step_nextPageNumber_preserves`).

**Missing** (named, not proved):
1. `PW.close`/`closeChildren`/`closeRoot`: closing the open children in order, the merges
   (pages unchanged: `close_spec`), `fire_range` for the range's page count with
   `fired := (gid, n) :: fired` (needs `Cons` for the extended list, i.e. the restriction of the
   quantified `ρ` to `ρ gid = n`), the pending callbacks called with −1;
2. the distinctness invariant that discharges `hdist`/`outsideFuts`: the futureInts of the open
   writers are pairwise different and smaller than the heap's length (new ones are allocated
   at the end), `fired` only holds ids below the heap's length; its preservation;
3. `step` for `.append`/`.newRange` assembled from `appendHere_preserves`/
   `newRangeHere_preserves` and `updateAt_preserves` with (2);
4. the induction over the operation list carrying, besides `WInv`, for every pending or waiting
   user callback the page it belongs to (`nextOnPath`), and the evaluation at the final `ρ`
   (every range closed: `ρ` is the list of final sizes, offsets are indices in `flatten doc`),
   which turns the logged `m ρ` into `expectedLog`.

The harness oracle evaluates the full statement on the implementation for every generated program
(keys `callback`, `callback-reentrant`).
-/

/-- the tree side of `PageNumbersStatement` as far as it is proved (the missing cases are listed
    in the section comment above): the initial state satisfies heap and tree invariant for every
    `ρ`, and `NextPageNumber` on any writer keeps the tree invariant and the heap; for
    `AppendPage*` and `NewRange` see `appendHere_preserves`, `newRangeHere_preserves` and
    `updateAt_preserves` -/
theorem page_numbers_nested_partial (old : Bool) (hints : List Hint) (ρ : Rho) :
    HeapInv (PState.init old hints).g.heap.futs [{ m := fun _ => 0, pred := none, isRange := false }] [] [] ρ ∧
    WInv [{ m := fun _ => 0, pred := none, isRange := false }] [] ρ 0 (PState.init old hints).root ∧
    (∀ (gh : List GFut) (fired : List (Nat × Int)) (s s' : PState) (out : Outcome) (path : List Nat) (k : Nat),
      WInv gh fired ρ 0 s.root → step s (.nextPageNumber path k) = .ok (s', out) →
      WInv gh fired ρ 0 s'.root ∧ s'.g.heap.futs = s.g.heap.futs) :=
  ⟨heapInv_init, WInv_init old hints ρ, fun _ _ _ _ _ path k hw h => step_nextPageNumber_preserves path k hw h⟩

end PdfVerif.C16trsg
