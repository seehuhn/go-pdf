import PdfVerif.Model.ROBErr
/-!
# C05 — arbitrary bytes never crash, hang, leak or explode: walks that must end

The walks of `Model/ROBErr.lean`, for every object graph and file content: `resolvePath`, the `/Prev` walk of `readXRef`,
and the last step of `NewReader`/`MakeReader`.  The size caps of the parser and "the parser model never runs out of fuel"
are proved by the C01 package over `Model/Scan.lean` (`Props/C01g.lean`, `Props/C01h.lean`, listed among this check's
modules); the buffer refinement and the termination of `ScanBytes` are in `Props/C05robbuf.lean`, `Props/C05robobj.lean`,
the inventory obligations in `Props/C05robinv.lean`.
-/
namespace PdfVerif.C05rob
open PdfVerif PdfVerif.ROB

theorem cycleStep_cases (path : List Nat) (ref : Nat) :
    cycleStep path ref = .error "cycle" ∨ cycleStep path ref = .error "depth" ∨
    (cycleStep path ref = .ok (ref :: path) ∧ ref ∉ path ∧
      (ref :: path).length ≤ Gen.rob_limits_MaxExtractDepth) := by
  unfold cycleStep
  split
  · exact .inl rfl
  · rename_i hc
    split
    · exact .inr (.inl rfl)
    · exact .inr (.inr ⟨rfl, by simpa using hc, by omega⟩)

/-- **resolve depth ≤ `MaxExtractDepth`**: whatever the object graph (`get` is arbitrary), a
    successful `resolvePath` has followed at most `MaxExtractDepth` references, all distinct -/
theorem resolve_depth (get : Nat → Option (Nat ⊕ Nat)) :
    ∀ (fuel : Nat) (path : List Nat) (ref v : Nat) (p' : List Nat), path.Nodup →
      resolveLoop get fuel path ref = .ok (v, p') → p'.length ≤ Gen.rob_limits_MaxExtractDepth ∧ p'.Nodup := by
  intro fuel
  induction fuel with
  | zero => intro path ref v p' _ h; cases h
  | succ fuel ih =>
    intro path ref v p' hnd h
    unfold resolveLoop at h
    rcases cycleStep_cases path ref with hc | hc | ⟨hc, hnot, hlen⟩ <;> rw [hc] at h
    · cases h
    · cases h
    · have hnd1 : (ref :: path).Nodup := List.nodup_cons.mpr ⟨hnot, hnd⟩
      dsimp only at h
      split at h
      · cases h
      · cases h; exact ⟨hlen, hnd1⟩
      · exact ih _ _ _ _ hnd1 h

/-- **the loop of `resolvePath` terminates**: `resolveFuel = MaxExtractDepth + 2` iterations
    always suffice — the out-of-fuel branch of the model is unreachable -/
theorem resolve_fuel_suffices (get : Nat → Option (Nat ⊕ Nat)) :
    ∀ (fuel : Nat) (path : List Nat) (ref : Nat), path.length ≤ Gen.rob_limits_MaxExtractDepth →
      Gen.rob_limits_MaxExtractDepth + 1 ≤ fuel + path.length →
      resolveLoop get fuel path ref ≠ .error "fuel" := by
  intro fuel
  induction fuel with
  | zero => intro path ref hp hf; omega
  | succ fuel ih =>
    intro path ref hp hf
    unfold resolveLoop
    rcases cycleStep_cases path ref with hc | hc | ⟨hc, _, hlen⟩ <;> rw [hc]
    · simp
    · simp
    · dsimp only
      split
      · simp
      · simp
      · exact ih _ _ hlen (by simp; omega)

/-- `Resolve` as called by the library: empty path, `resolveFuel` -/
theorem resolve_terminates (get : Nat → Option (Nat ⊕ Nat)) (ref : Nat) :
    resolveLoop get resolveFuel [] ref ≠ .error "fuel" :=
  resolve_fuel_suffices get resolveFuel [] ref (by simp) (by simp [resolveFuel])

theorem cycleStep_fresh {path : List Nat} {ref : Nat} (h : ref ∉ path) :
    cycleStep path ref =
      if (ref :: path).length > Gen.rob_limits_MaxExtractDepth then .error "depth" else .ok (ref :: path) := by
  unfold cycleStep
  rw [if_neg (by simpa using h)]

/-- a chain of references `ref → ref + 1 → … → n` whose end `n` holds the value `v`, entered on a path
    of smaller numbers: it is followed to `v` when the whole path fits `MaxExtractDepth`, and refused
    otherwise -/
theorem resolve_chain (get : Nat → Option (Nat ⊕ Nat)) (n v : Nat)
    (hc : ∀ r, r < n → get r = some (.inl (r + 1))) (hn : get n = some (.inr v)) :
    ∀ (k fuel : Nat) (path : List Nat) (ref : Nat), ref + k = n → k < fuel → (∀ x ∈ path, x < ref) →
      resolveLoop get fuel path ref =
        if path.length + k < Gen.rob_limits_MaxExtractDepth then .ok (v, (List.range' ref (k + 1)).reverse ++ path)
        else .error "depth" := by
  intro k
  induction k with
  | zero =>
    intro fuel path ref hr hf hp
    obtain ⟨fuel, rfl⟩ : ∃ f, fuel = f + 1 := ⟨fuel - 1, by omega⟩
    obtain rfl : ref = n := hr
    rw [resolveLoop, cycleStep_fresh fun h => Nat.lt_irrefl _ (hp _ h)]
    by_cases hlt : path.length < Gen.rob_limits_MaxExtractDepth
    · rw [if_neg (by simp; omega), if_pos (by simpa using hlt)]
      simp [hn]
    · rw [if_pos (by simp; omega), if_neg (by simpa using hlt)]
  | succ k ih =>
    intro fuel path ref hr hf hp
    obtain ⟨fuel, rfl⟩ : ∃ f, fuel = f + 1 := ⟨fuel - 1, by omega⟩
    have hget := hc ref (by omega)
    have hrec := ih fuel (ref :: path) (ref + 1) (by omega) (by omega) (by
      intro x hx
      rcases List.mem_cons.mp hx with rfl | hx
      · omega
      · have := hp x hx; omega)
    rw [resolveLoop, cycleStep_fresh fun h => Nat.lt_irrefl _ (hp _ h)]
    by_cases hfit : (ref :: path).length > Gen.rob_limits_MaxExtractDepth
    · rw [if_pos hfit, if_neg (by simp at hfit ⊢; omega)]
    · rw [if_neg hfit]
      simp only [hget]
      rw [hrec]
      simp only [List.length_cons]
      by_cases hlt : path.length + (k + 1) < Gen.rob_limits_MaxExtractDepth
      · rw [if_pos (by omega), if_pos hlt, List.range'_succ (n := k + 1), List.reverse_cons, List.append_assoc]
        rfl
      · rw [if_neg (by omega), if_neg hlt]

-- non-vacuity: a chain of exactly `MaxExtractDepth` references resolves, one more is refused,
-- a self-reference is a cycle
example : resolveLoop (fun r => if r < 256 then some (.inl (r + 1)) else some (.inr 7)) resolveFuel [] 1 matches .ok (7, _) := by
  rw [resolve_chain _ 256 7 (fun r h => if_pos h) (if_neg (Nat.lt_irrefl _)) 255 resolveFuel [] 1 rfl (by decide)
    (by simp)]
  rfl
example : resolveLoop (fun r => if r < 257 then some (.inl (r + 1)) else some (.inr 7)) resolveFuel [] 1 matches .error "depth" := by
  rw [resolve_chain _ 257 7 (fun r h => if_pos h) (if_neg (Nat.lt_irrefl _)) 256 resolveFuel [] 1 rfl (by decide)
    (by simp)]
  rfl
example : resolveLoop (fun r => some (.inl r)) resolveFuel [] 1 matches .error "cycle" := by decide +kernel

theorem nodup_bounded_length (n : Nat) (l : List Nat) (hnd : l.Nodup) (hb : ∀ x ∈ l, x < n) : l.length ≤ n := by
  simpa using hnd.length_le_of_subset (l₂ := List.range n) fun x hx => List.mem_range.2 (hb x hx)

/-- **the `/Prev` walk terminates** (DESIGN C04/C05 `prev_chain_terminates`): whatever the
    sections contain (`next` is arbitrary), with `size + 1` iterations the loop `for !seen[start]`
    of `readXRef` has ended; it never reads a section twice and reads at most `size` sections.
    The measure is the number of offsets in `[0, size)` not yet in `seen`. -/
theorem prevWalk_terminates (next : Nat → Option Nat) (size : Nat) :
    ∀ (fuel : Nat) (seen : List Nat) (start : Nat), seen.Nodup → (∀ x ∈ seen, x < size) → start < size →
      size + 1 ≤ fuel + seen.length →
      ∃ visited, prevWalk next size fuel seen start = some visited ∧ visited.Nodup ∧
        (∀ x ∈ visited, x < size) ∧ visited.length ≤ size := by
  intro fuel seen start
  -- where the walk ends it returns the reversed `seen`
  have fin : ∀ l : List Nat, l.Nodup → (∀ x ∈ l, x < size) →
      ∃ visited, some l.reverse = some visited ∧ visited.Nodup ∧ (∀ x ∈ visited, x < size) ∧ visited.length ≤ size :=
    fun l h1 h2 => ⟨l.reverse, rfl, (List.reverse_perm l).nodup_iff.2 h1, by simpa using h2,
      by simpa using nodup_bounded_length size l h1 h2⟩
  -- … extended by `start` when that is new
  have ext : ∀ {seen : List Nat} {start}, ¬ seen.contains start = true → seen.Nodup → (∀ x ∈ seen, x < size) → start < size →
      (start :: seen).Nodup ∧ ∀ x ∈ start :: seen, x < size := fun hc hnd hb hs =>
    ⟨List.nodup_cons.2 ⟨by simpa using hc, hnd⟩, fun x hx => (List.mem_cons.1 hx).elim (· ▸ hs) (hb x)⟩
  fun_induction prevWalk next size fuel seen start with
  | case1 => intro hnd hb _ hf; have := nodup_bounded_length size _ hnd hb; omega      -- out of fuel: the pigeonhole
  | case2 => exact fun hnd hb _ _ => fin _ hnd hb                                       -- `start` has been seen
  | case3 _ _ _ hc => exact fun hnd hb hs _ => fin _ (ext hc hnd hb hs).1 (ext hc hnd hb hs).2   -- no `/Prev`
  | case4 _ _ _ hc => exact fun hnd hb hs _ => fin _ (ext hc hnd hb hs).1 (ext hc hnd hb hs).2   -- `/Prev` out of range
  | case5 _ _ _ hc _ _ _ hp ih =>                                                         -- the next section
    exact fun hnd hb hs hf => ih (ext hc hnd hb hs).1 (ext hc hnd hb hs).2 (by omega) (by show _ ≤ _ + (List.length _ + 1); omega)

/-- the walk as `readXRef` starts it: empty `seen`, `size + 1` iterations -/
theorem prevWalk_from_start (next : Nat → Option Nat) (size start : Nat) (hs : start < size) :
    ∃ visited, prevWalk next size (size + 1) [] start = some visited ∧ visited.Nodup ∧ visited.length ≤ size := by
  obtain ⟨v, h1, h2, _, h4⟩ := prevWalk_terminates next size (size + 1) [] start (by simp) (by simp) hs (by simp)
  exact ⟨v, h1, h2, h4⟩

-- non-vacuity: three sections whose /Prev entries form a loop 40 → 20 → 30 → 20 …
example : prevWalk (fun s => if s = 40 then some 20 else if s = 20 then some 30 else some 20) 100 101 [] 40
    = some [40, 20, 30] := by decide +kernel

/-- **open_never_nil_nil** (finding ROB-4, fix D32): in `NewReader` and in
    `MakeReader`, in every `ErrorHandling` mode, for every outcome of the catalog decode: when the
    function returns without a `*Reader` it returns an error. -/
theorem open_never_nil_nil (seq : Bool) (mode : Nat) (err : Option GoErr) (hasPages : Bool)
    (h : (catalogStep seq mode err hasPages).1 = true) : (catalogStep seq mode err hasPages).2.1.isSome = true := by
  -- `shouldExit` exits only on an error; every other returning branch makes its error up
  have hex : (shouldExit mode err).1 = true → err.isSome = true := by
    cases err with
    | none => intro h; cases h
    | some e => intro _; rfl
  unfold catalogStep at h ⊢
  generalize shouldExit mode err = x at hex h ⊢
  obtain ⟨ex, rep⟩ := x
  dsimp only at hex h ⊢
  by_cases h1 : ex = true
  · rw [if_pos h1]; exact hex h1
  rw [if_neg h1] at h ⊢
  by_cases h2 : (!hasPages) = true
  · rw [if_pos h2] at h ⊢
    by_cases h3 : seq = true
    · rw [if_pos h3]; rfl
    rw [if_neg h3] at h ⊢
    by_cases h4 : mode = Gen.rob_reader_ErrorHandlingReport
    · rw [if_pos h4] at h; cases h
    · rw [if_neg h4]; rfl
  · rw [if_neg h2] at h; cases h

example : catalogStep true 0 none false = (true, some errNoPages, false) := by decide

end PdfVerif.C05rob
