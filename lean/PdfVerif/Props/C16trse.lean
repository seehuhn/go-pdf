import PdfVerif.Props.C16trs
/-!
# C16 — what the caller may do around an append

Two rules of the writer that the caller can observe only by doing something unusual:

* **The pending callbacks are detached before they fire.**  `AppendPage*` takes the list of
  callbacks registered with `NextPageNumber`, leaves the writer with an empty list, and only
  then hands the callbacks to the futureInt (which may call them at once).  A callback that
  registers a further callback on the same writer therefore registers it for the page *after*
  the one being appended: in the model, that registration is the `nextPageNumber` operation
  right after the append (the harness translates programs with such callbacks this way), and
  it is not lost.
* **A page's attributes are taken by value at the append.**  `POp.append` carries an `Attrs`
  value; the node built from it is private to the tree (hoisting edits the node, never the
  caller's value).  Handing the same value to many pages is an ordinary program, so
  `page_tree_correct` applies to it: every such page keeps the attributes it was given.
-/
namespace PdfVerif.C16trse
open PdfVerif PdfVerif.TRSP PdfVerif.C16trs
open PdfVerif.Spec.TRSDoc

/-- what a successful append did with the callbacks: exactly the list that was pending before
    the call went to the futureInt of the page's number, the page number moved on, and the
    writer is left open with an EMPTY pending list -/
theorem append_hands_over {id : Nat} {a : Attrs} {w w' : PW} {g g' : G}
    (h : appendHere id a w g = .ok (w', g')) :
    ∃ f h1 f', w.npn = some f ∧ whenAvailableAll f w.npnCb g.heap = .ok h1 ∧
      incFut f h1 = .ok (f', g'.heap) ∧ w'.npn = some f' ∧ w'.npnCb = [] ∧
      w.closed = false ∧ w'.closed = false := by
  obtain ⟨f, h1, f', tail2, hc, hn, hw, hi, _, rfl⟩ := appendHere_ok h
  exact ⟨f, h1, f', hn, hw, hi, rfl, rfl, hc, rfl⟩

theorem append_detaches_pending {id : Nat} {a : Attrs} {w w' : PW} {g g' : G}
    (h : appendHere id a w g = .ok (w', g')) : w'.npnCb = [] := by
  obtain ⟨_, _, _, _, _, _, _, h5, _, _⟩ := append_hands_over h
  exact h5

/-- a registration that arrives while (or right after) the callbacks of a page fire is pending
    for the next page: it is the only entry of the fresh list -/
theorem registration_after_append_pending {id : Nat} {a : Attrs} {w w' : PW} {g g' : G}
    (h : appendHere id a w g = .ok (w', g')) (k : Nat) :
    ∃ w'', nextPageNumberHere k w' g' = .ok (w'', g') ∧ w''.npnCb = [.user k] ∧
      w''.npn = w'.npn ∧ w''.tail = w'.tail := by
  obtain ⟨_, _, _, _, _, _, _, h5, _, h7⟩ := append_hands_over h
  obtain ⟨isB, closed, children, tail, npn, npnCb, numPagesCb⟩ := w'
  simp only [PW.closed] at h7
  simp only [PW.npnCb] at h5
  subst h7; subst h5
  exact ⟨PW.mk isB false children tail npn [.user k] numPagesCb, nextPageNumberHere_open ..,
    by simp [PW.npnCb], rfl, rfl⟩

/-- … and the next append hands exactly that callback over -/
theorem registration_after_append_fires_next {id id2 : Nat} {a a2 : Attrs} {w w' w'' w3 : PW}
    {g g' g3 : G} (k : Nat) (h : appendHere id a w g = .ok (w', g'))
    (hn : nextPageNumberHere k w' g' = .ok (w'', g'))
    (h2 : appendHere id2 a2 w'' g' = .ok (w3, g3)) :
    ∃ f h1, w'.npn = some f ∧ whenAvailable f (.user k) g'.heap = .ok h1 := by
  obtain ⟨w2, hn2, hcb, hnpn, _⟩ := registration_after_append_pending h k
  rw [hn] at hn2
  cases hn2
  obtain ⟨f, h1, _, e1, e2, _⟩ := append_hands_over h2
  rw [hcb] at e2
  rw [hnpn] at e1
  refine ⟨f, h1, e1, ?_⟩
  simp only [whenAvailableAll] at e2
  split at e2
  · cases e2
  · rename_i h' hw
    cases e2
    exact hw

/-- the scenario run on the model: a callback that asks for the page after its
    own, on a document of three pages (the follow-up registrations are the `nextPageNumber`
    operations after the appends): 0, 1, 2, and −1 at Close -/
example :
    (match run (PState.init false [])
        [.nextPageNumber [] 0, .append [] 0 {}, .nextPageNumber [] 1, .append [] 1 {},
         .nextPageNumber [] 2, .append [] 2 {}, .nextPageNumber [] 3, .close []] with
      | .ok (s, _) => s.g.heap.log
      | .error _ => []) = [(0, 0), (1, 1), (2, 2), (3, -1)] := by decide +kernel

theorem specRun_appends (a : Attrs) : ∀ (ids : List Nat) (d : List (Item (Nat × Attrs))),
    specRun ((ids.map fun i => POp.append [] i a).zip (List.replicate ids.length Outcome.ok)) d
      = some (d ++ ids.map fun i => Item.page (i, normA a))
  | [], d => by simp [specRun]
  | i :: rest, d => by
    simp only [List.map_cons, List.length_cons, List.replicate_succ, List.zip_cons_cons, specRun,
      specStep, appendPage, Spec.TRSDoc.updateAt]
    rw [if_neg (by decide)]
    rw [specRun_appends a rest]
    simp

/-- **One attribute value for many pages.**  `n` pages are appended to the root, all with the
    same attribute value `a` (in Go: the same dictionary handed to `AppendPageDict` `n` times),
    every append is accepted, and the root is closed.  Then the written tree lists the `n`
    pages in order and EACH has the effective MediaBox, CropBox, Rotate, AA of `a` — whatever
    was hoisted, and whatever the tree did to the node of another page. -/
theorem same_value_pages_keep_attrs (old : Bool) (hints : List Hint) (a : Attrs) (n : Nat)
    (s s' : PState)
    (hrun : run (PState.init old hints) ((List.range n).map fun i => POp.append [] i a)
      = .ok (s, List.replicate n .ok))
    (hopen : s.result = none) (hclose : step s (.close []) = .ok (s', .ok)) :
    ∃ t, s'.result = some t ∧ effPages {} t = (List.range n).map (fun i => (i, normA a)) ∧
      RootOK t := by
  obtain ⟨doc, t, hdoc, hres, heff, hroot⟩ := page_tree_correct old hints _ s s' _ hrun hopen hclose
  refine ⟨t, hres, ?_, hroot⟩
  have hs := specRun_appends a (List.range n) []
  simp only [List.length_range, List.nil_append] at hs
  rw [hs] at hdoc
  cases hdoc
  rw [heff]
  have h := flatten_pages ((List.range n).map fun i => (i, normA a))
  rw [List.map_map] at h
  exact h

/-- the hypotheses of `same_value_pages_keep_attrs` are met, e.g. by 40 pages with a MediaBox,
    a CropBox and a rotation: all 40 keep them -/
example :
    let a : Attrs := { mediaBox := some [1], cropBox := some [2], rotate := some [0x39, 0x30] }
    (match run (PState.init false []) ((List.range 40).map fun i => POp.append [] i a) with
      | .ok (s, outs) =>
        (outs == List.replicate 40 .ok) &&
        (match step s (.close []) with
          | .ok (s', .ok) =>
            (match s'.result with
              | some t => effPages {} t == (List.range 40).map (fun i => (i, normA a))
              | none => false)
          | _ => false)
      | .error _ => false) = true := by decide +kernel

end PdfVerif.C16trse
