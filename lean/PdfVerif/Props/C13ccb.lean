import PdfVerif.Lemmas.CMapFile
import PdfVerif.Props.C12ccd
/-!
# C13 (part 2) — `SetMapping` followed by `LookupCID`

The run compression of `File.SetMapping` (grouping by all-but-last byte, sorting, run detection;
`font/cmap/mapping.go`) is lossless.  A CID file is read as a file of the generic kind (`cview`; `GFile`,
Lemmas/CMapFile.lean): a range gives position `i` the value `u32 (value + i)`.  The items written for the entries say
exactly what the entries say (`cidRuns_renders`, `outOf_renders`; `out_sound`, `out_complete` are its two directions in
terms of `Covers`), so the built file maps exactly the pairs of the map that were not left out (`setMapping_maps`), and
`GFile.lookup_of_maps` gives the lookup theorems (`lookupCID_setMapping`, `lookup_setMapping`).
-/
namespace PdfVerif.C13ccb
open PdfVerif PdfVerif.CC PdfVerif.CMap PdfVerif.C13cc PdfVerif.C13ccd

def csingle (s : Single) : Bytes × Nat := (s.code, s.value)

def crange (r : CRange) : GRange Nat := ⟨r.first, r.last, some fun i => u32 (r.value + i)⟩

def cview (f : CMapFile) : GFile Nat := ⟨f.singles.map csingle, f.ranges.map crange⟩

def citem : Sum Single CRange → GItem Nat := Sum.map csingle crange

theorem cview_singles (f : CMapFile) : (cview f).singles = f.singles.map csingle := rfl

theorem cview_ranges (f : CMapFile) : (cview f).ranges = f.ranges.map crange := rfl

theorem crange_hit (r : CRange) (b : Bytes) (v : Nat) :
    (crange r).hit b = some v ↔ ∃ i, rangeIndex r.first r.last b = some i ∧ v = u32 (r.value + i) := by
  simp [GRange.hit_eq_some, crange]

theorem findSingle_eq (b : Bytes) (l : List Single) :
    findSingle b l = (l.map csingle).findSome? fun s => if s.1 == b then some s.2 else none := by
  induction l with
  | nil => rfl
  | cons s l ih => simp only [findSingle, List.map_cons, List.findSome?_cons, ih, csingle]; split <;> rfl

theorem findRange_eq (b : Bytes) (l : List CRange) : findRange b l = (l.map crange).findSome? (·.hit b) := by
  induction l with
  | nil => rfl
  | cons r l ih =>
    simp only [findRange, List.map_cons, List.findSome?_cons, ih, GRange.hit_eq, crange, Option.bind_some]
    cases rangeIndex r.first r.last b <;> rfl

theorem lookupMapped_cons (f : CMapFile) (parents : Chain) (b : Bytes) :
    lookupMapped (f :: parents) b = ((cview f).lookup b).or (lookupMapped parents b) := by
  simp only [lookupMapped, GFile.lookup_eq, cview_singles, cview_ranges, ← findSingle_eq, ← findRange_eq]
  cases findSingle b f.singles with
  | some v => rfl
  | none => cases findRange b f.ranges <;> rfl

theorem lookupCID_cons (f : CMapFile) (parents : Chain) (b : Bytes) :
    lookupCID (f :: parents) b =
      match (cview f).lookup b with
      | some v => v
      | none => match lookupMapped parents b with
        | some v => v
        | none => lookupNotdef (f :: parents) b := by
  simp only [lookupCID, lookupMapped_cons]
  cases (cview f).lookup b <;> rfl

/-- what an output item says about a code; `out_sound` and `out_complete` are stated with it, the other proofs use the
same notion on the generic item, `(citem item).cov` (`covers_iff`) -/
def Covers : Sum Single CRange → Bytes → Nat → Prop
  | .inl s, bytes, v => s.code = bytes ∧ s.value = v
  | .inr r, bytes, v => ∃ i, rangeIndex r.first r.last bytes = some i ∧ v = u32 (r.value + i)

/-- entries as `SetMapping` produces them: last bytes are bytes, CIDs are `uint32` -/
def EntriesOK (es : List (Entry Nat)) : Prop := ∀ e ∈ es, e.x < 256 ∧ e.val < 4294967296

/-- the item appended when the pending run `start … prev` of `len` entries ends: the expression the model's `cidRuns`
writes out at both of its exits (`NewToUnicodeFile`'s counterpart `tuEmit` is a definition of the model) -/
def cidEmit (key : Bytes) (start prev : Entry Nat) (len : Nat) : Sum Single CRange :=
  if len > 1 then .inr ⟨key ++ [start.x], key ++ [prev.x], start.val⟩ else .inl ⟨key ++ [start.x], start.val⟩

theorem u32_of_lt {n : Nat} (h : n < 4294967296) : u32 n = n := Nat.mod_eq_of_lt h

theorem u32_u32_add (a b : Nat) : u32 (u32 a + b) = u32 (a + b) := by
  simp [u32, Nat.add_mod]

theorem covers_iff (item : Sum Single CRange) (b : Bytes) (v : Nat) : Covers item b v ↔ (citem item).cov b v := by
  cases item with
  | inl s => simp [Covers, citem, csingle, GItem.cov_inl]
  | inr r => simp only [Covers, citem, GItem.cov_inr, Sum.map_inr, crange_hit]

theorem cidEmit_spec (key : Bytes) (start prev : Entry Nat) (len : Nat) (hlen : 1 ≤ len)
    (hp : prev.x = start.x + (len - 1)) (h256 : prev.x < 256) (hsv : start.val < 4294967296) :
    (∀ b v, (citem (cidEmit key start prev len)).cov b v ↔ ∃ j < len, b = key ++ [start.x + j] ∧ v = u32 (start.val + j)) ∧
    (citem (cidEmit key start prev len)).size = len := by
  unfold cidEmit
  split
  · refine ⟨fun b v => ?_, ?_⟩
    · simp only [citem, Sum.map_inr, GItem.cov_inr, crange_hit, rangeIndex_append key _ _ h256, and_assoc]
      exact exists_congr fun j => and_congr_left' (by omega)
    · simp only [citem, crange, Sum.map_inr, GItem.size_inr]
      rw [GRange.count_of_isSome _ rfl, rangeCount_append key _ _ (by omega : start.x ≤ prev.x)]
      omega
  · rename_i h1
    have : len = 1 := Nat.le_antisymm (Nat.not_lt.mp h1) hlen
    subst this
    simp only [citem, csingle, Sum.map_inl, GItem.cov_inl, GItem.size_inl, Prod.mk.injEq, Nat.lt_one_iff, exists_eq_left,
      Nat.add_zero, u32_of_lt hsv, and_true]
    exact fun b v => ⟨fun ⟨h1, h2⟩ => ⟨h1.symm, h2.symm⟩, fun ⟨h1, h2⟩ => ⟨h1.symm, h2.symm⟩⟩

/-- The invariant of the Go loop: `start` is `info[start]`, `prev` is `info[i-1]`, `len` is `i - start`; the pending run
consists of the `len` entries `start.x + j ↦ u32 (start.val + j)`, of which `prev` is the last. -/
theorem cidRuns_renders (key : Bytes) (start prev : Entry Nat) (len : Nat) (rest : List (Entry Nat))
    (hlen : 1 ≤ len) (hp : prev.x = start.x + (len - 1)) (h256 : prev.x < 256)
    (hpv : prev.val = u32 (start.val + (len - 1))) (hsv : start.val < 4294967296)
    (hs : (prev :: rest).Pairwise (fun a b => a.x ≤ b.x)) (hok : EntriesOK rest) :
    Renders key ((cidRuns key start prev len rest).map citem)
      (fun b v => ∃ j < len, b = key ++ [start.x + j] ∧ v = u32 (start.val + j)) len rest := by
  -- the three exits of `cidRuns`: end of the group, run closed, run continued
  fun_induction cidRuns key start prev len rest with
  | case1 start prev len =>
    show Renders key [citem (cidEmit key start prev len)] _ _ _
    exact .single (cidEmit_spec key start prev len hlen hp h256 hsv)
  | case2 start prev len e rest hcut ih =>
    obtain ⟨hpe, hs'⟩ := List.pairwise_cons.mp hs
    obtain ⟨he256, hev⟩ := hok e List.mem_cons_self
    have := ih (Nat.le_refl 1) rfl he256 (u32_of_lt hev).symm hev hs' (fun a ha => hok a (List.mem_cons_of_mem _ ha))
    simp only [Nat.lt_one_iff, exists_eq_left, Nat.add_zero, u32_of_lt hev] at this
    show Renders key (citem (cidEmit key start prev len) :: _) _ _ _
    exact .cons (cidEmit_spec key start prev len hlen hp h256 hsv) this
  | case3 start prev len e rest hcont ih =>
    obtain ⟨hpe, hs'⟩ := List.pairwise_cons.mp hs
    obtain ⟨he256, hev⟩ := hok e List.mem_cons_self
    simp only [bne_iff_ne, ne_eq, Bool.or_eq_true, not_or, Decidable.not_not] at hcont
    have hx : e.x = start.x + len := by
      rw [succ_byte (hpe e List.mem_cons_self) he256 hcont.1, hp, Nat.add_assoc, Nat.sub_add_cancel hlen]
    have hv : e.val = u32 (start.val + len) := by
      rw [hcont.2, hpv, u32_u32_add, Nat.add_assoc, Nat.sub_add_cancel hlen]
    -- `e` moves from the entries to come into the run
    obtain ⟨c, s⟩ := ih (Nat.le_add_left 1 len) hx he256 hv hsv hs' (fun a ha => hok a (List.mem_cons_of_mem _ ha))
    refine ⟨fun b v => ?_, by rw [s, List.length_cons]; omega⟩
    rw [c]
    simp only [Nat.exists_lt_succ_right, List.mem_cons, exists_eq_or_imp, hx, hv, or_assoc]

theorem cidRunsOfGroup_renders (key : Bytes) (G : List (Entry Nat)) (hs : G.Pairwise fun a b => a.x ≤ b.x)
    (hok : EntriesOK G) : Renders key ((cidRunsOfGroup key G).map citem) (fun _ _ => False) 0 G := by
  cases G with
  | nil => exact ⟨fun b v => by simp [cidRunsOfGroup], rfl⟩
  | cons e rest =>
    obtain ⟨he256, hev⟩ := hok e List.mem_cons_self
    have := cidRuns_renders key e e 1 rest (Nat.le_refl 1) rfl he256 (u32_of_lt hev).symm hev hs
      (fun a ha => hok a (List.mem_cons_of_mem _ ha))
    simp only [Nat.lt_one_iff, exists_eq_left, Nat.add_zero, u32_of_lt hev] at this
    exact .start this

/-- the singles and ranges in the order in which `SetMapping` appends them -/
def outOf (es : List (Entry Nat)) : List (Sum Single CRange) :=
  (sortedKeys es).flatMap fun key => cidRunsOfGroup key (groupOf es key)

theorem outOf_renders (es : List (Entry Nat)) (hes : EntriesOK es) :
    (∀ b v, (∃ item ∈ (outOf es).map citem, item.cov b v) ↔ ∃ e ∈ es, b = e.key ++ [e.x] ∧ v = e.val) ∧
    (((outOf es).map citem).map GItem.size).sum = es.length := by
  rw [outOf, List.map_flatMap]
  exact groups_renders (fun key G => (cidRunsOfGroup key G).map citem) (fun e => e.x < 256 ∧ e.val < 4294967296)
    cidRunsOfGroup_renders es hes

theorem out_sound (es : List (Entry Nat)) (hes : EntriesOK es) (item : Sum Single CRange) (hitem : item ∈ outOf es)
    (bytes : Bytes) (v : Nat) (hc : Covers item bytes v) : ∃ e ∈ es, bytes = e.key ++ [e.x] ∧ v = e.val :=
  ((outOf_renders es hes).1 bytes v).mp ⟨citem item, List.mem_map_of_mem hitem, (covers_iff item bytes v).mp hc⟩

theorem out_complete (es : List (Entry Nat)) (hes : EntriesOK es) (e : Entry Nat) (he : e ∈ es) :
    ∃ item ∈ outOf es, Covers item (e.key ++ [e.x]) e.val := by
  obtain ⟨_, hit, hc⟩ := ((outOf_renders es hes).1 _ _).mpr ⟨e, he, rfl, rfl⟩
  obtain ⟨item, hitem, rfl⟩ := List.mem_map.mp hit
  exact ⟨item, hitem, (covers_iff item _ _).mpr hc⟩

theorem cidEntries_rel {codec : Codec} {parents : Chain} {data : List (Nat × Nat)} {es : List (Entry Nat)}
    (h : cidEntries codec parents data = .ok es) :
    Entries codec (fun b v => parents ≠ [] ∧ lookupMapped parents b = some v) data es := by
  fun_induction cidEntries codec parents data generalizing es with
  | case1 => cases h; exact .nil
  | case2 | case3 | case5 => cases h
  | case4 code cid rest buf hbuf es' hes' hskip ih =>
    cases h
    exact .skip hbuf (by simpa using hskip) (ih hes')
  | case6 code cid rest buf hbuf es' hes' hskip key x hsplit ih =>
    cases h
    cases splitLast_eq buf key x hsplit
    exact .keep hbuf (by simpa using hskip) (ih hes')

theorem setMapping_ok {f f' : CMapFile} {parents : Chain} {codec : Codec} {data : List (Nat × Nat)}
    (h : setMapping f parents codec data = .ok f') :
    ∃ es, cidEntries codec parents data = .ok es ∧ f'.singles = lefts (outOf es) ∧ f'.ranges = rights (outOf es) := by
  unfold setMapping at h
  split at h
  · cases h
  · split at h
    · cases h
    · rename_i es hes
      cases h
      exact ⟨es, hes, rfl, rfl⟩

theorem appendCode_allBytes {csr : CSR} {codec : Codec} (hc : newCodec csr = .ok codec) {code : Nat} {bs : Bytes}
    (h : codec.appendCode code = .ok bs) : AllBytes bs ∧ bs ≠ [] := by
  obtain ⟨bs', _, h2, h3, _, h4, _⟩ := C12ccd.append_then_decode csr codec hc code
  rw [h] at h2; cases h2
  exact ⟨h4, fun h0 => by rw [h0] at h3; cases h3⟩

/-- `hbytes` (what `AppendCode` returns consists of bytes) holds for every codec returned by `NewCodec`; it is a
hypothesis of the theorems below because `SetMapping` takes any codec. -/
theorem appendCode_bytes {csr : CSR} {codec : Codec} (hc : newCodec csr = .ok codec) {α : Type} (data : List (Nat × α)) :
    ∀ p ∈ data, ∀ bs, codec.appendCode p.1 = .ok bs → AllBytes bs :=
  fun _ _ _ hbs => (appendCode_allBytes hc hbs).1

theorem cidEntries_ok {codec : Codec} {parents : Chain} {data : List (Nat × Nat)} {es : List (Entry Nat)}
    (hes : cidEntries codec parents data = .ok es) (hcid : ∀ p ∈ data, p.2 < 4294967296)
    (hbytes : ∀ p ∈ data, ∀ bs, codec.appendCode p.1 = .ok bs → AllBytes bs) : EntriesOK es := by
  intro e he
  obtain ⟨p, hp, h1, h2, _⟩ := ((cidEntries_rel hes).mem_iff _ _).mp ⟨e, he, rfl, rfl⟩
  exact ⟨hbytes p hp _ h1 e.x (by simp), h2 ▸ hcid p hp⟩

theorem cview_setMapping {f f' : CMapFile} {parents : Chain} {codec : Codec} {data : List (Nat × Nat)}
    (h : setMapping f parents codec data = .ok f') :
    ∃ es, cidEntries codec parents data = .ok es ∧ cview f' = GFile.ofItems ((outOf es).map citem) := by
  obtain ⟨es, hes, hs, hr⟩ := setMapping_ok h
  exact ⟨es, hes, by rw [citem, GFile.ofItems_map, ← hs, ← hr]; rfl⟩

theorem setMapping_maps {f f' : CMapFile} {parents : Chain} {codec : Codec} {data : List (Nat × Nat)}
    (h : setMapping f parents codec data = .ok f') (hcid : ∀ p ∈ data, p.2 < 4294967296)
    (hbytes : ∀ p ∈ data, ∀ bs, codec.appendCode p.1 = .ok bs → AllBytes bs) (bytes : Bytes) (v : Nat) :
    (cview f').Maps bytes v ↔ ∃ p ∈ data, codec.appendCode p.1 = .ok bytes ∧ p.2 = v ∧
      ¬ (parents ≠ [] ∧ lookupMapped parents bytes = some v) := by
  obtain ⟨es, hes, hv⟩ := cview_setMapping h
  rw [hv, GFile.ofItems_maps, (outOf_renders es (cidEntries_ok hes hcid hbytes)).1,
    (cidEntries_rel hes).mem_iff]

theorem setMapping_maps_nil {f f' : CMapFile} {parents : Chain} {codec : Codec} {data : List (Nat × Nat)}
    (h : setMapping f parents codec data = .ok f') (hcid : ∀ p ∈ data, p.2 < 4294967296)
    (hbytes : ∀ p ∈ data, ∀ bs, codec.appendCode p.1 = .ok bs → AllBytes bs) (v : Nat) : ¬ (cview f').Maps [] v := by
  obtain ⟨es, hes, hv⟩ := cview_setMapping h
  rw [hv, GFile.ofItems_maps, (outOf_renders es (cidEntries_ok hes hcid hbytes)).1]
  rintro ⟨e, _, h0, _⟩
  simp at h0

/-- Second conjunct: the file has no mapping of its own for a byte string outside the map, so `LookupCID` answers with
the parents' mappings, then with the notdef entries of the whole chain (`lookupCID_cons`). -/
theorem lookupCID_setMapping {f f' : CMapFile} {parents : Chain} {codec : Codec} {data : List (Nat × Nat)}
    (h : setMapping f parents codec data = .ok f') (hcid : ∀ p ∈ data, p.2 < 4294967296)
    (hbytes : ∀ p ∈ data, ∀ bs, codec.appendCode p.1 = .ok bs → AllBytes bs)
    (hfun : ∀ p ∈ data, ∀ q ∈ data, codec.appendCode p.1 = codec.appendCode q.1 → p.2 = q.2) :
    (∀ p ∈ data, ∃ bs, codec.appendCode p.1 = .ok bs ∧ lookupCID (f' :: parents) bs = p.2) ∧
    (∀ bs, (∀ p ∈ data, codec.appendCode p.1 ≠ .ok bs) → (cview f').lookup bs = none) := by
  obtain ⟨l1, l2⟩ := (cview f').lookup_of_maps data codec.appendCode
    (fun b v => parents ≠ [] ∧ lookupMapped parents b = some v) (setMapping_maps h hcid hbytes) hfun
  refine ⟨fun p hp => ?_, l2⟩
  obtain ⟨es, hes, _⟩ := setMapping_ok h
  obtain ⟨bs, hbs⟩ := (cidEntries_rel hes).encodes p hp
  refine ⟨bs, hbs, ?_⟩
  rw [lookupCID_cons]
  -- a pair that was left out: the parents map `bs` to the same CID
  rcases l1 p hp bs hbs with ho | ⟨ho, hskip⟩
  · rw [ho]
  · rw [ho]; simp only [hskip.2]

/-- For every finite map `data` (codes with pairwise different byte
strings or at least no conflicting values, CIDs `< 2^32`), the file built by `SetMapping`
(without parent) answers `LookupCID` for every mapped code with the mapped CID, and for every
other byte string with the notdef result. -/
theorem lookup_setMapping (f f' : CMapFile) (codec : Codec) (data : List (Nat × Nat))
    (h : setMapping f [] codec data = .ok f')
    (hcid : ∀ p ∈ data, p.2 < 4294967296)
    (hbytes : ∀ p ∈ data, ∀ bs, codec.appendCode p.1 = .ok bs → AllBytes bs)
    (hfun : ∀ p ∈ data, ∀ q ∈ data, codec.appendCode p.1 = codec.appendCode q.1 → p.2 = q.2) :
    (∀ p ∈ data, ∃ bs, codec.appendCode p.1 = .ok bs ∧ lookupCID [f'] bs = p.2) ∧
    (∀ bs, (∀ p ∈ data, codec.appendCode p.1 ≠ .ok bs) → lookupCID [f'] bs = lookupNotdef [f'] bs) := by
  obtain ⟨l1, l2⟩ := lookupCID_setMapping h hcid hbytes hfun
  exact ⟨l1, fun bs hno => by rw [lookupCID_cons, l2 bs hno]; rfl⟩

end PdfVerif.C13ccb
