import PdfVerif.Props.C08fb
import PdfVerif.Lemmas.Digits
/-!
C06 (work package FB): round trips, for ALL rows and data.  Predictors: `png_row_rt` (every filter tag, also outside 0–4,
every `bytesPerPixel`), `tiff_row_rt` (1, 2, 4, 8, 16 bits, padding bits preserved, any initial `prevValues`), `rows_rt` (the
row framing of writer and reader around any row codec that inverts, incl. the zero padding of a final partial row), its
instances `png_rt` (ANY per-row choice of tags, predictor 15) and `tiff_rt`, `predictor_rt` (every parameter set
`Params.Validate` accepts).  Parameters: `params_rt_flate/lzw/ccitt` — `MakeFilter (Info f)` gives the effective parameters
(`effFlate`, `effLZW`, `effCCITT`: shorthands resolved), which select the same coder (`effFlate_same_coder`, `effCCITT_same_coder`); `names_spelled`: the spelling of keys and filter names.
-/
namespace PdfVerif.C06fb
open PdfVerif PdfVerif.FB

theorem paeth_mem (a b c : Nat) : paeth a b c = a ∨ paeth a b c = b ∨ paeth a b c = c := by
  fun_cases paeth a b c
  · exact Or.inl rfl
  · exact Or.inr (Or.inl rfl)
  · exact Or.inr (Or.inr rfl)

theorem paeth_lt (a b c : Nat) (ha : a < 256) (hb : b < 256) (hc : c < 256) : paeth a b c < 256 := by
  rcases paeth_mem a b c with h | h | h <;> omega

theorem paeth_left_on_tie (a b c : Nat) (h1 : ((a : Int) + b - c - a).natAbs ≤ ((a : Int) + b - c - b).natAbs)
    (h2 : ((a : Int) + b - c - a).natAbs ≤ ((a : Int) + b - c - c).natAbs) : paeth a b c = a := by
  unfold paeth; simp only []; rw [if_pos ⟨h1, h2⟩]

theorem paeth_spec (a b c : Nat) :
    let p : Int := (a : Int) + b - c
    (p - paeth a b c).natAbs ≤ (p - a).natAbs ∧ (p - paeth a b c).natAbs ≤ (p - b).natAbs ∧
    (p - paeth a b c).natAbs ≤ (p - c).natAbs := by
  intro p
  unfold paeth
  simp only []
  -- only the order of the three distances matters
  generalize ha : (p - a).natAbs = pa
  generalize hb : (p - b).natAbs = pb
  generalize hc : (p - c).natAbs = pc
  split
  · rw [ha]; clear ha hb hc; omega
  · split
    · rw [hb]; clear ha hb hc; omega
    · rw [hc]; clear ha hb hc; omega

example : paeth 10 20 15 = 15 := by decide      -- p = 15: upper left is nearest
example : paeth 3 3 3 = 3 := by decide
example : paeth 100 50 75 = 75 := by decide

theorem pngPredict_lt (alg l u ul : Nat) (hl : l < 256) (hu : u < 256) (hul : ul < 256) :
    pngPredict alg l u ul < 256 := by
  unfold pngPredict
  split
  · omega
  · omega
  · omega
  · omega
  · exact paeth_lt _ _ _ hl hu hul
  · omega

theorem nth_lt (l : List Nat) (i : Nat) (h : AllBytes l) : nth l i < 256 := by
  unfold nth
  rw [List.getD_eq_getElem?_getD]
  cases hget : l[i]? with
  | none => simp
  | some v =>
    simp
    exact h v (List.mem_of_getElem? hget)

theorem neighbours_lt (bpp : Nat) (s ps pr : Bytes) (hs : AllBytes s) (hps : AllBytes ps) (hpr : AllBytes pr) :
    (pngNeighbours bpp s ps pr).1 < 256 ∧ (pngNeighbours bpp s ps pr).2.1 < 256 ∧ (pngNeighbours bpp s ps pr).2.2 < 256 := by
  unfold pngNeighbours
  refine ⟨?_, ?_, ?_⟩
  · simp only []; split
    · exact nth_lt _ _ hs
    · omega
  · simp only []
    cases pr with
    | nil => simp
    | cons u rest => simp; exact (allBytes_cons u rest).1 hpr |>.1
  · simp only []; split
    · exact nth_lt _ _ hps
    · omega

theorem png_go_rt (alg bpp : Nat) (cur : Bytes) : ∀ (s ps pr : Bytes), AllBytes s → AllBytes ps → AllBytes pr → AllBytes cur →
    pngUnfilterGo alg bpp s ps pr (pngFilterGo alg bpp s ps pr cur) = cur := by
  induction cur with
  | nil => intros; simp [pngFilterGo, pngUnfilterGo]
  | cons c rest ih =>
    intro s ps pr hs hps hpr hcur
    obtain ⟨hc, hrest⟩ := (allBytes_cons c rest).1 hcur
    obtain ⟨h1, h2, h3⟩ := neighbours_lt bpp s ps pr hs hps hpr
    have hp := pngPredict_lt alg _ _ _ h1 h2 h3
    simp only [pngFilterGo, pngUnfilterGo]
    generalize hP : pngPredict alg (pngNeighbours bpp s ps pr).1 (pngNeighbours bpp s ps pr).2.1 (pngNeighbours bpp s ps pr).2.2 = P at hp
    have hcc : ((c + 256 - P) % 256 + P) % 256 = c := by omega
    rw [hcc]
    congr 1
    exact ih _ _ _ ((allBytes_cons c s).2 ⟨hc, hs⟩) ((allBytes_cons _ ps).2 ⟨h2, hps⟩)
      (fun b hb => hpr b (List.mem_of_mem_tail hb)) hrest

theorem png_row_rt (alg bpp : Nat) (prev cur : Bytes) (hp : AllBytes prev) (hc : AllBytes cur) :
    pngUnfilterRow alg bpp prev (pngFilterRow alg bpp prev cur) = cur := by
  unfold pngUnfilterRow pngFilterRow
  exact png_go_rt alg bpp cur [] [] prev (by simp) (by simp) hp hc

theorem pngFilterGo_length (alg bpp : Nat) (cur : Bytes) : ∀ s ps pr, (pngFilterGo alg bpp s ps pr cur).length = cur.length := by
  induction cur with
  | nil => intros; simp [pngFilterGo]
  | cons c rest ih => intro s ps pr; simp [pngFilterGo, ih]

theorem pngUnfilterGo_length (alg bpp : Nat) (enc : Bytes) : ∀ s ps pr, (pngUnfilterGo alg bpp s ps pr enc).length = enc.length := by
  induction enc with
  | nil => intros; simp [pngUnfilterGo]
  | cons c rest ih => intro s ps pr; simp [pngUnfilterGo, ih]

theorem pngFilterRow_length (alg bpp : Nat) (prev cur : Bytes) : (pngFilterRow alg bpp prev cur).length = cur.length :=
  pngFilterGo_length alg bpp cur [] [] prev

/-- the data as the writer sees it: whole rows, the last one zero padded -/
def padRows (rb : Nat) : Nat → Bytes → Bytes
  | 0, _ => []
  | fuel + 1, data =>
    if data.isEmpty then []
    else
      let row := data.take rb
      (row ++ List.replicate (rb - row.length) 0) ++ padRows rb fuel (data.drop rb)

theorem allBytes_take (l : Bytes) (n : Nat) (h : AllBytes l) : AllBytes (l.take n) :=
  fun b hb => h b (List.mem_of_mem_take hb)
theorem allBytes_drop (l : Bytes) (n : Nat) (h : AllBytes l) : AllBytes (l.drop n) :=
  fun b hb => h b (List.mem_of_mem_drop hb)
theorem allBytes_replicate0 (n : Nat) : AllBytes (List.replicate n 0) := by
  intro b hb; rw [List.mem_replicate] at hb; omega

theorem encRows_succ (g : Geo) (fuel : Nat) (tags prev data : Bytes) (hd : data.isEmpty = false) :
    encRows g (fuel + 1) tags prev data =
      encRow g (tags.headD 0) prev
        (data.take g.rowBytes ++ List.replicate (g.rowBytes - (data.take g.rowBytes).length) 0) ++
      encRows g fuel tags.tail (data.take g.rowBytes ++ List.replicate (g.rowBytes - (data.take g.rowBytes).length) 0)
        (data.drop g.rowBytes) := by
  conv => lhs; unfold encRows
  simp only [hd]
  cases tags <;> rfl

/-- bytes the reader takes per row: a PNG row carries its tag byte -/
def encLen (g : Geo) : Nat := if g.predictor = 2 then g.rowBytes else g.rowBytes + 1

/-- one turn of the model's `decRows`: the TIFF reader starts every row from zeroed `prevValues`, the PNG reader un-filters
against the previous row -/
def decRow (g : Geo) (prev enc : Bytes) : Bytes :=
  if g.predictor = 2 then tiffRow true g.bpc g.colors g.columns (List.replicate g.colors 0) enc
  else match enc with
    | [] => []
    | tag :: body => pngUnfilterRow tag g.bpp prev body

theorem decRows_succ (g : Geo) (fuel : Nat) (prev data : Bytes) (hd : data.isEmpty = false)
    (hl : ¬ data.length < encLen g) :
    decRows g (fuel + 1) prev data =
      (decRow g prev (data.take (encLen g)) ++
          (decRows g fuel (decRow g prev (data.take (encLen g))) (data.drop (encLen g))).1,
        (decRows g fuel (decRow g prev (data.take (encLen g))) (data.drop (encLen g))).2) := by
  conv => lhs; unfold decRows
  simp only [hd, Bool.false_eq_true, if_false]
  exact if_neg hl

theorem decRows_stop (g : Geo) (fuel : Nat) (prev data : Bytes)
    (h : data.isEmpty = true ∨ data.length < encLen g) : (decRows g (fuel + 1) prev data).1 = [] := by
  unfold decRows
  by_cases he : data.isEmpty = true
  · rw [if_pos he]
  · rw [if_neg he]; exact congrArg Prod.fst (if_pos (h.resolve_left he))

/-- the row framing of writer and reader around ANY row codec that inverts: `I` relates the
previous-row buffers of the two sides (equal for PNG, unrelated for TIFF) -/
theorem rows_rt (g : Geo) (hrb : 1 ≤ g.rowBytes) (I : Bytes → Bytes → Prop) (hI : ∀ row, AllBytes row → I row row)
    (hrow : ∀ tag prev prevD row, I prev prevD → AllBytes row → row.length = g.rowBytes →
      (encRow g tag prev row).length = encLen g ∧ decRow g prevD (encRow g tag prev row) = row) :
    ∀ (fuelE : Nat) (data prev prevD tags : Bytes) (fuelD : Nat), AllBytes data → I prev prevD →
      data.length < fuelE → (encRows g fuelE tags prev data).length < fuelD →
      decRows g fuelD prevD (encRows g fuelE tags prev data) = (padRows g.rowBytes fuelE data, true) := by
  intro fuelE
  induction fuelE with
  | zero => intro data _ _ _ _ _ _ h; omega
  | succ fuel ih =>
    intro data prev prevD tags fuelD hdata hprev hfe hfd
    cases hd : data.isEmpty with
    | true =>
      simp only [encRows, padRows, hd, if_true]
      cases fuelD <;> rfl
    | false =>
      rw [encRows_succ g fuel tags prev data hd] at hfd ⊢
      simp only [padRows, hd, Bool.false_eq_true, if_false]
      generalize hr : data.take g.rowBytes ++ List.replicate (g.rowBytes - (data.take g.rowBytes).length) 0 = row at *
      have hrowlen : row.length = g.rowBytes := by rw [← hr]; simp [List.length_take]; omega
      have hrowB : AllBytes row := by
        rw [← hr]; exact (allBytes_append _ _).2 ⟨allBytes_take _ _ hdata, allBytes_replicate0 _⟩
      obtain ⟨hlen, hdec⟩ := hrow (tags.headD 0) prev prevD row hprev hrowB hrowlen
      generalize encRow g (tags.headD 0) prev row = E at hfd hlen hdec ⊢
      have hpos : 1 ≤ encLen g := by unfold encLen; split <;> omega
      rw [List.length_append, hlen] at hfd
      have hdata0 : data.length ≠ 0 := fun h0 => by simp [List.length_eq_zero_iff.1 h0] at hd
      cases fuelD with
      | zero => omega
      | succ fd =>
        have hne : (E ++ encRows g fuel tags.tail row (data.drop g.rowBytes)).isEmpty = false := by
          cases E with
          | nil => simp at hlen; omega
          | cons => rfl
        rw [decRows_succ g fd prevD _ hne (by simp [hlen]), List.take_left' hlen, List.drop_left' hlen, hdec,
          ih _ row row tags.tail fd (allBytes_drop _ _ hdata) (hI row hrowB) (by simp; omega) (by omega)]

theorem png_rows_rt (g : Geo) (hpng : 10 ≤ g.predictor ∧ g.predictor ≤ 15) (hrb : 1 ≤ g.rowBytes) :
    ∀ (fuelE : Nat) (data prev tags : Bytes) (fuelD : Nat), AllBytes data → AllBytes prev →
      data.length < fuelE → (encRows g fuelE tags prev data).length < fuelD →
      decRows g fuelD prev (encRows g fuelE tags prev data) = (padRows g.rowBytes fuelE data, true) := by
  have hp2 : g.predictor ≠ 2 := by omega
  intro fuelE data prev tags fuelD hdata hprev
  refine rows_rt g hrb (fun a b => a = b ∧ AllBytes a) (fun _ h => ⟨rfl, h⟩) ?_ fuelE data prev prev tags fuelD hdata ⟨rfl, hprev⟩
  rintro tag prev _ row ⟨rfl, hprev⟩ hrow hlen
  unfold encRow encLen decRow
  rw [if_neg hp2, if_neg hp2, if_neg hp2]
  exact ⟨by simp [pngFilterRow_length, hlen], png_row_rt _ _ _ _ hprev hrow⟩

theorem submod_addmod (c pv m : Nat) (hm : 0 < m) (hc : c < m) : ((c + m - pv % m) % m + pv) % m = c := by
  have hq : pv % m < m := Nat.mod_lt _ hm
  have hd := Nat.div_add_mod pv m
  rw [Nat.mod_add_mod, show c + m - pv % m + pv = c + m * (pv / m + 1) by rw [Nat.mul_succ]; omega,
    Nat.add_mul_mod_self_left, Nat.mod_eq_of_lt hc]

theorem nth_set_eq (l : List Nat) (k v : Nat) (h : k < l.length) : nth (l.set k v) k = v := by
  simp [nth, List.getD_eq_getElem?_getD, h]

theorem nth_set_ne (l : List Nat) (k j v : Nat) (h : k ≠ j) : nth (l.set k v) j = nth l j := by
  simp [nth, List.getD_eq_getElem?_getD, h]

/-- the two `prevValues` arrays agree wherever they will be read: inside the first pixel (`idx < colors`) only in the
slots already written, from the second pixel on in all -/
def Agree (colors idx : Nat) (pvE pvD : List Nat) : Prop :=
  ∀ k, k < colors → (k < idx ∨ colors ≤ idx) → nth pvE k = nth pvD k

/-- the component loops of writer and reader from component `idx` on; `n = Colors·Columns`, and components from `n` on are
padding and are copied -/
theorem tiffC_rt (m colors n : Nat) (hm : 0 < m) (hcol : 0 < colors) (hn : colors ≤ n) (cs : List Nat) : ∀ idx pvE pvD,
    (∀ c ∈ cs, c < m) → pvE.length = colors → pvD.length = colors → Agree colors idx pvE pvD →
    (tiffEncC m colors n idx pvE cs).1.length = cs.length ∧
    (tiffEncC m colors n idx pvE cs).2.length = colors ∧
    (∀ o ∈ (tiffEncC m colors n idx pvE cs).1, o < m) ∧
    (tiffDecC m colors n idx pvD (tiffEncC m colors n idx pvE cs).1).1 = cs ∧
    (tiffDecC m colors n idx pvD (tiffEncC m colors n idx pvE cs).1).2.length = colors ∧
    Agree colors (idx + cs.length) (tiffEncC m colors n idx pvE cs).2 (tiffDecC m colors n idx pvD (tiffEncC m colors n idx pvE cs).1).2 := by
  induction cs with
  | nil => intro idx pvE pvD _ hE hD hA; simp [tiffEncC, tiffDecC, hE, hD]; exact hA
  | cons c rest ih =>
    intro idx pvE pvD hcs hE hD hA
    have hc : c < m := hcs c (by simp)
    have hrest : ∀ c ∈ rest, c < m := fun x hx => hcs x (by simp [hx])
    rw [show idx + (c :: rest).length = idx + 1 + rest.length by simp; omega]
    by_cases hni : n ≤ idx
    · obtain ⟨h1, h2, h3, h4, h5, h6⟩ :=
        ih (idx + 1) pvE pvD hrest hE hD fun k hk _ => hA k hk (Or.inr (by omega))
      simp only [tiffEncC, hni, if_true, tiffDecC, List.length_cons, List.mem_cons, forall_eq_or_imp]
      exact ⟨by rw [h1], h2, ⟨hc, h3⟩, by rw [h4], h5, h6⟩
    · have hk : idx % colors < colors := Nat.mod_lt _ hcol
      have hA' : Agree colors (idx + 1) (pvE.set (idx % colors) c) (pvD.set (idx % colors) c) := by
        intro k hkc hcond
        by_cases hkk : idx % colors = k
        · subst hkk; rw [nth_set_eq _ _ _ (by omega), nth_set_eq _ _ _ (by omega)]
        · rw [nth_set_ne _ _ _ _ hkk, nth_set_ne _ _ _ _ hkk]
          apply hA k hkc
          by_cases hi : idx < colors
          · have : idx % colors = idx := Nat.mod_eq_of_lt hi
            left; omega
          · right; omega
      obtain ⟨h1, h2, h3, h4, h5, h6⟩ :=
        ih (idx + 1) (pvE.set (idx % colors) c) (pvD.set (idx % colors) c) hrest (by simp [hE]) (by simp [hD]) hA'
      simp only [tiffEncC, hni, if_false, tiffDecC, List.length_cons, List.mem_cons, forall_eq_or_imp]
      generalize ho : (if idx < colors then c else (c + m - nth pvE (idx % colors) % m) % m) = o
      have hval : (if idx < colors then o else (o + nth pvD (idx % colors)) % m) = c ∧ o < m := by
        subst ho
        by_cases hi : idx < colors
        · simp [hi, hc]
        · simp only [hi, if_false]
          rw [← hA (idx % colors) hk (Or.inr (by omega))]
          exact ⟨submod_addmod c _ m hm hc, Nat.mod_lt _ hm⟩
      rw [hval.1]
      exact ⟨by rw [h1], h2, ⟨hval.2, h3⟩, by rw [h4], h5, h6⟩

def subByte (bpc : Nat) : Prop := bpc = 1 ∨ bpc = 2 ∨ bpc = 4 ∨ bpc = 8

theorem unpack_length (bpc b : Nat) : (unpackByte bpc b).length = compsPerByte bpc := by
  unfold unpackByte compsPerByte; split <;> simp

theorem byte_base {bpc : Nat} (h : subByte bpc) : (2 ^ bpc) ^ compsPerByte bpc = 256 := by
  rcases h with rfl | rfl | rfl | rfl <;> rfl

/-- `unpackByte`/`packByte` are the tables of digits and value in the four bases 2, 4, 16, 256 -/
theorem unpackByte_eq (bpc b : Nat) (hb : b < 256) (h : subByte bpc) :
    unpackByte bpc b = Digits.be (2 ^ bpc) b (compsPerByte bpc) := by
  rcases h with h | h | h | h <;> subst h <;> simp [unpackByte, compsPerByte, Digits.be, Digits.dig, Nat.mod_eq_of_lt hb]

theorem packByte_eq (bpc : Nat) (cs : List Nat) (h : subByte bpc) (hl : cs.length = compsPerByte bpc) :
    packByte bpc cs = Digits.val (2 ^ bpc) cs 0 := by
  rcases h with h | h | h | h <;> subst h
  · match cs, hl with
    | [a, b, c, d, e, f, g, i], _ => simp only [packByte, Digits.val]; omega
  · match cs, hl with
    | [a, b, c, d], _ => simp only [packByte, Digits.val]; omega
  · match cs, hl with
    | [a, b], _ => simp only [packByte, Digits.val]; omega
  · match cs, hl with
    | [a], _ => simp only [packByte, Digits.val]; omega

theorem unpack_bound (bpc b : Nat) (hb : b < 256) (h : subByte bpc) : ∀ c ∈ unpackByte bpc b, c < 2 ^ bpc := by
  rw [unpackByte_eq bpc b hb h]; exact Digits.be_lt (Nat.pow_pos (by omega)) _ _

theorem pack_unpack (bpc b : Nat) (hb : b < 256) (h : subByte bpc) : packByte bpc (unpackByte bpc b) = b := by
  rw [unpackByte_eq bpc b hb h, packByte_eq bpc _ h (Digits.be_length ..), Digits.val_be, byte_base h, Nat.mod_eq_of_lt hb,
    Nat.zero_mul, Nat.zero_add]

theorem unpack_pack (bpc : Nat) (h : subByte bpc) (cs : List Nat) (hl : cs.length = compsPerByte bpc)
    (hb : ∀ c ∈ cs, c < 2 ^ bpc) : unpackByte bpc (packByte bpc cs) = cs := by
  have hlt := Digits.val_lt cs hb
  rw [hl, byte_base h] at hlt
  rw [packByte_eq bpc cs h hl, unpackByte_eq _ _ hlt h, ← hl, Digits.be_val cs hb]

theorem tiffBytes_length (dec : Bool) (bpc colors n : Nat) (row : Bytes) : ∀ idx pv,
    (tiffBytes dec bpc colors n idx pv row).length = row.length := by
  induction row with
  | nil => intros; simp [tiffBytes]
  | cons b rest ih => intro idx pv; simp [tiffBytes, ih]

theorem tiffBytes_rt (bpc colors n : Nat) (h : subByte bpc) (hcol : 0 < colors) (hn : colors ≤ n) (row : Bytes) :
    ∀ idx pvE pvD, AllBytes row → pvE.length = colors → pvD.length = colors → Agree colors idx pvE pvD →
    tiffBytes true bpc colors n idx pvD (tiffBytes false bpc colors n idx pvE row) = row := by
  induction row with
  | nil => intros; simp [tiffBytes]
  | cons b rest ih =>
    intro idx pvE pvD hrow hE hD hA
    obtain ⟨hb, hrest⟩ := (allBytes_cons b rest).1 hrow
    have hm : 0 < 2 ^ bpc := Nat.pow_pos (by omega)
    obtain ⟨l1, l2, hbound, r1, r2, r3⟩ := tiffC_rt (2 ^ bpc) colors n hm hcol hn (unpackByte bpc b) idx pvE pvD
      (unpack_bound bpc b hb h) hE hD hA
    simp only [tiffBytes, Bool.false_eq_true, if_false, if_true]
    rw [unpack_pack bpc h _ (by rw [l1, unpack_length]) hbound]
    rw [r1, pack_unpack bpc b hb h]
    congr 1
    rw [unpack_length] at r3
    exact ih _ _ _ hrest l2 r2 r3

/-- one component in, one out: the `match` of `tiffBytes16` always takes its first branch -/
theorem tiffC_one (dec : Bool) (m colors n idx : Nat) (pv : List Nat) (v : Nat) :
    ∃ c, (if dec then tiffDecC m colors n idx pv [v] else tiffEncC m colors n idx pv [v]).1 = [c] := by
  cases dec <;> simp only [Bool.false_eq_true, if_false, if_true, tiffEncC, tiffDecC] <;> split <;> exact ⟨_, rfl⟩

theorem tiffBytes16_length (dec : Bool) (colors n : Nat) : ∀ (row : Bytes) (idx : Nat) (pv : List Nat),
    (tiffBytes16 dec colors n idx pv row).length = row.length
  | [], _, _ => by simp [tiffBytes16]
  | [_], _, _ => by simp [tiffBytes16]
  | hi :: lo :: rest, idx, pv => by
    obtain ⟨c, hc⟩ := tiffC_one dec 65536 colors n idx pv (hi * 256 + lo)
    simp only [tiffBytes16, hc, List.length_cons, tiffBytes16_length dec colors n rest]

theorem tiffBytes16_rt (colors n : Nat) (hcol : 0 < colors) (hn : colors ≤ n) : ∀ (row : Bytes) idx pvE pvD,
    AllBytes row → pvE.length = colors → pvD.length = colors → Agree colors idx pvE pvD →
    tiffBytes16 true colors n idx pvD (tiffBytes16 false colors n idx pvE row) = row
  | [], _, _, _, _, _, _, _ => by simp [tiffBytes16]
  | [_], _, _, _, _, _, _, _ => by simp [tiffBytes16]
  | hi :: lo :: rest, idx, pvE, pvD, hrow, hE, hD, hA => by
    simp only [allBytes_cons] at hrow
    obtain ⟨hhi, hlo, hrest⟩ := hrow
    have hv : ∀ c ∈ [hi * 256 + lo], c < 65536 := by intro c hc; simp at hc; omega
    obtain ⟨_, l2, hbound, r1, r2, r3⟩ :=
      tiffC_rt 65536 colors n (by omega) hcol hn [hi * 256 + lo] idx pvE pvD hv hE hD hA
    obtain ⟨c, hr⟩ := tiffC_one false 65536 colors n idx pvE (hi * 256 + lo)
    simp only [Bool.false_eq_true, if_false] at hr
    have hc : c < 65536 := hbound c (by rw [hr]; exact List.mem_singleton_self c)
    rw [hr] at r1 r2 r3
    simp only [tiffBytes16, Bool.false_eq_true, if_false, if_true, hr,
      show c / 256 * 256 + c % 256 = c by omega, r1,
      show (hi * 256 + lo) / 256 = hi by omega, show (hi * 256 + lo) % 256 = lo by omega]
    congr 2
    exact tiffBytes16_rt colors n hcol hn rest _ _ _ hrest l2 r2 (by simpa using r3)

theorem agree_zero (colors : Nat) (pvE pvD : List Nat) : Agree colors 0 pvE pvD := by
  intro k hk h; omega

/-- TIFF predictor 2, one row, every bit depth: any two initial `prevValues` arrays -/
theorem tiff_row_rt (bpc colors columns : Nat) (hb : subByte bpc ∨ bpc = 16) (hcol : 1 ≤ colors) (hcols : 1 ≤ columns)
    (pvE pvD : List Nat) (hE : pvE.length = colors) (hD : pvD.length = colors) (row : Bytes) (hrow : AllBytes row) :
    tiffRow true bpc colors columns pvD (tiffRow false bpc colors columns pvE row) = row := by
  have hn : colors ≤ colors * columns := Nat.le_mul_of_pos_right _ hcols
  unfold tiffRow
  by_cases h16 : bpc = 16
  · simp only [h16, if_true]
    exact tiffBytes16_rt colors _ hcol hn row 0 pvE pvD hrow hE hD (agree_zero colors _ _)
  · simp only [h16, if_false]
    have hs : subByte bpc := by rcases hb with h | h; exact h; exact absurd h h16
    exact tiffBytes_rt bpc colors _ hs hcol hn row 0 pvE pvD hrow hE hD (agree_zero colors _ _)

theorem tiffRow_length (dec : Bool) (bpc colors columns : Nat) (pv : List Nat) (row : Bytes) :
    (tiffRow dec bpc colors columns pv row).length = row.length := by
  unfold tiffRow; split
  · exact tiffBytes16_length dec colors _ row 0 pv
  · exact tiffBytes_length dec bpc colors _ row 0 pv

theorem replicate_length_self (n : Nat) : (List.replicate n 0 : List Nat).length = n := by simp

theorem tiff_rows_rt (g : Geo) (hp : g.predictor = 2) (hrb : 1 ≤ g.rowBytes)
    (hb : subByte g.bpc ∨ g.bpc = 16) (hcol : 1 ≤ g.colors) (hcols : 1 ≤ g.columns) :
    ∀ (fuelE : Nat) (data prev tags : Bytes) (fuelD : Nat) (prevD : Bytes), AllBytes data →
      data.length < fuelE → (encRows g fuelE tags prev data).length < fuelD →
      decRows g fuelD prevD (encRows g fuelE tags prev data) = (padRows g.rowBytes fuelE data, true) := by
  intro fuelE data prev tags fuelD prevD hdata
  refine rows_rt g hrb (fun _ _ => True) (fun _ _ => trivial) ?_ fuelE data prev prevD tags fuelD hdata trivial
  intro tag prev _ row _ hrow hlen
  unfold encRow encLen decRow
  rw [if_pos hp, if_pos hp, if_pos hp]
  exact ⟨by rw [tiffRow_length, hlen],
    tiff_row_rt g.bpc g.colors g.columns hb hcol hcols _ _ (by simp) (by simp) row hrow⟩

theorem padRows_whole (rb : Nat) (hrb : 1 ≤ rb) : ∀ (fuel : Nat) (data : Bytes), data.length < fuel →
    data.length % rb = 0 → padRows rb fuel data = data := by
  intro fuel
  induction fuel with
  | zero => intro data h; omega
  | succ f ih =>
    intro data hf hm
    cases hd : data.isEmpty with
    | true => simp [padRows, hd]; exact (List.isEmpty_iff.1 hd)
    | false =>
      have hne : data.length ≠ 0 := by
        intro h0; have := List.length_eq_zero_iff.1 h0; simp [this] at hd
      have hge : rb ≤ data.length := by
        rcases Nat.lt_or_ge data.length rb with h | h
        · rw [Nat.mod_eq_of_lt h] at hm; omega
        · exact h
      simp only [padRows, hd, Bool.false_eq_true, if_false]
      have h1 : (List.take rb data).length = rb := by simp [List.length_take]; omega
      rw [h1, Nat.sub_self]
      simp only [List.replicate_zero, List.append_nil]
      rw [ih (data.drop rb) (by simp [List.length_drop]; omega)
        (by rw [List.length_drop, ← Nat.mod_eq_sub_mod hge]; exact hm)]
      exact List.take_append_drop rb data

theorem png_rt (g : Geo) (hpng : 10 ≤ g.predictor ∧ g.predictor ≤ 15) (hrb : 1 ≤ g.rowBytes)
    (tags data : Bytes) (hdata : AllBytes data) :
    decodeStream g (encodeStream g tags data) = (padRows g.rowBytes (data.length + 1) data, true) := by
  unfold decodeStream encodeStream
  rw [if_neg (by omega), if_neg (by omega)]
  exact png_rows_rt g hpng hrb _ data _ tags _ hdata (allBytes_replicate0 _) (by omega) (by omega)

theorem tiff_rt (g : Geo) (hp : g.predictor = 2) (hrb : 1 ≤ g.rowBytes)
    (hb : subByte g.bpc ∨ g.bpc = 16) (hcol : 1 ≤ g.colors) (hcols : 1 ≤ g.columns)
    (tags data : Bytes) (hdata : AllBytes data) :
    decodeStream g (encodeStream g tags data) = (padRows g.rowBytes (data.length + 1) data, true) := by
  unfold decodeStream encodeStream
  rw [if_neg (by omega), if_neg (by omega)]
  exact tiff_rows_rt g hp hrb hb hcol hcols _ data _ tags _ _ hdata (by omega) (by omega)

/-- for every parameter set `Params.Validate` accepts and every data made of
whole rows, the reader returns exactly what was written (predictor 15: whatever tags the writer
chose). -/
theorem predictor_rt (p : PParams) (hv : p.validate = true) (tags data : Bytes) (hdata : AllBytes data)
    (hwhole : p.predictor ≠ 1 → data.length % p.geo.rowBytes = 0) :
    decodeStream p.geo (encodeStream p.geo tags data) = (data, true) := by
  by_cases h1 : p.predictor = 1
  · simp [decodeStream, encodeStream, PParams.geo, h1]
  · obtain ⟨hr, hpred, hrow⟩ := C08fb.validate_reached p hv h1
    obtain ⟨b1, b2, b3, b4, _⟩ := C08fb.predict_buffers_bounded p hv h1
    have hrb : 1 ≤ p.geo.rowBytes := by simp [PParams.geo]; omega
    have hw := hwhole h1
    have hpad := padRows_whole p.geo.rowBytes hrb (data.length + 1) data (by omega) hw
    rcases hpred with h2 | h2
    · have hg2 : p.geo.predictor = 2 := by simp [PParams.geo, h2]
      have hb : subByte p.geo.bpc ∨ p.geo.bpc = 16 := by
        have := hr.bpc
        simp only [PParams.geo, subByte]
        rcases this with h | h | h | h | h <;> rw [h] <;> simp
      have hcol : 1 ≤ p.geo.colors := by have := hr.colors; simp [PParams.geo]; omega
      have hcols : 1 ≤ p.geo.columns := by have := hr.columns; simp [PParams.geo]; omega
      rw [tiff_rt p.geo hg2 hrb hb hcol hcols tags data hdata, hpad]
    · have hg : 10 ≤ p.geo.predictor ∧ p.geo.predictor ≤ 15 := by simp [PParams.geo]; omega
      rw [png_rt p.geo hg hrb tags data hdata, hpad]

example : (⟨3, 8, 2, 14⟩ : PParams).validate = true := by decide
example : decodeStream (⟨3, 8, 2, 14⟩ : PParams).geo (encodeStream (⟨3, 8, 2, 14⟩ : PParams).geo [] [1, 2, 3, 250, 5, 6, 9, 8, 7, 6, 5, 4])
    = ([1, 2, 3, 250, 5, 6, 9, 8, 7, 6, 5, 4], true) := by decide +kernel

/-- the parameters that take effect: the documented shorthands resolved (0 ↦ default), fields
that are not used without a predictor cleared -/
def effFlate (f : FFlate) : FFlate :=
  if usingPredictor f.predictor then
    ⟨f.predictor, if f.colors = 0 then 1 else f.colors, if f.bpc = 0 then 8 else f.bpc, if f.columns = 0 then 1 else f.columns⟩
  else ⟨1, 0, 0, 0⟩

/-- the keys are told apart by evaluation -/
theorem lookup_toDict (f : FFlate) (hu : usingPredictor f.predictor = true) :
    getInt f.toDict kPredictor = some f.predictor ∧
    getInt f.toDict kColors = (if f.colors ≠ 0 ∧ f.colors ≠ 1 then some f.colors else none) ∧
    getInt f.toDict kBitsPerComponent = (if f.bpc ≠ 0 ∧ f.bpc ≠ 8 then some f.bpc else none) ∧
    getInt f.toDict kColumns = (if f.columns ≠ 0 ∧ f.columns ≠ 1 then some f.columns else none) := by
  unfold FFlate.toDict
  rw [if_pos hu]
  refine ⟨rfl, C08fb.getInt_of_dlookup ?_, C08fb.getInt_of_dlookup ?_, C08fb.getInt_of_dlookup ?_⟩ <;>
    simp +decide only [C08fb.dlookup_append, C08fb.dlookup_ite, dlookup, if_false, and_true, and_false,
      Option.or_none, Option.none_or]

/-- each parser is `readOpt` of a lookup (`parse*_eq`); `lookup_toDict` says what the lookups in the dictionary of `Info`
find, `readOpt_written` what is then read: the value, or the default for a left-out entry -/
theorem params_rt_core (f : FFlate) (v : Nat)
    (hv : validateFlateLZW v f.predictor f.colors f.bpc f.columns = true) (hc : f.colors ≤ maxInt) :
    parseFlate f.toDict = effFlate f := by
  obtain ⟨hpv, hr⟩ := (C08fb.validateFlateLZW_iff ..).1 hv
  unfold parseFlate effFlate
  by_cases hu : usingPredictor f.predictor = true
  · obtain ⟨l1, l2, l3, l4⟩ := lookup_toDict f hu
    have hne := (C08fb.usingPredictor_iff _).1 hu
    rw [if_neg (by omega)] at hr
    obtain ⟨hcol, hb, hcl, _⟩ := hr
    have hpp : parsePredictor f.toDict = f.predictor := by
      rw [C08fb.parsePredictor_eq, l1]; exact if_pos ⟨(C08fb.predictorValid_iff _).2 hpv, hne.1⟩
    rw [hpp, C08fb.predictorNone_eq, if_pos hne.2, if_pos hu, C08fb.parseColors_eq, C08fb.parseBpc_eq,
      C08fb.parseColumns_eq, l2, l3, l4, C08fb.readOpt_written _ _ _ (hcol.imp_right fun h => ⟨h.1, hc⟩),
      C08fb.readOpt_written _ _ _ (by omega), C08fb.readOpt_written _ _ _ hcl]
  · have hd : f.toDict = [] := if_neg hu
    rw [hd, if_neg hu]
    rfl

def effCCITT (f : FCCITT) : FCCITT :=
  { f with k := if f.k < 0 then -1 else f.k, columns := if f.columns = 0 then 1728 else f.columns }

theorem lookups_ccitt (f : FCCITT) :
    getInt f.toDict kK = (if f.k ≠ 0 then some f.k else none) ∧
    getBool f.toDict kEndOfLine = (if f.endOfLine then some true else none) ∧
    getBool f.toDict kEncodedByteAlign = (if f.byteAlign then some true else none) ∧
    getInt f.toDict kColumns = (if f.columns ≠ 0 ∧ f.columns ≠ 1728 then some f.columns else none) ∧
    getInt f.toDict kRows = (if f.rows > 0 then some f.rows else none) ∧
    getBool f.toDict kEndOfBlock = (if f.ignoreEOB then some false else none) ∧
    getBool f.toDict kBlackIs1 = (if f.blackIs1 then some true else none) ∧
    getInt f.toDict kDamaged = (if f.damaged > 0 then some f.damaged else none) := by
  unfold FCCITT.toDict
  refine ⟨C08fb.getInt_of_dlookup ?_, C08fb.getBool_of_dlookup ?_, C08fb.getBool_of_dlookup ?_, C08fb.getInt_of_dlookup ?_,
      C08fb.getInt_of_dlookup ?_, C08fb.getBool_of_dlookup ?_, C08fb.getBool_of_dlookup ?_, C08fb.getInt_of_dlookup ?_⟩ <;>
    simp +decide only [C08fb.dlookup_append, C08fb.dlookup_optEntry, bne_iff_ne, Bool.and_eq_true, decide_eq_true_eq,
      and_true, and_false, if_false, Option.or_none, Option.none_or]

/-- for every filter value accepted by `validate`,
`parseCCITTFax (Info f)` is `f` with the shorthands resolved (`Columns` 0 ↦ 1728, every negative
`K` ↦ -1 which selects the same Group 4 coder) -/
theorem params_rt_parseCCITT (f : FCCITT) (hv : f.validate = true) (hk : f.k ≤ maxInt) :
    parseCCITTFax f.toDict = effCCITT f := by
  have hdp : maxDimP = 1048576 := by decide
  obtain ⟨hc, hr, hd⟩ := (C08fb.ccitt_validate_iff f).mp hv
  obtain ⟨lK, lE, lA, lC, lR, lB, lI, lD⟩ := lookups_ccitt f
  have eK : parseK f.toDict = (if f.k < 0 then -1 else f.k) := by
    unfold parseK; rw [lK]
    by_cases h0 : f.k = 0
    · simp [h0]
    · simp only [ne_eq, h0, not_false_eq_true, if_true, if_neg (Int.not_lt.2 hk)]
  have eB : parseIgnoreEOB f.toDict = f.ignoreEOB := by
    unfold parseIgnoreEOB; rw [lB]; cases f.ignoreEOB <;> rfl
  have eC : parseDim f.toDict kColumns 1728 = f.cols := by
    rw [C08fb.parseDim_eq, lC, C08fb.readOpt_written _ _ _ (by omega)]; rfl
  have eR : parseDim f.toDict kRows 0 = f.rows := by
    have hg : geoMax f.cols ≤ 65536 := (C08fb.geoMax_pos f.cols).2
    rw [C08fb.parseDim_eq, lR, C08fb.readOpt_ite]; omega
  have eD : parseDim f.toDict kDamaged 0 = f.damaged := by
    rw [C08fb.parseDim_eq, lD, C08fb.readOpt_ite]; omega
  unfold parseCCITTFax effCCITT
  rw [eK, C08fb.parseFlag_written lE, C08fb.parseFlag_written lA, C08fb.parseFlag_written lI, eB, eC, eR, eD,
    Int.min_eq_left (by omega)]
  rfl

def effLZW (f : FLZW) : FLZW :=
  ⟨(effFlate f.toFlate).predictor, (effFlate f.toFlate).colors, (effFlate f.toFlate).bpc, (effFlate f.toFlate).columns, f.offByOne⟩

/-- the entry `FilterLZW.Info` appends is invisible under every other key: `parseFlate` reads the
same with or without it -/
theorem lzw_lookup (f : FLZW) (key : Bytes) (hk : key ≠ kEarlyChange) :
    getInt f.toDict key = getInt f.toFlate.toDict key := by
  unfold getInt FLZW.toDict
  rw [C08fb.dlookup_append, C08fb.dlookup_ite, if_neg fun h => hk h.2.symm, Option.or_none]

theorem lzw_lookup_earlyChange (f : FLZW) :
    getInt f.toDict kEarlyChange = if f.offByOne then none else some 0 := by
  have h : dlookup kEarlyChange f.toFlate.toDict = none := by
    unfold FFlate.toDict
    split
    · simp +decide only [C08fb.dlookup_append, C08fb.dlookup_ite, dlookup, if_false, and_false, Option.or_none]
    · rfl
  unfold getInt FLZW.toDict
  rw [C08fb.dlookup_append, h, Option.none_or, C08fb.dlookup_ite]
  cases f.offByOne <;> rfl

theorem params_rt_parseLZW (f : FLZW) (v : Nat) (hv : f.validate v = true) (hc : f.colors ≤ maxInt) :
    parseLZW f.toDict = effLZW f := by
  have e : parseFlate f.toDict = parseFlate f.toFlate.toDict := by
    unfold parseFlate parsePredictor parseColors parseBpc parseColumns
    rw [lzw_lookup f _ (by decide), lzw_lookup f _ (by decide), lzw_lookup f _ (by decide), lzw_lookup f _ (by decide)]
  unfold parseLZW effLZW
  rw [e, params_rt_core f.toFlate v hv hc, lzw_lookup_earlyChange]
  cases f.offByOne <;> rfl

/-- the parameter round trip at the `MakeFilter` level: `MakeFilter (Info f) ≈ f` for Flate, LZW and CCITTFax
(`FilterCompress`, which writes Flate from PDF 1.2 on and LZW before, is not modelled) -/
theorem params_rt_flate (f : FFlate) (v : Nat) (hv : f.validate v = true) (hc : f.colors ≤ maxInt) :
    makeFilter nFlate f.toDict = .ok (.flate (effFlate f)) := by
  -- the dispatch on the filter name is closed: evaluation
  rw [← params_rt_core f v (C08fb.flate_validate hv) hc]; rfl

theorem params_rt_lzw (f : FLZW) (v : Nat) (hv : f.validate v = true) (hc : f.colors ≤ maxInt) :
    makeFilter nLZW f.toDict = .ok (.lzw (effLZW f)) := by
  rw [← params_rt_parseLZW f v hv hc]; rfl

theorem params_rt_ccitt (f : FCCITT) (hv : f.validate = true) (hk : f.k ≤ maxInt) :
    makeFilter nCCITT f.toDict = .ok (.ccitt (effCCITT f)) := by
  rw [← params_rt_parseCCITT f hv hk]; rfl

/-- the effective parameters select the same coder: same predictor stage … -/
theorem effFlate_same_coder (f : FFlate) (v : Nat) (hv : f.validate v = true) :
    (effFlate f).pparams = f.pparams := by
  obtain ⟨_, hr⟩ := (C08fb.validateFlateLZW_iff ..).1 (C08fb.flate_validate hv)
  unfold effFlate FFlate.pparams predictParams
  by_cases hu : usingPredictor f.predictor = true
  · -- filling in the defaults a second time changes nothing
    rw [if_pos hu]
    dsimp only
    congr 1 <;> omega
  · rw [if_neg hu]
    rw [C08fb.usingPredictor_iff] at hu
    rw [if_pos (by omega)] at hr
    dsimp only
    congr 1 <;> omega

/-- … and the same CCITT coder and geometry -/
theorem effCCITT_same_coder (f : FCCITT) :
    (effCCITT f).encParams.columns = f.encParams.columns ∧
    ((effCCITT f).k < 0 ↔ f.k < 0) ∧ ((effCCITT f).k = 0 ↔ f.k = 0) ∧ (0 < f.k → (effCCITT f).k = f.k) := by
  unfold effCCITT FCCITT.encParams FCCITT.cols
  refine ⟨?_, ?_, ?_, ?_⟩
  · by_cases h : f.columns = 0 <;> simp [h]
  · simp only []; split <;> omega
  · simp only []; split <;> omega
  · intro h; simp only []; rw [if_neg (by omega)]

example : (⟨12, 0, 0, 5⟩ : FFlate).validate 9 = true := by decide
example : parseFlate (⟨12, 0, 0, 5⟩ : FFlate).toDict = ⟨12, 1, 8, 5⟩ := by decide
example : parseCCITTFax (⟨-7, true, false, 0, 3, true, false, 0⟩ : FCCITT).toDict = ⟨-1, true, false, 1728, 3, true, false, 0⟩ := by decide

/-- the spelling of the dictionary keys and filter names used by the model -/
theorem names_spelled :
    kPredictor = nm "Predictor" ∧ kColors = nm "Colors" ∧ kBitsPerComponent = nm "BitsPerComponent" ∧
    kColumns = nm "Columns" ∧ kEarlyChange = nm "EarlyChange" ∧ kK = nm "K" ∧ kEndOfLine = nm "EndOfLine" ∧
    kEncodedByteAlign = nm "EncodedByteAlign" ∧ kRows = nm "Rows" ∧ kEndOfBlock = nm "EndOfBlock" ∧
    kBlackIs1 = nm "BlackIs1" ∧ kDamaged = nm "DamagedRowsBeforeError" ∧ kColorTransform = nm "ColorTransform" ∧
    kName = nm "Name" ∧ kFilter = nm "Filter" ∧ kDecodeParms = nm "DecodeParms" ∧
    nASCII85 = nm "ASCII85Decode" ∧ nASCIIHex = nm "ASCIIHexDecode" ∧ nRunLength = nm "RunLengthDecode" ∧
    nFlate = nm "FlateDecode" ∧ nLZW = nm "LZWDecode" ∧ nCCITT = nm "CCITTFaxDecode" ∧ nDCT = nm "DCTDecode" ∧
    nJBIG2 = nm "JBIG2Decode" ∧ nJPX = nm "JPXDecode" ∧ nCrypt = nm "Crypt" ∧ nIdentity = nm "Identity" ∧
    nStdCF = nm "StdCF" := by decide +kernel

end PdfVerif.C06fb
