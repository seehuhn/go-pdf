import PdfVerif.Lemmas.TRXref
import PdfVerif.Model.FIOXRef
import PdfVerif.Props.C02fio
import PdfVerif.Lemmas.TRFilter
import PdfVerif.Generated.FnFrag
/-!
# C02 (translator bridge): the hand model `Model/FIOXRef.lean` = the code GENERATED from xref.go

The theorems of `Props/C02fio*.lean` are about `FIO.decodeInt` / `FIO.encodeInt64` (bytes as `Nat`).
Here these two functions are proved equal to `Gen.pdf_decodeInt` / `Gen.pdf_encodeInt64`, which
`tools/extract` re-creates from the Go source on every run; so every theorem about the hand model
holds for the translated code, and a source change that breaks the equality breaks this file.
-/
namespace PdfVerif.C02trb
open PdfVerif PdfVerif.Gen PdfVerif.Go PdfVerif.C02tr

/-- bytes of the generated code (`UInt8`) as bytes of the hand models (`Nat < 256`) -/
def nat (bs : List UInt8) : Bytes := bs.map (·.toNat)

theorem nat_allBytes (bs : List UInt8) : AllBytes (nat bs) := by
  intro b hb
  simp only [nat, List.mem_map] at hb
  obtain ⟨x, _, rfl⟩ := hb
  exact x.toNat_lt

theorem nat_nil : nat [] = [] := rfl
theorem nat_cons (b : UInt8) (bs : List UInt8) : nat (b :: bs) = b.toNat :: nat bs := rfl

theorem decNat_eq_beVal (bs : List UInt8) (s : Nat) (hs : s < FIO.two64) :
    decNat s bs = FIO.beVal (nat bs) s % FIO.two64 := by
  induction bs generalizing s with
  | nil => simp [decNat, nat_nil, FIO.beVal]; unfold FIO.two64 at *; omega
  | cons b bs ih =>
    simp only [decNat, nat_cons, FIO.beVal]
    have := ih ((s * 256 + b.toNat) % 18446744073709551616) (by unfold FIO.two64; omega)
    rw [this]
    rw [C02fio.beVal_eq, C02fio.beVal_eq]
    exact Digits.val_mod 256 FIO.two64 (nat bs) (s * 256 + b.toNat)

/-- the hand model's `decodeInt` is the generated `decodeInt`, for every byte string -/
theorem decodeInt_bridge (buf : List UInt8) :
    FIO.decodeInt (nat buf) =
      match pdf_decodeInt buf with
      | (v, none) => some v.toNat
      | (_, some _) => none := by
  rw [decodeInt_eq, decNat_eq_beVal buf 0 (by unfold FIO.two64; omega)]
  unfold FIO.decodeInt
  simp only []
  generalize FIO.beVal (nat buf) 0 % FIO.two64 = r
  unfold FIO.two63
  by_cases h : r > 9223372036854775807
  · have : r ≥ 9223372036854775808 := by omega
    simp [h, this]
  · have : ¬ (r ≥ 9223372036854775808) := by omega
    simp [h, this]

theorem nat_bytesBE (x : UInt64) (w : Nat) : nat (bytesBE x w) = FIO.encodeInt64 x.toNat w := by
  induction w with
  | zero => simp [bytesBE, nat_nil, FIO.encodeInt64]
  | succ w ih =>
    rw [bytesBE_succ]
    simp only [nat_cons, FIO.encodeInt64] at ih ⊢
    rw [ih, shr64_byte, Nat.pow_mul]

/-- the generated `encodeInt64` writes exactly the bytes of the hand model's
`encodeInt64`, for every value and every width `0 ≤ w ≤ 10⁶` (and reports no error, never panics) -/
theorem encodeInt64_bridge (x : UInt64) (w : Int) (h0 : 0 ≤ w) (h1 : w ≤ 1000000) :
    ∃ bs, pdf_encodeInt64 x w = some (none, bs) ∧ nat bs = FIO.encodeInt64 x.toNat w.toNat :=
  ⟨bytesBE x w.toNat, encodeInt64_eq x w h0 h1, nat_bytesBE x w.toNat⟩

/-- the entry cap the hand model of `checkXRefStreamDict` uses
(`XRefEntriesBase + XRefEntriesPerByte·raw`, `raw = max(rawLen,0)`) is the generated
`limits.MaxXRefEntries(rawLen)`, for every stream length below 2⁵⁷ (from 2⁵⁸ − 256 on the Go sum wraps,
see `C08tr.maxXRefEntries_exact_false`) -/
theorem maxXRefEntries_bridge (rawLen : Int) (h : Go.IsI64 rawLen) (hn : rawLen < 144115188075855872) :
    ((fio_XRefEntriesBase + fio_XRefEntriesPerByte * (if rawLen < 0 then 0 else rawLen.toNat) : Nat) : Int)
      = lim_MaxXRefEntries rawLen := by
  rw [C08tr.maxXRefEntries_spec_partial rawLen h hn]
  unfold fio_XRefEntriesBase fio_XRefEntriesPerByte lim_XRefEntriesBase lim_XRefEntriesPerByte
  split <;> omega

/-! `checkXRefStreamDict` works on `Dict` values and is not translatable as a whole; its arithmetic guards
are translated as single expressions (`Gen.frag_checkXRefStreamDict_*`).  The hand model
`FIO.checkXRefStreamDict` uses the conditions on the left-hand sides below. -/

theorem sizeGuard_bridge (size : Int) :
    (size < 0 || size > fio_maxXRefSize) = frag_checkXRefStreamDict_sizeBad true size := by
  unfold frag_checkXRefStreamDict_sizeBad fio_maxXRefSize
  simp

/-- the guard on each entry of `/W` (`FIO.widthsOf`) -/
theorem widthGuard_bridge (w : Int) :
    (w < 0 || w > 8) = frag_checkXRefStreamDict_widthBad true w := by
  unfold frag_checkXRefStreamDict_widthBad
  simp

/-- `w[0]+w[1]+w[2] == 0` on accepted widths = the model's `ws.foldl (· + ·) 0 == 0` -/
theorem widthsZero_bridge (w0 w1 w2 : Nat) (h0 : w0 ≤ 8) (h1 : w1 ≤ 8) (h2 : w2 ≤ 8) :
    ([w0, w1, w2].foldl (· + ·) 0 == 0) = frag_checkXRefStreamDict_widthsZero w0 w1 w2 := by
  unfold frag_checkXRefStreamDict_widthsZero
  rw [Go.i64_of_bounds (x := (w0 : Int) + w1) (by omega) (by omega), Go.i64_of_bounds (by omega) (by omega)]
  rw [Bool.eq_iff_iff]
  simp only [List.foldl_cons, List.foldl_nil, beq_iff_eq]
  omega

/-- the guard on each `/Index` pair (`FIO.indexPairs`); `size - subStart` cannot wrap because the
`/Size` guard has bounded `size` and a negative `subStart` is rejected first -/
theorem subsectionGuard_bridge (s n size : Int) (hs : Go.IsI64 s) (h0 : 0 ≤ size) (h1 : size ≤ 16777216) :
    (s < 0 || n ≤ 0 || s > size || n > size - s) = frag_checkXRefStreamDict_subsectionBad s n size := by
  unfold frag_checkXRefStreamDict_subsectionBad
  unfold Go.IsI64 at hs
  by_cases hneg : s < 0
  · simp [hneg]
  · rw [Go.i64_of_bounds (x := size - s) (by omega) (by omega)]

/-- the entry cap (`min(maxXRefSize, limits.MaxXRefEntries(rawLen))`) for stream lengths below 2⁵⁷ -/
theorem maxEntriesGuard_bridge (rawLen : Int) (h : Go.IsI64 rawLen) (hn : rawLen < 144115188075855872) :
    ((min fio_maxXRefSize (fio_XRefEntriesBase + fio_XRefEntriesPerByte * (if rawLen < 0 then 0 else rawLen.toNat)) : Nat) : Int)
      = frag_checkXRefStreamDict_maxEntries rawLen := by
  unfold frag_checkXRefStreamDict_maxEntries
  rw [← maxXRefEntries_bridge rawLen h hn]
  unfold fio_maxXRefSize
  omega

theorem tooManyGuard_bridge (total maxEntries : Nat) :
    decide (total > maxEntries) = frag_checkXRefStreamDict_tooMany total maxEntries := by
  unfold frag_checkXRefStreamDict_tooMany
  rw [Bool.eq_iff_iff]
  simp only [decide_eq_true_eq]
  omega

example : FIO.decodeInt (nat [0, 1, 2]) = some 258 := by decide +kernel

end PdfVerif.C02trb
