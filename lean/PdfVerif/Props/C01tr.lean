import PdfVerif.Model.Scan
import PdfVerif.Lemmas.TRGo
import PdfVerif.Generated.FnPdf
/-!
# C01 (translator part): facts about the Lean code GENERATED from scanner.go / types.go

`Gen.pdf_hexDigit`, `Gen.pdf_Name_isSecondClassName`, `Gen.pdf_Name_isThirdClassName`, `Gen.pdf_NewReference`,
`Gen.pdf_Reference_Number`, `Gen.pdf_Reference_Generation` are re-created from the Go sources by `tools/extract` on every run, so these proofs are re-run
whenever the source changes; the C01 harness run `TR` compares the generated functions with the
real ones.
-/
namespace PdfVerif.C01tr
open PdfVerif PdfVerif.Gen PdfVerif.Go

/-- the hand model's `hexVal` (used by all C01 theorems) is the generated `hexDigit`, with
`none` ↦ 255, on every byte -/
theorem hexDigit_eq_hexVal : ∀ c, c < 256 →
    (pdf_hexDigit (UInt8.ofNat c)).toNat = (hexVal c).getD 255 := by decide +kernel

/-- `hexDigit` never returns a value in 16..254: either a digit value or the marker 255 -/
theorem hexDigit_range : ∀ c, c < 256 →
    (pdf_hexDigit (UInt8.ofNat c)).toNat < 16 ∨ pdf_hexDigit (UInt8.ofNat c) = 255 := by decide +kernel

/-- the generated `hexDigit` inverts the formatter's digit function `hexLower` (types.go writes
`#xx` and `<…>` with these digits) -/
theorem hexDigit_hexLower : ∀ v, v < 16 → (pdf_hexDigit (UInt8.ofNat (hexLower v))).toNat = v := by
  decide +kernel

/-- … and the upper-case digits -/
theorem hexDigit_upper : ∀ v, v < 16 →
    (pdf_hexDigit (UInt8.ofNat (if v < 10 then 48 + v else 55 + v))).toNat = v := by decide +kernel

/-- both nibbles of every byte survive `hexLower` then `hexDigit` -/
theorem hexDigit_byte_rt : ∀ c, c < 256 →
    (pdf_hexDigit (UInt8.ofNat (hexLower (c / 16)))).toNat * 16 +
      (pdf_hexDigit (UInt8.ofNat (hexLower (c % 16)))).toNat = c := by
  intro c hc
  rw [hexDigit_hexLower _ (by omega), hexDigit_hexLower _ (by omega)]
  omega

example : (pdf_hexDigit 70).toNat = 15 ∧ pdf_hexDigit 71 = 255 := by decide +kernel

theorem isThirdClassName_spec (x : List UInt8) :
    pdf_Name_isThirdClassName x = some (decide (x.take 2 = [88, 88])) := by
  unfold pdf_Name_isThirdClassName
  match x with
  | [] => simp [Go.len, Go.idx]
  | [a] => simp [Go.len, Go.idx]
  | a :: b :: rest =>
    have h : ∀ a b : UInt8, 2 ≤ Go.len (a :: b :: rest) := by intro a b; simp [Go.len]; omega
    by_cases ha : a = 88 <;> by_cases hb : b = 88 <;> simp [h, Go.idx, ha, hb]

theorem isSecondClassName_spec (x : List UInt8) :
    pdf_Name_isSecondClassName x = some ((x.take 5).any fun c => c == 58 || c == 95) := by
  unfold pdf_Name_isSecondClassName
  simp only [pure, bind]
  have hs : slice x 0 (min (len x) 5) = some (x.take 5) := by
    rw [slice_zero _ _ (by unfold len; omega) (by unfold len; omega)]
    congr 1
    unfold len
    by_cases h : x.length ≤ 5
    · have : (min (x.length : Int) 5).toNat = x.length := by omega
      rw [this, List.take_of_length_le h, List.take_of_length_le (Nat.le_refl _)]
    · have : (min (x.length : Int) 5).toNat = 5 := by omega
      rw [this]
  rw [hs]
  simp only [Option.bind_some]
  rw [forIn_option_search (x.take 5) (fun _ => True) _ (fun c => c == 58 || c == 95) (none, ()) (some true, ())
    (fun k _ => rfl) (fun _ _ => trivial)]
  cases ((x.take 5).any fun c => c == 58 || c == 95) <;> simp

example : pdf_Name_isSecondClassName [65, 66, 67, 68, 69, 58] = some false ∧
    pdf_Name_isSecondClassName [65, 95] = some true := by decide +kernel

example : pdf_Name_isThirdClassName [88, 88, 65] = some true := by decide +kernel

theorem ref_value (n : UInt32) (g : UInt16) :
    (n.toUInt64 ||| shl64 g.toUInt64 32).toNat = n.toNat + g.toNat * 4294967296 := by
  rw [UInt64.toNat_or]
  have hg := g.toNat_lt
  have hn := n.toNat_lt
  have e1 : (shl64 g.toUInt64 32).toNat = g.toNat <<< 32 := by
    unfold shl64
    simp [UInt64.toNat_shiftLeft, Nat.shiftLeft_eq]
    omega
  have e2 : n.toUInt64.toNat = n.toNat := by simp
  rw [e1, e2, Nat.or_comm, ← Nat.shiftLeft_add_eq_or_of_lt (by omega : n.toNat < 2 ^ 32), Nat.shiftLeft_eq]
  omega

/-- a reference built from an object number below 2²⁴ (`maxXRefSize`) and any
generation gives back exactly these two numbers; larger object numbers make `NewReference` panic -/
theorem ref_rt (n : UInt32) (g : UInt16) :
    (n.toNat < 16777216 → ∃ r, pdf_NewReference n g = some r ∧
      pdf_Reference_Number r = n ∧ pdf_Reference_Generation r = g) ∧
    (16777216 ≤ n.toNat → pdf_NewReference n g = none) := by
  unfold pdf_NewReference
  simp only [pure, bind]
  have hc : (n ≥ 16777216) ↔ 16777216 ≤ n.toNat := by
    rw [ge_iff_le, UInt32.le_iff_toNat_le]; rfl
  constructor
  · intro h
    have : ¬ (n ≥ 16777216) := by rw [hc]; omega
    refine ⟨n.toUInt64 ||| shl64 g.toUInt64 32, by simp [this], ?_, ?_⟩
    · unfold pdf_Reference_Number
      simp only [Id.run, pure]
      apply UInt32.toNat_inj.mp
      rw [UInt64.toNat_toUInt32, ref_value]
      have := n.toNat_lt
      omega
    · unfold pdf_Reference_Generation
      simp only [Id.run, pure]
      apply UInt16.toNat_inj.mp
      have hs : (shr64 (n.toUInt64 ||| shl64 g.toUInt64 32) 32).toNat = (n.toNat + g.toNat * 4294967296) / 4294967296 := by
        unfold shr64
        simp only [ge_iff_le, Nat.reduceLeDiff, if_false]
        rw [UInt64.toNat_shiftRight, ref_value]
        simp [Nat.shiftRight_eq_div_pow]
      rw [UInt64.toNat_toUInt16, hs]
      have := n.toNat_lt
      have := g.toNat_lt
      omega
  · intro h
    have : (n ≥ 16777216) := by rw [hc]; omega
    simp [this, Go.panic]

example : pdf_NewReference 5 2 = some 8589934597 ∧ pdf_NewReference 16777216 0 = none := by decide +kernel

end PdfVerif.C01tr
