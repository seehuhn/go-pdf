import PdfVerif.Lemmas.BytesOrder
import PdfVerif.Lemmas.CPYCalls
import PdfVerif.Lemmas.CPYGraph
/-!
C11 — Copier reproduces the source object graph: theorems over `Model/CPYCopier.lean`.  What the walk at the
head of `CopyReference` finds (`walkFrom_out`); what a successful call does and returns (`Eff`, `copies`,
`copy_main`); every call, failed or not, keeps the state `Consistent` (`Covered`, `covered_main`, under
`LinkInv`); from a consistent state the copy is the image of everything reachable (`copy_iso`, `image_*`).
-/
namespace PdfVerif.C11cpy
open PdfVerif PdfVerif.CPY

def Extends (tr tr' : List (Ref × Ref)) : Prop := ∀ k t, assoc k tr = some t → assoc k tr' = some t

theorem Extends.refl (tr : List (Ref × Ref)) : Extends tr tr := fun _ _ h => h
theorem Extends.trans {a b c : List (Ref × Ref)} (h1 : Extends a b) (h2 : Extends b c) : Extends a c :=
  fun k t h => h2 k t (h1 k t h)

theorem extends_append (N tr : List (Ref × Ref)) (hf : ∀ k ∈ N.map Prod.fst, assoc k tr = none) :
    Extends tr (N ++ tr) := by
  intro k t h
  rw [assoc_append]
  have : assoc k N = none := by
    rw [assoc_none_iff]
    intro hk
    rw [hf k hk] at h; cases h
  simp [this, h]

theorem map_stable {tr tr' : List (Ref × Ref)} (h : Extends tr tr') :
    (∀ o o', mapObj tr o = some o' → mapObj tr' o = some o') ∧
    (∀ xs ys, mapList tr xs = some ys → mapList tr' xs = some ys) ∧
    (∀ kv kv', mapKV tr kv = some kv' → mapKV tr' kv = some kv') := by
  apply obj_induct
  · intro o h1 h2 h3 o'
    rw [mapObj_atom tr h1 h2 h3, mapObj_atom tr' h1 h2 h3]
    exact id
  · intro n g o' h'
    obtain ⟨t, ht, rfl⟩ := mapObj_ref.mp h'
    exact mapObj_ref.mpr ⟨t, h _ _ ht, rfl⟩
  · intro xs ih o' h'
    obtain ⟨ys, hys, rfl⟩ := mapObj_arr.mp h'
    exact mapObj_arr.mpr ⟨ys, ih ys hys, rfl⟩
  · intro kv ih o' h'
    obtain ⟨kv', hkv, rfl⟩ := mapObj_dict.mp h'
    exact mapObj_dict.mpr ⟨kv', ih kv' hkv, rfl⟩
  · exact fun _ => id
  · intro x xs ihx ihxs ys h'
    obtain ⟨y, ys', hy, hys, rfl⟩ := mapList_cons.mp h'
    exact mapList_cons.mpr ⟨y, ys', ihx y hy, ihxs ys' hys, rfl⟩
  · exact fun _ => id
  · intro k v rest ihv ihr kv' h'
    obtain ⟨v', rest', hv, hr, rfl⟩ := mapKV_cons.mp h'
    exact mapKV_cons.mpr ⟨v', rest', ihv v' hv, ihr rest' hr, rfl⟩

theorem mapObj_stable {tr tr' : List (Ref × Ref)} (h : Extends tr tr') :
    ∀ (o o' : Obj), mapObj tr o = some o' → mapObj tr' o = some o' := (map_stable h).1

theorem mapList_stable {tr tr' : List (Ref × Ref)} (h : Extends tr tr') :
    ∀ (xs ys : List Obj), mapList tr xs = some ys → mapList tr' xs = some ys := (map_stable h).2.1

theorem mapKV_stable {tr tr' : List (Ref × Ref)} (h : Extends tr tr') :
    ∀ (kv kv' : KV), mapKV tr kv = some kv' → mapKV tr' kv = some kv' := (map_stable h).2.2

theorem mapVal_stable {tr tr' : List (Ref × Ref)} (h : Extends tr tr') (v v' : Val) :
    mapVal tr v = some v' → mapVal tr' v = some v' := by
  intro h'
  cases v with
  | obj o =>
    obtain ⟨o', ho, rfl⟩ := mapVal_obj.mp h'
    exact mapVal_obj.mpr ⟨o', mapObj_stable h o o' ho, rfl⟩
  | stream d data enc =>
    obtain ⟨d', hd, rfl⟩ := mapVal_stream.mp h'
    exact mapVal_stream.mpr ⟨d', mapKV_stable h d d' hd, rfl⟩

theorem Image_stable {tr tr' : List (Ref × Ref)} (h : Extends tr tr') (G : Graph) (src : Ref) (v : Val) :
    Image tr G src v → Image tr' G src v := by
  rintro ⟨sv, sp, h1, h2, h3⟩
  exact ⟨sv, sp, h1, h2, mapVal_stable h sp v h3⟩

/-- `a` is an indirect object whose value is a reference, and following such references leads
    from `a` to `b` -/
inductive Leads (G : Graph) : Ref → Ref → Prop where
  | one {a b : Ref} : CPY.get G a true = .ok (.obj (.ref b.1 b.2)) → Leads G a b
  | more {a c b : Ref} : CPY.get G a true = .ok (.obj (.ref c.1 c.2)) → Leads G c b → Leads G a b

theorem Leads.trans {G : Graph} {a b c : Ref} (h1 : Leads G a b) (h2 : Leads G b c) : Leads G a c := by
  induction h1 with
  | one h => exact .more h h2
  | more h _ ih => exact .more h (ih h2)

def IsRef : Val → Prop
  | .obj (.ref _ _) => True
  | _ => False

theorem not_isRef {v : Val} (h : ∀ n g, v = .obj (.ref n g) → False) : ¬ IsRef v := by
  cases v with
  | stream _ _ _ => exact id
  | obj o => cases o <;> first | exact id | exact fun _ => h _ _ rfl

/-- the loop invariant of `walkChain` -/
structure WInv (G : Graph) (tr : List (Ref × Ref)) (r0 : Ref) (chain : List Ref) (cur : Ref) : Prop where
  r0_mem : r0 ∈ chain
  cur_mem : cur ∈ chain
  nodup : chain.Nodup
  fresh : ∀ k ∈ chain, assoc k tr = none
  leads : ∀ k ∈ chain, k = cur ∨ Leads G k cur
  next : ∀ k ∈ chain, k ≠ cur → ∃ x ∈ chain, CPY.get G k true = .ok (.obj (.ref x.1 x.2))

/-- the postcondition of `walkChain` under `WInv` -/
def WOut (G : Graph) (tr : List (Ref × Ref)) (r0 : Ref) : Walk → Prop
  | .fails e => e ≠ .fuel ∧ e ≠ .malformed
  | .dead => True
  | .known t c => c.Nodup ∧ (∀ k ∈ c, assoc k tr = none) ∧ r0 ∈ c ∧
      ∃ x, assoc x tr = some t ∧ (∀ k ∈ c, Leads G k x) ∧
        ∀ k ∈ c, ∃ y, CPY.get G k true = .ok (.obj (.ref y.1 y.2)) ∧ (y ∈ c ∨ y = x)
  | .ends v c => c.Nodup ∧ (∀ k ∈ c, assoc k tr = none) ∧ r0 ∈ c ∧
      ∃ e ∈ c, CPY.get G e true = .ok v ∧ ¬ IsRef v ∧ (∀ k ∈ c, k = e ∨ Leads G k e) ∧
        ∀ k ∈ c, k ≠ e → ∃ y ∈ c, CPY.get G k true = .ok (.obj (.ref y.1 y.2))

theorem WInv.on {G : Graph} {tr : List (Ref × Ref)} {r0 cur x : Ref} {chain : List Ref}
    (inv : WInv G tr r0 chain cur) (hg : CPY.get G cur true = .ok (.obj (.ref x.1 x.2))) :
    (∀ k ∈ chain, Leads G k x) ∧
      ∀ k ∈ chain, ∃ y, CPY.get G k true = .ok (.obj (.ref y.1 y.2)) ∧ (y ∈ chain ∨ y = x) := by
  refine ⟨fun k hk => ?_, fun k hk => ?_⟩
  · rcases inv.leads k hk with e | e
    · subst e; exact .one hg
    · exact e.trans (.one hg)
  · by_cases hkc : k = cur
    · subst hkc; exact ⟨x, hg, Or.inr rfl⟩
    · obtain ⟨y, hy, hgy⟩ := inv.next k hk hkc
      exact ⟨y, hgy, Or.inl hy⟩

theorem walk_out (G : Graph) (tr : List (Ref × Ref)) (r0 : Ref) :
    ∀ (d : Nat) (chain : List Ref) (cur : Ref), WInv G tr r0 chain cur →
      WOut G tr r0 (walkChain G tr d chain cur) := by
  intro d chain cur inv
  -- the cases of `walkChain`: 1 `cur` malformed, 2 `cur` unreadable, 3 next link translated, 4 next link on
  -- the chain, 5 depth used up, 6 one link further, 7 `cur` is not a reference
  fun_induction walkChain G tr d chain cur with
  | case1 => trivial
  | case2 d chain cur e hne he =>
    rcases get_err_cases he with h | h
    · exact absurd h hne
    · subst h; exact ⟨by simp, by simp⟩
  | case3 d chain cur n g hg t ht =>
    exact ⟨inv.nodup, inv.fresh, inv.r0_mem, (n, g), ht, inv.on (x := (n, g)) hg⟩
  | case4 => trivial
  | case5 => trivial
  | case6 chain cur n g hg hnone hnc d ih =>
    apply ih
    have hnm : (n, g) ∉ chain := by simpa using hnc
    obtain ⟨hl, hx⟩ := inv.on (x := (n, g)) hg
    refine ⟨List.mem_append_left _ inv.r0_mem, by simp, ?_, ?_, ?_, ?_⟩
    · rw [List.nodup_append]
      refine ⟨inv.nodup, by simp, ?_⟩
      intro a ha b hb hab
      simp only [List.mem_singleton] at hb
      subst hab; subst hb; exact hnm ha
    · intro k hk
      rcases List.mem_append.mp hk with h | h
      · exact inv.fresh k h
      · simp only [List.mem_singleton] at h; subst h; exact hnone
    · intro k hk
      rcases List.mem_append.mp hk with h | h
      · exact Or.inr (hl k h)
      · simp only [List.mem_singleton] at h; exact Or.inl h
    · intro k hk hne'
      rcases List.mem_append.mp hk with h | h
      · obtain ⟨y, hgy, hy⟩ := hx k h
        exact ⟨y, by simpa using hy, hgy⟩
      · simp only [List.mem_singleton] at h; exact absurd h hne'
  | case7 d chain cur v hne hg =>
    exact ⟨inv.nodup, inv.fresh, inv.r0_mem, cur, inv.cur_mem, hg, not_isRef hne, inv.leads, inv.next⟩

section
variable {G : Graph} {cs : Bool} {d : Nat} {path : List Ref} {cur : Ref}

theorem resolveLoop_cycle (hc : cur ∈ path) : resolveLoop G cs d path cur = .error .malformed := by
  cases d with
  | zero => rfl
  | succ d => simp [resolveLoop, hc]

theorem resolveLoop_err {e : CErr} (hc : cur ∉ path) (hg : CPY.get G cur cs = .error e) :
    resolveLoop G cs (d+1) path cur = .error e := by
  simp [resolveLoop, hc, hg]

theorem resolveLoop_ref {n g : Nat} (hc : cur ∉ path) (hg : CPY.get G cur cs = .ok (.obj (.ref n g))) :
    resolveLoop G cs (d+1) path cur = resolveLoop G cs d (cur :: path) (n, g) := by
  simp [resolveLoop, hc, hg]

theorem resolveLoop_end {v : Val} (hc : cur ∉ path) (hg : CPY.get G cur cs = .ok v) (hv : ¬ IsRef v) :
    resolveLoop G cs (d+1) path cur = .ok v := by
  simp only [resolveLoop, List.contains_iff_mem, hc, ↓reduceIte, hg]
  split
  · next h => cases h
  · next n g h => cases h; exact absurd trivial hv
  · next h => cases h; rfl

end

/-- the walk sees what `Resolve` sees, as long as it meets no translated link -/
def WRes (G : Graph) (d : Nat) (path : List Ref) (cur : Ref) : Walk → Prop
  | .ends v _ => resolveLoop G true (d+1) path cur = .ok v
  | .dead => resolveLoop G true (d+1) path cur = .error .malformed
  | .fails e => resolveLoop G true (d+1) path cur = .error e
  | .known _ _ => True

theorem walk_resolve (G : Graph) (tr : List (Ref × Ref)) :
    ∀ (d : Nat) (path : List Ref) (cur : Ref) (chain : List Ref),
      (∀ x, x ∈ chain ↔ x ∈ cur :: path) → cur ∉ path →
      WRes G d path cur (walkChain G tr d chain cur) := by
  intro d path cur chain hmem hcur
  -- cases as in `walk_out`
  fun_induction walkChain G tr d chain cur generalizing path with
  | case1 d chain cur he => exact resolveLoop_err hcur he
  | case2 d chain cur e hne he => exact resolveLoop_err hcur he
  | case3 => trivial
  | case4 d chain cur n g hg _ hcon =>
    exact (resolveLoop_ref hcur hg).trans (resolveLoop_cycle ((hmem _).mp (by simpa using hcon)))
  | case5 chain cur n g hg => exact resolveLoop_ref hcur hg
  | case6 chain cur n g hg _ hcon d ih =>
    have hnm : (n, g) ∉ cur :: path := fun h => hcon (by simpa using (hmem _).mpr h)
    have := ih (cur :: path) (fun x => by
      rw [List.mem_append, List.mem_singleton, hmem x, List.mem_cons (a := x) (b := (n, g)), Or.comm]) hnm
    -- `WRes` one link later is `WRes` here, by one round of `resolveLoop`
    generalize walkChain G tr d (chain ++ [(n, g)]) (n, g) = w at this ⊢
    cases w <;> simp only [WRes, resolveLoop_ref hcur hg] <;> exact this
  | case7 d chain cur v hne hg =>
    exact resolveLoop_end hcur hg (not_isRef hne)

-- `walkFrom` starts with `MaxExtractDepth - 1`: what follows needs `MaxExtractDepth ≥ 1`
theorem depth_succ : Gen.cpy_MaxExtractDepth - 1 + 1 = Gen.cpy_MaxExtractDepth := by decide

theorem resolveOrNull_of_loop (G : Graph) (r : Ref) :
    resolveOrNull G r =
      match resolveLoop G true Gen.cpy_MaxExtractDepth [] r with
      | .error .malformed => .ok (.obj .null)
      | x => x := by
  unfold resolveOrNull resolve
  cases h : resolveLoop G true Gen.cpy_MaxExtractDepth [] (r.1, r.2) with
  | error e => cases e <;> simp_all
  | ok v => simp_all

/-- the walk of `CopyReference(r)` has met a link `x` translated to `t`; `c` are the links before it -/
structure WKnown (G : Graph) (tr : List (Ref × Ref)) (r t : Ref) (c : List Ref) : Prop where
  nodup : c.Nodup
  fresh : ∀ k ∈ c, assoc k tr = none
  mem : r ∈ c
  link : ∃ x, assoc x tr = some t ∧ (∀ k ∈ c, Leads G k x) ∧
    ∀ k ∈ c, ∃ y, CPY.get G k true = .ok (.obj (.ref y.1 y.2)) ∧ (y ∈ c ∨ y = x)

/-- the walk of `CopyReference(r)` has reached the end: the chain from `r` ends at an object with value `v`
    (`c` are all its links), or it does not end properly (malformed link, reference loop, more than
    `MaxExtractDepth` links: `Resolve` fails as malformed) and then `v` is null and `c = [r]` -/
structure WEnds (G : Graph) (tr : List (Ref × Ref)) (r : Ref) (v : Val) (c : List Ref) : Prop where
  resolves : resolveOrNull G r = .ok v
  nodup : c.Nodup
  fresh : ∀ k ∈ c, assoc k tr = none
  mem : r ∈ c
  shape : (c = [r] ∧ v = .obj .null ∧ resolveLoop G true Gen.cpy_MaxExtractDepth [] r = .error .malformed) ∨
    (resolveLoop G true Gen.cpy_MaxExtractDepth [] r = .ok v ∧
      ∃ e ∈ c, CPY.get G e true = .ok v ∧ ¬ IsRef v ∧ (∀ k ∈ c, k = e ∨ Leads G k e) ∧
        ∀ k ∈ c, k ≠ e → ∃ y ∈ c, CPY.get G k true = .ok (.obj (.ref y.1 y.2)))

/-- A failure is a read error (`get_err_cases`); stated is what its users need: neither `fuel` nor
    `malformed`. -/
def WOutF (G : Graph) (tr : List (Ref × Ref)) (r : Ref) : Walk → Prop
  | .fails e => e ≠ .fuel ∧ e ≠ .malformed ∧ resolveLoop G true Gen.cpy_MaxExtractDepth [] r = .error e
  | .dead => False
  | .known t c => WKnown G tr r t c
  | .ends v c => WEnds G tr r v c

theorem walkFrom_out {G : Graph} {tr : List (Ref × Ref)} {r : Ref} {w : Walk} (hr : assoc r tr = none)
    (hw : walkFrom G tr r = w) : WOutF G tr r w := by
  subst hw
  have h1 := walk_out G tr r (Gen.cpy_MaxExtractDepth - 1) [r] r
    ⟨by simp, by simp, by simp, by simpa using hr, by simp, by simp⟩
  have h2 := walk_resolve G tr (Gen.cpy_MaxExtractDepth - 1) [] r [r] (by simp) (by simp)
  unfold walkFrom
  cases hw : walkChain G tr (Gen.cpy_MaxExtractDepth - 1) [r] r with
  | known t c =>
    rw [hw] at h1
    obtain ⟨w1, w2, w3, w4⟩ := h1
    exact ⟨w1, w2, w3, w4⟩
  | fails e =>
    rw [hw] at h1 h2
    simp only [WRes, depth_succ] at h2
    exact ⟨h1.1, h1.2, h2⟩
  | dead =>
    rw [hw] at h2
    simp only [WRes, depth_succ] at h2
    refine ⟨?_, by simp, by simpa using hr, by simp, Or.inl ⟨rfl, rfl, h2⟩⟩
    rw [resolveOrNull_of_loop, h2]
  | ends v c =>
    rw [hw] at h1 h2
    simp only [WRes, depth_succ] at h2
    obtain ⟨w1, w2, w3, w4⟩ := h1
    refine ⟨?_, w1, w2, w3, Or.inr ⟨h2, w4⟩⟩
    rw [resolveOrNull_of_loop, h2]

/-- if the walk of `CopyReference(r)` reaches the end of the chain, its value is what `Resolve`
    gives (null for malformed links, loops and over-deep chains) -/
theorem walkFrom_ends {G : Graph} {tr : List (Ref × Ref)} {r : Ref} {v : Val} {c : List Ref}
    (hr : assoc r tr = none) (h : walkFrom G tr r = .ends v c) : resolveOrNull G r = .ok v :=
  (walkFrom_out hr h).resolves

theorem walk_known {G : Graph} {tr : List (Ref × Ref)} {r t : Ref} {c : List Ref}
    (hr : assoc r tr = none) (h : walkFrom G tr r = .known t c) : WKnown G tr r t c := walkFrom_out hr h

theorem walk_ends {G : Graph} {tr : List (Ref × Ref)} {r : Ref} {v : Val} {c : List Ref}
    (hr : assoc r tr = none) (h : walkFrom G tr r = .ends v c) : WEnds G tr r v c := walkFrom_out hr h

theorem walk_fails {G : Graph} {tr : List (Ref × Ref)} {r : Ref} {e : CErr}
    (hr : assoc r tr = none) (h : walkFrom G tr r = .fails e) :
    e ≠ .fuel ∧ e ≠ .malformed ∧ resolveLoop G true Gen.cpy_MaxExtractDepth [] r = .error e :=
  walkFrom_out hr h

theorem range_refs_nodup (a n : Nat) : ((List.range' a n).map refOf).Nodup := by
  have h : (List.range' a n).Nodup := List.nodup_range' (step := 1) (by omega)
  exact List.Pairwise.map refOf (fun x y hxy hf => hxy (refOf_injective hf)) h

/-- What a successful call does to the state: `N` are the new entries of `trans` (newest first), `P` the
    objects written, `a` the number of object numbers allocated.  A new entry's target is an allocated
    number or (a link of a chain of references which ends at an object copied earlier) an old target. -/
def Eff (G : Graph) (s s' : St) : Prop :=
  ∃ (N : List (Ref × Ref)) (P : List (Ref × Val)) (a : Nat),
    s'.trans = N ++ s.trans ∧ s'.puts = s.puts ++ P ∧ s'.next = s.next + a ∧
    (∀ k ∈ N.map Prod.fst, assoc k s.trans = none) ∧ (N.map Prod.fst).Nodup ∧
    (∀ p ∈ N, p.2 ∈ s.trans.map Prod.snd ∨ ∃ m, p.2 = refOf m ∧ s.next ≤ m ∧ m < s.next + a) ∧
    (P.map Prod.fst).Perm ((List.range' s.next a).map refOf) ∧
    (∀ p ∈ P, ∃ src, (src, p.1) ∈ N ∧ Image s'.trans G src p.2) ∧
    s'.tgtV = s.tgtV

/-- the conjuncts of `Eff` for given `N`, `P`, `a`, by name -/
structure EffOf (G : Graph) (s s' : St) (N : List (Ref × Ref)) (P : List (Ref × Val)) (a : Nat) : Prop where
  trans_eq : s'.trans = N ++ s.trans
  puts_eq : s'.puts = s.puts ++ P
  next_eq : s'.next = s.next + a
  fresh : ∀ k ∈ N.map Prod.fst, assoc k s.trans = none
  nodup : (N.map Prod.fst).Nodup
  targets : ∀ p ∈ N, p.2 ∈ s.trans.map Prod.snd ∨ ∃ m, p.2 = refOf m ∧ s.next ≤ m ∧ m < s.next + a
  written : (P.map Prod.fst).Perm ((List.range' s.next a).map refOf)
  images : ∀ p ∈ P, ∃ src, (src, p.1) ∈ N ∧ Image s'.trans G src p.2
  tgtV_eq : s'.tgtV = s.tgtV

theorem EffOf.eff {G : Graph} {s s' : St} {N : List (Ref × Ref)} {P : List (Ref × Val)} {a : Nat}
    (h : EffOf G s s' N P a) : Eff G s s' :=
  ⟨N, P, a, h.trans_eq, h.puts_eq, h.next_eq, h.fresh, h.nodup, h.targets, h.written, h.images, h.tgtV_eq⟩

theorem Eff.parts {G : Graph} {s s' : St} : Eff G s s' → ∃ N P a, EffOf G s s' N P a
  | ⟨N, P, a, h1, h2, h3, h4, h5, h6, h7, h8, h9⟩ => ⟨N, P, a, h1, h2, h3, h4, h5, h6, h7, h8, h9⟩

theorem Eff.refl (G : Graph) (s : St) : Eff G s s :=
  EffOf.eff (N := []) (P := []) (a := 0)
    ⟨rfl, (List.append_nil _).symm, rfl, nofun, .nil, nofun, .refl _, nofun, rfl⟩

theorem Eff.tgtV {G : Graph} {s s' : St} (h : Eff G s s') : s'.tgtV = s.tgtV :=
  have ⟨_, _, _, h⟩ := h.parts
  h.tgtV_eq

theorem Eff.extends {G : Graph} {s s' : St} (h : Eff G s s') : Extends s.trans s'.trans := by
  obtain ⟨N, _, _, h⟩ := h.parts
  rw [h.trans_eq]; exact extends_append N s.trans h.fresh

/-- `Frame` is the part of `Eff` that a failed call has too -/
theorem Eff.frame {G : Graph} {s s' : St} (h : Eff G s s') : C11cpyd.Frame s s' := by
  obtain ⟨N, P, a, h⟩ := h.parts
  have c := h.next_eq
  refine ⟨by omega, P, h.puts_eq, (List.Perm.nodup_iff h.written).mpr (range_refs_nodup _ _), ?_⟩
  intro k hk
  obtain ⟨m, hm, rfl⟩ := List.mem_map.mp (h.written.mem_iff.mp hk)
  have := List.mem_range'_1.mp hm
  exact ⟨m, rfl, by omega, by omega⟩

theorem Eff.trans {G : Graph} {s1 s2 s3 : St} (h12 : Eff G s1 s2) (h23 : Eff G s2 s3) : Eff G s1 s3 := by
  have hext := h23.extends
  obtain ⟨N1, P1, n1, h1⟩ := h12.parts
  obtain ⟨N2, P2, n2, h2⟩ := h23.parts
  have c1 := h1.next_eq
  have c2 := h2.next_eq
  -- a key new in the second call is new for the first and not among the first's new keys
  have fresh2 : ∀ k ∈ N2.map Prod.fst, assoc k N1 = none ∧ assoc k s1.trans = none := fun k hk => by
    have := h2.fresh k hk
    rwa [h1.trans_eq, assoc_append_none] at this
  refine EffOf.eff (N := N2 ++ N1) (P := P1 ++ P2) (a := n1 + n2) ?_
  constructor
  case trans_eq => rw [h2.trans_eq, h1.trans_eq, List.append_assoc]
  case puts_eq => rw [h2.puts_eq, h1.puts_eq, List.append_assoc]
  case next_eq => omega
  case tgtV_eq => exact h2.tgtV_eq.trans h1.tgtV_eq
  case fresh =>
    intro k hk
    simp only [List.map_append, List.mem_append] at hk
    exact hk.elim (fun hk => (fresh2 k hk).2) (h1.fresh k)
  case nodup =>
    rw [List.map_append, List.nodup_append]
    refine ⟨h2.nodup, h1.nodup, fun a ha b hb hab => ?_⟩
    subst hab
    exact (assoc_none_iff a N1).mp (fresh2 a ha).1 hb
  case targets =>
    -- a target of the second call that was in `s2.trans` is an old one or a target of the first call
    intro p hp
    rcases List.mem_append.mp hp with hp | hp
    · rcases h2.targets p hp with h | ⟨m, hm, l1, l2⟩
      · rw [h1.trans_eq, List.map_append, List.mem_append] at h
        rcases h with h | h
        · obtain ⟨q, hq, hqe⟩ := List.mem_map.mp h
          rcases h1.targets q hq with h' | ⟨m, hm, l1, l2⟩
          · exact Or.inl (hqe ▸ h')
          · exact Or.inr ⟨m, hqe ▸ hm, l1, by omega⟩
        · exact Or.inl h
      · exact Or.inr ⟨m, hm, by omega, by omega⟩
    · rcases h1.targets p hp with h | ⟨m, hm, l1, l2⟩
      · exact Or.inl h
      · exact Or.inr ⟨m, hm, l1, by omega⟩
  case written =>
    rw [List.map_append, ← List.range'_append_1, List.map_append, ← c1]
    exact List.Perm.append h1.written h2.written
  case images =>
    intro p hp
    rcases List.mem_append.mp hp with hp | hp
    · obtain ⟨src, hm, him⟩ := h1.images p hp
      exact ⟨src, List.mem_append_right _ hm, Image_stable hext G src p.2 him⟩
    · obtain ⟨src, hm, him⟩ := h2.images p hp
      exact ⟨src, List.mem_append_left _ hm, him⟩

theorem put_tgtV {s s' : St} {r : Ref} {v : Val} (h : put s r v = .ok s') : s'.tgtV = s.tgtV := by
  rw [put_ok h]

theorem alloc_tgtV {s s1 : St} {n : Ref} (h : alloc s = .ok (n, s1)) : s1.tgtV = s.tgtV := by
  rw [(alloc_ok h).2]

theorem enter_keys (chain : List Ref) (t : Ref) : (chain.map fun k => (k, t)).map Prod.fst = chain := by
  simp [List.map_map, Function.comp_def]

theorem assoc_enter (k : Ref) (chain : List Ref) (t : Ref) (tr : List (Ref × Ref)) :
    assoc k (enter chain t tr) = if k ∈ chain then some t else assoc k tr := by
  induction chain with
  | nil => rfl
  | cons a l ih =>
    simp only [enter, List.map_cons, List.cons_append, assoc, List.mem_cons] at ih ⊢
    split
    · next h => simp [h]
    · next h => rw [ih]; simp [Ne.symm h]

theorem extends_enter {chain : List Ref} {tr : List (Ref × Ref)} (t : Ref)
    (hfresh : ∀ k ∈ chain, assoc k tr = none) : Extends tr (enter chain t tr) :=
  extends_append _ _ (by rw [enter_keys]; exact hfresh)

theorem assoc_enter_mem {chain : List Ref} {t r : Ref} {tr : List (Ref × Ref)} (h : r ∈ chain) :
    assoc r (enter chain t tr) = some t := by
  rw [assoc_enter, if_pos h]

theorem assoc_enter_other {chain : List Ref} {t x : Ref} {tr : List (Ref × Ref)} (h : x ∉ chain) :
    assoc x (enter chain t tr) = assoc x tr := by
  rw [assoc_enter, if_neg h]

theorem assoc_enter_none {chain : List Ref} {t k : Ref} {tr : List (Ref × Ref)}
    (h : assoc k (enter chain t tr) = none) : k ∉ chain ∧ assoc k tr = none := by
  rw [assoc_enter] at h
  split at h
  · cases h
  · next hk => exact ⟨hk, h⟩

theorem mem_enter {chain : List Ref} {t : Ref} {tr : List (Ref × Ref)} {k t' : Ref}
    (h : (k, t') ∈ enter chain t tr) : (k ∈ chain ∧ t' = t) ∨ (k, t') ∈ tr := by
  unfold enter at h
  rcases List.mem_append.mp h with h | h
  · obtain ⟨x, hx, he⟩ := List.mem_map.mp h
    cases he; exact Or.inl ⟨hx, rfl⟩
  · exact Or.inr h

/-- the branch of `CopyReference` which allocates: the chain ended (or resolves to null) -/
theorem Eff_copyRef_new {G : Graph} {s s3 : St} {r : Ref} {chain : List Ref} {v' : Val}
    (hnd : chain.Nodup) (hfresh : ∀ k ∈ chain, assoc k s.trans = none) (hr : r ∈ chain)
    (h23 : Eff G (entered s chain) s3) (him : Image s3.trans G r v') :
    Eff G s { s3 with puts := s3.puts ++ [(refOf s.next, v')] } := by
  obtain ⟨N, P, a, h⟩ := h23.parts
  have hc := h.next_eq
  rw [entered_next] at hc
  refine EffOf.eff (N := N ++ chain.map (fun k => (k, refOf s.next))) (P := P ++ [(refOf s.next, v')])
    (a := a + 1) ?_
  constructor
  case trans_eq => simp [h.trans_eq, entered_trans, enter]
  case puts_eq => simp [h.puts_eq, entered_puts]
  case next_eq => simp only [hc]; omega
  case tgtV_eq => exact h.tgtV_eq
  case fresh =>
    intro k hk
    rw [List.map_append, enter_keys, List.mem_append] at hk
    exact hk.elim (fun hk => (assoc_enter_none (h.fresh k hk)).2) (hfresh k)
  case nodup =>
    rw [List.map_append, enter_keys, List.nodup_append]
    exact ⟨h.nodup, hnd, fun x hx y hy hxy => (assoc_enter_none (h.fresh x hx)).1 (hxy ▸ hy)⟩
  case targets =>
    -- a target of the nested call that was in `trans` at its start is the new number or an old target
    intro p hp
    rcases List.mem_append.mp hp with hp | hp
    · rcases h.targets p hp with h' | ⟨m, hm, h1, h2⟩
      · obtain ⟨q, hq, hqe⟩ := List.mem_map.mp h'
        rcases mem_enter (k := q.1) (t' := q.2) hq with ⟨_, ht⟩ | hq'
        · exact Or.inr ⟨s.next, by rw [← hqe, ht], Nat.le_refl _, by omega⟩
        · exact Or.inl (List.mem_map.mpr ⟨q, hq', hqe⟩)
      · rw [entered_next] at h1 h2
        exact Or.inr ⟨m, hm, by omega, by omega⟩
    · obtain ⟨k, _, rfl⟩ := List.mem_map.mp hp
      exact Or.inr ⟨s.next, rfl, Nat.le_refl _, by omega⟩
  case written =>
    rw [List.map_append, Nat.add_comm a 1, ← List.range'_append_1, List.map_append]
    simp only [List.map_cons, List.map_nil, List.range'_one]
    exact (List.Perm.append h.written (List.Perm.refl _)).trans List.perm_append_comm
  case images =>
    intro p hp
    rcases List.mem_append.mp hp with hp | hp
    · obtain ⟨src, hm, hi'⟩ := h.images p hp
      exact ⟨src, List.mem_append_left _ hm, hi'⟩
    · simp only [List.mem_singleton] at hp
      subst hp
      exact ⟨r, List.mem_append_right _ (List.mem_map.mpr ⟨r, hr, rfl⟩), him⟩

/-- the branch of `CopyReference` which finds a link of the chain translated already -/
theorem Eff_copyRef_known {G : Graph} {s : St} {chain : List Ref} {t x : Ref}
    (hnd : chain.Nodup) (hfresh : ∀ k ∈ chain, assoc k s.trans = none)
    (hx : assoc x s.trans = some t) :
    Eff G s { s with trans := enter chain t s.trans } := by
  refine EffOf.eff (N := chain.map (fun k => (k, t))) (P := []) (a := 0)
    ⟨rfl, (List.append_nil _).symm, rfl, ?fresh, ?nodup, ?targets, .refl _, nofun, rfl⟩
  case fresh => rw [enter_keys]; exact hfresh
  case nodup => rw [enter_keys]; exact hnd
  case targets =>
    intro p hp
    obtain ⟨k, _, rfl⟩ := List.mem_map.mp hp
    exact Or.inl (List.mem_map.mpr ⟨(x, t), assoc_some_mem _ _ _ hx, rfl⟩)

def PObj (G : Graph) (f : Nat) : Prop := ∀ s o o' s', copyObj f G s o = .ok (o', s') →
  Eff G s s' ∧ mapObj s'.trans (ordered o) = some o'
def PList (G : Graph) (f : Nat) : Prop := ∀ s xs ys s', copyList f G s xs = .ok (ys, s') →
  Eff G s s' ∧ mapList s'.trans (orderedList xs) = some ys
def PKV (G : Graph) (f : Nat) : Prop := ∀ s L L' s', copyKV f G s L = .ok (L', s') →
  Eff G s s' ∧ mapKV s'.trans (orderedKV L) = some L'
def PRef (G : Graph) (f : Nat) : Prop := ∀ s r t s', copyRef f G s r = .ok (t, s') →
  Eff G s s' ∧ assoc r s'.trans = some t
def PInl (G : Graph) (f : Nat) : Prop := ∀ s src res key res' s',
  inlineKey f G s src res key = .ok (res', s') →
  Eff G s s' ∧ ∀ R, mapKV s.trans R = some res →
    ∃ R', specSet G src key R = some R' ∧ mapKV s'.trans R' = some res'
def PSD (G : Graph) (f : Nat) : Prop := ∀ s src res s', copyStreamDict f G s src = .ok (res, s') →
  Eff G s s' ∧ ∃ D, specDict G src = some D ∧ mapKV s'.trans D = some res
def PVal (G : Graph) (f : Nat) : Prop := ∀ s v v' s', copyVal f G s v = .ok (v', s') →
  Eff G s s' ∧ ∃ sp, specVal G v = some sp ∧ mapVal s'.trans sp = some v'


structure Copies (G : Graph) (f : Nat) : Prop where
  obj : ∀ {s o o' s'}, copyObjE f G s o = (.ok o', s') →
    Eff G s s' ∧ mapObj s'.trans (ordered o) = some o'
  list : ∀ {s xs ys s'}, copyListE f G s xs = (.ok ys, s') →
    Eff G s s' ∧ mapList s'.trans (orderedList xs) = some ys
  kv : ∀ {s L L' s'}, copyKVE f G s L = (.ok L', s') →
    Eff G s s' ∧ mapKV s'.trans (orderedKV L) = some L'
  inl : ∀ {s src res key res' s'}, inlineKeyE f G s src res key = (.ok res', s') →
    Eff G s s' ∧ ∀ R, mapKV s.trans R = some res →
      ∃ R', specSet G src key R = some R' ∧ mapKV s'.trans R' = some res'
  sd : ∀ {s src res s'}, copyStreamDictE f G s src = (.ok res, s') →
    Eff G s s' ∧ ∃ D, specDict G src = some D ∧ mapKV s'.trans D = some res
  val : ∀ {s v v' s'}, copyValE f G s v = (.ok v', s') →
    Eff G s s' ∧ ∃ sp, specVal G v = some sp ∧ mapVal s'.trans sp = some v'
  ref : ∀ {s r t s'}, copyRefE f G s r = (.ok t, s') →
    Eff G s s' ∧ assoc r s'.trans = some t

theorem copies (G : Graph) : ∀ f, Copies G f := by
  intro f
  induction f with
  | zero =>
    exact ⟨by simp [copyObjE], by simp [copyListE], by simp [copyKVE], by simp [inlineKeyE],
      by simp [copyStreamDictE], by simp [copyValE], by simp [copyRefE]⟩
  | succ f ih =>
    refine ⟨?_, ?_, ?_, ?_, ?_, ?_, ?_⟩
    · intro s o o' s' h
      cases o with
      | dict kv =>
        rw [copyObjE_dict] at h
        obtain ⟨kv', s1, hk, h⟩ := andThen_ok.mp h
        cases h
        obtain ⟨e, m⟩ := ih.kv hk
        exact ⟨e, by simp only [ordered, mapObj, ← orderedKV_sortedEntries, m]⟩
      | arr xs =>
        rw [copyObjE_arr] at h
        obtain ⟨ys, s1, hk, h⟩ := andThen_ok.mp h
        cases h
        obtain ⟨e, m⟩ := ih.list hk
        exact ⟨e, by simp only [ordered, mapObj, m]⟩
      | ref n g =>
        rw [copyObjE_ref] at h
        obtain ⟨t, s1, hk, h⟩ := andThen_ok.mp h
        cases h
        obtain ⟨e, m⟩ := ih.ref hk
        exact ⟨e, by simp only [ordered, mapObj, m]⟩
      | _ => cases h; exact ⟨Eff.refl G _, rfl⟩
    · intro s xs ys s' h
      cases xs with
      | nil => cases h; exact ⟨Eff.refl G _, rfl⟩
      | cons x xs =>
        rw [copyListE_cons] at h
        obtain ⟨y, s1, hy, h⟩ := andThen_ok.mp h
        obtain ⟨ys', s2, hys, h⟩ := andThen_ok.mp h
        cases h
        obtain ⟨e1, m1⟩ := ih.obj hy
        obtain ⟨e2, m2⟩ := ih.list hys
        -- the image of the first element, taken under `s1.trans`, stays one under the later `s2.trans`
        exact ⟨e1.trans e2, by simp only [orderedList, mapList, mapObj_stable e2.extends _ _ m1, m2]⟩
    · intro s L L' s' h
      cases L with
      | nil => cases h; exact ⟨Eff.refl G _, rfl⟩
      | cons p rest =>
        obtain ⟨k, v⟩ := p
        by_cases hv : v = .null
        · subst hv
          rw [copyKVE_null] at h
          obtain ⟨rest', s1, hr, h⟩ := andThen_ok.mp h
          cases h
          obtain ⟨e, m⟩ := ih.kv hr
          exact ⟨e, by simp only [orderedKV, ordered, mapKV, mapObj, m]⟩
        · rw [copyKVE_cons _ _ _ _ _ _ hv] at h
          obtain ⟨v', s1, hv', h⟩ := andThen_ok.mp h
          obtain ⟨rest', s2, hr, h⟩ := andThen_ok.mp h
          cases h
          obtain ⟨e1, m1⟩ := ih.obj hv'
          obtain ⟨e2, m2⟩ := ih.kv hr
          exact ⟨e1.trans e2, by simp only [orderedKV, mapKV, mapObj_stable e2.extends _ _ m1, m2]⟩
    · intro s src res key res' s' h
      rw [inlineKeyE_eq] at h
      split at h
      · next hk =>
        cases h
        exact ⟨Eff.refl G _, fun R hR => ⟨R, by simp [specSet, hk], hR⟩⟩
      · next val hk =>
        split at h
        · cases h
        · cases h
        · next inl hi =>
          obtain ⟨repl, s1, hc, h⟩ := andThen_ok.mp h
          cases h
          obtain ⟨e, m⟩ := ih.obj hc
          exact ⟨e, fun R hR => ⟨kvSet key (ordered inl) R, by simp [specSet, hk, hi],
            mapKV_kvSet key m R res (mapKV_stable e.extends _ _ hR)⟩⟩
    · intro s src res s' h
      rw [copyStreamDictE_eq] at h
      obtain ⟨res1, s1, h1, h⟩ := andThen_ok.mp h
      obtain ⟨res2, s2, h2, h⟩ := andThen_ok.mp h
      obtain ⟨e1, m1⟩ := ih.kv h1
      obtain ⟨e2, m2⟩ := ih.inl h2
      obtain ⟨e3, m3⟩ := ih.inl h
      obtain ⟨R', r1, r2⟩ := m2 _ m1
      obtain ⟨R'', r3, r4⟩ := m3 _ r2
      exact ⟨(e1.trans e2).trans e3, R'', by simp [specDict, r1, r3], r4⟩
    · intro s v v' s' h
      cases v with
      | obj o =>
        rw [copyValE_obj] at h
        obtain ⟨o', s1, ho, h⟩ := andThen_ok.mp h
        cases h
        obtain ⟨e, m⟩ := ih.obj ho
        exact ⟨e, .obj (ordered o), rfl, by simp [mapVal, m]⟩
      | stream dict data enc =>
        rw [copyValE_stream] at h
        obtain ⟨dict', s1, hd, h⟩ := andThen_ok.mp h
        obtain ⟨e, D, d1, d2⟩ := ih.sd hd
        split at h
        · cases h
        · cases h
        · cases h
          exact ⟨e, .stream D data false, by simp [specVal, d1], by simp [mapVal, d2]⟩
    · intro s r t s' h
      have hs := copyRefE_step G f s r
      rw [h] at hs
      cases hs with
      | old ht => exact ⟨Eff.refl G _, ht⟩
      | known hn hw =>
        have w := walk_known hn hw
        obtain ⟨x, hx, _⟩ := w.link
        exact ⟨Eff_copyRef_known w.nodup w.fresh hx, assoc_enter_mem w.mem⟩
      | copied hn hw hc hp =>
        have w := walk_ends hn hw
        obtain ⟨e, sp, p1, p2⟩ := ih.val hc
        rw [put_ok_lt hp (entered_lt e.frame)]
        exact ⟨Eff_copyRef_new w.nodup w.fresh w.mem e ⟨_, sp, w.resolves, p1, p2⟩,
          e.extends r _ (assoc_enter_mem w.mem)⟩

theorem copy_main (G : Graph) : ∀ f : Nat,
    PObj G f ∧ PList G f ∧ PKV G f ∧ PInl G f ∧ PSD G f ∧ PVal G f ∧ PRef G f := by
  intro f
  have h := copies G f
  have a := agrees G f
  exact ⟨fun s o _ _ e => h.obj (toPlain_ok.mp ((a.obj s o).trans e)),
    fun s xs _ _ e => h.list (toPlain_ok.mp ((a.list s xs).trans e)),
    fun s L _ _ e => h.kv (toPlain_ok.mp ((a.kv s L).trans e)),
    fun s src res key _ _ e => h.inl (toPlain_ok.mp ((a.inl s src res key).trans e)),
    fun s src _ _ e => h.sd (toPlain_ok.mp ((a.sd s src).trans e)),
    fun s v _ _ e => h.val (toPlain_ok.mp ((a.val s v).trans e)),
    fun s r _ _ e => h.ref (toPlain_ok.mp ((a.ref s r).trans e))⟩

/-- every call, failed or not, only adds objects with fresh numbers: a successful one by `Eff` (already
    proved, and it needs the numbers of the nested `Copy` above the allocated one), a failed `CopyReference`
    has what the nested `Copy` wrote -/
theorem frame_calls (G : Graph) : ∀ f, CallsE G f C11cpyd.Frame := by
  refine relE_main C11cpyd.Frame.refl (fun h1 h2 => h1.trans h2) G ?_
  intro f s r ih
  have nest : ∀ {chain v e s3}, copyValE f G (entered s chain) v = (e, s3) →
      C11cpyd.Frame s (restoreTrans s s3) := fun {chain v _ _} hc => by
    have := ih (entered s chain) v
    rw [hc] at this
    exact frame_restore this
  have hs := copyRefE_step G f s r
  rcases h : copyRefE (f+1) G s r with ⟨e | t, s'⟩
  · rw [h] at hs
    cases hs with
    | fails | full => exact .refl s
    | nested _ _ hc => exact nest hc
    | refused _ _ hc _ => exact nest hc
  · exact ((copies G (f+1)).ref h).1.frame

/-- Resolution does not depend on the link at which it starts.  A hypothesis of the theorems below, to be
    discharged for the graph at hand (`C11cpyc.linkInv_G0` does it by enumeration); no theorem derives it.
    It should hold for every graph whose chains of references end (or loop) within `MaxExtractDepth`
    links; a longer chain resolves to null from its first links and to its value from the later ones. -/
def LinkInv (G : Graph) : Prop :=
  ∀ a n g, CPY.get G a true = .ok (.obj (.ref n g)) → resolveOrNull G a = resolveOrNull G (n, g)

theorem LinkInv.leads {G : Graph} (hL : LinkInv G) {a b : Ref} (h : Leads G a b) :
    resolveOrNull G a = resolveOrNull G b := by
  induction h with
  | one h => exact hL _ _ _ h
  | more h _ ih => rw [hL _ _ _ h]; exact ih

theorem Image_of_leads {G : Graph} (hL : LinkInv G) {tr : List (Ref × Ref)} {k x : Ref} {v : Val}
    (h : Leads G k x) (hi : Image tr G x v) : Image tr G k v := by
  obtain ⟨sv, sp, h1, h2, h3⟩ := hi
  exact ⟨sv, sp, by rw [hL.leads h]; exact h1, h2, h3⟩

theorem chain_resolve {G : Graph} (hL : LinkInv G) {tr : List (Ref × Ref)} {r : Ref} {v : Val} {c : List Ref}
    (hw : WEnds G tr r v c) : ∀ k ∈ c, resolveOrNull G k = .ok v := by
  intro k hk
  rcases hw.shape with ⟨hc, _⟩ | ⟨_, e, _, _, _, hle, _⟩
  · rw [hc] at hk; simp only [List.mem_singleton] at hk; subst hk; exact hw.resolves
  · have hre : resolveOrNull G r = resolveOrNull G e := by
      rcases hle r hw.mem with h | h
      · rw [h]
      · exact hL.leads h
    rcases hle k hk with h | h
    · rw [h, ← hre]; exact hw.resolves
    · rw [hL.leads h, ← hre]; exact hw.resolves

theorem copyRef_effect {G : Graph} {f : Nat} {s s' : St} {r t : Ref}
    (h : copyRef f G s r = .ok (t, s')) : Eff G s s' ∧ assoc r s'.trans = some t :=
  (copies G f).ref ((copyRefE_ok G).mpr h)

/-- A successful `CopyReference` extends `trans` by new source references only (nothing is overwritten)
and hands exactly the numbers it allocated to `Writer.Put`, each once, each the translation of a new source
reference — for every source graph, cyclic or not. -/
theorem copied_once {G : Graph} {f : Nat} {s s' : St} {r t : Ref}
    (h : copyRef f G s r = .ok (t, s')) :
    ∃ (N : List (Ref × Ref)) (P : List (Ref × Val)),
      s'.trans = N ++ s.trans ∧ s'.puts = s.puts ++ P ∧
      (∀ k ∈ N.map Prod.fst, assoc k s.trans = none) ∧ (N.map Prod.fst).Nodup ∧
      (∀ p ∈ N, p.2 ∈ s.trans.map Prod.snd ∨ ∃ m, p.2 = refOf m ∧ s.next ≤ m ∧ m < s'.next) ∧
      (P.map Prod.fst).Perm ((List.range' s.next (s'.next - s.next)).map refOf) ∧
      (∀ n, s.next ≤ n → n < s'.next → (P.map Prod.fst).count (refOf n) = 1) ∧
      (∀ n, s.next ≤ n → n < s'.next → ∃ k, (k, refOf n) ∈ N) := by
  obtain ⟨N, P, a, e⟩ := (copyRef_effect h).1.parts
  have hc := e.next_eq
  have hg := e.written
  have hl : s'.next - s.next = a := by omega
  refine ⟨N, P, e.trans_eq, e.puts_eq, e.fresh, e.nodup, ?_, ?_, ?_, ?_⟩
  · intro p hp
    rcases e.targets p hp with h | ⟨m, hm, h1, h2⟩
    · exact Or.inl h
    · exact Or.inr ⟨m, hm, h1, by omega⟩
  · rw [hl]; exact hg
  · intro n h1 h2
    rw [hg.count_eq, (range_refs_nodup _ _).count, if_pos]
    exact List.mem_map.mpr ⟨n, List.mem_range'_1.mpr (by omega), rfl⟩
  · intro n h1 h2
    have hmem : refOf n ∈ P.map Prod.fst :=
      hg.mem_iff.mpr (List.mem_map.mpr ⟨n, List.mem_range'_1.mpr (by omega), rfl⟩)
    obtain ⟨p, hp, hpe⟩ := List.mem_map.mp hmem
    obtain ⟨src, hm, _⟩ := e.images p hp
    exact ⟨src, hpe ▸ hm⟩

theorem copy_known {G : Graph} {s : St} {r t : Ref} (h : assoc r s.trans = some t) (f : Nat) :
    copyRef (f + 1) G s r = .ok (t, s) := by
  simp [copyRef, h]

theorem copy_idempotent {G : Graph} {f : Nat} {s s' : St} {r t : Ref}
    (h : copyRef f G s r = .ok (t, s')) (f' : Nat) :
    copyRef (f' + 1) G s' r = .ok (t, s') :=
  copy_known (copyRef_effect h).2 f'

/-- `trans` only grows: copies of other objects never change the answer for a reference already
    translated -/
theorem copy_stable {G : Graph} {f : Nat} {s s' : St} {r t a ta : Ref}
    (ha : assoc a s.trans = some ta) (h : copyRef f G s r = .ok (t, s')) (f' : Nat) :
    copyRef (f' + 1) G s' a = .ok (ta, s') :=
  copy_known ((copyRef_effect h).1.extends a ta ha) f'

/-- A reference that resolves to nothing - here: an object that is not
defined (never written, free, wrong generation); malformed objects, pure reference cycles and
chains deeper than `MaxExtractDepth` are treated alike, see `walkChain` - is copied as a
reference to a new object holding null. -/
theorem dangling_is_null {G : Graph} {s : St} {r : Ref} (f : Nat)
    (hmiss : assoc r G = none)
    (hnew : assoc r s.trans = none)
    (hroom : s.next < Gen.cpy_maxXRefSize)
    (hfree : s.puts.any (fun p => p.1.1 == s.next) = false) :
    copyRef (f + 3) G s r = .ok (refOf s.next,
      { trans := (r, refOf s.next) :: s.trans, next := s.next + 1,
        puts := s.puts ++ [(refOf s.next, .obj .null)], tgtV := s.tgtV }) := by
  have h1 : ¬ (s.next ≥ Gen.cpy_maxXRefSize) := by omega
  have hw : walkFrom G s.trans r = .ends (.obj .null) [r] := by
    unfold walkFrom walkChain
    simp [CPY.get, hmiss]
  -- three units of fuel: `copyRef` calls `copyVal`, which calls `copyObj` on null
  simp [copyRef, hnew, hw, alloc, h1, copyVal, copyObj, put, putRefusal, hfree, refOf, enter]

theorem resolveOrNull_missing {G : Graph} {r : Ref} (h : assoc r G = none) :
    resolveOrNull G r = .ok (.obj .null) := by
  have hg : CPY.get G r true = .ok (.obj .null) := by simp [CPY.get, h]
  rw [resolveOrNull_of_loop, ← depth_succ, resolveLoop_end List.not_mem_nil hg (by simp [IsRef])]

theorem resolveOrNull_bad {G : Graph} {r : Ref} {e : Entry} (h : assoc r G = some e)
    (hb : e.node = .bad) : resolveOrNull G r = .ok (.obj .null) := by
  have hg : CPY.get G r true = .error .malformed := by simp [CPY.get, h, hb]
  rw [resolveOrNull_of_loop, ← depth_succ, resolveLoop_err List.not_mem_nil hg]

theorem resolveOrNull_selfloop {G : Graph} {r : Ref} {e : Entry} (h : assoc r G = some e)
    (hb : e.node = .val (.obj (.ref r.1 r.2))) (hs : e.inStm = false) :
    resolveOrNull G r = .ok (.obj .null) := by
  have hg : CPY.get G r true = .ok (.obj (.ref r.1 r.2)) := by simp [CPY.get, h, hb, hs]
  rw [resolveOrNull_of_loop, ← depth_succ, resolveLoop_ref List.not_mem_nil hg,
    resolveLoop_cycle List.mem_cons_self]

theorem map_refs {tr : List (Ref × Ref)} :
    (∀ o o', mapObj tr o = some o' → ∀ b ∈ orefs o, ∃ t, assoc b tr = some t) ∧
    (∀ xs ys, mapList tr xs = some ys → ∀ b ∈ lrefs xs, ∃ t, assoc b tr = some t) ∧
    (∀ kv kv', mapKV tr kv = some kv' → ∀ b ∈ kvrefs kv, ∃ t, assoc b tr = some t) := by
  apply obj_induct
  · intro o h1 h2 h3 o' _ b hb
    rw [orefs_atom h1 h2 h3] at hb
    cases hb
  · intro n g o' h' b hb
    obtain ⟨t, ht, _⟩ := mapObj_ref.mp h'
    cases List.mem_singleton.mp hb
    exact ⟨t, ht⟩
  · intro xs ih o' h'
    obtain ⟨ys, hys, _⟩ := mapObj_arr.mp h'
    exact ih ys hys
  · intro kv ih o' h'
    obtain ⟨kv', hkv, _⟩ := mapObj_dict.mp h'
    exact ih kv' hkv
  · intro ys _ b hb; cases hb
  · intro x xs ihx ihxs ys h' b hb
    obtain ⟨y, ys', hy, hys, _⟩ := mapList_cons.mp h'
    exact (List.mem_append.mp hb).elim (ihx y hy b) (ihxs ys' hys b)
  · intro kv' _ b hb; cases hb
  · intro k v rest ihv ihr kv' h' b hb
    obtain ⟨v', rest', hv, hr, _⟩ := mapKV_cons.mp h'
    exact (List.mem_append.mp hb).elim (ihv v' hv b) (ihr rest' hr b)

theorem mapVal_refs {tr : List (Ref × Ref)} {sp v : Val} (h : mapVal tr sp = some v) :
    ∀ b ∈ valRefs sp, ∃ t, assoc b tr = some t := by
  cases sp with
  | obj o => obtain ⟨o', ho, _⟩ := mapVal_obj.mp h; exact map_refs.1 o o' ho
  | stream d data enc => obtain ⟨d', hd, _⟩ := mapVal_stream.mp h; exact map_refs.2.2 d d' hd

/-- the references of a source object that has an image are translated: what makes the translated
    part of the source closed under reachability -/
theorem image_refs {tr : List (Ref × Ref)} {G : Graph} {a b : Ref} {v : Val} (hi : Image tr G a v)
    (hb : b ∈ specRefs G a) : ∃ t, assoc b tr = some t := by
  obtain ⟨sv, sp, h1, h2, h3⟩ := hi
  exact mapVal_refs h3 b (by simpa [specRefs, h1, h2] using hb)

/-- a source reference is exempt from the consistency claim if the caller redirected it, or if
    it is an alias (a chain of references) of a redirected reference -/
def Exempt (G : Graph) (Rd : List Ref) (src : Ref) : Prop := src ∈ Rd ∨ ∃ x ∈ Rd, Leads G src x

theorem not_exempt_nil (G : Graph) (src : Ref) : ¬ Exempt G [] src := by
  rintro (h | ⟨x, h, _⟩) <;> simp at h

theorem Exempt.of_leads {G : Graph} {Rd : List Ref} {a c : Ref} (h : Exempt G Rd c) (hl : Leads G a c) :
    Exempt G Rd a :=
  h.elim (fun h => .inr ⟨c, h, hl⟩) fun ⟨x, hx, hl'⟩ => .inr ⟨x, hx, hl.trans hl'⟩

theorem Exempt.mono {G : Graph} {Rd Rd' : List Ref} (h : ∀ x ∈ Rd, x ∈ Rd') {src : Ref} :
    Exempt G Rd src → Exempt G Rd' src
  | .inl hs => .inl (h _ hs)
  | .inr ⟨x, hx, hl⟩ => .inr ⟨x, h x hx, hl⟩

/-- The copier state is consistent: the objects written have distinct numbers below `next`,
    and every translated source reference (except the redirected ones `Rd` and their aliases) has
    its object written, which is the image of the source object under the current translation. -/
def Consistent (G : Graph) (Rd : List Ref) (s : St) : Prop :=
  (s.puts.map Prod.fst).Nodup ∧ (∀ k ∈ s.puts.map Prod.fst, k.1 < s.next) ∧
  ∀ src t, (src, t) ∈ s.trans → ¬ Exempt G Rd src →
    ∃ v, assoc t s.puts = some v ∧ Image s.trans G src v

/-- the state of a new `Copier` on a target whose next free number is `n0`; `tv` is /V of the
    target's encryption dictionary (0: not encrypted) -/
def St.init (n0 : Nat) (tv : Nat := 0) : St := { trans := [], next := n0, puts := [], tgtV := tv }

theorem consistent_mono {G : Graph} {Rd Rd' : List Ref} {s : St} (h : ∀ x ∈ Rd, x ∈ Rd')
    (hc : Consistent G Rd s) : Consistent G Rd' s :=
  ⟨hc.1, hc.2.1, fun src t hm hr => hc.2.2 src t hm fun he => hr (Exempt.mono h he)⟩

theorem init_consistent (G : Graph) (n0 : Nat) (tv : Nat := 0) : Consistent G [] (St.init n0 tv) := by
  simp [Consistent, St.init]

/-- Every translated source reference (the redirected ones and their aliases apart) has its object
    written, and that is its image — or its target is among `pend`, the numbers which calls of
    `CopyReference` that are still running have allocated and not yet written, and then it resolves
    to the value that call is copying. -/
def Covered (G : Graph) (Rd : List Ref) (pend : List (Ref × Val)) (s : St) : Prop :=
  ∀ src t, (src, t) ∈ s.trans → ¬ Exempt G Rd src →
    (∃ v, (t, v) ∈ s.puts ∧ Image s.trans G src v) ∨ ∃ sv, (t, sv) ∈ pend ∧ resolveOrNull G src = .ok sv

theorem covered_nil {G : Graph} {Rd : List Ref} {s : St} (hnd : (s.puts.map Prod.fst).Nodup) :
    Covered G Rd [] s ↔ ∀ src t, (src, t) ∈ s.trans → ¬ Exempt G Rd src →
      ∃ v, assoc t s.puts = some v ∧ Image s.trans G src v := by
  refine forall₄_congr fun src t _ _ => ⟨?_, fun ⟨v, hv, hi⟩ => .inl ⟨v, assoc_some_mem _ _ _ hv, hi⟩⟩
  rintro (⟨v, hv, hi⟩ | ⟨_, h, _⟩)
  · exact ⟨v, assoc_of_mem_nodup _ _ _ hnd hv, hi⟩
  · cases h

theorem Covered.frame {G : Graph} {Rd : List Ref} {pend : List (Ref × Val)} {s s' : St}
    (h : Covered G Rd pend s) (ht : s'.trans = s.trans) (hf : C11cpyd.Frame s s') : Covered G Rd pend s' := by
  obtain ⟨_, P, hb, _⟩ := hf
  intro src t hm hx
  rw [ht] at hm ⊢
  exact (h src t hm hx).imp_left fun ⟨v, hv, hi⟩ => ⟨v, by rw [hb]; exact List.mem_append_left _ hv, hi⟩

theorem Covered.start {G : Graph} {Rd : List Ref} {pend : List (Ref × Val)} {s : St} {chain : List Ref}
    {v : Val} (h : Covered G Rd pend s) (hfresh : ∀ k ∈ chain, assoc k s.trans = none)
    (hres : ∀ k ∈ chain, resolveOrNull G k = .ok v) :
    Covered G Rd ((refOf s.next, v) :: pend) (entered s chain) := by
  intro src t hm hx
  rcases mem_enter hm with ⟨hk, rfl⟩ | hm'
  · exact .inr ⟨v, List.mem_cons_self, hres src hk⟩
  · refine (h src t hm' hx).imp (fun ⟨w, hw, hi⟩ => ⟨w, hw, ?_⟩) fun ⟨sv, hp, hr⟩ => ⟨sv, List.mem_cons_of_mem _ hp, hr⟩
    exact Image_stable (extends_enter _ hfresh) G src w hi

theorem Covered.written {G : Graph} {Rd : List Ref} {pend : List (Ref × Val)} {s3 : St} {n : Ref} {v sp v' : Val}
    (h : Covered G Rd ((n, v) :: pend) s3) (p1 : specVal G v = some sp) (p2 : mapVal s3.trans sp = some v') :
    Covered G Rd pend { s3 with puts := s3.puts ++ [(n, v')] } := by
  intro src t hm hx
  rcases h src t hm hx with ⟨w, hw, hi⟩ | ⟨sv, hp, hr⟩
  · exact .inl ⟨w, List.mem_append_left _ hw, hi⟩
  · rcases List.mem_cons.mp hp with e | hp
    · cases e; exact .inl ⟨v', by simp, _, sp, hr, p1, p2⟩
    · exact .inr ⟨sv, hp, hr⟩

theorem Covered.alias {G : Graph} (hL : LinkInv G) {Rd : List Ref} {pend : List (Ref × Val)} {s : St}
    {chain : List Ref} {t x : Ref} (h : Covered G Rd pend s) (hfresh : ∀ k ∈ chain, assoc k s.trans = none)
    (hx : assoc x s.trans = some t) (hl : ∀ k ∈ chain, Leads G k x) :
    Covered G Rd pend { s with trans := enter chain t s.trans } := by
  have hext := extends_enter t hfresh
  intro src t' hm hex
  rcases mem_enter hm with ⟨hk, rfl⟩ | hm'
  · have hxr : ¬ Exempt G Rd x := fun h => hex (h.of_leads (hl src hk))
    refine (h x t' (assoc_some_mem _ _ _ hx) hxr).imp (fun ⟨w, hw, hi⟩ => ⟨w, hw, ?_⟩)
      fun ⟨sv, hp, hr⟩ => ⟨sv, hp, by rw [hL.leads (hl src hk)]; exact hr⟩
    exact Image_of_leads hL (hl src hk) (Image_stable hext G x w hi)
  · exact (h src t' hm' hex).imp_left fun ⟨w, hw, hi⟩ => ⟨w, hw, Image_stable hext G src w hi⟩

/-- every call, failed or not, keeps it: a failed `CopyReference` has rolled `trans` back -/
theorem covered_main {G : Graph} (hL : LinkInv G) (Rd : List Ref) :
    ∀ f, CallsE G f fun s s' => ∀ pend, Covered G Rd pend s → Covered G Rd pend s' := by
  refine relE_main (fun _ _ h => h) (fun h12 h23 p h => h23 p (h12 p h)) G fun f s r ih pend hc => ?_
  have failed : ∀ {chain v e s3}, copyValE f G (entered s chain) v = (e, s3) →
      Covered G Rd pend (restoreTrans s s3) := fun {chain v _ _} hv => by
    have := (frame_calls G f).val (entered s chain) v
    rw [hv] at this
    exact hc.frame rfl (frame_restore this)
  have hs := copyRefE_step G f s r
  generalize copyRefE (f+1) G s r = x at hs
  cases hs with
  | old | fails | full => exact hc
  | nested _ _ hv => exact failed hv
  | refused _ _ hv _ => exact failed hv
  | known hn hw =>
    have w := walk_known hn hw
    obtain ⟨x, hx, hl, _⟩ := w.link
    exact hc.alias hL w.fresh hx hl
  | @copied v chain v' s3 s4 hn hw hv hp =>
    have w := walk_ends hn hw
    obtain ⟨e, sp, p1, p2⟩ := (copies G f).val hv
    have := ih (entered s chain) v _ (hc.start w.fresh (chain_resolve hL w))
    rw [hv] at this
    rw [put_ok_lt hp (entered_lt e.frame)]
    exact this.written p1 p2

theorem Consistent.of_frame {G : Graph} {Rd : List Ref} {s s' : St} (hc : Consistent G Rd s)
    (hf : C11cpyd.Frame s s') (h : Covered G Rd [] s → Covered G Rd [] s') : Consistent G Rd s' :=
  have ⟨c1, c2, c3⟩ := hc
  ⟨hf.nodup c1 c2, hf.pb c2, (covered_nil (hf.nodup c1 c2)).mp (h ((covered_nil c1).mpr c3))⟩

theorem frame_consistent {G : Graph} {Rd : List Ref} {s s' : St} (hc : Consistent G Rd s)
    (hf : C11cpyd.Frame s s') (ht : s'.trans = s.trans) : Consistent G Rd s' :=
  hc.of_frame hf fun h => h.frame ht hf

theorem consistent_main {G : Graph} (hL : LinkInv G) (Rd : List Ref) (f : Nat) :
    CallsE G f fun s s' => Consistent G Rd s → Consistent G Rd s' :=
  (frame_calls G f).imp₂ (covered_main hL Rd f) fun hf hcov hc => hc.of_frame hf (hcov [])

theorem copyRef_consistent {G : Graph} (hL : LinkInv G) {Rd : List Ref}
    {f : Nat} {s s' : St} {r t : Ref} (hc : Consistent G Rd s) (h : copyRef f G s r = .ok (t, s')) :
    Consistent G Rd s' := by
  have := (consistent_main hL Rd f).ref s r hc
  rwa [(copyRefE_ok G).mpr h] at this

/-- From a consistent copier state (in particular a new `Copier`), after a
successful `CopyReference(r)`: every source reference `b` reachable from `r` — through arrays,
dictionaries, stream dictionaries, chains of references and around cycles — has a translation
`t'`, the object `t'` has been written, and it is the image under the final translation of what
`b` resolves to (chain shortened; dictionaries in key order; /Filter and /DecodeParms inlined;
stream bytes unchanged).  `LinkInv` is a hypothesis on the graph, see there. -/
theorem copy_iso {G : Graph} (hL : LinkInv G) {f : Nat} {s s' : St} {r t : Ref}
    (hc : Consistent G [] s) (h : copyRef f G s r = .ok (t, s')) :
    ∀ b, Reach G r b →
      ∃ t' v, assoc b s'.trans = some t' ∧ assoc t' s'.puts = some v ∧ Image s'.trans G b v := by
  obtain ⟨e, hr⟩ := copyRef_effect h
  have hc' := copyRef_consistent hL hc h
  intro b hb
  induction hb with
  | root =>
    obtain ⟨v, hv, him⟩ := hc'.2.2 r t (assoc_some_mem _ _ _ hr) (not_exempt_nil G r)
    exact ⟨t, v, hr, hv, him⟩
  | @step a b _ hmem ih =>
    obtain ⟨ta, va, _, _, hia⟩ := ih
    obtain ⟨tb, htb⟩ := image_refs hia hmem
    obtain ⟨v, hv, him⟩ := hc'.2.2 b tb (assoc_some_mem _ _ _ htb) (not_exempt_nil G b)
    exact ⟨tb, v, htb, hv, him⟩

theorem stream_bytes_preserved {tr : List (Ref × Ref)} {G : Graph} {b : Ref} {v : Val}
    {dict : KV} {data : Bytes} {enc : Bool}
    (hres : resolveOrNull G b = .ok (.stream dict data enc)) (him : Image tr G b v) :
    ∃ d', v = .stream d' data false := by
  obtain ⟨sv, sp, h1, h2, h3⟩ := him
  rw [hres] at h1
  cases h1
  simp only [specVal] at h2
  split at h2
  · next D hD =>
    cases h2
    obtain ⟨d', _, rfl⟩ := mapVal_stream.mp h3
    exact ⟨d', rfl⟩
  · cases h2

/-- array lengths (in particular empty arrays) are preserved -/
theorem image_arr {tr : List (Ref × Ref)} {xs : List Obj} {o' : Obj}
    (h : mapObj tr (ordered (.arr xs)) = some o') : ∃ ys, o' = .arr ys ∧ ys.length = xs.length := by
  obtain ⟨ys, hys, rfl⟩ := mapObj_arr.mp h
  exact ⟨ys, rfl, by rw [mapList_length _ _ hys, orderedList_length]⟩

theorem sortKV_perm (l : KV) : (sortKV l).Perm l := _root_.PdfVerif.sortKV_perm l

/-- dictionary keys are preserved (the copy lists them in `SortedKeys` order), so are empty
dictionaries -/
theorem image_dict {tr : List (Ref × Ref)} {kv : KV} {o' : Obj}
    (h : mapObj tr (ordered (.dict kv)) = some o') :
    ∃ kv', o' = .dict kv' ∧ (kv'.map Prod.fst).Perm (kv.map Prod.fst) := by
  obtain ⟨kv', hkv, rfl⟩ := mapObj_dict.mp h
  refine ⟨kv', rfl, ?_⟩
  rw [mapKV_keys _ _ hkv]
  refine ((sortedEntries_perm _).map Prod.fst).trans ?_
  rw [orderedKV_eq_map, List.map_map]
  exact List.Perm.of_eq (List.map_congr_left (fun p _ => rfl))

/-- scalars (null, booleans, numbers, names, strings) are copied unchanged -/
theorem image_scalar {tr : List (Ref × Ref)} {o o' : Obj}
    (hs : match o with | .arr _ | .dict _ | .ref _ _ => False | _ => True)
    (h : mapObj tr (ordered o) = some o') : o' = o := by
  cases o <;> simp_all [ordered, mapObj]

/-- a null entry of a dictionary stays a null entry -/
theorem mapKV_null {tr : List (Ref × Ref)} (k : Bytes) :
    ∀ (kv kv' : KV), mapKV tr kv = some kv' → (k, Obj.null) ∈ kv → (k, Obj.null) ∈ kv'
  | [], kv' => by simp
  | (k', v) :: rest, kv' => by
    intro h hm
    obtain ⟨v', rest', hv, hr, rfl⟩ := mapKV_cons.mp h
    rcases List.mem_cons.mp hm with h | h
    · cases h; cases hv; exact List.mem_cons_self
    · exact List.mem_cons_of_mem _ (mapKV_null k rest rest' hr h)

/-- a reference is copied as the reference `trans` assigns to it -/
theorem image_ref {tr : List (Ref × Ref)} {n g : Nat} {o' : Obj}
    (h : mapObj tr (ordered (.ref n g)) = some o') :
    ∃ t, assoc (n, g) tr = some t ∧ o' = .ref t.1 t.2 :=
  mapObj_ref.mp h

end PdfVerif.C11cpy
