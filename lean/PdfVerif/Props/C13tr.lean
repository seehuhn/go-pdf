import PdfVerif.Lemmas.TRCmap
/-!
# C13 (translator part): cmap range validity and range index on the GENERATED code (font/cmap)

`Gen.cmap_rangeIsValid` and `Gen.cmap_rangeIndex` are re-created from font/cmap/{range,file}.go on
every run.  `rangeIndex` numbers the codes of a range `[first, last]` (a box, byte by byte) in
mixed radix; `LookupCID` adds the index to the first CID of the range and `codesInRange`
enumerates the codes in the same order.  The closed form of `rangeIndex` (the exact mixed-radix scan `idxScan`) is in
`Lemmas/TRCmap.lean`; here: the index is injective, monotone in the lexicographic order, and 0 on the first code.
-/
namespace PdfVerif.C13tr
open PdfVerif PdfVerif.Gen PdfVerif.Go

example : cmap_rangeIsValid [0, 0x20] [0, 0x7f] = some true ∧ cmap_rangeIsValid [1] [0] = some false := by
  decide +kernel

theorem idxScan_append (f l : List UInt8) (ps qs : List (UInt8 × Nat)) (acc : Int) :
    idxScan f l (ps ++ qs) acc = (idxScan f l ps acc).bind (idxScan f l qs) := by
  induction ps generalizing acc with
  | nil => simp [idxScan]
  | cons p ps ih =>
    obtain ⟨b, k⟩ := p
    simp only [List.cons_append, idxScan]
    cases idxStep f l b k acc with
    | none => simp
    | some a => simp [ih]

/-- a larger accumulator stays larger: the digits appended afterwards cannot make up for it -/
theorem idxScan_mono_acc (f l : List UInt8) (ps ps' : List (UInt8 × Nat))
    (hpos : ps.map Prod.snd = ps'.map Prod.snd) (a a' v v' : Int) (h0 : 0 ≤ a) (hlt : a < a')
    (h : idxScan f l ps a = some v) (h' : idxScan f l ps' a' = some v') : v < v' := by
  induction ps generalizing ps' a a' with
  | nil =>
    cases ps' with
    | nil => simp [idxScan] at h h'; omega
    | cons _ _ => simp at hpos
  | cons p ps ih =>
    cases ps' with
    | nil => simp at hpos
    | cons p' ps' =>
      obtain ⟨b, k⟩ := p
      obtain ⟨b', k'⟩ := p'
      simp only [List.map_cons, List.cons.injEq] at hpos
      obtain ⟨rfl, hrest⟩ := hpos
      obtain ⟨w, hs, h⟩ := idxScan_cons.mp h
      obtain ⟨w', hs', h'⟩ := idxScan_cons.mp h'
      obtain ⟨d1, d2, d3⟩ := idxStep_some hs
      obtain ⟨d1', d2', d3'⟩ := idxStep_some hs'
      have hmul : (a + 1) * (((l.getD k 0).toNat : Int) - (f.getD k 0).toNat + 1)
          ≤ a' * (((l.getD k 0).toNat : Int) - (f.getD k 0).toNat + 1) :=
        Int.mul_le_mul_of_nonneg_right (by omega) (by omega)
      rw [Int.add_mul] at hmul
      exact ih ps' hrest w w' (idxStep_nonneg hs h0) (by omega) h h'

theorem zipIdx_snd (n : Nat) (u u' : List UInt8) (h : u.length = u'.length) :
    (u.zipIdx n).map Prod.snd = (u'.zipIdx n).map Prod.snd := by
  rw [List.zipIdx_map_snd, List.zipIdx_map_snd, h]

/-- lexicographic order = index order: if two codes of a range agree on a prefix and then
`x < y`, the index of the first is smaller (whatever follows).  With `rangeIndex_injective` and
`idxScan_first` this makes `rangeIndex` the position of a code in the lexicographic enumeration of
the range's codes. -/
theorem idxScan_lex (f l p t t' : List UInt8) (x y : UInt8) (hxy : x < y) (ht : t.length = t'.length) (v v' : Int)
    (h : idxScan f l (p ++ x :: t).zipIdx 0 = some v) (h' : idxScan f l (p ++ y :: t').zipIdx 0 = some v') :
    v < v' := by
  rw [List.zipIdx_append, idxScan_append, List.zipIdx_cons, Nat.zero_add] at h h'
  obtain ⟨A, hp, h⟩ := Option.bind_eq_some_iff.mp h
  rw [hp, Option.bind_some] at h'
  obtain ⟨w, hs, h⟩ := idxScan_cons.mp h
  obtain ⟨w', hs', h'⟩ := idxScan_cons.mp h'
  have hA := idxScan_nonneg f l _ 0 A (by omega) hp
  obtain ⟨d1, d2, d3⟩ := idxStep_some hs
  obtain ⟨d1', d2', d3'⟩ := idxStep_some hs'
  have hxy' : x.toNat < y.toNat := UInt8.lt_iff_toNat_lt.mp hxy
  exact idxScan_mono_acc f l _ _ (zipIdx_snd _ t t' ht) w w' v v' (idxStep_nonneg hs hA) (by omega) h h'

/-- the first code of a valid range has index 0 -/
theorem idxScan_first (f l : List UInt8) (hv : CmapRangeValid f l) :
    idxScan f l f.zipIdx 0 = some 0 := by
  have key : ∀ (n : Nat) (u : List UInt8), (∀ k, k < u.length → f.getD (n + k) 0 = u.getD k 0) →
      n + u.length ≤ f.length → idxScan f l (u.zipIdx n) 0 = some 0 := by
    intro n u
    induction u generalizing n with
    | nil => intro _ _; rfl
    | cons a as ih =>
      intro hu hlen
      simp only [List.zipIdx_cons, idxScan]
      have ha : f.getD n 0 = a := by simpa using hu 0 (by simp)
      have hle := hv.2.2 n (by simp at hlen; omega)
      have hstep : idxStep f l a n 0 = some 0 := by
        unfold idxStep
        rw [ha] at hle ⊢
        have h1 : ¬ (a < a) := UInt8.lt_irrefl a
        have h2 : ¬ (a > l.getD n 0) := UInt8.not_lt.mpr hle
        generalize l.getD n 0 = hi at *
        have h3 : ¬ (a < a ∨ a > hi) := fun h => h.elim h1 h2
        simp only [h3, if_false]
        have : ¬ ((0 : Int) * (↑hi.toNat - ↑a.toNat + 1) + (↑a.toNat - ↑a.toNat) > 2147483647) := by omega
        simp only [this, if_false]
        congr 1
        omega
      rw [hstep]
      simp only [Option.bind_some]
      apply ih (n + 1)
      · intro k hk
        have := hu (k + 1) (by simp; omega)
        simpa [Nat.add_assoc, Nat.add_comm 1 k] using this
      · simp at hlen; omega
  have := key 0 f (by intro k _; simp) (by omega)
  simpa using this

theorem first_diff {α} [DecidableEq α] : ∀ (c c' : List α), c.length = c'.length → c ≠ c' →
    ∃ p x y t t', c = p ++ x :: t ∧ c' = p ++ y :: t' ∧ x ≠ y ∧ t.length = t'.length
  | [], [], _, h => absurd rfl h
  | a :: as, b :: bs, hl, h => by
    by_cases hab : a = b
    · subst hab
      obtain ⟨p, x, y, t, t', rfl, rfl, hne, ht⟩ := first_diff as bs (by simpa using hl) (fun e => h (by rw [e]))
      exact ⟨a :: p, x, y, t, t', rfl, rfl, hne, ht⟩
    · exact ⟨[], a, b, as, bs, rfl, rfl, hab, by simpa using hl⟩

/-- injectivity at the level of the generated function: two different codes of one length part at a first position, where
`idxScan_lex` makes one index smaller -/
theorem rangeIndex_injective (f l c c' : List UInt8) (v : Int)
    (h : cmap_rangeIndex f l c = some (v, true)) (h' : cmap_rangeIndex f l c' = some (v, true)) : c = c' := by
  obtain ⟨l1, s1⟩ := (rangeIndex_some_iff ..).mp h
  obtain ⟨l2, s2⟩ := (rangeIndex_some_iff ..).mp h'
  refine Classical.byContradiction fun hne => ?_
  obtain ⟨p, x, y, t, t', rfl, rfl, hxy, ht⟩ := first_diff c c' (by omega) hne
  rcases Nat.lt_or_gt_of_ne (fun e => hxy (UInt8.toNat_inj.mp e)) with hlt | hlt
  · exact Int.lt_irrefl v (idxScan_lex f l p t t' x y (UInt8.lt_iff_toNat_lt.mpr hlt) ht v v s1 s2)
  · exact Int.lt_irrefl v (idxScan_lex f l p t' t y x (UInt8.lt_iff_toNat_lt.mpr hlt) ht.symm v v s2 s1)

example : cmap_rangeIndex [0, 0] [0xff, 0xff] [1, 2] = some (258, true) := by decide +kernel
example : cmap_rangeIndex [0x20, 0x30] [0x7f, 0x39] [0x21, 0x35] = some (15, true) := by decide +kernel
example : cmap_rangeIndex [0x20] [0x7f] [0x80] = some (0, false) := by decide +kernel
/-- a four-byte range wider than 2³¹ codes: the index guard answers "not in range" -/
example : cmap_rangeIndex [0, 0, 0, 0] [0xff, 0xff, 0xff, 0xff] [0x80, 0, 0, 0] = some (0, false) := by decide +kernel

end PdfVerif.C13tr
