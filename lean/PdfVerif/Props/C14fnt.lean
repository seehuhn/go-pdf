import PdfVerif.Model.FNTSimple
import PdfVerif.Lemmas.FNTMap
/-!
# C14 (work package FNT) — simple fonts: the allocation state machine of `simpleenc.Simple`

About `Model/FNTSimple.lean`, which the correspondence run ties to `font/encoding/simpleenc/simple.go`.
"Every operation sequence and every choice function" is `Reach`: from `NewSimple` by `Encode` steps that
pick *any* free code, with arbitrary changes of the glyph-name tables in between; `Later` is the same
step relation from any state.  `reach_encode` puts the exact heuristic of the Go code (`runExact`) inside
`Reach`.  The last part is about the glyph names the exact model makes (`glyph_names_injective`); that
the naming loop ends is `C14fntn`.
-/
namespace PdfVerif.C14fnt
open PdfVerif PdfVerif.FNT

/-- a code `Encode` may hand out: a byte for which `t.info` has no entry -/
def FreePick (s : Simple) (pick : Nat) : Prop := pick < K.simpleMaxCodes ∧ s.info.get pick = none

/-- The condition on `pick` is an implication because failing calls (duplicate, overflow) are steps
    too, whatever code is proposed.  `names` admits any change of the name tables: the allocation invariant
    does not mention them, so `makeGlyphName` need not be modelled in the general relation. -/
inductive Reach : Simple → Prop
  | init (w : Int) : Reach (Simple.init w)
  | step (s : Simple) (gid : Nat) (text : Bytes) (width : Int) (pick : Nat) :
      Reach s →
      (s.code.get (gid, text) = none → s.info.size < K.simpleMaxCodes → FreePick s pick) →
      Reach (s.encodeAt gid text width pick).1
  | names (s : Simple) (gn : Map Nat Bytes) (gu : Map Bytes Bool) :
      Reach s → Reach { s with glyphName := gn, glyphNameUsed := gu }

/-- what `Encode` keeps of `t.code` and `t.info`: they are inverse to each other on the codes handed out, which
    are bytes, and at most 256 codes are in use -/
structure Inv (s : Simple) : Prop where
  tables : Map.Tables (fun i : Info => (i.gid, i.text)) (· < K.simpleMaxCodes) s.code s.info
  sizeLe : s.info.size ≤ K.simpleMaxCodes

section
variable (s : Simple) (gid : Nat) (text : Bytes) (width : Int) (pick : Nat)

theorem encodeAt_new (hnew : s.code.get (gid, text) = none) (hsz : s.info.size < K.simpleMaxCodes) :
    s.encodeAt gid text width pick =
      ({ s with info := s.info.insert pick ⟨gid, width, text⟩, code := s.code.insert (gid, text) pick },
        .ok pick) := by
  have : ¬ s.info.size ≥ K.simpleMaxCodes := by omega
  simp [Simple.encodeAt, hnew, this]

theorem encodeAt_full (hnew : s.code.get (gid, text) = none) (hfull : s.info.size ≥ K.simpleMaxCodes) :
    s.encodeAt gid text width pick = ({ s with err := true }, .overflow) := by
  simp [Simple.encodeAt, hnew, hfull]

theorem encodeAt_cases :
    ((s.code.get (gid, text)).isSome = true ∧ s.encodeAt gid text width pick = (s, .dup)) ∨
    (s.code.get (gid, text) = none ∧ s.info.size ≥ K.simpleMaxCodes ∧
      s.encodeAt gid text width pick = ({ s with err := true }, .overflow)) ∨
    (s.code.get (gid, text) = none ∧ s.info.size < K.simpleMaxCodes ∧
      s.encodeAt gid text width pick =
        ({ s with info := s.info.insert pick ⟨gid, width, text⟩, code := s.code.insert (gid, text) pick },
          .ok pick)) := by
  fun_cases Simple.encodeAt s gid text width pick
  · next hd => exact Or.inl ⟨hd, rfl⟩
  · next hd hfull => exact Or.inr (Or.inl ⟨by simpa using hd, hfull, rfl⟩)
  · next hd hsz => exact Or.inr (Or.inr ⟨by simpa using hd, by omega, rfl⟩)

variable {s gid text width pick}

theorem inv_encodeAt (h : Inv s)
    (hp : s.code.get (gid, text) = none → s.info.size < K.simpleMaxCodes → FreePick s pick) :
    Inv (s.encodeAt gid text width pick).1 := by
  rcases encodeAt_cases s gid text width pick with ⟨_, e⟩ | ⟨_, _, e⟩ | ⟨hnew, hsz, e⟩ <;> rw [e]
  · exact h
  · exact ⟨h.tables, h.sizeLe⟩  -- the state is `{ s with err := true }`; the fields mention only `code` and `info`
  · obtain ⟨hlt, hfree⟩ := hp hnew hsz
    refine ⟨h.tables.insert (i := ⟨gid, width, text⟩) hnew hfree hlt, ?_⟩
    show (s.info.insert _ _).size ≤ _
    rw [Map.size_insert_of_none _ _ _ hfree]
    omega

theorem getCode_eq (s : Simple) (gid : Nat) (text : Bytes) : s.getCode gid text = s.code.get (gid, text) := rfl

theorem encodeAt_ok {c : Nat}
    (hr : (s.encodeAt gid text width pick).2 = .ok c) :
    c = pick ∧ s.code.get (gid, text) = none ∧ s.info.size < K.simpleMaxCodes ∧
    (s.encodeAt gid text width pick).1.info.get c = some ⟨gid, width, text⟩ ∧
    (s.encodeAt gid text width pick).1.code.get (gid, text) = some c := by
  rcases encodeAt_cases s gid text width pick with ⟨_, e⟩ | ⟨_, _, e⟩ | ⟨hnew, hsz, e⟩ <;> rw [e] at hr ⊢ <;>
    cases hr
  exact ⟨rfl, hnew, hsz, Map.get_insert_self .., Map.get_insert_self ..⟩

theorem encodeAt_le
    (hp : s.code.get (gid, text) = none → s.info.size < K.simpleMaxCodes → FreePick s pick) :
    Map.Le s.info (s.encodeAt gid text width pick).1.info ∧
    Map.Le s.code (s.encodeAt gid text width pick).1.code := by
  rcases encodeAt_cases s gid text width pick with ⟨_, e⟩ | ⟨_, _, e⟩ | ⟨hnew, hsz, e⟩ <;> rw [e]
  · exact ⟨Map.Le.refl _, Map.Le.refl _⟩
  · exact ⟨Map.Le.refl _, Map.Le.refl _⟩
  · exact ⟨Map.le_insert (hp hnew hsz).2 _, Map.le_insert hnew _⟩

end

theorem reach_inv {s : Simple} (h : Reach s) : Inv s := by
  induction h with
  | init w => exact ⟨Map.Tables.nil, Nat.zero_le _⟩
  | step s gid text width pick _ hp ih => exact inv_encodeAt ih hp
  | names s gn gu _ ih => exact ⟨ih.tables, ih.sizeLe⟩

/-- In every reachable state — any operation sequence, any choice of free codes — two (glyph, text)
pairs that have the same code are the same pair. -/
theorem alloc_injective {s : Simple} (h : Reach s) (k1 k2 : Key) (c : Nat)
    (h1 : s.getCode k1.1 k1.2 = some c) (h2 : s.getCode k2.1 k2.2 = some c) : k1 = k2 := by
  rw [getCode_eq] at h1 h2
  exact (reach_inv h).tables.inj h1 h2

/-- the code of a pair is a byte, and `Codes`/`GID` map it back to the pair's glyph and text -/
theorem code_reads_back {s : Simple} (h : Reach s) (gid : Nat) (text : Bytes) (c : Nat)
    (hc : s.getCode gid text = some c) :
    c < K.simpleMaxCodes ∧ (s.getInfo c).gid = gid ∧ (s.getInfo c).text = text := by
  rw [getCode_eq] at hc
  obtain ⟨i, e, hk⟩ := (reach_inv h).tables.backed _ c hc
  cases hk
  exact ⟨(reach_inv h).tables.holds c i e, by simp [Simple.getInfo, e], by simp [Simple.getInfo, e]⟩

/-- the steps of `Reach`, from any state `s` -/
inductive Later : Simple → Simple → Prop
  | refl (s : Simple) : Later s s
  | step (s s' : Simple) (gid : Nat) (text : Bytes) (width : Int) (pick : Nat) :
      Later s s' →
      (s'.code.get (gid, text) = none → s'.info.size < K.simpleMaxCodes → FreePick s' pick) →
      Later s (s'.encodeAt gid text width pick).1
  | names (s s' : Simple) (gn : Map Nat Bytes) (gu : Map Bytes Bool) :
      Later s s' → Later s { s' with glyphName := gn, glyphNameUsed := gu }

theorem later_le {s s' : Simple} (h : Later s s') : Map.Le s.info s'.info ∧ Map.Le s.code s'.code := by
  induction h with
  | refl => exact ⟨Map.Le.refl _, Map.Le.refl _⟩
  | step s' gid text width pick _ hp ih =>
    exact ⟨ih.1.trans (encodeAt_le hp).1, ih.2.trans (encodeAt_le hp).2⟩
  | names s' gn gu _ ih => exact ih

/-- Property `codes_readback` for simple fonts: after a successful `Encode(gid, text, width)` that returned `c`
and any later history, `GetCode` still returns `c`, and the `Codes` entry of `c` carries the recorded
width and text and the CID of the glyph (`c + 1`, or 0 for glyph 0). -/
theorem codes_readback_one (s : Simple) (gid : Nat) (text : Bytes) (width : Int) (pick c : Nat)
    (hr : (s.encodeAt gid text width pick).2 = .ok c) (s' : Simple)
    (hl : Later (s.encodeAt gid text width pick).1 s') :
    s'.getCode gid text = some c ∧
    s'.codeOut c = ⟨if gid == 0 then 0 else c + 1, width, text, c == K.spaceCode⟩ := by
  obtain ⟨_, _, _, hi, hg⟩ := encodeAt_ok hr
  exact ⟨(getCode_eq s' gid text).trans ((later_le hl).2 _ _ hg), by simp [Simple.codeOut, Simple.getInfo, (later_le hl).1 _ _ hi]⟩

/-- Property `codes_readback` for whole strings is this and `codes_get`: simple fonts need no segmentation,
`Codes` yields one entry per byte. -/
theorem codes_length (s : Simple) (str : Bytes) : (s.codes str).length = str.length := by
  simp [Simple.codes]

/-- the entry at each position is that of the byte there (`codes_readback_one` says what it holds) -/
theorem codes_get (s : Simple) (str : Bytes) (i : Nat) (h : i < str.length) :
    (s.codes str)[i]'(by simp [Simple.codes]; exact h) = s.codeOut (str[i]) := by
  simp [Simple.codes]

/-- Once all 256 codes are in use, every `Encode` of a new pair fails with
the overflow error whatever code is proposed, sets the sticky error flag, and changes nothing
else; known pairs report `dup`. -/
theorem overflow_sticky (s : Simple) (hfull : s.info.size ≥ K.simpleMaxCodes)
    (gid : Nat) (text : Bytes) (width : Int) (pick : Nat) :
    ((s.encodeAt gid text width pick).2 = .overflow ∧ (s.encodeAt gid text width pick).1 = { s with err := true })
    ∨ ((s.encodeAt gid text width pick).2 = .dup ∧ (s.encodeAt gid text width pick).1 = s) := by
  rcases encodeAt_cases s gid text width pick with ⟨_, e⟩ | ⟨_, _, e⟩ | ⟨_, hsz, _⟩
  · exact Or.inr ⟨by rw [e], by rw [e]⟩
  · exact Or.inl ⟨by rw [e], by rw [e]⟩
  · omega

theorem err_sticky (s : Simple) (gid : Nat) (text : Bytes) (width : Int) (pick : Nat)
    (he : s.err = true) : (s.encodeAt gid text width pick).1.err = true := by
  rcases encodeAt_cases s gid text width pick with ⟨_, e⟩ | ⟨_, _, e⟩ | ⟨_, _, e⟩ <;> rw [e]
  · exact he
  · exact he  -- (the overflow case sets the flag and is closed by `rw`)

theorem full_stays_full {s s' : Simple} (h : Later s s') (hfull : s.info.size ≥ K.simpleMaxCodes) :
    s'.info = s.info ∧ s'.code = s.code := by
  induction h with
  | refl => exact ⟨rfl, rfl⟩
  | step s' gid text width pick _ _ ih =>
    rcases encodeAt_cases s' gid text width pick with ⟨_, e⟩ | ⟨_, _, e⟩ | ⟨_, hsz, _⟩
    · rw [e]; exact ih
    · rw [e]; exact ih
    · rw [ih.1] at hsz; omega
  | names s' gn gu _ ih => exact ih

/-- at most 256 codes are ever in use, and both maps have the same number of entries -/
theorem size_bound {s : Simple} (h : Reach s) : s.info.size ≤ K.simpleMaxCodes ∧ s.code.size = s.info.size :=
  ⟨(reach_inv h).sizeLe, (reach_inv h).tables.sizeEq⟩

theorem exists_free_code {s : Simple} (hsz : s.info.size < K.simpleMaxCodes) : ∃ c, FreePick s c :=
  Map.exists_free_of_inj s.info id (fun _ _ h => h) K.simpleMaxCodes hsz

/-- **no early overflow (progress).**  While fewer than 256 codes are in use (so that a free code
exists, `exists_free_code`), `Encode` of a new pair succeeds with the proposed code. -/
theorem encode_succeeds (s : Simple) (gid : Nat) (text : Bytes) (width : Int) (pick : Nat)
    (hnew : s.getCode gid text = none) (hsz : s.info.size < K.simpleMaxCodes) :
    (s.encodeAt gid text width pick).2 = .ok pick := by
  rw [getCode_eq] at hnew
  rw [encodeAt_new s gid text width pick hnew hsz]

/-- loop invariant after the codes `seen`: a free code is held, or `b` is still the initial `Best` and
every code seen is in use -/
def Held (used : Nat → Bool) (seen : List Nat) (b : Best) : Prop :=
  (b.code < K.simpleMaxCodes ∧ used b.code = false) ∨
  (b.score = -1 ∧ b.done = false ∧ ∀ c ∈ seen, used c = true)

section
variable (base : Nat → Bytes) (name : Bytes) (r : Nat) (used : Nat → Bool)

theorem scoreStep_held (seen : List Nat) (b : Best) (code : Nat) (hc : code < K.simpleMaxCodes)
    (hb : Held used seen b) :
    Held used (seen ++ [code]) (scoreStep base name r used b code) := by
  fun_cases scoreStep base name r used b code
  · next hd => exact Or.inl (hb.elim id fun h => by rw [h.2.1] at hd; cases hd)
  · next hd hu =>
    refine hb.imp_right fun h => ⟨h.1, h.2.1, fun c hc => ?_⟩
    rcases List.mem_append.mp hc with hc | hc
    · exact h.2.2 c hc
    · rw [List.mem_singleton.mp hc]; exact hu
  · next hu _ => exact Or.inl ⟨hc, by simpa using hu⟩
  · next hu _ _ => exact Or.inl ⟨hc, by simpa using hu⟩
  · next hs =>
    -- not replaced although every score is ≥ 0: the held score is not the initial -1, so a free code is held
    exact Or.inl (hb.elim id fun h => by rw [h.1] at hs; omega)

theorem fold_held (l : List Nat) (hl : ∀ c ∈ l, c < K.simpleMaxCodes) (seen : List Nat) (b : Best)
    (hb : Held used seen b) : Held used (seen ++ l) (l.foldl (scoreStep base name r used) b) := by
  induction l generalizing seen b with
  | nil => simpa using hb
  | cons c cs ih =>
    have := ih (fun x hx => hl x (List.mem_cons_of_mem _ hx)) _ _
      (scoreStep_held base name r used seen b c (hl c List.mem_cons_self) hb)
    simpa using this

/-- the comment in `Encode`: "at least one code is free and we always reach this point" -/
theorem chooseCode_free (h : ∃ c, c < K.simpleMaxCodes ∧ used c = false) :
    chooseCode base name r used < K.simpleMaxCodes ∧ used (chooseCode base name r used) = false := by
  obtain ⟨c, hc, hu⟩ := h
  rcases fold_held base name r used (List.range K.simpleMaxCodes) (fun x hx => List.mem_range.mp hx) [] {}
    (Or.inr ⟨rfl, rfl, by simp⟩) with hf | ⟨_, _, hall⟩
  · exact hf
  · have := hall c (by simpa using hc)
    simp [hu] at this

end

theorem chooseCode_freePick (base : Nat → Bytes) (name : Bytes) (r : Nat) (s : Simple)
    (hsz : s.info.size < K.simpleMaxCodes) :
    FreePick s (chooseCode base name r fun c => s.info.contains c) := by
  obtain ⟨c, hc1, hc2⟩ := exists_free_code hsz
  have := chooseCode_free base name r (fun c => s.info.contains c) ⟨c, hc1, by simpa using hc2⟩
  exact ⟨this.1, by simpa using this.2⟩

theorem makeGlyphName_cases (s : Simple) (gid : Nat) (d f : Bytes) :
    (∃ n, s.glyphName.get gid = some n ∧ s.makeGlyphName gid d f = some (s, n)) ∨
    (s.glyphName.get gid = none ∧
      nameLoop s.glyphNameUsed nameFuel (startName d f) (startName d f) 0 = none ∧
      s.makeGlyphName gid d f = none) ∨
    (∃ n, s.glyphName.get gid = none ∧
      nameLoop s.glyphNameUsed nameFuel (startName d f) (startName d f) 0 = some n ∧
      s.makeGlyphName gid d f =
        some ({ s with glyphName := s.glyphName.insert gid n, glyphNameUsed := s.glyphNameUsed.insert n true }, n)) := by
  fun_cases Simple.makeGlyphName s gid d f
  · next n hg => exact Or.inl ⟨n, hg, rfl⟩
  · next hg hl => exact Or.inr (Or.inl ⟨hg, hl, rfl⟩)
  · next hg n hl => exact Or.inr (Or.inr ⟨n, hg, hl, rfl⟩)

theorem makeGlyphName_some {s s1 : Simple} {gid : Nat} {d f n : Bytes}
    (h : s.makeGlyphName gid d f = some (s1, n)) :
    (s.glyphName.get gid = some n ∧ s1 = s) ∨
    (s.glyphName.get gid = none ∧
      nameLoop s.glyphNameUsed nameFuel (startName d f) (startName d f) 0 = some n ∧
      s1 = { s with glyphName := s.glyphName.insert gid n, glyphNameUsed := s.glyphNameUsed.insert n true }) := by
  rcases makeGlyphName_cases s gid d f with ⟨_, hg, e⟩ | ⟨_, _, e⟩ | ⟨_, hg, hl, e⟩ <;> rw [e] at h <;> cases h
  · exact Or.inl ⟨hg, rfl⟩
  · exact Or.inr ⟨hg, hl, rfl⟩

/-- The third conjunct has this form for `Reach.names`: `s1` is `s` with other name tables. -/
theorem makeGlyphName_maps {s s1 : Simple} {gid : Nat} {d f n : Bytes}
    (h : s.makeGlyphName gid d f = some (s1, n)) :
    s1.code = s.code ∧ s1.info = s.info ∧
    s1 = { s with glyphName := s1.glyphName, glyphNameUsed := s1.glyphNameUsed } := by
  rcases makeGlyphName_some h with ⟨_, rfl⟩ | ⟨_, _, rfl⟩ <;> exact ⟨rfl, rfl, rfl⟩

/-- In the last case the new state is written out: the inner `encodeAt` never takes its `dup` or
    `overflow` branch, since `makeGlyphName` leaves `code` and `info` alone and the chosen code is free.
    The third case (the naming loop out of fuel; the model answers `overflow` without setting `err`) never
    occurs from `NewSimple`: `C14fntn.encode_names_total`. -/
theorem encode_cases (base : Nat → Bytes) (s : Simple) (a : EncArgs) :
    ((s.code.get (a.gid, a.text)).isSome = true ∧ s.encode base a = (s, .dup, none)) ∨
    (s.code.get (a.gid, a.text) = none ∧ s.info.size ≥ K.simpleMaxCodes ∧
      s.encode base a = ({ s with err := true }, .overflow, none)) ∨
    (s.code.get (a.gid, a.text) = none ∧ s.info.size < K.simpleMaxCodes ∧
      s.makeGlyphName a.gid a.baseName a.fromUni = none ∧ s.encode base a = (s, .overflow, none)) ∨
    (∃ s1 n pick, s1.code.get (a.gid, a.text) = none ∧ s1.info.size < K.simpleMaxCodes ∧
      s.makeGlyphName a.gid a.baseName a.fromUni = some (s1, n) ∧ FreePick s1 pick ∧
      s.encode base a =
        ({ s1 with info := s1.info.insert pick ⟨a.gid, a.width, a.text⟩, code := s1.code.insert (a.gid, a.text) pick },
         .ok pick, some n)) := by
  fun_cases Simple.encode base s a
  · next hd => exact Or.inl ⟨hd, rfl⟩
  · next hd hfull => exact Or.inr (Or.inl ⟨by simpa using hd, hfull, rfl⟩)
  · next hd hfull hm => exact Or.inr (Or.inr (Or.inl ⟨by simpa using hd, by omega, hm, rfl⟩))
  · next hd hfull s1 n hm pick s2 res he =>
    obtain ⟨hc, hi, _⟩ := makeGlyphName_maps hm
    have hnew1 : s1.code.get (a.gid, a.text) = none := by rw [hc]; simpa using hd
    have hsz1 : s1.info.size < K.simpleMaxCodes := by rw [hi]; omega
    rw [encodeAt_new s1 _ _ _ _ hnew1 hsz1] at he
    cases he
    exact Or.inr (Or.inr (Or.inr ⟨s1, n, pick, hnew1, hsz1, hm, chooseCode_freePick base n a.r s1 hsz1, rfl⟩))

theorem reach_encode (base : Nat → Bytes) (s : Simple) (a : EncArgs) (h : Reach s) :
    Reach (s.encode base a).1 := by
  rcases encode_cases base s a with
    ⟨_, e⟩ | ⟨hnew, hfull, e⟩ | ⟨_, _, _, e⟩ | ⟨s1, n, pick, hnew, hsz, hm, hp, e⟩ <;> rw [e]
  · exact h
  · -- the failing `Encode` of the general step relation, whatever code is proposed
    have := Reach.step s a.gid a.text a.width 0 h (fun _ hsz => absurd hsz (by omega))
    rwa [encodeAt_full s _ _ _ 0 hnew hfull] at this
  · exact h
  · have hr1 : Reach s1 := (makeGlyphName_maps hm).2.2 ▸ Reach.names s _ _ h
    have := Reach.step s1 a.gid a.text a.width pick hr1 fun _ _ => hp
    rwa [encodeAt_new s1 _ _ _ _ hnew hsz] at this

/-- the exact model: `Encode` called with each element of the list in turn -/
def runExact (base : Nat → Bytes) : Simple → List EncArgs → Simple
  | s, [] => s
  | s, a :: as => runExact base (s.encode base a).1 as

theorem runExact_induct {P : Simple → Prop} (base : Nat → Bytes)
    (hstep : ∀ s a, P s → P (s.encode base a).1) (as : List EncArgs) (s : Simple) (h : P s) :
    P (runExact base s as) := by
  induction as generalizing s with
  | nil => exact h
  | cons a as ih => exact ih _ (hstep s a h)

/-- `alloc_injective` for the exact model: for every base encoding, notdef width and sequence
of `Encode` calls (any glyph ids, names, texts, widths, runes), no two pairs share a code -/
theorem alloc_injective_exact (base : Nat → Bytes) (w : Int) (as : List EncArgs) (k1 k2 : Key) (c : Nat)
    (h1 : (runExact base (Simple.init w) as).getCode k1.1 k1.2 = some c)
    (h2 : (runExact base (Simple.init w) as).getCode k2.1 k2.2 = some c) : k1 = k2 :=
  alloc_injective (runExact_induct base (reach_encode base) as _ (Reach.init w)) k1 k2 c h1 h2

/-! `Encoding()` writes `code ↦ glyphName[gid]` into the font dictionary and the reader finds the
glyph (and, without ToUnicode, the text) through that name; two glyphs with one name would make
their codes indistinguishable. -/

/-- `used` is what makes a name the loop returns (not marked in `glyphNameUsed`) different from every name a
    glyph holds, hence `inj` is kept -/
structure NameInv (s : Simple) : Prop where
  used : ∀ g n, s.glyphName.get g = some n → Simple.nameUsed s.glyphNameUsed n = true
  inj : ∀ g1 g2 n, s.glyphName.get g1 = some n → s.glyphName.get g2 = some n → g1 = g2

theorem ornSearch_cases (used : Map Bytes Bool) (idx : Nat) :
    (∃ i, i ≤ idx ∧ ornSearch used idx = some (ornName i) ∧ Simple.nameUsed used (ornName i) = false) ∨
    (ornSearch used idx = none ∧ ∀ i, i ≤ idx → Simple.nameUsed used (ornName i) = true) := by
  fun_induction ornSearch used idx
  · next hu => exact Or.inr ⟨rfl, fun i hi => by rw [Nat.le_zero.mp hi]; exact hu⟩
  · next hu => exact Or.inl ⟨0, Nat.le_refl _, rfl, by simpa using hu⟩
  · next k hu ih =>
    rcases ih with ⟨i, hi, e, hf⟩ | ⟨e, hall⟩
    · exact Or.inl ⟨i, by omega, e, hf⟩
    · refine Or.inr ⟨e, fun i hi => ?_⟩
      by_cases hik : i = k + 1
      · rw [hik]; exact hu
      · exact hall i (by omega)
  · next k hu => exact Or.inl ⟨k + 1, Nat.le_refl _, rfl, by simpa using hu⟩

theorem nameLoop_fresh {used : Map Bytes Bool} {fuel : Nat} {base g : Bytes} {alt : Nat} {n : Bytes}
    (h : nameLoop used fuel base g alt = some n) :
    Simple.nameUsed used n = false ∧ (isValidName n = true ∨ ∃ i, i ≤ used.size ∧ n = ornName i) := by
  revert h
  fun_induction nameLoop used fuel base g alt
  · rintro ⟨⟩
  · next hbad horn m hs =>
    rintro ⟨⟩
    rcases ornSearch_cases used used.size with ⟨i, hi, hs', hf⟩ | ⟨hs', _⟩
    · rw [hs] at hs'; cases hs'; exact ⟨hf, Or.inr ⟨i, hi, rfl⟩⟩
    · rw [hs] at hs'; cases hs'
  · next ih => exact ih
  · next ih => exact ih
  · next hbad => rintro ⟨⟩; simp at hbad; exact ⟨hbad.2, Or.inl hbad.1⟩

theorem nameUsed_insert (used : Map Bytes Bool) (n m : Bytes) :
    Simple.nameUsed (used.insert n true) m = (decide (n = m) || Simple.nameUsed used m) := by
  simp only [Simple.nameUsed, Map.get_insert]
  by_cases h : n = m <;> simp [h]

theorem init_glyphName {w : Int} {g : Nat} {n : Bytes} (h : (Simple.init w).glyphName.get g = some n) :
    g = 0 ∧ n = nameNotdef := by
  simpa [Simple.init, Map.get_cons, eq_comm] using h

theorem nameInv_init (w : Int) : NameInv (Simple.init w) := by
  constructor
  · intro g n h
    rw [(init_glyphName h).2]
    simp [Simple.init, Simple.nameUsed, Map.get_cons]
  · intro g1 g2 n h1 h2
    rw [(init_glyphName h1).1, (init_glyphName h2).1]

theorem nameInv_makeGlyphName {s s1 : Simple} {gid : Nat} {d f n : Bytes} (hi : NameInv s)
    (h : s.makeGlyphName gid d f = some (s1, n)) : NameInv s1 := by
  rcases makeGlyphName_some h with ⟨_, rfl⟩ | ⟨_, hl, rfl⟩
  · exact hi
  · -- a name already held by some glyph is in use, the new one is not
    have hfresh := (nameLoop_fresh hl).1
    have hold : ∀ g, s.glyphName.get g ≠ some n := fun g hg => by
      have := hi.used g n hg
      rw [hfresh] at this; cases this
    refine ⟨fun g m hm => ?_, fun g1 g2 m h1 h2 => ?_⟩
    · rw [nameUsed_insert]
      rcases Map.get_insert_some hm with ⟨_, rfl⟩ | hm
      · simp
      · simp [hi.used g m hm]
    · rcases Map.get_insert_some h1 with ⟨rfl, rfl⟩ | h1
      · rcases Map.get_insert_some h2 with ⟨rfl, _⟩ | h2
        · rfl
        · exact absurd h2 (hold g2)
      · rcases Map.get_insert_some h2 with ⟨rfl, rfl⟩ | h2
        · exact absurd h1 (hold g1)
        · exact hi.inj g1 g2 m h1 h2

theorem nameInv_encode (base : Nat → Bytes) (s : Simple) (a : EncArgs) (hi : NameInv s) :
    NameInv (s.encode base a).1 := by
  rcases encode_cases base s a with ⟨_, e⟩ | ⟨_, _, e⟩ | ⟨_, _, _, e⟩ | ⟨s1, n, _, _, _, hm, _, e⟩ <;> rw [e]
  · exact hi
  · exact ⟨hi.used, hi.inj⟩
  · exact hi
  · have h1 := nameInv_makeGlyphName hi hm
    exact ⟨h1.used, h1.inj⟩

/-- **glyph names are never shared**: after any sequence of `Encode` calls of the exact model,
two glyphs with the same name are the same glyph -/
theorem glyph_names_injective (base : Nat → Bytes) (w : Int) (as : List EncArgs) (g1 g2 : Nat) (n : Bytes)
    (h1 : (runExact base (Simple.init w) as).glyphName.get g1 = some n)
    (h2 : (runExact base (Simple.init w) as).glyphName.get g2 = some n) : g1 = g2 :=
  (runExact_induct base (nameInv_encode base) as _ (nameInv_init w)).inj g1 g2 n h1 h2

-- non-vacuity: a concrete history (three pairs, one glyph used with two texts, one duplicate
-- call) is reachable, allocates three distinct codes and reads them back
private def exBase : Nat → Bytes := fun c => if c == 65 then [65] else if c == 32 then nameSpace else nameNotdef
private def exRun : Simple :=
  runExact exBase (Simple.init 500)
    [⟨36, [65], [65], 65, [65], 722⟩, ⟨3, nameSpace, nameSpace, 32, [32], 278⟩,
     ⟨3, nameSpace, nameSpace, 160, [194, 160], 278⟩, ⟨36, [65], [65], 65, [65], 722⟩]
example : exRun.getCode 36 [65] = some 65 ∧ exRun.getCode 3 [32] = some 32 ∧
    exRun.getCode 3 [194, 160] = some 160 ∧ exRun.info.size = 3 ∧
    exRun.codes [65, 160, 7] = [⟨66, 722, [65], false⟩, ⟨161, 278, [194, 160], false⟩, ⟨0, 500, [], false⟩] := by
  decide +kernel

end PdfVerif.C14fnt
