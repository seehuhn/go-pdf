import PdfVerif.Spec.FIOFileWF
import PdfVerif.Props.C02fioe
/-!
# C03 — written files are structurally valid (work package FIO)

The independent checker is `Spec/FIOFileWF.lean` (`checkFile`, written from ISO 32000-2 §7.5,
sharing nothing with `Model/`).  It is compiled into the driver and run on the bytes of the real
Writer for every generated program (C03 run).  The theorems here relate it to the writer *model*
(`Model/FIOWriter.lean`, tied to the code by byte-identical output in the C02 run): the
specification's parsers accept what the model writes, at the cross-reference level.
-/
namespace PdfVerif.C03fio
open PdfVerif PdfVerif.FIO
open PdfVerif.Spec.FileWF (Entry Table)

/-! the two parsers agree on digits (same definitions, written twice) -/
theorem isDig_eq (c : Nat) : Spec.FileWF.isDig c = isDigit c := rfl

theorem decVal_eq (t : Bytes) : ∀ acc, Spec.FileWF.decVal t acc = digitsVal t acc := by
  induction t with
  | nil => intro acc; rfl
  | cons c cs ih => intro acc; simp [Spec.FileWF.decVal, digitsVal, ih]

theorem natTok_digits (t : Bytes) (hne : t ≠ []) (hall : t.all isDigit = true) :
    Spec.FileWF.natTok t = some (digitsVal t 0) := by
  unfold Spec.FileWF.natTok
  have h1 : t.isEmpty = false := by cases t <;> simp_all
  have h2 : t.all Spec.FileWF.isDig = true := by
    rw [← hall]; congr
  simp [h1, h2, decVal_eq]

theorem natTok_fixDec (w n : Nat) (hw : 0 < w) (hn : n < 10 ^ w) : Spec.FileWF.natTok (fixDec w n) = some n := by
  rw [natTok_digits _ (C02fio.fixDec_ne_nil w n hw)
    (C02fio.fixDec_digits w n), C02fio.digitsVal_fixDec, Nat.mod_eq_of_lt hn]
  simp

theorem spec_tableEntry (p g c : Nat) (hp : p < 10000000000) (hg : g ≤ 65535) (hc : c = 102 ∨ c = 110) :
    Spec.FileWF.tableEntry (C02fio.tabLine p g c) =
      .ok { kind := if c = 110 then 1 else 0, a := p, b := g } := by
  obtain ⟨h10, h5, g10, g16, g17, g18, g19⟩ := C02fio.tabLine_fields p g c
  unfold Spec.FileWF.tableEntry
  simp only [C02fio.tabLine_length, h10, h5, g10, g16, g17, g18, g19, natTok_fixDec 10 p (by omega) (by omega),
    natTok_fixDec 5 g (by omega) (by omega)]
  rcases hc with rfl | rfl <;> simp


/-- the entry the specification's parser must find for a number -/
def specEntry : Option XEntry → Entry
  | some e => if e.pos ≥ 0 then { kind := 1, a := e.pos.toNat, b := e.gen } else { kind := 0, a := 0, b := 65535 }
  | none => { kind := 0, a := 0, b := 65535 }

def specEntries (m : XMap) : Nat → Nat → Table
  | _, 0 => []
  | i, k+1 => (i, specEntry (m.get i)) :: specEntries m (i + 1) k

theorem spec_xrefLine (e : Option XEntry) (h : ∀ x, e = some x → x.pos < 10000000000 ∧ x.gen ≤ 65535) :
    (xrefLine e).length = 20 ∧ Spec.FileWF.tableEntry (xrefLine e) = .ok (specEntry e) := by
  refine ⟨C02fio.xref_line_20 e h, ?_⟩
  rw [C02fio.xrefLine_eq e h]
  cases e with
  | none => simp only; rw [spec_tableEntry 0 _ 102 (by omega) (by decide) (.inl rfl)]; rfl
  | some x =>
    obtain ⟨hp, hg⟩ := h x rfl
    simp only
    split
    · rename_i hpos
      rw [spec_tableEntry _ _ 110 (by omega) hg (.inr rfl)]
      simp [specEntry, hpos]
    · rename_i hpos
      rw [spec_tableEntry 0 _ 102 (by omega) (by decide) (.inl rfl)]
      simp [specEntry, hpos, Gen.fio_maxGeneration]

/-- **The specification's table parser reads the writer's table.**  For every table (offsets
below 10^10, generations ≤ 65535) the strict 20-byte-entry parser of `Spec/FIOFileWF.lean`
accepts the lines printed by `writeXRefTable`, consumes exactly them and finds, for each number,
the entry the writer meant (in reverse order of accumulation). -/
theorem spec_reads_table (m : XMap) (rest : Bytes) (k : Nat) : ∀ (i : Nat) (acc : Table),
    (∀ j, i ≤ j → j < i + k → ∀ x, m.get j = some x → x.pos < 10000000000 ∧ x.gen ≤ 65535) →
    Spec.FileWF.tableEntries k i (xrefLines m i k ++ rest) acc = .ok ((specEntries m i k).reverse ++ acc, rest) := by
  induction k with
  | zero => intro i acc _; simp [Spec.FileWF.tableEntries, xrefLines, specEntries]
  | succ k ih =>
    intro i acc hok
    obtain ⟨hlen, hent⟩ := spec_xrefLine (m.get i) (C02fio.window_split hok).1
    simp only [xrefLines, List.append_assoc, Spec.FileWF.tableEntries, List.take_left' hlen, hent,
      List.drop_left' hlen]
    rw [ih (i + 1) _ (C02fio.window_split hok).2]
    simp [specEntries]

/-! the two searches are the same definitions, written twice -/
theorem hasPrefix_eq : ∀ p l : Bytes, Spec.FileWF.hasPrefix p l = isPrefixOf p l
  | [], _ => rfl
  | _ :: _, [] => rfl
  | p :: ps, c :: cs => by simp only [Spec.FileWF.hasPrefix, isPrefixOf, hasPrefix_eq ps cs]

theorem firstIndex_eq (pat : Bytes) : ∀ (l : Bytes) (i : Nat), Spec.FileWF.firstIndex pat l i = firstIdx pat l i
  | [], _ => rfl
  | c :: cs, i => by simp only [Spec.FileWF.firstIndex, firstIdx, hasPrefix_eq, firstIndex_eq pat cs]

theorem lastIndex_eq (pat l : Bytes) : Spec.FileWF.lastIndex pat l = lastOccurrence pat l := by
  rw [Spec.FileWF.lastIndex, firstIndex_eq]; rfl

theorem takeReg_digits (ds : Bytes) (hall : ds.all isDigit = true) (rest : Bytes)
    (hrest : rest = [] ∨ ∃ c cs, rest = c :: cs ∧ Spec.FileWF.isReg c = false) :
    Spec.FileWF.takeReg (ds ++ rest) = (ds, rest) := by
  induction ds with
  | nil =>
    rcases hrest with rfl | ⟨c, cs, rfl, hc⟩
    · simp [Spec.FileWF.takeReg]
    · simp [Spec.FileWF.takeReg, hc]
  | cons d ds ih =>
    have hd : isDigit d = true := by simp at hall; exact hall.1
    have hds : ds.all isDigit = true := by simp at hall ⊢; exact hall.2
    have hreg : Spec.FileWF.isReg d = true := by
      have : ∀ c, c < 256 → isDigit c = true → Spec.FileWF.isReg c = true := by decide +kernel
      exact this d (C01L.digit_facts' hd).2.2.1 hd
    simp [Spec.FileWF.takeReg, hreg, ih hds]

/-- **The end of the file.**  For everything written before it (ending in an end-of-line), the
tail `startxref\n<p>\n%%EOF\n` printed by `Close` satisfies §7.5.5 as checked by the
specification and yields the offset `p`. -/
theorem spec_tail_ok (pre : Bytes) (p : Nat) (hp : p < 10 ^ 19) :
    Spec.FileWF.checkTail (pre ++ [10] ++ kStartxref ++ decOf p ++ kEOF) = .ok p := by
  obtain ⟨hall, hval, hne, _⟩ := C02fioc.decOf_spec p 19 hp (by omega)
  -- the file: a prefix ending in a line feed, the keyword, and a tail without any `f`
  obtain ⟨file, hfile⟩ : ∃ file, file = (pre ++ [10]) ++ kwStartxrefR ++ (10 :: (decOf p ++ kEOF)) := ⟨_, rfl⟩
  have hsame : pre ++ [10] ++ kStartxref ++ decOf p ++ kEOF = file := by
    simp only [hfile, C02fioc.kStartxref_eq, List.append_assoc, List.cons_append, List.nil_append]
  have hli : Spec.FileWF.lastIndex (bytesOfString "startxref") (pre ++ [10] ++ kStartxref ++ decOf p ++ kEOF)
      = some (pre.length + 1) := by
    rw [show bytesOfString "startxref" = kwStartxrefR by decide +kernel, lastIndex_eq]
    exact C02fioe.lastOccurrence_tail pre p hp
  rw [hsame] at hli ⊢
  have hdrop : file.drop (pre.length + 1 + 9) = 10 :: (decOf p ++ kEOF) := by
    rw [hfile]; exact List.drop_left' (by simp only [List.length_append, kwStartxrefR, List.length_cons, List.length_nil])
  have hbefore : file.drop (pre.length + 1 - 1) = 10 :: (kwStartxrefR ++ (10 :: (decOf p ++ kEOF))) := by
    rw [hfile, List.append_assoc, List.append_assoc]; exact List.drop_left' rfl
  have htr : Spec.FileWF.takeReg (decOf p ++ kEOF) = (decOf p, kEOF) :=
    takeReg_digits _ hall _ (.inr ⟨10, _, rfl, by decide⟩)
  have hnt : Spec.FileWF.natTok (decOf p) = some p := by rw [natTok_digits _ hne hall, hval]
  have hb2 : bytesOfString "%%EOF" = [37, 37, 69, 79, 70] := by decide +kernel
  clear hfile hsame
  -- what is left are facts about the literal `kEOF`
  have hk1 : Spec.FileWF.eolLen kEOF = 1 := by decide
  have hk2 : Spec.FileWF.hasPrefix [37, 37, 69, 79, 70] (kEOF.drop 1) = true := by decide
  have hk4 : Spec.FileWF.eolLen ((kEOF.drop 1).drop 5) = ((kEOF.drop 1).drop 5).length := by decide
  have hk5 : Spec.FileWF.eolLen (10 :: (kwStartxrefR ++ (10 :: (decOf p ++ kEOF)))) = 1 := rfl
  have hk6 : Spec.FileWF.eolLen (10 :: (decOf p ++ kEOF)) = 1 := rfl
  unfold Spec.FileWF.checkTail
  simp only [hli, hdrop, hk6, List.drop_succ_cons, List.drop_zero, htr, hnt, hb2, hk1, hk2, hk4, hbefore, hk5]
  simp


/-- the same behind a writer state with the invariant, whose position is the offset named -/
theorem tail_ok {s2 : WState} {out mid : Bytes} (i2 : C02fiob.Inv s2)
    (hout : out = s2.out ++ (mid ++ [10]) ++ (kStartxref ++ decOf s2.pos ++ kEOF))
    (hsize : out.length < 10 ^ 19) : Spec.FileWF.checkTail out = .ok s2.pos := by
  have hpos19 : s2.pos < 10 ^ 19 := by
    rw [i2.pos_eq]; rw [hout] at hsize; simp at hsize; omega
  rw [hout, show s2.out ++ (mid ++ [10]) ++ (kStartxref ++ decOf s2.pos ++ kEOF)
    = (s2.out ++ mid) ++ [10] ++ kStartxref ++ decOf s2.pos ++ kEOF by simp]
  exact spec_tail_ok _ _ hpos19

theorem beNat_eq (bs : Bytes) : ∀ acc, Spec.FileWF.beNat bs acc = beVal bs acc := by
  induction bs with
  | nil => intro acc; rfl
  | cons b bs ih => intro acc; simp [Spec.FileWF.beNat, beVal, ih]

/-- the entry the specification's row parser finds for a number (fields reduced to their widths) -/
def specRowEntry (w2 w3 : Nat) (e : Option XEntry) : Entry :=
  let (t, a, b) := rowFields e
  { kind := t, a := a % 256 ^ w2, b := b % 256 ^ w3 }

def specRows (m : XMap) (w2 w3 : Nat) : Nat → Nat → Table
  | _, 0 => []
  | i, k+1 => (i, specRowEntry w2 w3 (m.get i)) :: specRows m w2 w3 (i + 1) k

theorem entry_of_type (t a b : Nat) (ht : t < 3) :
    (if t == 0 then ({ kind := 0, a := a, b := b } : Entry) else if t == 1 then { kind := 1, a := a, b := b }
     else if t == 2 then { kind := 2, a := a, b := b } else { kind := 0, a := 0, b := 0 }) = { kind := t, a := a, b := b } :=
  match t, ht with
  | 0, _ => rfl
  | 1, _ => rfl
  | 2, _ => rfl

/-- **The specification's xref-stream row parser reads the writer's rows** (`W = [1 w2 w3]`):
it consumes exactly the rows written for the numbers `i … i+k-1` and finds for each the type and
the two fields the writer encoded. -/
theorem spec_reads_rows (m : XMap) (w2 w3 : Nat) (rest : Bytes) (k : Nat) : ∀ (i : Nat) (acc : Table),
    Spec.FileWF.xrefRows 1 w2 w3 k i ((xrefRows m w2 w3 i k).flatten ++ rest) acc
      = .ok ((specRows m w2 w3 i k).reverse ++ acc, rest) := by
  induction k with
  | zero => intro i acc; simp [Spec.FileWF.xrefRows, xrefRows, specRows]
  | succ k ih =>
    intro i acc
    have hlen := C02fio.xrefRow_length w2 w3 (m.get i)
    have ht := C02fio.rowFields_type_lt (m.get i)
    obtain ⟨t1, t2, t3, t4⟩ := C02fio.xrefRow_fields w2 w3 (m.get i) ((xrefRows m w2 w3 (i + 1) k).flatten ++ rest)
    simp only [xrefRows, List.flatten_cons, List.append_assoc, Spec.FileWF.xrefRows]
    have h1 : ¬ (((xrefRow w2 w3 (m.get i) ++ ((xrefRows m w2 w3 (i + 1) k).flatten ++ rest)).take (1 + w2 + w3)).length < 1 + w2 + w3) := by
      rw [List.take_left' hlen, hlen]; omega
    simp only [h1, ↓reduceIte]
    have h10 : ((1 : Nat) == 0) = false := rfl
    simp only [h10, Bool.false_eq_true, ↓reduceIte, t1, t2, t3, beNat_eq, C02fio.beVal_encodeInt64]
    have hb : beVal [(rowFields (m.get i)).1] 0 = (rowFields (m.get i)).1 := by simp [beVal]
    simp only [hb, Nat.zero_mul, Nat.zero_add]
    have hgt : ¬ ((rowFields (m.get i)).1 > 2) := by omega
    simp only [hgt, ↓reduceIte]
    rw [t4, ih (i + 1)]
    have hent := entry_of_type _ ((rowFields (m.get i)).2.1 % 256 ^ w2) ((rowFields (m.get i)).2.2 % 256 ^ w3) ht
    simp only [hent, specRows, List.reverse_cons, List.append_assoc, List.cons_append, List.nil_append]
    rfl


/-- with the widths chosen by `writeXRefStream` nothing is lost for in-use and compressed
    entries: the specification finds type 1 with offset and generation, or type 2 with the object
    stream and the index -/
theorem spec_row_exact (m : XMap) (n : Nat) (hok : ∀ j, j < n → C02fio.EntryOK (m.get j))
    (j : Nat) (hj : j < n) (x : XEntry) (hget : m.get j = some x) (hp : 0 ≤ x.pos) :
    specRowEntry (fieldWidth (maxFields m 0 n).1) (fieldWidth (maxFields m 0 n).2) (m.get j) =
      (if x.inStream = 0 then { kind := 1, a := x.pos.toNat, b := x.gen }
       else { kind := 2, a := x.inStream, b := x.pos.toNat }) := by
  have hfit := C02fio.w_widths_sufficient m n hok j hj
  rw [hget] at hfit ⊢
  obtain ⟨_, hrest⟩ := hfit
  rcases hrest with hneg | ⟨hp63, hcase⟩
  · omega
  · have hu := C02fio.u64_of_nonneg x.pos hp hp63
    have hneg : ¬ (x.pos < 0) := by omega
    by_cases hin : x.inStream = 0
    · simp only [hin, ↓reduceIte] at hcase ⊢
      have hb : (x.inStream == 0) = true := by simp [hin]
      simp [specRowEntry, rowFields, hneg, hb, hu, Nat.mod_eq_of_lt hcase.1, Nat.mod_eq_of_lt hcase.2]
    · simp only [hin, ↓reduceIte] at hcase ⊢
      have hb : (x.inStream == 0) = false := by simp [hin]
      simp [specRowEntry, rowFields, hneg, hb, hu, Nat.mod_eq_of_lt hcase.1, Nat.mod_eq_of_lt hcase.2.2]

-- non-vacuity: the rows of a table with all kinds of entries, read by the specification's parser
example :
    (let m : XMap := [(0, ⟨0, -1, 65535⟩), (2, ⟨0, 70000, 0⟩), (3, ⟨5, 7, 0⟩), (5, ⟨0, 300, 1⟩)]
     let w2 := fieldWidth (maxFields m 0 6).1
     let w3 := fieldWidth (maxFields m 0 6).2
     match Spec.FileWF.xrefRows 1 w2 w3 6 0 (xrefRows m w2 w3 0 6).flatten [] with
     | .ok (t, rest) => rest == [] && Spec.FileWF.tget t 3 == some ⟨2, 5, 7⟩ && Spec.FileWF.tget t 2 == some ⟨1, 70000, 0⟩ &&
         Spec.FileWF.tget t 1 == some ⟨0, 0, 0⟩
     | _ => false) = true := by decide +kernel


theorem unfilterRow_eq (ft : Nat) (row : Bytes) : ∀ (left ul : Nat) (prior : Bytes),
    Spec.FileWF.unfilterRow ft left ul row prior = pngRowDec ft left ul row prior := by
  induction row with
  | nil => intro _ _ _; rfl
  | cons x xs ih => intro left ul prior; simp only [Spec.FileWF.unfilterRow, pngRowDec, ih]; rfl

/-- **The specification's PNG un-filter undoes the writer's Up rows.** -/
theorem spec_unpredict_up (cols : Nat) (rows : List Bytes) : ∀ (prev : Bytes) (fuel : Nat),
    prev.length = cols → (∀ r ∈ rows, r.length = cols ∧ AllBytes r) →
    fuel ≥ (pngUpEnc prev rows).length + 1 →
    Spec.FileWF.unpredict cols fuel prev (pngUpEnc prev rows) = .ok rows.flatten :=
  C02fio.upDec_undo (Spec.FileWF.unpredict cols) cols (fun _ _ => rfl) (fun fuel prev z more hz => by
    have h0 : ¬ ((2 : Nat) > 4) := by decide
    simp only [Spec.FileWF.unpredict, h0, ↓reduceIte, List.take_left' hz, List.drop_left' hz, hz, Nat.lt_irrefl,
      unfilterRow_eq]) rows

/-- what the writer hands to zlib for the cross-reference stream is, after the specification's
    un-filter, exactly the rows that `spec_reads_rows` reads -/
theorem spec_payload_rows (m : XMap) (n : Nat) :
    let p := xrefStreamPayload m n
    Spec.FileWF.unpredict (1 + p.1 + p.2.1) (p.2.2.length + 1) (List.replicate (1 + p.1 + p.2.1) 0) p.2.2
      = .ok (xrefRows m p.1 p.2.1 0 n).flatten := by
  simp only [xrefStreamPayload]
  exact spec_unpredict_up _ _ _ _ (by simp) (C02fio.xrefRows_mem m _ _ n 0) (by omega)


open PdfVerif.C02fiob in
/-- **writer_wf_table_partial.**  For every state the writer model can reach (any program, any
objects and stream bytes) in which cross-reference tables are used, a successful `Close` yields a
file whose cross-reference level satisfies the independent checker `Spec/FIOFileWF.lean`:

* `checkTail` accepts the end of the file and returns an offset `x`;
* at `x` stands `xref`, the subsection header `0 Size` and then the table (DESIGN.md's
  "startxref points at the last section");
* the specification's strict entry parser accepts the `Size` lines (each exactly 20 bytes) and
  finds one entry for every number below `Size` ("Size covers all"): free for never-written
  numbers, `n` with the recorded offset and generation otherwise;
* every `n` entry's offset is the offset of `N G obj` for its number and generation, and no
  number at or above `Size` has an entry.

Hypotheses: the file is shorter than 10^10 bytes and generations are ≤ 65535 (the bound of the Go
type).  (That no object offset has more than ten digits `writeXRefTable` checks itself:
`C02fio.xrefTableBody_ok`.)
What is *not* proved is that the specification's object parser reads every object body and the
trailer dictionary back (`WriterWF` below): that needs the object-syntax round trip for a second
parser (C01's `obj_rt` is about the model's). -/
theorem writer_wf_table_partial {s s' : WState} {cat : Obj} {info : Option Obj} {tr : List (Bytes × Obj)} {raw : Bytes}
    (hi : Inv s) (hobj : s.opts.objStm = false) (h : close s cat info tr raw = .ok s')
    (hsize : s'.out.length < 10000000000)
    (hgen : ∀ n e, s'.xref.get n = some e → e.gen ≤ 65535) :
    ∃ x rest,
      Spec.FileWF.checkTail s'.out = .ok x ∧
      At s'.out x (kwXref ++ [10, 48, 32] ++ decOf s'.nextRef ++ [10] ++ xrefLines s'.xref 0 s'.nextRef) ∧
      Spec.FileWF.tableEntries s'.nextRef 0 (xrefLines s'.xref 0 s'.nextRef ++ rest) []
        = .ok ((specEntries s'.xref 0 s'.nextRef).reverse, rest) ∧
      (xrefLines s'.xref 0 s'.nextRef).length = 20 * s'.nextRef ∧
      (∀ n e, s'.xref.get n = some e → n < s'.nextRef) ∧
      (∀ n e, s'.xref.get n = some e → 0 ≤ e.pos → At s'.out e.pos.toNat (objHeader n e.gen)) := by
  obtain ⟨s2, body, td, _, _, L⟩ := C02fioe.close_table_layout hobj h
  have i2 := L.reach.inv hi
  have hbody := (C02fio.xrefTableBody_ok L.table).2.2
  have hat : ∀ n e, s2.xref.get n = some e → 0 ≤ e.pos → At s'.out e.pos.toNat (objHeader n e.gen) :=
    fun n e hg hp => L.out ▸ (((C02fioe.table_entries i2 L.stm2 L.table hg).2.2 hp).append _).append _
  have hbound : ∀ j, 0 ≤ j → j < 0 + s2.nextRef → ∀ x, s2.xref.get j = some x → x.pos < 10000000000 ∧ x.gen ≤ 65535 :=
    fun j _ _ x hg => ⟨(C02fioe.table_entries i2 L.stm2 L.table hg).2.1, hgen j x (L.xref ▸ hg)⟩
  rw [L.xref, L.nextRef]
  refine ⟨s2.pos, kTrailerNL ++ td ++ [10] ++ (kStartxref ++ decOf s2.pos ++ kEOF), ?_, ?_, ?_,
    C02fio.xref_lines_20 s2.xref 0 s2.nextRef hbound, i2.below, hat⟩
  · exact tail_ok i2 L.out (Nat.lt_trans hsize (by decide))
  · rw [L.out, i2.pos_eq, hbody]
    exact ⟨s2.out, kTrailerNL ++ td ++ [10] ++ (kStartxref ++ decOf s2.out.length ++ kEOF),
      by simp only [List.append_assoc], rfl⟩
  · exact (spec_reads_table s2.xref _ s2.nextRef 0 [] hbound).trans (by rw [List.append_nil])

/-- the full statement: the checker accepts the whole file and extracts the values written
    (not proved; see `writer_wf_table_partial` and the C03 run of `checkFile` on real files) -/
def WriterWF : Prop :=
  ∀ (o : WOpts) (s0 s : WState) (ops : List Op) (inflate : Bytes → Option Bytes),
    initState o = some s0 → run s0 ops 0 = .ok s →
    (∃ cat info tr raw pre, ops = pre ++ [Op.close cat info tr raw]) →
    ∃ facts, Spec.FileWF.checkFile inflate s.out = .ok facts ∧ facts.size = s.nextRef


-- non-vacuity: a table-form program (PDF 1.3, seekable sink, a long stream, a deferred Put);
-- the hypotheses of `writer_wf_table_partial` hold and the checker's `checkTail` computes the
-- offset at which `xref` stands
example : (match initState { C02fiob.exOpts with version := 4 } with
    | some s0 => (match run s0 C02fiob.exProg 0 with
      | .ok s => (match Spec.FileWF.checkTail s.out with
          | .ok x => isPrefixOf kwXref (s.out.drop x) && s.opts.objStm == false && s.nextRef == 5
          | _ => false)
      | _ => false)
    | none => false) = true := by decide +kernel

/-- a complete program with a proper catalog -/
def exProgWF : List Op :=
  [.alloc, .alloc, .alloc, .put 1 0 (.plain (.dict [([84, 121, 112, 101], .name [80, 97, 103, 101, 115])])),
   .openStream 2 0 [([75], .str [40, 41, 92])] none, .write (List.replicate 1030 65),
   .put 3 0 (.plain (.arr [.name [65, 32], .real [45, 49, 46, 53], .ref 2 0])), .closeStream,
   .close (.dict [([84, 121, 112, 101], .name [67, 97, 116, 97, 108, 111, 103]), ([80, 97, 103, 101, 115], .ref 1 0)])
     none [] []]

-- the whole checker accepts this model-written file and finds its five numbers and four
-- objects (an executable instance of `WriterWF`)
example : (match initState { C02fiob.exOpts with version := 4 } with
    | some s0 => (match run s0 exProgWF 0 with
      | .ok s => (match Spec.FileWF.checkFile (fun _ => none) s.out with
          | .ok facts => facts.size == 5 && facts.objs.length == 4
          | _ => false)
      | _ => false)
    | none => false) = true := by decide +kernel

end PdfVerif.C03fio
