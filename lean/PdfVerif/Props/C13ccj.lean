import PdfVerif.Props.C13ccd
/-!
# C13 (part 10) — enumeration across parent chains agrees with lookup
-/
namespace PdfVerif.C13ccj
open PdfVerif PdfVerif.CC PdfVerif.CMap PdfVerif.C13cc PdfVerif.C13ccb PdfVerif.C13ccc PdfVerif.C13ccd

/-- some entry of the file covers `(bytes, v)` by the rule the lookup applies to it -/
def FileCovers (g : CMapFile) (bytes : Bytes) (v : Nat) : Prop :=
  (∃ r ∈ g.ranges, ∃ i, rangeIsValid r.first r.last = true ∧ rangeIndex r.first r.last bytes = some i ∧
      v = u32 (r.value + i)) ∨
  (∃ s ∈ g.singles, s.code = bytes ∧ s.value = v)

def fileDemand (g : CMapFile) : Nat := rangesDemand g.ranges + g.singles.length

def filesDemand : List CMapFile → Nat
  | [] => 0
  | g :: rest => fileDemand g + filesDemand rest

theorem allItemsFiles_cons (g : CMapFile) (rest : List CMapFile) (budget : Nat) (hb : fileDemand g ≤ budget) :
    allItemsFiles (g :: rest) budget = (cview g).items budget ++ allItemsFiles rest (budget - fileDemand g) := by
  have a1 := (itemsRanges_count (g.ranges.map crange) budget
    (rangesDemand_eq g.ranges ▸ Nat.le_trans (Nat.le_add_right _ _) hb)).1
  simp only [allItemsFiles, allItemsRanges_eq, allItemsSingles_eq, GFile.items_eq, cview_singles, cview_ranges, a1,
    ← rangesDemand_eq, fileDemand, Nat.sub_sub]

theorem filesDemand_append (xs ys : List CMapFile) : filesDemand (xs ++ ys) = filesDemand xs + filesDemand ys := by
  induction xs with
  | nil => simp [filesDemand]
  | cons x xs ih => simp only [List.cons_append, filesDemand, ih]; omega

theorem allItemsFiles_append : ∀ (xs ys : List CMapFile) (budget : Nat), filesDemand xs ≤ budget →
    allItemsFiles (xs ++ ys) budget = allItemsFiles xs budget ++ allItemsFiles ys (budget - filesDemand xs) := by
  intro xs
  induction xs with
  | nil => intro ys budget _; simp [allItemsFiles, filesDemand]
  | cons g xs ih =>
    intro ys budget hb
    simp only [filesDemand] at hb
    have hg : fileDemand g ≤ budget := Nat.le_trans (Nat.le_add_right _ _) hb
    rw [List.cons_append, allItemsFiles_cons g (xs ++ ys) budget hg, allItemsFiles_cons g xs budget hg,
      ih ys _ (Nat.le_sub_of_add_le' hb)]
    simp only [List.append_assoc, filesDemand, Nat.sub_sub]

/-- the value a consumer that collects the enumeration into a map (later items win) ends up with -/
def lastValue (items : List (Bytes × Nat)) (bytes : Bytes) : Option Nat :=
  (items.reverse.find? fun it => it.1 == bytes).map Prod.snd

theorem lastValue_append (a b : List (Bytes × Nat)) (bytes : Bytes) :
    lastValue (a ++ b) bytes = (lastValue b bytes).or (lastValue a bytes) := by
  simp only [lastValue, List.reverse_append, List.find?_append]
  cases List.find? (fun it => it.1 == bytes) b.reverse <;> simp

theorem lastValue_some (items : List (Bytes × Nat)) (bytes : Bytes) (v : Nat) (h : lastValue items bytes = some v) :
    (bytes, v) ∈ items := by
  simp only [lastValue, Option.map_eq_some_iff] at h
  obtain ⟨⟨b, w⟩, hf, rfl⟩ := h
  have h2 := List.find?_some hf
  simp only [beq_iff_eq] at h2
  subst h2
  simpa using List.mem_of_find?_eq_some hf

theorem lastValue_none (items : List (Bytes × Nat)) (bytes : Bytes) (h : lastValue items bytes = none) :
    ∀ v, (bytes, v) ∉ items := by
  intro v hv
  simp only [lastValue, Option.map_eq_none_iff, List.find?_eq_none, List.mem_reverse] at h
  simpa using h (bytes, v) hv

/-- the entries of one file do not contradict each other -/
def Functional (g : CMapFile) : Prop := ∀ bytes v v', FileCovers g bytes v → FileCovers g bytes v' → v = v'

theorem fileCovers_iff (g : CMapFile) (bytes : Bytes) (v : Nat) : FileCovers g bytes v ↔ (cview g).Lists bytes v :=
  (cview_lists g bytes v).symm

theorem lastValue_items (g : CMapFile) (budget : Nat) (hb : fileDemand g ≤ budget) (hb2 : budget ≤ maxInt32)
    (hf : Functional g) (bytes : Bytes) (hne : bytes ≠ []) :
    lastValue ((cview g).items budget) bytes = (cview g).lookup bytes :=
  (cview g).lookup_eq_of_items bytes hne
    (fun v v' h h' => hf bytes v v' ((fileCovers_iff g bytes v).mpr h) ((fileCovers_iff g bytes v').mpr h'))
    budget (cview_demand g ▸ hb) hb2 _ (lastValue_some _ bytes) (fun h v => lastValue_none _ bytes h v)

/-- `File.All` enumerates the files of a chain root first; a consumer that collects the items into a map (later items
replace earlier ones, as `maps.Collect` does) ends up, for every non-empty code, with exactly the value `LookupCID` finds
among the mapped entries of the chain (child entries shadow the parents') — provided the entries within each file do not
contradict each other and the enumeration budget is not exhausted.  (Non-empty: an invalid range of empty codes answers
the lookup but is not enumerated, `GFile.lists_iff_maps`.) -/
theorem all_chain_lookup : ∀ (chain : Chain) (budget : Nat), filesDemand chain.reverse ≤ budget → budget ≤ maxInt32 →
    (∀ g ∈ chain, Functional g) → ∀ bytes, bytes ≠ [] →
    lastValue (allItemsFiles chain.reverse budget) bytes = lookupMapped chain bytes := by
  intro chain
  induction chain with
  | nil => intro budget _ _ _ bytes _; rfl
  | cons f parents ih =>
    intro budget hb hb2 hfun bytes hne
    simp only [List.reverse_cons, filesDemand_append, filesDemand, Nat.add_zero] at hb ⊢
    -- the parents' items come first, the file's own items last and win
    have hp : filesDemand parents.reverse ≤ budget := Nat.le_trans (Nat.le_add_right _ _) hb
    have hf : fileDemand f ≤ budget - filesDemand parents.reverse := Nat.le_sub_of_add_le' hb
    have hb2' : budget - filesDemand parents.reverse ≤ maxInt32 := Nat.le_trans (Nat.sub_le _ _) hb2
    rw [allItemsFiles_append parents.reverse [f] budget hp, allItemsFiles_one, lastValue_append,
      lastValue_items f _ hf hb2' (hfun f List.mem_cons_self) bytes hne,
      lookupMapped_cons, ih budget hp hb2 (fun g hg => hfun g (List.mem_cons_of_mem _ hg)) bytes hne]

/-- the file built by `SetMapping` is functional (its entries never overlap with different values),
so `all_chain_lookup` applies to every chain of files built by `SetMapping` -/
theorem setMapping_functional (f f' : CMapFile) (parents : Chain) (codec : Codec) (data : List (Nat × Nat))
    (h : setMapping f parents codec data = .ok f')
    (hcid : ∀ p ∈ data, p.2 < 4294967296)
    (hbytes : ∀ p ∈ data, ∀ bs, codec.appendCode p.1 = .ok bs → AllBytes bs)
    (hfun : ∀ p ∈ data, ∀ q ∈ data, codec.appendCode p.1 = codec.appendCode q.1 → p.2 = q.2) :
    Functional f' := by
  intro bytes v v' c1 c2
  have hm := fun v c => (setMapping_maps h hcid hbytes bytes v).mp ((cview f').maps_of_lists ((fileCovers_iff f' bytes v).mp c))
  obtain ⟨p, hp, p1, rfl, _⟩ := hm v c1
  obtain ⟨q, hq, q1, rfl, _⟩ := hm v' c2
  exact hfun p hp q hq (by rw [p1, q1])

end PdfVerif.C13ccj
