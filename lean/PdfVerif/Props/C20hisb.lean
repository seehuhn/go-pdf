import PdfVerif.Model.HISSeq
import PdfVerif.Lemmas.C01Total
/-!
# C20 — reading an object never fails with anything but `eof`/`malformed`

The scanner model (`Model/Scan.lean`, `Model/HISObj.lean`) is total by fuel.  `Lemmas/C01Total`
proves that three units of fuel per input byte are always enough, that the branch marked
"unreachable" in `readArrayLoop` is unreachable, and that every successful read consumes input;
`objFuel` provides that fuel, so that **for every input** the result of `ReadIndirectObject` is a
value, `io.EOF` or a `MalformedFileError` — exactly the classes `checkObjects` turns into `Broken`.
Hence the sequential scan never aborts while checking objects (`checkObject_total`).
-/
namespace PdfVerif.C20hisb
open PdfVerif PdfVerif.HIS PdfVerif.C01L

def Good {α} (n : Nat) : Except Err (α × Bytes) → Prop
  | .ok (_, rest) => rest.length ≤ n
  | .error e => e = .eof ∨ e = .malformed

def GoodLt {α} (n : Nat) : Except Err (α × Bytes) → Prop
  | .ok (_, rest) => rest.length < n
  | .error e => e = .eof ∨ e = .malformed

theorem GoodLt.mono {α} {n m : Nat} {r : Except Err (α × Bytes)} (h : GoodLt n r) (hnm : n ≤ m) : GoodLt m r := by
  cases r with
  | error e => exact h
  | ok p => obtain ⟨a, rest⟩ := p; simp only [GoodLt] at h ⊢; omega

theorem Good.map {α β} {n : Nat} {r : Except Err (α × Bytes)} (f : α → β) (h : Good n r) :
    Good n (r.map fun p => (f p.1, p.2)) := by
  cases r with
  | error e => exact h
  | ok p => obtain ⟨a, rest⟩ := p; exact h

theorem GoodLt.map {α β} {n : Nat} {r : Except Err (α × Bytes)} (f : α → β) (h : GoodLt n r) :
    GoodLt n (r.map fun p => (f p.1, p.2)) := by
  cases r with
  | error e => exact h
  | ok p => obtain ⟨a, rest⟩ := p; exact h

/-- the two error classes `checkObjects` turns into `Broken`: `io.EOF` and `MalformedFileError` -/
def TypedErr {α} (r : Except Err α) : Prop := ∀ e, r = .error e → e = .eof ∨ e = .malformed

theorem TypedErr.error {α} {x : Err} (hx : x = .eof ∨ x = .malformed) : TypedErr (.error x : Except Err α) :=
  fun _ he => by cases he; exact hx

theorem recoverExtent_spec (file : Bytes) (start : Nat) (limit : Option Nat) :
    TypedErr (recoverExtent file start limit) ∧
      ∀ ext, recoverExtent file start limit = .ok ext → start ≤ ext.after := by
  fun_cases recoverExtent file start limit
  · exact ⟨.error (.inr rfl), fun _ h => nomatch h⟩
  · exact ⟨.error (.inr rfl), fun _ h => nomatch h⟩
  · exact ⟨(fun _ h => nomatch h), fun ext h => (by cases h; simp only []; omega)⟩

theorem readStreamData_spec (file : Bytes) (p : Nat) (declared : Option Nat) (limit : Option Nat) :
    TypedErr (readStreamData file p declared limit) ∧
      ∀ ext, readStreamData file p declared limit = .ok ext → p ≤ ext.after := by
  have bad : ∀ (x : Err), (x = .eof ∨ x = .malformed) →
      TypedErr (.error x : Except Err StreamExt) ∧ ∀ ext, (.error x : Except Err StreamExt) = .ok ext → p ≤ ext.after :=
    fun x hx => ⟨.error hx, fun _ h => nomatch h⟩
  have recover : ∀ s, p ≤ s → TypedErr (recoverExtent file s limit) ∧
      ∀ ext, recoverExtent file s limit = .ok ext → p ≤ ext.after :=
    fun s hs => ⟨(recoverExtent_spec file s limit).1, fun ext h => Nat.le_trans hs ((recoverExtent_spec file s limit).2 ext h)⟩
  fun_cases readStreamData file p declared limit
  · exact bad _ (.inr rfl)
  · exact bad _ (.inr rfl)
  · exact recover _ (Nat.le_add_right_of_le (Nat.le_add_right p 6))
  · exact bad _ (.inr rfl)
  · -- the declared length: `endstream` stands behind the data, and the data behind `p`
    refine ⟨(fun _ h => nomatch h), fun ext h => ?_⟩
    cases h
    have h1 := skipWS_len' ‹skipWS _ = _›
    have h2 := isPrefixOf_len _ _ ‹startsWith _ kwEndstream = true›
    simp only [List.length_drop, kwEndstream, List.length_cons, List.length_nil] at h1 h2
    simp only []
    omega
  · exact bad _ (.inr rfl)
  · exact recover _ (Nat.le_add_right_of_le (Nat.le_add_right p 6))

theorem readInt_typed (inp : Bytes) : TypedErr (readInt inp) := by
  fun_cases readInt inp
  · exact .error (.inl rfl)
  · exact .error (.inr rfl)
  · exact fun _ h => nomatch h
  · exact .error (.inr rfl)

/-- a `getInt` whose own errors are `eof` or `malformed` (true of `makeSafeGetInt`, see
    `safeGetInt_typed`; a `getInt` that reports an I/O error makes `ReadStreamData` report it) -/
def TypedGetInt (getInt : Obj → Except Err Int) : Prop := ∀ o, TypedErr (getInt o)

theorem declaredOf_typed (getInt : Obj → Except Err Int) (hg : TypedGetInt getInt) (d : List (Bytes × Obj)) :
    TypedErr (declaredOf getInt d) := by
  fun_cases declaredOf getInt d
  case case5 => exact absurd (hg _ _ ‹_›) (by rintro (h | h) <;> exact absurd h ‹_›)
  all_goals exact fun _ h => nomatch h

theorem readObjectTop_spec (file : Bytes) (pos : Nat) (getInt : Obj → Except Err Int) (scalarOnly : Bool)
    (limit : Option Nat) :
    (TypedGetInt getInt → TypedErr (readObjectTop file pos getInt scalarOnly limit)) ∧
      ∀ v p, readObjectTop file pos getInt scalarOnly limit = .ok (v, p) → pos ≤ p := by
  have bad : ∀ (x : Err), (TypedGetInt getInt → x = .eof ∨ x = .malformed) →
      (TypedGetInt getInt → TypedErr (.error x : Except Err (Val × Nat))) ∧
        ∀ v p, (.error x : Except Err (Val × Nat)) = .ok (v, p) → pos ≤ p :=
    fun x hx => ⟨fun hg => .error (hx hg), (fun _ _ h => nomatch h)⟩
  have ok : ∀ (v : Val) (q : Nat), pos ≤ q →
      (TypedGetInt getInt → TypedErr (.ok (v, q) : Except Err (Val × Nat))) ∧
        ∀ v' p, (.ok (v, q) : Except Err (Val × Nat)) = .ok (v', p) → pos ≤ p :=
    fun v q hq => ⟨(fun _ _ h => nomatch h), fun v' p h => (by cases h; exact hq)⟩
  -- `readObject` and `readDict` consume input, `skipWS` does not give any back
  have obj : ∀ {o : Obj} {r : Bytes}, readObject (objFuel (file.drop pos)) 0 (file.drop pos) = .ok (o, r) →
      pos ≤ file.length - r.length := by
    intro o r h
    have := readObject_consumes h
    simp only [List.length_drop] at this
    omega
  have dict : ∀ {d : List (Bytes × Obj)} {r r' : Bytes} {b : Bool},
      readDict (objFuel (file.drop pos)) 0 (file.drop pos) = .ok (d, r) → skipWS r = (r', b) →
      pos ≤ file.length - r'.length := by
    intro d r r' b h hs
    have := readDict_consumes h
    have := skipWS_len' hs
    simp only [List.length_drop] at *
    omega
  have fuel : 3 * (file.drop pos).length + 3 ≤ objFuel (file.drop pos) := by unfold objFuel; omega
  fun_cases readObjectTop file pos getInt scalarOnly limit
  · exact bad _ fun _ => .inr rfl
  · exact bad _ fun _ => readDict_scanErr (Nat.le_of_succ_le fuel) ‹_›
  · exact bad _ fun hg => declaredOf_typed getInt hg _ _ ‹_›
  · exact bad _ fun _ => (readStreamData_spec _ _ _ _).1 _ ‹_›
  · exact ok _ _ (Nat.le_trans (dict ‹_› ‹_›) ((readStreamData_spec _ _ _ _).2 _ ‹_›))
  · exact ok _ _ (dict ‹_› ‹_›)
  · exact bad _ fun _ => .inr rfl
  · exact bad _ fun _ => readObject_scanErr fuel ‹_›
  · exact ok _ _ (obj ‹_›)
  · exact bad _ fun _ => readObject_scanErr fuel ‹_›
  · exact ok _ _ (obj ‹_›)

/-- the way of a complete object through `ReadIndirectObject`: two integers in range, `obj`, the
    object, `endobj` -/
theorem readIndirect_ok {file : Bytes} {pos : Nat} {getInt : Obj → Except Err Int} {scalarOnly : Bool}
    {limit : Option Nat} {number generation : Int} {r1 r2 r3 r4 r : Bytes} {v : Val} {p : Nat}
    (h1 : readInt (file.drop pos) = .ok (number, r1)) (h2 : readInt r1 = .ok (generation, r2))
    (h3 : skipWS r2 = (r3, false)) (hobj : startsWith r3 kwObj = true) (h4 : skipWS (r3.drop 3) = (r4, false))
    (hn : 0 ≤ number ∧ number < (Gen.his_xref_maxXRefSize : Nat))
    (hg : 0 ≤ generation ∧ generation ≤ (Gen.his_xref_maxGeneration : Nat))
    (htop : readObjectTop file (file.length - r4.length) getInt scalarOnly limit = .ok (v, p))
    (h5 : skipWS (file.drop p) = (r, false)) (hend : startsWith r kwEndobj = true) :
    readIndirect file pos getInt scalarOnly limit
      = .ok { val := v, num := number.toNat, gen := generation.toNat, endPos := file.length - r.length + 6 } := by
  have hrange : (decide (number < 0) || decide (number ≥ (Gen.his_xref_maxXRefSize : Nat)) || decide (generation < 0) ||
      decide (generation > (Gen.his_xref_maxGeneration : Nat))) = false := by
    simp; omega
  unfold readIndirect
  simp only [h1, h2, h3, hobj, h4, hrange, htop, h5, hend, Bool.not_true, Bool.false_eq_true, if_false, if_true]
  split <;> rfl

theorem readInt_suffix {inp file : Bytes} (h : inp <:+ file) {i : Int} {r : Bytes}
    (hr : readInt inp = .ok (i, r)) : r <:+ file := by
  unfold readInt at hr
  split at hr
  · cases hr
  · rename_i inp' hs
    have htok : (scanNumTok false false true inp').2 <:+ inp' := ⟨_, scanNumTok_append false inp' false true⟩
    simp only at hr
    split at hr
    · cases hr
    · split at hr
      · cases hr; exact htok.trans (skipWS_suffix hs h)
      · cases hr

/-- Every exit of `readIndirect` is an error exit (`bad`) or ends in the test for
    `endobj` on a rest that is a suffix of `file.drop pos` (`fin`, `behind`). -/
theorem readIndirect_spec (file : Bytes) (pos : Nat) (getInt : Obj → Except Err Int) (scalarOnly : Bool)
    (limit : Option Nat) :
    (TypedGetInt getInt → TypedErr (readIndirect file pos getInt scalarOnly limit)) ∧
      ∀ ind, readIndirect file pos getInt scalarOnly limit = .ok ind →
        ∃ q, isPrefixOf kwEndobj ((file.drop pos).drop q) = true := by
  have bad : ∀ x : Err, (TypedGetInt getInt → x = .eof ∨ x = .malformed) →
      (TypedGetInt getInt → TypedErr (.error x : Except Err Indirect)) ∧
        ∀ ind, (.error x : Except Err Indirect) = .ok ind → ∃ q, isPrefixOf kwEndobj ((file.drop pos).drop q) = true :=
    fun x hx => ⟨fun hg => .error (hx hg), fun _ he => nomatch he⟩
  have fin : ∀ (r : Bytes) (i : Indirect), r <:+ file.drop pos →
      (TypedGetInt getInt → TypedErr (if startsWith r kwEndobj = true then (Except.ok i : Except Err Indirect) else .error .malformed)) ∧
        ∀ ind, (if startsWith r kwEndobj = true then (Except.ok i : Except Err Indirect) else .error .malformed) = .ok ind →
          ∃ q, isPrefixOf kwEndobj ((file.drop pos).drop q) = true := by
    intro r i hs
    split
    · rename_i hsw; exact ⟨(fun _ _ he => nomatch he), fun _ _ => ⟨_, List.suffix_iff_eq_drop.mp hs ▸ hsw⟩⟩
    · exact bad _ fun _ => .inr rfl
  -- the rest behind the object is a suffix of `file.drop pos`: the header consumes input, `readObjectTop` goes forward
  have behind : ∀ {n g : Int} {r1 r2 r3 r4 r : Bytes} {v : Val} {p : Nat}, readInt (file.drop pos) = .ok (n, r1) →
      readInt r1 = .ok (g, r2) → skipWS r2 = (r3, false) → skipWS (r3.drop 3) = (r4, false) →
      readObjectTop file (file.length - r4.length) getInt scalarOnly limit = .ok (v, p) →
      skipWS (file.drop p) = (r, false) → r <:+ file.drop pos := by
    intro n g r1 r2 r3 r4 r v p h1 h2 h3 h4 htop h5
    have hne : pos ≤ file.length := by
      refine Nat.le_of_not_lt fun hlt => ?_
      rw [List.drop_eq_nil_of_le (Nat.le_of_lt hlt)] at h1
      simp [readInt, skipWS] at h1
    have hl4 := (skipWS_suffix h4 ((List.drop_suffix 3 r3).trans
      (skipWS_suffix h3 (readInt_suffix (readInt_suffix (List.suffix_refl _) h1) h2)))).length_le
    have hp := (readObjectTop_spec _ _ _ _ _).2 _ _ htop
    simp only [List.length_drop] at hl4
    exact skipWS_suffix h5 (List.drop_suffix_drop_left file (by omega))
  fun_cases readIndirect file pos getInt scalarOnly limit
  -- the sixteen ways through `readIndirect`, in the order of its text
  · exact bad _ fun _ => readInt_typed _ _ ‹_›
  · exact bad _ fun _ => readInt_typed _ _ ‹_›
  · exact bad _ fun _ => .inl rfl
  · exact bad _ fun _ => .inr rfl
  · exact bad _ fun _ => .inl rfl
  · exact bad _ fun _ => .inr rfl
  · exact bad _ fun hg => (readObjectTop_spec _ _ _ _ _).1 hg _ ‹_›
  · exact bad _ fun _ => .inl rfl
  · exact fin _ _ (behind ‹_› ‹_› ‹_› ‹_› ‹_› ‹_›)
  · exact bad _ fun _ => readInt_typed _ _ ‹_›
  · exact bad _ fun _ => .inl rfl
  · exact bad _ fun _ => .inl rfl
  · exact bad _ fun _ => .inr rfl
  · -- the reference: generation, white space, `R`, white space behind the integer
    exact fin _ _ (skipWS_suffix ‹_› ((List.suffix_cons _ _).trans
      (skipWS_suffix ‹_› (readInt_suffix (behind ‹_› ‹_› ‹_› ‹_› ‹_› ‹_›) ‹_›))))
  · exact bad _ fun _ => .inr rfl
  · exact fin _ _ (behind ‹_› ‹_› ‹_› ‹_› ‹_› ‹_›)

/-- `ReadIndirectObject` fails only with `eof` or `malformed` — on every file, at every position, in both modes,
with every `getInt` whose own errors are of these two classes.  These are exactly the classes `checkObjects` turns
into `Broken`; any other class would abort the scan. -/
theorem readIndirect_typed (file : Bytes) (pos : Nat) (getInt : Obj → Except Err Int) (hg : TypedGetInt getInt)
    (scalarOnly : Bool) (limit : Option Nat := none) : TypedErr (readIndirect file pos getInt scalarOnly limit) :=
  (readIndirect_spec file pos getInt scalarOnly limit).1 hg

/-- the `getInt` of `makeSafeGetInt` fails only with `eof` or `malformed` -/
theorem safeGetInt_typed (file : Bytes) (secs : List HIS.Section) (fuel : Nat) (seen : List (Nat × Nat)) (o : Obj) :
    TypedErr (safeGetInt file secs fuel seen o).2 := by
  fun_induction safeGetInt file secs fuel seen o
  · exact .error (.inr rfl)
  · exact .error (.inr rfl)
  · exact .error (.inr rfl)
  · -- the nested scalar `readIndirect`: its `getInt` is constantly `.malformed`
    exact .error (readIndirect_typed _ _ (fun _ => .error .malformed) (fun _ => .error (.inr rfl)) _ none _ ‹_›)
  · assumption
  · exact .error (.inr rfl)
  · exact fun _ h => nomatch h
  · exact .error (.inr rfl)

/-- For every file, every set of located sections and every located header, `checkObjects` either records the object
with its type or marks it `Broken`; it never returns an error (which is what would make `SequentialScan` fail outright
after `locateObjects` found something). -/
theorem checkObject_total (file : Bytes) (secs : List HIS.Section) (fo : FileObject) :
    ∃ c, checkObject file secs fo = .ok c := by
  fun_cases checkObject file secs fo
  case case3 =>
    -- `readIndirect` has no third class of error (`makeSafeGetInt`'s `getInt` has none either)
    exact absurd (readIndirect_typed _ _ _ (fun o => safeGetInt_typed file secs 12 [] o) _ _ _ ‹_›)
      (by rintro (h | h) <;> exact absurd h ‹_›)
  all_goals exact ⟨_, rfl⟩

-- non-vacuity: a cut-off object is Broken, a complete one is listed with its type
example : (match checkObject (bytesOfString "1 0 obj\n<</A 1") [] { num := 1, gen := 0, start := 0 } with
    | .ok c => c.broken | _ => false) = true := by decide +kernel
example : (match checkObject (bytesOfString "1 0 obj\n<</Type/X>>\nendobj\n") [] { num := 1, gen := 0, start := 0 } with
    | .ok c => !c.broken && c.endPos == 26 && c.subtype == [88] | _ => false) = true := by decide +kernel

/-- a successful `ReadIndirectObject` has seen the keyword `endobj`, somewhere in the file: from `readIndirect_spec` -/
theorem ok_implies_endobj (file : Bytes) (pos : Nat) (getInt : Obj → Except Err Int) (scalarOnly : Bool)
    (ind : Indirect) (h : readIndirect file pos getInt scalarOnly = .ok ind) :
    ∃ q, isPrefixOf kwEndobj (file.drop q) = true := by
  obtain ⟨q, hq⟩ := (readIndirect_spec file pos getInt scalarOnly none).2 ind h
  exact ⟨pos + q, by rwa [List.drop_drop] at hq⟩

def NoEndobj (p : Bytes) : Prop := ∀ q, isPrefixOf kwEndobj (p.drop q) = false

theorem readIndirect_noEndobj (file : Bytes) (pos : Nat) (getInt : Obj → Except Err Int) (hg : TypedGetInt getInt)
    (scalarOnly : Bool) (limit : Option Nat) (hx : NoEndobj (file.drop pos)) :
    ∃ e, readIndirect file pos getInt scalarOnly limit = .error e ∧ (e = .eof ∨ e = .malformed) := by
  cases h : readIndirect file pos getInt scalarOnly limit with
  | error e => exact ⟨e, rfl, (readIndirect_spec file pos getInt scalarOnly limit).1 hg e h⟩
  | ok ind =>
    obtain ⟨q, hq⟩ := (readIndirect_spec file pos getInt scalarOnly limit).2 ind h
    rw [hx q] at hq; cases hq

/-- For every byte string `p` that does not contain the keyword `endobj` — in particular every strict prefix of
`N G obj … endobj` whose body does not contain the keyword — `ReadIndirectObject` at any position returns `eof` or
`malformed`: the object is reported as `Broken`, never as complete and never as an error that aborts the scan. -/
theorem prefix_without_endobj_fails (p : Bytes) (hp : NoEndobj p) (pos : Nat)
    (getInt : Obj → Except Err Int) (hg : TypedGetInt getInt) (scalarOnly : Bool) :
    ∃ e, readIndirect p pos getInt scalarOnly = .error e ∧ (e = .eof ∨ e = .malformed) :=
  readIndirect_noEndobj p pos getInt hg scalarOnly none fun q => by rw [List.drop_drop]; exact hp _

/-- the full statement of DESIGN §5 C20, error classes: every strict prefix of header ‖ body ‖ LF `endobj`
fails with `eof` or `malformed`.  Proved below for bodies that do not contain the keyword
`endobj` (`prefix_errors_typed_partial`); for a body that contains the keyword inside a string
or name the "never succeeds" half needs the prefix-stability of the whole parser and is not
proved (the typed half, `readIndirect_typed`, holds for all inputs). -/
def prefix_errors_typed : Prop :=
  ∀ (hdrBody : Bytes) (t : Nat), t < (hdrBody ++ 10 :: kwEndobj).length →
    (∃ ind, readIndirect (hdrBody ++ 10 :: kwEndobj) 0 (fun _ => .error .malformed) false = .ok ind ∧ ind.endPos = (hdrBody ++ 10 :: kwEndobj).length) →
    ∃ e, readIndirect ((hdrBody ++ 10 :: kwEndobj).take t) 0 (fun _ => .error .malformed) false = .error e ∧ (e = .eof ∨ e = .malformed)

theorem prefix_errors_typed_partial (hdrBody : Bytes) (hb : NoEndobj (hdrBody ++ [10, 101, 110, 100, 111, 98]))
    (t : Nat) (ht : t < (hdrBody ++ 10 :: kwEndobj).length) (getInt : Obj → Except Err Int) (hg : TypedGetInt getInt) :
    ∃ e, readIndirect ((hdrBody ++ 10 :: kwEndobj).take t) 0 getInt false = .error e ∧ (e = .eof ∨ e = .malformed) := by
  apply prefix_without_endobj_fails _ _ _ _ hg
  intro q
  -- a strict prefix of the whole is a prefix of the whole without its last byte
  have hpre : (hdrBody ++ 10 :: kwEndobj).take t = (hdrBody ++ [10, 101, 110, 100, 111, 98]).take t := by
    have : hdrBody ++ 10 :: kwEndobj = (hdrBody ++ [10, 101, 110, 100, 111, 98]) ++ [106] := by simp [kwEndobj]
    rw [this, List.take_append_of_le_length]
    simp [kwEndobj] at ht ⊢; omega
  rw [hpre]
  -- an occurrence in a prefix is an occurrence in the whole
  cases hocc : isPrefixOf kwEndobj (((hdrBody ++ [10, 101, 110, 100, 111, 98]).take t).drop q) with
  | false => rfl
  | true =>
    rw [List.drop_take] at hocc
    exact (isPrefixOf_mono (List.take_prefix _ _) hocc).symm.trans (hb q)

-- non-vacuity: "7 0 obj\n[1 (x)]" has no `endobj`; every prefix of the complete object fails typed
example : NoEndobj (bytesOfString "7 0 obj\n[1 (x)]" ++ [10, 101, 110, 100, 111, 98]) := by
  intro q
  have : ∀ q, q < 24 → isPrefixOf kwEndobj ((bytesOfString "7 0 obj\n[1 (x)]" ++ [10, 101, 110, 100, 111, 98]).drop q) = false := by
    decide +kernel
  by_cases h : q < 24
  · exact this q h
  · have hl : (bytesOfString "7 0 obj\n[1 (x)]" ++ [10, 101, 110, 100, 111, 98]).length ≤ q := by
      have : (bytesOfString "7 0 obj\n[1 (x)]" ++ [10, 101, 110, 100, 111, 98]).length = 21 := by decide +kernel
      omega
    rw [List.drop_eq_nil_of_le hl]; rfl

end PdfVerif.C20hisb
