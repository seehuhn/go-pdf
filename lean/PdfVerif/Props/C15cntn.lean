import PdfVerif.Props.C15cnto
import PdfVerif.Lemmas.BytesOrder
import PdfVerif.Lemmas.C01Canon
/-!
# C15 — composite operands of nesting depth one

`ops_rt`/`split_rt` for operators whose operands are flat operands, arrays of flat operands
(`TJ`, `d`, `SCN` …) and dictionaries with flat values (`BDC`/`DP` property lists): such
operands are operands of `C15cntm.opD_step` (`argD_arg1`), and what the scanner returns for them
(`normD` of the canonical form) is `norm1`.
-/
namespace PdfVerif.C15cntn
open PdfVerif PdfVerif.CNT PdfVerif.C15cnt PdfVerif.C15cnto PdfVerif.C15cntm

/-- the tokens a dictionary body contributes to its frame -/
def entryData : List (Bytes × Obj) → List Obj
  | [] => []
  | (k, v) :: rest =>
    match v with
    | .null => entryData rest
    | v => .name k :: normA v :: entryData rest

def entryCount : List (Bytes × Obj) → Nat
  | [] => 0
  | (_, v) :: rest =>
    match v with
    | .null => entryCount rest
    | _ => entryCount rest + 1

theorem entryData_length (kv : List (Bytes × Obj)) : (entryData kv).length = 2 * entryCount kv := by
  induction kv with
  | nil => rfl
  | cons e rest ih =>
    obtain ⟨k, v⟩ := e
    by_cases hv : v = .null
    · subst hv; exact ih
    · simp only [entryData, entryCount, List.length_cons, ih]
      omega

/-- entries of a dictionary operand covered here: keys any bytes below the name cap, values flat -/
def EntriesOk (kv : List (Bytes × Obj)) : Prop :=
  ∀ e ∈ kv, AllBytes e.1 ∧ e.1.length ≤ Gen.content_maxNameBytes ∧ FlatOk e.2

theorem canonList_flat (xs : List Obj) (h : ∀ x ∈ xs, FlatOk x) : canonList xs = xs :=
  (C01L.canonList_eq_map xs).trans
    ((List.map_congr_left fun x hx => canon_flat x (h x hx)).trans (List.map_id' xs))

theorem canonKV_flat (kv : List (Bytes × Obj)) (h : EntriesOk kv) : canonKV kv = kv :=
  (C01L.canonKV_eq_map kv).trans
    ((List.map_congr_left fun e he => by rw [canon_flat e.2 (h e he).2.2]).trans (List.map_id' kv))

theorem normDL_flat (xs : List Obj) (h : ∀ x ∈ xs, FlatOk x) : normDL xs = xs.map normA := by
  induction xs with
  | nil => rfl
  | cons x xs ih =>
    simp [normDL, normD_flat x (h x (by simp)), ih (fun y hy => h y (by simp [hy]))]

theorem depthL_flat (xs : List Obj) (h : ∀ x ∈ xs, FlatOk x) : depthL xs = 0 :=
  Nat.le_zero.mp ((depthL_le xs 0).mpr fun x hx => Nat.le_of_eq (depthO_flat x (h x hx)))

theorem dataKV_flat (kv : List (Bytes × Obj)) (h : EntriesOk kv) : dataKV kv = entryData kv := by
  induction kv with
  | nil => rfl
  | cons e rest ih =>
    obtain ⟨k, v⟩ := e
    have hv := normD_flat v (h (k, v) (by simp)).2.2
    have := ih (fun e he => h e (by simp [he]))
    cases v <;> simp_all [dataKV, entryData]

theorem depthKV_flat (kv : List (Bytes × Obj)) (h : EntriesOk kv) : depthKV kv = 0 :=
  Nat.le_zero.mp ((depthKV_le kv 0).mpr fun e he => Nat.le_of_eq (depthO_flat e.2 (h e he).2.2))

/-- operands covered: flat operands, arrays of flat operands, dictionaries with flat values -/
inductive Arg1 : Obj → Prop
  | flat (a : Obj) (h : FlatOk a) : Arg1 a
  | arr (xs : List Obj) (h : ∀ x ∈ xs, FlatOk x) (hlen : xs.length ≤ Gen.content_maxArrayLen) : Arg1 (.arr xs)
  | dict (kv : List (Bytes × Obj)) (h : EntriesOk kv)
      (hlen : entryCount (sortedEntries kv) ≤ Gen.content_maxDictLen) : Arg1 (.dict kv)

/-- the operand as the scanner returns it: arrays element-wise, dictionaries in written
(`SortedKeys`) order without their null entries -/
def norm1 : Obj → Obj
  | .arr xs => .arr (xs.map normA)
  | .dict kv => .dict (mkDict (entryData (sortedEntries kv)) [])
  | o => normA o

theorem argD_arg1 (a : Obj) (h : Arg1 a) : ArgD a ∧ normD a.canon = norm1 a := by
  cases h with
  | flat a hf =>
    refine ⟨argD_flat a hf, ?_⟩
    rw [canon_flat a hf, normD_flat a hf]
    cases a <;> first | rfl | exact absurd hf (by simp [FlatOk])
  | arr xs hx hlen =>
    have hg := goodO_arr xs (fun x h => goodO_flat x (hx x h)) hlen
    simp only [ArgD, C01L.canon_arr, canonList_flat xs hx, depthO, depthL_flat xs hx, normD, normDL_flat xs hx, norm1]
    exact ⟨⟨hg, by decide⟩, trivial⟩
  | dict kv hk hlen =>
    have hok : EntriesOk (sortedEntries kv) := fun e he => hk e ((sortedEntries_perm kv).mem_iff.mp he)
    have hg := goodO_dict (sortedEntries kv)
      (fun e he => ⟨(hok e he).1, (hok e he).2.1, goodO_flat _ (hok e he).2.2⟩)
      (by rw [dataKV_flat _ hok, entryData_length]; omega)
    simp only [ArgD, C01L.canon_dict, canonKV_flat kv hk, depthO, depthKV_flat _ hok, normD, dataKV_flat _ hok, norm1]
    exact ⟨⟨hg, by decide⟩, trivial⟩

/-- operators with operands of nesting depth ≤ 1 -/
structure Op1 (op : Bytes × List Obj) : Prop where
  name : OpNameOk op.1
  args : ∀ a ∈ op.2, Arg1 a
  count : op.2.length < Gen.content_maxOperatorArgs

theorem op1_step (op : Bytes × List Obj) (h : Op1 op) (b : Bytes) (hb : fmtOp op.1 op.2 = some b) :
    OpStep b (op.1, op.2.map norm1) := by
  have := opD_step op ⟨h.name, fun a ha => (argD_arg1 a (h.args a ha)).1, h.count⟩ b hb
  rwa [List.map_congr_left fun a ha => (argD_arg1 a (h.args a ha)).2] at this

/-- operators covered here: operands of depth ≤ 1, and comments -/
def OpOkN (op : Bytes × List Obj) : Prop := Op1 op ∨ OpOk op

open Classical in
/-- the operator as the scanner returns it; the case distinction is classical because `Op1` (through
`FlatOk`'s `RegTok`) is a proposition without a decision procedure here -/
noncomputable def normOpN (op : Bytes × List Obj) : Bytes × List Obj :=
  if Op1 op then (op.1, op.2.map norm1) else normOp op

theorem opOkN_step (op : Bytes × List Obj) (h : OpOkN op) (b : Bytes) (hb : fmtOp op.1 op.2 = some b) :
    OpStep b (normOpN op) := by
  by_cases h1 : Op1 op
  · simpa [normOpN, h1] using op1_step op h1 b hb
  · rcases h with h | h
    · exact absurd h h1
    · simpa [normOpN, h1] using opOk_step op h b hb

/-- `ops_rt` for sequences of operators with admissible names whose operands are flat operands,
arrays of flat operands or dictionaries of flat values, and of comments: the scanner reads back
what the content writer wrote (subsumed by `C15cnti.ops_rt_deep`). -/
theorem ops_rt (ops : List (Bytes × List Obj)) (hall : ∀ op ∈ ops, OpOkN op) (bs : Bytes)
    (hb : fmtOps ops = some bs) : scan bs = some (ops.map normOpN) :=
  scan_ops OpOkN normOpN opOkN_step ops bs hall hb

/-- `split_rt`: the same sequence split at operator boundaries into any number of content
streams (joined by newlines as `page.SegmentsReader` does) reads as the unsplit stream. -/
theorem split_rt (segs : List (List (Bytes × List Obj))) (hall : ∀ seg ∈ segs, ∀ op ∈ seg, OpOkN op)
    (bss : List Bytes) (hb : segs.mapM fmtOps = some bss) (whole : Bytes) (hw : fmtOps segs.flatten = some whole) :
    scan (joinSegments bss) = scan whole ∧ scan whole = some (segs.flatten.map normOpN) :=
  scan_split OpOkN normOpN opOkN_step segs hall bss hb whole hw

end PdfVerif.C15cntn
