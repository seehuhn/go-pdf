import PdfVerif.Lemmas.C01Canon
import PdfVerif.Lemmas.C01Fmt
/-!
# C01 (part c) — flat sequences: `needSep` threading and the `a b R` look-ahead

For every list of scalar objects (null, nil array, booleans, int64 integers, real tokens, names,
strings, references) and both values of `OptPretty`: the array `[` ++ `Format(opt, objs…)` ++ `]`
is read back element by element.  In particular no two tokens ever merge (`adjacent_sep`) and
two integers are never followed by something parsed as `R` unless a reference was written.
-/
namespace PdfVerif.C01c
open PdfVerif PdfVerif.C01b PdfVerif.C01L

def isFlat (o : Obj) : Bool := isScalar o || isRefObj o

theorem canon_flat (o : Obj) (h : isFlat o = true) : o.canon = o := by
  cases o <;> first | rfl | cases h

theorem canonList_flat (xs : List Obj) (h : ∀ x ∈ xs, isFlat x = true) : canonList xs = xs := by
  induction xs with
  | nil => rfl
  | cons x xs ih =>
    rw [canonList_cons, canon_flat x (h x List.mem_cons_self), ih (fun y hy => h y (List.mem_cons_of_mem _ hy))]

theorem depth_flat (o : Obj) (h : isFlat o = true) : depthOf o = 0 := by
  cases o <;> first | rfl | cases h

theorem depthList_flat (xs : List Obj) (h : ∀ x ∈ xs, isFlat x = true) : depthList xs = 0 :=
  Nat.le_zero.mp ((depthList_le xs 0).mpr fun x hx => Nat.le_of_eq (depth_flat x (h x hx)))

/-- the scanner's nesting limit leaves room for one array -/
theorem nest_room : 1 ≤ Gen.scanner_maxScannerNestDepth := by decide

/-- **Flat sequences.**  For every list `xs` of scalar objects and references within the size
limits, with and without `OptPretty`, at any nesting depth below the limit and followed by anything:
`[` ++ `Format(opt, xs…)` ++ `]` is read back as the array of the values `rd x`.  The length hypothesis
is the documented cap alone: a trailing reference may occupy one transient extra element (two
integers until `R` collapses them), the cap is enforced at the closing bracket. -/
theorem flat_seq_rt (opt : FmtOpt) (xs : List Obj) (hflat : ∀ x ∈ xs, isFlat x = true)
    (hg : goodList xs = true) (hlen : xs.length ≤ Gen.scanner_maxArrayLen)
    (body : Bytes) (hf : format opt xs = some body) (rest : Bytes)
    (d : Nat) (hd : d < Gen.scanner_maxScannerNestDepth)
    (fuel : Nat) (hfuel : fuel ≥ 3 * (91 :: (body ++ 93 :: rest)).length + 3) :
    readObject fuel d (91 :: (body ++ 93 :: rest)) = .ok (.arr (rdList xs), rest) := by
  have hgood : good (.arr xs) = true := good_arr.mpr ⟨hg, hlen⟩
  rw [format_eq, canonList_flat xs hflat] at hf
  exact arr_read opt xs hgood d (by rw [depthOf_arr, depthList_flat xs hflat]; omega) body hf rest fuel hfuel

/-- the same through `parseObject` (a fresh scanner at nesting depth 0) -/
theorem flat_array_rt (opt : FmtOpt) (xs : List Obj) (hflat : ∀ x ∈ xs, isFlat x = true)
    (hg : goodList xs = true) (hlen : xs.length ≤ Gen.scanner_maxArrayLen)
    (body : Bytes) (hf : format opt xs = some body) (rest : Bytes) :
    parseObject (91 :: (body ++ 93 :: rest)) = .ok (.arr (rdList xs), rest) := by
  unfold parseObject
  exact flat_seq_rt opt xs hflat hg hlen body hf rest 0 (by have := nest_room; omega) _ (scanFuel_ge _)

/-- **Adjacent tokens never merge**: any two flat objects written one after the other by one `Format`
call are read back as exactly those two values, for either value of `OptPretty`. -/
theorem adjacent_sep (opt : FmtOpt) (a b : Obj) (ha : isFlat a = true) (hb : isFlat b = true)
    (hga : good a = true) (hgb : good b = true)
    (body : Bytes) (hf : format opt [a, b] = some body) (rest : Bytes) :
    parseObject (91 :: (body ++ 93 :: rest)) = .ok (.arr [rd a, rd b], rest) := by
  have h2 : 2 ≤ Gen.scanner_maxArrayLen := by decide
  have := flat_array_rt opt [a, b] (by simp [ha, hb]) (goodList_cons.mpr ⟨hga, goodList_cons.mpr ⟨hgb, rfl⟩⟩)
    (by simpa using h2) body hf rest
  exact this

/-- formatting a flat list never fails (so the theorems above are not vacuous) -/
theorem format_flat_some (opt : FmtOpt) (xs : List Obj) (hflat : ∀ x ∈ xs, isFlat x = true)
    (hg : goodList xs = true) : ∃ body, format opt xs = some body := by
  rw [format_eq, canonList_flat xs hflat]
  obtain ⟨hp, hq⟩ := fmtSeq_some opt xs hg
  cases opt.pretty
  · simpa using hp false
  · simpa using hq true

/-- **Reference inside an array**: for every object number below
`maxXRefSize` (2^24) and generation up to `maxGeneration` (2^16-1), `[n g R]` is read back as the
one-element array holding that reference — two integers followed by `R` with `integersSeen ≥ 2`. -/
theorem ref_rt_array (opt : FmtOpt) (n g : Nat) (hn : n < Gen.xref_maxXRefSize)
    (hgen : g ≤ Gen.xref_maxGeneration) (rest : Bytes) :
    ∃ body, format opt [.ref n g] = some body ∧
      parseObject (91 :: (body ++ 93 :: rest)) = .ok (.arr [.ref n g], rest) := by
  have hfl : ∀ x ∈ [Obj.ref n g], isFlat x = true := by simp [isFlat, isRefObj]
  have hg : goodList [Obj.ref n g] = true := goodList_cons.mpr ⟨good_ref.mpr ⟨hn, hgen⟩, rfl⟩
  obtain ⟨body, hb⟩ := format_flat_some opt _ hfl hg
  have h2 : 1 ≤ Gen.scanner_maxArrayLen := by decide
  exact ⟨body, hb, flat_array_rt opt _ hfl hg (by simpa using h2) body hb rest⟩

/-! non-vacuity: a list with every kind of scalar, the `1 2 /R` and `1 2 3 R`-like neighbours -/
def sample : List Obj :=
  [.int 1, .int 2, .name [82], .int 3, .ref 4 5, .real [49], .int (-6), .str [40, 13], .null,
   .bool true, .nilArr, .name [], .name [65, 32], .int 7, .ref 16777215 65535]

example : (∀ x ∈ sample, isFlat x = true) ∧ goodList sample = true := by decide +kernel

example : (match format ⟨false, false⟩ sample with
    | some body => (match parseObject (91 :: (body ++ 93 :: [32])) with
      | .ok (.arr ys, r) => ys.length == 15 && r == [32] | _ => false)
    | none => false) = true := by decide +kernel

end PdfVerif.C01c
