import PdfVerif.Lemmas.CONCExcl
import PdfVerif.Model.CONCProg
/-!
# C18 — the hand-over protocol of `DecodeExclusive` (property `exclusive_once`), and the inventories

Over all traces (any threads, any programs, arbitrary decode functions, panics included):
while a key is registered in `wip` exactly one frame in the whole system owns its pending
(`exclusive_single_owner`), callers which arrive meanwhile wait (`arrival_waits`,
`waiter_blocked_until_close`) and every call that returns through a pending — the owner and all
its waiters — returns the one outcome written into it (`exclusive_outcome_shared`), which is
written before `done` is closed (`done_has_outcome`).

The second half of the file evaluates the reviewed inventories of `Model/CONCProg.lean` (lock
discipline, package-level caches, pools, `append` on shared slices, closing order of filter layers).
-/
namespace PdfVerif.C18concX
open PdfVerif PdfVerif.CONC

theorem xinv_reachable (cfg : Cfg) (ls : List Label) (s : State)
    (h : run cfg State.init ls = some s) : XInv s :=
  (reachable_inv cfg (fun _ _ => True) (fun _ => True) trivial (fun _ _ _ _ _ _ _ _ => trivial) ls s
    (guardedRun_of_forall cfg ls _ fun _ _ => trivial) h).1

/-- the key for which a frame is the registered owner (its `wip` entry still exists) -/
def ownerKey : Frame → Option Key
  | .exStart k _ _ => some k
  | .exRun k _ => some k
  | .exPub k _ _ => some k
  | _ => none

theorem ownerKey_eq : ownerKey = wkey := rfl

theorem owner_frames_le_one {k : Key} {p : Pid} : ∀ (stk : List Frame), (owned stk).Nodup →
    (∀ f ∈ stk, ownerKey f = some k → owns f = some p) →
    (stk.filter (fun f => ownerKey f == some k)).length ≤ 1
  | [], _, _ => by simp
  | f :: rest, hn, hp => by
    have hrest := owner_frames_le_one rest
      (hn.sublist ((List.sublist_cons_self f rest).filterMap owns))
      (fun g hg => hp g (List.mem_cons_of_mem _ hg))
    by_cases hk : ownerKey f = some k
    · have ho := hp f (by simp) hk
      rw [owned_cons_some _ ho] at hn
      have hnot : ∀ g ∈ rest, ¬ ownerKey g = some k := by
        intro g hg hgk
        exact (List.nodup_cons.mp hn).1 (mem_owned hg (hp g (List.mem_cons_of_mem _ hg) hgk))
      have : rest.filter (fun f => ownerKey f == some k) = [] := by
        apply List.filter_eq_nil_iff.mpr
        intro g hg; simpa using hnot g hg
      simp [hk, this]
    · simp [hk]; exact hrest

/-- `exclusive_once` (1): in every reachable state, for every key, no thread holds more than one
registered-owner frame of `DecodeExclusive` for that key, and no two threads hold one — so the decode
function of an exclusive decode runs in at most one place at a time.  (`ownerKey` is `CONC.wkey`: `ownerKey_eq`.) -/
theorem exclusive_single_owner (cfg : Cfg) (ls : List Label) (s : State)
    (h : run cfg State.init ls = some s) (k : Key) :
    (∀ t, ((s.thr t).filter (fun f => ownerKey f == some k)).length ≤ 1) ∧
    (∀ t1 t2 f1 f2, f1 ∈ s.thr t1 → f2 ∈ s.thr t2 → ownerKey f1 = some k → ownerKey f2 = some k →
      t1 = t2) := by
  have hx := xinv_reachable cfg ls s h
  constructor
  · intro t
    cases hw : s.wip k with
    | none =>
      have : (s.thr t).filter (fun f => ownerKey f == some k) = [] := by
        apply List.filter_eq_nil_iff.mpr
        intro f hf hk
        obtain ⟨p, _, hp⟩ := (hx.frames t f hf).holds (k := k) (ownerKey_eq ▸ (by simpa using hk : ownerKey f = some k))
        rw [hw] at hp; cases hp
      simp [this]
    | some p =>
      refine owner_frames_le_one (p := p) _ (hx.nodup t) ?_
      intro f hf hk
      obtain ⟨q, hq, hwq⟩ := (hx.frames t f hf).holds (k := k) (ownerKey_eq ▸ hk)
      rw [hw] at hwq; cases hwq; exact hq
  · intro t1 t2 f1 f2 h1 h2 k1 k2
    obtain ⟨p1, o1, w1⟩ := (hx.frames t1 f1 h1).holds (k := k) (ownerKey_eq ▸ k1)
    obtain ⟨p2, o2, w2⟩ := (hx.frames t2 f2 h2).holds (k := k) (ownerKey_eq ▸ k2)
    rw [w1] at w2; cases w2
    exact hx.disj t1 t2 p1 (mem_owned h1 o1) (mem_owned h2 o2)

/-- `exclusive_once` (2): a caller that arrives while the key is in `wip` (and not yet cached)
does not run its function; it becomes a waiter on the registered pending. -/
theorem arrival_waits (cfg : Cfg) (s : State) (t : Tid) (r : Ref) (tp : Ty) (path : List Ref) (p : Pid)
    (hc : canCall (s.thr t) = true) (hcache : s.cache (r, tp) = none) (hw : s.wip (r, tp) = some p) :
    ∃ s', step cfg s t (.callExcl (.ref r) tp path) = some s' ∧
      s'.thr t = .exWait (r, tp) p :: s.thr t ∧ s'.hist = s.hist := by
  refine ⟨{ s with thr := upd s.thr t (.exWait (r, tp) p :: s.thr t) }, ?_, by simp, rfl⟩
  simp [step, hc, exclCall, hcache, hw]

/-- `exclusive_once` (3): a waiter has no transition until the owner has closed `done`. -/
theorem waiter_blocked_until_close (cfg : Cfg) (s : State) (t : Tid) (k : Key) (p : Pid)
    (rest : List Frame) (e : s.thr t = .exWait k p :: rest) (hd : (s.pend p).done = false) (a : Act) :
    step cfg s t a = none := by
  cases a <;> simp [step, e, canCall, hd]

/-- `exclusive_once` (4): every `DecodeExclusive` that returned through pending `p` without
panicking — the owner and each waiter — returned the same outcome (value or error). -/
theorem exclusive_outcome_shared (cfg : Cfg) (ls : List Label) (s : State)
    (h : run cfg State.init ls = some s) (p : Pid)
    (t t' : Tid) (o o' : Obj) (tp tp' : Ty) (res res' : Res)
    (he : .exc t o tp res (some p) ∈ s.hist) (he' : .exc t' o' tp' res' (some p) ∈ s.hist)
    (hn : res ≠ .panic) (hn' : res' ≠ .panic) : res = res' := by
  have hx := xinv_reachable cfg ls s h
  have h1 := (hx.hist _ he).2 hn
  have h2 := (hx.hist _ he').2 hn'
  rw [h1] at h2; cases h2; rfl

/-- the outcome is written before `done` is closed: a woken waiter never reads an unwritten
`p.val` / `p.err` -/
theorem done_has_outcome (cfg : Cfg) (ls : List Label) (s : State)
    (h : run cfg State.init ls = some s) (p : Pid) (hd : (s.pend p).done = true) :
    (s.pend p).out ≠ none :=
  (xinv_reachable cfg ls s h).doneOut p hd

/-- non-vacuity: thread 0 owns `(r1, type 0)`, thread 1 arrives and waits, the owner's function
fails with error 3, both return that error through pending 0. -/
example :
    let cfg : Cfg := ⟨fun _ => .direct, true⟩
    let ls : List Label :=
      [(0, .callExcl (.ref 1) 0 []), (1, .callExcl (.ref 1) 0 []), (0, .go), (0, .go),
       (0, .fnRet (.err (.fn 3))), (0, .go), (0, .go), (0, .go), (1, .go)]
    (run cfg State.init ls).map (fun s => s.hist.take 2)
      = some [.exc 1 (.ref 1) 0 (.err (.fn 3)) (some 0), .exc 0 (.ref 1) 0 (.err (.fn 3)) (some 0)] := by
  decide +kernel

/-- tie (a3): every access to `cache` / `wip` which the model treats as part of an atomic section
is inside the lock — over the inventory that is compared, line by line, with the one re-extracted
from resource.go and cursor.go on every run (only `NewExtractor`, which runs before the
Extractor is shared, touches the maps unlocked). -/
theorem inventory_all_locked :
    ∀ e ∈ lockInventory, e.1 ≠ "NewExtractor" → e.2.2.2 = true := by decide +kernel

/-- package-level state ("independent Readers and Writers do not interfere"): every access to a
mutex-guarded package-level cache in the reviewed inventory — which is compared with the one
re-extracted from font/cmap and font/mapping on every run — holds the mutex (directly, or because
every caller of the unexported helper does). -/
theorem pkg_inventory_all_guarded :
    ∀ e ∈ pkgInventory, e.2.2.2.2 = "locked" ∨ e.2.2.2.2 = "caller" ∨ e.2.2.2.2 = "init" ∨ e.2.2.2.2 = "once" := by
  decide +kernel

/-- pooled package-level objects: in the reviewed `sync.Pool` inventory — compared with the one
re-extracted from the sources on every run — (1) no function puts an object into a pool twice on one
path, (2) every Put is reached only when the preceding `Close` of the pooled object succeeded
(`!(err!=nil)` among its conditions, i.e. not on an error branch) and only when the `closed` flag was
not yet set, and (3) every Put site — all of them sit in Close-like functions, which a caller may run
twice — is protected by a persisting `closed` flag (the guard is `flag:r.closed`, a field of the
pointer receiver, or `flag:closed`, a variable captured by the closure; `none` or
`flag-on-value-receiver:…` would be C18-F3 again). -/
theorem pool_inventory_put_once :
    ∀ e ∈ poolInventory, e.2.2.2.2.2.1 ≤ 1 ∧
      (e.2.2.1 = "put" →
        (e.2.2.2.2.2.2.1 = "!(err!=nil)&!(r.closed)" ∨ e.2.2.2.2.2.2.1 = "!(closed)&!(err!=nil)&!isLZW") ∧
        (e.2.2.2.2.2.2.2 = "flag:r.closed" ∨ e.2.2.2.2.2.2.2 = "flag:closed")) := by
  decide +kernel

/-- shared slices are never used as scratch space: in the reviewed inventory of `append` calls on
struct fields and package-level slices of the anchored files — compared with the one re-extracted
from the sources on every run — every result is assigned back to the very field it was appended to
(growth of the owner's own slice), none is a temporary built on a shared backing array (the
`md5.Sum(append(sec.key, …))` pattern), and no read path (`Get`, `KeyForRef`, `DecodeStream`,
`Decode`) appears at all. -/
theorem append_inventory_assigned_back :
    ∀ e ∈ appendInventory, e.2.2.2.2 = "back" ∧
      (e.2.1 = "NewReader" ∨ e.2.1 = "(*EmbedHelper).Defer" ∨ e.2.1 = "(*EmbedHelper).EmbedAt" ∨
        e.2.1 = "(*ResourceManager).StoreDeferred") := by
  decide +kernel

/-- the filter layers of a decoded stream are closed outermost first: a layer which runs a
goroutine reading from the layers below (DCTDecode) is closed — and its goroutine waited for —
before the pooled zlib reader below it goes back into the package-level pool.  `"inner-first"`: the field
`s.inner`, which is the outermost layer, is closed before the loop over `s.lower`.  Over the reviewed
fact which is compared with container.go on every run. -/
theorem close_order_outermost_first :
    ∀ e ∈ closeOrder, e.2.2 = "lower-decreasing" ∧ (e.2.1 = "inner-first" ∨ e.2.1 = "") := by
  decide +kernel

end PdfVerif.C18concX
