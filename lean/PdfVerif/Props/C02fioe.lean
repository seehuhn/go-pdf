import PdfVerif.Props.C02fiod
/-!
# C02 (work package FIO) — the writer's document layer, the table reader, `file_rt_table_partial`

Writer side, for every output form (what the later C02 files and C03fio import this file for):
`DocAt`, `Grow` — a plain object that reached the file (ghost field `WState.doc`) stays where its
entry points — along `C02fiob.Reach` (`Reach.grow`); what `Close` appends in table form
(`close_table_layout`, `table_entries`); a state of a program (`run_facts`).
Reader side: the last `startxref` leads to the table, the subsections yield the writer's map
(`openTableXRef_close`), `readerGet` returns the object written at an entry (`DocAt.get_rt`).
-/
namespace PdfVerif.C02fioe
open PdfVerif PdfVerif.FIO PdfVerif.C02fio PdfVerif.C02fiob PdfVerif.C02fioc PdfVerif.C02fiod
open PdfVerif.C01b PdfVerif.C01L PdfVerif.C01d

theorem firstIdx_skip (pat : Bytes) (p0 : Nat) (ps : Bytes) (hpat : pat = p0 :: ps) (a : Bytes) :
    ∀ (b : Bytes) (i : Nat), (∀ c ∈ a, c ≠ p0) →
      firstIdx pat (a ++ b) i = firstIdx pat b (i + a.length) := by
  induction a with
  | nil => intro b i _; simp
  | cons x xs ih =>
    intro b i h
    have hx : x ≠ p0 := h x (by simp)
    have hb : (p0 == x) = false := by simp; exact fun h => hx h.symm
    simp only [List.cons_append, firstIdx, hpat, isPrefixOf, hb, Bool.false_and, Bool.false_eq_true, ↓reduceIte]
    rw [← hpat, ih b (i + 1) (fun c hc => h c (by simp [hc]))]
    congr 1; simp; omega

theorem firstIdx_self (pat rest : Bytes) (i : Nat) (hne : pat ≠ []) : firstIdx pat (pat ++ rest) i = some i := by
  cases hk : pat ++ rest with
  | nil => simp [hne] at hk
  | cons c cs => rw [firstIdx, ← hk, isPrefixOf_self_append]; rfl

/-- the last occurrence of `pat` is the one behind which the last byte of `pat` does not occur -/
theorem lastOccurrence_append (pat pre tail : Bytes) (p0 : Nat) (ps : Bytes) (hpat : pat.reverse = p0 :: ps)
    (hno : ∀ c ∈ tail, c ≠ p0) : lastOccurrence pat (pre ++ pat ++ tail) = some pre.length := by
  unfold lastOccurrence
  rw [show (pre ++ pat ++ tail).reverse = tail.reverse ++ (pat.reverse ++ pre.reverse) by simp,
    firstIdx_skip pat.reverse p0 ps hpat _ _ 0 (by simpa using hno),
    firstIdx_self _ _ _ (by rw [hpat]; exact List.cons_ne_nil _ _)]
  simp only [Option.map_some, List.length_append, List.length_reverse, Option.some.injEq]
  omega

/-- the last `startxref` of a file that ends as `Close` ends it is that of `Close`: neither the
    digits nor `%%EOF` contain an `f` -/
theorem lastOccurrence_tail (pre : Bytes) (p : Nat) (hp : p < 10 ^ 19) :
    lastOccurrence kwStartxrefR (pre ++ [10] ++ kStartxref ++ decOf p ++ kEOF) = some (pre.length + 1) := by
  obtain ⟨hall, _, _, _⟩ := decOf_spec p 19 hp (by omega)
  have := lastOccurrence_append kwStartxrefR (pre ++ [10]) (10 :: (decOf p ++ kEOF)) 102
    [101, 114, 120, 116, 114, 97, 116, 115] rfl (by
      intro c hc
      simp only [List.mem_cons, List.mem_append] at hc
      rcases hc with rfl | hc | hc
      · omega
      · have := List.all_eq_true.1 hall c hc
        simp [isDigit] at this; omega
      · simp [kEOF] at hc; omega)
  simpa [C02fioc.kStartxref_eq] using this

theorem findXRef_tail (pre : Bytes) (p : Nat) (hp0 : 0 < p)
    (hp : p < (pre ++ [10] ++ kStartxref ++ decOf p ++ kEOF).length) (hp63 : p ≤ 9223372036854775807) :
    findXRef (pre ++ [10] ++ kStartxref ++ decOf p ++ kEOF) 0 = .ok p := by
  have hdrop : (pre ++ [10] ++ kStartxref ++ decOf p ++ kEOF).drop (pre.length + 1 + 9)
      = 10 :: (decOf p ++ kEOF) := by
    have : pre ++ [10] ++ kStartxref ++ decOf p ++ kEOF = (pre ++ [10] ++ kwStartxrefR) ++ (10 :: (decOf p ++ kEOF)) := by
      simp [C02fioc.kStartxref_eq]
    rw [this, List.drop_left' (by simp [kwStartxrefR])]
  have hri : readIntegerE (10 :: (decOf p ++ kEOF)) = .ok ((p : Int), kEOF) := by
    rw [readIntegerE_ws 10 (.inr rfl)]
    exact readIntegerE_decOf p hp63 kEOF (by simp [kEOF, NumEnd, isDigit])
  have hlo := lastOccurrence_tail pre p (by omega)
  generalize pre ++ [10] ++ kStartxref ++ decOf p ++ kEOF = file at hp hdrop hlo
  unfold findXRef
  rw [hlo]
  simp only [hdrop, hri]
  have hc : (decide ((p : Int) ≤ 0) || decide ((p : Int) ≥ (file.length : Int) - ((0 : Nat) : Int))) = false := by
    simp; omega
  simp only [hc, Bool.false_eq_true, ↓reduceIte, Int.toNat_natCast, Nat.add_zero]


theorem i64_small (n : Nat) (h : n < 9223372036854775808) : i64 (n : Int) = (n : Int) := by
  unfold i64 two63 two64
  rw [Int.emod_eq_of_lt (by omega) (by omega)]
  omega

theorem u32_small (n : Nat) (h : n < 4294967296) : u32 (n : Int) = n := by
  unfold u32 two32
  rw [Int.emod_eq_of_lt (by omega) (by omega)]
  simp

theorem xrefLines_head (m : XMap) (i k : Nat)
    (h : ∀ x, m.get i = some x → x.pos < 10000000000 ∧ x.gen ≤ 65535) (rest : Bytes) :
    ∃ c t, xrefLines m i (k + 1) ++ rest = c :: t ∧ isDigit c = true := by
  have key : ∀ p g c', ∃ c t, tabLine p g c' ++ (xrefLines m (i + 1) k ++ rest) = c :: t ∧ isDigit c = true := by
    intro p g c'
    have hd := fixDec_digits 10 p
    cases hf : fixDec 10 p with
    | nil => exact absurd hf (fixDec_ne_nil 10 p (by decide))
    | cons d ds =>
      rw [hf] at hd
      refine ⟨d, ds ++ ([32] ++ fixDec 5 g ++ [32, c', 13, 10] ++ (xrefLines m (i + 1) k ++ rest)), ?_, ?_⟩
      · simp [tabLine, hf]
      · simp at hd; exact hd.1
  simp only [xrefLines, List.append_assoc]
  cases hg : m.get i with
  | none => rw [xrefLine_eq none (by simp)]; exact key _ _ _
  | some x =>
    rw [xrefLine_eq (some x) (by intro y hy; cases hy; exact h x hg)]
    simp only; split <;> exact key _ _ _

theorem subsections_step (fuel : Nat) (m : XMap) (c : Nat) (t : Bytes) (start length : Int)
    (r1 r2 r3 r4 r5 : Bytes) (m' : XMap) (hd : isDigit c = true)
    (e1 : readIntegerE (c :: t) = .ok (start, r1)) (e2 : readIntegerE r1 = .ok (length, r2))
    (hchk : (decide (start < 0) || decide (length < 0) || decide (start ≥ (Gen.fio_maxXRefSize : Nat)) ||
      decide (i64 (start + length) > (Gen.fio_maxXRefSize : Nat))) = false)
    (e3 : skipWS r2 = (r3, false))
    (hdec : decodeXRefSection (u32 start) m r3 (u32 start) 0 (u32 (i64 (start + length)) - u32 start) = .ok (m', r4))
    (e5 : skipWS r4 = (r5, false)) :
    readXRefSubsections (fuel + 1) m (c :: t) = readXRefSubsections fuel m' r5 := by
  rw [readXRefSubsections]
  simp only [hd, Bool.not_true, Bool.false_eq_true, ↓reduceIte, e1, e2, hchk, e3, hdec, e5]

theorem subsections_stop (fuel : Nat) (m : XMap) (c : Nat) (t : Bytes) (hd : isDigit c = false) :
    readXRefSubsections (fuel + 1) m (c :: t) = .ok (m, c :: t) := by
  rw [readXRefSubsections]
  simp [hd]

theorem readXRefSubsections_table (m : XMap) (n : Nat) (tail : Bytes) (fuel : Nat) (hfuel : 2 ≤ fuel)
    (hn : n ≤ Gen.fio_maxXRefSize)
    (hok : ∀ j, j < n → ∀ x, m.get j = some x → x.pos < 10000000000 ∧ x.gen ≤ 65535) :
    ∃ m', readXRefSubsections fuel []
        ([48, 32] ++ decOf n ++ [10] ++ xrefLines m 0 n ++ (kwTrailer ++ tail)) = .ok (m', kwTrailer ++ tail) ∧
      (∀ j, j < n → m'.get j = some (normTab (m.get j))) ∧ (∀ j, n ≤ j → m'.get j = none) := by
  obtain ⟨m', hdec, h1, h2⟩ := xref_table_rt m n (kwTrailer ++ tail) hok
  refine ⟨m', ?_, h1, h2⟩
  obtain ⟨f, rfl⟩ : ∃ f, fuel = f + 2 := ⟨fuel - 2, by omega⟩
  have hn' : n < 4294967296 := by simp [Gen.fio_maxXRefSize] at hn; omega
  have ht : skipWS (kwTrailer ++ tail) = (kwTrailer ++ tail, false) :=
    skipWS_cons_stop (by decide +kernel) (by omega) _
  -- the lines start with a digit, or there are none and `trailer` follows
  have hX : skipWS (xrefLines m 0 n ++ (kwTrailer ++ tail)) = (xrefLines m 0 n ++ (kwTrailer ++ tail), false) := by
    cases n with
    | zero => simpa [xrefLines] using ht
    | succ k =>
      obtain ⟨c, t, hct, hc⟩ := xrefLines_head m 0 k (hok 0 (by omega)) (kwTrailer ++ tail)
      rw [hct]
      exact skipWS_cons_stop (digit_facts' hc).1 (digit_facts' hc).2.1 t
  rw [show [48, 32] ++ decOf n ++ [10] ++ xrefLines m 0 n ++ (kwTrailer ++ tail)
      = 48 :: 32 :: (decOf n ++ 10 :: (xrefLines m 0 n ++ (kwTrailer ++ tail))) by simp]
  generalize xrefLines m 0 n ++ (kwTrailer ++ tail) = X at hdec hX ⊢
  have e1 : readIntegerE (48 :: 32 :: (decOf n ++ 10 :: X)) = .ok ((0 : Int), 32 :: (decOf n ++ 10 :: X)) :=
    readIntegerE_decOf 0 (by omega) (32 :: (decOf n ++ 10 :: X)) (by simp [NumEnd, isDigit])
  have e2 : readIntegerE (32 :: (decOf n ++ 10 :: X)) = .ok ((n : Int), 10 :: X) := by
    rw [readIntegerE_ws 32 (.inl rfl)]
    exact readIntegerE_decOf n (by omega) _ (by simp [NumEnd, isDigit])
  have hi : i64 ((0 : Int) + (n : Int)) = n := by rw [Int.zero_add]; exact i64_small n (by omega)
  rw [subsections_step (f + 1) [] 48 _ 0 n _ _ _ _ _ m' (by decide) e1 e2
    (by rw [hi]; simp [Gen.fio_maxXRefSize] at hn ⊢; omega)
    (by rw [skipWS_lf]; exact hX)
    (by rw [hi, show u32 (0 : Int) = 0 from u32_small 0 (by omega), u32_small n hn']; exact hdec) ht]
  exact subsections_stop f m' 116 _ (by decide)

/-- the reader's way to the table of a single-section file: `%PDF-`, the last `startxref`, the
    `xref` keyword and the subsections (`openTable` continues with the trailer dictionary) -/
def openTableXRef (file : Bytes) : Except Err (XMap × Bytes) :=
  match findHeaderOffset file with
  | none => .error .malformed
  | some hdrOff =>
    match findXRef file hdrOff with
    | .error e => .error e
    | .ok start =>
      let sec := file.drop start
      if !isPrefixOf kwXref sec then .error .other else
      match skipWS (sec.drop 4) with
      | (_, true) => .error .eof
      | (r0, false) => readXRefSubsections (r0.length + 1) [] r0

theorem findHeaderOffset_zero (rest : Bytes) : findHeaderOffset (kPdf ++ rest) = some 0 := by
  unfold findHeaderOffset
  have : (kPdf ++ rest).take 1024 = 37 :: ([80, 68, 70, 45] ++ rest.take 1019) := by
    simp [kPdf]
  rw [this]
  simp [firstIdx, kwPdfR, isPrefixOf]

/-- the reader's way through a file of which three things are known: it starts with `%PDF-`, it
    ends with `startxref`, the offset `p` and `%%EOF`, and at `p` stands a one-section table -/
theorem openTableXRef_of_parts (file rest pre T : Bytes) (p n : Nat) (x : XMap)
    (hhdr : file = kPdf ++ rest) (htail : file = pre ++ [10] ++ kStartxref ++ decOf p ++ kEOF)
    (hsec : file.drop p = kwXref ++ 10 :: ([48, 32] ++ decOf n ++ [10] ++ xrefLines x 0 n ++ (kwTrailer ++ T)))
    (hp0 : 0 < p) (hp : p < file.length) (hp63 : p ≤ 9223372036854775807) (hn : n ≤ Gen.fio_maxXRefSize)
    (hok : ∀ j, j < n → ∀ e, x.get j = some e → e.pos < 10000000000 ∧ e.gen ≤ 65535) :
    ∃ m, openTableXRef file = .ok (m, kwTrailer ++ T) ∧
      (∀ j, j < n → m.get j = some (normTab (x.get j))) ∧ (∀ j, n ≤ j → m.get j = none) := by
  have hho : findHeaderOffset file = some 0 := by rw [hhdr]; exact findHeaderOffset_zero _
  have hfx : findXRef file 0 = .ok p := by
    rw [htail]; exact findXRef_tail pre p hp0 (by rw [← htail]; exact hp) hp63
  obtain ⟨m, hsub, hm1, hm2⟩ := readXRefSubsections_table x n T
    (([48, 32] ++ decOf n ++ [10] ++ xrefLines x 0 n ++ (kwTrailer ++ T)).length + 1) (by simp) hn hok
  refine ⟨m, ?_, hm1, hm2⟩
  have h48 : isSpace 48 = false := by decide +kernel
  unfold openTableXRef
  simp only [hho, hfx, hsec, isPrefixOf_self_append, Bool.not_true, Bool.false_eq_true, ↓reduceIte]
  rw [List.drop_left' (by simp [kwXref]), skipWS_lf,
    show [48, 32] ++ decOf n ++ [10] ++ xrefLines x 0 n ++ (kwTrailer ++ T)
      = 48 :: ([32] ++ decOf n ++ [10] ++ xrefLines x 0 n ++ (kwTrailer ++ T)) from rfl,
    skipWS_cons_stop h48 (by omega) _]
  exact hsub

/-- the `Root` / `Info` entry of the trailer -/
def refOfO (r : Option Nat) (k : Bytes) : List (Bytes × Obj) :=
  match r with | some n => [(k, .ref n 0)] | none => []

theorem refOfO_none (k : Bytes) : refOfO none k = [] := rfl
theorem refOfO_some (n : Nat) (k : Bytes) : refOfO (some n) k = [(k, .ref n 0)] := rfl
theorem mem_refOfO {r : Option Nat} {k : Bytes} {e : Bytes × Obj} :
    e ∈ refOfO r k ↔ ∃ n, r = some n ∧ e = (k, .ref n 0) := by cases r <;> simp [refOfO]
theorem refOfO_length_le (r : Option Nat) (k : Bytes) : (refOfO r k).length ≤ 1 := by cases r <;> simp [refOfO]
theorem keysOf_refOfO_sublist (r : Option Nat) (k : Bytes) : (keysOf (refOfO r k)).Sublist [k] := by
  cases r <;> simp [refOfO_none, refOfO_some, keysOf_nil, keysOf_cons]

/-- the trailer dictionary `Close` writes behind a cross-reference table: the entries fixed at
    `NewWriter`, `Root`, `Info` (if any) and `Size` -/
def closeTrailer (tr : List (Bytes × Obj)) (cr ir : Option Nat) (size : Nat) : List (Bytes × Obj) :=
  (tr.filter fun e => e.1 != kRoot && e.1 != kInfo && e.1 != kSize) ++ refOfO cr kRoot ++ refOfO ir kInfo ++
    [(kSize, .int size)]

/-- the plain object `x = (n, g, o)` is in the file: the entry of `n` is in use with generation
    `g`, and at its offset stand `n g obj`, the formatted object and `endobj`; the seek-back
    patch of an open stream lies behind it -/
def DocAt (s : WState) (x : Nat × Nat × Obj) : Prop :=
  ∃ e body, s.xref.get x.1 = some e ∧ e.gen = x.2.1 ∧ e.inStream = 0 ∧ 0 ≤ e.pos ∧
    wformat s.opts [x.2.2] = some body ∧
    At s.out e.pos.toNat (objHeader x.1 x.2.1 ++ body ++ kEndobj) ∧
    ∀ st p, s.stm = some st → st.patchPos = some p →
      e.pos.toNat + (objHeader x.1 x.2.1 ++ body ++ kEndobj).length ≤ p

/-- how an operation may change the state: nothing recorded is taken away (`Keeps`), bytes are only
    appended or patched at the patch position of the open stream, new patch positions lie in
    the new bytes, new document objects are in the file -/
structure Grow (s s' : WState) : Prop extends Keeps s s' where
  len : s.out.length ≤ s'.out.length
  keep : ∀ pos h, At s.out pos h →
    (∀ st p, s.stm = some st → st.patchPos = some p → pos + h.length ≤ p) → At s'.out pos h
  patch : ∀ st' p', s'.stm = some st' → st'.patchPos = some p' →
    (∃ st, s.stm = some st ∧ st.patchPos = some p') ∨ s.out.length ≤ p'
  docAt : ∀ x, x ∈ s'.doc → x ∈ s.doc ∨ DocAt s' x

theorem DocAt.grow {a b : WState} {x : Nat × Nat × Obj} (hd : DocAt a x) (hg : Grow a b) : DocAt b x := by
  obtain ⟨e, body, h1, h2, h3, h4, h5, h6, h7⟩ := hd
  refine ⟨e, body, hg.mono _ _ h1, h2, h3, h4, by rw [hg.opts]; exact h5, hg.keep _ _ h6 h7, ?_⟩
  intro st' p' hs hp
  rcases hg.patch st' p' hs hp with ⟨st, ha, hb⟩ | hle
  · exact h7 st p' ha hb
  · have := h6.end_le; omega

theorem Grow.trans {a b c : WState} (h1 : Grow a b) (h2 : Grow b c) : Grow a c := by
  refine ⟨h1.toKeeps.trans h2.toKeeps, Nat.le_trans h1.len h2.len, ?_, ?_, ?_⟩
  · intro pos h ha hb
    refine h2.keep pos h (h1.keep pos h ha hb) ?_
    intro st' p' hs hp
    rcases h1.patch st' p' hs hp with ⟨st, hx, hy⟩ | hle
    · exact hb st p' hx hy
    · have := ha.end_le; omega
  · intro st'' p'' hs hp
    rcases h2.patch st'' p'' hs hp with ⟨st', hx, hy⟩ | hle
    · exact h1.patch st' p'' hx hy
    · exact .inr (Nat.le_trans h1.len hle)
  · intro x hx
    rcases h2.docAt x hx with hb | hd
    · rcases h1.docAt x hb with ha | hd
      · exact .inl ha
      · exact .inr (hd.grow h2)
    · exact .inr hd

theorem grow_append {s s' : WState} (k : Keeps s s') (bs : Bytes) (hout : s'.out = s.out ++ bs)
    (hp : ∀ st' p', s'.stm = some st' → st'.patchPos = some p' →
      (∃ st, s.stm = some st ∧ st.patchPos = some p') ∨ s.out.length ≤ p')
    (hdoc : s'.doc = s.doc) : Grow s s' :=
  ⟨k, by rw [hout]; simp, fun pos h ha _ => by rw [hout]; exact ha.append bs, hp,
   fun x hx => .inl (by rw [← hdoc]; exact hx)⟩

theorem Grow.of_keeps {s s' : WState} (k : Keeps s s') (hout : s'.out = s.out) (hstm : s'.stm = s.stm)
    (hdoc : s'.doc = s.doc) : Grow s s' :=
  grow_append k [] (by simp [hout]) (fun st p h1 h2 => .inl ⟨st, hstm ▸ h1, h2⟩) hdoc

theorem Grow.refl (s : WState) : Grow s s := .of_keeps (.of_eq rfl rfl rfl rfl) rfl rfl rfl

theorem Grow.keep_prefix {a b : WState} (hg : Grow a b) (hs : a.stm = none) {h rest : Bytes} (ha : a.out = h ++ rest) :
    ∃ rest', b.out = h ++ rest' := by
  obtain ⟨pre, rest', h1, h2⟩ := hg.keep 0 h ⟨[], rest, by simpa using ha, rfl⟩ (fun st p hst => by rw [hs] at hst; cases hst)
  have : pre = [] := by simpa using h2
  subst this
  exact ⟨rest', by simpa using h1⟩

theorem putPlain_grow {s s' : WState} {num gen : Nat} {o : Obj} (hi : Inv s) (hs : s.stm = none)
    (h : putPlain s num gen o = .ok s') : Grow s s' := by
  have k := (Reach.plain hs h).keeps
  obtain ⟨x, n, body, hset, hb, rfl⟩ := putPlain_ok h
  obtain ⟨_, hx, _⟩ := setXRef_ok hset
  refine ⟨k, by simp [emit_out], fun pos h ha _ => ha.append _, fun st p h1 => by simp [emit_stm, hs] at h1, ?_⟩
  intro y hy
  simp only [emit_doc, List.mem_append, List.mem_singleton] at hy
  rcases hy with hy | rfl
  · exact .inl hy
  · refine .inr ⟨{ inStream := 0, pos := s.pos, gen := gen }, body, ?_, rfl, rfl, by simp, hb, ?_, ?_⟩
    · simp only [emit_xref]; rw [hx, C02fio.get_set]; simp
    · simp only [emit_out, hi.pos_eq, Int.toNat_natCast]
      have := At.here s.out (objHeader num gen ++ body ++ kEndobj) (prettyNL s.opts)
      simpa [List.append_assoc] using this
    · intro st p h1; simp [emit_stm, hs] at h1

theorem openStream_grow {s s' : WState} {num gen : Nat} {dict : List (Bytes × Obj)} {ul : Option Int}
    (h : openStream s num gen dict ul = .ok s') : Grow s s' := by
  have k := (Reach.opened h).keeps
  obtain ⟨_, x, n, _, rfl⟩ := openStream_ok h
  exact grow_append k [] (by simp) (fun st _ h1 h2 => by
    simp only [Option.some.injEq] at h1; subst h1; simp at h2) rfl

theorem streamWrite_grow {s s' : WState} {p : Bytes} (hi : Inv s) (h : streamWrite s p = .ok s') :
    Grow s s' := by
  have k := (Reach.written h).keeps
  obtain ⟨st, hs, ⟨_, rfl⟩ | ⟨_, rfl⟩ | ⟨_, s1, st1, hsw, rfl⟩⟩ := streamWrite_ok h
  · exact grow_append k p rfl (fun st' p' h1 h2 => .inl ⟨st', h1, h2⟩) rfl
  · refine grow_append k [] (by simp) (fun st' p' h1 h2 => ?_) rfl
    simp only [Option.some.injEq] at h1
    subst h1
    exact .inl ⟨st, hs, h2⟩
  · obtain ⟨n, lr, pp, value, db, off, _, _, rfl, rfl, hk⟩ := startWriting_ok hsw
    -- a patch position, if one is recorded, lies in the new bytes
    refine grow_append k (objHeader st.num st.gen ++ db ++ kStream ++ st.buf ++ p)
      (by simp [emit_out]) (fun st' p' h1 h2 => .inr ?_) rfl
    simp only [emit_stm, Option.some.injEq] at h1
    subst h1
    rcases hk with ⟨_, _, _, rfl, _⟩ | ⟨_, _, _, _, rfl, _⟩ | ⟨_, _, _, _, rfl⟩ | ⟨_, _, rfl, _⟩
    · cases h2
    · cases h2
    · simp only [Option.some.injEq] at h2
      rw [← h2, hi.pos_eq]; omega
    · cases h2

theorem closeLength_grow {s s1 : WState} {st st1 : OpenStm} {len : Nat} (hi : Inv s) (hs : s.stm = some st)
    (hr : closeLength s st = .ok (s1, st1, len)) : Grow s s1 := by
  have k : Keeps s s1 := by obtain ⟨a, b, c, d⟩ := closeLength_keeps hr; exact .of_eq a b c d
  rcases closeLength_ok hr with ⟨_, _, rfl, ⟨r, _, rfl⟩ | ⟨_, p, hpp, hlen, rfl⟩ | ⟨_, _, rfl⟩⟩ | ⟨_, _, hsw⟩
  · exact .of_keeps k rfl rfl rfl
  · obtain ⟨hp12, _⟩ := hi.patch st p hs hpp
    have hlen' := patchAt_length s.out p (decOf (s.pos - st.startPos)) (by omega)
    -- the patch overwrites the reserved blanks, which lie behind everything `keep` speaks of
    exact ⟨k, by simp [hlen'], fun pos h ha hb => ha.patch p _ (hb st p hs hpp),
      fun st' p' h1 h2 => .inl ⟨st', h1, h2⟩, fun x hx => .inl hx⟩
  · exact .refl _
  · obtain ⟨n, lr, pp, value, db, off, _, _, rfl, rfl, _⟩ := startWriting_ok hsw
    exact grow_append k (objHeader st.num st.gen ++ db ++ kStream ++ st.buf) (by simp [emit_out])
      (fun st' p' h1 h2 => .inl ⟨st', h1, h2⟩) rfl

theorem Reach.grow {s s' : WState} (h : Reach s s') : Inv s → Grow s s' := by
  induction h with
  | refl => exact fun _ => .refl _
  | trans h1 _ ih1 ih2 => exact fun hi => (ih1 hi).trans (ih2 (h1.inv hi))
  | bump | deferred => exact fun _ => .of_keeps (.of_eq rfl rfl rfl rfl) rfl rfl rfl
  | plain hs h => exact fun hi => putPlain_grow hi hs h
  | opened h => exact fun _ => openStream_grow h
  | written h => exact fun hi => streamWrite_grow hi h
  | @closed s s1 s' st st1 len hs hcl _ _ _ _ ih =>
    intro hi
    have g1 : Grow s1 { emit s1 (kEndstream ++ prettyNL s.opts) with
        stm := none, after := [], sdoc := s1.sdoc ++ [(st.num, st.gen, st.dict, s.sdata)] } :=
      grow_append ⟨rfl, .of_eq rfl, fun _ h => h, fun x hx => by simp [hx]⟩ _ rfl (fun st' p' h1 => nomatch h1) rfl
    exact ((closeLength_grow hi hs hcl).trans g1).trans (ih (closed_inv hi hs hcl))
  | @members s _ x n hs h =>
    exact fun _ => grow_append (s' := { s with xref := x, nextRef := n }) (Reach.members hs h).keeps [] (by simp)
      (fun st p h1 h2 => .inl ⟨st, h1, h2⟩) rfl
  | emitted s bs hs =>
    exact fun _ => grow_append (.of_eq rfl rfl rfl rfl) bs rfl (fun st p h1 => by simp [emit_stm, hs] at h1) rfl

theorem initState_facts (o : WOpts) (s0 : WState) (h0 : initState o = some s0) :
    s0.opts = o ∧ s0.doc = [] ∧ s0.sdoc = [] ∧ s0.stm = none ∧ ∃ rest, s0.out = kPdf ++ rest := by
  obtain ⟨⟨rest, rfl⟩, _⟩ := initState_ok h0
  exact ⟨rfl, rfl, rfl, rfl, rest, rfl⟩

theorem docs_stay {o : WOpts} {s0 s : WState} {ops : List Op}
    (h0 : initState o = some s0) (h : run s0 ops 0 = .ok s) : ∀ x, x ∈ s.doc → DocAt s x := by
  intro x hx
  rcases (Reach.grow (run_reach ops h) (init_inv o s0 h0)).docAt x hx with h | h
  · rw [(initState_facts o s0 h0).2.1] at h; cases h
  · exact h

/-- **doc_invariant.**  (The first part of `C02fiog.objects_stay`; `hobj` is not used: it holds in
object-stream mode too.)  For every program the writer model accepts, every plain
object that reached the file (directly, from the queue of a stream, as the indirect `/Length`
of a stream on a non-seekable sink, through `WriteCompressed`, or as the catalog / Info of
`Close`) is still there at the end: its entry is in use with the generation given, and at the
entry's offset stand `N G obj`, the formatted object and `endobj` — untouched by later writes
and by the seek-back `/Length` patches. -/
theorem doc_invariant (o : WOpts) (s0 s : WState) (ops : List Op) (hobj : o.objStm = false)
    (h0 : initState o = some s0) (h : run s0 ops 0 = .ok s) :
    ∀ x, x ∈ s.doc → DocAt s x :=
  docs_stay h0 h

theorem At.drop {out : Bytes} {pos : Nat} {h : Bytes} (ha : At out pos h) :
    ∃ rest, out.drop pos = h ++ rest := by
  obtain ⟨pre, rest, h1, h2⟩ := ha
  refine ⟨rest, ?_⟩
  subst h1; subst h2
  simp

theorem entryUsable_of_pos {x : XEntry} (h : 0 ≤ x.pos) : entryUsable (some x) x.gen = true := by
  simp [entryUsable, isFree]; omega

theorem readerGet_of_direct {file : Bytes} {m : XMap} {inflate : Bytes → Option Bytes} {getInt : Obj → Except Err Int}
    {n g : Nat} {pos : Int} {o : RObj} {rest : Bytes}
    (hm : m.get n = some { inStream := 0, pos := pos, gen := g }) (hpos : 0 ≤ pos)
    (h : readIndirectObject (file.drop pos.toNat) pos.toNat getInt = .ok (o, n, g, rest)) :
    readerGet file m 0 inflate getInt n g = .ok (some o) := by
  unfold readerGet
  simp only [hm, entryUsable_of_pos (x := ⟨0, pos, g⟩) hpos, Bool.not_true, Bool.false_eq_true, ↓reduceIte, bne_self_eq_false, Nat.add_zero, h]
  simp

/-- the compressed path of `Reader.get`: one hypothesis per step, in its order -/
theorem readerGet_of_member {file : Bytes} {m : XMap} {inflate : Bytes → Option Bytes} {getInt : Obj → Except Err Int}
    {num sRef : Nat} {p pos : Int} {d : List (Bytes × Obj)} {start len : Nat} {rest content : Bytes}
    {idx : List (Nat × Nat)} {headEnd : Nat} {o : Obj}
    (hmn : m.get num = some { inStream := sRef, pos := p, gen := 0 }) (hp : 0 ≤ p) (hs0 : sRef ≠ 0)
    (hm : m.get sRef = some { inStream := 0, pos := pos, gen := 0 }) (hpos : 0 ≤ pos)
    (hrio : readIndirectObject (file.drop pos.toNat) pos.toNat getInt = .ok (.stream d start len, sRef, 0, rest))
    (hdec : decodeSimple inflate d ((file.drop start).take len) = .ok content)
    (hos : getObjStm d content = .ok (idx, headEnd))
    (hfrom : getFromObjStm idx headEnd content num = .ok (some o)) :
    readerGet file m 0 inflate getInt num 0 = .ok (some (.plain o)) := by
  unfold readerGet
  have hne : (sRef != 0) = true := by simp [hs0]
  simp only [hmn, hm, entryUsable_of_pos (x := ⟨sRef, p, 0⟩) hp, entryUsable_of_pos (x := ⟨0, pos, 0⟩) hpos, hne,
    Bool.not_true, Bool.false_eq_true, ↓reduceIte, bne_self_eq_false, Nat.add_zero, hrio, Bool.or_self, hdec,
    hos, hfrom]

theorem get_plain_rt (file : Bytes) (m : XMap) (opt : FmtOpt) (n g : Nat) (o : Obj) (pos : Int) (body : Bytes)
    (hm : m.get n = some { inStream := 0, pos := pos, gen := g }) (hpos : 0 ≤ pos)
    (hfmt : format opt [o] = some body)
    (hat : At file pos.toNat (objHeader n g ++ body ++ kEndobj))
    (hg : good o = true) (hd : depthOk o) (hr : isRefObj o = false)
    (hnum : n < Gen.fio_maxXRefSize) (hgen : g ≤ Gen.fio_maxGeneration)
    (inflate : Bytes → Option Bytes) (getInt : Obj → Except Err Int) :
    ∃ r, readerGet file m 0 inflate getInt n g = .ok (some (.plain r)) ∧ nrm r = nrm o := by
  obtain ⟨rest, hdrop⟩ := At.drop hat
  obtain ⟨body', r, hf', hread, hn⟩ := indirect_obj_rt opt o hg hd hr n g hnum hgen pos.toNat getInt rest
  rw [hfmt] at hf'
  cases hf'
  exact ⟨r, readerGet_of_direct hm hpos (by rw [hdrop]; exact hread), hn⟩

/-- `e` counts in the second case only; callers of the first fill it with `default` -/
theorem get_free (file : Bytes) (m : XMap) (n g : Nat) (e : XEntry)
    (hm : m.get n = none ∨ (m.get n = some e ∧ e.pos < 0))
    (inflate : Bytes → Option Bytes) (getInt : Obj → Except Err Int) :
    readerGet file m 0 inflate getInt n g = .ok none := by
  unfold readerGet
  rcases hm with h | ⟨h, hp⟩
  · simp [h, entryUsable, isFree]
  · simp [h, entryUsable, isFree, hp]

theorem get_wrong_gen (file : Bytes) (m : XMap) (n g : Nat) (e : XEntry)
    (hm : m.get n = some e) (hg : e.gen ≠ g)
    (inflate : Bytes → Option Bytes) (getInt : Obj → Except Err Int) :
    readerGet file m 0 inflate getInt n g = .ok none := by
  unfold readerGet
  simp [hm, entryUsable, hg]


theorem DocAt.get_rt {s : WState} {n g : Nat} {ob : Obj} (hd : DocAt s (n, g, ob)) (henc : s.opts.encrypted = false)
    (m : XMap)
    (hm : ∀ e, s.xref.get n = some e → e.inStream = 0 → 0 ≤ e.pos →
      m.get n = some { inStream := 0, pos := e.pos, gen := e.gen })
    (hb : ∀ e, s.xref.get n = some e → n < Gen.fio_maxXRefSize ∧ e.gen ≤ Gen.fio_maxGeneration)
    (hg : good ob = true) (hdep : depthOk ob) (hr : isRefObj ob = false)
    (inflate : Bytes → Option Bytes) (getInt : Obj → Except Err Int) :
    ∃ r, readerGet s.out m 0 inflate getInt n g = .ok (some (.plain r)) ∧ nrm r = nrm ob := by
  obtain ⟨e, body, hxe, heg, hins, hpos, hwf, hat, _⟩ := hd
  simp only at hxe heg hwf hat
  have hmn := hm e hxe hins hpos
  obtain ⟨hn, hg65⟩ := hb e hxe
  rw [heg] at hmn hg65
  have hfmt : format s.opts.fmt [ob] = some body := by simpa [wformat, WOpts.litStr, henc] using hwf
  exact get_plain_rt s.out m _ n g ob e.pos body hmn hpos hfmt hat hg hdep hr hn hg65 inflate getInt

theorem entry_limits {s : WState} (hi : Inv s) (hnr : s.nextRef ≤ Gen.fio_maxXRefSize)
    (hgen : ∀ n e, s.xref.get n = some e → e.gen ≤ 65535) {n : Nat} {e : XEntry} (hxe : s.xref.get n = some e) :
    n < Gen.fio_maxXRefSize ∧ e.gen ≤ Gen.fio_maxGeneration :=
  ⟨Nat.lt_of_lt_of_le (hi.below n e hxe) hnr, by simpa [Gen.fio_maxGeneration] using hgen n e hxe⟩

theorem table_entry {s : WState} {m : XMap} (hi : Inv s)
    (hm1 : ∀ j, j < s.nextRef → m.get j = some (normTab (s.xref.get j))) {n : Nat} {e : XEntry}
    (hxe : s.xref.get n = some e) (hpos : 0 ≤ e.pos) :
    m.get n = some { inStream := 0, pos := e.pos, gen := e.gen } := by
  rw [hm1 n (hi.below n e hxe), hxe]
  simp [normTab, hpos]

theorem get_null_table {s : WState} {m : XMap}
    (hm1 : ∀ j, j < s.nextRef → m.get j = some (normTab (s.xref.get j))) (hm2 : ∀ j, s.nextRef ≤ j → m.get j = none)
    (n g : Nat) (hfree : ∀ e, s.xref.get n = some e → e.pos < 0 ∨ e.gen ≠ g)
    (inflate : Bytes → Option Bytes) (getInt : Obj → Except Err Int) :
    readerGet s.out m 0 inflate getInt n g = .ok none := by
  by_cases hlt : n < s.nextRef
  · have hmn := hm1 n hlt
    cases hxe : s.xref.get n with
    | none =>
      rw [hxe] at hmn
      exact get_free s.out m n g _ (.inr ⟨hmn, by simp [normTab]⟩) inflate getInt
    | some e =>
      rw [hxe] at hmn
      by_cases hp : e.pos < 0
      · exact get_free s.out m n g _ (.inr ⟨hmn, by simp [normTab]; split <;> simp <;> omega⟩) inflate getInt
      · rcases hfree e hxe with hh | hh
        · omega
        · refine get_wrong_gen s.out m n g _ hmn ?_ inflate getInt
          simp [normTab]; split
          · exact hh
          · omega
  · exact get_free s.out m n g default (.inl (hm2 n (by omega))) inflate getInt

theorem run_split (ops1 : List Op) (op : Op) (ops2 : List Op) : ∀ {s s' : WState} {i : Nat},
    run s (ops1 ++ op :: ops2) i = .ok s' →
    ∃ s1 s2 i2, run s ops1 i = .ok s1 ∧ step s1 op = .ok s2 ∧ run s2 ops2 i2 = .ok s' := by
  induction ops1 with
  | nil =>
    intro s s' i h
    simp only [List.nil_append, run] at h
    split at h
    · simp at h
    · rename_i s2 h2
      exact ⟨s, s2, _, rfl, h2, h⟩
  | cons o rest ih =>
    intro s s' i h
    simp only [List.cons_append, run] at h
    split at h
    · simp at h
    · rename_i sa ha
      obtain ⟨s1, s2, i2, a, b, c⟩ := ih h
      exact ⟨s1, s2, i2, by simp only [run, ha]; exact a, b, c⟩

theorem run_append (ops : List Op) (op : Op) {s s' : WState} {i : Nat} (h : run s (ops ++ [op]) i = .ok s') :
    ∃ s1, run s ops i = .ok s1 ∧ step s1 op = .ok s' := by
  obtain ⟨s1, s2, _, h1, h2, h3⟩ := run_split ops op [] h
  cases h3
  exact ⟨s1, h1, h2⟩

theorem optPut_ref {s s' : WState} {o : Option Obj} {r : Option Nat} (hs : s.stm = none)
    (h : optPut s o = .ok (s', r)) :
    (o = none → r = none) ∧ (∀ v, o = some v → ∃ n, r = some n ∧ n < Gen.fio_maxXRefSize ∧ (n, 0, v) ∈ s'.doc) := by
  obtain ⟨rfl, rfl, _⟩ | ⟨v, s1, r1, rfl, rfl, ha, hp⟩ := optPut_ok h
  · exact ⟨fun _ => rfl, fun v hv => nomatch hv⟩
  · refine ⟨fun h0 => (nomatch h0), fun v' hv' => ?_⟩
    cases hv'
    obtain ⟨hs1, hr1, hlt⟩ := alloc_ok ha
    refine ⟨r1, rfl, hr1 ▸ hlt, ?_⟩
    rw [put_plain_closed (by rw [hs1]; exact hs)] at hp
    obtain ⟨_, _, _, _, _, rfl⟩ := putPlain_ok hp
    simp [emit_doc]

/-- `Close` in table form, from `s` to `s'`: `s2` is the state after the catalog and Info have been put,
    `body` the table, `td` the trailer dictionary, whose `Root` and `Info` are `cr` and `ir` -/
structure TableClose (s s' s2 : WState) (body td : Bytes) (cr ir : Option Nat) (cat : Obj) (info : Option Obj)
    (tr : List (Bytes × Obj)) : Prop where
  closed : s.stm = none
  reach : Reach s s2
  stm2 : s2.stm = none
  table : xrefTableBody s2.xref s2.nextRef = some body
  out : s'.out = s2.out ++ (body ++ kTrailerNL ++ td ++ [10]) ++ (kStartxref ++ decOf s2.pos ++ kEOF)
  xref : s'.xref = s2.xref
  nextRef : s'.nextRef = s2.nextRef
  doc : s'.doc = s2.doc
  stm : s'.stm = none
  trailer : format s.opts.fmtPlain [.dict (closeTrailer tr cr ir s2.nextRef)] = some td
  root : ∃ n, cr = some n ∧ n < Gen.fio_maxXRefSize ∧ (n, 0, cat) ∈ s2.doc
  noInfo : info = none → ir = none
  info : ∀ i, info = some i → ∃ n, ir = some n ∧ n < Gen.fio_maxXRefSize ∧ (n, 0, i) ∈ s2.doc

theorem close_table_layout {s s' : WState} {cat : Obj} {info : Option Obj} {tr : List (Bytes × Obj)} {raw : Bytes}
    (hobj : s.opts.objStm = false) (h : close s cat info tr raw = .ok s') :
    ∃ s2 body td cr ir, TableClose s s' s2 body td cr ir cat info tr := by
  obtain ⟨hs, s1, cr, s2, ir, h1, h2, hform⟩ := close_ok h
  rcases hform with ⟨ho, _⟩ | ⟨_, body, td, hb, htd, rfl⟩
  · rw [hobj] at ho; cases ho
  replace htd : format s.opts.fmtPlain [.dict (closeTrailer tr cr ir s2.nextRef)] = some td := by
    cases cr <;> cases ir <;> exact htd
  obtain ⟨r1, n1⟩ := optPut_reach h1
  obtain ⟨r2, n2⟩ := optPut_reach h2
  obtain ⟨n, hn1, hn2, hn3⟩ := (optPut_ref hs h1).2 cat rfl
  obtain ⟨hi0, hi1⟩ := optPut_ref (n1 hs) h2
  exact ⟨s2, body, td, cr, ir, hs, r1.trans r2, n2 (n1 hs), hb, rfl, rfl, rfl, rfl, n2 (n1 hs), htd,
    ⟨n, hn1, hn2, r2.keeps.doc _ hn3⟩, hi0, hi1⟩

/-- direct entries only and at most ten digits: `writeXRefTable` refuses the table otherwise -/
theorem table_entries {s2 : WState} {body : Bytes} (i2 : Inv s2) (n2 : s2.stm = none)
    (hb : xrefTableBody s2.xref s2.nextRef = some body) {n : Nat} {e : XEntry} (hg : s2.xref.get n = some e) :
    e.inStream = 0 ∧ e.pos < 10000000000 ∧ (0 ≤ e.pos → At s2.out e.pos.toNat (objHeader n e.gen)) := by
  obtain ⟨hno, hpos, _⟩ := xrefTableBody_ok hb
  have h0 := hasInStream_false hno (i2.below n e hg) hg
  refine ⟨h0, hpos n e hg h0, fun hp => ?_⟩
  rcases i2.entries n e hg h0 hp with ha | ⟨st, h1, _⟩
  · exact ha
  · rw [n2] at h1; cases h1

/-- on the file a table-mode `Close` leaves behind the reader decodes exactly the writer's map -/
theorem openTableXRef_close {s s' : WState} {cat : Obj} {info : Option Obj} {tr : List (Bytes × Obj)} {raw : Bytes}
    (hi : Inv s) (hobj : s.opts.objStm = false) (h : close s cat info tr raw = .ok s')
    (hhdr : ∃ rest, s.out = kPdf ++ rest)
    (hsize : s'.out.length < 10000000000)
    (hgen : ∀ n e, s'.xref.get n = some e → e.gen ≤ 65535)
    (hnr : s'.nextRef ≤ Gen.fio_maxXRefSize) :
    ∃ m td tail cr ir, openTableXRef s'.out = .ok (m, kwTrailer ++ (10 :: (td ++ tail))) ∧
      (∀ j, j < s'.nextRef → m.get j = some (normTab (s'.xref.get j))) ∧
      (∀ j, s'.nextRef ≤ j → m.get j = none) ∧
      format s.opts.fmtPlain [.dict (closeTrailer tr cr ir s'.nextRef)] = some td ∧
      (∃ n, cr = some n ∧ n < Gen.fio_maxXRefSize ∧ (n, 0, cat) ∈ s'.doc) ∧
      (info = none → ir = none) ∧
      (∀ i, info = some i → ∃ n, ir = some n ∧ n < Gen.fio_maxXRefSize ∧ (n, 0, i) ∈ s'.doc) := by
  obtain ⟨s2, body, td, cr, ir, L⟩ := close_table_layout hobj h
  have i2 := L.reach.inv hi
  have hent := fun j x (hxj : s2.xref.get j = some x) => table_entries i2 L.stm2 L.table hxj
  obtain ⟨_, _, rfl⟩ := xrefTableBody_ok L.table
  have g2 := Reach.grow L.reach hi
  obtain ⟨rest0, hr0⟩ := hhdr
  obtain ⟨resth, hrh⟩ := (Reach.grow (close_reach h).1 hi).keep_prefix L.closed hr0
  have hp0 : 0 < s2.pos := by
    have := g2.len
    rw [hr0, ← i2.pos_eq, List.length_append] at this
    exact Nat.lt_of_lt_of_le (by decide : 0 < kPdf.length) (Nat.le_trans (Nat.le_add_right _ _) this)
  have hplt : s2.pos < s'.out.length := by rw [L.out, i2.pos_eq]; simp [kwXref]
  have hlen2 : s2.out.length < s'.out.length := i2.pos_eq ▸ hplt
  have hok : ∀ j, j < s2.nextRef → ∀ x, s2.xref.get j = some x → x.pos < 10000000000 ∧ x.gen ≤ 65535 :=
    fun j _ x hxj => ⟨(hent j x hxj).2.1, hgen j x (by rw [L.xref]; exact hxj)⟩
  obtain ⟨m, hopen, hm1, hm2⟩ := openTableXRef_of_parts s'.out resth
    (s2.out ++ (kwXref ++ [10, 48, 32] ++ decOf s2.nextRef ++ [10] ++ xrefLines s2.xref 0 s2.nextRef ++ kTrailerNL ++ td))
    (10 :: (td ++ ([10] ++ (kStartxref ++ decOf s2.pos ++ kEOF)))) s2.pos s2.nextRef s2.xref hrh
    (by rw [L.out]; simp only [List.append_assoc])
    (by rw [L.out, i2.pos_eq, List.append_assoc, List.drop_left]; simp [kTrailerNL])
    hp0 hplt (by omega) (by rw [← L.nextRef]; exact hnr) hok
  exact ⟨m, td, [10] ++ (kStartxref ++ decOf s2.pos ++ kEOF), cr, ir, hopen, by rw [L.nextRef, L.xref]; exact hm1,
    by rw [L.nextRef]; exact hm2, by rw [L.nextRef]; exact L.trailer, by rw [L.doc]; exact L.root, L.noInfo, by rw [L.doc]; exact L.info⟩

theorem run_facts {o : WOpts} {s0 s : WState} {ops : List Op} (h0 : initState o = some s0)
    (h : run s0 ops 0 = .ok s) : Inv s ∧ s.opts = o ∧ ∃ rest, s.out = kPdf ++ rest := by
  obtain ⟨hopts0, _, _, hstm0, rest0, hout0⟩ := initState_facts o s0 h0
  have hi0 := init_inv o s0 h0
  have hr := run_reach ops h
  exact ⟨hr.inv hi0, hr.keeps.opts.trans hopts0, (Reach.grow hr hi0).keep_prefix hstm0 hout0⟩

theorem run_close {o : WOpts} {s0 s : WState} {ops : List Op} {cat : Obj} {info : Option Obj}
    {tr : List (Bytes × Obj)} {raw : Bytes} (h0 : initState o = some s0)
    (h : run s0 (ops ++ [.close cat info tr raw]) 0 = .ok s) :
    ∃ s1, Inv s1 ∧ s1.opts = o ∧ close s1 cat info tr raw = .ok s ∧ (∃ rest, s1.out = kPdf ++ rest) ∧
      Inv s ∧ s.opts = o := by
  obtain ⟨s1, hrun, hstep⟩ := run_append ops _ h
  obtain ⟨i1, o1, hd1⟩ := run_facts h0 hrun
  exact ⟨s1, i1, o1, hstep, hd1, (run_facts h0 h).1, (run_facts h0 h).2.1⟩

/-- **file_rt_table_partial.**  For every option set without object streams and without
encryption and every program the writer model accepts that ends in `Close` (any mix of `Alloc`,
`Put` of plain objects and of stream objects, `OpenStream`/`Write`/`Close` with any of the three
`/Length` strategies, `Put` while a stream is open, `WriteCompressed`, never-written references),
if the file is shorter than 10^10 bytes, generations are ≤ 65535 and object numbers are below the
reader's limit, then the reader model, applied to the bytes of the file alone,

* finds `%PDF-` at offset 0, follows the last `startxref` to the `xref` keyword and decodes the
  subsections into a map `m` that agrees with the writer's map on every number below `Size`
  (never-written numbers are free) and has no other entries, stopping at `trailer`;
* `Reader.get` with that map returns, for every plain object `(n, g, ob)` that reached the file
  (`WState.doc`: direct and deferred `Put`s, indirect `/Length` objects, catalog, Info) and is
  within C01's documented limits, an object equal to `ob` up to C01's normal form;
* `Reader.get` returns `null` for every reference whose number was never written, is free, or
  was written with another generation.

The trailer dictionary and the stream objects are added in `Props/C02fiog.lean`
(`file_rt_table`). -/
theorem file_rt_table_partial (o : WOpts) (s0 s : WState) (ops : List Op)
    (cat : Obj) (info : Option Obj) (tr : List (Bytes × Obj)) (raw : Bytes)
    (hobj : o.objStm = false) (henc : o.encrypted = false)
    (h0 : initState o = some s0)
    (h : run s0 (ops ++ [.close cat info tr raw]) 0 = .ok s)
    (hsize : s.out.length < 10000000000)
    (hgen : ∀ n e, s.xref.get n = some e → e.gen ≤ 65535)
    (hnr : s.nextRef ≤ Gen.fio_maxXRefSize)
    (inflate : Bytes → Option Bytes) (getInt : Obj → Except Err Int) :
    ∃ m rest, openTableXRef s.out = .ok (m, kwTrailer ++ rest) ∧
      (∀ j, j < s.nextRef → m.get j = some (normTab (s.xref.get j))) ∧
      (∀ j, s.nextRef ≤ j → m.get j = none) ∧
      (∀ n g ob, (n, g, ob) ∈ s.doc → good ob = true → depthOk ob → isRefObj ob = false →
        ∃ r, readerGet s.out m 0 inflate getInt n g = .ok (some (.plain r)) ∧ nrm r = nrm ob) ∧
      (∀ n g, (∀ e, s.xref.get n = some e → e.pos < 0 ∨ e.gen ≠ g) →
        readerGet s.out m 0 inflate getInt n g = .ok none) := by
  obtain ⟨s1, hi1, hopts1, hclose, hhdr1, his, hoptss⟩ := run_close h0 h
  obtain ⟨m, td, tail, _, _, hopen, hm1, hm2, _⟩ :=
    openTableXRef_close hi1 (by rw [hopts1]; exact hobj) hclose hhdr1 hsize hgen hnr
  refine ⟨m, 10 :: (td ++ tail), hopen, hm1, hm2, fun n g ob hmem hgood hdep hnref => ?_,
    fun n g hfree => get_null_table hm1 hm2 n g hfree inflate getInt⟩
  refine (doc_invariant o s0 s _ hobj h0 h _ hmem).get_rt (by rw [hoptss]; exact henc) m
    (fun e hxe _ hpos => table_entry his hm1 hxe hpos) (fun e => entry_limits his hnr hgen) hgood hdep hnref inflate getInt


-- non-vacuity of `file_rt_table_partial`: a table-form program (PDF 1.3, seekable sink, a long
-- stream whose `/Length` is patched, a `Put` deferred while the stream is open); the hypotheses
-- hold, `openTableXRef` finds the table, and `Reader.get` returns objects 1 and 3 and the catalog
example : (match initState { C02fiob.exOpts with version := 4 } with
    | some s0 => (match run s0 C02fiob.exProg 0 with
      | .ok s => (match openTableXRef s.out with
          | .ok (m, rest) =>
            isPrefixOf kwTrailer rest && s.opts.objStm == false && s.nextRef == 5 && s.doc.length == 3 &&
            (match readerGet s.out m 0 (fun _ => none) (fun _ => .error .malformed) 1 0 with
             | .ok (some (.plain (.int 5))) => true | _ => false) &&
            (match readerGet s.out m 0 (fun _ => none) (fun _ => .error .malformed) 3 0 with
             | .ok (some (.plain (.name [65]))) => true | _ => false) &&
            (match readerGet s.out m 0 (fun _ => none) (fun _ => .error .malformed) 4 0 with
             | .ok (some (.plain (.dict [([84], .int 1)]))) => true | _ => false) &&
            (match readerGet s.out m 0 (fun _ => none) (fun _ => .error .malformed) 3 1 with
             | .ok none => true | _ => false) &&
            (match readerGet s.out m 0 (fun _ => none) (fun _ => .error .malformed) 7 0 with
             | .ok none => true | _ => false)
          | _ => false)
      | _ => false)
    | none => false) = true := by decide +kernel

end PdfVerif.C02fioe
