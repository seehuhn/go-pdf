import PdfVerif.Model.FNTCid
import PdfVerif.Lemmas.FNTMap
import PdfVerif.Lemmas.FNTCodec
/-!
# C14 (work package FNT) — composite fonts: `cidenc` utf8 and identity/fixed encoders

About `Model/FNTCid.lean` (`font/encoding/cidenc/{utf8,fixed,identity}.go`) over the codec of `Model/FNTCodec.lean`.
`string(r)` and the two bytes of a CID are valid codes (`isCode_utf8Bytes`, `isCode_ucs2`), so `Lemmas/FNTCodec`
gives the **unique segmentation** (`decode_utf8`, `append_utf8`) and, through `loop_flatMap`, the read-back of
whole strings.  UTF-8 encoder: every history of `Encode` calls (`UReach`).  Fixed CMaps: pairs accepted by
`Encode` never share a code; the full statement over `GetCode` is **false** for the code as it is
(`fixed_getcode_full_false`, the finding `fixed-code-shared-text`).  `code_value_ambiguous` is about the
reader's cache of decoded codes (font/dict/common.go), not about the encoders.
-/
namespace PdfVerif.C14fntb
open PdfVerif PdfVerif.FNT

theorem isCode_utf8Bytes (r : Nat) : IsCode csrUTF8 (utf8Bytes r) := by
  unfold utf8Bytes
  -- in each branch the bounds on `r` put the bytes into the intervals of the range named (for
  -- `0x80 ≤ r < 0x800`: `0xC2 ≤ 0xC0 + r / 64 ≤ 0xDF` and `0x80 ≤ 0x80 + r % 64 ≤ 0xBF`); U+FFFD is `by decide`
  by_cases h1 : r < 0x80
  · rw [if_pos h1]
    exact isCode_utf8 (rg := ⟨[0x00], [0x7F]⟩) (by decide) (by simp [matchFrom_range_cons]; omega) rfl
  rw [if_neg h1]
  by_cases h2 : r < 0x800
  · rw [if_pos h2]
    exact isCode_utf8 (rg := ⟨[0xC2, 0x80], [0xDF, 0xBF]⟩) (by decide)
      (by simp [matchFrom_range_cons]; omega) rfl
  rw [if_neg h2]
  by_cases h3 : (0xD800 ≤ r && r ≤ 0xDFFF) = true
  · rw [if_pos h3]
    exact isCode_utf8 (rg := ⟨[0xE0, 0x80, 0x80], [0xEF, 0xBF, 0xBF]⟩) (by decide) (by decide) rfl
  rw [if_neg h3]
  by_cases h4 : r < 0x10000
  · rw [if_pos h4]
    exact isCode_utf8 (rg := ⟨[0xE0, 0x80, 0x80], [0xEF, 0xBF, 0xBF]⟩) (by decide)
      (by simp [matchFrom_range_cons]; omega) rfl
  rw [if_neg h4]
  by_cases h5 : r < 0x110000
  · rw [if_pos h5]
    exact isCode_utf8 (rg := ⟨[0xF0, 0x80, 0x80, 0x80], [0xF4, 0xBF, 0xBF, 0xBF]⟩) (by decide)
      (by simp [matchFrom_range_cons]; omega) rfl
  · rw [if_neg h5]
    exact isCode_utf8 (rg := ⟨[0xE0, 0x80, 0x80], [0xEF, 0xBF, 0xBF]⟩) (by decide) (by decide) rfl

theorem utf8Bytes_ne_nil (r : Nat) : utf8Bytes r ≠ [] := isCode_ne_nil (isCode_utf8Bytes r)

/-- **unique segmentation**, for every rune value (surrogates and values above U+10FFFF become U+FFFD
as in Go) and every continuation -/
theorem decode_utf8 (r : Nat) (rest : Bytes) :
    decode csrUTF8 (utf8Bytes r ++ rest) = (runeToCode r, (utf8Bytes r).length, true) :=
  decode_isCode (isCode_utf8Bytes r) rest

theorem append_utf8 (r : Nat) : appendCode csrUTF8 (runeToCode r) = utf8Bytes r :=
  appendCode_isCode csrUTF8_bytes (isCode_utf8Bytes r)

/-- the tables of the UTF-8 encoder; every code handed out is the code of a rune, which is what lets
    `utf8_codes_readback` read `AppendCode(c)` as `string(r)` -/
def UInv (e : Utf8Enc) : Prop :=
  Map.Tables (fun i : CInfo => (i.cid, i.text)) (fun c => ∃ r, c = runeToCode r) e.code e.info

/-- all histories: `Encode` with any arguments and any NFC result, and the cursor moved anywhere (`jump`: the
    invariant does not mention the cursor; the harness moves it with `cidenc.VerifSetNextPrivate`) -/
inductive UReach : Utf8Enc → Prop
  | init (w : Int) : UReach { cid0Width := w }
  | step (e : Utf8Enc) (cid : Nat) (text : Bytes) (width : Int) (single : Option Nat) :
      UReach e → UReach (e.encode cid text width single).1
  | jump (e : Utf8Enc) (n : Nat) : UReach e → UReach { e with nextPrivate := n }

theorem privLoop_ok {info : Map Nat CInfo} {fuel next c n : Nat}
    (h : privLoop info fuel next = (.ok c, n)) : info.get c = none ∧ ∃ r, c = runeToCode r := by
  revert h
  fun_induction privLoop info fuel next
  · rintro ⟨⟩
  · rintro ⟨⟩
  · next ih => exact ih
  · next r _ _ _ code h2 =>
    simp only [Prod.mk.injEq, MkRes.ok.injEq]
    rintro ⟨rfl, -⟩; exact ⟨by simpa using h2, r, rfl⟩

theorem makeCode_ok {e : Utf8Enc} {single : Option Nat} {c n : Nat}
    (h : e.makeCode single = (.ok c, n)) : e.info.get c = none ∧ ∃ r, c = runeToCode r := by
  unfold Utf8Enc.makeCode at h
  cases single with
  | none => exact privLoop_ok h
  | some r =>
    by_cases hc : e.info.contains (runeToCode r) = true
    · simp only [hc, ↓reduceIte] at h
      exact privLoop_ok h
    · simp only [hc, Bool.false_eq_true, ↓reduceIte, Prod.mk.injEq, MkRes.ok.injEq] at h
      exact ⟨by simpa [← h.1] using hc, r, h.1.symm⟩

theorem utf8_encode_cases (e : Utf8Enc) (cid : Nat) (text : Bytes) (width : Int) (single : Option Nat) :
    (∃ c next, e.code.get (cid, text) = none ∧ e.makeCode single = (.ok c, next) ∧
      e.encode cid text width single =
      ({ e with info := e.info.insert c ⟨cid, width, text⟩, code := e.code.insert (cid, text) c,
                nextPrivate := next }, .ok c)) ∨
    ((∀ c, (e.encode cid text width single).2 ≠ .ok c) ∧
      (e.encode cid text width single).1.info = e.info ∧
      (e.encode cid text width single).1.code = e.code) := by
  fun_cases Utf8Enc.encode e cid text width single
  · exact Or.inr ⟨fun _ => nofun, rfl, rfl⟩
  · next hd c next hm => exact Or.inl ⟨c, next, by simpa using hd, hm, rfl⟩
  · exact Or.inr ⟨fun _ => nofun, rfl, rfl⟩
  · exact Or.inr ⟨fun _ => nofun, rfl, rfl⟩

theorem uinv_encode {e : Utf8Enc} {cid : Nat} {text : Bytes} {width : Int} {single : Option Nat}
    (h : UInv e) : UInv (e.encode cid text width single).1 := by
  rcases utf8_encode_cases e cid text width single with ⟨c, next, hnew, hm, he⟩ | ⟨_, hi, hc⟩
  · obtain ⟨hfree, hr⟩ := makeCode_ok hm
    rw [he]
    exact h.insert (i := ⟨cid, width, text⟩) hnew hfree hr
  · unfold UInv
    rw [hi, hc]; exact h

theorem ureach_inv {e : Utf8Enc} (h : UReach e) : UInv e := by
  induction h with
  | init w => exact Map.Tables.nil
  | step e cid text width single _ ih => exact uinv_encode ih
  | jump e n _ ih => exact ih

theorem utf8_getCode_eq (e : Utf8Enc) (cid : Nat) (text : Bytes) : e.getCode cid text = e.code.get (cid, text) := rfl

/-- **alloc_injective (UTF-8 encoder).**  After any history, two (CID, text) pairs with the same
code are the same pair. -/
theorem utf8_alloc_injective {e : Utf8Enc} (h : UReach e) (k1 k2 : Key) (c : Nat)
    (h1 : e.getCode k1.1 k1.2 = some c) (h2 : e.getCode k2.1 k2.2 = some c) : k1 = k2 := by
  rw [utf8_getCode_eq] at h1 h2
  exact (ureach_inv h).inj h1 h2

/-- a successful `Encode` records exactly its arguments under the returned code -/
theorem utf8_encode_records (e : Utf8Enc) (cid : Nat) (text : Bytes) (width : Int) (single : Option Nat)
    (c : Nat) (h : (e.encode cid text width single).2 = .ok c) :
    (e.encode cid text width single).1.info.get c = some ⟨cid, width, text⟩ ∧
    (e.encode cid text width single).1.getCode cid text = some c := by
  rcases utf8_encode_cases e cid text width single with ⟨c', _, _, _, he⟩ | ⟨hne, _⟩
  · rw [he] at h ⊢
    cases h
    simp [utf8_getCode_eq]
  · exact absurd h (hne c)

/-- entries are never overwritten by later `Encode` calls -/
theorem utf8_encode_stable (e : Utf8Enc) (cid : Nat) (text : Bytes) (width : Int) (single : Option Nat)
    (c : Nat) (i : CInfo) (hc : e.info.get c = some i) :
    (e.encode cid text width single).1.info.get c = some i := by
  rcases utf8_encode_cases e cid text width single with ⟨c', next, _, hm, he⟩ | ⟨_, hi, _⟩
  · rw [he]
    exact Map.le_insert (makeCode_ok hm).1 _ c i hc
  · rw [hi]; exact hc

/-- the entry `Codes` yields for the code `c`, mapped or not -/
def utf8Out (e : Utf8Enc) (c : Nat) : CodeOut :=
  match e.info.get c with
  | some i => ⟨i.cid, i.width, i.text, (appendCode csrUTF8 c).length == 1 && c == K.spaceCode⟩
  | none => ⟨0, e.cid0Width, [], (appendCode csrUTF8 c).length == 1 && c == K.spaceCode⟩

/-- Property `codes_readback` for the UTF-8 encoder (unique segmentation): in any reachable state, the string
made by `AppendCode` from any sequence of allocated codes decodes into exactly one entry per
code, in order, each with the CID, width and text recorded for that code. -/
theorem utf8_codes_readback {e : Utf8Enc} (h : UReach e) (cs : List Nat)
    (hcs : ∀ c ∈ cs, ∃ i, e.info.get c = some i) :
    e.codes (cs.flatMap (appendCode csrUTF8)) = cs.map (utf8Out e) ∧
    (e.codes (cs.flatMap (appendCode csrUTF8))).length = cs.length := by
  have : e.codes (cs.flatMap (appendCode csrUTF8)) = cs.map (utf8Out e) := by
    refine loop_flatMap e.codeStep e.codesAux (fun _ => rfl) (fun _ => rfl) (fun _ _ _ => rfl) _ _ cs
      (fun c hc => ?_) _ (Nat.le_refl _)
    obtain ⟨i, hi⟩ := hcs c hc
    -- an allocated code is the code of a rune, so its bytes are that rune's UTF-8 bytes
    obtain ⟨r, rfl⟩ := (ureach_inv h).holds c i hi
    rw [append_utf8]
    exact ⟨utf8Bytes_ne_nil r, fun rest => by
      simp [Utf8Enc.codeStep, decode_utf8, hi, utf8Out, append_utf8]⟩
  exact ⟨this, by rw [this, List.length_map]⟩

-- non-vacuity: "A", a second glyph with the same text (private-use code), a two-rune text
private def exU : Utf8Enc :=
  ((((({ cid0Width := 500 } : Utf8Enc).encode 36 [65] 722 (some 65)).1.encode 37 [65] 700 (some 65)).1.encode
    9 [102, 105] 556 none).1.encode 5 [206, 169] 800 (some 0x3A9)).1
example : exU.getCode 36 [65] = some 65 ∧ exU.getCode 37 [65] = some (runeToCode 0xE000) ∧
    exU.getCode 9 [102, 105] = some (runeToCode 0xE001) ∧
    exU.codes ([65] ++ utf8Bytes 0xE000 ++ [0xCE, 0xA9] ++ utf8Bytes 0xE001) =
      [⟨36, 722, [65], false⟩, ⟨37, 700, [65], false⟩, ⟨5, 800, [206, 169], false⟩, ⟨9, 556, [102, 105], false⟩] := by
  decide +kernel

/-- what every `Encode` of the fixed encoder keeps: the CMap and code space, and every text and width recorded
    (a second call with another text or width is refused, not stored) -/
structure Extends (f g : FixedEnc) : Prop where
  all : g.all = f.all
  rev : g.rev = f.rev
  csr : g.csr = f.csr
  text : Map.Le f.text g.text
  width : Map.Le f.width g.width

theorem extends_refl (f : FixedEnc) : Extends f f := ⟨rfl, rfl, rfl, Map.Le.refl _, Map.Le.refl _⟩

theorem extends_trans {f g k : FixedEnc} (h1 : Extends f g) (h2 : Extends g k) : Extends f k :=
  ⟨h2.all.trans h1.all, h2.rev.trans h1.rev, h2.csr.trans h1.csr, h1.text.trans h2.text, h1.width.trans h2.width⟩

theorem setText_cases (f : FixedEnc) (code : Nat) (text : Bytes) :
    (f.text.get code = none ∧ f.setText code text = ({ f with text := f.text.insert code text }, .ok code)) ∨
    (f.text.get code = some text ∧ f.setText code text = (f, .ok code)) ∨
    ((∀ c, (f.setText code text).2 ≠ .ok c) ∧ (f.setText code text).1 = f) := by
  fun_cases FixedEnc.setText f code text
  · exact Or.inr (Or.inr ⟨fun _ => nofun, rfl⟩)
  · next t0 ht htt => exact Or.inr (Or.inl ⟨by simpa [ht] using htt, rfl⟩)
  · next ht => exact Or.inl ⟨ht, rfl⟩

theorem setText_extends (f : FixedEnc) (code : Nat) (text : Bytes) : Extends f (f.setText code text).1 := by
  rcases setText_cases f code text with ⟨ht, e⟩ | ⟨_, e⟩ | ⟨_, e⟩ <;> rw [e]
  · exact ⟨rfl, rfl, rfl, Map.le_insert ht _, Map.Le.refl _⟩
  · exact extends_refl f
  · exact extends_refl f

theorem setText_ok {f : FixedEnc} {code : Nat} {text : Bytes} {c : Nat}
    (h : (f.setText code text).2 = .ok c) : c = code ∧ (f.setText code text).1.text.get c = some text := by
  rcases setText_cases f code text with ⟨_, e⟩ | ⟨ht, e⟩ | ⟨hne, _⟩
  · rw [e] at h ⊢; cases h; exact ⟨rfl, Map.get_insert_self ..⟩
  · rw [e] at h ⊢; cases h; exact ⟨rfl, ht⟩
  · exact absurd h (hne c)

/-- `g` is `f`, with the width stored if the CID had none -/
theorem fixed_encode_cases (f : FixedEnc) (cid : Nat) (text : Bytes) (width : Int) :
    (∃ code g, f.all cid = some code ∧ Extends f g ∧ g.width.get cid = some width ∧
      f.encode cid text width = g.setText code text) ∨
    ((∀ c, (f.encode cid text width).2 ≠ .ok c) ∧ (f.encode cid text width).1 = f) := by
  fun_cases FixedEnc.encode f cid text width
  · exact Or.inr ⟨fun _ => nofun, rfl⟩
  · exact Or.inr ⟨fun _ => nofun, rfl⟩
  · next code hall w0 hw hww =>
    exact Or.inl ⟨code, f, hall, extends_refl f, by simpa [hw] using hww, rfl⟩
  · next code hall hw =>
    exact Or.inl ⟨code, { f with width := f.width.insert cid width }, hall,
      ⟨rfl, rfl, rfl, Map.Le.refl _, Map.le_insert hw _⟩, Map.get_insert_self .., rfl⟩

theorem fixed_encode_extends (f : FixedEnc) (cid : Nat) (text : Bytes) (width : Int) :
    Extends f (f.encode cid text width).1 := by
  rcases fixed_encode_cases f cid text width with ⟨code, g, _, hfg, _, e⟩ | ⟨_, e⟩ <;> rw [e]
  · exact extends_trans hfg (setText_extends g code text)
  · exact extends_refl f

theorem fixed_encode_ok {f : FixedEnc} {cid : Nat} {text : Bytes} {width : Int} {c : Nat}
    (h : (f.encode cid text width).2 = .ok c) :
    f.all cid = some c ∧ (f.encode cid text width).1.width.get cid = some width ∧
    (f.encode cid text width).1.text.get c = some text := by
  rcases fixed_encode_cases f cid text width with ⟨code, g, hall, _, hw, e⟩ | ⟨hne, _⟩
  · rw [e] at h ⊢
    obtain ⟨rfl, ht⟩ := setText_ok h
    -- the width is in the table when `setText` runs, and `setText` keeps it
    exact ⟨hall, (setText_extends g c text).width cid width hw, ht⟩
  · exact absurd h (hne c)

/-- `g` after `f` in a history of `Encode` calls, the only operation that changes a fixed encoder -/
inductive FLater : FixedEnc → FixedEnc → Prop
  | refl (f : FixedEnc) : FLater f f
  | step (f g : FixedEnc) (cid : Nat) (text : Bytes) (width : Int) :
      FLater f g → FLater f (g.encode cid text width).1

theorem flater_extends {f g : FixedEnc} (h : FLater f g) : Extends f g := by
  induction h with
  | refl => exact extends_refl f
  | step g cid text width _ ih => exact extends_trans ih (fixed_encode_extends g cid text width)

/-- the table `all` assigns different codes to different CIDs.  A hypothesis, shown only for Identity
    (`identity_cmap_injective`): `NewFromCMap` fills `all[cid] = code` from the pairs `cmap.All` yields, and
    when a code comes twice, with two CIDs, both CIDs get it (`FixedEnc.ofPairs csrSimple [(8, 8), (8, 100)] 0`
    is not injective). -/
def CMapInjective (f : FixedEnc) : Prop :=
  ∀ cid1 cid2 c, f.all cid1 = some c → f.all cid2 = some c → cid1 = cid2

theorem identityCode_identityCode (a : Nat) (h : a < 65536) : identityCode (identityCode a) = a := by
  unfold identityCode; omega

theorem identity_all {w : Int} {cid c : Nat} (h : (FixedEnc.identity w).all cid = some c) :
    cid < 65536 ∧ c = identityCode cid := by
  simp only [FixedEnc.identity] at h
  split at h
  · next hlt => exact ⟨hlt, (Option.some.inj h).symm⟩
  · cases h

theorem identity_rev_code (w : Int) (cid : Nat) (h : cid < 65536) :
    (FixedEnc.identity w).rev (identityCode cid) = some cid := by
  have : identityCode cid < 65536 := by unfold identityCode; omega
  simp [FixedEnc.identity, this, identityCode_identityCode cid h]

theorem identity_cmap_injective (w : Int) : CMapInjective (FixedEnc.identity w) := by
  intro a b c ha hb
  obtain ⟨h1, rfl⟩ := identity_all ha
  obtain ⟨h2, e⟩ := identity_all hb
  rw [← identityCode_identityCode a h1, e, identityCode_identityCode b h2]

/-- **alloc_injective for fixed CMaps, the part that holds (`_partial`).**  In one history, two
`Encode` calls that both succeed and return the same code were made for the same CID and the same
text: pairs *accepted by `Encode`* never share a code. -/
theorem fixed_encode_injective_partial (f : FixedEnc) (hinj : CMapInjective f)
    (cid1 : Nat) (t1 : Bytes) (w1 : Int) (c : Nat)
    (h1 : (f.encode cid1 t1 w1).2 = .ok c)
    (g : FixedEnc) (hl : FLater (f.encode cid1 t1 w1).1 g)
    (cid2 : Nat) (t2 : Bytes) (w2 : Int)
    (h2 : (g.encode cid2 t2 w2).2 = .ok c) : cid1 = cid2 ∧ t1 = t2 ∧ w1 = w2 := by
  obtain ⟨ha1, hw1, ht1⟩ := fixed_encode_ok h1
  obtain ⟨ha2, hw2, ht2⟩ := fixed_encode_ok h2
  have hfg := extends_trans (fixed_encode_extends f cid1 t1 w1) (flater_extends hl)
  rw [hfg.all] at ha2
  cases hinj cid1 cid2 c ha1 ha2
  -- the entries the first call made are still there after the second, which made its own
  have hx := extends_trans (flater_extends hl) (fixed_encode_extends g cid1 t2 w2)
  have e1 := hx.text c t1 ht1
  have e2 := hx.width cid1 w1 hw1
  rw [ht2] at e1; rw [hw2] at e2
  cases e1; cases e2
  exact ⟨rfl, rfl, rfl⟩

/-- the full-strength statement over what `GetCode` reports (this is what the composite
embedders consult first): two pairs for which `GetCode` returns the same code are equal.  A `def`, since
it is false (`fixed_getcode_full_false`); the identity encoder with notdef width 500 is the state the
counterexample starts from, any other would do. -/
def fixed_getcode_injective_full : Prop :=
  ∀ (f : FixedEnc), FLater (FixedEnc.identity 500) f →
    ∀ (k1 k2 : Key) (c : Nat), f.getCode k1.1 k1.2 = some c → f.getCode k2.1 k2.2 = some c → k1 = k2

/-- **the full statement is false for the code as it is** (finding `fixed-code-shared-text`):
after `Encode(5, "fi", 600)`, `GetCode(5, "ﬁ")` returns the same code although the pair was
never encoded — `(*fixed).GetCode` does not look at the text. -/
theorem fixed_getcode_full_false : ¬ fixed_getcode_injective_full := by
  intro h
  -- `[239, 172, 129]` is U+FB01 "ﬁ" in UTF-8, `1280 = 0x0500` the packed Identity code of CID 5
  have := h ((FixedEnc.identity 500).encode 5 [102, 105] 600).1
    (FLater.step _ _ 5 [102, 105] 600 (FLater.refl _)) (5, [102, 105]) (5, [239, 172, 129]) 1280
    (by decide +kernel) (by decide +kernel)
  simp at this

/-- the three tests of `(*fixed).GetCode` -/
theorem fixed_getcode_in_cmap {f : FixedEnc} {cid : Nat} {text : Bytes} {c : Nat}
    (h : f.getCode cid text = some c) :
    f.all cid = some c ∧ (∃ w, f.width.get cid = some w) ∧ ∃ t, f.text.get c = some t := by
  revert h
  fun_cases FixedEnc.getCode f cid text
  case case3 w hw code hc ht => rintro ⟨⟩; exact ⟨hc, ⟨w, hw⟩, Option.isSome_iff_exists.mp ht⟩
  all_goals rintro ⟨⟩

/-- what holds for `GetCode` in general: the code determines the CID (any injective CMap, any
    state of the width and text tables) -/
theorem fixed_getcode_cid_partial (f : FixedEnc) (hinj : CMapInjective f)
    (k1 k2 : Key) (c : Nat) (h1 : f.getCode k1.1 k1.2 = some c) (h2 : f.getCode k2.1 k2.2 = some c) :
    k1.1 = k2.1 :=
  hinj _ _ _ (fixed_getcode_in_cmap h1).1 (fixed_getcode_in_cmap h2).1

theorem fixed_getcode_unmapped (f : FixedEnc) (cid : Nat) (text : Bytes) (h : f.all cid = none) :
    f.getCode cid text = none := by
  cases hg : f.getCode cid text with
  | none => rfl
  | some c => rw [(fixed_getcode_in_cmap hg).1] at h; cases h

/-- **`GetCode` for CID 0**: for a CMap in which no code maps to CID 0, the encoder made by
`NewFromCMap` — whose width table has CID 0 from the start — answers "no code" for the notdef glyph,
for every text (and not code 0, the zero value of the missing map entry). -/
theorem fixed_getcode_notdef (csr : CSR) (pairs : List (Nat × Nat)) (w0 : Int) (text : Bytes)
    (h : ∀ p ∈ pairs, p.2 ≠ 0) : (FixedEnc.ofPairs csr pairs w0).getCode 0 text = none := by
  apply fixed_getcode_unmapped
  simp only [FixedEnc.ofPairs, Option.map_eq_none_iff, List.find?_eq_none]
  intro p hp
  simpa using h p (List.mem_reverse.mp hp)

/-- **the text of glyph 0 is recorded.**  A fresh Identity encoder does not claim that CID 0 is
encoded although its width is preset (this is what `GetCode`'s test for a recorded text is for), so
the embedders' "GetCode, else Encode" protocol reaches `Encode`; `Encode(0, text, cid0Width)` succeeds
with code 0 and records the text, and from then on `GetCode(0, ·)` answers code 0. -/
theorem identity_notdef_text_recorded (w : Int) (text other : Bytes) :
    (FixedEnc.identity w).getCode 0 text = none ∧
    ((FixedEnc.identity w).encode 0 text w).2 = .ok 0 ∧
    ((FixedEnc.identity w).encode 0 text w).1.text.get 0 = some text ∧
    ((FixedEnc.identity w).encode 0 text w).1.getCode 0 other = some 0 := by
  refine ⟨by simp [FixedEnc.getCode, FixedEnc.identity, Map.get_cons, identityCode], ?_⟩
  have henc : (FixedEnc.identity w).encode 0 text w =
      ({ (FixedEnc.identity w) with text := (FixedEnc.identity w).text.insert 0 text }, .ok 0) := by
    simp [FixedEnc.encode, FixedEnc.setText, FixedEnc.identity, Map.get_cons, identityCode]
  rw [henc]
  refine ⟨rfl, by simp, ?_⟩
  simp [FixedEnc.getCode, FixedEnc.identity, Map.get_cons, identityCode]

/-- in general: whenever `GetCode` answers, a text has been stored for the code by an `Encode` -/
theorem fixed_getcode_text_recorded (f : FixedEnc) (cid : Nat) (text : Bytes) (c : Nat)
    (h : f.getCode cid text = some c) : ∃ t, f.text.get c = some t :=
  (fixed_getcode_in_cmap h).2.2

/-- Identity-H/V: the code `GetCode` reports decodes back to the CID it was asked for, after any
    history -/
theorem identity_getcode_roundtrip (w : Int) (f : FixedEnc) (h : FLater (FixedEnc.identity w) f)
    (cid : Nat) (text : Bytes) (c : Nat) (hg : f.getCode cid text = some c) : f.rev c = some cid := by
  have hx := flater_extends h
  have ha := (fixed_getcode_in_cmap hg).1
  rw [hx.all] at ha
  obtain ⟨hlt, rfl⟩ := identity_all ha
  rw [hx.rev, identity_rev_code w cid hlt]

/-- **why the cache of an extracted composite font must not be keyed by the code value**
(`codeKey` in font/dict/common.go adds the number of bytes and the validity): the incomplete code `<01>` and the valid code `<0100>` of a two-byte
code space have the same packed value; only the number of bytes consumed and the validity tell
them apart. -/
theorem code_value_ambiguous :
    decode csrUCS2 [1] = (1, 1, false) ∧ decode csrUCS2 [1, 0] = (1, 2, true) := by decide +kernel

theorem identityCode_eq_pack (cid : Nat) : identityCode cid = packLE [cid / 256, cid % 256] := by
  simp [identityCode, packLE, packFrom, Nat.mul_comm]

theorem append_ucs2 {cid : Nat} (h : cid < 65536) :
    appendCode csrUCS2 (identityCode cid) = [cid / 256, cid % 256] := by
  rw [identityCode_eq_pack]
  exact appendCode_isCode csrUCS2_bytes (isCode_ucs2 (by omega) (by omega))

/-- what `Codes` of the identity encoder yields for the code of a CID -/
def identityOut (f : FixedEnc) (cid : Nat) : CodeOut :=
  ⟨cid, match f.width.get cid with | some w => w | none => 0,
   match f.text.get (identityCode cid) with | some t => t | none => [], false⟩

/-- Property `codes_readback` for Identity-H/V: after any history of the identity encoder, the string of
the two-byte codes of any CIDs decodes into one entry per CID, carrying the CID, the width
recorded for it and the text recorded for its code. -/
theorem identity_codes_readback (w : Int) (f : FixedEnc) (h : FLater (FixedEnc.identity w) f)
    (cids : List Nat) (hc : ∀ c ∈ cids, c < 65536) :
    f.codes (cids.flatMap fun c => appendCode csrUCS2 (identityCode c)) = cids.map (identityOut f) := by
  have hx := flater_extends h
  refine loop_flatMap f.codeStep f.codesAux (fun _ => rfl) (fun _ => rfl) (fun _ _ _ => rfl) _ _ cids
    (fun c hm => ?_) _ (Nat.le_refl _)
  have hlt := hc c hm
  rw [append_ucs2 hlt]
  refine ⟨by simp, fun rest => ?_⟩
  have hcsr : f.csr = csrUCS2 := hx.csr
  have hd : decode csrUCS2 (c / 256 :: c % 256 :: rest) = (identityCode c, 2, true) := by
    rw [identityCode_eq_pack]
    exact decode_isCode (isCode_ucs2 (by omega) (by omega)) rest
  simp [FixedEnc.codeStep, hcsr, hd, hx.rev, identity_rev_code w c hlt, identityOut]
  -- left: two bytes are consumed; no word spacing, the code being two bytes long
  exact ⟨rfl, rfl⟩

-- non-vacuity: two CIDs encoded, read back from the four bytes
example :
    let f := (((FixedEnc.identity 500).encode 36 [65] 722).1.encode 707 [102, 105] 556).1
    f.codes [0, 36, 2, 195] = [⟨36, 722, [65], false⟩, ⟨707, 556, [102, 105], false⟩] := by
  decide +kernel

end PdfVerif.C14fntb
