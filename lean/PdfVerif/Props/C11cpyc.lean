import PdfVerif.Props.C11cpyb
/-!
C11 (continued) — programs of Copy/CopyReference/Redirect calls: the run that goes on after a failed call
keeps the state consistent (`runOpsE_consistent`), the run that stops is its projection (`run_consistent`);
the crypt recipe of a stream does not depend on its /Type; the independent characterisation of `Resolve`
(`resolve_spec`); references whose chains end at the same object share their copy (`AliasClosed`,
`copy_respects_aliases`); and a concrete cyclic graph that instantiates the theorems (non-vacuity).
-/
namespace PdfVerif.C11cpyc
open PdfVerif PdfVerif.CPY PdfVerif.C11cpy PdfVerif.C11cpyb

/-- reachability that does not look behind redirected references -/
inductive ReachA (G : Graph) (Rd : List Ref) (r : Ref) : Ref → Prop where
  | root : ReachA G Rd r r
  | step {a b : Ref} : ReachA G Rd r a → ¬ Exempt G Rd a → b ∈ specRefs G a → ReachA G Rd r b

/-- In a consistent state the translated part of the source is closed: everything reachable
from a translated reference is translated, written, and the image of its source. -/
theorem consistent_reach {G : Graph} {Rd : List Ref} {s : St} (hc : Consistent G Rd s) {r t : Ref}
    (hr : assoc r s.trans = some t) :
    ∀ b, ReachA G Rd r b → ∃ t', assoc b s.trans = some t' ∧
      (¬ Exempt G Rd b → ∃ v, assoc t' s.puts = some v ∧ Image s.trans G b v) := by
  intro b hb
  induction hb with
  | root => exact ⟨t, hr, fun hn => hc.2.2 r t (assoc_some_mem _ _ _ hr) hn⟩
  | @step a b _ hna hmem ih =>
    obtain ⟨ta, _, hia⟩ := ih
    obtain ⟨va, _, hi⟩ := hia hna
    obtain ⟨tb, htb⟩ := image_refs hi hmem
    exact ⟨tb, htb, fun hn => hc.2.2 b tb (assoc_some_mem _ _ _ htb) hn⟩

theorem redirect_trans {s : St} {r : Ref} (n : Ref) (h : assoc r s.trans = none) :
    (redirect s r n).trans = (r, n) :: s.trans := by
  show (r, n) :: s.trans.filter (fun p => p.1 ≠ r) = (r, n) :: s.trans
  rw [List.filter_eq_self.mpr fun p hp => ?_]
  have := (assoc_none_iff r s.trans).mp h
  simpa using fun e => this (List.mem_map.mpr ⟨p, hp, e⟩)

theorem assoc_redirect (s : St) (r n : Ref) : assoc r (redirect s r n).trans = some n := by
  simp [redirect, setTrans, assoc]

/-- `Redirect(r, n)` before `r` has been copied keeps the state consistent; `r` joins the
    redirected references (whose target object is the caller's business). -/
theorem redirect_consistent {G : Graph} {Rd : List Ref} {s : St} (hc : Consistent G Rd s) (r n : Ref)
    (hfresh : assoc r s.trans = none) : Consistent G (r :: Rd) (redirect s r n) := by
  obtain ⟨c1, c2, c3⟩ := hc
  have htr := redirect_trans n hfresh
  have hext : Extends s.trans ((r, n) :: s.trans) :=
    extends_append [(r, n)] s.trans (by simpa using hfresh)
  refine ⟨c1, c2, ?_⟩
  intro src t hm hr
  rw [htr] at hm ⊢
  rcases List.mem_cons.mp hm with e | e
  · cases e; exact absurd (Or.inl List.mem_cons_self) hr
  · obtain ⟨w, hw, him⟩ := c3 src t e fun he => hr (he.mono fun _ => List.mem_cons_of_mem _)
    exact ⟨w, hw, Image_stable hext G src w him⟩

/-- after `Redirect(r, n)`, `CopyReference(r)` answers `n` and writes nothing -/
theorem redirect_respected (G : Graph) (s : St) (r n : Ref) (f : Nat) :
    copyRef (f + 1) G (redirect s r n) r = .ok (n, redirect s r n) :=
  copy_known (assoc_redirect s r n) f

theorem exempt_append {G : Graph} {Rd : List Ref} (l : List Ref) {src : Ref}
    (h : ¬ Exempt G (l ++ Rd) src) : ¬ Exempt G Rd src :=
  fun h' => h (h'.mono fun _ => List.mem_append_right _)

theorem allocPutE_consistent {G : Graph} {Rd : List Ref} (s : St) (v : Val) (hc : Consistent G Rd s) :
    Consistent G Rd (allocPutE s v).2 :=
  frame_consistent hc (allocPutE_frame s v).1 (allocPutE_frame s v).2

theorem stepOpE_consistent {G : Graph} (hL : LinkInv G) {fuel : Nat} {Rd : List Ref} (s : St)
    (roots : List (Except CErr Ref)) (op : Op) (hc : Consistent G Rd s)
    (hfresh : ∀ r ∈ opRedirect op, assoc r s.trans = none) :
    Consistent G (opRedirect op ++ Rd) (stepOpE fuel G s roots op).2 := by
  cases op with
  | copyRef r => exact (consistent_main hL Rd fuel).ref s r hc
  | copyGet r =>
    rw [stepOpE_copyGet]
    cases CPY.get G r true with
    | error e => exact hc
    | ok v =>
      exact andThen_state ((consistent_main hL Rd fuel).val s v hc) (fun _ h => h)
        fun v' s1 h => allocPutE_consistent s1 v' h
  | copyObj o =>
    rw [stepOpE_copyObj]
    exact andThen_state ((consistent_main hL Rd fuel).obj s o hc) (fun _ h => h)
      fun o' s1 h => allocPutE_consistent s1 (.obj o') h
  | redirectNew r m =>
    rw [stepOpE_redirectNew]
    refine andThen_state (P := fun s1 => Consistent G Rd s1 ∧ s1.trans = s.trans)
      ⟨allocPutE_consistent s (.obj m) hc, (allocPutE_frame s (.obj m)).2⟩
      (fun _ h => consistent_mono (fun _ => List.mem_cons_of_mem _) h.1)
      fun n s1 h => redirect_consistent h.1 r n (by rw [h.2]; exact hfresh r (by simp [opRedirect]))
  | redirectTo r k =>
    simp only [stepOpE, opRedirect, List.cons_append, List.nil_append]
    split
    · next t ht => exact redirect_consistent hc r t (hfresh r (by simp [opRedirect]))
    · exact consistent_mono (fun _ => List.mem_cons_of_mem _) hc
/-- every `Redirect` of the run is applied to a source reference that has not been translated -/
def RedirectsFresh (fuel : Nat) (G : Graph) : St → List Ref → List Op → Prop
  | _, _, [] => True
  | s, roots, op :: ops =>
    (∀ r ∈ opRedirect op, assoc r s.trans = none) ∧
    match stepOp fuel G s roots op with
    | .ok (t, s') => RedirectsFresh fuel G s' (roots ++ [t]) ops
    | .error _ => True

def redirectsOf : List Op → List Ref
  | [] => []
  | op :: ops => redirectsOf ops ++ opRedirect op

theorem runOpsE_consistent {G : Graph} (hL : LinkInv G) {fuel : Nat} :
    ∀ (ops : List Op) (Rd : List Ref) (s : St) (roots : List (Except CErr Ref)),
      Consistent G Rd s → C11cpyd.RedirectsFreshE fuel G s roots ops →
      Consistent G (redirectsOf ops ++ Rd) (runOpsE fuel G s roots ops).2
  | [], Rd, s, roots, hc, _ => by simpa [runOpsE, redirectsOf] using hc
  | op :: ops, Rd, s, roots, hc, hf => by
    simp only [C11cpyd.RedirectsFreshE] at hf
    have hc1 := stepOpE_consistent hL (fuel := fuel) s roots op hc hf.1
    have := runOpsE_consistent hL ops _ _ _ hc1 hf.2
    simp only [runOpsE]
    simpa [redirectsOf, List.append_assoc] using this

theorem redirectsFresh_sim (fuel : Nat) (G : Graph) : ∀ (ops : List Op) (s : St) (roots roots' : List Ref) (s' : St),
    runOps fuel G s roots ops = .ok (roots', s') → RedirectsFresh fuel G s roots ops →
      C11cpyd.RedirectsFreshE fuel G s (roots.map .ok) ops
  | [], _, _, _, _, _, _ => trivial
  | op :: ops, s, roots, roots', s', h, hf => by
    simp only [runOps, RedirectsFresh, stepOp_sim] at h hf
    simp only [C11cpyd.RedirectsFreshE]
    rcases hs : stepOpE fuel G s (roots.map .ok) op with ⟨_ | t, s1⟩
    · rw [hs] at h; cases h
    · rw [hs] at h hf
      exact ⟨hf.1, by simpa using redirectsFresh_sim fuel G ops s1 (roots ++ [t]) roots' s' h hf.2⟩

/-- Any program of `Copy`, `CopyReference` and (fresh) `Redirect` calls that
starts in a consistent state (a new `Copier`: `init_consistent`) and runs without error leaves a
consistent state. -/
theorem run_consistent {G : Graph} (hL : LinkInv G) {fuel : Nat} :
    ∀ (ops : List Op) (Rd : List Ref) (s : St) (roots roots' : List Ref) (s' : St),
      Consistent G Rd s → RedirectsFresh fuel G s roots ops →
      runOps fuel G s roots ops = .ok (roots', s') → Consistent G (redirectsOf ops ++ Rd) s'
  | ops, Rd, s, roots, roots', s', hc, hf, h => by
    have := runOpsE_consistent hL ops Rd s (roots.map .ok) hc (redirectsFresh_sim fuel G ops s roots roots' s' h hf)
    have hs := runOps_sim G fuel ops s roots
    rw [h] at hs
    rwa [hs] at this

/-- a stream the Reader hands out without a decryption filter (unencrypted file, or the
    catalog's /Metadata stream of a file with /EncryptMetadata false — the only exempt one) is
    copied verbatim -/
theorem recipe_unencrypted (G : Graph) (d : KV) : streamCryptRecipe G d false = .ok .none := by
  simp [streamCryptRecipe]

/-- Whether (and how) a stream is decrypted does not depend on its
    /Type entry: a stream with /Type /Metadata that is not the catalog's is decrypted like any
    other stream. -/
theorem recipe_ignores_type (G : Graph) (d : KV) (enc : Bool) (v : Obj) :
    streamCryptRecipe G (kvSet keyType v d) enc = streamCryptRecipe G d enc := by
  have h1 : keyFilter ≠ keyType := by decide
  have h2 : keyDecodeParms ≠ keyType := by decide
  simp only [streamCryptRecipe, getFilterKinds, kvLookup_kvSet_ne h1, kvLookup_kvSet_ne h2]

/-- `Follows G r k v`: starting at `r`, after `k` further hops through objects that are
    themselves references, the chain ends at the non-reference value `v`. -/
inductive Follows (G : Graph) : Ref → Nat → Val → Prop where
  | last {r : Ref} {v : Val} : CPY.get G r true = .ok v → ¬ IsRef v → Follows G r 0 v
  | next {r : Ref} {n g k : Nat} {v : Val} :
      CPY.get G r true = .ok (.obj (.ref n g)) → Follows G (n, g) k v → Follows G r (k+1) v

theorem get_ref_inj {G : Graph} {k x y : Ref} (h1 : CPY.get G k true = .ok (.obj (.ref x.1 x.2)))
    (h2 : CPY.get G k true = .ok (.obj (.ref y.1 y.2))) : x = y := by
  rw [h1] at h2
  injection h2 with h2; injection h2 with h2; injection h2 with ha hb
  exact Prod.ext ha hb

theorem follows_step {G : Graph} {a c : Ref} {n : Nat} {v : Val}
    (hg : CPY.get G a true = .ok (.obj (.ref c.1 c.2))) (hf : Follows G a n v) :
    ∃ m, n = m + 1 ∧ Follows G c m v := by
  cases hf with
  | last hg' hn => rw [hg] at hg'; cases hg'; exact absurd trivial hn
  | @next _ n' g' k _ hg' hf' =>
    cases get_ref_inj (y := (n', g')) hg hg'
    exact ⟨k, rfl, hf'⟩

theorem Follows.det {G : Graph} {r : Ref} {k k' : Nat} {v v' : Val}
    (h : Follows G r k v) (h' : Follows G r k' v') : k = k' ∧ v = v' := by
  induction h generalizing k' v' with
  | last hg hn =>
    cases h' with
    | last hg' _ => rw [hg] at hg'; cases hg'; exact ⟨rfl, rfl⟩
    | next hg' _ => rw [hg] at hg'; cases hg'; exact absurd trivial hn
  | @next _ n g _ _ hg _ ih =>
    obtain ⟨m, rfl, hf'⟩ := follows_step (c := (n, g)) hg h'
    exact ⟨congrArg (· + 1) (ih hf').1, (ih hf').2⟩

theorem resolveLoop_of_follows {G : Graph} {r : Ref} {k : Nat} {v : Val} (h : Follows G r k v) :
    ∀ (d : Nat) (path : List Ref), k < d → (∀ p ∈ path, ∃ kp, kp > k ∧ Follows G p kp v) →
      resolveLoop G true d path r = .ok v := by
  -- the links on the path are further from the end than `r` is
  have fresh : ∀ {r k v}, Follows G r k v → ∀ path : List Ref,
      (∀ p ∈ path, ∃ kp, kp > k ∧ Follows G p kp v) → r ∉ path := by
    intro r k v hf path hpath hc
    obtain ⟨kp, hk, hf'⟩ := hpath r hc
    have := (Follows.det hf' hf).1
    omega
  induction h with
  | @last r v hg hn =>
    intro d path hd hpath
    obtain ⟨d, rfl⟩ : ∃ d', d = d' + 1 := ⟨d - 1, by omega⟩
    exact resolveLoop_end (fresh (.last hg hn) path hpath) hg hn
  | @next r n g k v hg hf ih =>
    intro d path hd hpath
    obtain ⟨d, rfl⟩ : ∃ d', d = d' + 1 := ⟨d - 1, by omega⟩
    rw [resolveLoop_ref (fresh (.next hg hf) path hpath) hg]
    apply ih d (r :: path) (by omega)
    intro p hp
    rcases List.mem_cons.mp hp with e | e
    · subst e; exact ⟨k + 1, by omega, Follows.next hg hf⟩
    · obtain ⟨kp, hk, hf'⟩ := hpath p e
      exact ⟨kp, by omega, hf'⟩

theorem follows_of_resolveLoop {G : Graph} (d : Nat) (path : List Ref) (r : Ref) (v : Val) :
    resolveLoop G true d path r = .ok v → ∃ k, k < d ∧ Follows G r k v := by
  -- cases as in `CPY.resolveLoop_ne_fuel`: only 4 (one link further) and 5 (not a reference) return a value
  fun_induction resolveLoop G true d path r with
  | case1 => simp
  | case2 => simp
  | case3 => simp
  | case4 d _ _ _ n g hg ih =>
    intro h
    obtain ⟨k, hk, hf⟩ := ih h
    exact ⟨k + 1, by omega, Follows.next hg hf⟩
  | case5 d _ _ _ v' hne hg =>
    intro h; cases h
    exact ⟨0, by omega, Follows.last hg (not_isRef hne)⟩

/-- `Resolve(r)` returns `v` exactly when the chain of references starting at
`r` ends at the non-reference `v` after fewer than `MaxExtractDepth` further hops. -/
theorem resolve_spec (G : Graph) (r : Ref) (v : Val) :
    resolve G true (.ref r.1 r.2) = .ok v ↔ ∃ k, k < Gen.cpy_MaxExtractDepth ∧ Follows G r k v := by
  constructor
  · intro h; exact follows_of_resolveLoop _ _ _ _ h
  · rintro ⟨k, hk, hf⟩
    exact resolveLoop_of_follows hf _ [] hk (by simp)

/-- `Image` read through the chain relation: if the chain from `b` ends at the non-reference
value `v`, the object written for `b` is the image of `v` itself (chain shortening). -/
theorem image_of_chain {tr : List (Ref × Ref)} {G : Graph} {b : Ref} {k : Nat} {v w : Val}
    (hf : Follows G b k v) (hk : k < Gen.cpy_MaxExtractDepth) (him : Image tr G b w) :
    ∃ sp, specVal G v = some sp ∧ mapVal tr sp = some w := by
  obtain ⟨sv, sp, h1, h2, h3⟩ := him
  have hres : resolve G true (.ref b.1 b.2) = .ok v := (resolve_spec G b v).mpr ⟨k, hk, hf⟩
  have : sv = v := by
    unfold resolveOrNull at h1
    rw [hres] at h1
    cases h1; rfl
  subst this
  exact ⟨sp, h2, h3⟩

/-- the chain of references from `k` ends properly within the depth `Resolve` admits.  `AliasClosed` asks
    for it because a chain that does not (malformed link, loop, too deep) is entered as `[r]` only
    (`WEnds.shape`, first case).  `Follows` counts the hops of a chain, `EndsAt` names its last object,
    `C11cpy.Leads` relates two of its links. -/
def ProperEnd (G : Graph) (k : Ref) : Prop := ∃ n v, Follows G k n v ∧ n < Gen.cpy_MaxExtractDepth

/-- `e` is the object the reference `a` stands for: the end of its chain of references -/
inductive EndsAt (G : Graph) : Ref → Ref → Prop where
  | here {e : Ref} {v : Val} : CPY.get G e true = .ok v → ¬ IsRef v → EndsAt G e e
  | step {a c e : Ref} : CPY.get G a true = .ok (.obj (.ref c.1 c.2)) → EndsAt G c e → EndsAt G a e

/-- `trans` treats a chain of references as one object: whenever a translated reference is an
    alias object (its value is a reference) whose chain ends properly, the next link has the same
    translation -/
def AliasClosed (G : Graph) (Rd : List Ref) (s : St) : Prop :=
  ∀ k t x, (k, t) ∈ s.trans → ¬ Exempt G Rd k → CPY.get G k true = .ok (.obj (.ref x.1 x.2)) →
    ProperEnd G k → assoc x s.trans = some t

theorem aliasClosed_init (G : Graph) (Rd : List Ref) (n0 : Nat) : AliasClosed G Rd (St.init n0) := by
  intro k t x hm; simp [St.init] at hm

theorem not_properEnd_of_malformed {G : Graph} {r : Ref}
    (h : resolveLoop G true Gen.cpy_MaxExtractDepth [] r = .error .malformed) : ¬ ProperEnd G r := by
  rintro ⟨n, v, hf, hn⟩
  have := (resolve_spec G r v).mpr ⟨n, hn, hf⟩
  simp only [resolve] at this
  rw [h] at this; cases this

theorem aliasClosed_enter {G : Graph} {Rd : List Ref} {s s' : St} {chain : List Ref} {t : Ref}
    (hq : AliasClosed G Rd s) (hs' : s'.trans = enter chain t s.trans)
    (hfresh : ∀ k ∈ chain, assoc k s.trans = none)
    (hlinks : ∀ k ∈ chain, ∀ x, CPY.get G k true = .ok (.obj (.ref x.1 x.2)) → ProperEnd G k →
      assoc x (enter chain t s.trans) = some t) : AliasClosed G Rd s' := by
  intro k t' x hm hex hg hpe
  rw [hs'] at hm ⊢
  rcases mem_enter hm with ⟨hk, ht⟩ | hm'
  · subst ht; exact hlinks k hk x hg hpe
  · have h1 := hq k t' x hm' hex hg hpe
    have hxc : x ∉ chain := fun h => by have := hfresh x h; rw [h1] at this; cases this
    rw [assoc_enter_other hxc]; exact h1

theorem aliasClosed_calls (G : Graph) (Rd : List Ref) :
    ∀ f, CallsE G f fun s s' => AliasClosed G Rd s → AliasClosed G Rd s' := by
  refine relE_main (fun _ h => h) (fun h12 h23 h => h23 (h12 h)) G ?_
  intro f s r ih hq
  have hs := copyRefE_step G f s r
  generalize copyRefE (f+1) G s r = x at hs
  cases hs with
  | old | fails | full | nested | refused => exact hq   -- `trans` is as it was
  | known hn hw =>
    have w := walk_known hn hw
    obtain ⟨x0, hx0, _, hnext⟩ := w.link
    have hx0c : x0 ∉ _ := fun h => by have := w.fresh x0 h; rw [hx0] at this; cases this
    refine aliasClosed_enter hq rfl w.fresh fun k hk x hg _ => ?_
    obtain ⟨y, hy, hyc⟩ := hnext k hk
    cases get_ref_inj hg hy
    rcases hyc with h | h
    · exact assoc_enter_mem h
    · subst h; rw [assoc_enter_other hx0c]; exact hx0
  | @copied v chain v' s3 s4 hn hw hv hp =>
    -- all links of the chain are entered; the nested `Copy` keeps the property, `Put` leaves `trans`
    rw [put_ok hp]
    have := ih (entered s chain) v
    rw [hv] at this
    refine this ?_
    have w := walk_ends hn hw
    refine aliasClosed_enter hq rfl w.fresh fun k hk x hg hpe => ?_
    rcases w.shape with ⟨hc, _, hmal⟩ | ⟨_, e, _, hge, hnr, _, hnext⟩
    · rw [hc] at hk; simp only [List.mem_singleton] at hk; subst hk
      exact absurd hpe (not_properEnd_of_malformed hmal)
    · by_cases hke : k = e
      · subst hke
        rw [hg] at hge; cases hge
        exact absurd trivial hnr
      · obtain ⟨y, hy, hgy⟩ := hnext k hk hke
        cases get_ref_inj hg hgy
        exact assoc_enter_mem hy

/-- Every successful `CopyReference` keeps `trans` closed under "next link of the
    chain". -/
theorem aliasClosed_main (G : Graph) (Rd : List Ref) (f : Nat) :
    ∀ s r t s', copyRef f G s r = .ok (t, s') → AliasClosed G Rd s → AliasClosed G Rd s' := by
  intro s r t s' h
  have := (aliasClosed_calls G Rd f).ref s r
  rwa [(copyRefE_ok G).mpr h] at this

theorem aliasClosed_end {G : Graph} {Rd : List Ref} {s : St} (hA : AliasClosed G Rd s) {a e : Ref}
    (he : EndsAt G a e) : ∀ {ta : Ref}, assoc a s.trans = some ta → ProperEnd G a → ¬ Exempt G Rd a →
      assoc e s.trans = some ta := by
  induction he with
  | here _ _ => intro ta h _ _; exact h
  | @step a c e hg _ ih =>
    intro ta h hp hx
    have hc := hA a ta c (assoc_some_mem _ _ _ h) hx hg hp
    apply ih hc
    · obtain ⟨n, v, hf, hn⟩ := hp
      obtain ⟨m, hm, hf'⟩ := follows_step hg hf
      exact ⟨m, v, hf', by omega⟩
    · exact fun h => hx (h.of_leads (.one hg))

/-- Two source references which stand for the same object - their
chains of references (`N 0 obj M 0 R endobj`) end at the same object - are translated to the
same target object: an object reached directly and through alias objects is copied once.
(Chains within the depth `Resolve` admits; references the caller redirected are his business.) -/
theorem copy_respects_aliases {G : Graph} {Rd : List Ref} {s : St} (hA : AliasClosed G Rd s)
    {a b e ta tb : Ref} (ha : assoc a s.trans = some ta) (hb : assoc b s.trans = some tb)
    (hea : EndsAt G a e) (heb : EndsAt G b e) (hpa : ProperEnd G a) (hpb : ProperEnd G b)
    (hxa : ¬ Exempt G Rd a) (hxb : ¬ Exempt G Rd b) : ta = tb := by
  have h1 := aliasClosed_end hA hea ha hpa hxa
  have h2 := aliasClosed_end hA heb hb hpb hxb
  rw [h1] at h2; cases h2; rfl

def kKids : Bytes := [75, 105, 100, 115]
def kSelf : Bytes := [83, 101, 108, 102]
def kE : Bytes := [69]
def kParent : Bytes := [80, 97, 114, 101, 110, 116]
def kD : Bytes := [68]

/-- a cyclic example: 2 → [3] → (chain) 4 → back to 2, a self reference, a dangling reference,
    an empty array, a stream with an indirect /Filter -/
def G0 : Graph :=
  [ ((2, 0), ⟨.val (.obj (.dict [(kKids, .arr [.ref 3 0]), (kSelf, .ref 2 0), (kE, .arr [])])), false⟩),
    ((3, 0), ⟨.val (.obj (.ref 4 0)), false⟩),
    ((4, 0), ⟨.val (.obj (.dict [(kParent, .ref 2 0), (kD, .ref 9 0), (kSelf, .ref 5 0)])), true⟩),
    ((5, 0), ⟨.val (.stream [(keyFilter, .ref 6 0)] [1, 2, 3] true), false⟩),
    ((6, 0), ⟨.val (.obj (.name [65])), false⟩) ]

def showSt (r : Except CErr (Ref × St)) : Option (Ref × Nat × List Ref × List Ref) :=
  match r with
  | .ok (t, s) => some (t, s.next, s.trans.map Prod.fst, s.puts.map Prod.fst)
  | .error _ => none

/-- non-vacuity: the copy of `G0` from object 2 succeeds; five objects are allocated (2..6), the
    dangling reference 9 0 R included, and each is written once; the alias 3 and the object 4 it
    stands for are both translated (to the same object) -/
example : showSt (copyRef 30 G0 (St.init 2) (2, 0)) =
    some ((2, 0), 7, [(6, 0), (5, 0), (9, 0), (3, 0), (4, 0), (2, 0)], [(4, 0), (6, 0), (5, 0), (3, 0), (2, 0)]) := by
  decide +kernel

/-- 2 is reachable from itself, and the alias object 3 from 2 -/
example : Reach G0 (2, 0) (2, 0) ∧ Reach G0 (2, 0) (3, 0) := by
  refine ⟨.root, .step .root ?_⟩
  decide +kernel

/-- the stream 5 is reachable from 2 through the chain 3 → 4, and refers on to 6 by /Filter -/
theorem reach_G0 : Reach G0 (2, 0) (5, 0) := by
  refine .step (.step .root ?_) ?_ (a := (3, 0)) <;> decide +kernel

/-- `G0` has no over-deep chain: its only alias object is 3 → 4 -/
theorem linkInv_G0 : LinkInv G0 := by
  intro a n g h
  rcases get_entry h with hv | ⟨e, hm, hv⟩
  · cases hv
  · simp only [G0, List.mem_cons, Prod.mk.injEq, List.not_mem_nil, or_false] at hm
    -- only entry 3 is a reference; `resolveOrNull G0 (3, 0) = resolveOrNull G0 (4, 0)` by evaluation
    rcases hm with ⟨rfl, rfl⟩ | ⟨rfl, rfl⟩ | ⟨rfl, rfl⟩ | ⟨rfl, rfl⟩ | ⟨rfl, rfl⟩ <;> cases hv
    rfl

/-- `copy_iso` applies to `G0` (hypotheses are satisfiable, conclusion is about a stream reached
    through a chain inside a cycle) -/
example : ∀ t s', copyRef 30 G0 (St.init 2) (2, 0) = .ok (t, s') →
    ∃ t' v, assoc (5, 0) s'.trans = some t' ∧ assoc t' s'.puts = some v ∧ Image s'.trans G0 (5, 0) v :=
  fun _ _ h => copy_iso linkInv_G0 (init_consistent G0 2) h (5, 0) reach_G0

/-- 9 0 R is not defined in `G0`: it resolves to null -/
example : resolveOrNull G0 (9, 0) = .ok (.obj .null) := resolveOrNull_missing (by decide +kernel)

/-- the chain 3 → 4 ends after one hop -/
example : ∃ v, Follows G0 (3, 0) 1 v := by
  refine ⟨_, .next (n := 4) (g := 0) rfl (.last (v := .obj (.dict [(kParent, .ref 2 0), (kD, .ref 9 0), (kSelf, .ref 5 0)])) ?_ ?_)⟩
  · rfl
  · simp [IsRef]

/-- the driver's fuel for `G0` and the one-call program -/
example : fuelFor G0 [.copyRef (2, 0)] = 180 := by decide +kernel

/-- non-vacuity: `G0` is benign for the one-call program, for every target (its stream names no
    /Crypt filter) -/
example (tv : Nat) : Benign G0 tv (allRefs G0 [.copyRef (2, 0)]) := by
  intro r hr
  have hmem : r ∈ [(3, 0), (2, 0), (4, 0), (2, 0), (9, 0), (5, 0), (6, 0), (2, 0)] := by
    have : allRefs G0 [.copyRef (2, 0)] = [(3, 0), (2, 0), (4, 0), (2, 0), (9, 0), (5, 0), (6, 0), (2, 0)] := by
      decide +kernel
    rw [this] at hr; exact hr
  simp only [List.mem_cons, List.not_mem_nil, or_false] at hmem
  rcases hmem with h | h | h | h | h | h | h | h <;> subst h
  -- only (5, 0) is a stream: the other seven are benign without more, the second alternative is for it
  all_goals first
    | exact ⟨_, rfl, trivial⟩
    | (refine ⟨_, rfl, ?_, ⟨.dflt, rfl, by decide⟩, ?_⟩
       · intro key hk val hv
         rcases hk with e | e <;> subst e
         · cases hv; exact ⟨_, rfl⟩
         · cases hv
       · intro d hd
         have e : specDict G0 [(keyFilter, .ref 6 0)] = some [(keyFilter, .name [65])] := rfl
         rw [e] at hd; cases hd
         rfl)

/-- `copy_respects_aliases` applies to `G0`: the alias 3 and the object 4 share their copy -/
example : ∀ t s', copyRef 30 G0 (St.init 2) (2, 0) = .ok (t, s') →
    ∀ ta tb, assoc (3, 0) s'.trans = some ta → assoc (4, 0) s'.trans = some tb → ta = tb := by
  intro t s' h ta tb ha hb
  have hA := aliasClosed_main G0 [] 30 _ _ _ _ h (aliasClosed_init G0 [] 2)
  have h4 : CPY.get G0 (4, 0) true =
      .ok (.obj (.dict [(kParent, .ref 2 0), (kD, .ref 9 0), (kSelf, .ref 5 0)])) := rfl
  have hn4 : ¬ IsRef (.obj (.dict [(kParent, .ref 2 0), (kD, .ref 9 0), (kSelf, .ref 5 0)])) := by simp [IsRef]
  have h3 : CPY.get G0 (3, 0) true = .ok (.obj (.ref 4 0)) := rfl
  exact copy_respects_aliases hA ha hb (.step (c := (4, 0)) h3 (.here h4 hn4)) (.here h4 hn4)
    ⟨1, _, .next (n := 4) (g := 0) h3 (.last h4 hn4), by decide⟩ ⟨0, _, .last h4 hn4, by decide⟩
    (not_exempt_nil G0 _) (not_exempt_nil G0 _)

end PdfVerif.C11cpyc
