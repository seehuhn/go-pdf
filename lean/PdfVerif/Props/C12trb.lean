import PdfVerif.Lemmas.TRCharcode
import PdfVerif.Props.C12cce
/-!
# C12 (translator bridge): the CC hand model = the code GENERATED from font/charcode

`Model/CCCodec.lean` (on which `Props/C12cc*.lean` are proved) models `Range.IsValid`, `minLength`,
`canMerge` and `CodeSpaceRange.matchLen` by structural recursion over byte lists (`Nat < 256`).
Each is proved equal here to the function `tools/extract` re-creates from the Go source on every run
(`Gen.charcode_*`), on the domain on which the Go function does not panic.
-/
namespace PdfVerif.C12trb
open PdfVerif PdfVerif.Gen PdfVerif.Go PdfVerif.C12tr

/-- bytes of the generated code (`UInt8`) as bytes of the hand models (`Nat`) -/
def nat (bs : List UInt8) : Bytes := bs.map (·.toNat)
@[simp] theorem nat_length (bs : List UInt8) : (nat bs).length = bs.length := by simp [nat]
@[simp] theorem nat_nil : nat [] = [] := rfl
@[simp] theorem nat_cons (a : UInt8) (as : List UInt8) : nat (a :: as) = a.toNat :: nat as := rfl

/-- the hand-model range of a generated range -/
def mr (r : charcode_Range) : CC.Range := ⟨nat r.Low, nat r.High⟩

theorem byteAt_nat (l : List UInt8) (i : Nat) : CC.byteAt (nat l) i = (l.getD i 0).toNat := by
  unfold CC.byteAt nat
  rw [List.getElem?_map, List.getD_eq_getElem?_getD]
  cases l[i]? <;> rfl

theorem leAll_iff (a b : List UInt8) (h : a.length = b.length) :
    CC.leAll (nat a) (nat b) = true ↔ ∀ k, k < a.length → a.getD k 0 ≤ b.getD k 0 := by
  rw [C12cce.leAll_iff _ _ (by simp [h])]
  simp only [byteAt_nat, nat_length, UInt8.le_iff_toNat_le]

/-- hand model `Range.isValid` = generated `Range.IsValid` (every pair of byte strings) -/
theorem isValid_bridge (r : charcode_Range) :
    charcode_Range_IsValid r = some (CC.Range.isValid (mr r)) := by
  rw [isValid_spec]
  congr 1
  rw [Bool.eq_iff_iff, decide_eq_true_eq]
  unfold CC.Range.isValid mr RangeValid
  rw [nat_length, nat_length]
  by_cases h : r.Low.length = r.High.length
  · simp only [leAll_iff _ _ h, h, bne_self_eq_false, Bool.false_or, Bool.if_false_left, Bool.and_eq_true,
      Bool.not_eq_true', decide_eq_false_iff_not, true_and]
    rw [← and_assoc]
    exact and_congr_left' (by simp only [Bool.or_eq_true, beq_iff_eq, decide_eq_true_eq]; omega)
  · simp [h]

/-- hand model `minLength` = generated `minLength` (every code space range) -/
theorem minLength_bridge (csr : List charcode_Range) (hl : csr.length < 9223372036854775808) :
    charcode_minLength csr = some ((CC.minLength (csr.map mr) : Nat) : Int) := by
  rw [minLength_spec csr]
  congr 1
  cases csr with
  | nil => rfl
  | cons r rs =>
    simp only [List.map_cons, CC.minLength]
    have key : ∀ (l : List charcode_Range) (m : Nat),
        l.foldl (fun m q => min m (len q.Low)) (m : Int) =
        (((l.map mr).foldl (fun m r => if r.low.length < m then r.low.length else m) m : Nat) : Int) := by
      intro l
      induction l with
      | nil => intro m; rfl
      | cons q qs ih =>
        intro m
        simp only [List.foldl_cons, List.map_cons]
        have e : min (m : Int) (len q.Low) = ((if (mr q).low.length < m then (mr q).low.length else m : Nat) : Int) := by
          simp only [mr, nat_length, len]
          split <;> omega
        rw [e]
        exact ih _
    have := key rs r.Low.length
    simpa [mr, len] using this

theorem rangeMatches_iff (lo hi s : List UInt8) (h1 : lo.length ≤ hi.length) (h2 : lo.length ≤ s.length) :
    CC.rangeMatches (nat lo) (nat hi) (nat s) = true ↔
      ∀ k, k < lo.length → lo.getD k 0 ≤ s.getD k 0 ∧ s.getD k 0 ≤ hi.getD k 0 := by
  induction lo generalizing hi s with
  | nil => simp [CC.rangeMatches]
  | cons x xs ih =>
    cases hi with
    | nil => simp at h1
    | cons y ys =>
      cases s with
      | nil => simp at h2
      | cons b bs =>
        simp only [List.length_cons] at h1 h2
        simp only [nat_cons, CC.rangeMatches, List.length_cons, Nat.forall_lt_succ_left, List.getD_cons_zero,
          List.getD_cons_succ, Bool.if_false_left, Bool.and_eq_true, Bool.not_eq_true',
          decide_eq_false_iff_not, ih ys bs (by omega) (by omega), UInt8.le_iff_toNat_le]
        exact and_congr_left' (by simp only [Bool.or_eq_true, decide_eq_true_eq]; omega)

/-- hand model `matchLen` = generated `matchLen` (ranges with `len High ≥ len Low`) -/
theorem matchLen_bridge (csr : List charcode_Range) (s : List UInt8)
    (hv : ∀ r ∈ csr, r.Low.length ≤ r.High.length) :
    charcode_CodeSpaceRange_matchLen csr s = some ((CC.matchLen (csr.map mr) (nat s) : Nat) : Int) := by
  rw [matchLen_spec csr s hv]
  congr 1
  induction csr with
  | nil => rfl
  | cons r rs ih =>
    have hr := hv r (by simp)
    have ih' := ih (fun q hq => hv q (by simp [hq]))
    simp only [List.map_cons, CC.matchLen, List.find?_cons, mr, nat_length]
    by_cases hlen : s.length < r.Low.length
    · have hn : ¬ prefixInBox r s := fun hp => by have := hp.1; omega
      simp only [hlen, if_true, hn, decide_false]
      exact ih'
    · have e : decide (prefixInBox r s) = CC.rangeMatches (nat r.Low) (nat r.High) (nat s) := by
        rw [Bool.eq_iff_iff, decide_eq_true_eq, rangeMatches_iff _ _ _ hr (by omega)]
        exact ⟨fun hp => hp.2, fun h => ⟨by omega, h⟩⟩
      rw [if_neg hlen, e]
      cases CC.rangeMatches (nat r.Low) (nat r.High) (nat s)
      · exact ih'
      · simp [len]

theorem mergeStep_succ (a b c d : UInt8) (rl rh sl sh : List UInt8) (n : Int) (k : Nat) :
    mergeStep ⟨a :: rl, b :: rh⟩ ⟨c :: sl, d :: sh⟩ n (k + 1) = mergeStep ⟨rl, rh⟩ ⟨sl, sh⟩ n k := by
  simp [mergeStep, differs, adjacent]

theorem mergeStep_zero (a b c d : UInt8) (rl rh sl sh : List UInt8) (n : Int) :
    mergeStep ⟨a :: rl, b :: rh⟩ ⟨c :: sl, d :: sh⟩ n 0 =
      if a.toNat == c.toNat && b.toNat == d.toNat then some n
      else if !(b.toNat + 1 == c.toNat) || decide (n > 0) then none else some (n + 1) := by
  have hd : differs ⟨a :: rl, b :: rh⟩ ⟨c :: sl, d :: sh⟩ 0 = !(a.toNat == c.toNat && b.toNat == d.toNat) := by
    simp only [differs, List.getD_cons_zero]
    congr 1
    rw [Bool.eq_iff_iff]
    simp [UInt8.toNat_inj]
  have ha : adjacent ⟨a :: rl, b :: rh⟩ ⟨c :: sl, d :: sh⟩ 0 = (b.toNat + 1 == c.toNat) := by
    simp only [adjacent, List.getD_cons_zero]
    rw [Bool.eq_iff_iff]
    simp only [decide_eq_true_eq, beq_iff_eq]
    omega
  unfold mergeStep
  rw [hd, ha, Bool.not_not]

theorem canMergeLoop_eq (rl rh sl sh : List UInt8) (n : Nat)
    (h1 : rl.length = n) (h2 : rh.length = n) (h3 : sl.length = n) (h4 : sh.length = n) (numAdj : Nat) :
    CC.canMergeLoop (nat rl) (nat rh) (nat sl) (nat sh) numAdj =
      ((List.range n).foldlM (mergeStep ⟨rl, rh⟩ ⟨sl, sh⟩) (numAdj : Int)).isSome := by
  induction n generalizing rl rh sl sh numAdj with
  | zero =>
    have : rl = [] := List.length_eq_zero_iff.mp h1
    subst this
    simp [CC.canMergeLoop]
  | succ n ih =>
    match rl, rh, sl, sh, h1, h2, h3, h4 with
    | a :: rl, b :: rh, c :: sl, d :: sh, h1, h2, h3, h4 =>
      simp only [List.length_cons, Nat.add_right_cancel_iff] at h1 h2 h3 h4
      rw [List.range_succ_eq_map, List.foldlM_cons]
      simp only [List.foldlM_map, Nat.succ_eq_add_one, mergeStep_succ, nat_cons, CC.canMergeLoop]
      rw [mergeStep_zero]
      cases (a.toNat == c.toNat && b.toNat == d.toNat)
      · cases (b.toNat + 1 == c.toNat)
        · rfl
        · by_cases hn : numAdj > 0
          · simp [hn]
          · simpa [hn] using ih rl rh sl sh h1 h2 h3 h4 (numAdj + 1)
      · simpa using ih rl rh sl sh h1 h2 h3 h4 numAdj

/-- hand model `canMerge` = generated `canMerge` whenever the four bound strings have the
same length (the Go function panics on shorter `High`; the hand model does not model that) -/
theorem canMerge_bridge (r s : charcode_Range) (hl : r.Low.length < 4611686018427387904)
    (h2 : r.High.length = r.Low.length) (h3 : s.Low.length = r.Low.length) (h4 : s.High.length = r.Low.length) :
    charcode_canMerge r s = some (CC.canMerge (mr r) (mr s)) := by
  rw [canMerge_eq r s h2 h3 h4]
  congr 1
  unfold CC.canMerge mr
  rw [nat_length, nat_length, if_neg (by simp [h3])]
  exact (canMergeLoop_eq r.Low r.High s.Low s.High r.Low.length rfl h2 h3 h4 0).symm

end PdfVerif.C12trb
