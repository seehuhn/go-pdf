import PdfVerif.Props.C12cch
/-!
# C12 (part 9) — `matchLen` cannot distinguish the reported range set from the original

`matchLen_congr`: for prefix-free sets of well-shaped ranges `matchLen` depends only on the set of codes (the first
range that starts-matches an input has the one length all such ranges have, `C12cc.starts_unique`); with
`C12cch.codeSpaceRange_total` this gives `csr_matchLen`.
-/
namespace PdfVerif.C12cci
open PdfVerif PdfVerif.CC PdfVerif.C12cc PdfVerif.C12ccc PdfVerif.C12cce PdfVerif.C12ccf
open PdfVerif.C12cch PdfVerif.Spec.CodeSpace

theorem rangeMatches_eq (lo hi s : Bytes) (h : lo.length = hi.length) :
    rangeMatches lo hi s = withinFirst lo hi s lo.length := by
  induction lo generalizing hi s with
  | nil => simp [rangeMatches, withinFirst]
  | cons l lo ih =>
    cases hi with
    | nil => simp at h
    | cons hh hi =>
      cases s with
      | nil => simp [rangeMatches, withinFirst]
      | cons b s =>
        simp only [rangeMatches, List.length_cons, withinFirst]
        rw [ih hi s (by simpa using h)]
        by_cases c1 : l ≤ b <;> by_cases c2 : b ≤ hh <;> simp [c1, c2] <;> omega

theorem matchLen_cons (r : Range) (L : CSR) (hr : Shape r) (s : Bytes) :
    matchLen (r :: L) s = if partialMatch s r.low.length r = true then r.low.length else matchLen L s := by
  simp only [matchLen, rangeMatches_eq _ _ _ hr.1, partialMatch]
  split
  · rename_i hlt
    have : withinFirst r.low r.high s r.low.length ≠ true := fun h => by
      have := (withinFirst_len _ _ _ _ h).2.2; omega
    simp [this]
  · rfl

theorem matchLen_none (L : CSR) (hsh : ∀ r ∈ L, Shape r) (s : Bytes)
    (h : ∀ r ∈ L, partialMatch s r.low.length r ≠ true) :
    matchLen L s = 0 := by
  induction L with
  | nil => rfl
  | cons r L ih =>
    rw [matchLen_cons r L (hsh r (by simp)) s, if_neg (h r (by simp))]
    exact ih (fun r' hr' => hsh r' (by simp [hr'])) (fun r' hr' => h r' (by simp [hr']))

theorem matchLen_some (L : CSR) (hsh : ∀ r ∈ L, Shape r) (s : Bytes) (r0 : Range) (hr0 : r0 ∈ L)
    (hs0 : partialMatch s r0.low.length r0 = true)
    (huniq : ∀ r ∈ L, partialMatch s r.low.length r = true → r.low.length = r0.low.length) :
    matchLen L s = r0.low.length := by
  induction L with
  | nil => simp at hr0
  | cons r L ih =>
    rw [matchLen_cons r L (hsh r (by simp)) s]
    split
    · rename_i hst; exact huniq r (by simp) hst
    · rename_i hst
      refine ih (fun r' hr' => hsh r' (by simp [hr'])) ?_ (fun r' hr' => huniq r' (by simp [hr']))
      rcases List.mem_cons.mp hr0 with rfl | h
      · exact absurd hs0 hst
      · exact h

theorem starts_congr (A B : CSR) (hsame : ∀ bs, IsCodeOf B bs ↔ IsCodeOf A bs) (s : Bytes) (ra : Range)
    (hra : ra ∈ A) (hsa : partialMatch s ra.low.length ra = true) :
    ∃ rb ∈ B, rb.low.length = ra.low.length ∧ partialMatch s rb.low.length rb = true := by
  obtain ⟨la, ca⟩ := (partialMatch_iff_isCode_take ra s).mp hsa
  obtain ⟨rb, hrb, hcb⟩ := (hsame _).mpr ⟨ra, hra, ca⟩
  have hlb : rb.low.length = ra.low.length := by
    have := ((isCode_toSpecR rb _).mp hcb).1
    simp only [List.length_take] at this; omega
  exact ⟨rb, hrb, hlb, (partialMatch_iff_isCode_take rb s).mpr ⟨by omega, by rw [hlb]; exact hcb⟩⟩

theorem matchLen_congr (A B : CSR) (hA : ∀ r ∈ A, Shape r) (hB : ∀ r ∈ B, Shape r)
    (hpf : PrefixFree (toSpec A)) (hsame : ∀ bs, IsCodeOf B bs ↔ IsCodeOf A bs) (s : Bytes) :
    matchLen B s = matchLen A s := by
  have hpfB : PrefixFree (toSpec B) := by
    rw [prefixFree_toSpec]
    intro r1 h1 r2 h2 c1 c2 hc1 hc2 hp
    obtain ⟨a1, ha1, hca1⟩ := (hsame c1).mp ⟨r1, h1, hc1⟩
    obtain ⟨a2, ha2, hca2⟩ := (hsame c2).mp ⟨r2, h2, hc2⟩
    exact (prefixFree_toSpec A).mp hpf a1 ha1 a2 ha2 c1 c2 hca1 hca2 hp
  by_cases hex : ∃ r ∈ A, partialMatch s r.low.length r = true
  · obtain ⟨ra, hra, hsa⟩ := hex
    obtain ⟨rb, hrb, hlb, hsb⟩ := starts_congr A B hsame s ra hra hsa
    rw [matchLen_some A hA s ra hra hsa (fun r hr hs => starts_unique A hpf s r ra hr hra hs hsa),
      matchLen_some B hB s rb hrb hsb (fun r hr hs => starts_unique B hpfB s r rb hr hrb hs hsb), hlb]
  · rw [matchLen_none A hA s (fun r hr hs => hex ⟨r, hr, hs⟩), matchLen_none B hB s]
    intro rb hrb hsb
    obtain ⟨ra, hra, _, hsa⟩ := starts_congr B A (fun bs => (hsame bs).symm) s rb hrb hsb
    exact hex ⟨ra, hra, hsa⟩

/-- `csr_equiv` in the form of DESIGN.md §5 C12: `matchLen (c.CodeSpaceRange()) s = matchLen csr s`
for every byte string `s` — `CodeSpaceRange.Equivalent` can never tell the two apart. -/
theorem csr_matchLen (csr : CSR) (c : Codec) (hC : newCodec csr = .ok c) (hbytes : ∀ r ∈ csr, AllBytes r.high) :
    ∃ out, c.codeSpaceRange = .ok out ∧ ∀ s, matchLen out s = matchLen csr s := by
  obtain ⟨out, h1, h2, h3⟩ := codeSpaceRange_total csr c hC hbytes
  obtain ⟨hv, hpf⟩ := newCodec_prefixFree csr c hC hbytes
  exact ⟨out, h1, fun s => matchLen_congr csr out (fun r hr => .of_isValid (hv r hr)) h2 hpf h3 s⟩

end PdfVerif.C12cci
