import PdfVerif.Model.FIOReader
import PdfVerif.Props.C02fiob
import PdfVerif.Lemmas.ScanBytes
import PdfVerif.Lemmas.Decimal
/-!
# C02 (work package FIO) — reader side: decimal numbers, `stream_extent`, object-stream header

About `Model/FIOReader.lean` (scanner.go `ReadStreamData`, reader.go `getObjStm`) and the
object-stream layout of `Model/FIOWriter.lean` (`WriteCompressed`).
-/
namespace PdfVerif.C02fioc
open PdfVerif PdfVerif.FIO PdfVerif.C02fio

/-! The reader model and the writer model each have their own name for the same bytes (and `Gen` has the
limit on object numbers once per package); the proofs that cross from what the writer wrote to what the
reader looks for use these equations. -/
theorem kLen_eq : kLen = kLength := rfl
theorem nFlateDecode_eq : nFlateDecode = nFlate := rfl
theorem kStartxref_eq : kStartxref = kwStartxrefR ++ [10] := rfl
theorem kEndstream_eq : kEndstream = 10 :: (kwEndstream ++ kEndobj) := rfl
theorem maxXRefSize_eq : Gen.xref_maxXRefSize = Gen.fio_maxXRefSize := rfl

theorem decOf_spec (n f : Nat) (hf : n < 10 ^ f) (hpos : 0 < f) :
    (decOf n).all isDigit = true ∧ digitsVal (decOf n) 0 = n ∧ decOf n ≠ [] ∧ (decOf n).length ≤ f := by
  rw [C01L.decOf_eq_natDec]
  exact ⟨C01L.all_digits_natDec n, C01L.digitsVal_natDec n, C01L.natDec_ne_nil n, C01L.natDec_length_le f n hpos hf⟩

/-- what may follow a number: the end, or a byte that is not a digit -/
def NumEnd : Bytes → Prop
  | [] => True
  | c :: _ => isDigit c = false

/-- **ReadInteger ∘ Itoa.**  A number printed in decimal and followed by the end or a non-digit
is read back, and reading stops exactly after it. -/
theorem readIntegerE_decOf (n : Nat) (hn : n ≤ 9223372036854775807) (rest : Bytes) (hrest : NumEnd rest) :
    readIntegerE (decOf n ++ rest) = .ok ((n : Int), rest) := by
  obtain ⟨hall, hval, hne, hlen⟩ := decOf_spec n 19 (by omega) (by omega)
  have hstop : C01L.NumStop false rest := by
    cases rest with
    | nil => trivial
    | cons c cs => exact ⟨hrest, fun h => nomatch h⟩
  cases hds : decOf n with
  | nil => exact absurd hds hne
  | cons d ds =>
    rw [hds] at hall
    have hd : isDigit d = true := by simp at hall; exact hall.1
    obtain ⟨hsp, h37, _, _⟩ := C01L.digit_facts' hd
    have hscan : scanNumTok false false true (d :: ds ++ rest) = (d :: ds, rest) := by
      rw [List.cons_append, C01L.scan_digit false false true hd,
        C01L.scan_digits false false ds rest (fun c hc => by simp at hall; exact hall.2 c hc) hstop]
    have h4096 : ¬ ((d :: ds).length > Gen.scanner_maxNameBytes) := by
      rw [← hds]; simp [Gen.scanner_maxNameBytes]; omega
    unfold readIntegerE
    rw [List.cons_append, C01L.skipWS_cons_stop hsp h37]
    simp only [← List.cons_append, hscan, h4096, ↓reduceIte]
    rw [← hds, C02fio.parseInt64_digits (decOf n) hne (hds ▸ hall) (by rw [hval]; exact hn), hval]

theorem readIntegerE_ws (c : Nat) (hc : c = 32 ∨ c = 10) (inp : Bytes) :
    readIntegerE (c :: inp) = readIntegerE inp := by
  unfold readIntegerE
  rcases hc with rfl | rfl
  · rw [C01L.skipWS_sp]
  · rw [C01L.skipWS_lf]

/-- **stream_extent.**  With the correct `/Length`, `ReadStreamData` returns exactly the body —
for every body, also one that contains `endstream`, `endobj`, or ends in CR/LF — and continues
after the `endstream` keyword.  (`"stream\n" body "\nendstream"` is what `streamWriter` writes.) -/
theorem stream_extent (body rest : Bytes) (off : Nat) (hoff : off + 7 + body.length < 9223372036854775808) :
    readStreamData (kw_stream ++ [10] ++ body ++ [10] ++ kwEndstream ++ rest) off (some body.length)
      = .ok (off + 7, body.length, rest) := by
  have hin : kw_stream ++ [10] ++ body ++ [10] ++ kwEndstream ++ rest
      = kw_stream ++ (10 :: (body ++ (10 :: (kwEndstream ++ rest)))) := by
    simp only [List.append_assoc, List.cons_append, List.nil_append]
  have hdrop6 : ∀ x : Bytes, (kw_stream ++ x).drop 6 = x := fun _ => List.drop_left' rfl
  have h10 : isSpace 10 = true := by decide +kernel
  have h101 : isSpace 101 = false := by decide +kernel
  have hes : endstreamAt (10 :: (kwEndstream ++ rest)) = true := by
    simp [endstreamAt, dropSpace, h10, kwEndstream, h101, isPrefixOf]
  have hsk : skipWS (10 :: (kwEndstream ++ rest)) = (kwEndstream ++ rest, false) := by
    simp [skipWS, h10, kwEndstream, h101]
  have hdrop9 : (kwEndstream ++ rest).drop 9 = rest := List.drop_left' rfl
  have hov : ¬ (off + 6 + 1 + body.length ≥ 9223372036854775808) := by omega
  rw [hin]
  unfold readStreamData
  simp only [C01L.isPrefixOf_self_append, hdrop6, Bool.not_true, Bool.false_eq_true, ↓reduceIte, List.drop_succ_cons,
    List.drop_zero, hov, List.drop_left, hes, hsk, hdrop9]

-- non-vacuity / the interesting bodies: containing the keywords and ending in CR LF
example : (match readStreamData (kw_stream ++ [10] ++ (kwEndstream ++ [13, 10] ++ kwEndobj ++ [13, 10]) ++ [10] ++ kwEndstream ++ [10, 101])
    100 (some 19) with
    | .ok (a, b, c) => a == 107 && b == 19 && c == [10, 101]
    | _ => false) = true := by decide +kernel

/-- without a usable `/Length` the recovery scan cuts the same file at the first
    `EOL endstream` inside the body: the declared length is what protects such bodies -/
example : (match readStreamData (kw_stream ++ [10] ++ ([65, 10] ++ kwEndstream ++ [10, 66]) ++ [10] ++ kwEndstream ++ [10])
    0 none with
    | .ok (a, b, c) => a == 7 && b == 1 && c == [10, 66, 10] ++ kwEndstream ++ [10]
    | _ => false) = true := by decide +kernel



/-- the index lines `num offset\n` for members with formatted bodies `bs`, the first at `off` -/
def osHead : List Nat → List Bytes → Nat → Bytes
  | n :: ns, b :: bs, off => decOf n ++ [32] ++ decOf off ++ [10] ++ osHead ns bs (off + b.length + 1)
  | _, _, _ => []

/-- the data part of an object stream: the formatted members, a line feed between two of them -/
def osBody : List Bytes → Bytes
  | [] => []
  | [b] => b
  | b :: b' :: bs => b ++ [10] ++ osBody (b' :: bs)

/-- the offsets (relative to `/First`) at which the members stand in `osBody`, the first at `off` -/
def osOffsets : List Bytes → Nat → List Nat
  | [], _ => []
  | b :: bs, off => off :: osOffsets bs (off + b.length + 1)

/-- all members formatted, or `none` if the formatter refuses one: what `objStmParts` runs on
    (`objStmParts_layout`, `C02fioi.fmtAll_of_parts`) -/
def fmtAll (opt : FmtOpt) : List (Nat × Obj) → Option (List Bytes)
  | [] => some []
  | (_, o) :: rest =>
    match format opt [o], fmtAll opt rest with
    | some b, some bs => some (b :: bs)
    | _, _ => none

theorem osBody_cons (b : Bytes) (bs : List Bytes) (h : bs ≠ []) : osBody (b :: bs) = b ++ [10] ++ osBody bs := by
  cases bs with
  | nil => exact absurd rfl h
  | cons b' bs' => rfl

theorem fmtAll_length (opt : FmtOpt) (items : List (Nat × Obj)) : ∀ bs, fmtAll opt items = some bs → bs.length = items.length := by
  -- the exit `none` goes by `cases h`
  fun_induction fmtAll opt items <;> intro bs h <;> cases h
  · rfl
  · rename_i hr _ ih; simp [ih _ hr]

theorem objStmParts_layout (opt : FmtOpt) (items : List (Nat × Obj)) :
    ∀ (bs : List Bytes) (head body : Bytes), fmtAll opt items = some bs →
      objStmParts opt items head body =
        some (head ++ osHead (items.map (·.1)) bs body.length, body ++ osBody bs) := by
  fun_induction fmtAll opt items <;> intro bs head body h <;> cases h
  · simp [objStmParts, osHead, osBody]
  · rename_i num o rest b bs' hrest hf ih
    cases rest with
    | nil =>
      simp only [fmtAll, Option.some.injEq] at hrest
      subst hrest
      simp [objStmParts, hf, osHead, osBody]
    | cons y rest' =>
      have hne : bs' ≠ [] := by
        intro h0; subst h0
        have := fmtAll_length opt _ _ hrest
        simp at this
      simp only [objStmParts, hf]
      rw [ih bs' _ _ hrest]
      simp only [List.map_cons, osHead, List.length_append, List.length_cons, List.length_nil,
        List.append_assoc, osBody_cons b bs' hne]
      simp [Nat.add_assoc]

theorem isDigit_10 : isDigit 10 = false := by decide
theorem isDigit_32 : isDigit 32 = false := by decide

theorem readIntegerE_lead {lead : Bytes} (h : lead = [] ∨ lead = [10]) (inp : Bytes) :
    readIntegerE (lead ++ inp) = readIntegerE inp := by
  rcases h with rfl | rfl
  · rfl
  · exact readIntegerE_ws 10 (.inr rfl) inp

theorem readPairs_osHead (nums : List Nat) : ∀ (bs : List Bytes) (off : Nat) (lead tail : Bytes),
    nums.length = bs.length → (lead = [] ∨ lead = [10]) →
    (∀ n ∈ nums, n ≤ 4294967295) → (∀ o ∈ osOffsets bs off, o ≤ 9223372036854775807) →
    readPairs nums.length (lead ++ osHead nums bs off ++ tail) =
      .ok (List.zip nums (osOffsets bs off), (if nums = [] then lead else [10]) ++ tail) := by
  induction nums with
  | nil =>
    intro bs off lead tail hl _ _ _
    cases bs with
    | nil => simp [readPairs, osHead, osOffsets]
    | cons _ _ => simp at hl
  | cons n ns ih =>
    intro bs off lead tail hl hlead hn ho
    cases bs with
    | nil => cases hl
    | cons b bs' =>
      have hn1 : n ≤ 4294967295 := hn n (List.mem_cons_self ..)
      have ho1 : off ≤ 9223372036854775807 := ho off (List.mem_cons_self ..)
      have e1 : readIntegerE (lead ++ osHead (n :: ns) (b :: bs') off ++ tail)
          = .ok ((n : Int), 32 :: (decOf off ++ (10 :: (osHead ns bs' (off + b.length + 1) ++ tail)))) := by
        rw [List.append_assoc, readIntegerE_lead hlead, osHead]
        simp only [List.append_assoc, List.cons_append, List.nil_append]
        exact readIntegerE_decOf n (by omega) _ isDigit_32
      have e2 : readIntegerE (32 :: (decOf off ++ (10 :: (osHead ns bs' (off + b.length + 1) ++ tail))))
          = .ok ((off : Int), 10 :: (osHead ns bs' (off + b.length + 1) ++ tail)) := by
        rw [readIntegerE_ws 32 (.inl rfl)]
        exact readIntegerE_decOf off ho1 _ isDigit_10
      have e3 := ih bs' (off + b.length + 1) [10] tail (Nat.succ.inj hl) (.inr rfl)
        (fun m hm => hn m (List.mem_cons_of_mem _ hm)) (fun o ho' => ho o (List.mem_cons_of_mem _ ho'))
      have c1' : ((decide ((n : Int) < 0) || decide ((n : Int) > 4294967295)) || decide ((off : Int) < 0)) = false := by
        simp only [Bool.or_eq_false_iff, decide_eq_false_iff_not]; omega
      simp only [List.length_cons, readPairs, e1, e2, c1', Bool.false_eq_true, ↓reduceIte]
      rw [show 10 :: (osHead ns bs' (off + b.length + 1) ++ tail) = [10] ++ osHead ns bs' (off + b.length + 1) ++ tail from rfl, e3]
      simp [osOffsets]

theorem osBody_head (b : Bytes) (rest : List Bytes) : ∃ more, osBody (b :: rest) = b ++ more := by
  cases rest with
  | nil => exact ⟨[], by simp [osBody]⟩
  | cons b' r => exact ⟨[10] ++ osBody (b' :: r), by simp [osBody]⟩

/-- member `i` in the body: what stands before it, and what follows it — nothing, or a line feed
    and the next member, which begins at the next offset -/
theorem os_layout (bs : List Bytes) : ∀ (off i o : Nat) (b : Bytes),
    (osOffsets bs off)[i]? = some o → bs[i]? = some b →
    ∃ pre tail, osBody bs = pre ++ (b ++ tail) ∧ off + pre.length = o ∧
      ((bs[i+1]? = none ∧ tail = []) ∨
       (∃ b' more, bs[i+1]? = some b' ∧ tail = 10 :: (b' ++ more) ∧
          (osOffsets bs off)[i+1]? = some (o + b.length + 1))) := by
  induction bs with
  | nil => intro off i o b h; simp [osOffsets] at h
  | cons b0 rest ih =>
    intro off i o b ho hb
    cases i with
    | zero =>
      simp only [osOffsets, List.getElem?_cons_zero, Option.some.injEq] at ho hb
      subst ho; subst hb
      cases rest with
      | nil => exact ⟨[], [], by simp [osBody], rfl, .inl ⟨rfl, rfl⟩⟩
      | cons b' rest' =>
        obtain ⟨more, hm⟩ := osBody_head b' rest'
        refine ⟨[], 10 :: (b' ++ more), ?_, rfl, .inr ⟨b', more, rfl, rfl, by simp [osOffsets]⟩⟩
        rw [osBody_cons b0 _ (by simp), hm]; simp
    | succ i =>
      simp only [osOffsets, List.getElem?_cons_succ] at ho hb
      have hne : rest ≠ [] := by intro h0; subst h0; simp at hb
      obtain ⟨pre, tail, h1, h2, h3⟩ := ih (off + b0.length + 1) i o b ho hb
      refine ⟨b0 ++ [10] ++ pre, tail, ?_, by simp; omega, ?_⟩
      · rw [osBody_cons b0 rest hne, h1]; simp
      · simp only [osOffsets, List.getElem?_cons_succ]; exact h3

theorem osBody_at (bs : List Bytes) (pre : Bytes) (off0 i o : Nat) (b : Bytes)
    (ho : (osOffsets bs off0)[i]? = some o) (hb : bs[i]? = some b) :
    ∃ d, o = off0 + d ∧ C02fiob.At (pre ++ osBody bs) (pre.length + d) b := by
  obtain ⟨p, tail, h1, h2, _⟩ := os_layout bs off0 i o b ho hb
  exact ⟨p.length, h2.symm, pre ++ p, tail, by rw [h1]; simp only [List.append_assoc], by simp⟩

theorem osOffsets_length (bs : List Bytes) : ∀ off, (osOffsets bs off).length = bs.length := by
  induction bs with
  | nil => intro _; rfl
  | cons b rest ih => intro off; simp [osOffsets, ih]

theorem osOffsets_get (bs : List Bytes) (off i : Nat) (b : Bytes) (h : bs[i]? = some b) :
    ∃ o, (osOffsets bs off)[i]? = some o :=
  ⟨(osOffsets bs off)[i]'(by rw [osOffsets_length]; exact (List.getElem?_eq_some_iff.1 h).1), by simp⟩

theorem osOffsets_get_inv (bs : List Bytes) (off i o : Nat) (h : (osOffsets bs off)[i]? = some o) :
    ∃ b, bs[i]? = some b :=
  ⟨bs[i]'(by rw [← osOffsets_length bs off]; exact (List.getElem?_eq_some_iff.1 h).1), by simp⟩

/-- **objstm_rt.**  For every non-empty list of members (numbers below 2³², any objects the
formatter accepts, offsets within `int64`, at most 10000 members (`hN`; 10000 is
`Gen.fio_maxObjStmObjects`, the reader's cap,
to which `WriteCompressed` splits)): `getObjStm` applied to the content written by `WriteCompressed`, with the `/N` and `/First`
it wrote, returns exactly the member numbers with the offsets `First + offsetᵢ`; the header ends
one byte before `First`; and at `First + offsetᵢ` stands the formatted member `i`. -/
theorem objstm_rt (opt : FmtOpt) (items : List (Nat × Obj)) (bs : List Bytes) (content : Bytes) (n first : Nat)
    (hne : items ≠ [])
    (hf : fmtAll opt items = some bs) (hc : objStmContent opt items = some (content, n, first))
    (hnum : ∀ x ∈ items, x.1 ≤ 4294967295) (hoff : ∀ o ∈ osOffsets bs 0, o ≤ 9223372036854775807)
    (hN : n ≤ 10000) (dict : List (Bytes × Obj))
    (hdN : dictGet dict kNkey = some (.int n)) (hdF : dictGet dict kFirstKey = some (.int first)) :
    getObjStm dict content =
      .ok ((List.zip (items.map (·.1)) (osOffsets bs 0)).map (fun p => (p.1, p.2 + first)), first - 1) ∧
    n = items.length ∧
    ∀ (i o : Nat) (b : Bytes), (osOffsets bs 0)[i]? = some o → bs[i]? = some b → C02fiob.At content (first + o) b := by
  have hlay := objStmParts_layout opt items bs [] [] hf
  simp only [objStmContent, hlay, Option.map_some, List.nil_append, List.length_nil, Option.some.injEq,
    Prod.mk.injEq] at hc
  obtain ⟨hcontent, hn, hfirst⟩ := hc
  have hlen : (items.map (·.1)).length = bs.length := by
    rw [fmtAll_length opt items bs hf]; simp
  have hrp := readPairs_osHead (items.map (·.1)) bs 0 [] (osBody bs) hlen (.inl rfl)
    (fun m hm => by simp at hm; obtain ⟨a, ha⟩ := hm; exact hnum _ ha) hoff
  have hmapne : items.map (·.1) ≠ [] := by simpa using hne
  simp only [hmapne, ↓reduceIte, List.nil_append] at hrp
  have hpos : 0 < first := by
    rw [← hfirst]
    cases items with
    | nil => exact absurd rfl hne
    | cons x rest =>
      cases bs with
      | nil => cases hlen
      | cons b bs' => rw [List.map_cons, osHead]; simp only [List.length_append, List.length_cons]; omega
  refine ⟨?_, hn.symm, ?_⟩
  · unfold getObjStm
    have hn0' : (decide ((n : Int) < 0) || decide ((n : Int) > (Gen.fio_maxObjStmObjects : Nat))) = false := by
      simp [Gen.fio_maxObjStmObjects]; omega
    simp only [hdN, hn0', Bool.false_eq_true, ↓reduceIte, Int.toNat_natCast]
    rw [← hcontent, ← hn]
    have : (items.map (·.1)).length = items.length := by simp
    rw [← this, hrp]
    simp only [hdF]
    have hend : (osHead (items.map (·.1)) bs 0 ++ osBody bs).length - ([10] ++ osBody bs).length = first - 1 := by
      rw [List.length_append, List.length_append, hfirst, Nat.add_sub_add_right]; rfl
    simp only [hend, show ¬ ((first : Int) < ((first - 1 : Nat) : Int)) by omega, ↓reduceIte, Int.toNat_natCast]
  · intro i o b ho hb
    obtain ⟨d, rfl, hat⟩ := osBody_at bs (osHead (items.map (·.1)) bs 0) 0 i o b ho hb
    rw [← hcontent, ← hfirst, Nat.zero_add]
    exact hat


-- non-vacuity: three members, one of them a dictionary; index and offsets are read back and
-- member 2 (`[1]`) is found at First + 11
example :
    (let items : List (Nat × Obj) := [(7, .int 5), (12, .dict [([65], .name [66])]), (300, .arr [.int 1])]
     match objStmContent { pretty := false, content := false } items with
     | some (content, n, first) =>
       (match getObjStm [(kNkey, .int n), (kFirstKey, .int first)] content with
        | .ok (idx, headEnd) => idx == [(7, first), (12, first + 2), (300, first + 11)] && headEnd + 1 == first &&
            isPrefixOf [91, 49, 93] (content.drop (first + 11))
        | _ => false)
     | none => false) = true := by decide +kernel

end PdfVerif.C02fioc
