import PdfVerif.Props.C13ccc
/-!
# C13 (part 4) — `All` and lookup agree; `All` after `SetMapping` / `NewToUnicodeFile`

`File.All` / `ToUnicodeFile.All` (before the `Decode` filter, with the budget not exhausted)
yield exactly the pairs that some entry covers by the rule the lookup functions apply; for files
built by `SetMapping` / `NewToUnicodeFile` these are exactly the entries of the map.  Both enumerations are the
generic one (`GFile.items`, Lemmas/CMapFile.lean) on the views `cview` / `tview`.
-/
namespace PdfVerif.C13ccd
open PdfVerif PdfVerif.CC PdfVerif.CMap PdfVerif.C13cc PdfVerif.C13ccb PdfVerif.C13ccc

/-- total number of items the ranges of a file ask for -/
def rangesDemand : List CRange → Nat
  | [] => 0
  | r :: rest => rangeCount r.first r.last + rangesDemand rest

theorem allItemsRanges_eq (l : List CRange) (budget : Nat) :
    allItemsRanges l budget = itemsRanges (l.map crange) budget := by
  induction l generalizing budget with
  | nil => rfl
  | cons r l ih => simp only [allItemsRanges, List.map_cons, itemsRanges_cons, crange, GRange.items, ih]

theorem allItemsSingles_eq (l : List Single) (budget : Nat) :
    allItemsSingles l budget = ((l.map csingle).take budget, budget - l.length) := by
  induction l generalizing budget with
  | nil => simp [allItemsSingles]
  | cons s l ih => cases budget with
    | zero => simp [allItemsSingles]
    | succ n => simp [allItemsSingles, ih, csingle]

theorem allItemsFiles_one (f : CMapFile) (budget : Nat) : allItemsFiles [f] budget = (cview f).items budget := by
  simp only [allItemsFiles, List.append_nil, allItemsRanges_eq, allItemsSingles_eq, GFile.items_eq, cview_singles,
    cview_ranges]

theorem rangesDemand_eq (l : List CRange) : rangesDemand l = rangesCount (l.map crange) := by
  induction l with
  | nil => rfl
  | cons r l ih => rw [rangesDemand, ih, List.map_cons, rangesCount_cons]; rfl

theorem cview_demand (f : CMapFile) : (cview f).demand = rangesDemand f.ranges + f.singles.length := by
  rw [GFile.demand_eq, cview_singles, cview_ranges, List.length_map, rangesDemand_eq]

theorem cview_lists (f : CMapFile) (bytes : Bytes) (v : Nat) :
    (cview f).Lists bytes v ↔
      (∃ r ∈ f.ranges, ∃ i, rangeIsValid r.first r.last = true ∧ rangeIndex r.first r.last bytes = some i ∧
          v = u32 (r.value + i)) ∨
      (∃ s ∈ f.singles, s.code = bytes ∧ s.value = v) := by
  simp only [GFile.lists_iff, cview_singles, cview_ranges, exists_mem_map, crange_hit]
  simp only [crange, List.mem_map, csingle, Prod.mk.injEq, exists_and_left]

/-- **Enumeration and lookup agree.**  When the budget is not exhausted, `File.All` (before the
`Decode` filter) yields exactly the pairs `(code bytes, value)` that some entry of the file
covers by the rule `LookupCID` applies to that entry. -/
theorem allItems_covers (f : CMapFile) (budget : Nat) (hb : rangesDemand f.ranges + f.singles.length ≤ budget)
    (hb2 : budget ≤ maxInt32) (bytes : Bytes) (v : Nat) :
    (bytes, v) ∈ allItemsFiles [f] budget ↔
      (∃ r ∈ f.ranges, ∃ i, rangeIsValid r.first r.last = true ∧ rangeIndex r.first r.last bytes = some i ∧
          v = u32 (r.value + i)) ∨
      (∃ s ∈ f.singles, s.code = bytes ∧ s.value = v) := by
  rw [allItemsFiles_one, (cview f).mem_items budget (cview_demand f ▸ hb) hb2, cview_lists]

/-- **`File.All` after `SetMapping`, before the `Decode` filter.**  The file built by `SetMapping` (without
parent) enumerates exactly the byte strings of the mapped codes, each with its mapped CID —
provided the enumeration budget (`MaxCMapMappings`) is not exhausted. -/
theorem all_setMapping_bytes (f f' : CMapFile) (codec : Codec) (data : List (Nat × Nat))
    (h : setMapping f [] codec data = .ok f')
    (hcid : ∀ p ∈ data, p.2 < 4294967296)
    (hbytes : ∀ p ∈ data, ∀ bs, codec.appendCode p.1 = .ok bs → AllBytes bs)
    (budget : Nat) (hb : rangesDemand f'.ranges + f'.singles.length ≤ budget) (hb2 : budget ≤ maxInt32)
    (bytes : Bytes) (v : Nat) :
    (bytes, v) ∈ allItemsFiles [f'] budget ↔ ∃ p ∈ data, codec.appendCode p.1 = .ok bytes ∧ p.2 = v := by
  rw [allItemsFiles_one, (cview f').mem_items_iff_maps (setMapping_maps_nil h hcid hbytes) budget (cview_demand f' ▸ hb) hb2,
    setMapping_maps h hcid hbytes]
  simp only [ne_eq, not_true_eq_false, false_and, not_false_eq_true, and_true]

def tuRangesDemand : List TURange → Nat
  | [] => 0
  | r :: rest => (if r.values.isEmpty then 0 else rangeCount r.first r.last) + tuRangesDemand rest

theorem tuItemsRanges_eq (l : List TURange) (budget : Nat) :
    tuItemsRanges l budget = itemsRanges (l.map trange) budget := by
  induction l generalizing budget with
  | nil => rfl
  | cons r l ih =>
    cases hv : r.values with
    | nil => simp only [tuItemsRanges, List.map_cons, itemsRanges_cons, trange, hv, ih]; rfl
    | cons v0 vs => simp only [tuItemsRanges, List.map_cons, itemsRanges_cons, trange, hv, ih]; rfl

theorem tuItemsSingles_eq (l : List TUSingle) (budget : Nat) :
    tuItemsSingles l budget = ((l.map tsingle).take budget, budget - l.length) := by
  induction l generalizing budget with
  | nil => simp [tuItemsSingles]
  | cons s l ih => cases budget with
    | zero => simp [tuItemsSingles]
    | succ n => simp [tuItemsSingles, ih, tsingle]

theorem tuItemsFiles_one (f : TUFile) (budget : Nat) : tuItemsFiles [f] budget = (tview f).items budget := by
  simp only [tuItemsFiles, List.append_nil, tuItemsRanges_eq, tuItemsSingles_eq, GFile.items_eq, tview_singles,
    tview_ranges]

theorem tuRangesDemand_eq (l : List TURange) : tuRangesDemand l = rangesCount (l.map trange) := by
  induction l with
  | nil => rfl
  | cons r l ih =>
    rw [tuRangesDemand, ih, List.map_cons, rangesCount_cons, trange]
    cases r.values <;> rfl

theorem tview_demand (f : TUFile) : (tview f).demand = tuRangesDemand f.ranges + f.singles.length := by
  rw [GFile.demand_eq, tview_singles, tview_ranges, List.length_map, tuRangesDemand_eq]

theorem tview_lists (f : TUFile) (bytes : Bytes) (v : Text) :
    (tview f).Lists bytes v ↔
      (∃ r ∈ f.ranges, ∃ i, rangeIsValid r.first r.last = true ∧ rangeIndex r.first r.last bytes = some i ∧
          valueAt r.values i = some v) ∨
      (∃ s ∈ f.singles, s.code = bytes ∧ s.value = v) := by
  simp only [GFile.lists_iff, tview_singles, tview_ranges, exists_mem_map, trange_hit]
  simp only [trange, List.mem_map, tsingle, Prod.mk.injEq, exists_and_left]

/-- `ToUnicodeFile.All` (before the `Decode` filter) yields exactly the pairs that some entry
covers by the rule `Lookup` applies to it -/
theorem tuItems_covers (f : TUFile) (budget : Nat) (hb : tuRangesDemand f.ranges + f.singles.length ≤ budget)
    (hb2 : budget ≤ maxInt32) (bytes : Bytes) (v : Text) :
    (bytes, v) ∈ tuItemsFiles [f] budget ↔
      (∃ r ∈ f.ranges, ∃ i, rangeIsValid r.first r.last = true ∧ rangeIndex r.first r.last bytes = some i ∧
          valueAt r.values i = some v) ∨
      (∃ s ∈ f.singles, s.code = bytes ∧ s.value = v) := by
  rw [tuItemsFiles_one, (tview f).mem_items budget (tview_demand f ▸ hb) hb2, tview_lists]

/-- **`ToUnicodeFile.All` after `NewToUnicodeFile`, before the `Decode` filter.**  The file built by `NewToUnicodeFile`
enumerates exactly the byte strings of the mapped codes, each with its mapped text. -/
theorem tounicode_all_bytes (csr : CSR) (data : List (Nat × Text)) (f : TUFile) (codec : Codec)
    (hc : newCodec csr = .ok codec) (h : newToUnicodeFile csr data = .ok f)
    (budget : Nat) (hb : tuRangesDemand f.ranges + f.singles.length ≤ budget) (hb2 : budget ≤ maxInt32)
    (bytes : Bytes) (v : Text) :
    (bytes, v) ∈ tuItemsFiles [f] budget ↔ ∃ p ∈ data, codec.appendCode p.1 = .ok bytes ∧ p.2 = v := by
  rw [tuItemsFiles_one, (tview f).mem_items_iff_maps (newToUnicodeFile_maps_nil hc h) budget (tview_demand f ▸ hb) hb2,
    newToUnicodeFile_maps hc h]

end PdfVerif.C13ccd
