import PdfVerif.Props.C06fa
import PdfVerif.Spec.FAAsciiHex
import PdfVerif.Spec.FAAscii85
import PdfVerif.Spec.FARunLength
/-!
# C07 (part A) — the library's codecs against the reference codecs of `Spec/`

For ASCIIHex, ASCII85 and RunLength, for all byte strings:
`Spec.decode (Model.encode x) = some x` (an independent decoder reads what the library writes) and
`Model.decode (Spec.encode x) = (x, none)` (the library reads what an independent encoder writes).

The first direction needs no second look at the writers: each reference decoder is a reader in the
sense of C06 (`HexSem`, `A85Sem`, `PacketSem`), so `ahex_reads`, `a85_reads`, `rl_reads` apply to it.
-/
namespace PdfVerif.C07fa
open PdfVerif PdfVerif.FA

section AsciiHex
open AsciiHex

theorem ahex_spec_digit : ∀ n, n < 16 → Spec.AsciiHex.digitVal (alpha n) = some n ∧
    Spec.AsciiHex.isWhite (alpha n) = false ∧ (alpha n == 0x3E) = false := by decide +kernel

def ofSpec (D : Bytes → Option Bytes) (s out : Bytes) : Prop := D s = some out

theorem ahex_spec_sem : C06fa.HexSem (ofSpec Spec.AsciiHex.decode) where
  pair := by
    intro b hb rest out hr
    obtain ⟨d1, w1, g1⟩ := ahex_spec_digit (b / 16) (by omega)
    obtain ⟨d2, w2, g2⟩ := ahex_spec_digit (b % 16) (by omega)
    have h16 : b / 16 * 16 + b % 16 = b := by omega
    -- the two digits are neither `>` nor white space: they pass `upToEOD` and the filter, and are one
    -- step of `allDigits` and of `pairUp`
    unfold ofSpec Spec.AsciiHex.decode at hr ⊢
    rw [C06fa.ahex_digits_eq]
    simp only [List.cons_append, List.nil_append, Spec.AsciiHex.upToEOD, g1, g2]
    cases hu : Spec.AsciiHex.upToEOD rest with
    | none => rw [hu] at hr; simp at hr
    | some body =>
      rw [hu] at hr
      simp only [Option.map_some] at hr ⊢
      cases ha : Spec.AsciiHex.allDigits (body.filter fun c => !Spec.AsciiHex.isWhite c) with
      | none => rw [ha] at hr; simp at hr
      | some ds =>
        rw [ha] at hr
        simp only [Option.map_some, Option.some.injEq] at hr
        simp [w1, w2, Spec.AsciiHex.allDigits, d1, d2, ha, Spec.AsciiHex.pairUp, hr, h16]
  nl := by
    intro rest out hr
    unfold ofSpec Spec.AsciiHex.decode at hr ⊢
    simp only [List.cons_append, List.nil_append, Spec.AsciiHex.upToEOD]
    cases hu : Spec.AsciiHex.upToEOD rest with
    | none => rw [hu] at hr; simp at hr
    | some body => rw [hu] at hr; simpa [show Spec.AsciiHex.isWhite 10 = true from rfl] using hr
  eod := rfl

/-- **The reference ASCIIHex decoder reads what the library writes.** -/
theorem spec_reads_model_asciihex (x : Bytes) (hx : AllBytes x) :
    Spec.AsciiHex.decode (encode x) = some x :=
  C06fa.ahex_reads ahex_spec_sem x hx

theorem ahex_upper : ∀ n, n < 16 → hexVal (Spec.AsciiHex.upperDigit n) = some n := by decide +kernel

/-- **The library reads what the reference ASCIIHex encoder writes** (upper-case digits, no
    line breaks). -/
theorem model_reads_spec_asciihex (x : Bytes) (hx : AllBytes x) :
    decode (Spec.AsciiHex.encode x) = (x, none) := by
  unfold decode
  induction x with
  | nil => exact C06fa.ahex_dec_gt []
  | cons b bs ih =>
    have hb256 : b < 256 := by simp at hx; exact hx.1
    have hbs : AllBytes bs := by simp at hx; exact hx.2
    rw [Spec.AsciiHex.encode, C06fa.ahex_dec_pair _ ahex_upper b hb256, ih hbs]
    rfl

example : Spec.AsciiHex.decode (encode (List.range 50)) = some (List.range 50) := by decide +kernel

end AsciiHex

section RunLength
open RunLength C06fa

attribute [local simp] Gen.rl_rlWriter_flushLiteral_litBias Gen.rl_rlWriter_flushRepeat_repBase

/-- with enough fuel for its whole input the reference decoder returns `out` (`fuel` only bounds
    the number of packets) -/
def RlReads (s out : Bytes) : Prop :=
  ∀ fuel, fuel ≥ s.length + 1 → Spec.RunLength.decodeAux fuel s = some out

theorem rl_spec_sem : PacketSem (Emits RlReads) where
  nil := emits_nil _
  append := emits_append
  lit := by
    intro lit h1 h2 rest out h fuel hf
    obtain ⟨f, rfl⟩ : ∃ f, fuel = f + 1 := ⟨fuel - 1, by omega⟩
    have hf' : f ≥ rest.length + 1 := by
      rw [List.length_append] at hf; have : (litPacket lit).length = lit.length + 1 := rfl; omega
    show Spec.RunLength.decodeAux (f + 1) ((lit.length - 1) :: (lit ++ rest)) = _
    simp only [Spec.RunLength.decodeAux]
    rw [if_neg (by simp; omega), if_pos (by omega), show lit.length - 1 + 1 = lit.length by omega,
      if_neg (by simp), List.drop_left, List.take_left, h f hf']
    rfl
  rep := by
    intro n v h1 h2 rest out h fuel hf
    obtain ⟨f, rfl⟩ : ∃ f, fuel = f + 1 := ⟨fuel - 1, by omega⟩
    have hf' : f ≥ rest.length + 1 := by
      rw [List.length_append] at hf; have : (repPacket n v).length = 2 := rfl; omega
    show Spec.RunLength.decodeAux (f + 1) ((257 - n) :: v :: rest) = _
    simp only [Spec.RunLength.decodeAux]
    rw [if_neg (by simp; omega), if_neg (by omega), h f hf', show 257 - (257 - n) = n by omega]
    rfl

theorem rl_spec_eod : RlReads [128] [] := by
  intro fuel hf
  obtain ⟨f, rfl⟩ : ∃ f, fuel = f + 1 := ⟨fuel - 1, by have : ([128] : Bytes).length = 1 := rfl; omega⟩
  simp [Spec.RunLength.decodeAux]

/-- **The reference RunLength decoder reads what the library writes.** -/
theorem spec_reads_model_runlength (x : Bytes) : Spec.RunLength.decode (encode x) = some x :=
  rl_reads rl_spec_sem rl_spec_eod x _ (Nat.le_refl _)

example : Spec.RunLength.decode (encode [1, 2, 2, 3, 3, 3, 3, 4, 4]) = some [1, 2, 2, 3, 3, 3, 3, 4, 4] := by
  decide +kernel


theorem spec_runLen (v : Nat) : ∀ cap bs, Spec.RunLength.runLen v cap bs ≤ cap ∧
    Spec.RunLength.runLen v cap bs ≤ bs.length ∧
    bs = List.replicate (Spec.RunLength.runLen v cap bs) v ++ bs.drop (Spec.RunLength.runLen v cap bs) := by
  intro cap bs
  fun_induction Spec.RunLength.runLen v cap bs with
  | case1 => simp
  | case2 => simp
  | case3 cap c cs hc ih =>
    obtain rfl : c = v := by simpa using hc
    obtain ⟨h1, h2, h3⟩ := ih
    refine ⟨by omega, by simp; omega, ?_⟩
    rw [Nat.add_comm 1, List.replicate_succ, List.cons_append, List.drop_succ_cons, ← h3]
  | case4 => simp

theorem rl_flushLit_emits (lit : Bytes) (h : lit.length ≤ 128) :
    Emits (ofDec (dec .len)) (Spec.RunLength.flushLit lit) lit := by
  unfold Spec.RunLength.flushLit
  cases lit with
  | nil => simp; exact emits_nil _
  | cons c cs =>
    have := rl_model_sem.lit (c :: cs) (by simp) h
    simpa [litPacket] using this

theorem rl_model_reads_aux : ∀ fuel lit xs, fuel ≥ xs.length + 1 → lit.length ≤ 127 →
    ofDec (dec .len) (Spec.RunLength.encodeAux fuel lit xs) (lit ++ xs) := by
  intro fuel lit xs
  fun_induction Spec.RunLength.encodeAux fuel lit xs with
  | case1 => intro hf; omega
  | case2 _ lit => exact fun _ hl => rl_flushLit_emits lit (by omega) _ _ rl_model_eod
  | case3 fuel lit b bs n hn ih =>  -- a run of `n ≥ 2` bytes `b`
    intro hf hl
    obtain ⟨r1, r2, r3⟩ := spec_runLen b 127 bs
    have hrep : Emits (ofDec (dec .len)) [257 - n, b] (List.replicate n b) := by
      have := rl_model_sem.rep n b hn (by omega)
      simpa [repPacket] using this
    have := emits_append (rl_flushLit_emits lit (by omega)) hrep _ _ (ih (by simp at hf ⊢; omega) (by simp))
    -- the run is `b` and the `runLen` bytes that `spec_runLen` splits off `bs`
    have hout : lit ++ b :: bs = (lit ++ List.replicate n b) ++ ([] ++ bs.drop (n - 1)) := by
      rw [List.nil_append, List.append_assoc, show n = (n - 1) + 1 by omega, List.replicate_succ, List.cons_append,
        Nat.add_sub_cancel, show n - 1 = Spec.RunLength.runLen b 127 bs by omega, ← r3]
    rw [hout]
    exact this
  | case4 fuel lit b bs n hn h128 ih =>  -- the literal buffer becomes full
    intro hf hl
    have h128' : lit.length + 1 = 128 := by simpa using h128
    have := rl_flushLit_emits (lit ++ [b]) (by simp; omega) _ _ (ih (by simp at hf; omega) (by simp))
    simpa using this
  | case5 fuel lit b bs n hn h128 ih =>
    intro hf hl
    have h128' : ¬ lit.length + 1 = 128 := by simpa using h128
    have := ih (by simp at hf; omega) (by simp; omega)
    simpa using this

/-- **The library reads what the reference RunLength encoder writes** (repeat packets for every
    run of two or more bytes, literal packets otherwise — not the library's own strategy). -/
theorem model_reads_spec_runlength (x : Bytes) : decode (Spec.RunLength.encode x) = (x, none) :=
  rl_model_reads_aux (x.length + 1) [] x (Nat.le_refl _) (by simp)

example : decode (Spec.RunLength.encode [1, 2, 2, 3, 3, 3, 3, 4, 4]) = ([1, 2, 2, 3, 3, 3, 3, 4, 4], none) := by
  decide +kernel

end RunLength


section Ascii85
open Ascii85 C06fa

theorem a85_charsOf_eq (v : Nat) : Spec.Ascii85.charsOf v = digits5 v := by
  simp only [Spec.Ascii85.charsOf, digits5, base, bang, Gen.a85_ascii85Writer_Write_base,
    Gen.a85_ascii85Writer_Write_bang, Nat.div_div_eq_div_mul, Nat.reduceMul]

theorem a85_bytesOf_eq (v : Nat) : Spec.Ascii85.bytesOf v = bytes4 v := by
  simp only [Spec.Ascii85.bytesOf, bytes4, Nat.reducePow]

theorem digitsBE_bytes (p : Bytes) (hp : AllBytes p) :
    p.foldl (fun a b => a * 256 + b) 0 < 256 ^ p.length ∧
    digitsBE 256 0 p.length (p.foldl (fun a b => a * 256 + b) 0) = p := by
  rw [Digits.val_foldl, digitsBE_zero]
  exact ⟨Digits.val_lt p hp, Digits.be_val p hp⟩

theorem a85_word_eq (b1 b2 b3 b4 : Nat) :
    Spec.Ascii85.word b1 b2 b3 b4 = ([b1, b2, b3, b4] : Bytes).foldl (fun a b => a * 256 + b) 0 := by
  simp only [Spec.Ascii85.word, List.foldl]; omega

theorem a85_model_reads_tail (p : Bytes) (hp : AllBytes p) (h1 : 1 ≤ p.length) (h3 : p.length ≤ 3) (W : Nat)
    (hW : W = p.foldl (fun a b => a * 256 + b) 0 * 2 ^ ((4 - p.length) * 8)) :
    dec 0 0 ((Spec.Ascii85.charsOf W).take (p.length + 1) ++ [126, 62]) = (p, none) := by
  obtain ⟨hv, hd⟩ := digitsBE_bytes p hp
  rw [a85_charsOf_eq, hW, a85_dec_tail _ _ h1 h3 hv, hd]

/-- **The library reads what the reference ASCII85 encoder writes** (no line breaks). -/
theorem model_reads_spec_ascii85 (x : Bytes) (hx : AllBytes x) :
    decode (Spec.Ascii85.encode x) = (x, none) := by
  unfold decode
  induction x using Spec.Ascii85.encode.induct with
  | case1 b1 b2 b3 b4 rest ih =>
    have hx' : AllBytes ([b1, b2, b3, b4] ++ rest) := hx
    obtain ⟨hp, hr⟩ := (allBytes_append _ _).mp hx'
    obtain ⟨hv, (hd : digitsBE 256 0 4 _ = _)⟩ := digitsBE_bytes [b1, b2, b3, b4] hp
    have hg := a85_group_ok ([b1, b2, b3, b4].foldl (fun a b => a * 256 + b) 0) (by simpa using hv)
    rw [bytes4_eq, hd] at hg
    rw [Spec.Ascii85.encode, a85_charsOf_eq, a85_word_eq]
    exact (hg _).trans (by rw [ih hr]; rfl)
  | case2 b1 b2 b3 =>
    exact a85_model_reads_tail [b1, b2, b3] hx (by simp) (by simp) _ (by
      rw [a85_word_eq]; simp only [List.foldl, List.length]; omega)
  | case3 b1 b2 =>
    exact a85_model_reads_tail [b1, b2] hx (by simp) (by simp) _ (by
      rw [a85_word_eq]; simp only [List.foldl, List.length]; omega)
  | case4 b1 =>
    exact a85_model_reads_tail [b1] hx (by simp) (by simp) _ (by
      rw [a85_word_eq]; simp only [List.foldl, List.length]; omega)
  | case5 => exact a85_dec_tilde0 []

example : decode (Spec.Ascii85.encode [0, 0, 0, 0, 1, 2, 3, 4, 255, 255, 255, 255, 9, 8]) =
    ([0, 0, 0, 0, 1, 2, 3, 4, 255, 255, 255, 255, 9, 8], none) := by decide +kernel

theorem a85_value_eq (ds : List Nat) : Spec.Ascii85.value ds = Digits.val 85 ds 0 := Digits.val_foldl 85 ds 0

theorem a85_value_snoc (cur : List Nat) (d : Nat) :
    Spec.Ascii85.value (cur ++ [d]) = Spec.Ascii85.value cur * 85 + d := by
  rw [a85_value_eq, a85_value_eq, Digits.val_append]; rfl

theorem a85_value_digits (m q : Nat) (hq : q < 85 ^ m) : Spec.Ascii85.value (digitsBE 85 0 m q) = q := by
  rw [a85_value_eq, digitsBE_zero, Digits.val_be, Nat.zero_mul, Nat.zero_add, Nat.mod_eq_of_lt hq]

theorem a85_value_pad (n : Nat) : ∀ cur, Spec.Ascii85.value (cur ++ List.replicate n 84) =
    Spec.Ascii85.value cur * 85 ^ n + (85 ^ n - 1) := by
  induction n with
  | zero => intro cur; simp
  | succ n ih =>
    intro cur
    rw [List.replicate_succ, ← List.singleton_append, ← List.append_assoc, ih, a85_value_snoc, Nat.pow_succ,
      a85_pad_step]

theorem a85_spec_digit (cur : List Nat) (d : Nat) (cs : Bytes) (hd : d < 85) (hl : cur.length + 1 ≠ 5) :
    Spec.Ascii85.groups cur ((d + 33) :: cs) = Spec.Ascii85.groups (cur ++ [d]) cs := by
  have hl' : ¬ (cur.length = 4) := by omega
  have : 33 ≤ d + 33 ∧ d + 33 ≤ 117 := by omega
  simp [Spec.Ascii85.groups, Spec.Ascii85.isDigit, this, hl']

theorem a85_spec_digits (m : Nat) : ∀ cur q rest, cur.length + m ≤ 4 →
    Spec.Ascii85.groups cur (digitsBE 85 33 m q ++ rest) = Spec.Ascii85.groups (cur ++ digitsBE 85 0 m q) rest := by
  induction m with
  | zero => intro cur q rest _; simp [digitsBE_nil]
  | succ m ih =>
    intro cur q rest h
    rw [digitsBE_succ, List.append_assoc, List.singleton_append, ih _ _ _ (by omega),
      a85_spec_digit _ _ _ (Nat.mod_lt _ (by decide)) (by simp [digitsBE_length]; omega), digitsBE_succ,
      List.append_assoc, Nat.add_zero]

theorem a85_spec_group (v : Nat) (hv : v < 2 ^ 32) (rest : Bytes) :
    Spec.Ascii85.groups [] (a85Group v ++ rest) = (Spec.Ascii85.groups [] rest).map (bytes4 v ++ ·) := by
  rcases a85Group_cases v with ⟨rfl, h⟩ | h <;> rw [h]
  · simp [Spec.Ascii85.groups, Spec.Ascii85.isDigit, bytes4]
  · have hval : Spec.Ascii85.value (digitsBE 85 0 5 v) = v := a85_value_digits 5 v (by omega)
    have hd : 33 ≤ v % 85 + 33 ∧ v % 85 + 33 ≤ 117 := by omega
    have hv' : v < 4294967296 := hv
    rw [digits5_eq, digitsBE_succ, List.append_assoc, List.singleton_append, a85_spec_digits 4 [] _ _ (by decide),
      Spec.Ascii85.groups]
    simp only [Spec.Ascii85.isDigit, hd, decide_true, Bool.and_self, if_true, Nat.add_sub_cancel, List.nil_append]
    rw [show digitsBE 85 0 4 (v / 85) ++ [v % 85] = digitsBE 85 0 5 v from rfl, hval]
    -- the group is complete (five digits) and its value is below `2 ^ 32`
    simp [digitsBE_length, hv', a85_bytesOf_eq]

theorem a85_spec_tail (k v : Nat) (hk1 : 1 ≤ k) (hk3 : k ≤ 3) (hv : v < 256 ^ k) :
    Spec.Ascii85.groups [] ((digits5 (v * 2 ^ ((4 - k) * 8))).take (k + 1)) = some (digitsBE 256 0 k v) := by
  obtain ⟨n, q, hn, hd, hq, hlt, hb⟩ := a85_tail k v hk3 hv
  have := a85_spec_digits (k + 1) [] q [] (by simp; omega)
  rw [List.append_nil] at this
  rw [hd, this, Spec.Ascii85.groups]
  obtain ⟨k', rfl⟩ : ∃ k', k = k' + 1 := ⟨k - 1, by omega⟩
  have hlt' : q * 85 ^ n + (85 ^ n - 1) < 4294967296 := hlt
  simp only [List.nil_append, digitsBE_length]
  rw [show 4 - (k' + 1) = n by omega, a85_value_pad, a85_value_digits _ _ hq, if_pos hlt', a85_bytesOf_eq, bytes4_eq, hb]

/-- characters from `!` to `z` (the digits `!`…`u` and `z` are among them) -/
def Good (l : Bytes) : Prop := ∀ c ∈ l, 33 ≤ c ∧ c ≤ 122

theorem good_digits (m v : Nat) : Good (digitsBE 85 33 m v) := by
  intro c hc
  rw [digitsBE_eq] at hc
  obtain ⟨d, hd, rfl⟩ := List.mem_map.1 hc
  have := Digits.be_lt (by decide : 0 < 85) v m d hd
  omega

theorem good_digits5_take (n v : Nat) : Good ((digits5 v).take n) :=
  fun c hc => good_digits 5 v c (digits5_eq v ▸ List.mem_of_mem_take hc)

theorem good_group (v : Nat) : Good (a85Group v) := by
  rcases a85Group_cases v with ⟨-, h⟩ | h <;> rw [h]
  · intro c hc; rw [List.mem_singleton.mp hc]; decide
  · exact digits5_eq v ▸ good_digits 5 v

theorem good_filter {l : Bytes} (h : Good l) : l.filter (fun c => !Spec.Ascii85.isWhite c) = l := by
  apply List.filter_eq_self.mpr
  intro c hc
  obtain ⟨h1, h2⟩ := h c hc
  have : Spec.Ascii85.isWhite c = false := by
    simp only [Spec.Ascii85.isWhite, Bool.or_eq_false_iff, beq_eq_false_iff_ne, ne_eq]
    omega
  simp [this]

theorem good_upToEOD {g : Bytes} (h : Good g) (r : Bytes) :
    Spec.Ascii85.upToEOD (g ++ r) = (Spec.Ascii85.upToEOD r).map (g ++ ·) := by
  induction g with
  | nil => simp
  | cons c cs ih =>
    have hc := h c (by simp)
    have hne : (c == 126) = false := by simp; omega
    simp only [List.cons_append, Spec.Ascii85.upToEOD, hne]
    rw [ih (fun d hd => h d (by simp [hd]))]
    simp [Option.map_map, Function.comp_def]

/-- characters from `!` to `z` pass the white-space filter and the search for the EOD marker, so in
    front of them the reference decoder is `groups` -/
theorem a85_spec_good {g : Bytes} (hg : Good g) (G : Bytes)
    (h : ∀ body, Spec.Ascii85.groups [] (g ++ body) = (Spec.Ascii85.groups [] body).map (G ++ ·)) :
    Emits (ofSpec Spec.Ascii85.decode) g G := by
  intro rest out hr
  unfold ofSpec Spec.Ascii85.decode at hr ⊢
  rw [List.filter_append, good_filter hg, good_upToEOD hg]
  cases hu : Spec.Ascii85.upToEOD (rest.filter fun c => !Spec.Ascii85.isWhite c) with
  | none => rw [hu] at hr; simp at hr
  | some body =>
    rw [hu] at hr
    simp only [Option.map_some] at hr ⊢
    rw [h, hr]; rfl

theorem a85_spec_sem : A85Sem (ofSpec Spec.Ascii85.decode) where
  group := fun v hv => a85_spec_good (good_group v) _ (a85_spec_group v hv)
  nl := by
    intro rest out hr
    unfold ofSpec Spec.Ascii85.decode at hr ⊢
    simpa [show Spec.Ascii85.isWhite 10 = true from rfl] using hr
  tail := by
    intro k v h1 h3 hv
    unfold ofSpec Spec.Ascii85.decode
    rw [List.filter_append, good_filter (good_digits5_take _ _),
      show ([126, 62] : Bytes).filter (fun c => !Spec.Ascii85.isWhite c) = [126, 62] from by decide,
      good_upToEOD (good_digits5_take _ _)]
    simpa [Spec.Ascii85.upToEOD] using a85_spec_tail k v h1 h3 hv
  eod := by unfold ofSpec; decide

/-- **The reference ASCII85 decoder reads what the library writes** (`z` groups, line breaks,
    partial final group, `~>`). -/
theorem spec_reads_model_ascii85 (x : Bytes) (hx : AllBytes x) :
    Spec.Ascii85.decode (encode x) = some x :=
  a85_reads a85_spec_sem x hx

example : Spec.Ascii85.decode (encode (List.replicate 4 0 ++ List.range 70)) =
    some (List.replicate 4 0 ++ List.range 70) := by decide +kernel

end Ascii85

end PdfVerif.C07fa
