import PdfVerif.Props.C02fioh
/-!
# C02 (work package FIO) — members of object streams

`objstm_member_rt`: `getFromObjStm` on the content `WriteCompressed` assembles returns member `i`
as the object written.  `get_member_rt`: the same through `Reader.get` on a file holding the
object stream.  `file_rt_xrefstream_members`: for every `WriteCompressed` of a program.
-/
namespace PdfVerif.C02fioi
open PdfVerif PdfVerif.FIO PdfVerif.C01b PdfVerif.C01L PdfVerif.C01d PdfVerif.C02fioc PdfVerif.C02fiob PdfVerif.C02fioe PdfVerif.C02fiof PdfVerif.C02fiog

theorem refTail_nil (content : Bytes) (a : Int) (e : Option Nat) : readReferenceTail content a [] e = none := by
  simp [readReferenceTail, skipWS]

/-- `g R` that would end behind the next member's offset is not taken for a reference -/
theorem refTail_far (content : Bytes) (a : Int) (rest : Bytes) (e : Nat)
    (h : (skipWS rest).1.length + e ≤ content.length) :
    readReferenceTail content a rest (some e) = none := by
  -- every exit but the last returns `none`
  fun_cases readReferenceTail content a rest (some e) <;> try rfl
  -- the exit that returns a reference: it has found `tooFar` false, against `h`
  rename_i r1 h1 b r2 hri r4 pos tooFar hfar _ _ _ _ h3
  rw [h1] at h; dsimp only at h
  have l2 := readInteger_spec _ _ _ hri
  have l3 := skipWS_len' h3
  simp only [List.length_cons] at l3
  exact absurd (show tooFar = true by simp [tooFar, pos]; omega) hfar

theorem end_le (l : List Nat) (x : Nat) (hx : x ∈ l) :
    ∃ e, (match l with | [] => none | e :: es => some (es.foldl min e)) = some e ∧ e ≤ x := by
  cases l with
  | nil => simp at hx
  | cons e es => exact ⟨_, rfl, (List.min?_eq_some_iff.mp (rfl : (e :: es).min? = some (es.foldl min e))).2 x hx⟩


theorem fmtAll_get (opt : FmtOpt) : ∀ (items : List (Nat × Obj)) (bs : List Bytes) (i num : Nat) (o : Obj),
    fmtAll opt items = some bs → items[i]? = some (num, o) → ∃ b, bs[i]? = some b ∧ format opt [o] = some b := by
  intro items
  fun_induction fmtAll opt items <;> intro bs i num o h hi <;> cases h
  · simp at hi
  · rename_i b bs' hr hf ih
    cases i with
    | zero =>
      simp only [List.getElem?_cons_zero, Option.some.injEq, Prod.mk.injEq] at hi
      obtain ⟨_, rfl⟩ := hi
      exact ⟨b, rfl, hf⟩
    | succ i =>
      simp only [List.getElem?_cons_succ] at hi ⊢
      exact ih bs' i num o hr hi

theorem find_zip (first : Nat) : ∀ (ns offs : List Nat) (i num o : Nat),
    ns[i]? = some num → offs[i]? = some o → (∀ j, j < i → ns[j]? ≠ some num) →
    ((List.zip ns offs).map (fun p => (p.1, p.2 + first))).find? (fun p => p.1 == num) = some (num, o + first) := by
  intro ns
  induction ns with
  | nil => intro offs i num o h; simp at h
  | cons n ns ih =>
    intro offs i num o hn ho hfirst
    cases offs with
    | nil => simp at ho
    | cons o0 offs =>
      cases i with
      | zero =>
        simp only [List.getElem?_cons_zero, Option.some.injEq] at hn ho
        subst hn; subst ho
        simp
      | succ i =>
        simp only [List.getElem?_cons_succ] at hn ho
        have h0 : n ≠ num := by
          have := hfirst 0 (by omega)
          simpa using this
        have : (n == num) = false := by simp [h0]
        simp only [List.zip_cons_cons, List.map_cons, List.find?_cons, this]
        exact ih offs i num o hn ho (fun j hj => by have := hfirst (j + 1) (by omega); simpa using this)

theorem mem_zip_map (first : Nat) : ∀ (ns offs : List Nat) (i num o : Nat),
    ns[i]? = some num → offs[i]? = some o →
    (num, o + first) ∈ (List.zip ns offs).map (fun p => (p.1, p.2 + first)) := by
  intro ns offs i num o hn ho
  have : (List.zip ns offs)[i]? = some (num, o) := by simp [List.getElem?_zip_eq_some, hn, ho]
  exact List.mem_map.2 ⟨(num, o), List.mem_of_getElem? this, rfl⟩


/-- **objstm_member_rt.**  Reading a member out of an object stream.  For every non-empty list of
members within C01's limits, none of them a bare reference (the Writer refuses those), and the
content, `/N` and `/First` that `WriteCompressed` assembles: `getObjStm` followed by
`getFromObjStm` returns for member `i` — addressed by its number, which no earlier member has —
the object written, up to C01's comparison form.  The member's text is read with the next
member's text (after a line feed) or the end of the content as continuation; behind an INTEGER
member `readReferenceTail` looks at the next member's text, and whatever it finds there
(`7␊12 0 R…` included) ends behind the next member's offset, so the member stays an integer. -/
theorem objstm_member_rt (opt : FmtOpt) (items : List (Nat × Obj)) (bs : List Bytes) (content : Bytes) (n first : Nat)
    (hf : fmtAll opt items = some bs) (hc : objStmContent opt items = some (content, n, first))
    (hnum : ∀ x ∈ items, x.1 ≤ 4294967295) (hoff : ∀ o ∈ osOffsets bs 0, o ≤ 9223372036854775807)
    (hN : n ≤ 10000) (dict : List (Bytes × Obj))
    (hdN : dictGet dict kNkey = some (.int n)) (hdF : dictGet dict kFirstKey = some (.int first))
    (hgood : ∀ x ∈ items, good x.2 = true ∧ depthOk x.2 ∧ isRefObj x.2 = false)
    (i num : Nat) (o : Obj) (hi : items[i]? = some (num, o))
    (hfst : ∀ j, j < i → (items.map (·.1))[j]? ≠ some num) :
    ∃ idx headEnd r, getObjStm dict content = .ok (idx, headEnd) ∧
      getFromObjStm idx headEnd content num = .ok (some r) ∧ nrm r = nrm o := by
  have hne : items ≠ [] := by intro h0; subst h0; simp at hi
  obtain ⟨hget, _, _⟩ := objstm_rt opt items bs content n first hne hf hc hnum hoff hN dict hdN hdF
  have hlay := objStmParts_layout opt items bs [] [] hf
  simp only [objStmContent, hlay, Option.map_some, List.nil_append, List.length_nil, Option.some.injEq,
    Prod.mk.injEq] at hc
  obtain ⟨hcontent, _, hfirst⟩ := hc
  obtain ⟨b, hb, hfb⟩ := fmtAll_get opt items bs i num o hf hi
  obtain ⟨oi, hoi⟩ := osOffsets_get bs 0 i b hb
  obtain ⟨pre, tail, hbody, hpre, htail⟩ := os_layout bs 0 i oi b hoi hb
  obtain ⟨hg, hd, hr⟩ := hgood (num, o) (List.mem_of_getElem? hi)
  simp only [Nat.zero_add] at hpre
  have hcont : content = (osHead (items.map (·.1)) bs 0 ++ pre) ++ (b ++ tail) := by
    rw [← hcontent, hbody]; simp
  have hdrop : content.drop (oi + first) = b ++ tail := by
    rw [hcont]
    exact List.drop_left' (by simp [hfirst, hpre]; omega)
  have hlen : content.length = first + oi + b.length + tail.length := by
    rw [hcont]; simp [hfirst, hpre]; omega
  refine ⟨_, _, rd o.canon, hget, ?_, nrm_rd_canon o hg⟩
  unfold getFromObjStm
  rw [find_zip first (items.map (·.1)) (osOffsets bs 0) i num oi (by simp [hi]) hoi hfst]
  have c1 : ¬ (oi + first < first - 1) := by omega
  have c2 : ¬ (content.length < oi + first) := by omega
  simp only [c1, c2, ↓reduceIte, hdrop]
  rcases htail with ⟨_, rfl⟩ | ⟨b', more, hb', rfl, hnext⟩
  · obtain ⟨k', h1, h2⟩ := C02fiod.format_reads opt o hg hd hr b [] hfb (.inl rfl)
    have hk' : k' = [] := by rcases h2 with h | h <;> simp [h, skipWS]
    subst hk'
    rw [h1]
    generalize rd o.canon = v
    cases v <;> simp [refTail_nil]
  · -- the next member
    have hlen' : bs.length = items.length := fmtAll_length opt items bs hf
    have hi1 : i + 1 < items.length := by
      have := (List.getElem?_eq_some_iff.1 hb').1; omega
    obtain ⟨⟨num', o'⟩, hi'⟩ : ∃ x, items[i+1]? = some x := ⟨items[i+1], by simp [hi1]⟩
    obtain ⟨b'', hb'', hfb'⟩ := fmtAll_get opt items bs (i+1) num' o' hf hi'
    rw [hb'] at hb''
    cases hb''
    obtain ⟨c, t, hct, htok⟩ := C02fiod.format_head opt o' (hgood _ (List.mem_of_getElem? hi')).1 b' hfb'
    obtain ⟨k', h1, h2⟩ := C02fiod.format_reads opt o hg hd hr b (10 :: (b' ++ more)) hfb
      (.inr ⟨c, t ++ more, by simp [hct], htok⟩)
    rw [h1]
    have hx : oi + b.length + 1 + first ∈
        (List.filter (fun p => decide (oi + first < p.2))
          ((List.zip (items.map (·.1)) (osOffsets bs 0)).map (fun p => (p.1, p.2 + first)))).map (·.2) := by
      refine List.mem_map.2 ⟨(num', oi + b.length + 1 + first), ?_, rfl⟩
      refine List.mem_filter.2 ⟨mem_zip_map first _ _ (i+1) num' _ (by simp [hi']) hnext, by simp; omega⟩
    have hkl : (skipWS k').1.length ≤ (b' ++ more).length := by
      have e1 : skipWS (10 :: (b' ++ more)) = skipWS (b' ++ more) := skipWS_lf _
      rcases h2 with h | h
      · rw [h, e1]; exact skipWS_len _
      · have := skipWS_len k'
        have := skipWS_len (b' ++ more)
        rw [h, e1] at *
        omega
    generalize rd o.canon = v
    cases v
    case int a =>
      simp only [gt_iff_lt]
      -- `L`: the later offsets as `getFromObjStm` computes them (the term has to match its unfolding); only
      -- its least element counts, which is at most the next member's offset (`hx`, `end_le`): a `g R`
      -- behind the integer would end behind it (`refTail_far`)
      generalize List.map (fun x => x.snd) (List.filter (fun p => decide (oi + first < p.snd))
        (List.map (fun p => (p.fst, p.snd + first)) ((List.map (fun x => x.fst) items).zip (osOffsets bs 0)))) = L at hx
      obtain ⟨e, he, hle⟩ := end_le L _ hx
      cases L with
      | nil => cases he
      | cons e0 es =>
        cases he
        simp only []
        rw [refTail_far content a k' _ (by simp at hlen hkl; omega)]
    all_goals simp


/-- the dictionary `WriteCompressed` gives to an object stream -/
def osDict (cnt first : Nat) : List (Bytes × Obj) :=
  [(kType, .name nObjStm), (kN, .int cnt), (kFirst, .int first), (kFilter, .name nFlate)]

theorem osDict_nodup (cnt first : Nat) : (keysOf (sdKv0 (osDict cnt first))).Nodup := by
  show [kType, kN, kFirst, kFilter, kLength].Nodup
  decide +kernel

theorem osDict_good (cnt first : Nat) (hc : cnt ≤ 10000) (hf : first ≤ 9223372036854775807) :
    good (.dict (sdKv0 (osDict cnt first))) = true ∧ depthOf (.dict (sdKv0 (osDict cnt first))) ≤ Gen.scanner_maxScannerNestDepth := by
  have hk : goodName kType = true ∧ goodName kN = true ∧ goodName kFirst = true ∧ goodName kFilter = true ∧
      goodName kLength = true ∧ goodName nObjStm = true ∧ goodName nFlate = true := by decide +kernel
  obtain ⟨k1, k2, k3, k4, k5, g1, g2⟩ := hk
  have hall : ∀ e ∈ sdKv0 (osDict cnt first), goodName e.1 = true ∧ good e.2 = true ∧ depthOf e.2 ≤ 0 := by
    intro e he
    have he' : e ∈ [(kType, Obj.name nObjStm), (kN, .int cnt), (kFirst, .int first), (kFilter, .name nFlate), (kLength, .int 0)] := he
    simp only [List.mem_cons, List.not_mem_nil, or_false] at he'
    rcases he' with rfl | rfl | rfl | rfl | rfl
    · exact ⟨k1, g1, Nat.le_refl _⟩
    · exact ⟨k2, by simp only [good_int]; omega, Nat.le_refl _⟩
    · exact ⟨k3, by simp only [good_int]; omega, Nat.le_refl _⟩
    · exact ⟨k4, g2, Nat.le_refl _⟩
    · exact ⟨k5, by decide, Nat.le_refl _⟩
  obtain ⟨a, b⟩ := good_dict_of_entries hall (osDict_nodup cnt first) (by show 5 ≤ Gen.scanner_maxDictLen; decide)
  exact ⟨a, by simp only [Gen.scanner_maxScannerNestDepth]; omega⟩

theorem osDict_get (cnt first : Nat) :
    dictGet (rdKV (sdBefore (osDict cnt first)) ++ rdKV (sdAfter (osDict cnt first))) kNkey = some (.int cnt) ∧
    dictGet (rdKV (sdBefore (osDict cnt first)) ++ rdKV (sdAfter (osDict cnt first))) kFirstKey = some (.int first) ∧
    dictGet (rdKV (sdBefore (osDict cnt first)) ++ rdKV (sdAfter (osDict cnt first))) kFilterKey = some (.name nFlate) ∧
    dictGet (rdKV (sdBefore (osDict cnt first)) ++ rdKV (sdAfter (osDict cnt first))) kDecodeParmsKey = none := by
  have hn := osDict_nodup cnt first
  rw [sd_dictGet _ hn (by decide), sd_dictGet _ hn (by decide), sd_dictGet _ hn (by decide), sd_dictGet _ hn (by decide)]
  exact ⟨rfl, rfl, rfl, rfl⟩

/-- **get_member_rt.**  `Reader.get` on a member of an object stream.  The file holds, at the
offset its entry gives, the object stream `sRef` as `WriteCompressed` writes it (dictionary
`osDict`, `/Length` in any of the writer's forms, data `raw`), zlib is trusted (`inflate raw` = the
content the writer assembled from `items`), and the entry of `num` names `sRef`: then
`Reader.get` returns member `i` — the object written, up to C01's comparison form. -/
theorem get_member_rt (file : Bytes) (m : XMap) (opt : FmtOpt) (sRef cnt first : Nat) (raw content : Bytes)
    (pos : Int) (dictBytes value : Bytes) (off : Nat) (doc : List (Nat × Nat × Obj))
    (hm : m.get sRef = some { inStream := 0, pos := pos, gen := 0 }) (hpos : 0 ≤ pos)
    (hfmt : fmtDictLen opt false (osDict cnt first) value = some (dictBytes, off))
    (hlt : LenText doc value raw.length)
    (hat : At file pos.toNat (objHeader sRef 0 ++ dictBytes ++ kStream ++ raw ++ kEndstream))
    (hsref : sRef < Gen.fio_maxXRefSize) (hs0 : sRef ≠ 0)
    (hsize : raw.length ≤ 9223372036854775807) (hfs : file.length < 9223372036854775808)
    (inflate : Bytes → Option Bytes) (getInt : Obj → Except Err Int)
    (hgi : ∀ i, getInt (.int i) = .ok i)
    (hgr : ∀ r len, (r, 0, Obj.int len) ∈ doc → getInt (.ref r 0) = .ok len)
    (fo : FmtOpt) (items : List (Nat × Obj)) (bs : List Bytes)
    (hf : fmtAll fo items = some bs) (hc : objStmContent fo items = some (content, cnt, first))
    (hinf : inflate raw = some content)
    (hnum : ∀ x ∈ items, x.1 ≤ 4294967295) (hoff : ∀ o ∈ osOffsets bs 0, o ≤ 9223372036854775807)
    (hN : cnt ≤ 10000) (hfirst : first ≤ 9223372036854775807)
    (hgood : ∀ x ∈ items, good x.2 = true ∧ depthOk x.2 ∧ isRefObj x.2 = false)
    (i num : Nat) (o : Obj) (hi : items[i]? = some (num, o))
    (hfst : ∀ j, j < i → (items.map (·.1))[j]? ≠ some num)
    (p : Int) (hp : 0 ≤ p) (hmn : m.get num = some { inStream := sRef, pos := p, gen := 0 }) :
    ∃ r, readerGet file m 0 inflate getInt num 0 = .ok (some (.plain r)) ∧ nrm r = nrm o := by
  obtain ⟨hg, hd⟩ := osDict_good cnt first hN hfirst
  obtain ⟨start, rest, hrio, hbody⟩ := stream_at_rt file opt sRef 0 (osDict cnt first) raw pos.toNat dictBytes value off doc
    hfmt hlt hat hg hd hsref (by simp [Gen.fio_maxGeneration]) hfs getInt hgi hgr
  obtain ⟨hdN, hdF, hdFl, hdP⟩ := osDict_get cnt first
  generalize rdKV (sdBefore (osDict cnt first)) ++ rdKV (sdAfter (osDict cnt first)) = dict at hrio hdN hdF hdFl hdP
  obtain ⟨idx, headEnd, r, hos, hfrom, hnrm⟩ := objstm_member_rt fo items bs content cnt first hf hc hnum hoff hN
    dict hdN hdF hgood i num o hi hfst
  have hdec : decodeSimple inflate dict raw = .ok content := by
    have e3 : (nFlate == nFlateDecode) = true := by rw [nFlateDecode_eq]; exact beq_self_eq_true _
    simp [decodeSimple, hdFl, hdP, e3, hinf]
  exact ⟨r, readerGet_of_member hmn hp hs0 hm hpos hrio (by rw [hbody]; exact hdec) hos hfrom, hnrm⟩

/-- no completed stream object is lost from the record on the way from `s` to `s'` (`Keeps.sdoc`) -/
def SMono (s s' : WState) : Prop := ∀ x, x ∈ s.sdoc → x ∈ s'.sdoc

theorem openStream_sm {s s' : WState} {num gen : Nat} {d : List (Bytes × Obj)} {ul : Option Int}
    (h : openStream s num gen d ul = .ok s') :
    s'.sdoc = s.sdoc ∧ s'.sdata = [] ∧ ∃ st, s'.stm = some st ∧ st.num = num ∧ st.gen = gen ∧ st.dict = d := by
  obtain ⟨_, x, n, _, rfl⟩ := openStream_ok h
  exact ⟨rfl, rfl, _, rfl, rfl, rfl, rfl⟩

theorem streamWrite_sm {s s' : WState} {p : Bytes} {st : OpenStm} (hs : s.stm = some st) (h : streamWrite s p = .ok s') :
    s'.sdoc = s.sdoc ∧ s'.sdata = s.sdata ++ p ∧ ∃ st', s'.stm = some st' ∧ st'.num = st.num ∧ st'.gen = st.gen ∧ st'.dict = st.dict := by
  obtain ⟨st0, hs0, hcase⟩ := streamWrite_ok h
  rw [hs] at hs0; cases hs0
  rcases hcase with ⟨_, rfl⟩ | ⟨_, rfl⟩ | ⟨_, s1, st1, hsw, rfl⟩
  · exact ⟨rfl, rfl, st, hs, rfl, rfl, rfl⟩
  · exact ⟨rfl, rfl, _, rfl, rfl, rfl, rfl⟩
  · obtain ⟨_, _, _, _, _, hsdoc, _, _, _, _, hnum, hgen, hdict, _⟩ := startWriting_layout hsw
    exact ⟨hsdoc, rfl, st1, rfl, hnum, hgen, hdict⟩

theorem streamClose_sm {s s' : WState} (h : streamClose s = .ok s') :
    SMono s s' ∧ ∀ st, s.stm = some st → (st.num, st.gen, st.dict, s.sdata) ∈ s'.sdoc := by
  refine ⟨(streamClose_reach h).1.keeps.sdoc, fun st hst => ?_⟩
  obtain ⟨st', s1, st1, len, hs, hcl, _, hrep⟩ := streamCloseWith_ok h
  cases hs.symm.trans hst
  exact (replayWith_reach putStream0_reach _ rfl hrep).1.keeps.sdoc _ (by simp)

theorem run_sm (ops : List Op) : ∀ {s s' : WState} {i : Nat}, Inv s → run s ops i = .ok s' → SMono s s' :=
  fun _ h => (run_reach ops h).keeps.sdoc

theorem setEntries_member (sRef : Nat) : ∀ (items : List (Nat × Nat × Obj)) (x : XMap) (n i0 : Nat) (x' : XMap) (n' : Nat),
    setEntries sRef x n items i0 = some (x', n') →
    ∀ j num g o, items[j]? = some (num, g, o) →
      x'.get num = some { inStream := sRef, pos := ((i0 + j : Nat) : Int), gen := 0 } ∧ x.get num = none ∧
      ∀ j', j' < j → (items.map (·.1))[j']? ≠ some num := by
  intro items x n i0 x' n'
  fun_induction setEntries sRef x n items i0 <;> intro h j num g o hj
  · simp at hj
  · cases h
  · rename_i x n num0 g0 o0 rest i0 x1 n1 hset ih
    obtain ⟨hnone, hx1, _, _⟩ := setXRef_ok hset
    cases j with
    | zero =>
      simp only [List.getElem?_cons_zero, Option.some.injEq, Prod.mk.injEq] at hj
      obtain ⟨rfl, rfl, rfl⟩ := hj
      have : x1.get num0 = some { inStream := sRef, pos := (i0 : Int), gen := 0 } := by
        rw [hx1, C02fio.get_set]; simp
      exact ⟨by simpa using (setEntries_get sRef rest h).1 _ _ this, hnone, fun j' hj' => by omega⟩
    | succ j =>
      simp only [List.getElem?_cons_succ] at hj
      obtain ⟨a, b, c⟩ := ih h j num g o hj
      rw [hx1, C02fio.get_set] at b
      have hne : num ≠ num0 := by intro heq; subst heq; simp at b
      refine ⟨by rw [a]; congr 2; omega, by simpa [hne] using b, fun j' hj' => ?_⟩
      cases j' with
      | zero => simp; exact fun h => hne h.symm
      | succ j' =>
        simp only [List.map_cons, List.getElem?_cons_succ]
        exact c j' (by omega)

theorem openStream_entry {s s' : WState} {num gen : Nat} {d : List (Bytes × Obj)} {ul : Option Int}
    (h : openStream s num gen d ul = .ok s') : ∃ e, s'.xref.get num = some e := by
  obtain ⟨_, x, n, hset, rfl⟩ := openStream_ok h
  exact ⟨{ inStream := 0, pos := s.pos, gen := gen }, by simp only; rw [(setXRef_ok hset).2.1, C02fio.get_set]; simp⟩

/-- the container (a fresh number) is among `sdoc` with `osDict` and `raw`; member `j` has the
    entry (container, `j`) -/
theorem writeObjStmAt_rec {s s' : WState} {items : List (Nat × Nat × Obj)} {raw : Bytes}
    (hi : Inv s) (h : writeObjStmAt s items raw = .ok s') :
    SMono s s' ∧ ∃ sRef content cnt first, 0 < sRef ∧
      objStmContent s.opts.fmtPlain (items.map fun (num, _, o) => (num, o)) = some (content, cnt, first) ∧
      (sRef, 0, osDict cnt first, raw) ∈ s'.sdoc ∧ (∃ e, s'.xref.get sRef = some e) ∧
      ∀ (j num g : Nat) (o : Obj), items[j]? = some (num, g, o) →
        s'.xref.get num = some { inStream := sRef, pos := ((j : Nat) : Int), gen := 0 } ∧
        ∀ j', j' < j → (items.map (·.1))[j']? ≠ some num := by
  obtain ⟨s1, sRef, x, n, content, cnt, first, s2, s3, ha, hse, hoc, h2, h3, h4⟩ := writeObjStmAt_ok h
  obtain ⟨rfl, rfl, _⟩ := alloc_ok ha
  have hent := setEntries_member _ items _ _ 0 x n hse
  obtain ⟨_, hd2, st2, hst2, hn2, hg2, hdict2⟩ := openStream_sm h2
  obtain ⟨_, hd3, st3, hst3, hn3, hg3, hdict3⟩ := streamWrite_sm hst2 h3
  have m3 := ((Reach.written h3).trans (streamClose_reach h4).1).keeps.mono
  refine ⟨(writeObjStmAt_reach h).1.keeps.sdoc, _, content, cnt, first, hi.npos, hoc, ?_, ?_, ?_⟩
  · have := (streamClose_sm h4).2 st3 hst3
    rwa [hn3, hg3, hdict3, hn2, hg2, hdict2, hd3, hd2] at this
  · obtain ⟨e0, he0⟩ := openStream_entry h2
    exact ⟨e0, m3 _ _ he0⟩
  · intro j num g o hj
    obtain ⟨a, _, c⟩ := hent j num g o hj
    exact ⟨m3 _ _ ((Reach.opened h2).keeps.mono _ _ (by simpa using a)), c⟩

theorem writeObjStm_rec {s s' : WState} {items : List (Nat × Nat × Obj)} {raw : Bytes}
    (hi : Inv s) (h : writeObjStm s items raw = .ok s') :
    SMono s s' ∧ ∃ sRef content cnt first, 0 < sRef ∧
      objStmContent s.opts.fmtPlain (items.map fun (num, _, o) => (num, o)) = some (content, cnt, first) ∧
      (sRef, 0, osDict cnt first, raw) ∈ s'.sdoc ∧ (∃ e, s'.xref.get sRef = some e) ∧
      ∀ (j num g : Nat) (o : Obj), items[j]? = some (num, g, o) →
        s'.xref.get num = some { inStream := sRef, pos := ((j : Nat) : Int), gen := 0 } ∧
        ∀ j', j' < j → (items.map (·.1))[j']? ≠ some num :=
  writeObjStmAt_rec (s := reserveNumbers s items) (reserveNumbers_inv hi items) h


theorem fmtAll_of_parts (opt : FmtOpt) : ∀ (items : List (Nat × Obj)) (head body : Bytes) (r : Bytes × Bytes),
    objStmParts opt items head body = some r → ∃ bs, fmtAll opt items = some bs := by
  intro items head body
  fun_induction objStmParts opt items head body <;> intro r h
  · exact ⟨[], rfl⟩
  · obtain ⟨b, hb, _⟩ := Option.map_eq_some_iff.1 h
    exact ⟨[b], by simp [fmtAll, hb]⟩
  · cases h
  · rename_i b hb ih
    obtain ⟨bs, hbs⟩ := ih _ h
    exact ⟨b :: bs, by simp [fmtAll, hb, hbs]⟩

theorem osOffsets_le (bs : List Bytes) (o : Nat) (h : o ∈ osOffsets bs 0) : o ≤ (osBody bs).length := by
  obtain ⟨i, hi⟩ := List.mem_iff_getElem?.1 h
  obtain ⟨b, hb⟩ := osOffsets_get_inv bs 0 i o hi
  obtain ⟨pre, tail, h1, h2, _⟩ := os_layout bs 0 i o b hi hb
  rw [h1]; simp; omega


theorem objStmContent_bounds {opt : FmtOpt} {items : List (Nat × Obj)} {content : Bytes} {cnt first : Nat}
    (hc : objStmContent opt items = some (content, cnt, first)) :
    ∃ bs, fmtAll opt items = some bs ∧ cnt = items.length ∧ first ≤ content.length ∧
      ∀ o ∈ osOffsets bs 0, o ≤ content.length := by
  obtain ⟨r, hr, _⟩ : ∃ r, objStmParts opt items [] [] = some r ∧ True := by
    simp only [objStmContent, Option.map_eq_some_iff] at hc
    obtain ⟨r, hr, _⟩ := hc
    exact ⟨r, hr, trivial⟩
  obtain ⟨bs, hbs⟩ := fmtAll_of_parts opt items [] [] r hr
  simp only [objStmContent, objStmParts_layout opt items bs [] [] hbs, Option.map_some, List.nil_append,
    List.length_nil, Option.some.injEq, Prod.mk.injEq] at hc
  obtain ⟨rfl, hcnt, rfl⟩ := hc
  refine ⟨bs, hbs, hcnt.symm, by simp, fun o ho => ?_⟩
  have := osOffsets_le bs o ho
  simp only [List.length_append]
  omega

/-- **file_rt_xrefstream_members.**  Object-stream members of a whole file, for every program the
writer model accepts (object-stream mode, unencrypted) that contains a `WriteCompressed items` and
ends in `Close`: the writer has recorded a container `sRef` (a fresh number) with the dictionary
`osDict` and the bytes `raws.head` among its completed stream objects, and — when the reader's map
agrees with the writer's table at `sRef` (`P sRef`) and on the members' compressed entries
(`hmstm`, which `xrefstream_map_agrees` provides) — `Reader.get` on the bytes of the file returns
for EVERY member the object written, up to C01's comparison form.

No hypothesis about the writer's state: the record, the entries, and that members are not
references and have generation 0 follow from `WriteCompressed` having accepted them.
Parameters/limits: zlib (`inflate raws.head = content`, the content `objStmContent` assembles),
`getInt`, members within C01's limits (`good`, `depthOk`), at most `maxObjStmObjects` members (one
object stream; the splitting loop for more is covered by the writer-side invariants only), content
below 2^63 bytes. -/
theorem file_rt_xrefstream_members (o : WOpts) (s0 s : WState) (ops1 ops2 : List Op)
    (items : List (Nat × Nat × Obj)) (raws : List Bytes)
    (cat : Obj) (info : Option Obj) (tr : List (Bytes × Obj)) (raw : Bytes)
    (henc : o.encrypted = false) (hobj : o.objStm = true)
    (h0 : initState o = some s0)
    (h : run s0 ((ops1 ++ .writeCompressed items raws :: ops2) ++ [.close cat info tr raw]) 0 = .ok s)
    (hsize : s.out.length < 9223372036854775808)
    (hnr : s.nextRef ≤ Gen.fio_maxXRefSize)
    (m : XMap) (P : Nat → Prop)
    (hm : ∀ n e, P n → s.xref.get n = some e → e.inStream = 0 → 0 ≤ e.pos →
      m.get n = some { inStream := 0, pos := e.pos, gen := e.gen })
    (hmstm : ∀ n e, s.xref.get n = some e → e.inStream ≠ 0 → 0 ≤ e.pos →
      m.get n = some { inStream := e.inStream, pos := e.pos, gen := 0 })
    (inflate : Bytes → Option Bytes) (getInt : Obj → Except Err Int)
    (hgi : ∀ i, getInt (.int i) = .ok i)
    (hgr : ∀ r len, (r, 0, Obj.int len) ∈ s.doc → getInt (.ref r 0) = .ok len)
    (hne : items ≠ []) (hcap : items.length ≤ Gen.fio_maxObjStmObjects)
    (hgood : ∀ it ∈ items, good it.2.2 = true ∧ depthOk it.2.2)
    (content : Bytes) (cnt first : Nat)
    (hc : objStmContent o.fmtPlain (items.map fun (num, _, ob) => (num, ob)) = some (content, cnt, first))
    (hinf : inflate (raws.headD []) = some content)
    (hclen : content.length ≤ 9223372036854775807) :
    ∃ sRef, 0 < sRef ∧ (sRef, 0, osDict cnt first, raws.headD []) ∈ s.sdoc ∧
      (∀ s1, run s0 (ops1 ++ .writeCompressed items raws :: ops2) 0 = .ok s1 → ∃ e, s1.xref.get sRef = some e) ∧
      (P sRef → ∀ (j num g : Nat) (ob : Obj), items[j]? = some (num, g, ob) →
        ∃ r, readerGet s.out m 0 inflate getInt num 0 = .ok (some (.plain r)) ∧ nrm r = nrm ob) := by
  obtain ⟨his, hoptss, _⟩ := run_facts h0 h
  have hlit : s.opts.litStr = false := by rw [hoptss]; simp [WOpts.litStr, henc]
  obtain ⟨_, hsdoc, _⟩ := C02fioh.writer_objects_stay o s0 s _ h0 h
  rw [List.append_assoc, List.cons_append] at h
  obtain ⟨s1, s2, i2, hr1, hstep, hr2⟩ := run_split ops1 _ _ h
  obtain ⟨hi1, hopts1, _⟩ := run_facts h0 hr1
  have hi2 := (step_reach hstep).inv hi1
  -- the single object stream
  simp only [step] at hstep
  obtain ⟨_, hany, ⟨hemp, _⟩ | ⟨_, ⟨hno, _⟩ | ⟨_, hstms⟩⟩⟩ := writeCompressed_ok hstep
  · exact absurd hemp hne
  · rw [hopts1, hobj] at hno; cases hno
  simp only [writeObjStms] at hstms
  rw [if_neg (by omega)] at hstms
  obtain ⟨_, sRef, content', cnt', first', hs0, hoc, hrec, ⟨e0, he0⟩, hent⟩ := writeObjStm_rec hi1 hstms
  rw [hopts1, hc] at hoc
  simp only [Option.some.injEq, Prod.mk.injEq] at hoc
  obtain ⟨rfl, rfl, rfl⟩ := hoc
  have hrecs := run_sm _ hi2 hr2 _ hrec
  have hmono := run_mono _ hr2
  refine ⟨sRef, hs0, hrecs, ?_, ?_⟩
  · intro sx hsx
    obtain ⟨sa, sb, ib, hra, hsb, hrb⟩ := run_split ops1 _ _ hsx
    rw [hr1] at hra
    simp only [Except.ok.injEq] at hra
    subst hra
    simp only [step] at hsb
    rw [hstep] at hsb
    simp only [Except.ok.injEq] at hsb
    subst hsb
    exact ⟨e0, run_mono _ hrb _ _ he0⟩
  intro hP j num g ob hj
  obtain ⟨e, dictBytes, value, off, hxe, heg, hins, hpos, hfd, hlt, hat, _⟩ := hsdoc _ hrecs
  simp only at hxe heg hfd hlt hat
  have hmn := hm sRef e hP hxe hins hpos
  rw [heg] at hmn
  rw [hlit] at hfd
  have hsref : sRef < Gen.fio_maxXRefSize := by have := his.below sRef e hxe; omega
  have hbl : (raws.headD []).length ≤ 9223372036854775807 := by
    have := hat.end_le
    simp only [List.length_append] at this
    omega
  obtain ⟨hx2, hfst⟩ := hent j num g ob hj
  have hxs := hmono _ _ hx2
  have hmnum := hmstm num _ hxs (by simp; omega) (by simp)
  simp only at hmnum
  obtain ⟨bs, hbs, hcnt, hfirst, hoffs⟩ := objStmContent_bounds hc
  have hmapfst : (items.map fun (num, _, ob) => (num, ob)).map (·.1) = items.map (·.1) := by
    simp [List.map_map, Function.comp_def]
  -- the members' numbers are below `Size`: they have entries in the final table
  have hnums : ∀ x ∈ items.map (fun (num, _, ob) => (num, ob)), x.1 ≤ 4294967295 := by
    intro x hx
    obtain ⟨⟨n1, g1, o1⟩, hmem, rfl⟩ := List.mem_map.1 hx
    obtain ⟨k, hk⟩ := List.mem_iff_getElem?.1 hmem
    have := his.below _ _ (hmono _ _ (hent k n1 g1 o1 hk).1)
    simp [Gen.fio_maxXRefSize] at hnr
    simp only
    omega
  -- that no member is a bare reference is what `WriteCompressed` checked (`hany`)
  have hgoods : ∀ x ∈ items.map (fun (num, _, ob) => (num, ob)), good x.2 = true ∧ depthOk x.2 ∧ isRefObj x.2 = false := by
    intro x hx
    obtain ⟨⟨n1, g1, o1⟩, hmem, rfl⟩ := List.mem_map.1 hx
    obtain ⟨a, b⟩ := hgood _ hmem
    have := List.any_eq_false.1 hany _ hmem
    simp only [Bool.or_eq_true, not_or] at this
    exact ⟨a, b, by cases o1 <;> first | rfl | exact absurd rfl this.2⟩
  exact get_member_rt s.out m s.opts.fmt sRef cnt first (raws.headD []) content e.pos dictBytes value off s.doc
    hmn hpos hfd hlt hat hsref (by omega) hbl hsize inflate getInt hgi hgr
    o.fmtPlain (items.map fun (num, _, ob) => (num, ob)) bs hbs hc hinf hnums
    (hoff := fun ofs hofs => by have := hoffs ofs hofs; omega)
    (hN := by rw [hcnt]; simpa [Gen.fio_maxObjStmObjects] using hcap) (hfirst := by omega) hgoods
    j num ob (hi := by simp [List.getElem?_map, hj]) (hfst := by rw [hmapfst]; exact hfst)
    (j : Int) (by omega) hmnum


-- non-vacuity of `file_rt_xrefstream_members` on the file of `C02fioh`'s example (object stream 6
-- with members 4 = `7` and 5 = `/B`; integer member 4 is followed by the next member's text, the
-- case in which `readReferenceTail` has to say "not a reference"): the hypotheses hold (`inflate :=
-- some`, the content is what `objStmContent` assembles, members within the limits), the record
-- `(6, 0, osDict 2 8, content)` is among the writer's stream objects, and both members come back
example : (match initState C02fioh.exOpts with
    | some s0 => (match run s0 (C02fioh.exProg []) 0 with
      | .ok sa =>
        let x := sa.xref.filter (fun (p : Nat × XEntry) => p.1 != 8)
        let pl := xrefStreamPayload x sa.nextRef
        (match run s0 (C02fioh.exProg pl.2.2) 0 with
         | .ok s =>
           (match C02fioh.decodeXRefData some pl.1 pl.2.1 s.nextRef pl.2.2,
                  objStmContent C02fioh.exOpts.fmtPlain (C02fioh.exItems.map fun (n, _, o) => (n, o)) with
            | .ok m, some (content, cnt, first) =>
              C02fioh.exOpts.objStm && !C02fioh.exOpts.encrypted && content == C02fioh.exObjStm &&
              cnt == 2 && first == 8 &&
              C02fioh.exItems.all (fun it => good it.2.2 && decide (depthOf it.2.2 ≤ Gen.scanner_maxScannerNestDepth)) &&
              s.sdoc.any (fun r => r.1 == 6 && r.2.1 == 0 && r.2.2.2 == content &&
                r.2.2.1.map (·.1) == (osDict cnt first).map (·.1)) &&
              m.get 4 == some ⟨6, 0, 0⟩ && m.get 5 == some ⟨6, 1, 0⟩ && m.get 6 == s.xref.get 6 &&
              (match readerGet s.out m 0 some C02fioh.exGetInt 4 0 with | .ok (some (.plain (.int 7))) => true | _ => false) &&
              (match readerGet s.out m 0 some C02fioh.exGetInt 5 0 with | .ok (some (.plain (.name [66]))) => true | _ => false)
            | _, _ => false)
         | _ => false)
      | _ => false)
    | none => false) = true := by decide +kernel

end PdfVerif.C02fioi
