import PdfVerif.Lemmas.CONCPair
import PdfVerif.Props.C18conc
/-!
# C18 — `pair_atomic`: the two views published by `StoreOrLoadPair`

`A`, `B` are the two Go types of a merged object (field / widget).  Under the discipline that
these two types are published only through `StoreOrLoadPair[A,B]` (`PairTypes`: no `Decode` or
`DecodeExclusive` is called for type `A` or `B`), in every reachable
state and for every reference the two cache entries are either both absent or both present
**and are the two values one single call proposed together**: no interleaving mixes the halves
of two different decodes.  Consequently all calls return that one pair.
-/
namespace PdfVerif.C18concP
open PdfVerif PdfVerif.CONC

/-- `pair_atomic`: under `PairTypes A B` the entries `(r, A)` and `(r, B)` are both absent or they are the two
halves which a single call stored together. -/
theorem pair_atomic (cfg : Cfg) (hf : cfg.fixed = true) (A B : Ty) (hAB : A ≠ B)
    (ls : List Label) (s : State) (hl : ∀ l ∈ ls, PairTypes A B l)
    (h : run cfg State.init ls = some s) (r : Ref) : PairState A B s r :=
  (run_inv cfg (PairTypes A B) (PAInv A B) (fun _ _ _ _ hg hi hs => hi.step hf hAB hg hs) ls
    State.init s hl (PAInv.init A B) h).pairs r

/-- no state shows one half without the other -/
theorem pair_halves_together (cfg : Cfg) (hf : cfg.fixed = true) (A B : Ty) (hAB : A ≠ B)
    (ls : List Label) (s : State) (hl : ∀ l ∈ ls, PairTypes A B l)
    (h : run cfg State.init ls = some s) (r : Ref) :
    (s.cache (r, A)).isSome = (s.cache (r, B)).isSome := by
  rcases pair_atomic cfg hf A B hAB ls s hl h r with ⟨h1, h2⟩ | ⟨_, _, _, _, h1, h2⟩ <;> simp [h1, h2]

/-- every `StoreOrLoadPair[A,B]` on `r` that returned, returned the pair which the first call
stored — a pair proposed together by one call (here additionally `PairOnDirect`, the hypothesis
of `agreement`) -/
theorem pair_result_is_one_proposal (cfg : Cfg) (hf : cfg.fixed = true) (A B : Ty) (hAB : A ≠ B)
    (ls : List Label) (s : State) (hl : ∀ l ∈ ls, PairTypes A B l)
    (hl' : ∀ l ∈ ls, PairOnDirect cfg l) (h : run cfg State.init ls = some s)
    (t : Tid) (r : Ref) (a b a' b' : Val) (he : .pair t r A B a b (some (a', b')) ∈ s.hist) :
    ∃ t0, .pair t0 r A B a' b' (some (a', b')) ∈ s.hist := by
  have hi := C18conc.inv_reachable cfg hf ls s hl' h
  have hev := hi.hist _ he
  rcases pair_atomic cfg hf A B hAB ls s hl h r with ⟨h1, _⟩ | ⟨t0, a0, b0, hmem, hA, hB⟩
  · have : s.cache (r, A) = some a' := hev.1
    rw [h1] at this; cases this
  · have e1 : s.cache (r, A) = some a' := hev.1
    have e2 : s.cache (r, B) = some b' := hev.2
    rw [hA] at e1; rw [hB] at e2; cases e1; cases e2
    exact ⟨t0, hmem⟩

/-- non-vacuity: two threads decode the same merged object, each via a decode function which
builds its own pair and publishes it with `StoreOrLoadPair[7,8]` (types 7, 8 are used by nothing
else; the decodes themselves run under types 0 and 1); the loser adopts the winner's pair. -/
example :
    let cfg : Cfg := ⟨fun _ => .direct, true⟩
    let ls : List Label :=
      [(0, .callDecode (.ref 1) 0 []), (1, .callDecode (.ref 1) 1 []), (0, .go), (1, .go),
       (0, .callPair 1 7 8 10 11), (1, .callPair 1 7 8 20 21)]
    (∀ l ∈ ls, PairTypes 7 8 l) ∧
    (run cfg State.init ls).map (fun s => s.hist.take 2)
      = some [.pair 1 1 7 8 20 21 (some (10, 11)), .pair 0 1 7 8 10 11 (some (10, 11))] := by
  refine ⟨?_, by decide +kernel⟩
  intro l hl
  simp at hl
  rcases hl with rfl | rfl | rfl | rfl | rfl | rfl <;> simp [PairTypes]

end PdfVerif.C18concP
