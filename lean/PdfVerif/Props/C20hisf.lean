import PdfVerif.Model.HISSeq
import PdfVerif.Props.C20hisc
/-!
# C20 — no object header is lost at the edge of a scan window

`scanner.Find` searches a 1024-byte buffer; when the buffer holds no match it restarts
`regexpOverlap` = 64 bytes before the end of the buffer, refills, and searches again.  On the windowed model
`HIS.find`, for any input and any number of windows: `find_reaches` (matcher-independent: `Find` never passes a
segment of at most 64 bytes that the matcher sees in every window containing it); `header_seen`,
`header_no_inner_match`: a line-initial header `LF N ws G ws obj` is such a segment for `markerRegexp`; hence
`find_reaches_header`, which `Props/C20hisd.lean` (`locLoop_records`) carries through the scan loop.

The bound is `1 + |N| + |ws| + |G| + |ws| + 3 ≤ regexpOverlap = 64`: a longer header can be lost at a window edge
(the restart position may fall inside it).
-/
namespace PdfVerif.C20hisf
open PdfVerif PdfVerif.HIS PdfVerif.C20hisc

/-- what every window after a refill satisfies (`full`: a buffer that is not full ends at the end of the data) -/
structure Inv (file : Bytes) (w : Win) : Prop where
  pos_le : w.pos ≤ w.used
  used_le : w.used ≤ Gen.his_scanner_scannerBufSize
  in_file : w.base + w.used ≤ file.length
  full : w.used < Gen.his_scanner_scannerBufSize → w.base + w.used = file.length

theorem inv_refill (file : Bytes) (w : Win) (h1 : w.pos ≤ w.used) (h2 : w.used ≤ Gen.his_scanner_scannerBufSize)
    (h3 : w.base + w.used ≤ file.length) : Inv file (w.refill file.length) := by
  unfold Win.refill
  refine ⟨Nat.zero_le _, ?_, ?_, ?_⟩ <;> simp only [] <;> omega

/-- the matcher finds something at or before `a` in every window text that starts at or before
    `a` and contains `[a, a+k)` completely -/
def Sees {τ} (file : Bytes) (matcher : Bytes → Option (Match τ)) (a k : Nat) : Prop :=
  ∀ P U, P ≤ a → a + k ≤ U → U ≤ file.length →
    ∃ m, matcher ((file.drop P).take (U - P)) = some m ∧ P + m.a ≤ a

/-- the window lemma: a segment `[a, a+k)`, `k ≤ regexpOverlap`, that starts at or behind the search position and is
    not completely inside the window starts at or behind the NEXT search position (`C20hisc.restart`) -/
theorem window_cover (w : Win) (a k : Nat) (hk : k ≤ Gen.his_scanner_regexpOverlap)
    (hP : w.base + w.pos ≤ a) (hout : a + k > w.base + w.used) :
    w.base + (if w.used ≥ Gen.his_scanner_regexpOverlap + w.pos + 1 then w.used - Gen.his_scanner_regexpOverlap else w.pos) ≤ a := by
  split <;> omega

/-- `Find` never passes a segment the matcher sees — for every file, every window state and any number of windows:
    the result is a match at or before `a`, or the fuel of the model ran out (`.other`; that the fuel suffices is
    not proved); never `io.EOF`, never a match behind `a`. -/
theorem find_reaches {τ} (file : Bytes) (matcher : Bytes → Option (Match τ)) (a k : Nat)
    (hk : k ≤ Gen.his_scanner_regexpOverlap) (hin : a + k ≤ file.length) (hs : Sees file matcher a k)
    (hins : ∀ P n m, P ≤ a → matcher ((file.drop P).take n) = some m → P + m.a ≤ a ∨ a + k ≤ P + m.a)
    (hmlt : ∀ t m, matcher t = some m → m.a < t.length ∧ m.b ≤ t.length) :
    ∀ (fuel : Nat) (w : Win), Inv file w → w.base + w.pos ≤ a →
    find file matcher fuel w = .error .other ∨
      ∃ w' p l t, find file matcher fuel w = .ok (w', p, l, t) ∧ p ≤ a ∧ Inv file w' := by
  intro fuel
  induction fuel with
  | zero => intro w _ _; exact .inl rfl
  | succ fuel ih =>
    intro w hi hP
    cases hm : matcher ((file.drop (w.base + w.pos)).take (w.used - w.pos)) with
    | some m =>
      right
      rw [find_hit file matcher fuel w m hm]
      refine ⟨_, _, _, _, rfl, ?_, ?_⟩
      · -- the leftmost match of this window: at or before `a` when the segment is inside,
        -- and in front of the window's end (hence before a segment that sticks out) otherwise
        by_cases hfit : a + k ≤ w.base + w.used
        · obtain ⟨m', hm', hle⟩ := hs (w.base + w.pos) (w.base + w.used) hP hfit hi.in_file
          have : w.base + w.used - (w.base + w.pos) = w.used - w.pos := by omega
          rw [this, hm] at hm'
          cases hm'; exact hle
        · -- the segment sticks out of the window; a match lies inside the window, and no match
          -- starts strictly inside the segment
          rcases hins (w.base + w.pos) (w.used - w.pos) m hP hm with h | h
          · exact h
          · exfalso
            have hlt := (hmlt _ _ hm).1
            simp only [List.length_take, List.length_drop] at hlt
            omega
      · have hb := (hmlt _ _ hm).2
        simp only [List.length_take, List.length_drop] at hb
        exact ⟨by have := hi.pos_le; simp only []; omega, hi.used_le, hi.in_file, hi.full⟩
    | none =>
      rw [find_miss file matcher fuel w hm]
      -- nothing found: the segment is not completely inside this window
      have hout : a + k > w.base + w.used := by
        by_cases hfit : a + k ≤ w.base + w.used
        · obtain ⟨m', hm', _⟩ := hs (w.base + w.pos) (w.base + w.used) hP hfit hi.in_file
          have : w.base + w.used - (w.base + w.pos) = w.used - w.pos := by omega
          rw [this, hm] at hm'; cases hm'
        · omega
      have hnext : w.base + restart w ≤ a := window_cover w a k hk hP hout
      have hp'le := restart_le w hi.pos_le
      have hinv := inv_refill file { w with pos := restart w } hp'le hi.used_le hi.in_file
      -- more data follows, so this is not the end of the input
      have hne : (decide (w.used < Gen.his_scanner_scannerBufSize) &&
          w.used == (Win.refill file.length { w with pos := restart w }).used) = false := by
        cases hfull : decide (w.used < Gen.his_scanner_scannerBufSize) with
        | false => rfl
        | true =>
          have := hi.full (by simpa using hfull)
          omega
      rw [hne, if_neg Bool.false_ne_true]
      exact ih _ hinv (by rw [refill_start]; exact hnext)

theorem matchMarker_bounds (t : Bytes) (m : Match (Nat × Marker)) (h : matchMarker t = some m) :
    m.a < t.length ∧ m.b ≤ t.length := by
  obtain ⟨hh, _, hab⟩ := matchMarker_hit h
  have := hh.len_le
  omega

theorem matchMarkerFrom_le (X : Bytes) (hX : ∀ b, ∃ r, matchMarkerAt b X = some r) (hne : X ≠ []) :
    ∀ (t1 : Bytes) (i : Nat), ∃ m, matchMarkerFrom i (t1 ++ X) = some m ∧ m.a ≤ i + t1.length := by
  intro t1
  induction t1 with
  | nil =>
    intro i
    cases X with
    | nil => exact absurd rfl hne
    | cons c cs =>
      obtain ⟨⟨len, lead, mk⟩, hr⟩ := hX (i == 0)
      exact ⟨_, matchMarkerFrom_hit hr, by simp⟩
  | cons d ds ih =>
    intro i
    rw [List.cons_append]
    cases hat : matchMarkerAt (i == 0) (d :: (ds ++ X)) with
    | some r => obtain ⟨len, lead, mk⟩ := r; exact ⟨_, matchMarkerFrom_hit hat, by simp⟩
    | none =>
      obtain ⟨m, hm, hle⟩ := ih (i + 1)
      exact ⟨m, (matchMarkerFrom_miss hat).trans hm, by simp only [List.length_cons]; omega⟩

/-- a line-initial object header at offset `a` of the file: LF, digits, marker white space,
    digits, marker white space, `obj`, then the end of the data or a non-word byte -/
structure HeaderAt (file : Bytes) (a : Nat) (n w1 g w2 rest : Bytes) : Prop where
  hn : n ≠ []
  hw1 : w1 ≠ []
  hg : g ≠ []
  hw2 : w2 ≠ []
  hnd : ∀ x ∈ n, isDigit x = true
  hgd : ∀ x ∈ g, isDigit x = true
  hw1s : ∀ x ∈ w1, isMarkerWS x = true
  hw2s : ∀ x ∈ w2, isMarkerWS x = true
  hrest : wordEnd rest = true
  eq : file.drop a = 10 :: (headerBytes n w1 g w2 ++ rest)

theorem wordEnd_take (rest : Bytes) (j : Nat) (h : wordEnd rest = true) : wordEnd (rest.take j) = true := by
  cases j with
  | zero => rfl
  | succ j =>
    cases rest with
    | nil => rfl
    | cons c r => simpa [wordEnd] using h

theorem HeaderAt.parts {file : Bytes} {a : Nat} {n w1 g w2 rest : Bytes} (h : HeaderAt file a n w1 g w2 rest) :
    HeaderParts n w1 g w2 :=
  ⟨h.hn, h.hw1, h.hg, h.hw2, h.hnd, h.hgd, h.hw1s, h.hw2s⟩

theorem HeaderAt.of_parts {file : Bytes} {a : Nat} {n w1 g w2 rest : Bytes} (hp : HeaderParts n w1 g w2)
    (hrest : wordEnd rest = true) (eq : file.drop a = 10 :: (headerBytes n w1 g w2 ++ rest)) :
    HeaderAt file a n w1 g w2 rest :=
  ⟨hp.hn, hp.hw1, hp.hg, hp.hw2, hp.hnd, hp.hgd, hp.hw1s, hp.hw2s, hrest, eq⟩

theorem window_text (file : Bytes) (a P U : Nat) (X rest : Bytes) (hP : P ≤ a) (hU : a + X.length ≤ U)
    (hlen : a ≤ file.length) (heq : file.drop a = X ++ rest) :
    ∃ T : Bytes, T.length = a - P ∧ (file.drop P).take (U - P) = T ++ (X ++ rest.take (U - a - X.length)) := by
  have h1 : file.drop P = (file.drop P).take (a - P) ++ file.drop a := by
    have := (List.take_append_drop (a - P) (file.drop P)).symm
    rw [List.drop_drop] at this
    have e : P + (a - P) = a := by omega
    rw [e] at this; exact this
  have hl : ((file.drop P).take (a - P)).length = a - P := by
    simp only [List.length_take, List.length_drop]; omega
  generalize (file.drop P).take (a - P) = T at h1 hl
  refine ⟨T, hl, ?_⟩
  have e1 : U - P = T.length + (X.length + (U - a - X.length)) := by rw [hl]; omega
  rw [h1, heq, e1, List.take_length_add_append, List.take_length_add_append]

/-- a header is seen in every window that contains it -/
theorem header_seen (file : Bytes) (a : Nat) (n w1 g w2 rest : Bytes) (h : HeaderAt file a n w1 g w2 rest)
    (hlen : a ≤ file.length) :
    Sees file matchMarker a (1 + (headerBytes n w1 g w2).length) := by
  intro P U hP hU _
  have heq : file.drop a = (10 :: headerBytes n w1 g w2) ++ rest := by rw [h.eq]; rfl
  obtain ⟨T, hTl, ht⟩ := window_text file a P U (10 :: headerBytes n w1 g w2) rest hP (by simp only [List.length_cons]; omega) hlen heq
  have hX : ∀ b, ∃ r, matchMarkerAt b ((10 :: headerBytes n w1 g w2) ++ rest.take (U - a - (10 :: headerBytes n w1 g w2).length)) = some r := by
    intro b
    have := header_parts_recognised h.parts [10] (rest.take (U - a - (10 :: headerBytes n w1 g w2).length)) (.inl rfl)
      (wordEnd_take _ _ h.hrest) b
    exact ⟨_, by simpa using this⟩
  obtain ⟨m, hm, hle⟩ := matchMarkerFrom_le _ hX (by simp) T 0
  refine ⟨m, ?_, ?_⟩
  · rw [ht]; exact hm
  · omega

/-- no match starts strictly inside a header when the text starts at or before it -/
theorem header_no_inner_match (file : Bytes) (a : Nat) (n w1 g w2 rest : Bytes) (h : HeaderAt file a n w1 g w2 rest)
    (P cnt : Nat) (m : Match (Nat × Marker)) (hP : P ≤ a)
    (hm : matchMarker ((file.drop P).take cnt) = some m) :
    P + m.a ≤ a ∨ a + (1 + (headerBytes n w1 g w2).length) ≤ P + m.a := by
  obtain ⟨hh, h0, _⟩ := matchMarker_hit hm
  have hh := (hh.of_prefix (List.take_prefix _ _)).of_drop
  refine Classical.or_iff_not_imp_left.mpr fun hc => Nat.le_of_not_lt fun hc2 => ?_
  -- a match that does not start at the head of the text starts with an end-of-line byte, and the header has none
  obtain ⟨c, hc', hce⟩ := hh.eol 0 (Nat.pos_of_ne_zero fun hl0 => by have := h0 hl0; omega)
  obtain ⟨k, hk, hklt⟩ : ∃ k, P + m.a + 0 = a + (k + 1) ∧ k < (headerBytes n w1 g w2).length :=
    ⟨P + m.a - a - 1, by omega, by omega⟩
  rw [hk, ← List.getElem?_drop, h.eq, List.getElem?_cons_succ, List.getElem?_append_left hklt] at hc'
  rw [header_no_eol h.parts c (List.mem_of_getElem? hc')] at hce
  cases hce

/-- The scan's `Find` reaches every header of at most 64 bytes: started in any window state at or before the header
    — however far in front, across any number of windows — it returns a match at or before the header's LF; it never
    answers `io.EOF` and never returns a match behind it.  (`.other` is the fuel of the model running out.) -/
theorem find_reaches_header (file : Bytes) (a : Nat) (n w1 g w2 rest : Bytes) (h : HeaderAt file a n w1 g w2 rest)
    (hk : 1 + (headerBytes n w1 g w2).length ≤ Gen.his_scanner_regexpOverlap)
    (fuel : Nat) (w : Win) (hi : Inv file w) (hP : w.base + w.pos ≤ a) :
    find file matchMarker fuel w = .error .other ∨
      ∃ w' p l t, find file matchMarker fuel w = .ok (w', p, l, t) ∧ p ≤ a ∧ Inv file w' := by
  have hlen : a + (1 + (headerBytes n w1 g w2).length) ≤ file.length := by
    have := congrArg List.length h.eq
    simp only [List.length_drop, List.length_cons, List.length_append] at this
    omega
  exact find_reaches file matchMarker a _ hk hlen (header_seen file a n w1 g w2 rest h (by omega))
    (fun P cnt m hP hm => header_no_inner_match file a n w1 g w2 rest h P cnt m hP hm)
    matchMarker_bounds
    fuel w hi hP

/-- 1038 bytes: the LF of `12 0 obj` is at offset 1019, the digits at 1020, `obj` ends at 1028 —
    the first 1024-byte window ends inside the header -/
def exFile : Bytes := bytesOfString "%PDF-1.7\n" ++ List.replicate 1010 120 ++ bytesOfString "\n12 0 obj\n7\nendobj\n"

-- the hypotheses of `find_reaches_header` hold for it (the header has 9 bytes with its LF) …
example : HeaderAt exFile 1019 [49, 50] [32] [48] [32] (bytesOfString "\n7\nendobj\n") :=
  { hn := by decide, hw1 := by decide, hg := by decide, hw2 := by decide,
    hnd := by decide, hgd := by decide, hw1s := by decide, hw2s := by decide,
    hrest := by decide +kernel, eq := by decide +kernel }
example : 1 + (headerBytes [49, 50] [32] [48] [32]).length ≤ Gen.his_scanner_regexpOverlap := by decide
-- … and the whole windowed `locateObjects` records it, once, at its offset
example : (locateObjects exFile).toOption.map
    (fun l => l.sections.map fun s => s.objects.map fun (o : FileObject) => (o.num, o.gen, o.start))
    = some [[(12, 0, 1020)]] := by decide +kernel

end PdfVerif.C20hisf
