import PdfVerif.Lemmas.CONCSummary
/-!
# C18 — `decode_never_blocks`: systems which use only `Decode` are deadlock free

For every trace whose labels are `Decode` calls, returns of decode functions (with a value or
an error), and continuations out of `Getter.Get` — any number of threads, any nesting, chains,
cycles, mutually referential objects — every thread that is inside a call can take a step.
Nobody ever waits for anybody: the cache protocol of `Decode` has no blocking operation.
-/
namespace PdfVerif.C18concNB
open PdfVerif PdfVerif.CONC

/-- labels of a system that uses only `Decode` (decode functions do not panic) -/
def isDecodeOnly : Label → Bool
  | (_, .callDecode _ _ _) => true
  | (_, .fnRet (.ok _)) => true
  | (_, .fnRet (.err _)) => true
  | (_, .go) => true
  | (_, .goFail) => true
  | _ => false

def DecodeOnly (l : Label) : Prop := isDecodeOnly l = true

instance (l : Label) : Decidable (DecodeOnly l) := by unfold DecodeOnly; exact inferInstance

def AllDec (s : State) : Prop := ∀ t, ∀ f ∈ s.thr t, isDecFrame f = true

theorem allDec_step (cfg : Cfg) (s : State) (t : Tid) (a : Act) (s' : State) (hg : DecodeOnly (t, a))
    (hp : AllDec s) (h : step cfg s t a = some s') : AllDec s' := by
  -- only `Decode` frames are created, and no frame of `DecodeExclusive` is there to move on
  refine (step_kind h).forall_frames hp (hpush := fun _ _ _ hpu => ?_) (hreg := fun _ _ _ e => ?_)
    (hrun := fun _ _ _ => nofun) (hpub := fun _ _ _ _ _ _ _ => nofun) (hclose := fun _ _ _ => nofun)
    (hdone := fun _ _ _ => nofun) (hdead := fun e => ?_)
  · cases hpu with
    | fn => rfl
    | get => rfl
    | _ => cases hg
  · subst e; cases hg
  · subst e; cases hg

theorem allDec_reachable (cfg : Cfg) (ls : List Label) (s : State)
    (hl : ∀ l ∈ ls, DecodeOnly l) (h : run cfg State.init ls = some s) : AllDec s :=
  run_inv cfg DecodeOnly AllDec (allDec_step cfg) ls State.init s hl (fun _ _ h => nomatch h) h

/-- `decode_never_blocks`: in every state reachable by a system using only `Decode`, every thread that is
inside a call has an enabled transition (out of `Get`, or the return of its decode function), and every idle
thread can start a call. -/
theorem decode_never_blocks (cfg : Cfg) (ls : List Label) (s : State)
    (hl : ∀ l ∈ ls, DecodeOnly l) (h : run cfg State.init ls = some s) (t : Tid) :
    (s.thr t ≠ [] → (step cfg s t .go).isSome = true ∨ (step cfg s t (.fnRet (.err (.fn 0)))).isSome = true)
    ∧ (s.thr t = [] → ∀ o tp path, (step cfg s t (.callDecode o tp path)).isSome = true) := by
  constructor
  · intro hne
    cases e : s.thr t with
    | nil => exact absurd e hne
    | cons f rest =>
      have ha := allDec_reachable cfg ls s hl h t f (e ▸ List.mem_cons_self)
      exact enabled_of_top e (by cases f <;> first | rfl | cases ha)
  · intro he o tp path
    simp only [step, he, canCall]; rfl

/-- non-vacuity: two threads decoding mutually referential objects `r1`, `r2` (each decode
function decodes the other object with a fresh cursor) is such a system; here both are in the
middle of their nested decodes. -/
example :
    let cfg : Cfg := ⟨fun _ => .direct, true⟩
    let ls : List Label :=
      [(0, .callDecode (.ref 1) 0 []), (1, .callDecode (.ref 2) 0 []), (0, .go), (1, .go),
       (0, .callDecode (.ref 2) 0 []), (1, .callDecode (.ref 1) 0 [])]
    (∀ l ∈ ls, DecodeOnly l) ∧ (run cfg State.init ls).isSome = true := by
  refine ⟨by decide +kernel, by decide +kernel⟩

end PdfVerif.C18concNB
