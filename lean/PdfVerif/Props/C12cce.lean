import PdfVerif.Props.C12ccc
/-!
# C12 (part 5) — which range sets are accepted

`newTree` (hence `NewCodec`, up to the node limit) accepts a set of valid ranges with byte bounds
**iff** no code of one range is a proper prefix of a code of another (`Spec.CodeSpace.PrefixFree`).
The core (`newTree_error`, `newTree_ok_of_prefixFree`) needs part 1 only.
-/
namespace PdfVerif.C12cce
open PdfVerif PdfVerif.CC PdfVerif.C12cc PdfVerif.C12ccc PdfVerif.Spec.CodeSpace

theorem leAll_iff (lo hi : Bytes) (h : lo.length = hi.length) :
    leAll lo hi = true ↔ ∀ i, i < lo.length → byteAt lo i ≤ byteAt hi i := by
  induction lo generalizing hi with
  | nil => simp [leAll]
  | cons a lo ih =>
    cases hi with
    | nil => simp at h
    | cons b hi =>
      simp only [leAll, Bool.and_eq_true, Bool.not_eq_true', decide_eq_false_iff_not, Nat.not_lt]
      rw [ih hi (by simpa using h)]
      -- `byteAt (x :: xs) 0 = x` and `byteAt (x :: xs) (i + 1) = byteAt xs i` hold by computation
      constructor
      · rintro ⟨h1, h2⟩ i hi'
        cases i with
        | zero => exact h1
        | succ i => exact h2 i (Nat.lt_of_succ_lt_succ hi')
      · intro h'
        exact ⟨h' 0 (Nat.succ_pos _), fun i hi' => h' (i + 1) (Nat.succ_lt_succ hi')⟩

/-- a partial match can be completed to a full code of a valid range -/
theorem withinFirst_extend (lo hi : Bytes) (hlen : lo.length = hi.length) (hle : leAll lo hi = true)
    (k : Nat) (c : Bytes) (hc : c.length = k) (hk : k ≤ lo.length) (hw : withinFirst lo hi c k = true) :
    withinFirst lo hi (c ++ lo.drop k) lo.length = true := by
  rw [withinFirst_iff] at hw ⊢
  refine ⟨Nat.le_refl _, Nat.le_of_eq hlen, by rw [List.length_append, List.length_drop]; omega, fun i hi' => ?_⟩
  by_cases h : i < k
  · -- inside the partial match
    have : byteAt (c ++ lo.drop k) i = byteAt c i := by
      simp only [byteAt, List.getElem?_append_left (show i < c.length by omega)]
    rw [this]; exact hw.2.2.2 i h
  · -- behind it the code continues with the lower bounds
    have : byteAt (c ++ lo.drop k) i = byteAt lo i := by
      simp only [byteAt, List.getElem?_append_right (show c.length ≤ i by omega), List.getElem?_drop]
      congr 2; omega
    rw [this]; exact ⟨Nat.le_refl _, (leAll_iff lo hi hlen).mp hle i hi'⟩

theorem partialMatch_snoc (p : Bytes) (b : Nat) (r : Range) (h : partialMatch p p.length r = true)
    (hl : p.length < r.low.length ∧ p.length < r.high.length) (hc : containsAt p.length b r = true) :
    partialMatch (p ++ [b]) (p.length + 1) r = true := by
  rw [partialMatch_succ, partialMatch_prefix r _ p _ (List.prefix_append p [b]) (Nat.le_refl _)]
  exact ⟨h, hl.1, hl.2, by simp, by simpa [byteAt] using hc⟩

/-- the only way `newTree` fails on valid ranges: with `errInvalidCodeSpaceRange`, because some byte string
`q` is matched in full by a range `r1` and is a proper partial match of a longer range `r2`.  Along the recursion `p`
holds the lower ends of the intervals chosen so far, and `S` the ranges of `csr` that match `p`, are longer than `d`
and not longer than `d + fuel`. -/
theorem newTree_error (csr : CSR) (hv : ∀ r ∈ csr, r.isValid = true) :
    ∀ (fuel d : Nat) (S : CSR) (p : Bytes) (e : CErr), p.length = d → 1 ≤ fuel →
      (∀ r ∈ S, r ∈ csr ∧ partialMatch p d r = true ∧ d < r.low.length ∧ r.low.length ≤ d + fuel) →
      newTree fuel S d = .error e →
      e = .invalid ∧ ∃ q, ∃ r1 ∈ csr, ∃ r2 ∈ csr, partialMatch q q.length r1 = true ∧ r1.low.length = q.length ∧
        partialMatch q q.length r2 = true ∧ q.length < r2.low.length := by
  intro fuel
  induction fuel with
  | zero => intro d S p e _ h1; omega
  | succ fuel ih =>
    intro d S p e hp _ hS herr
    subst hp
    have hguard : ∀ r ∈ S, p.length < r.low.length ∧ p.length < r.high.length := fun r hr => by
      have h1 := hS r hr
      have h2 := isValid_parts r (hv r h1.1)
      omega
    rw [newTree_of_guard hguard] at herr
    obtain ⟨iv, hiv, hn⟩ := mapE_error _ _ _ herr
    obtain ⟨h1, _, h3⟩ := (breaks_tiling S p.length).mem iv hiv
    -- the ranges of the interval are those selected by its first byte, and they match `p ++ [iv.1]`
    have hsel : ∀ r ∈ overlapping S p.length iv.1 iv.2, r ∈ S ∧ partialMatch (p ++ [iv.1]) (p.length + 1) r = true := by
      rw [overlapping_eq S _ iv.1 iv.2 iv.1 (Nat.le_refl _) h1 h3]
      intro r hr
      obtain ⟨hrS, hc⟩ := List.mem_filter.mp hr
      exact ⟨hrS, partialMatch_snoc p iv.1 r (hS r hrS).2.1 (hguard r hrS) hc⟩
    have hq : (p ++ [iv.1]).length = p.length + 1 := by simp
    rcases nodeFor_error hn with ⟨he, ⟨r1, hr1, hl1⟩, r2, hr2, hl2⟩ | ⟨hne, hnoleaf, herr'⟩
    · -- a range that ends here and a longer one share the interval
      obtain ⟨s1, m1⟩ := hsel r1 hr1
      obtain ⟨s2, m2⟩ := hsel r2 hr2
      refine ⟨he, p ++ [iv.1], r1, (hS r1 s1).1, r2, (hS r2 s2).1, by rw [hq]; exact m1, by rw [hq]; exact hl1,
        by rw [hq]; exact m2, ?_⟩
      have := (hS r2 s2).2.2.1; rw [hq]; omega
    · -- all ranges of the interval are longer: the failure is that of the recursive call
      obtain ⟨r0, hr0⟩ := List.exists_mem_of_ne_nil _ hne
      have hfuel : 1 ≤ fuel := by
        have := hnoleaf r0 hr0; have := (hS r0 (hsel r0 hr0).1).2.2; omega
      exact ih (p.length + 1) _ (p ++ [iv.1]) e hq hfuel
        (fun r hr => by
          obtain ⟨h1, h2⟩ := hsel r hr
          have h3 := hS r h1; have := hnoleaf r hr
          exact ⟨h3.1, h2, by omega, by omega⟩) herr'

theorem newTree_error_top (csr : CSR) (hv : ∀ r ∈ csr, r.isValid = true) (e : CErr) (h : newTree 4 csr 0 = .error e) :
    e = .invalid ∧ ∃ q, ∃ r1 ∈ csr, ∃ r2 ∈ csr, partialMatch q q.length r1 = true ∧ r1.low.length = q.length ∧
      partialMatch q q.length r2 = true ∧ q.length < r2.low.length :=
  newTree_error csr hv 4 0 csr [] e rfl (by omega) (fun r hr => by
    have := isValid_parts r (hv r hr)
    exact ⟨hr, partialMatch_zero [] r, by omega, by omega⟩) h

/-- No spurious rejection: every range set whose ranges are valid and in which no code is
a proper prefix of another is accepted by `newTree` (so `NewCodec` can only reject it for
needing more than `maxNodes` nodes). -/
theorem newTree_ok_of_prefixFree (csr : CSR) (hv : ∀ r ∈ csr, r.isValid = true) (hpf : PrefixFree (toSpec csr)) :
    ∃ tree, newTree 4 csr 0 = .ok tree := by
  cases h : newTree 4 csr 0 with
  | ok cs => exact ⟨cs, rfl⟩
  | error e =>
    exfalso
    obtain ⟨_, q, r1, hr1, r2, hr2, m1, l1, m2, l2⟩ := newTree_error_top csr hv e h
    have v2 := isValid_parts r2 (hv r2 hr2)
    -- `q` is a code of `r1`; completed by lower bounds of `r2` it is a longer code of `r2`
    have := (prefixFree_toSpec csr).mp hpf r1 hr1 r2 hr2 q (q ++ r2.low.drop q.length)
      ((isCode_toSpecR _ _).mpr ⟨l1.symm, by rw [l1]; exact m1⟩)
      ((isCode_toSpecR _ _).mpr ⟨by simp only [List.length_append, List.length_drop]; omega,
        withinFirst_extend r2.low r2.high v2.1 v2.2.2.2 _ _ rfl (by omega) m2⟩)
      (List.prefix_append _ _)
    simp only [List.length_append, List.length_drop] at this
    omega

/-- Only prefix-free sets are accepted.  `hbytes` holds of every Go `[]byte`; it is needed because the
model's bytes are `Nat` and `PrefixFree` speaks of all `Nat` strings, while the tree separates only
the values `0 … 255`.  Upper bounds suffice: a code lies below `high` (`withinFirst_allBytes`). -/
theorem prefixFree_of_newTree_ok (csr : CSR) (tree : List (Nat × Node)) (hT : newTree 4 csr 0 = .ok tree)
    (hbytes : ∀ r ∈ csr, AllBytes r.high) : PrefixFree (toSpec csr) := by
  rw [prefixFree_toSpec]
  intro r1 hr1 r2 hr2 c1 c2 hc1 hc2 hp
  obtain ⟨l1, m1⟩ := (isCode_toSpecR r1 c1).mp hc1
  obtain ⟨l2, m2⟩ := (isCode_toSpecR r2 c2).mp hc2
  have hb : AllBytes c2 := withinFirst_allBytes _ _ c2 (hbytes r2 hr2) (by rw [l2]; exact m2)
  -- `c2` starts with a code of `r1` and with one of `r2`: the tree consumes the length of both
  have m1' : partialMatch c2 r1.low.length r1 = true := by
    rw [partialMatch_prefix r1 _ c1 c2 hp (by omega)]; exact m1
  rw [l1, l2, (tree_sem_unique csr tree hT c2 hb).2 r1 hr1 m1', (tree_sem_unique csr tree hT c2 hb).2 r2 hr2 m2]

/-- `newTree` accepts exactly the prefix-free sets (of valid ranges with byte bounds; `NewCodec`
can reject such a set only later, for exceeding `maxNodes`). -/
theorem newTree_ok_iff (csr : CSR) (hv : ∀ r ∈ csr, r.isValid = true) (hbytes : ∀ r ∈ csr, AllBytes r.high) :
    (∃ tree, newTree 4 csr 0 = .ok tree) ↔ PrefixFree (toSpec csr) :=
  ⟨fun ⟨tree, hT⟩ => prefixFree_of_newTree_ok csr tree hT hbytes, newTree_ok_of_prefixFree csr hv⟩

theorem newCodec_prefixFree (csr : CSR) (c : Codec) (hC : newCodec csr = .ok c) (hbytes : ∀ r ∈ csr, AllBytes r.high) :
    (∀ r ∈ csr, r.isValid = true) ∧ PrefixFree (toSpec csr) := by
  obtain ⟨hv, tree, hT, _⟩ := newCodec_repr hC
  exact ⟨hv, prefixFree_of_newTree_ok csr tree hT hbytes⟩

/-- non-vacuity: `<00>-<7F>` with `<7F00>-<7FFF>` is not prefix-free and is rejected -/
example : (match newTree 4 [⟨[0x00], [0x7f]⟩, ⟨[0x7f, 0x00], [0x7f, 0xff]⟩] 0 with
    | .ok _ => true | .error _ => false) = false := by decide +kernel

end PdfVerif.C12cce
