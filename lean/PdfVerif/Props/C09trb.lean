import PdfVerif.Lemmas.TRSec
import PdfVerif.Model.SECSecurity
/-!
# C09/C10 (translator bridge): the SEC hand model = the code GENERATED from crypto.go

`Model/SECSecurity.lean` (on which `Props/C09sec*.lean`, `C10sec.lean` are proved) contains hand
models of `stdSecPermToP`, `stdSecPToPerm`, `Perm.canR2`, `unpadPKCS7`, the PKCS#7 padding and
`tryCrop`.  Each is proved equal here to the function `tools/extract` re-creates from crypto.go on
every run, on the whole domain on which the Go function does not panic.
-/
namespace PdfVerif.C09trb
open PdfVerif PdfVerif.Gen PdfVerif.Go PdfVerif.C09tr

/-- all 128 permission sets: hand model `stdSecPermToP` = generated -/
theorem permToP_bridge : ∀ p : Nat, p < 128 → SEC.stdSecPermToP p = (pdf_stdSecPermToP (p : Int)).toNat := by
  decide +kernel

theorem canR2_bridge : ∀ p : Nat, p < 128 → SEC.canR2 p = pdf_Perm_canR2 (p : Int) := by
  decide +kernel

/-- the hand model of `PToPerm` as a function of the same seven tests, for every revision number -/
theorem model_pToPerm_bits (R : Nat) (b3 b12 b4 b11 b5 b6 b9 : Bool) (P : Nat)
    (h3 : SEC.hasBit P 3 = !b3) (h12 : SEC.hasBit P 12 = !b12) (h4 : SEC.hasBit P 4 = !b4) (h11 : SEC.hasBit P 11 = !b11)
    (h5 : SEC.hasBit P 5 = !b5) (h6 : SEC.hasBit P 6 = !b6) (h9 : SEC.hasBit P 9 = !b9) :
    (SEC.stdSecPToPerm R P : Int) = pToPermBits (R : Int) b3 b12 b4 b11 b5 b6 b9 := by
  unfold SEC.stdSecPToPerm pToPermBits
  simp only [h3, h12, h4, h11, h5, h6, h9, Id.run, pure]
  clear h3 h12 h4 h11 h5 h6 h9
  -- the cases `R = 2`, `R ≥ 3`, else are those of `pToPermBits`; each is a table over the seven tests
  by_cases h2 : R = 2
  · subst h2
    revert b3 b12 b4 b11 b5 b6 b9
    decide +kernel
  · by_cases hge : R ≥ 3
    · have e1 : ((R : Int) == 2) = false := by simp; omega
      have e2 : decide ((R : Int) ≥ 3) = true := by simp; omega
      simp only [h2, hge, if_false, if_true, e1, e2, Bool.false_eq_true]
      revert b3 b12 b4 b11 b5 b6 b9
      decide +kernel
    · have e1 : ((R : Int) == 2) = false := by simp; omega
      have e2 : decide ((R : Int) ≥ 3) = false := by simp; omega
      simp only [h2, hge, if_false, e1, e2, Bool.false_eq_true]
      revert b3 b12 b4 b11 b5 b6 b9
      decide +kernel

theorem and_two_pow_eq_zero (P k : Nat) : (P &&& 2 ^ k = 0) ↔ P.testBit k = false := by
  constructor
  · intro h
    have := congrArg (fun x => x.testBit k) h
    simpa [Nat.testBit_and, Nat.testBit_two_pow] using this
  · intro h
    apply Nat.eq_of_testBit_eq
    intro i
    simp only [Nat.testBit_and, Nat.testBit_two_pow, Nat.zero_testBit]
    by_cases hik : k = i
    · subst hik; simp [h]
    · simp [hik]

/-- `SEC.hasBit` numbers the bits of P from 1, as table 22 of ISO 32000 does; `k = bit - 1` is the position of the mask the
generated code tests -/
theorem hasBit_eq (P : Nat) (hP : P < 4294967296) (bit k : Nat) (hb : bit = k + 1) (hk : k < 32) :
    SEC.hasBit P bit = !(UInt32.ofNat P &&& UInt32.ofNat (2 ^ k) == 0) := by
  subst hb
  unfold SEC.hasBit
  have hp : 2 ^ k < 4294967296 := by
    have : 2 ^ k < 2 ^ 32 := Nat.pow_lt_pow_right (by omega) hk
    omega
  have e : (UInt32.ofNat P &&& UInt32.ofNat (2 ^ k) == 0) = decide (P &&& 2 ^ k = 0) := by
    rw [Bool.eq_iff_iff, beq_iff_eq, decide_eq_true_eq, ← UInt32.toNat_inj, UInt32.toNat_and,
      UInt32.toNat_ofNat', UInt32.toNat_ofNat', Nat.mod_eq_of_lt hP, Nat.mod_eq_of_lt hp]
    rfl
  rw [e]
  simp only [Nat.add_sub_cancel]
  cases ht : P.testBit k
  · have := (and_two_pow_eq_zero P k).mpr ht
    simp [this]
  · have : ¬ (P &&& 2 ^ k = 0) := fun h => by
      have := (and_two_pow_eq_zero P k).mp h
      rw [ht] at this; cases this
    simp [this]

/-- every 32-bit P, every revision number: hand model `stdSecPToPerm` = generated -/
theorem pToPerm_bridge (R : Nat) (P : Nat) (hP : P < 4294967296) :
    (SEC.stdSecPToPerm R P : Int) = pdf_stdSecPToPerm (R : Int) (UInt32.ofNat P) := by
  rw [pToPerm_eq_bits]
  apply model_pToPerm_bits
  · rw [hasBit_eq P hP 3 2 rfl (by omega)]; simp
  · rw [hasBit_eq P hP 12 11 rfl (by omega)]; simp
  · rw [hasBit_eq P hP 4 3 rfl (by omega)]; simp
  · rw [hasBit_eq P hP 11 10 rfl (by omega)]; simp
  · rw [hasBit_eq P hP 5 4 rfl (by omega)]; simp
  · rw [hasBit_eq P hP 6 5 rfl (by omega)]; simp
  · rw [hasBit_eq P hP 9 8 rfl (by omega)]; simp

def nat (bs : List UInt8) : Bytes := bs.map (·.toNat)

theorem nat_length (bs : List UInt8) : (nat bs).length = bs.length := by simp [nat]

theorem nat_take (bs : List UInt8) (n : Nat) : nat (bs.take n) = (nat bs).take n := List.map_take

theorem nat_reverse_get (buf : List UInt8) (i : Nat) (h : i < buf.length) :
    (nat buf).reverse[i]? = some (fromEnd buf i).toNat := by
  unfold nat fromEnd
  rw [List.getElem?_reverse (by simpa using h)]
  simp only [List.length_map, List.getElem?_map]
  rw [List.getD_eq_getElem?_getD, List.getElem?_eq_getElem (by omega)]
  simp

theorem padGood_eq (buf : List UInt8) (h : 16 ≤ buf.length) (h2 : buf.length % 16 = 0) :
    SEC.padGood (nat buf) (fromEnd buf 0).toNat = wellPadded buf := by
  unfold SEC.padGood wellPadded
  rw [decide_eq_true h, decide_eq_true h2, Bool.true_and, Bool.true_and]
  congr 1
  · congr 2
    rw [Bool.eq_iff_iff]
    simp [← UInt8.toNat_inj]
  · rw [Bool.eq_iff_iff, List.all_eq_true, List.all_eq_true]
    refine forall_congr' fun i => forall_congr' fun hi => ?_
    rw [nat_reverse_get buf i (by have := List.mem_range.mp hi; omega)]
    simp [← UInt8.toNat_inj]

/-- every buffer: hand model `unpadPKCS7` = generated `unpadPKCS7`
(`.error .other` ↔ `errCorrupted`; the generated function never panics) -/
theorem unpadPKCS7_bridge (buf : List UInt8) (hl : buf.length < 9223372036854775808) :
    SEC.unpadPKCS7 (nat buf) =
      match pdf_unpadPKCS7 buf with
      | some (out, none) => .ok (nat out)
      | _ => .error .other := by
  rw [unpad_spec buf hl]
  unfold SEC.unpadPKCS7
  simp only [nat_length]
  by_cases hn : 16 ≤ buf.length ∧ buf.length % 16 = 0
  · have c : (decide (buf.length < 16) || buf.length % 16 != 0) = false := by simp; omega
    simp only [c, Bool.false_eq_true, if_false]
    rw [List.getLast?_eq_head?_reverse, List.head?_eq_getElem?, nat_reverse_get buf 0 (by omega)]
    simp only [padGood_eq buf hn.1 hn.2]
    cases hw : wellPadded buf
    · simp
    · simp only [if_true]
      rw [nat_take]
  · have c : (decide (buf.length < 16) || buf.length % 16 != 0) = true := by
      simp only [Bool.or_eq_true, decide_eq_true_eq, bne_iff_ne, ne_eq]; omega
    have hw : wellPadded buf = false := Bool.eq_false_iff.mpr fun h => hn (wellPadded_length h)
    simp [c, hw]

/-- the hand model's padding = the padding of `C09tr.pkcs7Pad` -/
theorem pkcs7Pad_bridge (x : List UInt8) : SEC.pkcs7Pad (nat x) = nat (pkcs7Pad x) := by
  unfold SEC.pkcs7Pad pkcs7Pad nat
  simp only [List.map_append, List.map_replicate, List.length_map]
  congr 2
  simp only [UInt8.toNat_ofNat']
  omega

/-- `tryCrop` for the (non-negative) lengths of the hand model: no panic, same bytes -/
theorem tryCrop_bridge (s : List UInt8) (l : Nat) (hl : s.length < 9223372036854775808) :
    ∃ out, pdf_tryCrop s (l : Int) = some out ∧ nat out = SEC.tryCrop (nat s) l := by
  refine ⟨_, tryCrop_spec s (l : Int) (by omega), ?_⟩
  unfold SEC.tryCrop
  simp only [nat_length, Int.toNat_natCast]
  have hall : ((nat s).drop l).all (· == 0) = (s.drop l).all (· == 0) := by
    unfold nat
    rw [← List.map_drop, List.all_map]
    congr 1
    funext x
    simp only [Function.comp]
    rw [Bool.eq_iff_iff]
    simp [← UInt8.toNat_inj]
  rw [hall]
  by_cases h : s.length ≤ l
  · have : (s.length : Int) ≤ (l : Int) := by omega
    simp [h, this]
  · have : ¬ ((s.length : Int) ≤ (l : Int)) := by omega
    simp only [h, this, if_false]
    cases (s.drop l).all (· == 0)
    · simp
    · simp [nat_take]

end PdfVerif.C09trb
