import PdfVerif.Props.C06fb
/-!
C08 (work package FB), second module: output bound of the predictor reader on arbitrary bytes
(uses the length lemmas of `Props/C06fb.lean`).
-/
namespace PdfVerif.C08fbb
open PdfVerif PdfVerif.FB

theorem pngUnfilterRow_length (alg bpp : Nat) (prev enc : Bytes) : (pngUnfilterRow alg bpp prev enc).length = enc.length :=
  C06fb.pngUnfilterGo_length alg bpp enc [] [] prev

theorem decRow_length_le (g : Geo) (prev enc : Bytes) : (C06fb.decRow g prev enc).length ≤ enc.length := by
  unfold C06fb.decRow
  split
  · rw [C06fb.tiffRow_length]; exact Nat.le_refl _
  · cases enc with
    | nil => exact Nat.le_refl _
    | cons tag body => rw [pngUnfilterRow_length]; exact Nat.le_succ _

/-- on arbitrary bytes the predictor reader never produces more bytes
than it consumes (for every geometry, valid or not) -/
theorem decRows_out_le (g : Geo) : ∀ (fuel : Nat) (prev data : Bytes), (decRows g fuel prev data).1.length ≤ data.length := by
  intro fuel
  induction fuel with
  | zero => intro prev data; exact Nat.zero_le _
  | succ f ih =>
    intro prev data
    by_cases hs : data.isEmpty = true ∨ data.length < C06fb.encLen g
    · rw [C06fb.decRows_stop g f prev data hs]; exact Nat.zero_le _
    · have h1 := decRow_length_le g prev (data.take (C06fb.encLen g))
      have h2 := ih (C06fb.decRow g prev (data.take (C06fb.encLen g))) (data.drop (C06fb.encLen g))
      rw [C06fb.decRows_succ g f prev data (by simpa using fun h => hs (.inl h)) (fun h => hs (.inr h)),
        List.length_append]
      rw [List.length_take] at h1
      rw [List.length_drop] at h2
      omega

theorem decodeStream_out_le (g : Geo) (data : Bytes) : (decodeStream g data).1.length ≤ data.length := by
  unfold decodeStream; split
  · simp
  · exact decRows_out_le g _ _ _

example : (decodeStream (⟨3, 8, 2, 12⟩ : PParams).geo [9, 1, 2, 3, 4, 5, 6, 77, 1]).1.length = 6 := by decide

end PdfVerif.C08fbb
