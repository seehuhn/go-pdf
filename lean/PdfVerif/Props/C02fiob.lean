import PdfVerif.Model.FIOWriter
import PdfVerif.Props.C02fio
/-!
# C02 (work package FIO) — the writer state machine: `Reach`, `pos_invariant`, `put_once`

Statements are about `Model/FIOWriter.lean` (writer.go), which the FIO correspondence run ties
to the code: for every generated program the model produces the same file bytes as the real
`Writer` (or fails at the same operation).

The later files build on: one inversion lemma `*_ok` per operation; `Reach s s'`, the elementary
state changes of which every operation and program is made (`run_reach`), so that a fact about all
programs is one induction over `Reach`; here `Reach.inv` (`pos_invariant`) and `Reach.keeps`
(options, entries and recorded objects are never taken away: `put_once`).
-/
namespace PdfVerif.C02fiob
open PdfVerif PdfVerif.FIO

/-- the bytes `h` stand in `out` at offset `pos` -/
def At (out : Bytes) (pos : Nat) (h : Bytes) : Prop :=
  ∃ pre rest, out = pre ++ h ++ rest ∧ pre.length = pos

theorem At.append {out : Bytes} {pos : Nat} {h : Bytes} (ha : At out pos h) (bs : Bytes) :
    At (out ++ bs) pos h := by
  obtain ⟨pre, rest, rfl, h2⟩ := ha
  exact ⟨pre, rest ++ bs, (List.append_assoc ..).symm ▸ rfl, h2⟩

theorem At.here (out h rest : Bytes) : At (out ++ (h ++ rest)) out.length h :=
  ⟨out, rest, (List.append_assoc ..).symm, rfl⟩

theorem At.end_le {out : Bytes} {pos : Nat} {h : Bytes} (ha : At out pos h) :
    pos + h.length ≤ out.length := by
  obtain ⟨pre, rest, rfl, rfl⟩ := ha
  simp only [List.length_append]; omega

theorem At.patch {out : Bytes} {pos : Nat} {h : Bytes} (ha : At out pos h) (p : Nat) (v : Bytes)
    (hp : pos + h.length ≤ p) : At (patchAt out p v) pos h := by
  obtain ⟨pre, rest, rfl, rfl⟩ := ha
  have : (pre ++ h ++ rest).take p = pre ++ h ++ rest.take (p - (pre ++ h).length) := by
    rw [List.take_append, List.take_of_length_le (by simpa using hp)]
  exact ⟨pre, rest.take (p - (pre ++ h).length) ++ v ++ (pre ++ h ++ rest).drop (p + v.length),
    by rw [patchAt, this]; simp only [List.append_assoc], rfl⟩

theorem patchAt_length (out : Bytes) (p : Nat) (v : Bytes) (h : p + v.length ≤ out.length) :
    (patchAt out p v).length = out.length := by
  simp only [patchAt, List.length_append, List.length_take, List.length_drop]; omega

theorem patchAt_mid (A B v : Bytes) (hv : v.length ≤ 12) :
    patchAt (A ++ blanks12 ++ B) A.length v = A ++ (v ++ List.replicate (12 - v.length) 32) ++ B := by
  unfold patchAt
  have h1 : (A ++ blanks12 ++ B).take A.length = A := by
    rw [List.append_assoc, List.take_left']; rfl
  have h2 : (A ++ blanks12 ++ B).drop (A.length + v.length) = List.replicate (12 - v.length) 32 ++ B := by
    rw [List.append_assoc, ← List.drop_drop, List.drop_left, List.drop_append]
    have : v.length - blanks12.length = 0 := by simp [blanks12]; omega
    rw [this]
    simp only [blanks12, List.drop_replicate, List.drop_zero]
  rw [h1, h2]; simp


/-- `pos_invariant`: the position counter is the length of the output, and every in-use entry
    (not in an object stream) records the offset at which `N G obj` for that number starts —
    or belongs to the stream that has been opened but not yet started, whose header will be
    written at the current position.  `patch` keeps what the seek-back of `Placeholder.Set`
    needs: the 12 reserved bytes exist and lie behind every object header.  `npos` is needed for the
    container of an object stream only: its number must not be 0, the mark of a direct entry. -/
structure Inv (s : WState) : Prop where
  pos_eq : s.pos = s.out.length
  entries : ∀ n e, s.xref.get n = some e → e.inStream = 0 → 0 ≤ e.pos →
    At s.out e.pos.toNat (objHeader n e.gen) ∨
    (∃ st, s.stm = some st ∧ st.started = false ∧ st.num = n ∧ st.gen = e.gen ∧ e.pos = (s.pos : Int))
  patch : ∀ st p, s.stm = some st → st.patchPos = some p →
    p + 12 ≤ s.out.length ∧
    ∀ n e, s.xref.get n = some e → e.inStream = 0 → 0 ≤ e.pos →
      e.pos.toNat + (objHeader n e.gen).length ≤ p
  below : ∀ n e, s.xref.get n = some e → n < s.nextRef
  npos : 0 < s.nextRef

theorem setXRef_ok {m : XMap} {nr num : Nat} {e : XEntry} {x : XMap} {n : Nat}
    (h : setXRef m nr num e = some (x, n)) :
    m.get num = none ∧ x = m.set num e ∧ nr ≤ n ∧ num < n ∧ n = (if nr ≤ num then num + 1 else nr) := by
  -- the error exits go by `cases h`; the one that returns is left
  revert h
  fun_cases setXRef m nr num e <;> intro h <;> cases h
  refine ⟨‹_›, rfl, ?_, ?_, rfl⟩ <;> split <;> omega

theorem setXRef_get {m x : XMap} {nr num n : Nat} {e e' : XEntry} {k : Nat}
    (h : setXRef m nr num e = some (x, n)) (hk : x.get k = some e') :
    (k = num ∧ e' = e) ∨ m.get k = some e' := by
  rw [(setXRef_ok h).2.1, C02fio.get_set] at hk
  split at hk
  · exact .inl ⟨‹_›, (Option.some.inj hk).symm⟩
  · exact .inr hk

theorem setXRef_below {m x : XMap} {nr num n : Nat} {e : XEntry} (h : setXRef m nr num e = some (x, n))
    (hb : ∀ k e', m.get k = some e' → k < nr) : ∀ k e', x.get k = some e' → k < n := by
  intro k e' hk
  obtain ⟨_, _, h1, h2, _⟩ := setXRef_ok h
  rcases setXRef_get h hk with ⟨rfl, _⟩ | hk
  · exact h2
  · exact Nat.lt_of_lt_of_le (hb k e' hk) h1

theorem setXRef_mono {m x : XMap} {nr num n : Nat} {e : XEntry} (h : setXRef m nr num e = some (x, n)) :
    ∀ k e', m.get k = some e' → x.get k = some e' := by
  obtain ⟨hnone, rfl, _⟩ := setXRef_ok h
  intro k e' hk
  rw [C02fio.get_set, if_neg (fun hkn => nomatch (hkn ▸ hk).symm.trans hnone)]
  exact hk

theorem setXRef_dup {m : XMap} {nr num : Nat} {e e' : XEntry} (h : m.get num = some e') :
    setXRef m nr num e = none := by
  simp only [setXRef, h]

theorem initState_ok {o : WOpts} {s : WState} (h : initState o = some s) :
    (∃ rest, s = { out := kPdf ++ rest, pos := (kPdf ++ rest).length,
                   xref := [(0, { inStream := 0, pos := -1, gen := Gen.fio_maxGeneration })],
                   nextRef := 1, stm := none, after := [], opts := o }) ∧
    ∀ n e, s.xref.get n = some e → n = 0 ∧ e.pos = -1 := by
  unfold initState header at h
  cases hv : versionString o.version with
  | none => rw [hv] at h; cases h
  | some vs =>
    rw [hv] at h; cases h
    refine ⟨⟨vs ++ kBinary ++ (if o.human then [10] else []), by simp only [List.append_assoc]⟩, fun n e hg => ?_⟩
    simp only [XMap.get, List.lookup_cons, List.lookup_nil] at hg
    split at hg
    · cases hg; exact ⟨by simpa using ‹(n == 0) = true›, rfl⟩
    · cases hg

theorem init_inv (o : WOpts) (s : WState) (h : initState o = some s) : Inv s := by
  obtain ⟨⟨rest, rfl⟩, h0⟩ := initState_ok h
  refine ⟨rfl, fun n e hg _ hp => ?_, fun st p hs => (nomatch hs), fun n e hg => ?_, Nat.one_pos⟩
  · have := (h0 n e hg).2; omega
  · rw [(h0 n e hg).1]; exact Nat.one_pos

/-- the invariant does not look at the ghost fields -/
theorem Inv.congr {s s' : WState} (hi : Inv s) (h1 : s'.out = s.out) (h2 : s'.pos = s.pos)
    (h3 : s'.xref = s.xref) (h4 : s'.nextRef = s.nextRef) (h5 : s'.stm = s.stm) : Inv s' :=
  ⟨by rw [h1, h2]; exact hi.pos_eq, by rw [h1, h2, h3, h5]; exact hi.entries,
   by rw [h1, h3, h5]; exact hi.patch, by rw [h3, h4]; exact hi.below, by rw [h4]; exact hi.npos⟩

theorem Inv.raise {s : WState} (hi : Inv s) {n : Nat} (h : s.nextRef ≤ n) : Inv { s with nextRef := n } :=
  ⟨hi.pos_eq, hi.entries, hi.patch, fun k e hg => Nat.lt_of_lt_of_le (hi.below k e hg) h,
   Nat.lt_of_lt_of_le hi.npos h⟩

/-- `emit` appends to `out`, advances `pos`, and leaves every other field -/
theorem emit_out (s : WState) (bs : Bytes) : (emit s bs).out = s.out ++ bs := rfl
theorem emit_pos (s : WState) (bs : Bytes) : (emit s bs).pos = s.pos + bs.length := rfl
theorem emit_xref (s : WState) (bs : Bytes) : (emit s bs).xref = s.xref := rfl
theorem emit_nextRef (s : WState) (bs : Bytes) : (emit s bs).nextRef = s.nextRef := rfl
theorem emit_stm (s : WState) (bs : Bytes) : (emit s bs).stm = s.stm := rfl
theorem emit_after (s : WState) (bs : Bytes) : (emit s bs).after = s.after := rfl
theorem emit_opts (s : WState) (bs : Bytes) : (emit s bs).opts = s.opts := rfl
theorem emit_doc (s : WState) (bs : Bytes) : (emit s bs).doc = s.doc := rfl
theorem emit_sdata (s : WState) (bs : Bytes) : (emit s bs).sdata = s.sdata := rfl
theorem emit_sdoc (s : WState) (bs : Bytes) : (emit s bs).sdoc = s.sdoc := rfl

theorem emit_inv {s : WState} (hi : Inv s) (bs : Bytes)
    (hst : ∀ st, s.stm = some st → st.started = true) : Inv (emit s bs) := by
  refine ⟨by simp only [emit_out, emit_pos, hi.pos_eq, List.length_append], ?_, ?_, hi.below, hi.npos⟩
  · intro n e hg h0 hp
    rcases hi.entries n e hg h0 hp with ha | ⟨st, h1, h2, _⟩
    · exact .inl (ha.append bs)
    · rw [hst st h1] at h2; cases h2
  · intro st p h1 h2
    obtain ⟨ha, hb⟩ := hi.patch st p h1 h2
    exact ⟨by simp only [emit_out, List.length_append]; omega, hb⟩

theorem emit_emit (s : WState) (a b : Bytes) : emit (emit s a) b = emit s (a ++ b) := by
  simp [emit, List.append_assoc, Nat.add_assoc]

theorem emit_nil (s : WState) : emit s [] = s := by simp [emit]

theorem alloc_ok {s s' : WState} {r : Nat} (h : alloc s = some (s', r)) :
    s' = { s with nextRef := s.nextRef + 1 } ∧ r = s.nextRef ∧ s.nextRef < Gen.fio_maxXRefSize := by
  revert h
  fun_cases alloc s <;> intro h <;> cases h
  exact ⟨rfl, rfl, Nat.not_le.1 ‹_›⟩

theorem putPlain_ok {s s' : WState} {num gen : Nat} {o : Obj} (h : putPlain s num gen o = .ok s') :
    ∃ x n body, setXRef s.xref s.nextRef num { inStream := 0, pos := s.pos, gen := gen } = some (x, n) ∧
      wformat s.opts [o] = some body ∧
      s' = emit { s with xref := x, nextRef := n, doc := s.doc ++ [(num, gen, o)] }
        (objHeader num gen ++ body ++ kEndobj ++ prettyNL s.opts) := by
  revert h
  fun_cases putPlain s num gen o <;> intro h <;> cases h
  exact ⟨_, _, _, ‹_›, ‹_›, rfl⟩

theorem openStream_ok {s s' : WState} {num gen : Nat} {d : List (Bytes × Obj)} {ul : Option Int}
    (h : openStream s num gen d ul = .ok s') :
    s.stm = none ∧ ∃ x n, setXRef s.xref s.nextRef num { inStream := 0, pos := s.pos, gen := gen } = some (x, n) ∧
      s' = { s with xref := x, nextRef := n, sdata := [],
                    stm := some { num := num, gen := gen, dict := d, userLen := ul, buf := [], started := false,
                                  startPos := 0, patchPos := none, lenRef := none } } := by
  revert h
  fun_cases openStream s num gen d ul <;> intro h <;> cases h
  exact ⟨‹_›, _, _, ‹_›, rfl⟩

theorem putPlain_inv {s s' : WState} {num gen : Nat} {o : Obj} (hi : Inv s) (hs : s.stm = none)
    (h : putPlain s num gen o = .ok s') : Inv s' := by
  obtain ⟨x, n, body, hset, _, rfl⟩ := putPlain_ok h
  refine ⟨?_, ?_, fun st p h1 => ?_, setXRef_below hset hi.below,
    Nat.lt_of_lt_of_le hi.npos (setXRef_ok hset).2.2.1⟩
  · simp only [emit_out, emit_pos, hi.pos_eq, List.length_append]
  · intro k e hg h0 hp
    rcases setXRef_get hset hg with ⟨rfl, rfl⟩ | hg
    · -- the new entry: its header is the first thing written
      left
      simp only [emit_out, hi.pos_eq, Int.toNat_natCast, List.append_assoc]
      exact At.here _ _ _
    · rcases hi.entries k e hg h0 hp with ha | ⟨st, h1, _⟩
      · exact .inl (ha.append _)
      · rw [hs] at h1; cases h1
  · exact nomatch hs.symm.trans h1

theorem fmtDictLen_parts {opt : FmtOpt} {lit : Bool} {kv : List (Bytes × Obj)} {v bytes : Bytes} {off : Nat}
    (h : fmtDictLen opt lit kv v = some (bytes, off)) :
    ∃ pre post, bytes = pre ++ v ++ post ∧ off = pre.length ∧
      (∀ v', fmtDictLen opt lit kv v' = some (pre ++ v' ++ post, pre.length)) ∧ ∃ dt, pre = 60 :: 60 :: dt := by
  unfold fmtDictLen at h ⊢
  simp only at h ⊢
  split at h
  · rename_i b1 b2 h1 h2
    simp only [Option.some.injEq, Prod.mk.injEq] at h
    obtain ⟨hb, ho⟩ := h
    refine ⟨_, (if opt.pretty = true then [10] else []) ++ b2 ++ [62, 62], ?_, ho.symm, ?_, _, rfl⟩
    · rw [← hb]; simp only [List.append_assoc]
    · intro v'
      simp only [List.append_assoc]
  · simp at h

theorem openStream_inv {s s' : WState} {num gen : Nat} {dict : List (Bytes × Obj)} {ul : Option Int}
    (hi : Inv s) (h : openStream s num gen dict ul = .ok s') : Inv s' := by
  obtain ⟨hs, x, n, hset, rfl⟩ := openStream_ok h
  refine ⟨hi.pos_eq, ?_, ?_, setXRef_below hset hi.below,
    Nat.lt_of_lt_of_le hi.npos (setXRef_ok hset).2.2.1⟩
  · intro k e hg h0 hp
    rcases setXRef_get hset hg with ⟨rfl, rfl⟩ | hg
    · exact .inr ⟨_, rfl, rfl, rfl, rfl, rfl⟩
    · rcases hi.entries k e hg h0 hp with ha | ⟨st, h1, _⟩
      · exact .inl ha
      · exact nomatch hs.symm.trans h1
  · intro st p h1 h2
    cases h1; cases h2

/-- the four texts for the `/Length` value: the caller's, the known length, twelve blanks to be
    patched, or `r 0 R` with a number `n` allocated for it -/
theorem startWriting_ok {s s3 : WState} {st st' : OpenStm} {known : Option Nat}
    (h : startWriting s st known = .ok (s3, st')) :
    ∃ n lr pp value dictBytes off, s.nextRef ≤ n ∧
      fmtDictLen s.opts.fmt s.opts.litStr st.dict value = some (dictBytes, off) ∧
      s3 = emit (emit { s with nextRef := n } (objHeader st.num st.gen ++ dictBytes ++ kStream)) st.buf ∧
      st' = { st with lenRef := lr, started := true, buf := [], patchPos := pp,
                      startPos := s.pos + (objHeader st.num st.gen ++ dictBytes ++ kStream).length } ∧
      ((∃ l, st.userLen = some l ∧ value = intDec l ∧ pp = none ∧ lr = st.lenRef) ∨
       (st.userLen = none ∧ ∃ l, known = some l ∧ value = decOf l ∧ pp = none ∧ lr = st.lenRef) ∨
       (st.userLen = none ∧ known = none ∧ value = blanks12 ∧ lr = st.lenRef ∧
          pp = some (s.pos + (objHeader st.num st.gen).length + off)) ∨
       (st.userLen = none ∧ known = none ∧ pp = none ∧
          ∃ r, lr = some r ∧ value = decOf r ++ [32, 48, 32, 82] ∧ r < Gen.fio_maxXRefSize)) := by
  revert s3 st'
  fun_cases startWriting s st known <;> intro s3 st' h <;> cases h
  rename_i hdr sel s1 st1 value hsel dictBytes off hfd patch s2 s3
  -- the four texts: the branches of `sel`
  simp only [sel] at hsel
  split at hsel
  · rename_i l hl
    cases hsel
    exact ⟨s.nextRef, st.lenRef, none, _, _, _, Nat.le_refl _, hfd, rfl, by simp [hl, emit_pos, patch, s2, hdr], .inl ⟨l, hl, rfl, rfl, rfl⟩⟩
  · rename_i hul
    split at hsel
    · rename_i l
      cases hsel
      exact ⟨s.nextRef, st.lenRef, none, _, _, _, Nat.le_refl _, hfd, rfl, by simp [hul, emit_pos, patch, s2, hdr],
        .inr (.inl ⟨hul, l, rfl, rfl, rfl, rfl⟩)⟩
    · split at hsel
      · rename_i hseek
        cases hsel
        exact ⟨s.nextRef, st.lenRef, _, _, _, _, Nat.le_refl _, hfd, rfl, by simp [hul, hseek, emit_pos, patch, s2, hdr],
          .inr (.inr (.inl ⟨hul, rfl, rfl, rfl, rfl⟩))⟩
      · rename_i hseek
        split at hsel
        · cases hsel
        · rename_i sa r ha
          cases hsel
          obtain ⟨rfl, rfl, hlt⟩ := alloc_ok ha
          exact ⟨_, some s.nextRef, none, _, _, _, Nat.le_succ _, hfd, rfl, by simp [hul, hseek, emit_pos, patch, s2, hdr],
            .inr (.inr (.inr ⟨hul, rfl, rfl, _, rfl, rfl, hlt⟩))⟩

theorem startWriting_keeps {s s3 : WState} {st st' : OpenStm} {known : Option Nat}
    (h : startWriting s st known = .ok (s3, st')) :
    s3.opts = s.opts ∧ s3.xref = s.xref ∧ s3.doc = s.doc ∧ s3.sdoc = s.sdoc := by
  obtain ⟨_, _, _, _, _, _, _, _, rfl, _⟩ := startWriting_ok h
  exact ⟨rfl, rfl, rfl, rfl⟩

theorem startWriting_inv {s s3 : WState} {st st' : OpenStm} {known : Option Nat}
    (hi : Inv s) (hs : s.stm = some st) (h : startWriting s st known = .ok (s3, st')) :
    Inv { s3 with stm := some st' } ∧ st'.started = true := by
  obtain ⟨n1, lr, pp, value, dictBytes, off, hn1, hfd, rfl, rfl, hk⟩ := startWriting_ok h
  obtain ⟨pre, post, rfl, rfl, _⟩ := fmtDictLen_parts hfd
  have hent : ∀ n e, s.xref.get n = some e → e.inStream = 0 → 0 ≤ e.pos →
      At (s.out ++ (objHeader st.num st.gen ++ (pre ++ value ++ post) ++ kStream) ++ st.buf) e.pos.toNat
        (objHeader n e.gen) ∧ e.pos.toNat + (objHeader n e.gen).length ≤ s.out.length + (objHeader st.num st.gen).length := by
    intro n e hg h0 hpe
    rcases hi.entries n e hg h0 hpe with ha | ⟨st0, h1, _, h3, h4, h5⟩
    · exact ⟨(ha.append _).append _, Nat.le_trans ha.end_le (Nat.le_add_right _ _)⟩
    · cases hs.symm.trans h1
      rw [h5, hi.pos_eq, Int.toNat_natCast, ← h3, ← h4]
      exact ⟨⟨s.out, (pre ++ value ++ post) ++ kStream ++ st.buf, by simp only [List.append_assoc], rfl⟩,
        Nat.le_refl _⟩
  refine ⟨⟨?_, fun n e hg h0 hpe => .inl (hent n e hg h0 hpe).1, ?_,
    fun k e hg => Nat.lt_of_lt_of_le (hi.below k e hg) hn1, Nat.lt_of_lt_of_le hi.npos hn1⟩, rfl⟩
  · simp only [emit_out, emit_pos, hi.pos_eq, List.length_append]
  · intro st2 p h1 h2
    cases h1
    -- a patch position is recorded only together with the twelve blanks
    rcases hk with ⟨_, _, _, rfl, _⟩ | ⟨_, _, _, _, rfl, _⟩ | ⟨_, _, rfl, _, rfl⟩ | ⟨_, _, rfl, _⟩
    · cases h2
    · cases h2
    · cases h2
      refine ⟨?_, fun n e hg h0 hpe => ?_⟩
      · simp only [emit_out, hi.pos_eq, List.length_append, blanks12, List.length_replicate]; omega
      · rw [hi.pos_eq]
        exact Nat.le_trans (hent n e hg h0 hpe).2 (Nat.le_add_right _ _)
    · cases h2


theorem streamWrite_ok {s s' : WState} {p : Bytes} (h : streamWrite s p = .ok s') :
    ∃ st, s.stm = some st ∧
      ((st.started = true ∧ s' = emit { s with sdata := s.sdata ++ p } p) ∨
       (st.started = false ∧
          s' = { s with stm := some { st with buf := st.buf ++ p }, sdata := s.sdata ++ p }) ∨
       (st.started = false ∧ ∃ s1 st1, startWriting s st none = .ok (s1, st1) ∧
          s' = emit { s1 with stm := some st1, sdata := s.sdata ++ p } p)) := by
  revert h
  fun_cases streamWrite s p <;> intro h <;> cases h
  · exact ⟨_, ‹_›, .inl ⟨‹_›, rfl⟩⟩
  · exact ⟨_, ‹_›, .inr (.inl ⟨Bool.eq_false_iff.2 ‹_›, rfl⟩)⟩
  · exact ⟨_, ‹_›, .inr (.inr ⟨Bool.eq_false_iff.2 ‹_›, _, _, ‹_›, rfl⟩)⟩

theorem streamWrite_keeps {s s' : WState} {p : Bytes} (h : streamWrite s p = .ok s') :
    s'.opts = s.opts ∧ s'.xref = s.xref ∧ s'.doc = s.doc ∧ s'.sdoc = s.sdoc := by
  obtain ⟨st, _, ⟨_, rfl⟩ | ⟨_, rfl⟩ | ⟨_, s1, st1, hsw, rfl⟩⟩ := streamWrite_ok h
  · exact ⟨rfl, rfl, rfl, rfl⟩
  · exact ⟨rfl, rfl, rfl, rfl⟩
  · obtain ⟨a, b, c, d⟩ := startWriting_keeps hsw
    exact ⟨a, b, c, d⟩

theorem streamWrite_inv {s s' : WState} {p : Bytes} (hi : Inv s) (h : streamWrite s p = .ok s') : Inv s' := by
  obtain ⟨st, hs, ⟨hst, rfl⟩ | ⟨hst, rfl⟩ | ⟨hst, s1, st1, hsw, rfl⟩⟩ := streamWrite_ok h
  · exact emit_inv (hi.congr (s' := { s with sdata := s.sdata ++ p }) rfl rfl rfl rfl rfl) p
        (fun st0 h0 => by cases hs.symm.trans h0; exact hst)
  · -- buffering changes neither the output nor what the pending entry waits for
    refine ⟨hi.pos_eq, ?_, ?_, hi.below, hi.npos⟩
    · intro n e hg h0 hp
      rcases hi.entries n e hg h0 hp with ha | ⟨st0, h1, _, h3, h4, h5⟩
      · exact .inl ha
      · cases hs.symm.trans h1
        exact .inr ⟨_, rfl, hst, h3, h4, h5⟩
    · intro st2 p2 h1 h2
      cases h1
      exact hi.patch st p2 hs h2
  · obtain ⟨hi1, hstarted⟩ := startWriting_inv hi hs hsw
    exact emit_inv (hi1.congr (s' := { s1 with stm := some st1, sdata := s.sdata ++ p }) rfl rfl rfl rfl rfl) p
        (fun st0 h0 => by cases h0; exact hstarted)

theorem dropStm_inv {s : WState} (hi : Inv s) (hst : ∀ st, s.stm = some st → st.started = true) :
    Inv { s with stm := none } := by
  refine ⟨hi.pos_eq, ?_, fun st p h1 => (nomatch h1), hi.below, hi.npos⟩
  intro n e hg h0 hp
  rcases hi.entries n e hg h0 hp with ha | ⟨st0, h1, h2, _⟩
  · exact .inl ha
  · rw [hst st0 h1] at h2; cases h2

/-- `Placeholder.Set`: a started stream gets its length as a deferred object, by the seek-back
    patch, or not at all (it was known); a buffered one is started now -/
theorem closeLength_ok {s s1 : WState} {st st1 : OpenStm} {len : Nat}
    (h : closeLength s st = .ok (s1, st1, len)) :
    (st.started = true ∧ st1 = st ∧ len = s.pos - st.startPos ∧
      ((∃ r, st.lenRef = some r ∧ s1 = { s with after := s.after ++ [(r, 0, .plain (.int len))] }) ∨
       (st.lenRef = none ∧ ∃ p, st.patchPos = some p ∧ (decOf len).length ≤ 12 ∧
          s1 = { s with out := patchAt s.out p (decOf len) }) ∨
       (st.lenRef = none ∧ st.patchPos = none ∧ s1 = s))) ∨
    (st.started = false ∧ len = st.buf.length ∧ startWriting s st (some len) = .ok (s1, st1)) := by
  revert s1 st1 len
  fun_cases closeLength s st <;> intro s1 st1 len h <;> cases h
  · exact .inl ⟨‹_›, rfl, rfl, .inl ⟨_, ‹_›, rfl⟩⟩
  · exact .inl ⟨‹_›, rfl, rfl, .inr (.inl ⟨‹_›, _, ‹_›, Nat.not_lt.1 ‹_›, rfl⟩)⟩
  · exact .inl ⟨‹_›, rfl, rfl, .inr (.inr ⟨‹_›, ‹_›, rfl⟩)⟩
  · exact .inr ⟨Bool.eq_false_iff.2 ‹_›, rfl, ‹_›⟩

theorem closeLength_keeps {s s1 : WState} {st st1 : OpenStm} {len : Nat}
    (h : closeLength s st = .ok (s1, st1, len)) :
    s1.opts = s.opts ∧ s1.xref = s.xref ∧ s1.doc = s.doc ∧ s1.sdoc = s.sdoc := by
  rcases closeLength_ok h with ⟨_, _, _, ⟨_, _, rfl⟩ | ⟨_, _, _, _, rfl⟩ | ⟨_, _, rfl⟩⟩ | ⟨_, _, hsw⟩
  · exact ⟨rfl, rfl, rfl, rfl⟩
  · exact ⟨rfl, rfl, rfl, rfl⟩
  · exact ⟨rfl, rfl, rfl, rfl⟩
  · exact startWriting_keeps hsw

theorem closeLength_inv {s s1 : WState} {st st1 : OpenStm} {len : Nat} (hi : Inv s) (hs : s.stm = some st)
    (hr : closeLength s st = .ok (s1, st1, len)) :
    ∃ stx, Inv { s1 with stm := some stx } ∧ stx.started = true := by
  rcases closeLength_ok hr with ⟨hstarted, _, rfl, ⟨r, _, rfl⟩ | ⟨_, p, hpp, hlen, rfl⟩ | ⟨_, _, rfl⟩⟩ | ⟨hst, _, hsw⟩
  · exact ⟨st, hi.congr rfl rfl rfl rfl hs.symm, hstarted⟩
  · -- the patch overwrites at most the 12 reserved bytes, which lie behind every header
    obtain ⟨hp12, hends⟩ := hi.patch st p hs hpp
    have hlen' := patchAt_length s.out p (decOf (s.pos - st.startPos)) (Nat.le_trans (Nat.add_le_add_left hlen p) hp12)
    refine ⟨st, ⟨hi.pos_eq.trans hlen'.symm, ?_, ?_, hi.below, hi.npos⟩, hstarted⟩
    · intro n e hg h0 hpe
      rcases hi.entries n e hg h0 hpe with ha | ⟨st0, h1, h2, _⟩
      · exact .inl (ha.patch p _ (hends n e hg h0 hpe))
      · cases hs.symm.trans h1
        rw [hstarted] at h2; cases h2
    · intro st2 p2 h1 h2
      cases h1
      cases hpp.symm.trans h2
      exact ⟨hlen'.symm ▸ hp12, hends⟩
  · exact ⟨st, hi.congr rfl rfl rfl rfl hs.symm, hstarted⟩
  · exact ⟨_, startWriting_inv hi hs hsw⟩

theorem streamCloseWith_ok {putS} {s s' : WState} (h : streamCloseWith putS s = .ok s') :
    ∃ st s1 st1 len, s.stm = some st ∧ closeLength s st = .ok (s1, st1, len) ∧
      lengthMismatch st.userLen len = false ∧
      replayWith putS { emit s1 (kEndstream ++ prettyNL s.opts) with
          stm := none, after := [], sdoc := s1.sdoc ++ [(st.num, st.gen, st.dict, s.sdata)] } s1.after = .ok s' := by
  revert h
  fun_cases streamCloseWith putS s <;> intro h <;> try cases h
  exact ⟨_, _, _, _, ‹_›, ‹_›, Bool.eq_false_iff.2 ‹_›, h⟩

theorem closed_inv {s s1 : WState} {st st1 : OpenStm} {len : Nat} (hi : Inv s) (hs : s.stm = some st)
    (hr : closeLength s st = .ok (s1, st1, len)) :
    Inv { emit s1 (kEndstream ++ prettyNL s.opts) with
      stm := none, after := [], sdoc := s1.sdoc ++ [(st.num, st.gen, st.dict, s.sdata)] } := by
  obtain ⟨stx, hi1, hstx⟩ := closeLength_inv hi hs hr
  have hi2 := emit_inv hi1 (kEndstream ++ prettyNL s.opts) (fun st0 h0 => by cases h0; exact hstx)
  exact (dropStm_inv hi2 (fun st0 h0 => by cases h0; exact hstx)).congr rfl rfl rfl rfl rfl

theorem putStreamWith_ok {close : WState → Except Err WState} {s s' : WState} {num gen : Nat}
    {d : List (Bytes × Obj)} {ul : Option Int} {raw : Bytes}
    (h : putStreamWith close s num gen d ul raw = .ok s') :
    ∃ s1 s2, openStream s num gen d ul = .ok s1 ∧ streamWrite s1 raw = .ok s2 ∧ close s2 = .ok s' := by
  revert h
  fun_cases putStreamWith close s num gen d ul raw <;> intro h <;> try cases h
  exact ⟨_, _, ‹_›, ‹_›, h⟩

theorem setEntries_get (sRef : Nat) (l : List (Nat × Nat × Obj)) :
    ∀ {x x' : XMap} {n n' i : Nat}, setEntries sRef x n l i = some (x', n') →
      (∀ k e, x.get k = some e → x'.get k = some e) ∧
      (∀ k e, x'.get k = some e → x.get k = some e ∨ e.inStream = sRef) ∧
      (∀ k e, x'.get k = some e → x.get k = some e ∨ k < n') ∧ n ≤ n' := by
  intro x x' n n' i
  fun_induction setEntries sRef x n l i <;> intro h
  · cases h
    exact ⟨fun _ _ h => h, fun _ _ h => .inl h, fun _ _ h => .inl h, Nat.le_refl _⟩
  · cases h
  · rename_i hset ih
    obtain ⟨_, _, hn1, hn2, _⟩ := setXRef_ok hset
    obtain ⟨a1, a2, a3, a4⟩ := ih h
    refine ⟨fun k e hk => a1 k e (setXRef_mono hset k e hk), fun k e hk => ?_, fun k e hk => ?_, by omega⟩
    · rcases a2 k e hk with h1 | h1
      · rcases setXRef_get hset h1 with ⟨_, rfl⟩ | h1
        · exact .inr rfl
        · exact .inl h1
      · exact .inr h1
    · rcases a3 k e hk with h1 | h1
      · rcases setXRef_get hset h1 with ⟨rfl, _⟩ | h1
        · exact .inr (by omega)
        · exact .inl h1
      · exact .inr h1

theorem writeObjStmAt_ok {s s' : WState} {items : List (Nat × Nat × Obj)} {raw : Bytes}
    (h : writeObjStmAt s items raw = .ok s') :
    ∃ s1 sRef x n content cnt first s2 s3, alloc s = some (s1, sRef) ∧
      setEntries sRef s1.xref s1.nextRef items 0 = some (x, n) ∧
      objStmContent s.opts.fmtPlain (items.map fun (num, _, o) => (num, o)) = some (content, cnt, first) ∧
      openStream { s1 with xref := x, nextRef := n } sRef 0
        [(kType, .name nObjStm), (kN, .int cnt), (kFirst, .int first), (kFilter, .name nFlate)] none = .ok s2 ∧
      streamWrite s2 raw = .ok s3 ∧ streamClose s3 = .ok s' := by
  revert h
  fun_cases writeObjStmAt s items raw <;> intro h <;> try cases h
  exact ⟨_, _, _, _, _, _, _, _, _, ‹_›, ‹_›, ‹_›, ‹_›, ‹_›, h⟩

/-- the members' entries are compressed ones because the container's number is positive -/
theorem members_inv {s : WState} {sRef : Nat} {items : List (Nat × Nat × Obj)} {x : XMap} {n : Nat}
    (hi : Inv s) (hs : s.stm = none) (hsRef : 0 < sRef)
    (h : setEntries sRef s.xref s.nextRef items 0 = some (x, n)) : Inv { s with xref := x, nextRef := n } := by
  obtain ⟨_, m2, m3, m4⟩ := setEntries_get sRef items h
  refine ⟨hi.pos_eq, ?_, ?_, ?_, Nat.lt_of_lt_of_le hi.npos m4⟩
  · intro k e hg h0 hpe
    rcases m2 k e hg with h1 | h1
    · rcases hi.entries k e h1 h0 hpe with ha | ⟨st, hst, _⟩
      · exact .inl ha
      · rw [hs] at hst; cases hst
    · omega
  · intro st p hst
    rw [show ({ s with xref := x, nextRef := n } : WState).stm = none from hs] at hst
    cases hst
  · intro k e hg
    rcases m3 k e hg with h1 | h1
    · exact Nat.lt_of_lt_of_le (hi.below k e h1) m4
    · exact h1

theorem foldl_max_ge (items : List (Nat × Nat × Obj)) : ∀ n, n ≤ items.foldl (fun n it => max n (it.1 + 1)) n := by
  induction items with
  | nil => exact fun n => Nat.le_refl n
  | cons it rest ih => exact fun n => Nat.le_trans (Nat.le_max_left _ _) (ih _)

theorem reserveNumbers_inv {s : WState} (hi : Inv s) (items : List (Nat × Nat × Obj)) : Inv (reserveNumbers s items) :=
  hi.raise (foldl_max_ge items s.nextRef)

theorem writeCompressed_ok {s s' : WState} {items : List (Nat × Nat × Obj)} {raws : List Bytes}
    (h : writeCompressed s items raws = .ok s') :
    s.stm = none ∧
    items.any (fun (_, gen, o) => gen > 0 || (match o with | .ref _ _ => true | _ => false)) = false ∧
    (items = [] ∧ s' = s ∨
     items ≠ [] ∧ (s.opts.objStm = false ∧ putAll s items = .ok s' ∨
                   s.opts.objStm = true ∧ writeObjStms (items.length + 1) s items raws = .ok s')) := by
  revert h
  fun_cases writeCompressed s items raws <;> intro h <;> (try cases h) <;>
    refine ⟨by simpa using ‹¬s.stm.isSome = true›, Bool.eq_false_iff.2 ‹_›, ?_⟩
  · exact .inl ⟨by simpa using ‹items.isEmpty = true›, rfl⟩
  · exact .inr ⟨by simpa using ‹¬items.isEmpty = true›, .inl ⟨by simpa using ‹(!s.opts.objStm) = true›, h⟩⟩
  · exact .inr ⟨by simpa using ‹¬items.isEmpty = true›, .inr ⟨by simpa using ‹¬(!s.opts.objStm) = true›, h⟩⟩

theorem optPut_ok {s s' : WState} {o : Option Obj} {r : Option Nat} (h : optPut s o = .ok (s', r)) :
    (o = none ∧ r = none ∧ s' = s) ∨
    ∃ v s1 r1, o = some v ∧ r = some r1 ∧ alloc s = some (s1, r1) ∧ put s1 r1 0 (.plain v) = .ok s' := by
  revert h
  fun_cases optPut s o <;> intro h <;> cases h
  · exact .inl ⟨rfl, rfl, rfl⟩
  · exact .inr ⟨_, _, _, rfl, rfl, ‹_›, ‹_›⟩

theorem close_ok {s s' : WState} {cat : Obj} {info : Option Obj} {tr : List (Bytes × Obj)} {raw : Bytes}
    (h : close s cat info tr raw = .ok s') :
    s.stm = none ∧ ∃ s1 cr s2 ir, optPut s (some cat) = .ok (s1, cr) ∧ optPut s1 info = .ok (s2, ir) ∧
      ((s.opts.objStm = true ∧ ∃ s3 ref s4 s5 s6, alloc s2 = some (s3, ref) ∧
          openStream s3 ref 0 (xrefStreamDict ((tr.filter fun e => e.1 != kRoot && e.1 != kInfo && e.1 != kSize) ++
              (match cr with | some n => [(kRoot, Obj.ref n 0)] | none => []) ++ (match ir with | some n => [(kInfo, Obj.ref n 0)] | none => [])) s3.nextRef (fieldWidth (maxFields s3.xref 0 s3.nextRef).1)
            (fieldWidth (maxFields s3.xref 0 s3.nextRef).2)) (some raw.length) = .ok s4 ∧
          streamWrite s4 raw = .ok s5 ∧ streamClose s5 = .ok s6 ∧
          s' = emit s6 (kStartxref ++ decOf s2.pos ++ kEOF)) ∨
       (s.opts.objStm = false ∧ ∃ body td, xrefTableBody s2.xref s2.nextRef = some body ∧
          format s.opts.fmtPlain [.dict ((tr.filter fun e => e.1 != kRoot && e.1 != kInfo && e.1 != kSize) ++
              (match cr with | some n => [(kRoot, Obj.ref n 0)] | none => []) ++ (match ir with | some n => [(kInfo, Obj.ref n 0)] | none => []) ++ [(kSize, .int s2.nextRef)])] = some td ∧
          s' = emit (emit s2 (body ++ kTrailerNL ++ td ++ [10])) (kStartxref ++ decOf s2.pos ++ kEOF))) := by
  revert s'
  fun_cases close s cat info tr raw <;> intro s' h <;> cases h
  · -- cross-reference stream
    exact ⟨by simpa using ‹¬s.stm.isSome = true›, _, _, _, _, ‹_›, ‹_›, .inl ⟨‹_›, _, _, _, _, _, ‹_›,
      by rw [‹maxFields _ _ _ = _›]; assumption, ‹_›, ‹_›, rfl⟩⟩
  · -- table and trailer
    exact ⟨by simpa using ‹¬s.stm.isSome = true›, _, _, _, _, ‹_›, ‹_›,
      .inr ⟨Bool.eq_false_iff.2 ‹_›, _, _, ‹_›, ‹_›, rfl⟩⟩

theorem openStreamFail_fields {s s' : WState} {num gen : Nat} (h : openStreamFail s num gen = .ok s') :
    s.stm = none ∧ s.xref.get num = none ∧ ∃ n, s.nextRef ≤ n ∧ num < n ∧ s' = { s with nextRef := n } := by
  revert h
  fun_cases openStreamFail s num gen <;> intro h <;> cases h
  obtain ⟨hnone, _, hn1, hn2, _⟩ := setXRef_ok ‹_›
  exact ⟨‹_›, hnone, _, hn1, hn2, rfl⟩

theorem rejected_fields {s s' : WState} {op : Op} (h : step s (.rejected op) = .ok s') : s' = s := by
  simp only [step] at h
  split at h
  · cases h; rfl
  · cases h

/-- no entry of the table is lost or changed on the way from `s` to `s'` (an object number is defined once) -/
def Mono (s s' : WState) : Prop := ∀ n e, s.xref.get n = some e → s'.xref.get n = some e

theorem Mono.trans {a b c : WState} (h1 : Mono a b) (h2 : Mono b c) : Mono a c :=
  fun n e h => h2 n e (h1 n e h)
theorem Mono.of_eq {s s' : WState} (h : s'.xref = s.xref) : Mono s s' := fun n e hg => by rw [h]; exact hg

/-- `Reach s s'`: the writer gets from `s` to `s'` by the elementary state changes of which every
    operation is made — the smallest ones that keep `Inv`.  `closed` is the whole of
    `streamWriter.Close`: the length bookkeeping and `endstream`, then the replay of the deferred
    `Put`s, after which they are in the document; it is one step because the record the close adds
    to `sdoc` is backed by the file only once an indirect `/Length` has been replayed.  `members`
    starts before the `Alloc` of the container, whose number is `s.nextRef`. -/
inductive Reach : WState → WState → Prop
  | refl (s) : Reach s s
  | trans {a b c} : Reach a b → Reach b c → Reach a c
  /-- numbers set aside by `Alloc`, `reserveNumbers`, a failed `OpenStream` -/
  | bump (s : WState) {n : Nat} : s.nextRef ≤ n → Reach s { s with nextRef := n }
  | plain {s s' : WState} {num gen : Nat} {o : Obj} : s.stm = none → putPlain s num gen o = .ok s' → Reach s s'
  | opened {s s' : WState} {num gen : Nat} {d : List (Bytes × Obj)} {ul : Option Int} :
      openStream s num gen d ul = .ok s' → Reach s s'
  | written {s s' : WState} {p : Bytes} : streamWrite s p = .ok s' → Reach s s'
  /-- `Put` while a stream is open -/
  | deferred (s : WState) {st : OpenStm} (x : Nat × Nat × PutObj) : s.stm = some st →
      Reach s { s with after := s.after ++ [x] }
  | closed {s s1 s' : WState} {st st1 : OpenStm} {len : Nat} : s.stm = some st →
      closeLength s st = .ok (s1, st1, len) → lengthMismatch st.userLen len = false →
      Reach { emit s1 (kEndstream ++ prettyNL s.opts) with
        stm := none, after := [], sdoc := s1.sdoc ++ [(st.num, st.gen, st.dict, s.sdata)] } s' →
      s'.stm = none → (∀ n g o, (n, g, PutObj.plain o) ∈ s1.after → (n, g, o) ∈ s'.doc) → Reach s s'
  | members {s : WState} {items : List (Nat × Nat × Obj)} {x : XMap} {n : Nat} : s.stm = none →
      setEntries s.nextRef s.xref (s.nextRef + 1) items 0 = some (x, n) → Reach s { s with xref := x, nextRef := n }
  | emitted (s : WState) (bs : Bytes) : s.stm = none → Reach s (emit s bs)

/-- what no operation takes away: the options, the entries made, the objects recorded -/
structure Keeps (s s' : WState) : Prop where
  opts : s'.opts = s.opts
  mono : Mono s s'
  doc : ∀ x, x ∈ s.doc → x ∈ s'.doc
  sdoc : ∀ x, x ∈ s.sdoc → x ∈ s'.sdoc

theorem Keeps.of_eq {s s' : WState} (h1 : s'.opts = s.opts) (h2 : s'.xref = s.xref) (h3 : s'.doc = s.doc)
    (h4 : s'.sdoc = s.sdoc) : Keeps s s' :=
  ⟨h1, .of_eq h2, fun _ hx => h3 ▸ hx, fun _ hx => h4 ▸ hx⟩

theorem Keeps.trans {a b c : WState} (h1 : Keeps a b) (h2 : Keeps b c) : Keeps a c :=
  ⟨h2.opts.trans h1.opts, h1.mono.trans h2.mono, fun x hx => h2.doc x (h1.doc x hx), fun x hx => h2.sdoc x (h1.sdoc x hx)⟩

theorem Reach.keeps {s s' : WState} (h : Reach s s') : Keeps s s' := by
  induction h with
  | refl | bump | deferred | emitted => exact .of_eq rfl rfl rfl rfl
  | trans _ _ ih1 ih2 => exact ih1.trans ih2
  | plain _ h =>
    obtain ⟨x, n, _, hset, _, rfl⟩ := putPlain_ok h
    exact ⟨rfl, setXRef_mono hset, fun x hx => by simp [emit_doc, hx], fun _ h => h⟩
  | opened h =>
    obtain ⟨_, x, n, hset, rfl⟩ := openStream_ok h
    exact ⟨rfl, setXRef_mono hset, fun _ h => h, fun _ h => h⟩
  | written h => obtain ⟨a, b, c, d⟩ := streamWrite_keeps h; exact .of_eq a b c d
  | @closed s s1 s' st st1 len _ hcl _ _ _ _ ih =>
    obtain ⟨o, a, b, c⟩ := closeLength_keeps hcl
    have k : Keeps s { emit s1 (kEndstream ++ prettyNL s.opts) with
        stm := none, after := [], sdoc := s1.sdoc ++ [(st.num, st.gen, st.dict, s.sdata)] } :=
      ⟨(o :), .of_eq (a :), fun x hx => by simpa [emit_doc, b] using hx, fun x hx => by simp [c, hx]⟩
    exact k.trans ih
  | members _ h => exact ⟨rfl, (setEntries_get _ _ h).1, fun _ h => h, fun _ h => h⟩

theorem Reach.inv {s s' : WState} (h : Reach s s') : Inv s → Inv s' := by
  induction h with
  | refl => exact id
  | trans _ _ ih1 ih2 => exact ih2 ∘ ih1
  | bump _ hn => exact fun hi => hi.raise hn
  | plain hs h => exact fun hi => putPlain_inv hi hs h
  | opened h => exact fun hi => openStream_inv hi h
  | written h => exact fun hi => streamWrite_inv hi h
  | deferred => exact fun hi => hi.congr rfl rfl rfl rfl rfl
  | closed hs hcl _ _ _ _ ih => exact fun hi => ih (closed_inv hi hs hcl)
  | @members s _ _ _ hs h =>
    exact fun hi => members_inv (s := { s with nextRef := s.nextRef + 1 }) (hi.raise (Nat.le_succ _)) hs hi.npos h
  | emitted _ bs hs => exact fun hi => emit_inv hi bs (fun st h => nomatch hs.symm.trans h)

/-! Every operation is made of these changes.  Beside `Reach` the lemmas say where no stream is open
    afterwards: `plain`, `members` and `emitted` ask for that. -/

theorem alloc_reach {s s' : WState} {r : Nat} (h : alloc s = some (s', r)) : Reach s s' := by
  obtain ⟨rfl, _⟩ := alloc_ok h
  exact .bump s (Nat.le_succ _)

theorem putPlain_stm {s s' : WState} {num gen : Nat} {o : Obj} (h : putPlain s num gen o = .ok s') : s'.stm = s.stm := by
  obtain ⟨_, _, _, _, _, rfl⟩ := putPlain_ok h; rfl

theorem replayWith_reach {putS}
    (hput : ∀ {s s' : WState} {n g : Nat} {d : List (Bytes × Obj)} {ul : Option Int} {raw : Bytes},
      s.stm = none → putS s n g d ul raw = .ok s' → Reach s s' ∧ s'.stm = none)
    (l : List (Nat × Nat × PutObj)) : ∀ {s s' : WState}, s.stm = none → replayWith putS s l = .ok s' →
      Reach s s' ∧ s'.stm = none ∧ ∀ n g o, (n, g, PutObj.plain o) ∈ l → (n, g, o) ∈ s'.doc := by
  intro s s'
  fun_induction replayWith putS s l <;> intro hs h
  · cases h; exact ⟨.refl _, hs, fun _ _ _ hm => nomatch hm⟩
  · cases h
  · rename_i hp ih
    obtain ⟨r1, n1, d1⟩ := ih ((putPlain_stm hp).trans hs) h
    refine ⟨.trans (.plain hs hp) r1, n1, fun n g o hm => ?_⟩
    simp only [List.mem_cons, Prod.mk.injEq, PutObj.plain.injEq] at hm
    rcases hm with ⟨rfl, rfl, rfl⟩ | hm
    · obtain ⟨_, _, _, _, _, rfl⟩ := putPlain_ok hp
      exact r1.keeps.doc _ (by simp [emit_doc])
    · exact d1 n g o hm
  · cases h
  · rename_i hp ih
    obtain ⟨r0, n0⟩ := hput hs hp
    obtain ⟨r1, n1, d1⟩ := ih n0 h
    refine ⟨r0.trans r1, n1, fun n g o hm => ?_⟩
    simp only [List.mem_cons, Prod.mk.injEq, reduceCtorEq, and_false, false_or] at hm
    exact d1 n g o hm

theorem streamCloseWith_reach {putS}
    (hput : ∀ {s s' : WState} {n g : Nat} {d : List (Bytes × Obj)} {ul : Option Int} {raw : Bytes},
      s.stm = none → putS s n g d ul raw = .ok s' → Reach s s' ∧ s'.stm = none)
    {s s' : WState} (h : streamCloseWith putS s = .ok s') : Reach s s' ∧ s'.stm = none := by
  obtain ⟨st, s1, st1, len, hs, hr, hc, h⟩ := streamCloseWith_ok h
  obtain ⟨r, n, d⟩ := replayWith_reach hput _ rfl h
  exact ⟨.closed hs hr hc r n d, n⟩

theorem putStreamWith_reach {close : WState → Except Err WState}
    (hclose : ∀ {s s' : WState}, close s = .ok s' → Reach s s' ∧ s'.stm = none)
    {s s' : WState} {num gen : Nat} {d : List (Bytes × Obj)} {ul : Option Int} {raw : Bytes}
    (h : putStreamWith close s num gen d ul raw = .ok s') : Reach s s' ∧ s'.stm = none := by
  obtain ⟨s1, s2, h1, h2, h⟩ := putStreamWith_ok h
  exact ⟨((Reach.opened h1).trans (.written h2)).trans (hclose h).1, (hclose h).2⟩

/-- a stream written from the replay loop of another one defers no stream itself -/
theorem putStream0_reach {s s' : WState} {n g : Nat} {d : List (Bytes × Obj)} {ul : Option Int} {raw : Bytes}
    (_ : s.stm = none) (h : putStream0 s n g d ul raw = .ok s') : Reach s s' ∧ s'.stm = none :=
  putStreamWith_reach (streamCloseWith_reach (putS := noDeferredStream) (fun _ h => nomatch h)) h

theorem streamClose_reach {s s' : WState} (h : streamClose s = .ok s') : Reach s s' ∧ s'.stm = none :=
  streamCloseWith_reach putStream0_reach h

theorem put_plain_closed {s : WState} {num gen : Nat} {v : Obj} (hs : s.stm = none) :
    put s num gen (.plain v) = putPlain s num gen v := by
  unfold put; rw [hs]

theorem put_reach {s s' : WState} {num gen : Nat} {o : PutObj} (h : put s num gen o = .ok s') :
    Reach s s' ∧ (s.stm = none → s'.stm = none) := by
  revert h
  fun_cases put s num gen o <;> intro h
  · cases h; exact ⟨.deferred s _ ‹_›, fun h0 => nomatch (‹s.stm = some _›).symm.trans h0⟩
  · exact ⟨.plain ‹_› h, fun _ => (putPlain_stm h).trans ‹_›⟩
  · exact ⟨(putStreamWith_reach streamClose_reach h).1, fun _ => (putStreamWith_reach streamClose_reach h).2⟩

theorem putAll_reach (l : List (Nat × Nat × Obj)) : ∀ {s s' : WState}, s.stm = none → putAll s l = .ok s' →
    Reach s s' ∧ s'.stm = none := by
  intro s s'
  fun_induction putAll s l <;> intro hs h
  · cases h; exact ⟨.refl _, hs⟩
  · cases h
  · rename_i hp ih
    obtain ⟨r1, n1⟩ := ih ((put_reach hp).2 hs) h
    exact ⟨(put_reach hp).1.trans r1, n1⟩

theorem writeObjStmAt_reach {s s' : WState} {items : List (Nat × Nat × Obj)} {raw : Bytes}
    (h : writeObjStmAt s items raw = .ok s') : Reach s s' ∧ s'.stm = none := by
  obtain ⟨s1, sRef, x, n, _, _, _, s2, s3, ha, hse, _, h2, h3, h⟩ := writeObjStmAt_ok h
  obtain ⟨rfl, rfl, _⟩ := alloc_ok ha
  obtain ⟨hs, _⟩ := openStream_ok h2
  have hm : Reach s { ({ s with nextRef := s.nextRef + 1 } : WState) with xref := x, nextRef := n } :=
    .members hs hse
  exact ⟨((hm.trans (.opened h2)).trans (.written h3)).trans (streamClose_reach h).1, (streamClose_reach h).2⟩

theorem writeObjStms_reach (fuel : Nat) : ∀ {s s' : WState} {items : List (Nat × Nat × Obj)} {raws : List Bytes},
    writeObjStms fuel s items raws = .ok s' → Reach s s' ∧ s'.stm = none := by
  have one : ∀ {s s' : WState} {items : List (Nat × Nat × Obj)} {raw : Bytes},
      writeObjStm s items raw = .ok s' → Reach s s' ∧ s'.stm = none := fun {s} _ {items} _ h =>
    ⟨(Reach.bump s (foldl_max_ge items s.nextRef)).trans (writeObjStmAt_reach (s := reserveNumbers s items) h).1,
      (writeObjStmAt_reach (s := reserveNumbers s items) h).2⟩
  intro s s' items raws
  fun_induction writeObjStms fuel s items raws <;> intro h
  · cases h
  · cases h
  · rename_i h1 ih; exact ⟨(one h1).1.trans (ih h).1, (ih h).2⟩
  · exact one h

theorem writeCompressed_reach {s s' : WState} {items : List (Nat × Nat × Obj)} {raws : List Bytes}
    (h : writeCompressed s items raws = .ok s') : Reach s s' ∧ s'.stm = none := by
  obtain ⟨hs, _, ⟨_, rfl⟩ | ⟨_, ⟨_, h⟩ | ⟨_, h⟩⟩⟩ := writeCompressed_ok h
  · exact ⟨.refl _, hs⟩
  · exact putAll_reach items hs h
  · exact writeObjStms_reach _ h

theorem optPut_reach {s s' : WState} {o : Option Obj} {r : Option Nat} (h : optPut s o = .ok (s', r)) :
    Reach s s' ∧ (s.stm = none → s'.stm = none) := by
  obtain ⟨_, _, rfl⟩ | ⟨v, s1, r1, _, _, ha, hp⟩ := optPut_ok h
  · exact ⟨.refl _, id⟩
  · obtain ⟨rfl, _⟩ := alloc_ok ha
    exact ⟨(alloc_reach ha).trans (put_reach hp).1, (put_reach hp).2⟩

theorem close_reach {s s' : WState} {cat : Obj} {info : Option Obj} {tr : List (Bytes × Obj)} {raw : Bytes}
    (h : close s cat info tr raw = .ok s') : Reach s s' ∧ s'.stm = none := by
  obtain ⟨hs, s1, catRef, s2, infoRef, h1, h2, hform⟩ := close_ok h
  obtain ⟨r1, n1⟩ := optPut_reach h1
  obtain ⟨r2, n2⟩ := optPut_reach h2
  have n2 := n2 (n1 hs)
  rcases hform with ⟨_, s3, ref, s4, s5, s6, ha, h4, h5, h6, rfl⟩ | ⟨_, body, td, _, _, rfl⟩
  · obtain ⟨r6, n6⟩ := streamClose_reach h6
    exact ⟨(r1.trans r2).trans (((((alloc_reach ha).trans (.opened h4)).trans (.written h5)).trans r6).trans
      (.emitted _ _ n6)), n6⟩
  · exact ⟨(r1.trans r2).trans ((Reach.emitted _ _ n2).trans (.emitted _ _ n2)), n2⟩

theorem step_reach {s s' : WState} {op : Op} (h : step s op = .ok s') : Reach s s' := by
  cases op with
  | alloc =>
    simp only [step] at h
    split at h
    · rename_i s1 r ha
      cases h
      exact alloc_reach ha
    · cases h
  | put num gen o => exact (put_reach h).1
  | openStream num gen dict ul => exact .opened h
  | write p => exact .written h
  | closeStream => exact (streamClose_reach h).1
  | writeCompressed items raw => exact (writeCompressed_reach h).1
  | close cat info tr raw => exact (close_reach h).1
  | openStreamFail num gen =>
    obtain ⟨_, _, n, hn, _, rfl⟩ := openStreamFail_fields h
    exact .bump s hn
  | rejected op => rw [rejected_fields h]; exact .refl s

theorem run_reach (ops : List Op) : ∀ {s s' : WState} {i : Nat}, run s ops i = .ok s' → Reach s s' := by
  intro s s' i
  fun_induction run s ops i <;> intro h
  · cases h; exact .refl _
  · cases h
  · rename_i h1 ih; exact (step_reach h1).trans (ih h)

theorem run_inv (ops : List Op) : ∀ {s s' : WState} {i : Nat}, Inv s → run s ops i = .ok s' → Inv s' :=
  fun hi h => (run_reach ops h).inv hi

/-- **pos_invariant.**  For every option set, every program (any operations in any order, any
objects, any stream bytes — i.e. any behaviour of the filters and ciphers) which the writer
model accepts: the position counter equals the number of bytes written, and every in-use
cross-reference entry that is not in an object stream records exactly the offset at which
`N G obj` for that number and generation starts in the output (for a stream that is still open
and has not been started, the offset at which it will start).  This includes the seek-back
patch of `/Length`, which overwrites bytes behind all object headers and preserves the length. -/
theorem pos_invariant (o : WOpts) (s0 s : WState) (ops : List Op)
    (h0 : initState o = some s0) (h : run s0 ops 0 = .ok s) :
    s.pos = s.out.length ∧
    ∀ n e, s.xref.get n = some e → e.inStream = 0 → 0 ≤ e.pos →
      At s.out e.pos.toNat (objHeader n e.gen) ∨
      (∃ st, s.stm = some st ∧ st.started = false ∧ st.num = n ∧ st.gen = e.gen ∧ e.pos = (s.pos : Int)) := by
  have hi := run_inv ops (init_inv o s0 h0) h
  exact ⟨hi.pos_eq, hi.entries⟩

/-- after `Close` no stream is open: every in-use entry points at its header -/
theorem pos_invariant_closed (o : WOpts) (s0 s : WState) (ops : List Op)
    (h0 : initState o = some s0) (h : run s0 ops 0 = .ok s) (hc : s.stm = none) :
    ∀ n e, s.xref.get n = some e → e.inStream = 0 → 0 ≤ e.pos →
      At s.out e.pos.toNat (objHeader n e.gen) := by
  intro n e hg hi0 hp
  rcases (pos_invariant o s0 s ops h0 h).2 n e hg hi0 hp with ha | ⟨st, h1, _⟩
  · exact ha
  · rw [hc] at h1; cases h1


-- non-vacuity: a program with a long stream on a seekable sink (12 reserved bytes, patched at
-- the close), an object put while the stream is open (deferred) and `Close` is accepted; the
-- deferred object 3 ends up at offset 1120 and `3 0 obj` stands there.  `version := 5` is PDF 1.4
-- (`Gen.fio_V1_4`): the last version with the table form.
def exOpts : WOpts := { version := 5, human := false, seekable := true, encrypted := false }
def exProg : List Op :=
  [.alloc, .alloc, .alloc, .put 1 0 (.plain (.int 5)), .openStream 2 0 [] none, .write (List.replicate 1030 65),
   .put 3 0 (.plain (.name [65])), .closeStream, .close (.dict [([84], .int 1)]) none [] []]
example : (match initState exOpts with
    | some s0 => (match run s0 exProg 0 with
      | .ok s => s.xref.get 3 == some ⟨0, 1120, 0⟩ && isPrefixOf (objHeader 3 0) (s.out.drop 1120) && s.stm.isNone
      | _ => false)
    | none => false) = true := by decide +kernel
-- the same on a sink that cannot seek: the length becomes indirect object 4, written after the stream
example : (match initState { exOpts with seekable := false } with
    | some s0 => (match run s0 exProg 0 with
      | .ok s => (s.xref.get 4).isSome && s.nextRef == 6
      | _ => false)
    | none => false) = true := by decide +kernel

theorem run_mono (ops : List Op) : ∀ {s s' : WState} {i : Nat}, run s ops i = .ok s' → Mono s s' :=
  fun h => (run_reach ops h).keeps.mono

/-- **put_once.**  In every accepted program a cross-reference entry, once made, stays as it is
to the end (`run_mono`), and an operation that would define a number a second time is refused —
stated here for `Put` of a plain object while no stream is open and for `OpenStream`; the other
ways to define a number (`Put` of a stream, the members of `WriteCompressed`) go through the same
`setXRef`, which fails on a number that already has an entry (`setXRef_dup`). -/
theorem put_once (s s' : WState) (ops : List Op) (i : Nat) (h : run s ops i = .ok s')
    (n : Nat) (e : XEntry) (he : s.xref.get n = some e) :
    s'.xref.get n = some e ∧
    (∀ gen o, s.stm = none → ∃ err, put s n gen (.plain o) = .error err) ∧
    (∀ gen d ul, ∃ err, openStream s n gen d ul = .error err) := by
  refine ⟨run_mono ops h n e he, ?_, ?_⟩
  · intro gen o hs
    simp [put, hs, putPlain, setXRef_dup he]
  · intro gen d ul
    unfold openStream
    split
    · exact ⟨_, rfl⟩
    · simp [setXRef_dup he]


-- non-vacuity of `put_once`: after `Put 1` a second `Put 1` fails at operation 3
example : (match initState exOpts with
    | some s0 => (match run s0 [.alloc, .alloc, .put 1 0 (.plain (.int 5)), .put 1 0 (.plain (.int 6))] 0 with
      | .error (i, _) => i == 3
      | _ => false)
    | none => false) = true := by decide +kernel

/-- **openStream_fail_no_entry.**  An `OpenStream` that fails after entering its cross-reference
entry leaves no entry behind: the table, the output, the position, the open-stream state and the
queue are what they were; only `nextRef` may have been pushed past the number.  In particular the
number can be defined afterwards (the retry is not refused as a second definition), and nothing
points at the bytes written next. -/
theorem openStream_fail_no_entry {s s' : WState} {num gen : Nat} (h : step s (.openStreamFail num gen) = .ok s') :
    s'.xref = s.xref ∧ s'.xref.get num = none ∧ s'.out = s.out ∧ s'.pos = s.pos ∧ s'.stm = none ∧
      s'.after = s.after ∧ s.nextRef ≤ s'.nextRef ∧ num < s'.nextRef := by
  obtain ⟨hs, hnone, n, hn1, hn2, rfl⟩ := openStreamFail_fields (show openStreamFail s num gen = .ok s' from h)
  exact ⟨rfl, hnone, rfl, rfl, hs, rfl, hn1, hn2⟩

/-- after the failure the same number can be opened again -/
theorem openStream_retry_after_fail {s s1 : WState} {num gen : Nat} {d : List (Bytes × Obj)} {ul : Option Int}
    (h : step s (.openStreamFail num gen) = .ok s1) : ∃ s2, openStream s1 num gen d ul = .ok s2 := by
  obtain ⟨hs, hnone, n, _, _, rfl⟩ := openStreamFail_fields (show openStreamFail s num gen = .ok s1 from h)
  unfold openStream
  simp only [hs]
  simp [setXRef, hnone]

end PdfVerif.C02fiob
