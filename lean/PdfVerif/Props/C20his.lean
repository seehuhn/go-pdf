import PdfVerif.Model.HISSeq
/-!
# C20 — a truncated or xref-damaged file still gives up every complete object: the patterns of `sequential.go`, pinned

The strings are regenerated from the Go source on every run; if a pattern changes, these equalities fail and the
hand-written matchers `matchStart`/`matchMarker` of `Model/HISSeq.lean` have to be revisited.
-/
namespace PdfVerif.C20his
open PdfVerif PdfVerif.HIS

theorem startRegexp_pinned :
    Gen.seq_startRegexp = "%PDF-([12]\\.[0-9])[^0-9]".toList.map (·.toNat) := by decide +kernel

theorem markerRegexp_pinned :
    Gen.seq_markerRegexp =
      "(?:\\r\\n|\\r|\\n|^)(([0-9]+)[\\000\\011\\014 ]+([0-9]+)[\\000\\011\\014 ]+obj|xref|trailer|startxref|%%EOF)\\b".toList.map (·.toNat) := by
  decide +kernel

theorem endstreamPat_pinned :
    Gen.his_scanner_endstreamPat = "[\\r\\n]endstream".toList.map (·.toNat) := by decide +kernel

end PdfVerif.C20his
