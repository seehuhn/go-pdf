import PdfVerif.Props.C02trb
import PdfVerif.Props.C02fio
/-!
C02 (translator part): xref-stream field coding on the code GENERATED from xref.go on every run.  The writer stores every
xref-stream field with `encodeInt64(x, w)` and the reader reads it back with `decodeInt`; `decodeInt_encodeInt64` is the round
trip of one field (what `C02fio.decodeInt_encodeInt64` says of the hand model, on which `xref_stream_rt`, DESIGN C02.3, rests),
here for **every** value and every width from 0 to 10⁶: through the closed forms of `Lemmas/TRXref.lean` and their equality
with the hand model (`Props/C02trb.lean`) it is the hand model's `C02fio.beVal_encodeInt64`.
-/
namespace PdfVerif.C02tr
open PdfVerif PdfVerif.Gen PdfVerif.Go

/-- for every 64-bit value and every width `0 ≤ w ≤ 10⁶` (the writer uses
0…8): `encodeInt64` does not panic, reports no error, writes exactly `w` bytes, and `decodeInt`
of these bytes is `x mod 256^w` — with the error `errInvalidXref` exactly when that exceeds
`MaxInt64`. -/
theorem decodeInt_encodeInt64 (x : UInt64) (w : Int) (h0 : 0 ≤ w) (h1 : w ≤ 1000000) :
    ∃ bs, pdf_encodeInt64 x w = some (none, bs) ∧ bs.length = w.toNat ∧
      pdf_decodeInt bs =
        if x.toNat % 256 ^ w.toNat > 9223372036854775807 then ((0 : Int), some "errInvalidXref")
        else (((x.toNat % 256 ^ w.toNat : Nat) : Int), none) := by
  refine ⟨bytesBE x w.toNat, encodeInt64_eq x w h0 h1, by simp [bytesBE], ?_⟩
  -- the bytes and the decode loop are the hand model's (`C02trb`), whose positional value is `C02fio.beVal_encodeInt64`
  have hx := x.toNat_lt
  have : x.toNat % 256 ^ w.toNat < FIO.two64 :=
    Nat.lt_of_le_of_lt (Nat.mod_le _ _) (by unfold FIO.two64; omega)
  rw [decodeInt_eq, C02trb.decNat_eq_beVal _ 0 (by unfold FIO.two64; omega), C02trb.nat_bytesBE,
    C02fio.beVal_encodeInt64, Nat.zero_mul, Nat.zero_add, Nat.mod_eq_of_lt this]

/-- the case the xref writer relies on: a field value below 2⁶³ that fits into `w` bytes is read
back unchanged -/
theorem xref_field_rt (x : UInt64) (w : Int) (h0 : 0 ≤ w) (h1 : w ≤ 8)
    (hfit : x.toNat < 256 ^ w.toNat) (hpos : x.toNat ≤ 9223372036854775807) :
    ∃ bs, pdf_encodeInt64 x w = some (none, bs) ∧ bs.length = w.toNat ∧ pdf_decodeInt bs = ((x.toNat : Int), none) := by
  obtain ⟨bs, h1, h2, h3⟩ := decodeInt_encodeInt64 x w h0 (by omega)
  refine ⟨bs, h1, h2, ?_⟩
  rw [h3, Nat.mod_eq_of_lt hfit]
  have : ¬ (x.toNat > 9223372036854775807) := by omega
  simp only [this, if_false]

/-- a negative width (down to `-10⁶`) writes nothing (and does not panic) -/
theorem encodeInt64_neg (x : UInt64) (w : Int) (h0 : w < 0) (h1 : -1000000 ≤ w) :
    pdf_encodeInt64 x w = some (none, []) := by
  unfold pdf_encodeInt64
  simp only [pure, bind]
  have hcount : (i64 (w - 1) + 1 - 0).toNat = 0 := by
    rw [i64_of_bounds (by omega) (by omega)]; omega
  rw [hcount]
  rfl

example : pdf_encodeInt64 258 3 = some (none, [0, 1, 2]) := by decide +kernel
example : pdf_decodeInt [0, 1, 2] = (258, none) := by decide +kernel
example : pdf_decodeInt [0x80, 0, 0, 0, 0, 0, 0, 0] = (0, some "errInvalidXref") := by decide +kernel

end PdfVerif.C02tr
