import PdfVerif.Props.C09sec
import PdfVerif.Spec.SECStdSec
import PdfVerif.Lemmas.Digits
/-!
# C10 — encrypted files follow the standard algorithms and leak no plaintext

`Model/SECSecurity.lean` (the model of `crypto.go`) against `Spec/SECStdSec.lean` (an independent
transcription of ISO 32000-2 §7.6, itself run against real files by the C10 harness).
`model_eq_spec_*`: each derivation of the model equals the transcription — a slip made identically
when writing and reading (49 instead of 50 rounds, a dropped generation byte or "sAlT", a wrong `/P`
byte order) would pass every round trip but break one of these equalities or the correspondence.
Then, about the model alone: `key_input_injective`, `fresh_iv`, `no_plaintext_obj`.
The primitives are parameters; what this file assumes about them is `PrimsOK` (hypothesis, not axiom).
-/
namespace PdfVerif.C10sec
open PdfVerif PdfVerif.SEC

/-- the Spec's primitives when the model's are `P`: the same functions; RC4 of a message is XOR
with the key stream -/
def specOf (P : Prims) : SpecSec.Crypto where
  md5 := P.md5
  sha256 := P.sha256
  sha384 := P.sha384
  sha512 := P.sha512
  rc4 := fun k x => rc4 P k x
  aesBlockEnc := P.aesEnc
  aesBlockDec := P.aesDec

/-- `n := sec.keyBytes` is the Spec's file key length; the model keeps it apart from the length of the key
itself, hence `hl` in `model_eq_spec_objkey` -/
def paramsOf (sec : Sec) : SpecSec.Params :=
  { R := sec.R, n := sec.keyBytes, O := sec.O, U := sec.U, P := sec.P, id0 := sec.ID,
    encryptMetadata := !sec.unencMeta, OE := sec.OE, UE := sec.UE, Perms := sec.Perms }

theorem padString_eq : SpecSec.padString = Gen.sec_passwdPad := by decide

theorem xor_eq : ∀ (a b : Bytes), SpecSec.xor a b = xorBytes a b
  | [], _ => by simp [SpecSec.xor, xorBytes]
  | _ :: _, [] => by simp [SpecSec.xor, xorBytes]
  | x :: xs, y :: ys => by
    have := xor_eq xs ys
    simp only [SpecSec.xor, xorBytes, List.zipWith_cons_cons] at this ⊢
    rw [this]; rfl

theorem xorKey_eq (k : Bytes) (i : Nat) : SpecSec.xorKey k i = xorKey k i := rfl

theorem le32_eq (p : Nat) : SpecSec.leBytes 4 p = le32 p := by
  simp [SpecSec.leBytes, le32, Nat.div_div_eq_div_mul]

theorem refBytes_eq (num gen : Nat) : SpecSec.leBytes 3 num ++ SpecSec.leBytes 2 gen = refBytes num gen := by
  simp [SpecSec.leBytes, refBytes, Nat.div_div_eq_div_mul]

theorem leBytes_eq : ∀ k v, SpecSec.leBytes k v = (Digits.be 256 v k).reverse
  | 0, _ => rfl
  | k + 1, v => by rw [SpecSec.leBytes, Digits.be_succ_low, leBytes_eq k, List.reverse_append]; rfl

theorem leBytes_inj (k a b : Nat) (h : SpecSec.leBytes k a = SpecSec.leBytes k b) : a % 256 ^ k = b % 256 ^ k := by
  rw [leBytes_eq, leBytes_eq, List.reverse_inj] at h
  exact Digits.be_inj h

theorem leBytes_add (m n lo hi : Nat) (h : lo < 256 ^ m) :
    SpecSec.leBytes (m + n) (lo + hi * 256 ^ m) = SpecSec.leBytes m lo ++ SpecSec.leBytes n hi := by
  simp only [leBytes_eq]
  rw [Nat.add_comm m n, Digits.be_add, List.reverse_append, Nat.add_comm lo, Digits.be_add_mul, Nat.add_comm _ lo,
    Nat.add_mul_div_right _ _ (Nat.pow_pos (by decide)), Nat.div_eq_of_lt h, Nat.zero_add]

/-- The five bytes Algorithm 1 appends to the file key determine the
object number below 2^24 and the generation below 2^16: distinct objects get distinct MD5 inputs
(distinct *keys* need MD5 to be collision free on these inputs — not provable). -/
theorem key_input_injective (n g n' g' : Nat) (hn : n < 2 ^ 24) (hg : g < 2 ^ 16)
    (hn' : n' < 2 ^ 24) (hg' : g' < 2 ^ 16) (h : refBytes n g = refBytes n' g') : n = n' ∧ g = g' := by
  rw [← refBytes_eq, ← refBytes_eq] at h
  obtain ⟨h1, h2⟩ := List.append_inj h rfl
  have h1 := leBytes_inj 3 _ _ h1
  have h2 := leBytes_inj 2 _ _ h2
  rw [Nat.mod_eq_of_lt hn, Nat.mod_eq_of_lt hn'] at h1
  rw [Nat.mod_eq_of_lt hg, Nat.mod_eq_of_lt hg'] at h2
  exact ⟨h1, h2⟩

/-- beyond these bounds the bytes wrap: this is why `NewReference` caps object numbers at 2^24 − 1 -/
example : refBytes (2 ^ 24 + 5) 0 = refBytes 5 0 := by decide

/-- The link between the model's `padPasswd`, which `authenticate` and `createStdSec` apply, and the
`SpecSec.padPassword pw` on which the equalities for Algorithms 2–7 below run the model functions.
No theorem composes the two. -/
theorem padPasswd_eq (pw : Bytes) : padPasswd (some pw) = .ok (SpecSec.padPassword pw) := by
  simp only [padPasswd, SpecSec.padPassword, padString_eq, Except.ok.injEq]
  rw [List.take_append]
  by_cases h : pw.length ≤ 32
  · rw [Nat.min_eq_left h, List.take_of_length_le h, List.take_of_length_le (Nat.le_refl _)]
  · have h' : 32 ≤ pw.length := by omega
    rw [Nat.min_eq_right h']
    simp [Nat.sub_eq_zero_of_le h']

theorem iterate_eq (P : Prims) (n : Nat) : ∀ (r : Nat) (h : Bytes),
    md5Iter P n r h = SpecSec.iterate (fun d => P.md5 (d.take n)) r h := by
  intro r
  induction r with
  | zero => intro h; rfl
  | succ r ih => intro h; simp [md5Iter, SpecSec.iterate, ih]

/-- The crypt filter method, as far as `SpecSec.objectKey` and `SpecSec.encryptData` tell methods
apart.  RC4 is always `.v2`, also as the `/CFM /V2` crypt filter of a /V 4 file, which the Spec calls
`.v2cf`: the two have the same branches in both functions; `Method.hasCryptFilters` tells them apart
and occurs in no theorem. -/
def methodOf (R : Nat) (c : Cipher) : SpecSec.Method :=
  if R = 5 ∨ R = 6 then .aesv3 else match c with | .rc4 => .v2 | .aes => .aesv2

/-- `KeyForRef` computes the key of Algorithm 1 (R 2–4: MD5 over the
file key, the low three bytes of the number, the low two of the generation, "sAlT" for AES; the
first n + 5 ≤ 16 bytes) and of Algorithm 1.A (R 5, 6: the file key itself).  `hl` reconciles the
model's `min (keyBytes + 5) 16` with the Spec's `min (fk.length + 5) 16`; no theorem derives it for
the key that `createStdSec` or `authenticate` puts into a handler. -/
theorem model_eq_spec_objkey (P : Prims) (sec : Sec) (cf : CryptFilter) (num gen : Nat) (fk : Bytes)
    (hk : sec.key = some fk) (hl : fk.length = sec.keyBytes) (hR : 2 ≤ sec.R ∧ sec.R ≤ 6) :
    keyForRef P sec cf num gen = .ok (SpecSec.objectKey (specOf P) (methodOf sec.R cf.cipher) fk num gen) := by
  unfold keyForRef
  simp only [hk]
  by_cases h234 : sec.R = 2 ∨ sec.R = 3 ∨ sec.R = 4
  · have h56 : ¬ (sec.R = 5 ∨ sec.R = 6) := by omega
    simp only [h234, ↓reduceIte, methodOf, h56, Except.ok.injEq]
    cases hc : cf.cipher with
    | rc4 => simp [SpecSec.objectKey, specOf, ← refBytes_eq, hl]
    | aes => simp [SpecSec.objectKey, specOf, ← refBytes_eq, hl, saltAES]
  · have h56 : sec.R = 5 ∨ sec.R = 6 := by omega
    simp [h234, h56, methodOf, SpecSec.objectKey]

theorem model_eq_spec_filekey (P : Prims) (sec : Sec) (pw : Bytes) :
    computeFileKey P sec (SpecSec.padPassword pw) = SpecSec.alg2 (specOf P) (paramsOf sec) pw := by
  unfold computeFileKey SpecSec.alg2
  simp only [paramsOf, specOf, le32_eq, iterate_eq]
  have hc : (if (sec.unencMeta && decide (sec.R ≥ 4)) = true then [255, 255, 255, 255] else ([] : Bytes)) =
      (if sec.R ≥ 4 ∧ ¬ (!sec.unencMeta) = true then [0xFF, 0xFF, 0xFF, 0xFF] else []) := by
    cases sec.unencMeta <;> by_cases h : sec.R ≥ 4 <;> simp [h]
  rw [hc]
  split <;> rfl

/-- the 50 re-hash rounds of `computeO`/`authenticateOwner` on the first `keyBytes` bytes are the
Spec's rounds on the whole digest when the key has (at least) the digest's 16 bytes -/
theorem md5Iter_full {P : Prims} (ok : PrimsOK P) (n : Nat) (hn : 16 ≤ n) : ∀ (r : Nat) (h : Bytes),
    h.length = 16 → md5Iter P n r h = SpecSec.iterate P.md5 r h := by
  intro r
  induction r with
  | zero => intro h _; rfl
  | succ r ih =>
    intro h hl
    simp only [md5Iter, SpecSec.iterate]
    rw [List.take_of_length_le (by omega), ih _ (ok.md5_len _)]

theorem model_eq_spec_ownerKey_partial {P : Prims} (ok : PrimsOK P) (sec : Sec) (pw : Bytes)
    (h : sec.R < 3 ∨ 16 ≤ sec.keyBytes) :
    ownerRC4Key P sec (SpecSec.padPassword pw) = SpecSec.ownerKey (specOf P) (paramsOf sec) pw := by
  unfold ownerRC4Key SpecSec.ownerKey
  simp only [paramsOf, specOf]
  by_cases h3 : sec.R ≥ 3
  · have hk : 16 ≤ sec.keyBytes := by omega
    simp only [h3, ↓reduceIte]
    rw [md5Iter_full ok _ hk _ _ (ok.md5_len _)]
  · simp [h3]

/-- `model_eq_spec_ownerKey_partial` without its restriction on revision and key length -/
def model_eq_spec_ownerKey_full : Prop :=
  ∀ (P : Prims), PrimsOK P → ∀ (sec : Sec) (pw : Bytes),
    ownerRC4Key P sec (SpecSec.padPassword pw) = SpecSec.ownerKey (specOf P) (paramsOf sec) pw

/-- The unrestricted statement is false: for R 3 with a 40-bit key `crypto.go` re-hashes 5 bytes, ISO 32000-2 Algorithm 3
step (c) the whole digest (witness: the toy primitives; the harness replays the difference on real
files with real MD5: known finding `C10-owner-key-md5-input-R3-short-key`) -/
theorem model_eq_spec_ownerKey_full_false : ¬ model_eq_spec_ownerKey_full := by
  intro h
  have := h toyPrims toyOK { R := 3, ID := [], O := [], U := [], P := 0, keyBytes := 5 } []
  revert this
  decide +kernel

/-- Algorithm 3, for R 2 and for keys of at least 128 bits (see `model_eq_spec_ownerKey_full_false`
for the rest) -/
theorem model_eq_spec_O_partial {P : Prims} (ok : PrimsOK P) (sec : Sec) (userPw ownerPw : Bytes)
    (h : sec.R < 3 ∨ 16 ≤ sec.keyBytes) :
    computeO P sec (SpecSec.padPassword userPw) (SpecSec.padPassword ownerPw) =
      SpecSec.alg3 (specOf P) (paramsOf sec) ownerPw userPw := by
  unfold computeO SpecSec.alg3
  rw [model_eq_spec_ownerKey_partial ok sec ownerPw h]
  simp only [rc4Chain_up19]
  rfl

theorem model_eq_spec_U (P : Prims) (sec : Sec) (fileKey : Bytes) :
    computeU P sec fileKey =
      if sec.R = 2 then .ok (SpecSec.alg4 (specOf P) fileKey)
      else if sec.R = 3 ∨ sec.R = 4 then
        .ok ((SpecSec.alg5 (specOf P) (paramsOf sec) fileKey).take 16 ++ List.replicate 16 0)
      else .error .other := by
  unfold computeU SpecSec.alg4 SpecSec.alg5
  simp only [rc4Chain_up19, padString_eq]
  rfl

theorem alg5_length {P : Prims} (ok : PrimsOK P) (sec : Sec) (k : Bytes) :
    (SpecSec.alg5 (specOf P) (paramsOf sec) k).length = 16 := by
  unfold SpecSec.alg5
  show (List.foldl (fun acc i => rc4 P (xorKey k (i + 1)) acc) _ (List.range 19)).length = 16
  rw [← rc4Chain_up19, rc4Chain_length ok]
  show (rc4 P k _).length = 16
  rw [rc4_length ok]
  exact ok.md5_len _

theorem model_eq_spec_authUser {P : Prims} (ok : PrimsOK P) (sec : Sec) (pw : Bytes)
    (hR : sec.R = 2 ∨ sec.R = 3 ∨ sec.R = 4) :
    authenticateUser P sec (SpecSec.padPassword pw) =
      match SpecSec.alg6 (specOf P) (paramsOf sec) pw with
      | some k => .ok { sec with key := some k }
      | none => .error .auth := by
  unfold authenticateUser SpecSec.alg6
  simp only [model_eq_spec_filekey, model_eq_spec_U]
  by_cases h2 : sec.R = 2
  · simp only [h2, ↓reduceIte, paramsOf, beq_iff_eq]
    -- both sides test the same equality, the model in an `if`, `alg6` in a `match` on its result
    split <;> simp [*]
  · have h34 : sec.R = 3 ∨ sec.R = 4 := by omega
    have hp : (paramsOf sec).R = sec.R := rfl
    have hu : (paramsOf sec).U = sec.U := rfl
    simp only [h2, ↓reduceIte, h34, hp, hu, beq_iff_eq]
    rw [List.take_append_of_le_length (by simp [alg5_length ok]), List.take_take, Nat.min_self]
    split <;> simp [*]

theorem padPassword_32 (x : Bytes) (h : x.length = 32) : SpecSec.padPassword x = x := List.take_left' h

/-- Algorithm 7, for R 2 and for keys of at least 128 bits (see
`model_eq_spec_ownerKey_full_false` for the rest) -/
theorem model_eq_spec_authOwner_partial {P : Prims} (ok : PrimsOK P) (sec : Sec) (pw : Bytes)
    (hR : sec.R = 2 ∨ sec.R = 3 ∨ sec.R = 4) (hO : sec.O.length = 32)
    (h : sec.R < 3 ∨ 16 ≤ sec.keyBytes) :
    authenticateOwner P sec (SpecSec.padPassword pw) =
      match SpecSec.alg7 (specOf P) (paramsOf sec) pw with
      | some k => .ok { sec with key := some k }
      | none => .error .auth := by
  have hc : copy32 sec.O = sec.O := copy32_of_length _ hO
  -- the purported user password, as the Spec computes it
  let u : Bytes :=
    if sec.R = 2 then rc4 P (SpecSec.ownerKey (specOf P) (paramsOf sec) pw) sec.O
    else (List.range 20).reverse.foldl
      (fun acc i => rc4 P (xorKey (SpecSec.ownerKey (specOf P) (paramsOf sec) pw) i) acc) sec.O
  have hl : u.length = 32 := by
    simp only [u]
    split
    · rw [rc4_length ok, hO]
    · rw [← rc4Chain_foldl, rc4Chain_length ok, hO]
  have hm : authenticateOwner P sec (SpecSec.padPassword pw) = authenticateUser P sec u := by
    unfold authenticateOwner
    simp only [hc, model_eq_spec_ownerKey_partial ok sec pw h, down19, rc4Chain_foldl, u]
    by_cases h2 : sec.R = 2
    · simp [h2]
    · have h34 : sec.R = 3 ∨ sec.R = 4 := by omega
      simp [h2, h34]
  have hs : SpecSec.alg7 (specOf P) (paramsOf sec) pw = SpecSec.alg6 (specOf P) (paramsOf sec) u := rfl
  rw [hm, hs, ← model_eq_spec_authUser ok sec u hR, padPassword_32 u hl]

theorem cbcBlocks_eq (P : Prims) (k : Bytes) : ∀ (n : Nat) (iv d : Bytes),
    (cbcEncBlocks P k n iv d).1 = (SpecSec.cbcEncList (specOf P) k iv (SpecSec.blocks n d)).flatten ∧
    (cbcDecBlocks P k n iv d).1 = (SpecSec.cbcDecList (specOf P) k iv (SpecSec.blocks n d)).flatten := by
  intro n
  induction n with
  | zero => intro iv d; exact ⟨rfl, rfl⟩
  | succ n ih =>
    intro iv d
    simp only [cbcEncBlocks, cbcDecBlocks, SpecSec.blocks, SpecSec.cbcEncList, SpecSec.cbcDecList,
      List.flatten_cons, xor_eq, (ih _ _).1, (ih _ _).2]
    exact ⟨rfl, rfl⟩

theorem model_eq_spec_cbc (P : Prims) (k iv d : Bytes) :
    cbcEncrypt P k iv d = SpecSec.cbcEnc (specOf P) k iv d ∧
    cbcDecrypt P k iv d = SpecSec.cbcDec (specOf P) k iv d :=
  ⟨(cbcBlocks_eq P k _ iv d).1, (cbcBlocks_eq P k _ iv d).2⟩

theorem cbcEncrypt_spec (P : Prims) (k iv d : Bytes) : cbcEncrypt P k iv d = SpecSec.cbcEnc (specOf P) k iv d :=
  (model_eq_spec_cbc P k iv d).1
theorem cbcDecrypt_spec (P : Prims) (k iv d : Bytes) : cbcDecrypt P k iv d = SpecSec.cbcDec (specOf P) k iv d :=
  (model_eq_spec_cbc P k iv d).2

/-- `crypto.go` adds the 16 bytes and reduces mod 3; the standard reads them as a big-endian
number: the same, because 256 ≡ 1 (mod 3) -/
theorem sum_mod3 (bs : Bytes) : sumBytes bs % 3 = SpecSec.beValue bs % 3 := by
  have gen : ∀ (l : Bytes) (acc : Nat),
      (l.foldl (fun a b => a * 256 + b) acc) % 3 = (acc + sumBytes l) % 3 := by
    intro l
    induction l with
    | nil => intro acc; simp [sumBytes]
    | cons b bs ih =>
      intro acc
      simp only [List.foldl_cons, sumBytes]
      rw [ih]
      omega
  unfold SpecSec.beValue
  rw [gen bs 0]
  simp

theorem lastByte_eq (e : Bytes) : SpecSec.lastByte e = (match e.getLast? with | some b => b | none => 0) := by
  unfold SpecSec.lastByte
  rw [List.getLast?_eq_head?_reverse]
  cases e.reverse <;> rfl

theorem round_eq (P : Prims) (pw u K : Bytes) :
    (slowHashRound P pw u K).1 = (SpecSec.hashRound (specOf P) pw u K).1 ∧
    (slowHashRound P pw u K).2 = SpecSec.lastByte (SpecSec.hashRound (specOf P) pw u K).2 := by
  unfold slowHashRound SpecSec.hashRound
  simp only [lastByte_eq, cbcEncrypt_spec, sum_mod3]
  refine ⟨?_, rfl⟩
  generalize SpecSec.beValue _ % 3 = r
  match r with
  | 0 => rfl
  | 1 => rfl
  | n + 2 => simp [specOf]

/-- the first 64 rounds (the condition `i < 64` alone keeps the loop going).  `(K, E)` is the state of the
Spec's loop; `SpecSec.lastByte E` stands where the model has `last`, which starts as `0 = lastByte []` -/
theorem loop_first64 (P : Prims) (pw u : Bytes) : ∀ (n fuel i : Nat) (K E : Bytes), i + n ≤ 64 →
    slowHashLoop P pw u (fuel + n) i K (SpecSec.lastByte E) =
      slowHashLoop P pw u fuel (i + n)
        (SpecSec.iterate (fun ke => SpecSec.hashRound (specOf P) pw u ke.1) n (K, E)).1
        (SpecSec.lastByte (SpecSec.iterate (fun ke => SpecSec.hashRound (specOf P) pw u ke.1) n (K, E)).2)
  | 0, _, _, _, _, _ => rfl
  | n + 1, fuel, i, K, E, hi => by
    have hc : i < 64 ∨ SpecSec.lastByte E + 32 > i := by left; omega
    obtain ⟨h1, h2⟩ := round_eq P pw u K
    show slowHashLoop P pw u ((fuel + n) + 1) i K _ = _
    simp only [slowHashLoop, hc, ↓reduceIte, h1, h2]
    rw [loop_first64 P pw u n fuel (i + 1) _ _ (by omega), Nat.add_right_comm]
    rfl

theorem loop_extra (P : Prims) (pw u : Bytes) : ∀ (fuel i : Nat) (K E : Bytes), 64 ≤ i →
    slowHashLoop P pw u fuel i K (SpecSec.lastByte E) = SpecSec.extraRounds (specOf P) pw u fuel i (K, E) := by
  intro fuel
  induction fuel with
  | zero => intro i K E _; rfl
  | succ f ih =>
    intro i K E hi
    obtain ⟨h1, h2⟩ := round_eq P pw u K
    simp only [slowHashLoop, SpecSec.extraRounds]
    by_cases hc : SpecSec.lastByte E > i - 32
    · have hc' : i < 64 ∨ SpecSec.lastByte E + 32 > i := by right; omega
      simp only [hc, hc', ↓reduceIte, h1, h2]
      exact ih (i + 1) _ _ (by omega)
    · have hc' : ¬ (i < 64 ∨ SpecSec.lastByte E + 32 > i) := by omega
      simp [hc, hc']

/-- Algorithm 2.B: `slowHash`'s single loop with the combined
condition `i < 64 || last > i-32` is 64 rounds followed by the extra rounds of steps (e), (f); the
model's fuel 288 is these 64 rounds and the Spec's 224. -/
theorem model_eq_spec_slowHash (P : Prims) (pw salt u : Bytes) :
    slowHash P pw salt u = SpecSec.alg2B (specOf P) pw salt u := by
  unfold slowHash SpecSec.alg2B
  have h := loop_first64 P pw u 64 224 0 (P.sha256 (pw ++ salt ++ u)) [] (by omega)
  rw [loop_extra P pw u 224 64 _ _ (by omega)] at h
  exact congrArg (List.take 32) h

theorem zeroIV_eq : SpecSec.zeroIV = Gen.sec_zero16 := by decide

theorem model_eq_spec_OOE (P : Prims) (fileKey pw u buf : Bytes) (hb : buf.length = 16) :
    computeOAndOE P fileKey pw u buf = SpecSec.alg9 (specOf P) fileKey pw u (buf.take 8) (buf.drop 8) := by
  unfold computeOAndOE SpecSec.alg9
  simp only [model_eq_spec_slowHash, cbcEncrypt_spec, zeroIV_eq, List.append_assoc,
    List.take_append_drop]

/-- Algorithm 8: `buf` are the 16 random bytes, validation salt first.
`computeUAndUE` is `computeOAndOE`, and Algorithm 8 is Algorithm 9, with nothing appended to the
hash input. -/
theorem model_eq_spec_UUE (P : Prims) (fileKey pw buf : Bytes) (hb : buf.length = 16) :
    computeUAndUE P fileKey pw buf = SpecSec.alg8 (specOf P) fileKey pw (buf.take 8) (buf.drop 8) :=
  model_eq_spec_OOE P fileKey pw [] buf hb

theorem permsPlain_eq (p : Nat) (um : Bool) (rnd : Bytes) (hp : p < 2 ^ 32) (hr : rnd.length = 4) :
    SpecSec.permsPlain p (!um) rnd = permsHead p um ++ rnd := by
  have h8 : SpecSec.leBytes 8 (p + 0xFFFFFFFF * 2 ^ 32) = le32 p ++ [255, 255, 255, 255] := by
    rw [← le32_eq]
    exact leBytes_add 4 4 p 0xFFFFFFFF hp
  unfold SpecSec.permsPlain permsHead
  rw [h8, List.take_of_length_le (by omega)]
  cases um <;> simp

theorem model_eq_spec_Perms (P : Prims) (sec : Sec) (fileKey rnd : Bytes) (hp : sec.P < 2 ^ 32)
    (hr : rnd.length = 4) :
    computePerms P sec fileKey rnd =
      SpecSec.alg10 (specOf P) fileKey sec.P (paramsOf sec).encryptMetadata rnd := by
  unfold computePerms SpecSec.alg10
  simp only [paramsOf, permsPlain_eq _ _ _ hp hr]
  rfl

/-- Algorithm 13.  `checkPerms` tests everything Algorithm 13
tests; it *also* insists on 0xFF in bytes 4–7 (Algorithm 10 writes them, Algorithm 13 does not
look at them), so the implication goes one way only. -/
theorem model_eq_spec_checkPerms (P : Prims) (sec : Sec) (fileKey : Bytes)
    (h : checkPerms P sec fileKey = true) :
    SpecSec.alg13 (specOf P) (paramsOf sec) fileKey = true := by
  unfold checkPerms at h
  unfold SpecSec.alg13
  simp only [beq_iff_eq] at h
  simp only [paramsOf, specOf, le32_eq, decide_eq_true_eq]
  generalize P.aesDec fileKey sec.Perms = d at h ⊢
  have h4 : d.take 4 = le32 sec.P := by
    have := congrArg (List.take 4) h
    simpa [permsHead, le32, List.take_take] using this
  have h9 : (d.drop 9).take 3 = [0x61, 0x64, 0x62] := by
    have := congrArg (fun l => (l.drop 9).take 3) h
    simp only [permsHead, le32] at this
    rw [List.drop_take] at this
    simpa [List.take_take] using this
  have h8 : (d.drop 8).take 1 = [if (!sec.unencMeta) = true then 0x54 else 0x46] := by
    have := congrArg (fun l => (l.drop 8).take 1) h
    simp only [permsHead, le32] at this
    rw [List.drop_take] at this
    cases hu : sec.unencMeta <;> simpa [List.take_take, hu] using this
  exact ⟨h9, h4, h8⟩

/-- `/P` is written as a signed 32-bit integer and read back modulo 2^32 -/
theorem model_eq_spec_P (p : Nat) (i : Int) :
    toI32 p = SpecSec.pAsInteger p ∧ toU32 i = SpecSec.pOfInteger i := by
  constructor
  · unfold toI32 SpecSec.pAsInteger
    by_cases h : p ≥ 2147483648
    · have : ¬ p < 2 ^ 31 := by omega
      simp [h, this]
    · have : p < 2 ^ 31 := by omega
      simp [h, this]
  · rfl

theorem P_roundtrip (p : Nat) (h : p < 2 ^ 32) : toU32 (toI32 p) = p := by
  unfold toU32 toI32
  split <;> omega

theorem saltedAuth_eq (P : Prims) (sec : Sec) (pw X XE u : Bytes) (h5 : ¬ sec.R = 5) :
    C09sec.saltedAuth P sec pw X XE u =
    if SpecSec.alg2B (specOf P) pw ((X.drop 32).take 8) u = X.take 32 then
      let k := SpecSec.cbcDec (specOf P) (SpecSec.alg2B (specOf P) pw ((X.drop 40).take 8) u) SpecSec.zeroIV XE
      if checkPerms P sec k then .ok { sec with key := some k } else .error .auth
    else .error .auth := by
  simp only [C09sec.saltedAuth, hashRev, h5, ↓reduceIte, model_eq_spec_slowHash, cbcDecrypt_spec,
    zeroIV_eq]
  by_cases h : SpecSec.alg2B (specOf P) pw ((X.drop 32).take 8) u = X.take 32 <;> simp [h]

/-- Algorithm 11 with 2.A (d)–(f).  The model accepts a user
password for R 6 exactly when Algorithm 11 yields a key and `checkPerms` accepts it (which
implies Algorithm 13, `model_eq_spec_checkPerms`), with that key. -/
theorem model_eq_spec_authUser6 (P : Prims) (sec : Sec) (pw : Bytes) (hR : sec.R = 6) :
    authenticateUser6 P sec pw =
      match SpecSec.alg11 (specOf P) (paramsOf sec) pw with
      | some k => if checkPerms P sec k then .ok { sec with key := some k } else .error .auth
      | none => .error .auth := by
  rw [C09sec.authenticateUser6_eq, saltedAuth_eq P sec pw _ _ _ (by omega), SpecSec.alg11]
  simp only [paramsOf]
  split <;> simp only [*, ↓reduceIte]

/-- the same for Algorithm 12 with 2.A (b), (c), (e), (f) -/
theorem model_eq_spec_authOwner6 (P : Prims) (sec : Sec) (pw : Bytes) (hR : sec.R = 6) :
    authenticateOwner6 P sec pw =
      match SpecSec.alg12 (specOf P) (paramsOf sec) pw with
      | some k => if checkPerms P sec k then .ok { sec with key := some k } else .error .auth
      | none => .error .auth := by
  rw [C09sec.authenticateOwner6_eq, saltedAuth_eq P sec pw _ _ _ (by omega), SpecSec.alg12]
  simp only [paramsOf]
  split <;> simp only [*, ↓reduceIte]

theorem pad16_eq (x : Bytes) : SpecSec.pad16 x = pkcs7Pad x := rfl

/-- What `EncryptBytes` stores for a string of object `(num, gen)` is
what the standard prescribes (Algorithm 1 / 1.A): RC4 under the object key, or IV ‖ AES-CBC of
the padded string under the object key (the file key for AESV3), with the next 16 random bytes
as IV.  `hl` as in `model_eq_spec_objkey`. -/
theorem model_eq_spec_encrypt (P : Prims) (enc : EncInfo) (cf : CryptFilter) (num gen : Nat)
    (fk buf rng out rng' : Bytes) (hf : enc.strF = some cf)
    (hk : enc.sec.key = some fk) (hl : fk.length = enc.sec.keyBytes) (hR : 2 ≤ enc.sec.R ∧ enc.sec.R ≤ 6)
    (hv3 : (enc.sec.R = 5 ∨ enc.sec.R = 6) → cf.cipher = .aes)
    (h : encryptBytes P enc num gen buf rng = .ok (out, rng')) :
    out = SpecSec.encryptData (specOf P) (methodOf enc.sec.R cf.cipher) fk num gen (rng.take 16) buf := by
  have hobj := model_eq_spec_objkey P enc.sec cf num gen fk hk hl hR
  unfold SpecSec.encryptData
  cases hc : cf.cipher with
  | rc4 =>
    have h56 : ¬ (enc.sec.R = 5 ∨ enc.sec.R = 6) := by intro h'; rw [hv3 h'] at hc; cases hc
    obtain ⟨key, hkey, rfl, -⟩ := (C09sec.encryptBytes_rc4 hf hc).mp h
    rw [hobj] at hkey
    cases hkey
    simp only [methodOf, h56, ↓reduceIte, hc]
    rfl
  | aes =>
    obtain ⟨key, hkey, _, _, rfl, _⟩ := (C09sec.encryptBytes_aes hf hc).mp h
    rw [hobj] at hkey
    cases hkey
    rw [C09sec.encryptAES_eq, cbcEncrypt_spec, pad16_eq, hc]
    by_cases h56 : enc.sec.R = 5 ∨ enc.sec.R = 6
    · simp [methodOf, h56]
    · simp [methodOf, h56]

theorem encCalls_nil_ok {P : Prims} {enc : EncInfo} {rng rng' : Bytes} {outs : List Bytes} :
    encCalls P enc [] rng = .ok (outs, rng') ↔ outs = [] ∧ rng' = rng := by
  simp [encCalls, eq_comm]

theorem encCalls_cons_ok {P : Prims} {enc : EncInfo} {c : EncCall} {cs : List EncCall} {rng rng' : Bytes}
    {outs : List Bytes} :
    encCalls P enc (c :: cs) rng = .ok (outs, rng') ↔
    ∃ o r os, encCall P enc c rng = .ok (o, r) ∧ encCalls P enc cs r = .ok (os, rng') ∧ outs = o :: os := by
  simp only [encCalls]
  constructor
  · intro h
    split at h
    · cases h
    · rename_i o r h1
      split at h
      · cases h
      · rename_i os r' h2
        cases h
        exact ⟨o, r, os, h1, h2, rfl⟩
  · rintro ⟨o, r, os, h1, h2, rfl⟩
    simp [h1, h2]

theorem encCall_local (P : Prims) (enc : EncInfo) (l1 l2 : Nat)
    (hs : enc.strF = some ⟨.aes, l1⟩) (hm : enc.stmF = some ⟨.aes, l2⟩)
    (c : EncCall) (rng o r' : Bytes) (h : encCall P enc c rng = .ok (o, r')) :
    16 ≤ rng.length ∧ r' = rng.drop 16 ∧ o.take 16 = rng.take 16 ∧
    encCall P enc c (rng.take 16) = .ok (o, []) := by
  cases c with
  | str n g b => exact C09sec.encryptBytes_local hs rfl h
  | stm n g cs =>
    simp only [encCall, C09sec.encryptStream_ok] at h ⊢
    exact C09sec.encryptBytes_local hm rfl h

/-- In a document encrypted with AES, the k-th encryption call (string or stream,
in the order of writing) takes the bytes `[16k, 16k+16)` of the random stream as its IV, its
output depends on no other random byte, and after n calls exactly 16·n bytes are used up.  That
IVs never repeat is then a property of the random source alone. -/
theorem fresh_iv (P : Prims) (enc : EncInfo) (l1 l2 : Nat)
    (hs : enc.strF = some ⟨.aes, l1⟩) (hm : enc.stmF = some ⟨.aes, l2⟩) :
    ∀ (calls : List EncCall) (rng : Bytes) (outs : List Bytes) (rng' : Bytes),
      encCalls P enc calls rng = .ok (outs, rng') →
      16 * calls.length ≤ rng.length ∧ rng' = rng.drop (16 * calls.length) ∧ outs.length = calls.length ∧
      ∀ k c, calls[k]? = some c → ∃ o, outs[k]? = some o ∧
        o.take 16 = (rng.drop (16 * k)).take 16 ∧
        encCall P enc c ((rng.drop (16 * k)).take 16) = .ok (o, []) := by
  intro calls
  induction calls with
  | nil =>
    intro rng outs rng' h
    obtain ⟨rfl, rfl⟩ := encCalls_nil_ok.mp h
    simp
  | cons c cs ih =>
    intro rng outs rng' h
    obtain ⟨o, r1, os, h1, h2, rfl⟩ := encCalls_cons_ok.mp h
    obtain ⟨hl, rfl, hiv, hloc⟩ := encCall_local P enc l1 l2 hs hm c rng o r1 h1
    obtain ⟨ihl, ihr, ihn, ihk⟩ := ih _ os rng' h2
    rw [List.length_drop] at ihl
    refine ⟨by simp; omega, ?_, by simp [ihn], ?_⟩
    · rw [ihr, List.drop_drop]; congr 1; simp; omega
    · intro k c' hk
      cases k with
      | zero =>
        simp only [List.getElem?_cons_zero, Option.some.injEq] at hk
        subst hk
        exact ⟨o, rfl, by simpa using hiv, by simpa using hloc⟩
      | succ k =>
        simp only [List.getElem?_cons_succ] at hk
        obtain ⟨o', ho, hiv', hloc'⟩ := ihk k c' hk
        have e : 16 * (k + 1) = 16 + 16 * k := by omega
        refine ⟨o', by simpa using ho, ?_, ?_⟩
        · rw [e, ← List.drop_drop]; exact hiv'
        · rw [e, ← List.drop_drop]; exact hloc'

theorem encCalls_append (P : Prims) (enc : EncInfo) : ∀ (a b : List EncCall) (rng : Bytes) (o1 o2 : List Bytes) (r1 r2 : Bytes),
    encCalls P enc a rng = .ok (o1, r1) → encCalls P enc b r1 = .ok (o2, r2) →
    encCalls P enc (a ++ b) rng = .ok (o1 ++ o2, r2)
  | [], b, rng, o1, o2, r1, r2, h1, h2 => by
    obtain ⟨rfl, rfl⟩ := encCalls_nil_ok.mp h1
    exact h2
  | c :: cs, b, rng, o1, o2, r1, r2, h1, h2 => by
    obtain ⟨o, r, os, hc, hcs, rfl⟩ := encCalls_cons_ok.mp h1
    exact encCalls_cons_ok.mpr ⟨o, r, os ++ o2, hc, encCalls_append P enc cs b r os o2 r1 r2 hcs h2, rfl⟩

/-- formatting on the encrypting writer makes the `EncryptBytes` calls for the string leaves in
order and changes nothing but string contents: for objects, dictionary entries and array elements
at once, by the induction principle of `encObj`/`encKV`/`encList` (one case per branch) -/
theorem enc_spec (P : Prims) (enc : EncInfo) (num gen : Nat) :
    (∀ (o : Obj) (rng : Bytes) (o' : Obj) (rng' : Bytes), encObj P enc num gen o rng = .ok (o', rng') →
      encCalls P enc ((strLeaves o).map (EncCall.str num gen)) rng = .ok (strLeaves o', rng') ∧
      skeleton o' = skeleton o) ∧
    (∀ (kv : List (Bytes × Obj)) (rng : Bytes) (kv' : List (Bytes × Obj)) (rng' : Bytes),
      encKV P enc num gen kv rng = .ok (kv', rng') →
      encCalls P enc ((strLeavesKV kv).map (EncCall.str num gen)) rng = .ok (strLeavesKV kv', rng') ∧
      skeletonKV kv' = skeletonKV kv) ∧
    (∀ (xs : List Obj) (rng : Bytes) (ys : List Obj) (rng' : Bytes),
      encList P enc num gen xs rng = .ok (ys, rng') →
      encCalls P enc ((strLeavesList xs).map (EncCall.str num gen)) rng = .ok (strLeavesList ys, rng') ∧
      skeletonList ys = skeletonList xs) := by
  apply encObj.mutual_induct P enc num gen
  -- `encObj`: a string, an array, a dictionary (each succeeding or failing), anything else (`h1 h2 h3`: it is none
  -- of the three)
  · intro s rng c r he o' rng' h
    simp only [encObj, he] at h
    cases h
    simp [strLeaves, skeleton, encCalls, encCall, he]
  · intro s rng e he o' rng' h; simp [encObj, he] at h
  · intro xs rng ys r he ih o' rng' h
    simp only [encObj, he] at h
    cases h
    simpa [strLeaves, skeleton] using ih ys r he
  · intro xs rng e he _ o' rng' h; simp [encObj, he] at h
  · intro kv rng kv' r he ih o' rng' h
    simp only [encObj, he] at h
    cases h
    simpa [strLeaves, skeleton] using ih kv' r he
  · intro kv rng e he _ o' rng' h; simp [encObj, he] at h
  · intro o rng h1 h2 h3 o' rng' h
    cases o with
    | str s => exact (h1 s rfl).elim
    | arr xs => exact (h2 xs rfl).elim
    | dict kv => exact (h3 kv rfl).elim
    | _ => simp [encObj] at h; simp [← h.1, ← h.2, strLeaves, encCalls]
  -- `encList`: nil; cons with the head failing, the tail failing, both succeeding
  · intro rng ys rng' h
    simp only [encList, Except.ok.injEq, Prod.mk.injEq] at h
    simp [← h.1, ← h.2, strLeavesList, skeletonList, encCalls]
  · intro x xs rng e hx _ ys rng' h; simp [encList, hx] at h
  · intro x xs rng y r hx e hxs _ _ ys rng' h; simp [encList, hx, hxs] at h
  · intro x xs rng y r hx ys' r' hxs ihx ihxs ys rng' h
    simp only [encList, hx, hxs] at h
    cases h
    obtain ⟨a1, a2⟩ := ihx y r hx
    obtain ⟨b1, b2⟩ := ihxs ys' r' hxs
    refine ⟨?_, by simp [skeletonList, a2, b2]⟩
    simp only [strLeavesList, List.map_append]
    exact encCalls_append P enc _ _ _ _ _ _ _ a1 b1
  -- `encKV`: the same four
  · intro rng kv' rng' h
    simp only [encKV, Except.ok.injEq, Prod.mk.injEq] at h
    simp [← h.1, ← h.2, strLeavesKV, skeletonKV, encCalls]
  · intro k v rest rng e hx _ kv' rng' h; simp [encKV, hx] at h
  · intro k v rest rng y r hx e hxs _ _ kv' rng' h; simp [encKV, hx, hxs] at h
  · intro k v rest rng y r hx rest' r' hxs ihx ihxs kv' rng' h
    simp only [encKV, hx, hxs] at h
    cases h
    obtain ⟨a1, a2⟩ := ihx y r hx
    obtain ⟨b1, b2⟩ := ihxs rest' r' hxs
    refine ⟨?_, by simp [skeletonKV, a2, b2]⟩
    simp only [strLeavesKV, List.map_append]
    exact encCalls_append P enc _ _ _ _ _ _ _ a1 b1

theorem encList_spec (P : Prims) (enc : EncInfo) (num gen : Nat) :
    ∀ (xs : List Obj) (rng : Bytes) (ys : List Obj) (rng' : Bytes), encList P enc num gen xs rng = .ok (ys, rng') →
      encCalls P enc ((strLeavesList xs).map (EncCall.str num gen)) rng = .ok (strLeavesList ys, rng') ∧
      skeletonList ys = skeletonList xs :=
  (enc_spec P enc num gen).2.2

theorem encKV_spec (P : Prims) (enc : EncInfo) (num gen : Nat) :
    ∀ (kv : List (Bytes × Obj)) (rng : Bytes) (kv' : List (Bytes × Obj)) (rng' : Bytes),
      encKV P enc num gen kv rng = .ok (kv', rng') →
      encCalls P enc ((strLeavesKV kv).map (EncCall.str num gen)) rng = .ok (strLeavesKV kv', rng') ∧
      skeletonKV kv' = skeletonKV kv :=
  (enc_spec P enc num gen).2.1

theorem encCalls_each (P : Prims) (enc : EncInfo) : ∀ (calls : List EncCall) (rng : Bytes) (outs : List Bytes) (rng' : Bytes),
    encCalls P enc calls rng = .ok (outs, rng') →
    outs.length = calls.length ∧
    ∀ (k : Nat) c, calls[k]? = some c → ∃ o r r', outs[k]? = some o ∧ encCall P enc c r = .ok (o, r')
  | [], rng, outs, rng', h => by
    obtain ⟨rfl, -⟩ := encCalls_nil_ok.mp h
    simp
  | c :: cs, rng, outs, rng', h => by
    obtain ⟨o, r, os, hc, hcs, rfl⟩ := encCalls_cons_ok.mp h
    obtain ⟨hl, hk⟩ := encCalls_each P enc cs r os rng' hcs
    refine ⟨by simp [hl], fun k c' hk' => ?_⟩
    cases k with
    | zero =>
      simp only [List.getElem?_cons_zero, Option.some.injEq] at hk'
      subst hk'
      exact ⟨o, rng, r, rfl, hc⟩
    | succ k => simpa using hk k c' (by simpa using hk')

/-- When an object of `(num, gen)` is formatted on the encrypting writer, whatever the nesting in
arrays and dictionaries, the result has the same shape (everything except string contents is
unchanged), as many string leaves as the object, and the k-th stored string is a ciphertext of the
k-th string: `DecryptBytes` for the same object turns it back.  That what is stored differs from
the string is not claimed (it depends on the primitives). -/
theorem no_plaintext_obj {P : Prims} (ok : PrimsOK P) (enc : EncInfo) (num gen : Nat) (o o' : Obj)
    (rng rng' : Bytes) (h : encObj P enc num gen o rng = .ok (o', rng')) :
    skeleton o' = skeleton o ∧ (strLeaves o').length = (strLeaves o).length ∧
    ∀ (k : Nat) s, (strLeaves o)[k]? = some s →
      ∃ c, (strLeaves o')[k]? = some c ∧ decryptBytes P enc num gen c = .ok s := by
  obtain ⟨h1, h2⟩ := (enc_spec P enc num gen).1 o rng o' rng' h
  obtain ⟨hl, hk⟩ := encCalls_each P enc _ _ _ _ h1
  refine ⟨h2, by simpa using hl, ?_⟩
  intro k s hs
  obtain ⟨c, r, r', hc, he⟩ := hk k (EncCall.str num gen s) (by simp [hs])
  exact ⟨c, hc, C09sec.encrypt_decrypt_bytes ok enc num gen s r c r' he⟩

/-- with AES the k-th string leaf gets the k-th 16-byte slice of the random stream as IV -/
theorem obj_fresh_iv (P : Prims) (enc : EncInfo) (l1 l2 : Nat)
    (hs : enc.strF = some ⟨.aes, l1⟩) (hm : enc.stmF = some ⟨.aes, l2⟩) (num gen : Nat) (o o' : Obj)
    (rng rng' : Bytes) (h : encObj P enc num gen o rng = .ok (o', rng')) :
    rng' = rng.drop (16 * (strLeaves o).length) ∧
    ∀ (k : Nat) c, (strLeaves o')[k]? = some c → k < (strLeaves o).length → c.take 16 = (rng.drop (16 * k)).take 16 := by
  obtain ⟨h1, _⟩ := (enc_spec P enc num gen).1 o rng o' rng' h
  obtain ⟨_, hr, hl, hk⟩ := fresh_iv P enc l1 l2 hs hm _ _ _ _ h1
  refine ⟨by simpa using hr, ?_⟩
  intro k c hc hlt
  have : ((strLeaves o).map (EncCall.str num gen))[k]? = some (EncCall.str num gen ((strLeaves o)[k]'hlt)) := by
    simp [List.getElem?_eq_getElem hlt]
  obtain ⟨o2, ho2, hiv, _⟩ := hk k _ this
  rw [hc] at ho2
  cases ho2
  exact hiv

example : slowHash toyPrims [1] [2] [] = SpecSec.alg2B (specOf toyPrims) [1] [2] [] := model_eq_spec_slowHash _ _ _ _
example : ∃ outs r, encCalls toyPrims C09sec.toyEnc [.str 7 0 [104, 105], .stm 8 1 [[1, 2], [3]]] (List.range 40)
    = .ok (outs, r) := ⟨_, _, rfl⟩

end PdfVerif.C10sec
