import PdfVerif.Model.CCCMap
/-!
# C13 (part 12) — `usecmap`: an embedded parent stream takes precedence over name lookup

`Extract` decides the parent of a CMap stream from the stream dictionary first: a `/UseCMap`
entry that refers to a stream yields the CMap extracted from that stream — whatever its name, in
particular also when it carries the name of a predefined CMap ("H", "Identity-H", …) and when the
PostScript body says `/H usecmap`.  Only a `/UseCMap` *name*, or (without `/UseCMap`) the
operand of `usecmap`, is looked up among the predefined CMaps.  The model `resolveParent`
(Model/CCCMap.lean) is compared with what the real `Extract` did on every usecmap case of the
harness (`CC useres`).
-/
namespace PdfVerif.C13ccl
open PdfVerif PdfVerif.CC

theorem stream_parent_takes_precedence (psName : Option Bool) :
    resolveParent .stream psName = .embedded := rfl

/-- the dictionary entry decides; the `usecmap` operand of the body is only consulted when
`/UseCMap` is absent -/
theorem dict_entry_decides (e : UseCMapEntry) (h : e ≠ .absent) (ps ps' : Option Bool) :
    resolveParent e ps = resolveParent e ps' := by
  cases e with
  | absent => exact absurd rfl h
  | name b => cases b <;> rfl
  | stream => rfl

/-- a predefined CMap is only ever installed through a name -/
theorem predefined_only_by_name (e : UseCMapEntry) (ps : Option Bool)
    (h : resolveParent e ps = .predefined) : e = .name true ∨ (e = .absent ∧ ps = some true) := by
  cases e with
  | absent =>
    cases ps with
    | none => simp [resolveParent] at h
    | some b => cases b <;> simp [resolveParent] at h ⊢
  | name b => cases b <;> simp [resolveParent] at h ⊢
  | stream => simp [resolveParent] at h

end PdfVerif.C13ccl
