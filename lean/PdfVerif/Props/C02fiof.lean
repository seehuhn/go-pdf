import PdfVerif.Props.C02fiod
import PdfVerif.Lemmas.C01DictFacts
/-!
# C02 (work package FIO) — the reader side of stream objects

`stream_dict_rt`: `ReadDict` on the dictionary `startWriting` writes (sorted entries, `/Length`
given as text: a number, a number patched over the twelve reserved blanks, or `r 0 R`), on C01's
dictionary loop with a continuation (`C01L.dictReadsCont_all`); `stream_obj_rt`: `ReadIndirectObject`
on the whole stream object returns exactly the bytes written (`stream_extent`); `sd_dictGet`: a key
is looked up in the dictionary read back as in the entries given, without evaluating the sort.
-/
namespace PdfVerif.C02fiof
open PdfVerif PdfVerif.FIO PdfVerif.C01b PdfVerif.C01L PdfVerif.C01d PdfVerif.C02fioc PdfVerif.C02fiod

/-- `value` is text that the loop of `ReadDict` reads as the value `lv` of a key, up to the next
    key or `>>` -/
structure LenVal (value : Bytes) (lv : Obj) : Prop where
  skip : ∀ x, skipWS (value ++ x) = (value ++ x, false)
  step : ∀ (f d : Nat) (acc : List (Bytes × Obj)) (inp key r1 K' t : Bytes) (c : Nat),
    readName inp = .ok (key, r1) → skipWS r1 = (value ++ K', false) →
    (K' = c :: t ∨ K' = 10 :: c :: t) → (c = 47 ∨ c = 62) →
    key ∉ keysOf acc → acc.length < Gen.scanner_maxDictLen →
    readDictLoop (f + 2) d acc inp = readDictLoop (f + 1) d (acc ++ [(key, lv)]) (c :: t)

theorem close_skip {K' t : Bytes} {c : Nat} (hK : K' = c :: t ∨ K' = 10 :: c :: t) (hc : c = 47 ∨ c = 62) :
    skipWS K' = (c :: t, false) := by
  rcases hK with h | h <;> subst h
  · exact skipWS_tok c t (close_tokStart hc).1
  · rw [skipWS_lf]; exact skipWS_tok c t (close_tokStart hc).1

theorem close_numstop {K' t : Bytes} {c : Nat} (hK : K' = c :: t ∨ K' = 10 :: c :: t) (hc : c = 47 ∨ c = 62) :
    NumStop true K' := by
  rcases hK with h | h <;> subst h
  · rcases hc with h | h <;> subst h <;> exact ⟨by decide, fun _ => by decide⟩
  · exact ⟨by decide, fun _ => by decide⟩

theorem skipWS_digit_head (v x : Bytes) (c : Nat) (t : Bytes) (h : v = c :: t) (hc : isDigit c = true ∨ c = 45) :
    skipWS (v ++ x) = (v ++ x, false) := by
  subst h
  have : tokStart c = true := by
    rcases hc with h | h
    · exact objStart_tokStart (objStart_digit h)
    · subst h; decide
  exact skipWS_tok c _ this

/-- a direct integer (the caller's `/Length`, or the length known when a short stream is closed) -/
theorem lenVal_int (l : Int) (hl : Int64Range l) : LenVal (intDec l) (.int l) := by
  obtain ⟨c, t, hct, hc⟩ := intDec_head l
  refine ⟨fun x => skipWS_digit_head _ x c t hct hc, ?_⟩
  intro f d acc inp key r1 K' t' c' h1 h2 hK hc' hk hlen
  exact dloop_entry (f + 1) d acc inp key r1 (intDec l ++ K') K' t' (.int l) c' h1 h2
    (readObject_int l hl K' (close_numstop hK hc') f d) (close_skip hK hc') hc' hk hlen

/-- the patched placeholder: the length, then what is left of the twelve blanks -/
theorem lenVal_patched (n j : Nat) (hn : (n : Int) ≤ 9223372036854775807) :
    LenVal (natDec n ++ List.replicate j 32) (.int n) := by
  obtain ⟨c, t, hct, hc⟩ := natDec_head n
  refine ⟨fun x => ?_, ?_⟩
  · rw [List.append_assoc]; exact skipWS_digit_head _ _ c t hct (.inl hc)
  · intro f d acc inp key r1 K' t' c' h1 h2 hK hc' hk hlen
    have hi : intDec (n : Int) = natDec n := rfl
    have hstop : NumStop true (List.replicate j 32 ++ K') := by
      cases j with
      | zero => simpa using close_numstop hK hc'
      | succ j => simp [List.replicate_succ]; exact numstop_sp _ _
    have h3 := readObject_int (n : Int) ⟨by omega, hn⟩ (List.replicate j 32 ++ K') hstop f d
    rw [hi, ← List.append_assoc] at h3
    exact dloop_entry (f + 1) d acc inp key r1 _ _ t' (.int n) c' h1 h2 h3
      (by rw [skipWS_blanks]; exact close_skip hK hc') hc' hk hlen

/-- the indirect length `r 0 R` -/
theorem lenVal_ref (r : Nat) (hr : r < Gen.xref_maxXRefSize) :
    LenVal (natDec r ++ [32, 48, 32, 82]) (.ref r 0) := by
  obtain ⟨c, t, hct, hc⟩ := natDec_head r
  have hfit := xref_fits
  refine ⟨fun x => ?_, ?_⟩
  · rw [List.append_assoc]; exact skipWS_digit_head _ _ c t hct (.inl hc)
  · intro f d acc inp key r1 K' t' c' h1 h2 hK hc' hk hlen
    have hi : intDec (r : Int) = natDec r := rfl
    have h3 := readObject_int (r : Int) ⟨by omega, by omega⟩ (32 :: 48 :: 32 :: 82 :: K') (numstop_sp _ _) f d
    rw [hi] at h3
    have h2' : skipWS r1 = (natDec r ++ 32 :: 48 :: 32 :: 82 :: K', false) := by simpa using h2
    have h4 : skipWS (32 :: 48 :: 32 :: 82 :: K') = (48 :: 32 :: 82 :: K', false) := by
      rw [skipWS_sp]; exact skipWS_tok 48 _ (by decide)
    have h5 : readInteger (48 :: 32 :: 82 :: K') = .ok ((0 : Int), 32 :: 82 :: K') := by
      have := readInteger_natDec 0 (by omega) (32 :: 82 :: K') (numstop_sp _ _)
      simpa [natDec, natDecAux] using this
    have h6 : skipWS (32 :: 82 :: K') = (82 :: K', false) := by rw [skipWS_sp]; exact skipWS_R K'
    have hv : validRef (r : Int) (0 : Int) = true := by simp [validRef]; omega
    have := dloop_ref (f + 1) d acc inp key r1 _ _ _ _ _ (c' :: t') (r : Int) (0 : Int) 48 h1 h2' h3 h4
      (by omega) h5 h6 (close_skip hK hc') hk hlen
    rw [this, hv]
    simp

theorem dictGet_perm {l1 l2 : List (Bytes × Obj)} (h : l1.Perm l2) (hn : (keysOf l1).Nodup) (k : Bytes) :
    dictGet l1 k = dictGet l2 k := by
  rw [dictGet, find?_key_perm h hn, dictGet]

theorem dictGet_skip {a b : List (Bytes × Obj)} {e : Bytes × Obj} {k : Bytes} (h : e.1 ≠ k) :
    dictGet (a ++ e :: b) k = dictGet (a ++ b) k := by
  simp [dictGet, List.find?_append, h]

/-- the entries `fmtDictLen` formats: the caller's dictionary without `/Length`, plus `/Length` -/
def sdKv0 (kv : List (Bytes × Obj)) : List (Bytes × Obj) :=
  (kv.filter fun e => e.1 != kLength) ++ [(kLength, Obj.int 0)]
/-- … in the order in which the formatter writes them (sorted by key, in comparison form) -/
def sdAll (kv : List (Bytes × Obj)) : List (Bytes × Obj) := sortedEntries (canonKV (sdKv0 kv))
/-- the entries written before `/Length` … -/
def sdBefore (kv : List (Bytes × Obj)) : List (Bytes × Obj) := (sdAll kv).takeWhile fun e => e.1 != kLength
/-- … and after it -/
def sdAfter (kv : List (Bytes × Obj)) : List (Bytes × Obj) := ((sdAll kv).dropWhile fun e => e.1 != kLength).drop 1

theorem sd_facts (kv : List (Bytes × Obj)) (hg : good (.dict (sdKv0 kv)) = true)
    (hd : depthOf (.dict (sdKv0 kv)) ≤ Gen.scanner_maxScannerNestDepth) :
    ∃ x, sdAll kv = sdBefore kv ++ x :: sdAfter kv ∧ x.1 = kLength ∧
      goodKV (sdBefore kv) = true ∧ goodKV (sdAfter kv) = true ∧
      (keysOf (sdBefore kv) ++ kLength :: keysOf (sdAfter kv)).Nodup ∧
      (sdBefore kv).length + 1 + (sdAfter kv).length ≤ Gen.scanner_maxDictLen ∧
      1 + depthKV (sdBefore kv) ≤ Gen.scanner_maxScannerNestDepth ∧
      1 + depthKV (sdAfter kv) ≤ Gen.scanner_maxScannerNestDepth := by
  have hgc := good_canon _ hg
  have hdc := depth_canon (.dict (sdKv0 kv))
  simp only [Obj.canon] at hgc hdc
  change good (.dict (sdAll kv)) = true at hgc
  change depthOf (.dict (sdAll kv)) ≤ _ at hdc
  obtain ⟨hgkv, hnd, hlen⟩ := good_dict.1 hgc
  simp only [depthOf_dict] at hdc hd
  have hmem : kLength ∈ keysOf (sdAll kv) := by
    have hp := keysOf_perm (sortedEntries_perm (canonKV (sdKv0 kv)))
    rw [canonKV_keys] at hp
    apply hp.mem_iff.mpr
    exact mem_keysOf.2 ⟨(kLength, .int 0), by simp [sdKv0], rfl⟩
  obtain ⟨x, hx, hxk⟩ := split_at_key kLength (sdAll kv) hmem
  change sdAll kv = sdBefore kv ++ x :: sdAfter kv at hx
  rw [hx] at hgkv hnd hlen hdc
  rw [goodKV_iff] at hgkv
  have hdk := (depthKV_le (sdBefore kv ++ x :: sdAfter kv) _).mp (Nat.le_refl _)
  refine ⟨x, hx, hxk, ?_, ?_, by rw [keysOf_append, keysOf_cons, hxk] at hnd; exact hnd, ?_, ?_, ?_⟩
  · rw [goodKV_iff]; intro e he; exact hgkv e (by simp [he])
  · rw [goodKV_iff]; intro e he; exact hgkv e (by simp [he])
  · simp at hlen; omega
  · have : depthKV (sdBefore kv) ≤ depthKV (sdBefore kv ++ x :: sdAfter kv) := by
      rw [depthKV_le]; intro e he; exact hdk e (by simp [he])
    omega
  · have : depthKV (sdAfter kv) ≤ depthKV (sdBefore kv ++ x :: sdAfter kv) := by
      rw [depthKV_le]; intro e he; exact hdk e (by simp [he])
    omega

/-- taking the `/Length` entry out (it sits between `sdBefore` and `sdAfter`) loses no other key, and
    with distinct keys the sorting does not matter -/
theorem sd_dictGet (d : List (Bytes × Obj)) (hn : (keysOf (sdKv0 d)).Nodup) {k : Bytes} (hk : k ≠ kLength) :
    dictGet (rdKV (sdBefore d) ++ rdKV (sdAfter d)) k = dictGet (rdKV (canonKV (sdKv0 d))) k := by
  have hs : dictGet (rdKV (sdBefore d) ++ rdKV (sdAfter d)) k = dictGet (rdKV (sdAll d)) k := by
    rw [← List.takeWhile_append_dropWhile (p := fun e => e.1 != kLength) (l := sdAll d), rdKV_append]
    unfold sdBefore sdAfter
    cases hdw : (sdAll d).dropWhile (fun e => e.1 != kLength) with
    | nil => rfl
    | cons x tl =>
      have hx : x.1 = kLength := by simpa [hdw] using List.head?_dropWhile_not (fun e => e.1 != kLength) (sdAll d)
      obtain ⟨k1, v⟩ := x
      by_cases hv : v = .null
      · subst hv; rfl
      · rw [rdKV_cons_nonnull k1 v tl hv, dictGet_skip (by rw [← hx] at hk; exact fun h => hk h.symm)]; rfl
  have hp := sortedEntries_perm (canonKV (sdKv0 d))
  rw [hs]
  exact dictGet_perm (rdKV_perm hp) ((keysOf_rdKV_sublist _).nodup ((keysOf_perm hp.symm).nodup (by rwa [canonKV_keys]))) k

/-- **stream_dict_rt.**  `ReadDict` on the dictionary `startWriting` writes — the sorted entries
with the `/Length` value given as text (a decimal number, a number over the remains of the twelve
reserved blanks, or `r 0 R`) — returns the entries read back, with `/Length` ↦ the value.
(`fmtDictLen … false`: the strings of an unencrypted file; so in `C02fiog.stream_at_rt`.) -/
theorem stream_dict_rt (opt : FmtOpt) (kv : List (Bytes × Obj)) (value : Bytes) (lv : Obj)
    (hv : LenVal value lv) (hg : good (.dict (sdKv0 kv)) = true)
    (hd : depthOf (.dict (sdKv0 kv)) ≤ Gen.scanner_maxScannerNestDepth)
    (bytes : Bytes) (off : Nat) (hf : fmtDictLen opt false kv value = some (bytes, off))
    (rest : Bytes) (fuel : Nat) (hfuel : fuel ≥ 3 * (bytes ++ rest).length + 2) :
    readDict fuel 0 (bytes ++ rest)
      = .ok (rdKV (sdBefore kv) ++ (kLength, lv) :: rdKV (sdAfter kv), rest) := by
  obtain ⟨x, hx, hxk, hgb, hga, hnd, hlen, hdb, hda⟩ := sd_facts kv hg hd
  unfold fmtDictLen at hf
  simp only [Bool.false_eq_true, ↓reduceIte] at hf
  change (match (if opt.pretty = true then fmtDictPretty opt (sdBefore kv) else fmtDictPlain opt (sdBefore kv)),
      (if opt.pretty = true then fmtDictPretty opt (sdAfter kv) else fmtDictPlain opt (sdAfter kv)) with
    | some b1, some b2 => _ | _, _ => none) = _ at hf
  split at hf
  · rename_i b1 b2 hb1 hb2
    simp only [Option.some.injEq, Prod.mk.injEq] at hf
    obtain ⟨hbytes, _⟩ := hf
    have hB1 := fmtDict_plain_or_pretty hb1
    have hB2 := fmtDict_plain_or_pretty hb2
    -- The text behind `<<`.  `dictReadsCont_all` takes the loop over the entries before `/Length`,
    -- with the `/Length` entry and all behind it (`K1`) as continuation; `hv.step` reads `/Length`
    -- with its value text, whatever form that has; `dictReads_all` reads the entries after it up to `>>`.
    let nl : Bytes := if opt.pretty = true then [10] else []
    let K2 : Bytes := b2 ++ 62 :: 62 :: rest
    let K' : Bytes := nl ++ K2
    let K1 : Bytes := fmtName kLength ++ 32 :: (value ++ K')
    have hbr : bytes ++ rest = 60 :: 60 :: (nl ++ (b1 ++ K1)) := by
      rw [← hbytes]; simp [K1, K', K2, nl]
    obtain ⟨c2, t2, hct2, hc2⟩ := dictBody_head opt (sdAfter kv) rest b2 hB2
    have hK' : K' = c2 :: t2 ∨ K' = 10 :: c2 :: t2 := by
      show nl ++ K2 = _ ∨ nl ++ K2 = _
      cases hp : opt.pretty <;> simp [nl, hp, K2, hct2]
    have hK1 : K1 = 47 :: (fmtNameBody kLength ++ 32 :: (value ++ K')) := rfl
    obtain ⟨c1, t1, hct1, hc1⟩ : ∃ c t, b1 ++ K1 = c :: t ∧ (c = 47 ∨ c = 62) :=
      dictBody_cont opt (sdBefore kv) 47 _ (.inl rfl) b1 hB1
    have hsk : skipWS (nl ++ (b1 ++ K1)) = (b1 ++ K1, false) := by
      have h0 : skipWS (b1 ++ K1) = (b1 ++ K1, false) := by
        rw [hct1]; exact skipWS_tok c1 t1 (close_tokStart hc1).1
      cases hp : opt.pretty <;> simp [nl, hp, skipWS_lf, h0]
    obtain ⟨f, rfl⟩ : ∃ f, fuel = f + 1 := ⟨fuel - 1, by omega⟩
    have hlenbr : (bytes ++ rest).length = 2 + nl.length + (b1 ++ K1).length := by
      rw [hbr]; simp; omega
    rw [hbr, readDict]
    have hdd : ¬ (0 ≥ Gen.scanner_maxScannerNestDepth) := by decide
    simp only [hdd, if_false, hsk]
    have hnd' := List.nodup_append.mp hnd
    have hLb : kLength ∉ keysOf (sdBefore kv) := fun h => hnd'.2.2 _ h _ (by simp) rfl
    have hndA := (List.nodup_cons.mp hnd'.2.1)
    have hloop := dictReadsCont_all opt (sdBefore kv) hgb 1 (by omega) [] K1 47 _ hK1 (.inl rfl)
      (by simp [keysOf_nil]) hnd'.1 (by simp; omega) b1 hB1
      (.ok (rdKV (sdBefore kv) ++ (kLength, lv) :: rdKV (sdAfter kv), rest)) ?_ f (by omega)
    · rw [hloop]; rfl
    · intro fuel' hf'
      have hK1len : K1.length ≥ K2.length + 3 := by
        have h6 : 6 ≤ (fmtNameBody kLength).length := C01.fmtNameBody_length_ge kLength
        simp [K1, K', fmtName]; omega
      obtain ⟨g, rfl⟩ : ∃ g, fuel' = g + 2 := ⟨fuel' - 2, by omega⟩
      have hname : readName K1 = .ok (kLength, 32 :: (value ++ K')) :=
        C01.name_rt kLength (by intro b hb; simp [kLength] at hb; omega) (by simp [kLength, Gen.scanner_maxNameBytes])
          _ ⟨space_facts.2.2.1, by decide⟩
      have hr1 : skipWS (32 :: (value ++ K')) = (value ++ K', false) := by
        rw [skipWS_sp]; exact hv.skip K'
      have hkacc : kLength ∉ keysOf ([] ++ rdKV (sdBefore kv)) := by
        simp only [List.nil_append]
        exact fun h => hLb ((keysOf_rdKV_sublist _).subset h)
      have hacclen : ([] ++ rdKV (sdBefore kv)).length < Gen.scanner_maxDictLen := by
        have := rdKV_length_le (sdBefore kv); simp; omega
      rw [hv.step g 1 _ K1 kLength _ K' t2 c2 hname hr1 hK' hc2 hkacc hacclen]
      rw [← hct2]
      have hA := dictReads_all opt (sdAfter kv) hga 1 (by omega) ([] ++ rdKV (sdBefore kv) ++ [(kLength, lv)]) rest
        ?_ hndA.2 ?_ b2 hB2 (g + 1) (by show g + 1 ≥ 3 * K2.length + 1; omega)
      · rw [hA]; simp
      · intro e he hmem
        simp only [List.nil_append, keysOf, List.map_append, List.map_cons, List.map_nil, List.mem_append,
          List.mem_singleton] at hmem
        have hek : e.1 ∈ keysOf (sdAfter kv) := List.mem_map.mpr ⟨e, he, rfl⟩
        rcases hmem with h | h
        · exact hnd'.2.2 _ ((keysOf_rdKV_sublist _).subset h) _ (by simp [hek]) rfl
        · exact hndA.1 (h ▸ hek)
      · have := rdKV_length_le (sdBefore kv); simp; omega
  · simp at hf

theorem skipWS_kStream (x : Bytes) : skipWS (kStream ++ x) = (kw_stream ++ (10 :: x), false) := by
  have h : kStream ++ x = 10 :: 115 :: ([116, 114, 101, 97, 109] ++ (10 :: x)) := by simp [kStream]
  rw [h, skipWS_lf]
  have h115 : isSpace 115 = false := by decide +kernel
  exact skipWS_cons_stop h115 (by omega) _

theorem stream_offset (A X : Bytes) :
    (A ++ (kStream ++ X)).length - (kw_stream ++ (10 :: X)).length = A.length + 1 := by
  simp [kStream, kw_stream]; omega

theorem readTopObject_stream (dt body tail : Bytes) (rdict : List (Bytes × Obj)) (lv : Obj)
    (hrd : ∀ rest' fuel, fuel ≥ 3 * (60 :: 60 :: dt ++ rest').length + 2 →
      readDict fuel 0 (60 :: 60 :: dt ++ rest') = .ok (rdict, rest'))
    (off : Nat) (getInt : Obj → Except Err Int)
    (hlv : dictGet rdict kLen = some lv) (hgi : getInt lv = .ok (body.length : Int))
    (hsz : off + (60 :: 60 :: dt).length + 8 + body.length < 9223372036854775808) :  -- 8 = |"\nstream\n"|
    readTopObject (60 :: 60 :: dt ++ (kStream ++ (body ++ [10] ++ kwEndstream ++ tail))) off getInt
      = .ok (.stream (rdict.filter fun e => e.1 != kLen) (off + (60 :: 60 :: dt).length + 8) body.length, tail) := by
  have hd := hrd (kStream ++ (body ++ [10] ++ kwEndstream ++ tail))
    (scanFuel (60 :: 60 :: dt ++ (kStream ++ (body ++ [10] ++ kwEndstream ++ tail)))) (by simp [scanFuel])
  have hoffs := stream_offset (60 :: 60 :: dt) (body ++ [10] ++ kwEndstream ++ tail)
  have hext := stream_extent body tail (off + ((60 :: 60 :: dt).length + 1)) (by omega)
  rw [show kw_stream ++ [10] ++ body ++ [10] ++ kwEndstream ++ tail
    = kw_stream ++ (10 :: (body ++ [10] ++ kwEndstream ++ tail)) by simp] at hext
  have hsw : startsWith (kw_stream ++ (10 :: (body ++ [10] ++ kwEndstream ++ tail))) kw_stream = true := by
    simp [startsWith, isPrefixOf_self_append]
  have hnn : ((body.length : Int) ≥ 0) := Int.natCast_nonneg _
  unfold readTopObject
  simp only [List.cons_append] at hd hoffs ⊢
  rw [hd]
  simp only [skipWS_kStream, hsw, ↓reduceIte, hlv, hgi, hnn, Int.toNat_natCast, hoffs, hext]
  rfl

/-- **stream_obj_rt.**  `N G obj`, a dictionary that `ReadDict` reads as `rdict` with `/Length`
resolving to the number of bytes written, `stream`, the bytes, `endstream endobj`: the reader
returns a stream object whose extent is exactly the bytes written. -/
theorem stream_obj_rt (num gen : Nat) (hnum : num < Gen.fio_maxXRefSize) (hgen : gen ≤ Gen.fio_maxGeneration)
    (dictBytes body rest : Bytes) (rdict : List (Bytes × Obj)) (lv : Obj) (dt : Bytes) (hdt : dictBytes = 60 :: 60 :: dt)
    (hrd : ∀ rest' fuel, fuel ≥ 3 * (dictBytes ++ rest').length + 2 →
      readDict fuel 0 (dictBytes ++ rest') = .ok (rdict, rest'))
    (off : Nat) (getInt : Obj → Except Err Int)
    (hlv : dictGet rdict kLen = some lv) (hgi : getInt lv = .ok (body.length : Int))
    (hsz : off + (objHeader num gen ++ dictBytes ++ kStream ++ body).length < 9223372036854775808) :
    readIndirectObject (objHeader num gen ++ dictBytes ++ kStream ++ body ++ kEndstream ++ rest) off getInt
      = .ok (.stream (rdict.filter fun e => e.1 != kLen)
          (off + (objHeader num gen).length + dictBytes.length + 8) body.length, num, gen, 10 :: rest) := by
  subst hdt
  have htop := readTopObject_stream dt body (kEndobj ++ rest) rdict lv hrd (off + (objHeader num gen).length) getInt
    hlv hgi (by simp only [List.length_append, kStream, List.length_cons, List.length_nil] at hsz ⊢; omega)
  have := readIndirectObject_body num gen hnum hgen _ (skipWS_tok 60 _ (by decide)) off getInt _ (kEndobj ++ rest)
    (101 :: ([110, 100, 111, 98, 106, 10] ++ rest)) htop (skipWS_endobj rest) (by simp [kwEndobj, isPrefixOf])
  rw [show objHeader num gen ++ (60 :: 60 :: dt) ++ kStream ++ body ++ kEndstream ++ rest
      = objHeader num gen ++ (60 :: 60 :: dt ++ (kStream ++ (body ++ [10] ++ kwEndstream ++ (kEndobj ++ rest)))) by
    simp [C02fioc.kEndstream_eq]]
  simpa using this

end PdfVerif.C02fiof
