import PdfVerif.Props.C16trsc
import PdfVerif.Props.C16trsd
/-!
# C16 — the writer's heap operations keep the futureInt invariant

Towards `PageNumbersStatement` for nested ranges: besides `Update` (`cascade`, C16trsd) the
writers touch the heap of futureInts in three ways — a user callback is handed to a futureInt
(`WhenAvailable`), a range is closed and its page count is delivered (`numPagesCb`), and a new
futureInt is derived from an existing one (`Inc`, `NewRange`).  This file proves that all three
keep `HeapInv`, that a user callback is logged only with the promised value, and what the new
futureInt is promised.
-/
namespace PdfVerif.C16trsf
open PdfVerif PdfVerif.TRSP PdfVerif.C16trs PdfVerif.C16trsc PdfVerif.C16trsd

variable {ρ : Rho}

theorem resolved_set_same {futs : List Fut} {g : Nat} {f f' : Fut} (hf : futs[g]? = some f)
    (hnm : f'.numMissing = f.numMissing) (p : Nat) : resolved (futs.set g f') p = resolved futs p := by
  by_cases hp : p = g
  · subst hp
    rw [resolved_set_self (lt_of_getElem? hf)]
    simp [resolved, hf, hnm]
  · exact resolved_set_ne hp

theorem heapInv_add_user {futs : List Fut} {gh : List GFut} {W : Work} {fired : List (Nat × Int)} {ρ : Rho}
    (hinv : HeapInv futs gh W fired ρ) {g : Nat} {f : Fut} (hf : futs[g]? = some f)
    (hnm : f.numMissing ≠ 0) (k : Nat) :
    HeapInv (futs.set g { f with cb := f.cb ++ [.user k] }) gh W fired ρ := by
  have hglt := lt_of_getElem? hf
  have hres : ∀ p, resolved (futs.set g { f with cb := f.cb ++ [.user k] }) p = resolved futs p :=
    resolved_set_same hf rfl
  have hget : ∀ (x : Nat) (fx : Fut), (futs.set g { f with cb := f.cb ++ [.user k] })[x]? = some fx →
      ∃ fo : Fut, futs[x]? = some fo ∧ fx.val = fo.val ∧ fx.numMissing = fo.numMissing ∧
        (fx.cb = fo.cb ∨ (x = g ∧ fo = f ∧ fx.cb = fo.cb ++ [.user k])) := by
    intro x fx hx
    by_cases hxg : x = g
    · subst hxg
      rw [List.getElem?_set_self hglt] at hx
      cases hx
      exact ⟨f, hf, rfl, rfl, Or.inr ⟨rfl, rfl, rfl⟩⟩
    · rw [List.getElem?_set_ne (Ne.symm hxg)] at hx
      exact ⟨fx, hx, rfl, rfl, Or.inl rfl⟩
  have hback := set_cb_mono (f' := { f with cb := f.cb ++ [.user k] }) hf fun _ hc => List.mem_append_left _ hc
  refine ⟨by simpa using hinv.len, ?_, ?_, hinv.wlr, hinv.wnodup⟩
  · intro x fx γx hx hγx
    obtain ⟨fo, hfo, hv, hn, hcb⟩ := hget x fx hx
    have ok := hinv.ok x fo γx hfo hγx
    have hcbmem : ∀ g', FCb.update g' ∈ fx.cb → FCb.update g' ∈ fo.cb := by
      intro g' hm
      rcases hcb with h | ⟨_, _, h⟩
      · rw [h] at hm; exact hm
      · rw [h] at hm
        rcases List.mem_append.mp hm with h' | h'
        · exact h'
        · simp at h'
    refine ⟨?_, ?_, by rw [hv]; exact ok.nonneg, ?_, ?_, ?_, ?_⟩
    · rw [predPend_congr rfl (fun p _ => hres p) (fun _ _ => Iff.rfl), hv]; exact ok.eq
    · rw [predPend_congr rfl (fun p _ => hres p) (fun _ _ => Iff.rfl), hn]; exact ok.cnt
    · intro h0
      rcases hcb with h | ⟨rfl, rfl, _⟩
      · rw [h]; exact ok.res (by rw [← hn]; exact h0)
      · rw [hn] at h0; exact absurd h0 hnm
    · exact ok.pred_mono (fun p _ => hres p) hback
    · intro g' hm
      exact ok.cbs g' (hcbmem g' hm)
    · rcases hcb with h | ⟨_, _, h⟩
      · rw [h]; exact ok.nodup
      · rw [h, List.filter_append]
        simpa using ok.nodup
  · intro x p hm
    obtain ⟨h1, h2⟩ := hinv.wlp x p hm
    exact ⟨by rw [hres]; exact h1, h2⟩

theorem whenAvailable_user {futs : List Fut} {gh : List GFut} {W : Work} {fired : List (Nat × Int)} {ρ : Rho}
    (hinv : HeapInv futs gh W fired ρ) {f : Nat} {x : Fut} {γ : GFut}
    (hf : futs[f]? = some x) (hγ : gh[f]? = some γ) (k : Nat) (log : List (Nat × Int)) :
    (x.numMissing = 0 ∧
      whenAvailable f (.user k) { futs := futs, log := log } = .ok { futs := futs, log := log ++ [(k, γ.m ρ)] }) ∨
    (x.numMissing ≠ 0 ∧
      whenAvailable f (.user k) { futs := futs, log := log } =
        .ok { futs := futs.set f { x with cb := x.cb ++ [.user k] }, log := log } ∧
      HeapInv (futs.set f { x with cb := x.cb ++ [.user k] }) gh W fired ρ) := by
  by_cases h0 : x.numMissing = 0
  · left
    refine ⟨h0, ?_⟩
    simp only [whenAvailable, hf, h0, if_true, callCb]
    have := resolved_val hinv hf (by simp [resolved, hf, h0])
    simp only [predVal, hγ] at this
    rw [this]
  · right
    refine ⟨h0, ?_, heapInv_add_user hinv hf h0 k⟩
    simp only [whenAvailable, hf, h0, if_false]

/-- the pending callbacks of a writer handed to its futureInt (`AppendPage*`): all are called at
    once with the promised value, or all wait at the futureInt, in order -/
theorem whenAvailableAll_users {gh : List GFut} {W : Work} {fired : List (Nat × Int)} {ρ : Rho} {f : Nat} {γ : GFut}
    (hγ : gh[f]? = some γ) : ∀ (ks : List Nat) (futs : List Fut) (x : Fut) (log : List (Nat × Int)),
    HeapInv futs gh W fired ρ → futs[f]? = some x →
    ∃ futs' L, whenAvailableAll f (ks.map FCb.user) { futs := futs, log := log } = .ok { futs := futs', log := log ++ L } ∧
      HeapInv futs' gh W fired ρ ∧
      ((x.numMissing = 0 ∧ futs' = futs ∧ L = ks.map fun k => (k, γ.m ρ)) ∨
       (x.numMissing ≠ 0 ∧ L = [] ∧ futs' = futs.set f { x with cb := x.cb ++ ks.map FCb.user }))
  | [], futs, x, log, hinv, hf => by
    refine ⟨futs, [], by simp [whenAvailableAll], hinv, ?_⟩
    by_cases h0 : x.numMissing = 0
    · exact Or.inl ⟨h0, rfl, rfl⟩
    · refine Or.inr ⟨h0, rfl, ?_⟩
      simp only [List.map_nil, List.append_nil]
      obtain ⟨hi, rfl⟩ := List.getElem?_eq_some_iff.mp hf
      exact (List.set_getElem_self hi).symm
  | k :: ks, futs, x, log, hinv, hf => by
    rcases whenAvailable_user hinv hf hγ k log with ⟨h0, hw⟩ | ⟨h0, hw, hinv'⟩
    · obtain ⟨futs', L, hr, hi, hcase⟩ := whenAvailableAll_users hγ ks futs x (log ++ [(k, γ.m ρ)]) hinv hf
      refine ⟨futs', (k, γ.m ρ) :: L, ?_, hi, ?_⟩
      · simp only [List.map_cons, whenAvailableAll, hw, hr]
        simp
      · rcases hcase with ⟨_, h2, h3⟩ | ⟨h1, _, _⟩
        · exact Or.inl ⟨h0, h2, by simp [h3]⟩
        · exact absurd h0 h1
    · have hf' : (futs.set f { x with cb := x.cb ++ [.user k] })[f]? = some { x with cb := x.cb ++ [.user k] } :=
        List.getElem?_set_self (lt_of_getElem? hf)
      obtain ⟨futs', L, hr, hi, hcase⟩ := whenAvailableAll_users hγ ks _ _ log hinv' hf'
      refine ⟨futs', L, ?_, hi, ?_⟩
      · simp only [List.map_cons, whenAvailableAll, hw, hr]
      · rcases hcase with ⟨h1, _, _⟩ | ⟨_, h2, h3⟩
        · exact absurd h1 h0
        · refine Or.inr ⟨h0, h2, ?_⟩
          rw [h3]
          simp [List.set_set, List.append_assoc]

/-- the moment `Close` of a range calls `numPagesCb`: its delivery is the only work to do -/
theorem heapInv_fire {futs : List Fut} {gh : List GFut} {fired : List (Nat × Int)} {ρ : Rho}
    (hinv : HeapInv futs gh [] fired ρ) {g : Nat} {γ : GFut} (hγ : gh[g]? = some γ)
    (hr : γ.isRange = true) (hnf : (fired.map (·.1)).contains g = false) (n : Int) :
    HeapInv futs gh [(g, none)] ((g, n) :: fired) ρ := by
  have hpp : ∀ x γx, predPend futs [(g, none)] x γx = predPend futs [] x γx := fun x γx =>
    predPend_congr rfl (fun _ _ => rfl) (fun _ _ => by simp)
  have hrp : ∀ x γx, rangePend ((g, n) :: fired) [(g, none)] x γx = rangePend fired [] x γx := by
    intro x γx
    by_cases hxg : x = g
    · subst hxg
      rw [Bool.eq_iff_iff, rangePend_iff, rangePend_iff, hnf]; simp
    · exact rangePend_congr rfl (by simp [hxg]) (by simp [hxg])
  refine ⟨hinv.len, fun x fx γx hx hγx => ?_, by simp, ?_, by simp⟩
  · have ok := hinv.ok x fx γx hx hγx
    exact ⟨by rw [hpp, hrp]; exact ok.eq, by rw [hpp, hrp]; exact ok.cnt, ok.nonneg, ok.res, ok.pred, ok.cbs, ok.nodup⟩
  · intro x hm
    simp only [List.mem_singleton, Prod.mk.injEq, and_true] at hm
    subst hm
    exact ⟨by simp, γ, hγ, hr⟩

/-- **`Close` of a range tells its futureInt the page count** (`numPagesCb = [Update]`): the
    delivery and all deliveries it causes run to completion within the model's bound, the
    invariant holds afterwards with the range recorded as closed, and every user callback that
    fires is logged with the value promised for the futureInt it waited at -/
theorem fire_range {futs : List Fut} {gh : List GFut} {fired : List (Nat × Int)} {ρ : Rho}
    (hinv : HeapInv futs gh [] fired ρ) {g : Nat} {f : Fut} {γ : GFut} (hf : futs[g]? = some f)
    (hγ : gh[g]? = some γ) (hr : γ.isRange = true) (hnf : (fired.map (·.1)).contains g = false)
    (n : Int) (hn : 0 ≤ n) (hc : Cons ((g, n) :: fired) ρ) (log : List (Nat × Int)) :
    ∃ futs' L, callAll [.update g] n { futs := futs, log := log } = .ok { futs := futs', log := log ++ L } ∧
      HeapInv futs' gh [] ((g, n) :: fired) ρ ∧ Delivered gh ρ futs futs' g [] 0 L := by
  have hinv' := heapInv_fire hinv hγ hr hnf n
  have hsrc : SrcVal futs ((g, n) :: fired) g none n := by
    intro e he hg
    simp only [List.mem_cons] at he
    rcases he with rfl | he
    · rfl
    · exfalso
      have : (fired.map (·.1)).contains g = true := by
        simp only [List.contains_iff_mem, List.mem_map]
        exact ⟨e, he, hg⟩
      rw [hnf] at this; cases this
  obtain ⟨futs', L, hu, hi, hd⟩ := cascade gh ((g, n) :: fired) ρ (futs.length + 1) g none [] futs log f γ n
    hinv' hc hf hγ hsrc hn (by omega)
  refine ⟨futs', L, ?_, hi, hd⟩
  simp only [callAll, callCb]
  rw [hu]

/-- ghost data of the futureInt derived from `f`: it will hold `v0` plus the value of `f`, plus
    the page count of its own range if it waits for one -/
def derivedG (γf : GFut) (f res : Nat) (v0 : Int) (b : Bool) : GFut :=
  { m := fun ρ => v0 + γf.m ρ + (if b then ρ res else 0), pred := some f, isRange := b }

/-- the futureInt as allocated: it waits for `f`, and for its range if `b` -/
def derivedF (v0 : Int) (b : Bool) : Fut := { val := v0, numMissing := 1 + b2i b, cb := [] }

/-- `futsE`: the heap after a futureInt `res` derived from `f` was allocated.  `e1`, `e3`: it stands at
    the end; `e2`: an old futureInt is unchanged but for `Update res` appended to the waiters of an
    unknown `f`; `hW`, `hWnd`: `W'` holds at most the delivery `f → res`; `e5`, `e7`: `res` waits at `f`,
    or its delivery is in `W'`; `hb`: the id of a new range was never fired -/
theorem heapInv_extend {futs futsE : List Fut} {gh : List GFut} {fired : List (Nat × Int)} {ρ : Rho}
    (hinv : HeapInv futs gh [] fired ρ) {f : Nat} {γf : GFut} (hγ : gh[f]? = some γf)
    (hflt : f < futs.length) (v0 : Int) (hv0 : 0 ≤ v0) (b : Bool)
    (hb : b = true → (fired.map (·.1)).contains futs.length = false) (W' : Work)
    (e1 : futsE.length = futs.length + 1)
    (e2 : ∀ (p : Nat) (fe : Fut), p < futs.length → futsE[p]? = some fe →
      ∃ fo : Fut, futs[p]? = some fo ∧ fe.val = fo.val ∧ fe.numMissing = fo.numMissing ∧
        (fe.cb = fo.cb ∨ (p = f ∧ fo.numMissing ≠ 0 ∧ fe.cb = fo.cb ++ [.update futs.length])))
    (e3 : futsE[futs.length]? = some (derivedF v0 b))
    (hW : ∀ y s, (y, s) ∈ W' → y = futs.length ∧ s = some f ∧ resolved futsE f = true)
    (hWnd : W'.Nodup)
    (e5 : resolved futsE f = false → ∃ fp : Fut, futsE[f]? = some fp ∧ FCb.update futs.length ∈ fp.cb)
    (e7 : resolved futsE f = false ∨ (futs.length, some f) ∈ W') :
    HeapInv futsE (gh ++ [derivedG γf f futs.length v0 b]) W' fired ρ := by
  have hlen := hinv.len
  have hres : ∀ p, p < futs.length → resolved futsE p = resolved futs p := by
    intro p hp
    have hpe : p < futsE.length := by omega
    obtain ⟨fo, hfo, _, hn, _⟩ := e2 p _ hp (List.getElem?_eq_getElem hpe)
    simp [resolved, List.getElem?_eq_getElem hpe, hfo, hn]
  have hback : ∀ (p : Nat) (fo : Fut), futs[p]? = some fo → ∃ fe : Fut, futsE[p]? = some fe ∧ ∀ c, c ∈ fo.cb → c ∈ fe.cb := by
    intro p fo hp
    have hpl := lt_of_getElem? hp
    have hpe : p < futsE.length := by omega
    obtain ⟨fo', hfo', _, _, hcb⟩ := e2 p _ hpl (List.getElem?_eq_getElem hpe)
    rw [hp] at hfo'; cases hfo'
    refine ⟨_, List.getElem?_eq_getElem hpe, fun c hc => ?_⟩
    rcases hcb with h | ⟨_, _, h⟩
    · rw [h]; exact hc
    · rw [h]; exact List.mem_append_left _ hc
  have hghold : ∀ p, p < futs.length → (gh ++ [derivedG γf f futs.length v0 b])[p]? = gh[p]? := by
    intro p hp
    exact List.getElem?_append_left (by omega)
  have hghnew : (gh ++ [derivedG γf f futs.length v0 b])[futs.length]? = some (derivedG γf f futs.length v0 b) := by
    rw [← hlen]; simp
  refine ⟨by simp [e1, hlen], ?_, ?_, ?_, hWnd⟩
  · intro x fx γx hx hγx
    have hxe : x < futs.length + 1 := by rw [← e1]; exact lt_of_getElem? hx
    by_cases hxn : x = futs.length
    · subst hxn
      rw [e3] at hx; cases hx
      rw [hghnew] at hγx; cases hγx
      have hpp : predPend futsE W' futs.length (derivedG γf f futs.length v0 b) = true := by
        rw [predPend_iff]
        exact ⟨f, rfl, e7⟩
      have hrp : rangePend fired W' futs.length (derivedG γf f futs.length v0 b) = b := by
        unfold rangePend
        cases b with
        | false => simp [derivedG]
        | true =>
          show (true && (!(fired.map (·.1)).contains futs.length || W'.contains (futs.length, none))) = true
          rw [hb rfl]; simp
      have hpv : predVal (gh ++ [derivedG γf f futs.length v0 b]) ρ (some f) = γf.m ρ := by
        simp only [predVal, hghold f hflt, hγ]
      refine ⟨?_, ?_, hv0, fun _ => rfl, ?_, ?_, by simp [derivedF]⟩
      · rw [hpp, hrp]
        show v0 + γf.m ρ + (if b = true then ρ futs.length else 0) =
          v0 + (if true = true then predVal (gh ++ [derivedG γf f futs.length v0 b]) ρ (some f) else 0) +
            (if b = true then ρ futs.length else 0)
        rw [hpv]; simp
      · rw [hpp, hrp]; simp [derivedF, b2i_true]
      · intro p hp
        simp only [derivedG, Option.some.injEq] at hp
        subst hp
        exact ⟨hflt, e5⟩
      · intro g' hm
        simp [derivedF] at hm
    · have hxl : x < futs.length := by omega
      obtain ⟨fo, hfo, hv, hn, hcb⟩ := e2 x fx hxl hx
      rw [hghold x hxl] at hγx
      have ok := hinv.ok x fo γx hfo hγx
      -- no delivery to an old futureInt is in progress
      have hnW : ∀ s, (x, s) ∈ W' ↔ (x, s) ∈ ([] : Work) := fun s =>
        ⟨fun hm => absurd (hW _ _ hm).1 hxn, fun hm => by cases hm⟩
      have hpp : predPend futsE W' x γx = predPend futs [] x γx :=
        predPend_congr rfl (fun p hp => hres p (Nat.lt_trans (ok.pred p hp).1 hxl)) (fun _ _ => hnW _)
      have hrp : rangePend fired W' x γx = rangePend fired [] x γx := rangePend_congr rfl rfl (hnW _)
      have hpv : predVal (gh ++ [derivedG γf f futs.length v0 b]) ρ γx.pred = predVal gh ρ γx.pred := by
        cases hp : γx.pred with
        | none => rfl
        | some p =>
          have hpx := (ok.pred p hp).1
          simp only [predVal, hghold p (by omega)]
      refine ⟨?_, ?_, by rw [hv]; exact ok.nonneg, ?_, ?_, ?_, ?_⟩
      · rw [hpp, hrp, hpv, hv]; exact ok.eq
      · rw [hpp, hrp, hn]; exact ok.cnt
      · intro h0
        rcases hcb with h | ⟨_, h1, _⟩
        · rw [h]; exact ok.res (by rw [← hn]; exact h0)
        · rw [hn] at h0; exact absurd h0 h1
      · exact ok.pred_mono (fun p hp => hres p (by omega)) hback
      · intro g' hm
        have hold : FCb.update g' ∈ fo.cb → x < g' ∧ ∃ γ', (gh ++ [derivedG γf f futs.length v0 b])[g']? = some γ' ∧ γ'.pred = some x := by
          intro hm'
          obtain ⟨h1, γ', h2, h3⟩ := ok.cbs g' hm'
          have hg'l : g' < gh.length := lt_of_getElem? h2
          exact ⟨h1, γ', by rw [hghold g' (by omega)]; exact h2, h3⟩
        rcases hcb with h | ⟨hxf, _, h⟩
        · rw [h] at hm; exact hold hm
        · rw [h] at hm
          rcases List.mem_append.mp hm with hm' | hm'
          · exact hold hm'
          · simp only [List.mem_singleton, FCb.update.injEq] at hm'
            subst hm'
            exact ⟨hxl, _, hghnew, by rw [hxf]; rfl⟩
      · rcases hcb with h | ⟨_, _, h⟩
        · rw [h]; exact ok.nodup
        · rw [h, List.filter_append]
          have hnot : FCb.update futs.length ∉ fo.cb := by
            intro hm
            obtain ⟨_, γ', h2, _⟩ := ok.cbs _ hm
            have := lt_of_getElem? h2
            omega
          simp only [List.filter_cons, List.filter_nil, if_true]
          rw [List.nodup_append]
          refine ⟨ok.nodup, by simp, ?_⟩
          intro a ha c hc
          simp only [List.mem_singleton] at hc
          subst hc
          intro hac
          subst hac
          exact hnot (List.mem_filter.mp ha).1
  · intro y p hm
    obtain ⟨h1, h2, h3⟩ := hW y (some p) hm
    simp only [Option.some.injEq] at h2
    subst h1; subst h2
    exact ⟨h3, _, hghnew, rfl⟩
  · intro y hm
    have := (hW y none hm).2.1
    cases this

/-- **deriving a futureInt** — the heap part of `Inc` (when somebody waits for the old one:
    `v0 = 1`, no range) and of `NewRange` (`v0 = 0`, waits for the new range's page count):
    the new futureInt is allocated and registered with `WhenAvailable(res.Update)`.  If `f` is
    already known, the delivery runs at once (`cascade`).  Either way the invariant holds for
    the extended heap, the new futureInt being promised `v0 + (value of f) [+ size of its range]`. -/
theorem derive_spec {futs : List Fut} {gh : List GFut} {fired : List (Nat × Int)} {ρ : Rho}
    (hinv : HeapInv futs gh [] fired ρ) (hc : Cons fired ρ) {f : Nat} {x : Fut} {γf : GFut}
    (hf : futs[f]? = some x) (hγ : gh[f]? = some γf) (v0 : Int) (hv0 : 0 ≤ v0) (b : Bool)
    (hb : b = true → (fired.map (·.1)).contains futs.length = false) (log : List (Nat × Int)) :
    ∃ futs' L, whenAvailable f (.update futs.length) { futs := futs ++ [derivedF v0 b], log := log } =
        .ok { futs := futs', log := log ++ L } ∧
      HeapInv futs' (gh ++ [derivedG γf f futs.length v0 b]) [] fired ρ ∧
      futs'.length = futs.length + 1 ∧
      (x.numMissing ≠ 0 → L = [] ∧
        futs' = (futs ++ [derivedF v0 b]).set f { x with cb := x.cb ++ [.update futs.length] }) ∧
      (x.numMissing = 0 →
        Delivered (gh ++ [derivedG γf f futs.length v0 b]) ρ (futs ++ [derivedF v0 b]) futs' futs.length [] 0 L) := by
  have hflt := lt_of_getElem? hf
  have hfE : (futs ++ [derivedF v0 b])[f]? = some x := by
    rw [List.getElem?_append_left hflt]; exact hf
  have hnewE : (futs ++ [derivedF v0 b])[futs.length]? = some (derivedF v0 b) := by simp
  by_cases h0 : x.numMissing = 0
  · -- `f` is known: the value is delivered at once
    have hresf : resolved (futs ++ [derivedF v0 b]) f = true := by simp [resolved, hfE, h0]
    have hinvE : HeapInv (futs ++ [derivedF v0 b]) (gh ++ [derivedG γf f futs.length v0 b])
        [(futs.length, some f)] fired ρ := by
      refine heapInv_extend hinv hγ hflt v0 hv0 b hb _ (by simp) ?_ hnewE ?_ (by simp) ?_ (Or.inr (by simp))
      · intro p fe hp hfe
        rw [List.getElem?_append_left hp] at hfe
        exact ⟨fe, hfe, rfl, rfl, Or.inl rfl⟩
      · intro y s hm
        simp only [List.mem_singleton, Prod.mk.injEq] at hm
        exact ⟨hm.1, hm.2, hresf⟩
      · intro hr; rw [hresf] at hr; cases hr
    have hγE : (gh ++ [derivedG γf f futs.length v0 b])[futs.length]? = some (derivedG γf f futs.length v0 b) := by
      rw [← hinv.len]; simp
    have hnn : 0 ≤ x.val := (hinv.ok f x γf hf hγ).nonneg
    obtain ⟨futs', L, hu, hi, hd⟩ := cascade (gh ++ [derivedG γf f futs.length v0 b]) fired ρ
      ((futs ++ [derivedF v0 b]).length + 1) futs.length (some f) [] _ log _ _ x.val
      hinvE hc hnewE hγE ⟨x, hfE, rfl⟩ hnn (by simp)
    refine ⟨futs', L, ?_, hi, by rw [hd.len]; simp, fun h => absurd h0 h, fun _ => hd⟩
    simp only [whenAvailable, hfE, h0, if_true, callCb]
    exact hu
  · -- `f` is not yet known: the new futureInt waits at `f`
    have hfE' : ((futs ++ [derivedF v0 b]).set f { x with cb := x.cb ++ [.update futs.length] })[f]? =
        some { x with cb := x.cb ++ [.update futs.length] } :=
      List.getElem?_set_self (by simp; omega)
    have hresf : resolved ((futs ++ [derivedF v0 b]).set f { x with cb := x.cb ++ [.update futs.length] }) f = false := by
      simp only [resolved, hfE']
      simpa using h0
    have hinvE : HeapInv ((futs ++ [derivedF v0 b]).set f { x with cb := x.cb ++ [.update futs.length] })
        (gh ++ [derivedG γf f futs.length v0 b]) [] fired ρ := by
      refine heapInv_extend hinv hγ hflt v0 hv0 b hb [] (by simp) ?_ ?_ (by simp) (by simp) ?_ (Or.inl hresf)
      · intro p fe hp hfe
        by_cases hpf : p = f
        · subst hpf
          rw [hfE'] at hfe; cases hfe
          exact ⟨x, hf, rfl, rfl, Or.inr ⟨rfl, h0, rfl⟩⟩
        · rw [List.getElem?_set_ne (Ne.symm hpf), List.getElem?_append_left hp] at hfe
          exact ⟨fe, hfe, rfl, rfl, Or.inl rfl⟩
      · rw [List.getElem?_set_ne (by omega)]; exact hnewE
      · intro _
        exact ⟨_, hfE', by simp⟩
    refine ⟨_, [], ?_, hinvE, by simp, fun _ => ⟨rfl, rfl⟩, fun h => absurd h h0⟩
    simp only [whenAvailable, hfE, h0, if_false, List.append_nil]

/-- `Inc` in place (nobody waits for the futureInt): the futureInt and its promised value both
    grow by one -/
theorem heapInv_inc_inplace {futs : List Fut} {gh : List GFut} {fired : List (Nat × Int)} {ρ : Rho}
    (hinv : HeapInv futs gh [] fired ρ) {f : Nat} {x : Fut} {γf : GFut}
    (hf : futs[f]? = some x) (hγ : gh[f]? = some γf) (hemp : x.cb = []) :
    HeapInv (futs.set f { x with val := x.val + 1 })
      (gh.set f { γf with m := fun ρ => γf.m ρ + 1 }) [] fired ρ := by
  have hflt := lt_of_getElem? hf
  have hglt : f < gh.length := lt_of_getElem? hγ
  have hres : ∀ p, resolved (futs.set f { x with val := x.val + 1 }) p = resolved futs p :=
    resolved_set_same hf rfl
  have okf := hinv.ok f x γf hf hγ
  have hghne : ∀ p, p ≠ f → (gh.set f { γf with m := fun ρ => γf.m ρ + 1 })[p]? = gh[p]? :=
    fun p hp => List.getElem?_set_ne (Ne.symm hp)
  have hfune : ∀ p, p ≠ f → (futs.set f { x with val := x.val + 1 })[p]? = futs[p]? :=
    fun p hp => List.getElem?_set_ne (Ne.symm hp)
  have hback := set_cb_mono (f' := { x with val := x.val + 1 }) hf fun _ hc => hc
  have hpv : ∀ p, p ≠ f → predVal (gh.set f { γf with m := fun ρ => γf.m ρ + 1 }) ρ (some p) = predVal gh ρ (some p) := by
    intro p hp
    simp only [predVal, hghne p hp]
  refine ⟨by simpa using hinv.len, ?_, ?_, ?_, hinv.wnodup⟩
  · intro y fy γy hy hγy
    by_cases hyf : y = f
    · subst hyf
      rw [List.getElem?_set_self hflt] at hy; cases hy
      rw [List.getElem?_set_self hglt] at hγy; cases hγy
      have hpp : predPend (futs.set y { x with val := x.val + 1 }) [] y { γf with m := fun ρ => γf.m ρ + 1 } =
          predPend futs [] y γf :=
        predPend_congr rfl (fun p _ => hres p) (fun _ _ => Iff.rfl)
      have hrp : rangePend fired [] y { γf with m := fun ρ => γf.m ρ + 1 } = rangePend fired [] y γf :=
        rangePend_congr rfl rfl Iff.rfl
      have hpvq : ∀ q, γf.pred = q →
          predVal (gh.set y { γf with m := fun ρ => γf.m ρ + 1 }) ρ q = predVal gh ρ q := by
        intro q hq
        cases q with
        | none => rfl
        | some p =>
          have := (okf.pred p hq).1
          exact hpv p (by omega)
      have hpvf := hpvq _ rfl
      refine ⟨?_, ?_, ?_, okf.res, ?_, ?_, okf.nodup⟩
      · rw [hpp, hrp]
        show γf.m ρ + 1 = x.val + 1 + (if predPend futs [] y γf = true then
          predVal (gh.set y { γf with m := fun ρ => γf.m ρ + 1 }) ρ γf.pred else 0) +
          (if rangePend fired [] y γf = true then ρ y else 0)
        rw [hpvf]
        have := okf.eq
        omega
      · rw [hpp, hrp]; exact okf.cnt
      · have := okf.nonneg
        show 0 ≤ x.val + 1
        omega
      · exact okf.pred_mono (fun p _ => hres p) hback
      · intro g' hm
        rw [hemp] at hm; cases hm
    · rw [hfune y hyf] at hy
      rw [hghne y hyf] at hγy
      have ok := hinv.ok y fy γy hy hγy
      have hpp : predPend (futs.set f { x with val := x.val + 1 }) [] y γy = predPend futs [] y γy :=
        predPend_congr rfl (fun p _ => hres p) (fun _ _ => Iff.rfl)
      -- a futureInt derived from `f` no longer waits for it (nobody waits at `f`)
      have hterm : (if predPend futs [] y γy = true then
            predVal (gh.set f { γf with m := fun ρ => γf.m ρ + 1 }) ρ γy.pred else 0) =
          (if predPend futs [] y γy = true then predVal gh ρ γy.pred else 0) := by
        by_cases hpt : predPend futs [] y γy = true
        · obtain ⟨p, hp, hor⟩ := predPend_iff.mp hpt
          rcases hor with hr | hw
          · obtain ⟨_, h2⟩ := ok.pred p hp
            obtain ⟨fp, hfp, hm⟩ := h2 hr
            have hpf : p ≠ f := by
              intro h; subst h
              rw [hf] at hfp; cases hfp
              rw [hemp] at hm; cases hm
            simp only [hpt, if_true, hp]
            exact hpv p hpf
          · cases hw
        · simp [hpt]
      refine ⟨?_, ?_, ok.nonneg, ok.res, ?_, ?_, ok.nodup⟩
      · rw [hpp, hterm]; exact ok.eq
      · rw [hpp]; exact ok.cnt
      · exact ok.pred_mono (fun p _ => hres p) hback
      · intro g' hm
        obtain ⟨h1, γ', h2, h3⟩ := ok.cbs g' hm
        by_cases hg'f : g' = f
        · subst hg'f
          rw [hγ] at h2; cases h2
          exact ⟨h1, _, List.getElem?_set_self hglt, h3⟩
        · exact ⟨h1, γ', by rw [hghne g' hg'f]; exact h2, h3⟩
  · intro y p hm; cases hm
  · intro y hm; cases hm

/-- what a change of the ghost list must keep for the writers (`Props/C16trsg.lean`): `bad` are the entries whose
    promise `m` changed — an open writer may not look at them; `isRange` is kept everywhere, because a closed
    writer still reads it of its range's futureInt -/
structure GhExt (bad : List Nat) (gh gh' : List GFut) : Prop where
  keep : ∀ (i : Nat) (γ : GFut), gh[i]? = some γ → i ∉ bad → gh'[i]? = some γ
  range : ∀ (i : Nat) (γ : GFut), gh[i]? = some γ → ∃ γ' : GFut, gh'[i]? = some γ' ∧ γ'.isRange = γ.isRange

theorem GhExt.refl (gh : List GFut) : GhExt [] gh gh := ⟨fun _ _ h _ => h, fun _ γ h => ⟨γ, h, rfl⟩⟩

theorem GhExt.push (bad : List Nat) (gh : List GFut) (γn : GFut) : GhExt bad gh (gh ++ [γn]) :=
  ⟨fun i γ hg _ => by rw [List.getElem?_append_left (lt_of_getElem? hg)]; exact hg,
   fun i γ hg => ⟨γ, by rw [List.getElem?_append_left (lt_of_getElem? hg)]; exact hg, rfl⟩⟩

theorem GhExt.set {gh : List GFut} {f : Nat} {γ γ' : GFut} (hγ : gh[f]? = some γ) (hr : γ'.isRange = γ.isRange) :
    GhExt [f] gh (gh.set f γ') := by
  refine ⟨fun i γi hg hi => ?_, fun i γi hg => ?_⟩
  · rw [List.getElem?_set_ne (by simpa [eq_comm] using hi)]; exact hg
  · by_cases hif : i = f
    · subst hif
      rw [hγ] at hg; cases hg
      exact ⟨γ', List.getElem?_set_self (lt_of_getElem? hγ), hr⟩
    · exact ⟨γi, by rw [List.getElem?_set_ne (Ne.symm hif)]; exact hg, rfl⟩

theorem incFut_ghost {futs : List Fut} {gh : List GFut} {fired : List (Nat × Int)} {ρ : Rho}
    (hinv : HeapInv futs gh [] fired ρ) (hc : Cons fired ρ) {f : Nat} {x : Fut} {γf : GFut}
    (hf : futs[f]? = some x) (hγ : gh[f]? = some γf) (log : List (Nat × Int)) :
    ∃ f' futs' gh' γ', incFut f { futs := futs, log := log } = .ok (f', { futs := futs', log := log }) ∧
      HeapInv futs' gh' [] fired ρ ∧ gh'[f']? = some γ' ∧ γ'.m ρ = γf.m ρ + 1 ∧ GhExt [f] gh gh' := by
  by_cases hemp : x.cb = []
  · refine ⟨f, _, _, _, ?_, heapInv_inc_inplace hinv hf hγ hemp, List.getElem?_set_self (lt_of_getElem? hγ), rfl,
      GhExt.set hγ rfl⟩
    simp [incFut, hf, hemp]
  · have hne : x.cb.isEmpty = false := by
      cases hcb : x.cb with
      | nil => exact absurd hcb hemp
      | cons _ _ => rfl
    have hnm : x.numMissing ≠ 0 := fun h0 => hemp ((hinv.ok f x γf hf hγ).res h0)
    obtain ⟨futs', L, hw, hi, _, hL, _⟩ := derive_spec hinv hc hf hγ 1 (by decide) false (by simp) log
    obtain ⟨hL0, _⟩ := hL hnm
    subst hL0
    have hd : derivedF 1 false = { val := 1, numMissing := 1, cb := [] } := by simp [derivedF, b2i_false]
    rw [hd] at hw
    simp only [List.append_nil] at hw
    refine ⟨futs.length, futs', gh ++ [derivedG γf f futs.length 1 false], derivedG γf f futs.length 1 false,
      ?_, hi, by rw [← hinv.len]; simp, ?_, GhExt.push _ _ _⟩
    · simp only [incFut, hf, hne, Bool.false_eq_true, if_false, hw]
    · simp [derivedG]; omega

/-- **`Inc`**: whichever branch it takes, the invariant holds afterwards and the futureInt it
    returns is promised the old promise plus one -/
theorem incFut_spec {futs : List Fut} {gh : List GFut} {fired : List (Nat × Int)} {ρ : Rho}
    (hinv : HeapInv futs gh [] fired ρ) (hc : Cons fired ρ) {f : Nat} {x : Fut} {γf : GFut}
    (hf : futs[f]? = some x) (hγ : gh[f]? = some γf) (log : List (Nat × Int)) :
    ∃ f' futs' gh' L γ', incFut f { futs := futs, log := log } = .ok (f', { futs := futs', log := log ++ L }) ∧
      HeapInv futs' gh' [] fired ρ ∧ gh'[f']? = some γ' ∧ γ'.m ρ = γf.m ρ + 1 := by
  obtain ⟨f', futs', gh', γ', h1, h2, h3, h4, _⟩ := incFut_ghost hinv hc hf hγ log
  exact ⟨f', futs', gh', [], γ', by simpa using h1, h2, h3, h4⟩

/-- **`NewRange`, heap part**: the futureInt `gid` of the position AFTER the new range is
    promised the position before it plus the range's final page count `ρ gid` — the prefix sum
    over the ranges preceding a writer in document order is built from exactly these links -/
theorem newRange_heap_spec {futs : List Fut} {gh : List GFut} {fired : List (Nat × Int)} {ρ : Rho}
    (hinv : HeapInv futs gh [] fired ρ) (hc : Cons fired ρ) {f : Nat} {x : Fut} {γf : GFut}
    (hf : futs[f]? = some x) (hγ : gh[f]? = some γf)
    (hnf : (fired.map (·.1)).contains futs.length = false) (log : List (Nat × Int)) :
    ∃ futs' L γ', whenAvailable f (.update futs.length)
        { futs := futs ++ [{ val := 0, numMissing := 2, cb := [] }], log := log } =
        .ok { futs := futs', log := log ++ L } ∧
      HeapInv futs' (gh ++ [γ']) [] fired ρ ∧ γ'.isRange = true ∧ γ'.pred = some f ∧
      γ'.m ρ = γf.m ρ + ρ futs.length := by
  obtain ⟨futs', L, hw, hi, _, _, _⟩ := derive_spec hinv hc hf hγ 0 (by decide) true (fun _ => hnf) log
  have hd : derivedF 0 true = { val := 0, numMissing := 2, cb := [] } := by simp [derivedF, b2i_true]
  rw [hd] at hw
  exact ⟨futs', L, _, hw, hi, rfl, rfl, by simp [derivedG]⟩

theorem heapInv_init : HeapInv [{ val := 0, numMissing := 0, cb := [] }]
    [{ m := fun _ => 0, pred := none, isRange := false }] [] [] ρ := by
  refine ⟨rfl, ?_, by simp, by simp, by simp⟩
  intro g f γ hf hγ
  cases g with
  | zero =>
    simp at hf hγ
    subst hf; subst hγ
    refine ⟨by simp [predPend, rangePend], by simp [predPend, rangePend, b2i_false], by simp, fun _ => rfl,
      by simp, by simp, by simp⟩
  | succ n => simp at hf

/-- the heap side of the page-number clause for nested ranges: each of the ways in which the writers
    touch the futureInts succeeds within the model's loop bounds, re-establishes `HeapInv`, and logs a
    user callback only with the value `m ρ` promised for the futureInt it was handed to.  What this
    leaves of `PageNumbersStatement` is said at the end of `Props/C16trsg.lean`. -/
theorem page_numbers_heap_partial {futs : List Fut} {gh : List GFut} {fired : List (Nat × Int)} {ρ : Rho}
    (hinv : HeapInv futs gh [] fired ρ) (hc : Cons fired ρ) {f : Nat} {x : Fut} {γf : GFut}
    (hf : futs[f]? = some x) (hγ : gh[f]? = some γf) (log : List (Nat × Int)) :
    -- AppendPage*: the pending callbacks `ks` of the writer whose next page has futureInt `f`
    (∀ ks : List Nat, ∃ futs' L,
      whenAvailableAll f (ks.map FCb.user) { futs := futs, log := log } = .ok { futs := futs', log := log ++ L } ∧
      HeapInv futs' gh [] fired ρ ∧
      ((x.numMissing = 0 ∧ futs' = futs ∧ L = ks.map fun k => (k, γf.m ρ)) ∨
       (x.numMissing ≠ 0 ∧ L = [] ∧ futs' = futs.set f { x with cb := x.cb ++ ks.map FCb.user }))) ∧
    -- … followed by Inc
    (∃ f' futs' gh' L γ', incFut f { futs := futs, log := log } = .ok (f', { futs := futs', log := log ++ L }) ∧
      HeapInv futs' gh' [] fired ρ ∧ gh'[f']? = some γ' ∧ γ'.m ρ = γf.m ρ + 1) ∧
    -- NewRange
    ((fired.map (·.1)).contains futs.length = false →
      ∃ futs' L γ', whenAvailable f (.update futs.length)
          { futs := futs ++ [{ val := 0, numMissing := 2, cb := [] }], log := log } =
          .ok { futs := futs', log := log ++ L } ∧
        HeapInv futs' (gh ++ [γ']) [] fired ρ ∧ γ'.isRange = true ∧ γ'.pred = some f ∧
        γ'.m ρ = γf.m ρ + ρ futs.length) ∧
    -- Close of the range that `f` waits for, with `n` pages
    (γf.isRange = true → (fired.map (·.1)).contains f = false → ∀ n : Int, 0 ≤ n → Cons ((f, n) :: fired) ρ →
      ∃ futs' L, callAll [.update f] n { futs := futs, log := log } = .ok { futs := futs', log := log ++ L } ∧
        HeapInv futs' gh [] ((f, n) :: fired) ρ ∧ Delivered gh ρ futs futs' f [] 0 L) :=
  ⟨fun ks => whenAvailableAll_users hγ ks futs x log hinv hf,
   incFut_spec hinv hc hf hγ log,
   fun hnf => newRange_heap_spec hinv hc hf hγ hnf log,
   fun hr hnf n hn hc' => fire_range hinv hf hγ hr hnf n hn hc' log⟩

/-! ## the conclusion of the full statement holds on a nested program

A range inside a range; callback 0 registered on the root before any range exists; callback 2
registered on the root while a range that lies EARLIER in the document is opened and filled
later (pages 13 shift the page the callback waits for); an empty range; a callback that gets −1.
Document: 11 12 13 10 14.  The model's log is a permutation of `expectedLog`. -/

def exNested : List POp :=
  [.nextPageNumber [] 0, .newRange [], .newRange [0], .append [] 10 {}, .nextPageNumber [0, 0] 1,
   .append [0, 0] 11 {}, .append [0] 12 {}, .nextPageNumber [] 2, .newRange [0], .append [0, 1] 13 {},
   .newRange [0], .nextPageNumber [0, 2] 3, .append [] 14 {}, .nextPageNumber [0] 4]

example : (match run (PState.init false []) exNested with
    | .ok (s, outs) =>
      s.result.isNone &&
      (match step s (.close []), specRun (exNested.zip outs) [] with
        | .ok (s', .ok), some doc =>
          let final := (Spec.TRSDoc.flatten doc).map (·.1)
          (final == [11, 12, 13, 10, 14]) &&
          (s'.g.heap.log.isPerm
            (expectedLog final ((exNested ++ [POp.close []]).zip (outs ++ [Outcome.ok])))) &&
          (s'.g.heap.log.isPerm [(0, 3), (1, 0), (2, 4), (3, -1), (4, -1)])
        | _, _ => false)
    | _ => false) = true := by decide +kernel

end PdfVerif.C16trsf
