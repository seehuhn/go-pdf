import PdfVerif.Props.C13cc
/-!
# C13 (part 11) — notdef ranges apply to every code of their box, whatever its position

`LookupNotdefCID` tests containment byte by byte (`inBox`); unlike `rangeIndex` (used for
cidranges, where a position above `math.MaxInt32` cannot yield a CID and is reported as "not in
the range") it has **no index bound**: a notdef range with more than 2^31 codes gives its CID to
all of them.  (Seeded defect C13-s2 replaced the containment test by `rangeIndex`.)
-/
namespace PdfVerif.C13cck
open PdfVerif PdfVerif.CC PdfVerif.CMap PdfVerif.C13cc

theorem findNotdefRange_hit (code : Bytes) (r : CRange) (rest : List CRange) (h : InBox r.first r.last code) :
    findNotdefRange code (r :: rest) = some r.value := by
  have hl := inBox_len r.first r.last code h
  simp [findNotdefRange, hl.1, hl.2, (inBox_iff r.first r.last code hl.1 hl.2).mpr h]

theorem findNotdefRange_miss (code : Bytes) (r : CRange) (rest : List CRange) (h : ¬ InBox r.first r.last code) :
    findNotdefRange code (r :: rest) = findNotdefRange code rest := by
  simp only [findNotdefRange]
  split
  · rfl
  · rename_i hl
    simp only [bne_iff_ne, ne_eq, Bool.or_eq_true, not_or, Decidable.not_not] at hl
    rw [if_neg (fun hb => h ((inBox_iff _ _ _ hl.1 hl.2).mp hb))]

theorem findNotdefRange_append (code : Bytes) (pre rest : List CRange)
    (hpre : ∀ r' ∈ pre, ¬ InBox r'.first r'.last code) :
    findNotdefRange code (pre ++ rest) = findNotdefRange code rest := by
  induction pre with
  | nil => rfl
  | cons x pre ih =>
    rw [List.cons_append, findNotdefRange_miss code x _ (hpre x (by simp)),
      ih (fun r' hr' => hpre r' (by simp [hr']))]

/-- the first notdef range whose box contains the code decides -/
theorem findNotdefRange_spec (code : Bytes) : ∀ (l : List CRange),
    (∀ r ∈ l, ¬ InBox r.first r.last code) ∧ findNotdefRange code l = none ∨
    ∃ pre r post, l = pre ++ r :: post ∧ (∀ r' ∈ pre, ¬ InBox r'.first r'.last code) ∧
      InBox r.first r.last code ∧ findNotdefRange code l = some r.value := by
  intro l
  induction l with
  | nil => left; simp [findNotdefRange]
  | cons r rest ih =>
    by_cases h : InBox r.first r.last code
    · right; exact ⟨[], r, rest, rfl, by simp, h, findNotdefRange_hit code r rest h⟩
    · rw [findNotdefRange_miss code r rest h]
      rcases ih with ⟨h1, h2⟩ | ⟨pre, r', post, e, h1, h2, h3⟩
      · left; exact ⟨List.forall_mem_cons.mpr ⟨h, h1⟩, h2⟩
      · right; exact ⟨r :: pre, r', post, by rw [e]; rfl, List.forall_mem_cons.mpr ⟨h, h1⟩, h2, h3⟩

/-- `LookupNotdefCID` is independent of the position inside the range: if no notdef single
has the code and `r` is the first notdef range of the file whose box contains it, the result is
`r.value` — for EVERY code of the box (also at mixed-radix positions above `math.MaxInt32`). -/
theorem lookupNotdef_position_independent (f : CMapFile) (parents : Chain) (code : Bytes)
    (pre : List CRange) (r : CRange) (post : List CRange)
    (hs : findSingle code f.ndSingles = none) (hr : f.ndRanges = pre ++ r :: post)
    (hpre : ∀ r' ∈ pre, ¬ InBox r'.first r'.last code) (hin : InBox r.first r.last code) :
    lookupNotdef (f :: parents) code = r.value := by
  simp only [lookupNotdef, hs, hr, findNotdefRange_append code pre _ hpre, findNotdefRange_hit code r post hin]

/-- `rangeIndex` (cidranges) refuses positions above `math.MaxInt32`, where `LookupNotdefCID` answers (above). -/
theorem rangeIndex_none_beyond_cap (first last code : Bytes) (hc : code ≠ []) (hin : InBox first last code)
    (hpos : maxInt32 < mixedIndex first last code) : rangeIndex first last code = none := by
  cases h : rangeIndex first last code with
  | none => rfl
  | some i =>
    obtain ⟨_, h2, h3⟩ := (rangeIndex_iff first last code hc i).mp h
    omega

/-- the witness of the seeded defect C13-s2: code space `<00>-<1F>`, `<20000000>-<FFFFFFFF>`, notdef
range over all 4-byte codes → 7; `<A0000000>` lies at position 2^31 (> MaxInt32): `rangeIndex`
says "outside", the notdef lookup says 7 -/
example : rangeIndex [0x20, 0, 0, 0] [0xff, 0xff, 0xff, 0xff] [0xa0, 0, 0, 0] = none ∧
    lookupNotdef [⟨[], [], [], [], [⟨[0x20, 0, 0, 0], [0xff, 0xff, 0xff, 0xff], 7⟩]⟩] [0xa0, 0, 0, 0] = 7 ∧
    lookupCID [⟨[], [], [], [], [⟨[0x20, 0, 0, 0], [0xff, 0xff, 0xff, 0xff], 7⟩]⟩] [0xa0, 0, 0, 0] = 7 ∧
    lookupCID [⟨[], [], [], [], [⟨[0x20, 0, 0, 0], [0xff, 0xff, 0xff, 0xff], 7⟩]⟩] [0xff, 0xff, 0xff, 0xff] = 7 := by
  decide +kernel

end PdfVerif.C13cck
