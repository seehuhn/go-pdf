import PdfVerif.Props.C19robtok
import PdfVerif.Props.C05robobj
/-!
# C19 — `ReadObject` of the scanner over a FAILING reader

The mutual recursion of `Model/ROBScanObj.lean` against that of `Model/Scan.lean` is compared in
`Lemmas/ROBParse.lean` (`refF_all`, by induction on the fuel the two share); here it is read at the states
`GoodF` of `Props/C19robtok.lean`.
-/
namespace PdfVerif.C19robobj
open PdfVerif PdfVerif.ROB PdfVerif.C05robbuf PdfVerif.C05robobj PdfVerif.C19robtok PdfVerif.ROBParse

abbrev T : SB → Prop := fun _ => True

/-- **`readObject_fault`** (`scanner_fault` lifted to the whole object parser).  For a reader that serves the bytes `d`
    and may fail with a non-EOF, non-malformed error `e0` at any call, any number of times, with or without bytes
    delivered together with the error, from any scanner state reachable on it (`GoodF`; `lat` says whether the reader has
    already failed), at any nesting depth and fuel, `ReadObject` over the 1024-byte window ends in one of two ways:
    `RelA`, the outcome of the whole-input model `readObject` on the bytes not yet consumed (the same value, the scanner
    standing at the model's remaining input; or the same error); or `FltB`, the reader's error `e0`, with
    `scanner.err = e0`.  In both the state is coherent: no modelled Go panic, no exhausted loop fuel. -/
theorem readObject_fault {d : Bytes} {e0 : Err} {src : Source} (h : FaultyOver d e0 src) (hm0 : e0 ≠ .malformed)
    {sf : Nat} (hsf : d.length + 2 ≤ sf) (fuel depth : Nat) (lat : Bool) (s : SB) (gs : GoodF d e0 lat s) :
    RelA d e0 lat T (readObjectBuf src sf fuel depth s) (readObject fuel depth (view d s)) ∨
    FltB d e0 (readObjectBuf src sf fuel depth s) :=
  relF_of_out ((refF_all h (kept_carried h lat) hsf Carried.vlen hm0 fuel).1 depth s (inv_goodF.2 gs))

/-- whenever `ReadObject` returns a value, it is the fault-free value at the fault-free position -/
theorem readObject_fault_value {d : Bytes} {e0 : Err} {src : Source} (h : FaultyOver d e0 src) (hm0 : e0 ≠ .malformed)
    {sf : Nat} (hsf : d.length + 2 ≤ sf) (fuel depth : Nat) (lat : Bool) (s : SB) (gs : GoodF d e0 lat s) (v : Obj)
    (hv : (readObjectBuf src sf fuel depth s).2 = .ok v) :
    ∃ rest, readObject fuel depth (view d s) = .ok (v, rest) ∧
      view d (readObjectBuf src sf fuel depth s).1 = rest ∧ GoodF d e0 lat (readObjectBuf src sf fuel depth s).1 := by
  revert hv
  refine RelF.elim (readObject_fault h hm0 hsf fuel depth lat s gs) ?_ ?_ ?_
  · intro s1 v' g1 hv; cases hv; exact ⟨_, rfl, rfl, g1⟩
  · intro s1 e g1 _ hv; cases hv
  · intro s1 gl hv; cases hv

/-- the same for a fresh scanner, spelled out: `ReadObject` returns what `parseObject d` says
    (value and `CurrentPos`, or error), or the reader's error; never a panic, never a hang -/
theorem readObject_fault_fresh {d : Bytes} {e0 : Err} {src : Source} (h : FaultyOver d e0 src) (hm0 : e0 ≠ .malformed)
    {sf : Nat} (hsf : d.length + 2 ≤ sf) :
    ((readObjectBuf src sf (scanFuel d) 0 (SB.init 0)).1.panicked = false ∧
     (readObjectBuf src sf (scanFuel d) 0 (SB.init 0)).1.hang = false) ∧
    (observe (readObjectBuf src sf (scanFuel d) 0 (SB.init 0)) = lift d (parseObject d) ∨
     (readObjectBuf src sf (scanFuel d) 0 (SB.init 0)).2 = .error e0) := by
  have R := readObject_fault h hm0 hsf (scanFuel d) 0 false (SB.init 0) (goodF_init d e0)
  rw [view_init] at R
  unfold parseObject
  refine RelF.elim R ?_ ?_ ?_
  · intro s1 v g1
    exact ⟨⟨g1.nopanic, g1.coh.nohang⟩, Or.inl (observe_ok v g1.posok)⟩
  · intro s1 e g1 _; exact ⟨⟨g1.nopanic, g1.coh.nohang⟩, Or.inl rfl⟩
  · intro s1 gl; exact ⟨⟨gl.nopanic, gl.coh.nohang⟩, Or.inr rfl⟩

/-- if no reader error is recorded in the scanner after `ReadObject`, then its outcome is exactly
    the fault-free one -/
theorem readObject_clean {d : Bytes} {e0 : Err} {src : Source} (h : FaultyOver d e0 src) (hm0 : e0 ≠ .malformed)
    {sf : Nat} (hsf : d.length + 2 ≤ sf) (fuel depth : Nat) (lat : Bool) (s : SB) (gs : GoodF d e0 lat s)
    (hclean : (readObjectBuf src sf fuel depth s).1.err = none) :
    RelA d e0 lat T (readObjectBuf src sf fuel depth s) (readObject fuel depth (view d s)) := by
  rcases readObject_fault h hm0 hsf fuel depth lat s gs with a | b
  · exact a
  · have := b.2.lat rfl; rw [hclean] at this; cases this

-- the reader fails in the middle of `exD` (3 bytes per call, from call 4 on): the reader's error
example : (match (readObjectBuf (faultySrc exD 3 (.fromK 4 0) .io) (exD.length + 2) (scanFuel exD) 0 (SB.init 0)) with
    | (s, .error .io) => s.err == some .io && !s.panicked
    | _ => false) = true := by
  decide +kernel

-- the reader fails only after the object has been read (call 30): the fault-free outcome
example : (match observe (readObjectBuf (faultySrc exD 3 (.fromK 30 0) .io) (exD.length + 2) (scanFuel exD) 0 (SB.init 0)),
      parseObject exD with
    | .ok (a, p), .ok (b, rest) => a.wire == b.wire && p == exD.length - rest.length
    | _, _ => false) = true := by
  decide +kernel

/-- `<</A 1>>` newline `stream` newline -/
def exStream : Bytes := [60, 60, 47, 65, 32, 49, 62, 62, 10, 115, 116, 114, 101, 97, 109, 10]

-- pins the fix of finding ROB-6: one byte per call, the reader fails inside the keyword `stream` (call 12);
-- `ReadObject` returns the reader's error, not the plain dictionary with no error
example : (match (readObjectBuf (faultySrc exStream 1 (.fromK 12 0) .io) (exStream.length + 2) (scanFuel exStream) 0 (SB.init 0)) with
    | (s, .error .io) => s.err == some .io
    | _ => false) = true := by
  decide +kernel

/-- `/AAAA#41` blank -/
def exHash : Bytes := [47, 65, 65, 65, 65, 35, 52, 49, 32]

-- pins the fix of finding ROB-7: one byte per call, the reader fails behind `#4` (call 7): `tryHex` hands the
-- error of its `PeekN(3)` to `ReadName`, the scanner still stands on the `#` (it does not keep the `#` literally
-- and go on with the name)
example : (match (readObjectBuf (faultySrc exHash 1 (.fromK 7 0) .io) (exHash.length + 2) (scanFuel exHash) 0 (SB.init 0)) with
    | (s, .error .io) => s.err == some .io && s.pos + s.filePos == 5
    | _ => false) = true := by
  decide +kernel

end PdfVerif.C19robobj
