import PdfVerif.Props.C06faL
import PdfVerif.Spec.FALZW
/-!
# C07 (part A, LZW) — reference LZW codec against the library's, both directions

`spec_reads_model_lzw`: for all byte strings and both `EarlyChange` settings,
`Spec.LZW.decode early (Model.encode early x) = some x`.  The table-of-strings decoder of
`Spec/FALZW.lean` follows the protocol of C06 (`spec_follows`), so `run_follows` applies to it.  It
computes the code width from its entry count; that this is the width the writer uses is the
minimality of the width (`Book.Min`), which every step of the protocol keeps.

`model_reads_spec_lzw`: `Model.decode early (Spec.LZW.encode early x) = (x, none)`.  The reference
encoder keeps to the protocol (`EAt`, `erun_follows`: any decoder that follows the protocol reads it),
and the library's reader follows it (`reader_follows`, C06).
-/
namespace PdfVerif.C07faL
open PdfVerif PdfVerif.FA PdfVerif.FA.LZW PdfVerif.C06faL

theorem natOf_eq_ofBits (bs : List Bool) : Spec.LZW.natOf bs = ofBits bs := by
  unfold Spec.LZW.natOf ofBits; congr 1; funext a b; cases b <;> simp <;> omega

theorem bitsOf_eq_toBits (w n : Nat) : Spec.LZW.bitsOf w n = toBits w n := by
  induction w with
  | zero => rfl
  | succ w ih =>
    unfold Spec.LZW.bitsOf at ih ⊢
    rw [List.range_succ, List.reverse_append, List.map_append, toBits]
    simp only [List.reverse_cons, List.reverse_nil, List.nil_append, List.map_cons, List.map_nil, List.cons_append]
    rw [ih]
    congr 1
    rw [Nat.testBit_eq_decide_div_mod_eq]
    by_cases h : n / 2 ^ w % 2 = 1 <;> simp [h]

theorem unpackBytes_eq (s : Bytes) : Spec.LZW.unpackBytes s = bytesToBits s := by
  induction s with
  | nil => rfl
  | cons b bs ih =>
    simp only [Spec.LZW.unpackBytes, List.flatMap_cons, bytesToBits] at ih ⊢
    rw [bitsOf_eq_toBits, ih]

theorem spec_read (n c : Nat) (rest : Bits) (hc : c < 2 ^ n) :
    ((toBits n c ++ rest).take n).length = n ∧ Spec.LZW.natOf ((toBits n c ++ rest).take n) = c ∧
    (toBits n c ++ rest).drop n = rest := by
  have hl := toBits_length n c
  have ht : (toBits n c ++ rest).take n = toBits n c := by
    rw [List.take_append_of_le_length (by omega), List.take_of_length_le (by omega)]
  have hd : (toBits n c ++ rest).drop n = rest := by
    rw [List.drop_append_of_le_length (by omega), List.drop_of_length_le (by omega)]; rfl
  refine ⟨by rw [ht, hl], ?_, hd⟩
  rw [ht, natOf_eq_ofBits, ofBits_toBits, Nat.mod_eq_of_lt hc]

theorem codeLen_eq (ec top w : Nat) (h9 : 9 ≤ w) (h12 : w ≤ 12) (hlt : top + ec < 2 ^ w)
    (hlow : w = 9 ∨ 2 ^ (w - 1) ≤ top + ec) : Spec.LZW.codeLen ec top = w := by
  obtain rfl | rfl | rfl | rfl : w = 9 ∨ w = 10 ∨ w = 11 ∨ w = 12 := by omega
  all_goals
    simp only [Nat.reducePow, Nat.reduceSub] at hlt hlow
    unfold Spec.LZW.codeLen
  · rw [if_pos hlt]
  · rw [if_neg (by omega), if_pos hlt]
  · rw [if_neg (by omega), if_neg (by omega), if_pos hlt]
  · rw [if_neg (by omega), if_neg (by omega), if_neg (by omega)]

theorem book_codeLen {B : Book} (hB : B.OK) (h : B.Min) : Spec.LZW.codeLen B.ec B.hi = B.width :=
  codeLen_eq _ _ _ hB.w_lo hB.w_hi hB.hi_ov h

/-! `fuel` only bounds the number of codes; `Reads` hides it: with enough fuel for the whole input
the decoder returns `out` (the device of `C07fa.RlReads`). -/

def Reads (table : List Bytes) (m : Nat) (prev : Option Bytes) (ec : Nat) (bits : Bits) (out : Bytes) : Prop :=
  ∀ fuel, fuel ≥ bits.length + 1 → Spec.LZW.decodeAux fuel table m prev ec bits = some out

/-- a code costs one unit of fuel, and what is left suffices for the rest -/
theorem reads_code {table : List Bytes} {m : Nat} {prev : Option Bytes} {ec : Nat} {out : Bytes} (n code : Nat)
    (rest : Bits) (hn : 1 ≤ n)
    (h : ∀ f, f ≥ rest.length + 1 →
      Spec.LZW.decodeAux (f + 1) table m prev ec (toBits n code ++ rest) = some out) :
    Reads table m prev ec (toBits n code ++ rest) out := by
  intro fuel hf
  rw [List.length_append, toBits_length] at hf
  obtain ⟨f, rfl⟩ : ∃ f, fuel = f + 1 := ⟨fuel - 1, by omega⟩
  exact h f (by omega)

theorem reads_eof (table : List Bytes) (m : Nat) (prev : Option Bytes) (ec n : Nat) (rest : Bits)
    (hlen : Spec.LZW.codeLen ec (257 + m) = n) (h9 : 9 ≤ n) :
    Reads table m prev ec (toBits n LZW.eof ++ rest) [] := by
  refine reads_code n _ rest (Nat.le_trans (by decide) h9) fun f _ => ?_
  obtain ⟨r1, r2, r3⟩ := spec_read n LZW.eof rest (ctl_lt (by decide) h9)
  rw [Spec.LZW.decodeAux]
  simp only [hlen, r1, Nat.lt_irrefl, if_false, r2]
  rfl

theorem reads_clear {table : List Bytes} {m : Nat} {prev : Option Bytes} {ec n : Nat} {rest : Bits} {out : Bytes}
    (hlen : Spec.LZW.codeLen ec (257 + m) = n) (h9 : 9 ≤ n) (h : Reads [] 0 none ec rest out) :
    Reads table m prev ec (toBits n clear ++ rest) out := by
  refine reads_code n _ rest (Nat.le_trans (by decide) h9) fun f hf => ?_
  obtain ⟨r1, r2, r3⟩ := spec_read n clear rest (ctl_lt (by decide) h9)
  rw [Spec.LZW.decodeAux]
  simp only [hlen, r1, Nat.lt_irrefl, if_false, r2, r3]
  exact h f hf

/-- the decoder's table after a data code whose string starts with `c` -/
def stepTable (table : List Bytes) (prev : Option Bytes) (c : Nat) : List Bytes :=
  match prev with
  | some p => if 258 + table.length ≤ 4095 then table ++ [p ++ [c]] else table
  | none => table

theorem stringOf_lit (table : List Bytes) {c : Nat} (h : c < 256) : Spec.LZW.stringOf table c = some [c] := by
  rw [Spec.LZW.stringOf, if_pos h]

theorem stringOf_entry (table : List Bytes) {c : Nat} (h : 258 ≤ c) : Spec.LZW.stringOf table c = table[c - 258]? := by
  rw [Spec.LZW.stringOf, if_neg (by omega), if_neg (by omega)]

/-- `hstr`: the string `c :: cs` is in the table, or the code is the entry being defined (previous
    string followed by its own first byte) -/
theorem reads_data {table : List Bytes} {m : Nat} {prev : Option Bytes} {ec n code : Nat} {rest : Bits}
    {out : Bytes} (hlen : Spec.LZW.codeLen ec (257 + m) = n) (h9 : 9 ≤ n) (hc : code < 2 ^ n)
    (h6 : code ≠ 256) (h7 : code ≠ 257) (c : Nat) (cs : Bytes)
    (hstr : Spec.LZW.stringOf table code = some (c :: cs) ∨
      (Spec.LZW.stringOf table code = none ∧ code = 258 + table.length ∧
        ∃ ps, prev = some (c :: ps) ∧ cs = ps ++ [c]))
    (h : Reads (stepTable table prev c) (m + 1) (some (c :: cs)) ec rest out) :
    Reads table m prev ec (toBits n code ++ rest) (c :: cs ++ out) := by
  refine reads_code n _ rest (Nat.le_trans (by decide) h9) fun f hf => ?_
  obtain ⟨r1, r2, r3⟩ := spec_read n code rest hc
  rw [Spec.LZW.decodeAux]
  simp only [hlen, r1, Nat.lt_irrefl, if_false, r2, r3, beq_iff_eq, h6, h7]
  rcases hstr with hs | ⟨hs, hcode, ps, rfl, rfl⟩
  · rw [hs]
    show Option.map _ (Spec.LZW.decodeAux f (stepTable table prev c) (m + 1) (some (c :: cs)) ec rest) = _
    rw [h f hf]; rfl
  · rw [hs]; simp only [hcode, if_true]
    show Option.map _ (Spec.LZW.decodeAux f (stepTable table (some (c :: ps)) c) (m + 1)
      (some (c :: (ps ++ [c]))) ec rest) = _
    rw [h f hf]; rfl

/-- the arguments of `Spec.LZW.decodeAux` that make up its state -/
structure SpecSt where
  table : List Bytes
  m : Nat
  prev : Option Bytes
  ec : Nat

/-- The reference decoder in state `d` has read the codes of `B`: its list holds the strings of the
    codes `258 … hi - 1`, `prev` is the string of the last code. -/
structure SAt (d : SpecSt) (B : Book) : Prop where
  min : B.Min
  ec_eq : d.ec = B.ec
  hi_m : B.hi = 257 + d.m
  /-- the decoder is one entry behind the encoder (`EAt.tlen`); at `m = 0` the subtraction stops at 0:
      no entry, and none missing -/
  tlen : d.table.length = d.m - 1
  tget : ∀ i, i < d.table.length → d.table[i]? = some (B.S (258 + i))
  prev_eq : d.prev = B.last.map B.S
  prev_ne : ∀ l, B.last = some l → B.S l ≠ []

theorem SAt.width {d : SpecSt} {B : Book} (hB : B.OK) (hd : SAt d B) : Spec.LZW.codeLen d.ec (257 + d.m) = B.width := by
  rw [hd.ec_eq, ← hd.hi_m]; exact book_codeLen hB hd.min

/-- `table'`: the decoder's table then holds entry `hi` as well, if there is one -/
theorem spec_code {d : SpecSt} {B : Book} {c : Nat} (hB : B.OK) (hd : SAt d B) (hc : B.Sendable c) :
    B.S c ≠ [] ∧ ∃ table', (table' = d.table ∧ B.hi = 257 ∨ table' = d.table ++ [B.S B.hi] ∧ 258 ≤ B.hi) ∧
      ∀ rest out, Reads table' (d.m + 1) (some (B.S c)) d.ec rest out →
        Reads d.table d.m d.prev d.ec (toBits B.width c ++ rest) (B.S c ++ out) := by
  have hm := hd.hi_m
  have hl := hB.lastv
  have htlen := hd.tlen
  have hprev := hd.prev_eq
  have hlen := hd.width hB
  have hclt := hc.lt hB
  have hroom := hc.room
  have h67 : c ≠ 256 ∧ c ≠ 257 := by rcases hc.valid with h1 | h1 <;> omega
  cases hlast : B.last with
  | none =>
    rw [hlast] at hprev hl
    have hlit := hc.first hlast
    have hS : B.S c = [c] := hB.lit c hlit
    refine ⟨by rw [hS]; exact List.cons_ne_nil _ _, d.table, .inl ⟨rfl, hl⟩, fun rest out hr => ?_⟩
    rw [hS] at hr ⊢
    rw [show d.prev = none from hprev]
    exact reads_data hlen hB.w_lo hclt h67.1 h67.2 c [] (.inl (stringOf_lit _ hlit)) hr
  | some l =>
    rw [hlast] at hprev hl
    have hprev : d.prev = some (B.S l) := hprev
    have hne := hd.prev_ne l hlast
    obtain ⟨b0, hShi, hhd⟩ := hc.link l hlast
    obtain ⟨cs, hSc⟩ : ∃ cs, B.S c = b0 :: cs := by
      cases h : B.S c with
      | nil => rw [h] at hhd; nomatch hhd
      | cons a t => rw [h] at hhd; exact ⟨t, by rw [Option.some.inj hhd]⟩
    have htab : stepTable d.table d.prev b0 = d.table ++ [B.S B.hi] := by
      rw [hprev, stepTable, if_pos (by omega), hShi]
    refine ⟨by rw [hSc]; exact List.cons_ne_nil _ _, _, .inr ⟨rfl, hl.2⟩, fun rest out hr => ?_⟩
    rw [hSc] at hr ⊢
    rw [← htab] at hr
    refine reads_data hlen hB.w_lo hclt h67.1 h67.2 b0 cs ?_ hr
    rcases hc.valid with hlit | ⟨h258, hle⟩
    · exact .inl (by rw [← hSc, hB.lit c hlit, stringOf_lit _ hlit])
    · by_cases hlt : c < B.hi
      · -- an entry the decoder already has
        have hget := hd.tget (c - 258) (by omega)
        rw [show 258 + (c - 258) = c by omega] at hget
        exact .inl (by rw [stringOf_entry _ h258, hget, hSc])
      · -- the entry just created: previous string + its first byte
        obtain rfl : c = B.hi := by omega
        cases hSl : B.S l with
        | nil => exact absurd hSl hne
        | cons a ps =>
          rw [hShi, hSl, List.cons_append] at hSc
          obtain ⟨rfl, rfl⟩ := List.cons.inj hSc
          refine .inr ⟨?_, by omega, ps, by rw [hprev, hSl], rfl⟩
          have : d.table[B.hi - 258]? = none := by rw [List.getElem?_eq_none_iff]; omega
          rw [stringOf_entry _ h258, this]

theorem sat_fresh {B : Book} (ec : Nat) (hw : B.width = 9) (hhi : B.hi = 257) (hl : B.last = none) (hec : ec = B.ec) :
    SAt ⟨[], 0, none, ec⟩ B :=
  { min := .inl hw, ec_eq := hec, hi_m := hhi, tlen := rfl, tget := fun _ hi => (nomatch hi),
    prev_eq := by rw [hl]; rfl, prev_ne := fun _ h => (nomatch hl.symm.trans h) }

theorem spec_follows : Follows SAt (fun d => Reads d.table d.m d.prev d.ec) where
  code := by
    intro d B c hB hd hc
    obtain ⟨hne, table', htab, hread⟩ := spec_code hB hd hc
    have hm := hd.hi_m
    have htlen := hd.tlen
    refine ⟨⟨table', d.m + 1, some (B.S c), d.ec⟩,
      { min := hd.min.sent hB hc, ec_eq := hd.ec_eq, hi_m := (by show B.hi + 1 = 257 + (d.m + 1); omega),
        tlen := ?_, tget := fun i hi => ?_, prev_eq := rfl, prev_ne := fun l hl => Option.some.inj hl ▸ hne },
      hread⟩
    · show table'.length = d.m
      rcases htab with ⟨rfl, h2⟩ | ⟨rfl, h2⟩
      · omega
      · rw [List.length_append, List.length_singleton]; omega
    · have hi : i < table'.length := hi
      show table'[i]? = some (B.S (258 + i))
      rcases htab with ⟨rfl, h2⟩ | ⟨rfl, h2⟩
      · exact hd.tget i hi
      · by_cases hi' : i < d.table.length
        · rw [List.getElem?_append_left hi', hd.tget i hi']
        · rw [List.length_append, List.length_singleton] at hi
          rw [List.getElem?_append_right (by omega), show i - d.table.length = 0 by omega,
            show 258 + i = B.hi by omega]
          rfl
  clear := by
    intro d B hB hd
    exact ⟨⟨[], 0, none, d.ec⟩, sat_fresh d.ec rfl rfl rfl hd.ec_eq,
      fun rest out ho => reads_clear (hd.width hB) hB.w_lo ho⟩
  eof := fun hB hd tl => reads_eof _ _ _ _ _ tl (hd.width hB) hB.w_lo
  define := by
    intro d B s hB hd
    have hl := hB.lastv
    have htlen := hd.tlen
    have hm := hd.hi_m
    have hS : ∀ l, B.last = some l → updS B.S B.hi s l = B.S l := fun l hlast => by
      rw [hlast] at hl; exact updS_lt _ _ (hl.1.lt (by omega))
    refine { hd with tget := fun i hi => ?_, prev_eq := ?_, prev_ne := fun l hlast => ?_ }
    · show _ = some (updS B.S B.hi s (258 + i))
      rw [updS_lt _ _ (by omega), hd.tget i hi]
    · show d.prev = B.last.map (updS B.S B.hi s)
      rw [hd.prev_eq]
      cases hlast : B.last with
      | none => rfl
      | some l => exact congrArg some (hS l hlast).symm
    · show updS B.S B.hi s l ≠ []
      rw [hS l hlast]; exact hd.prev_ne l hlast

/-- **The reference LZW decoder reads what the library writes**, for every byte string and both
    `EarlyChange` settings: Spec (table of strings, code length from the number of entries, as
    in ISO 32000-1 §7.4.4) against the model of `lzw/writer.go` (hash table of prefix/byte pairs,
    `hi`/`overflow` registers, clear code when `hi + earlyChange = 4095`). -/
theorem spec_reads_model_lzw (early : Bool) (x : Bytes) (hx : AllBytes x) :
    Spec.LZW.decode early (encode early x) = some x := by
  unfold Spec.LZW.decode
  rw [unpackBytes_eq]
  -- the decoder's fuel is enough for these bits; they are a clear code, what the writer writes, padding
  refine (?_ : Reads [] 0 none _ (bytesToBits (encode early x)) x) _ (by rw [bytesToBits_length]; omega)
  rw [encode, bitpack_rt, encodeBits, List.append_assoc]
  exact reads_clear (n := initWidth) (by cases early <;> rfl) (by decide)
    (run_follows spec_follows x hx (W.init early) (book0 early) ⟨[], 0, none, if early then 1 else 0⟩ (book0_ok early)
      (wat_init early) (sat_fresh _ rfl rfl rfl rfl) _)

example : Spec.LZW.decode true (encode true [97, 97, 97, 97, 97, 97, 97, 98, 97, 98, 97, 98]) =
    some [97, 97, 97, 97, 97, 97, 97, 98, 97, 98, 97, 98] := by decide +kernel

theorem spec_indexOf (s : Bytes) : ∀ (t : List Bytes) (k j : Nat), Spec.LZW.indexOf s t k = some j →
    ∃ i, j = k + i ∧ t[i]? = some s := by
  intro t k j
  fun_induction Spec.LZW.indexOf s t k with
  | case1 => exact fun h => nomatch h
  | case2 k a as ha => exact fun h => ⟨0, (Option.some.inj h).symm, by simp [beq_iff_eq.mp ha]⟩
  | case3 k a as ha ih =>
    intro h
    obtain ⟨i, hj, hg⟩ := ih h
    exact ⟨i + 1, by omega, by simpa using hg⟩

theorem spec_codeOf_long (t : List Bytes) (s : Bytes) (c : Nat) (hlen : 2 ≤ s.length)
    (h : Spec.LZW.codeOf t s = some c) : ∃ i, c = 258 + i ∧ t[i]? = some s := by
  unfold Spec.LZW.codeOf at h
  split at h
  · simp at hlen
  · cases hi : Spec.LZW.indexOf s t 0 with
    | none => rw [hi] at h; simp at h
    | some j =>
      rw [hi] at h
      obtain ⟨i, hj, hg⟩ := spec_indexOf s t 0 j hi
      refine ⟨i, ?_, hg⟩
      have : j + 258 = c := by simpa using h
      omega

theorem encodeAux_first (early : Nat) (tab : List Bytes) (m b : Nat) (bs : Bytes) :
    Spec.LZW.encodeAux early tab m [] (b :: bs) = Spec.LZW.encodeAux early tab m [b] bs := by
  rw [Spec.LZW.encodeAux]

theorem encodeAux_hit (early : Nat) {tab : List Bytes} (m : Nat) {cur : Bytes} {b c : Nat} (bs : Bytes) (hne : cur ≠ [])
    (hc : Spec.LZW.codeOf tab (cur ++ [b]) = some c) :
    Spec.LZW.encodeAux early tab m cur (b :: bs) = Spec.LZW.encodeAux early tab m (cur ++ [b]) bs := by
  rw [Spec.LZW.encodeAux]
  · simp only [hc]
  · exact hne

theorem encodeAux_miss (early : Nat) {tab : List Bytes} (m : Nat) {cur : Bytes} {b code : Nat} (bs : Bytes) (hne : cur ≠ [])
    (hc : Spec.LZW.codeOf tab (cur ++ [b]) = none) (hcode : Spec.LZW.codeOf tab cur = some code) :
    Spec.LZW.encodeAux early tab m cur (b :: bs) =
      toBits (Spec.LZW.codeLen early (257 + m)) code ++
        if 257 + m + 1 + early ≥ 4095 then
          toBits (Spec.LZW.codeLen early (257 + m + 1)) 256 ++ Spec.LZW.encodeAux early [] 0 [b] bs
        else Spec.LZW.encodeAux early (tab ++ [cur ++ [b]]) (m + 1) [b] bs := by
  rw [Spec.LZW.encodeAux]
  · simp only [hc, hcode, bitsOf_eq_toBits]
    split <;> simp
  · exact hne

theorem encodeAux_nil (early : Nat) (tab : List Bytes) (m : Nat) :
    Spec.LZW.encodeAux early tab m [] [] = toBits (Spec.LZW.codeLen early (257 + m)) 257 := by
  rw [Spec.LZW.encodeAux, bitsOf_eq_toBits]

theorem encodeAux_end (early : Nat) {tab : List Bytes} (m : Nat) {cur : Bytes} {code : Nat} (hne : cur ≠ [])
    (hcode : Spec.LZW.codeOf tab cur = some code) :
    Spec.LZW.encodeAux early tab m cur [] = toBits (Spec.LZW.codeLen early (257 + m)) code ++
      toBits (Spec.LZW.codeLen early (257 + m + 1)) 257 := by
  rw [Spec.LZW.encodeAux]
  · simp only [hcode, bitsOf_eq_toBits]
  · exact hne

/-- The reference encoder `(tab, m, cur)` has written the codes of `B`; `sv` is the code of its
    current match. -/
structure EAt (tab : List Bytes) (m : Nat) (cur : Bytes) (sv : Option Nat) (B : Book) : Prop where
  min : B.Min
  room : B.hi + B.ec < 4095
  hi_m : B.hi = 257 + m
  tlen : tab.length = m
  tget : ∀ i, i < m → tab[i]? = some (B.S (258 + i))
  curv : match sv with
    | none => cur = [] ∧ B.last = none
    | some code => cur ≠ [] ∧ Spec.LZW.codeOf tab cur = some code ∧ B.S code = cur ∧ B.Sendable code

theorem EAt.width {tab : List Bytes} {m : Nat} {cur : Bytes} {sv : Option Nat} {B : Book} (hB : B.OK)
    (h : EAt tab m cur sv B) : Spec.LZW.codeLen B.ec (257 + m) = B.width := h.hi_m ▸ book_codeLen hB h.min

theorem EAt.width_sent {tab : List Bytes} {m : Nat} {cur : Bytes} {sv : Option Nat} {B : Book} (hB : B.OK)
    (h : EAt tab m cur sv B) {code : Nat} (hc : B.Sendable code) :
    Spec.LZW.codeLen B.ec (257 + m + 1) = (B.sent code).width :=
  (congrArg (Spec.LZW.codeLen B.ec) (show 257 + m + 1 = (B.sent code).hi by
    have := h.hi_m; show _ = B.hi + 1; omega)).trans (book_codeLen (hB.sent hc) (h.min.sent hB hc))

theorem EAt.first {tab : List Bytes} {m : Nat} {B : Book} (hB : B.OK) (h : EAt tab m [] none B) (b : Nat) (hb : b < 256) :
    EAt tab m [b] (some b) B :=
  { h with curv := ⟨by simp, rfl, hB.lit b hb, Book.sendable_lit h.room h.curv.2 hb⟩ }

theorem EAt.hit {tab : List Bytes} {m : Nat} {cur : Bytes} {code : Nat} {B : Book} (hB : B.OK)
    (h : EAt tab m cur (some code) B) (b c : Nat) (hc : Spec.LZW.codeOf tab (cur ++ [b]) = some c) :
    EAt tab m (cur ++ [b]) (some c) B := by
  obtain ⟨hne, hcode, hScode, hsend⟩ := h.curv
  have hlen : 2 ≤ (cur ++ [b]).length := by
    cases cur with
    | nil => exact absurd rfl hne
    | cons a as => simp
  obtain ⟨i, hci, hgi⟩ := spec_codeOf_long tab (cur ++ [b]) c hlen hc
  have him : i < m := h.tlen ▸ (List.getElem?_eq_some_iff.mp hgi).1
  have hSc : B.S c = cur ++ [b] := by
    have := h.tget i him
    rw [hgi] at this
    rw [hci]; exact (Option.some.inj this).symm
  have hm := h.hi_m
  exact { h with curv := ⟨by simp, hc, hSc, hsend.grow hB (by omega) (by omega) (hScode ▸ hSc)⟩ }

theorem EAt.miss {tab : List Bytes} {m : Nat} {cur : Bytes} {code : Nat} {B : Book} (hB : B.OK)
    (h : EAt tab m cur (some code) B) (b : Nat) (hb : b < 256) (hc : Spec.LZW.codeOf tab (cur ++ [b]) = none) :
    ∃ tab1 m1, EAt tab1 m1 [b] (some b) (B.next code b) ∧ ∀ bs,
      Spec.LZW.encodeAux B.ec tab m cur (b :: bs) = B.emitted code ++ Spec.LZW.encodeAux B.ec tab1 m1 [b] bs := by
  obtain ⟨hne, hcode, hScode, hsend⟩ := h.curv
  obtain ⟨hnext, hSb⟩ := hsend.next hB hb
  have hm := h.hi_m
  have hroom := h.room
  have hw0 := h.width hB
  have hw1 := h.width_sent hB hsend
  have hiff : 257 + m + 1 + B.ec ≥ 4095 ↔ B.hi + 1 + B.ec = 4095 := by omega
  have henc : ∀ bs, Spec.LZW.encodeAux B.ec tab m cur (b :: bs) =
      toBits B.width code ++ (if 257 + m + 1 + B.ec ≥ 4095 then
        toBits (B.sent code).width 256 ++ Spec.LZW.encodeAux B.ec [] 0 [b] bs
      else Spec.LZW.encodeAux B.ec (tab ++ [cur ++ [b]]) (m + 1) [b] bs) :=
    fun bs => by rw [encodeAux_miss B.ec m bs hne hc hcode, hw0, hw1]
  have hcurv : [b] ≠ [] ∧ Spec.LZW.codeOf ([] : List Bytes) [b] = some b ∧ (B.next code b).S b = [b] ∧
      (B.next code b).Sendable b := ⟨by simp, rfl, hSb, hnext⟩
  have hmin := h.min.next hB hsend b
  rcases B.next_cases code b with ⟨hfull, hn, he⟩ | ⟨hfull, hn, he⟩
  · refine ⟨[], 0, { min := hmin, room := hnext.room, hi_m := by rw [hn]; rfl, tlen := rfl,
                     tget := fun i hi => (nomatch hi), curv := hcurv }, fun bs => ?_⟩
    rw [henc, if_pos (hiff.mpr hfull), he, List.append_assoc]
    rfl
  · refine ⟨tab ++ [cur ++ [b]], m + 1,
      { min := hmin, room := hnext.room, hi_m := by rw [hn]; show B.hi + 1 = _; omega,
        tlen := by simp [h.tlen], tget := fun i hi => ?_, curv := ⟨hcurv.1, rfl, hcurv.2.2⟩ }, fun bs => ?_⟩
    · rw [hn]
      show _ = some (updS B.S (B.hi + 1) (B.S code ++ [b]) (258 + i))
      by_cases hi' : i < m
      · rw [List.getElem?_append_left (h.tlen ▸ hi'), h.tget i hi', updS_lt _ _ (by omega)]
      · obtain rfl : i = m := by omega
        rw [List.getElem?_append_right (Nat.le_of_eq h.tlen), h.tlen, Nat.sub_self,
          show 258 + i = B.hi + 1 by omega, updS_self, hScode]
        rfl
    · rw [henc, if_neg (fun h' => hfull (hiff.mp h')), he]

/-- any decoder that follows the protocol reads what the reference encoder writes -/
theorem erun_follows {ρ : Type} {At : ρ → Book → Prop} {Rd : ρ → Bits → Bytes → Prop} (F : Follows At Rd)
    (xs : Bytes) (hx : AllBytes xs) : ∀ (tab : List Bytes) (m : Nat) (cur : Bytes) (sv : Option Nat) (r : ρ) (B : Book),
    B.OK → EAt tab m cur sv B → At r B → ∀ tl, Rd r (Spec.LZW.encodeAux B.ec tab m cur xs ++ tl) (cur ++ xs) := by
  induction xs with
  | nil =>
    intro tab m cur sv r B hB h hr tl
    have hw0 := h.width hB
    rw [List.append_nil]
    cases sv with
    | none =>
      obtain ⟨rfl, -⟩ := h.curv
      rw [encodeAux_nil, hw0]
      exact F.eof hB hr tl
    | some code =>
      -- the code of the match, then the EOD code; no clear code, even if the table has become full
      obtain ⟨hne, hcode, hScode, hsend⟩ := h.curv
      have hB1 := hB.sent hsend
      have hw1 := h.width_sent hB hsend
      obtain ⟨r1, hr1, hread⟩ := F.code hB hr hsend
      rw [encodeAux_end B.ec m hne hcode, hw0, hw1, List.append_assoc]
      have := hread _ _ (F.eof hB1 hr1 tl)
      rwa [hScode, List.append_nil] at this
  | cons b bs ih =>
    intro tab m cur sv r B hB h hr tl
    obtain ⟨hb, hbs⟩ := (allBytes_cons b bs).mp hx
    cases sv with
    | none =>
      obtain ⟨rfl, -⟩ := h.curv
      rw [encodeAux_first]
      exact ih hbs tab m [b] (some b) r B hB (h.first hB b hb) hr tl
    | some code =>
      cases hc : Spec.LZW.codeOf tab (cur ++ [b]) with
      | some c =>
        have := ih hbs tab m (cur ++ [b]) (some c) r B hB (h.hit hB b c hc) hr tl
        rwa [encodeAux_hit B.ec m bs h.curv.1 hc, show cur ++ b :: bs = cur ++ [b] ++ bs by simp]
      | none =>
        obtain ⟨-, -, hScode, hsend⟩ := h.curv
        obtain ⟨tab1, m1, hes, henc⟩ := h.miss hB b hb hc
        obtain ⟨r1, hr1, hread⟩ := F.emit hB hr hsend b
        have := ih hbs tab1 m1 [b] (some b) r1 _ (hB.next hsend b) hes hr1 tl
        rw [Book.next_ec] at this
        have := hread _ _ this
        rwa [hScode, ← List.append_assoc, ← henc] at this

theorem packBytes_eq (fuel : Nat) : ∀ bits : Bits, bits.length ≤ fuel →
    Spec.LZW.packBytes fuel bits = bitsToBytes bits := by
  induction fuel with
  | zero => intro bits h; rw [List.eq_nil_of_length_eq_zero (Nat.le_zero.mp h)]; rfl
  | succ f ih =>
    intro bits h
    by_cases hne : bits = []
    · subst hne; rfl
    · rw [Spec.LZW.packBytes, natOf_eq_ofBits, ih _ (by rw [List.length_drop]; omega), bitsToBytes_eq bits hne]
      exact hne

theorem spec_encode_eq (early : Bool) (x : Bytes) : Spec.LZW.encode early x =
    bitsToBytes (toBits initWidth clear ++ Spec.LZW.encodeAux (book0 early).ec [] 0 [] x) := by
  unfold Spec.LZW.encode
  simp only []
  rw [packBytes_eq _ _ (Nat.le_refl _), bitsOf_eq_toBits]
  rfl

/-- **The library's LZW reader reads what the reference encoder writes**, for every byte string
    and both `EarlyChange` settings (the reference encoder keeps a list of strings, searches it
    linearly, and — unlike the library — never sends a clear code right before EOD). -/
theorem model_reads_spec_lzw (early : Bool) (x : Bytes) (hx : AllBytes x) :
    decode early (Spec.LZW.encode early x) = (x, none) := by
  rw [spec_encode_eq, decode, bitpack_rt, List.append_assoc, decBits_leading_clear]
  exact erun_follows reader_follows x hx [] 0 [] none (R.init early) (book0 early) (book0_ok early)
    { min := .inl rfl, room := (by cases early <;> decide), hi_m := rfl, tlen := rfl, tget := fun _ hi => (nomatch hi),
      curv := ⟨rfl, rfl⟩ }
    (rat_init early) _

example : decode false (Spec.LZW.encode false [97, 97, 97, 97, 97, 97, 97, 98, 97, 98, 97, 98]) =
    ([97, 97, 97, 97, 97, 97, 97, 98, 97, 98, 97, 98], none) := by decide +kernel

end PdfVerif.C07faL
