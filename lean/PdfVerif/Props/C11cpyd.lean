import PdfVerif.Props.C11cpyc
/-!
C11 (continued) — the copier after a *failed* call: the state-returning functions `copyObjE` … `copyRefE`,
`runOpsE`, which the driver runs (the harness goes on using the Copier after a failed call).  `agree_main`,
`frame_main`, `runE_consistent`, `fuel_suffices_E` state in the conjunction and program form what `CPY.agrees`,
`C11cpy.frame_calls`, `C11cpyc.runOpsE_consistent`, `C11cpyb.runOpsE_no_fuel` prove.  A failed `CopyReference`
leaves `trans` unchanged and the state consistent (`failed_copy_keeps_consistent`, fixes d320179 + bdb0240;
witness `G1`); which streams the target's `Put` refuses (`put_refuses_*`, `put_takes`; witness `G2`, 5f1fc4f).
-/
namespace PdfVerif.C11cpyd
open PdfVerif PdfVerif.CPY PdfVerif.C11cpy PdfVerif.C11cpyb PdfVerif.C11cpyc

section
variable (G : Graph)

theorem agree_main : ∀ f : Nat,
    AObj G f ∧ AList G f ∧ AKV G f ∧ AInl G f ∧ ASD G f ∧ AVal G f ∧ ARef G f := fun f =>
  have a := agrees G f
  ⟨a.obj, a.list, a.kv, a.inl, a.sd, a.val, a.ref⟩

end

section
variable (G : Graph)

def RObj (f : Nat) : Prop := ∀ s o, Frame s (copyObjE f G s o).2
def RList (f : Nat) : Prop := ∀ s xs, Frame s (copyListE f G s xs).2
def RKV (f : Nat) : Prop := ∀ s L, Frame s (copyKVE f G s L).2
def RInl (f : Nat) : Prop := ∀ s src res key, Frame s (inlineKeyE f G s src res key).2
def RSD (f : Nat) : Prop := ∀ s src, Frame s (copyStreamDictE f G s src).2
def RVal (f : Nat) : Prop := ∀ s v, Frame s (copyValE f G s v).2
def RRef (f : Nat) : Prop := ∀ s r, Frame s (copyRefE f G s r).2

theorem frame_main : ∀ f : Nat,
    RObj G f ∧ RList G f ∧ RKV G f ∧ RInl G f ∧ RSD G f ∧ RVal G f ∧ RRef G f := by
  intro f
  have h := frame_calls G f
  exact ⟨h.obj, h.list, h.kv, h.inl, h.sd, h.val, h.ref⟩

end

theorem failed_copy_trans_unchanged {G : Graph} {f : Nat} {s s' : St} {r : Ref} {e : CErr}
    (h : copyRefE f G s r = (.error e, s')) : s'.trans = s.trans := by
  cases f with
  | zero => simp only [copyRefE] at h; cases h; rfl
  | succ f => exact (h ▸ copyRefE_step G f s r).failed

/-- A `CopyReference` that fails (unreadable object, crypt
filter the library cannot decode, malformed filter chain, ...) leaves `trans` unchanged; `next`
and the set of objects written only grow; a consistent state stays consistent — in particular
no later call can return a reference to an object that was never written. -/
theorem failed_copy_keeps_consistent {G : Graph} {Rd : List Ref} {f : Nat} {s s' : St} {r : Ref}
    {e : CErr} (hc : Consistent G Rd s) (h : copyRefE f G s r = (.error e, s')) :
    s'.trans = s.trans ∧ s.next ≤ s'.next ∧ Frame s s' ∧ Consistent G Rd s' := by
  have ht := failed_copy_trans_unchanged h
  have hf : Frame s s' := by have := (frame_calls G f).ref s r; rw [h] at this; exact this
  exact ⟨ht, hf.1, hf, frame_consistent hc hf ht⟩

/-- A whole program of Copy / CopyReference / (fresh) Redirect calls that
starts in a consistent state (a new Copier: `init_consistent`) — in which any number of calls may
*fail* and the caller just goes on — ends in a consistent state: whatever is translated (and was
not redirected by the caller) has been written and is the image of its source. -/
theorem runE_consistent {G : Graph} (hL : LinkInv G) {fuel : Nat} :
    ∀ (ops : List Op) (Rd : List Ref) (s : St) (roots : List (Except CErr Ref)),
      Consistent G Rd s → RedirectsFreshE fuel G s roots ops →
      Consistent G (redirectsOf ops ++ Rd) (runOpsE fuel G s roots ops).2
  | ops, Rd, s, roots, hc, hf => runOpsE_consistent hL ops Rd s roots hc hf

/-- In the run the driver performs — `runOpsE` with `fuelFor` —
no call ever reports that the budget is exhausted. -/
theorem fuel_suffices_E (G : Graph) (ops : List Op) (s : St) (roots : List (Except CErr Ref))
    (hr : ∀ x ∈ roots, x ≠ .error .fuel) :
    ∀ x ∈ (runOpsE (fuelFor G ops) G s roots ops).1, x ≠ .error .fuel :=
  runOpsE_no_fuel G ops ops (fun _ h => h) s roots hr

/-- the witness of D19/D19b, a failure inside a cycle: 3 → {A: 2, X: 4}, 2 → {P: 3}, 4 cannot be read -/
def G1 : Graph :=
  [ ((2, 0), ⟨.val (.obj (.dict [([80], .ref 3 0)])), false⟩),
    ((3, 0), ⟨.val (.obj (.dict [([65], .ref 2 0), ([88], .ref 4 0)])), false⟩),
    ((4, 0), ⟨.ioErr, false⟩) ]

def errOf {α : Type} : Except CErr α → Option CErr
  | .error e => some e
  | .ok _ => none

/-- `CopyReference(3)` fails with the read error of 4 *after* object 2 has been copied and written
    (as number 3, referring to the number 2 allocated for 3, which is never written).  The state
    left behind has an empty `trans` again (before fix bdb0240 it kept `2 ↦ 3`), two numbers are
    used up, one unreachable object is in the file — and `CopyReference(2)` afterwards fails the same
    way instead of answering with a stale reference. -/
example :
    let r1 := copyRefE 20 G1 (St.init 2) (3, 0)
    let r2 := copyRefE 20 G1 r1.2 (2, 0)
    errOf r1.1 = some .read ∧ r1.2.trans = [] ∧ r1.2.next = 4 ∧ r1.2.puts.map Prod.fst = [(3, 0)] ∧
    errOf r2.1 = some .read ∧ r2.2.trans = [] ∧ r2.2.next = 6 := by
  decide +kernel

/-! `Writer.Put` refuses a stream whose dictionary starts its /Filter with /Crypt when the target is
encrypted with /V < 4 (crypt filters do not exist there), and every non-Identity /Crypt filter (5f1fc4f).
For `CopyReference` the refusal is one more failing call, so `trans` is rolled back; where the caller writes
the result of `Copy` itself (`Op.copyGet`, `Op.copyObj`) there is nothing to roll back, and
`stepOpE_consistent` covers it. -/

/-- a stream whose (direct) dictionary starts /Filter with a well-formed /Crypt entry is refused
    by a target encrypted with /V 1, 2 or 3, whatever the crypt filter's name -/
theorem put_refuses_crypt_below_V4 {s : St} {r : Ref} {d : KV} {data : Bytes} {enc : Bool} {k : FKind}
    (hv : s.tgtV ≠ 0 ∧ s.tgtV < 4) (hk : dictCryptKind d = .ok (some k)) :
    put s r (.stream d data enc) = .error .other :=
  put_refused (by cases k <;> simp [putRefusal, hk, hv])

/-- a non-Identity /Crypt filter is refused by every target -/
theorem put_refuses_named_crypt {s : St} {r : Ref} {d : KV} {data : Bytes} {enc : Bool}
    (hk : dictCryptKind d = .ok (some .cryptCF)) :
    put s r (.stream d data enc) = .error .other :=
  put_refused (by simp only [putRefusal, hk])

/-- where the target has crypt filters or is not encrypted, an Identity /Crypt filter (and a
    stream without /Crypt filter, for every target) is taken -/
theorem put_takes {s : St} {r : Ref} {d : KV} {data : Bytes} {enc : Bool}
    (hfree : s.puts.any (fun p => p.1.1 == r.1) = false)
    (hk : dictCryptKind d = .ok none ∨ (dictCryptKind d = .ok (some .cryptId) ∧ (s.tgtV = 0 ∨ 4 ≤ s.tgtV))) :
    ∃ s', put s r (.stream d data enc) = .ok s' := by
  unfold put
  rw [hfree]
  rcases hk with hk | ⟨hk, hv⟩
  · simp [putRefusal, hk]
  · have : ¬ (s.tgtV ≠ 0 ∧ s.tgtV < 4) := by omega
    simp [putRefusal, hk, this]

/-- 2 → {S: 3, T: 4}, 4 → {}; 3 is a stream /Filter [/Crypt /FlateDecode] with /DecodeParms
    [<< /Name /Identity >> null] -/
def G2 : Graph :=
  [ ((2, 0), ⟨.val (.obj (.dict [([83], .ref 3 0), ([84], .ref 4 0)])), false⟩),
    ((3, 0), ⟨.val (.stream [(keyFilter, .arr [.name nameCrypt, .name [70, 108, 97, 116, 101, 68, 101, 99, 111, 100, 101]]),
                              (keyDecodeParms, .arr [.dict [(keyName, .name nameIdentity)], .null])] [1, 2, 3] false), false⟩),
    ((4, 0), ⟨.val (.obj (.dict [])), false⟩) ]

/-- Into a target encrypted with /V 2, `CopyReference(2)` fails with the refusal of the stream
    (class "other"), `trans` is empty again, the two numbers allocated are used up and nothing
    has been written; `CopyReference(4)` afterwards works.  Into an unencrypted target and into
    one with /V 4 the same call succeeds and writes the three objects. -/
example :
    let r1 := copyRefE 30 G2 (St.init 2 2) (2, 0)
    let r2 := copyRefE 30 G2 r1.2 (4, 0)
    errOf r1.1 = some .other ∧ r1.2.trans = [] ∧ r1.2.next = 4 ∧ r1.2.puts = [] ∧
    errOf r2.1 = none ∧ r2.2.trans.map Prod.fst = [(4, 0)] ∧ r2.2.puts.map Prod.fst = [(4, 0)] ∧
    errOf (copyRefE 30 G2 (St.init 2 0) (2, 0)).1 = none ∧
    (copyRefE 30 G2 (St.init 2 4) (2, 0)).2.puts.map Prod.fst = [(3, 0), (4, 0), (2, 0)] := by
  decide +kernel

/-- the caller's own `Put` of the copied stream (`v := Get(3); o := Copy(v); Put(Alloc(), o)`)
    is refused by the same target: the operation fails, one number is used up, `trans` is as
    before (the stream refers to no other object) -/
example :
    let r := stepOpE 30 G2 (St.init 2 2) [] (.copyGet (3, 0))
    errOf r.1 = some .other ∧ r.2.trans = [] ∧ r.2.next = 3 ∧ r.2.puts = [] := by
  decide +kernel

end PdfVerif.C11cpyd
