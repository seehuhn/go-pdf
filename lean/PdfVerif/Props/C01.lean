import PdfVerif.Props.C04hisc
/-!
# C01 — object syntax round trip: property theorems

Statements are about the models `Model/Format.lean` (types.go) and `Model/Scan.lean`
(scanner.go), which the C01 correspondence run ties to the code; byte-class facts come from
the regenerated `Generated/Facts.lean`.
-/
namespace PdfVerif.C01
open PdfVerif

/-- a byte that `formatName` writes unescaped is regular and not `#`: that is what the escape test says -/
theorem plain_regular {c : Nat} (h : nameNeedsEsc c = false) : isRegular c = true ∧ c ≠ 35 := by
  simp [nameNeedsEsc] at h
  exact ⟨h.1.1.1, h.2⟩

theorem hexLower_nibble : ∀ n, n < 16 → hexVal (hexLower n) = some n ∧ isRegular (hexLower n) = true := by
  simp only [C01L.isRegular_eq]; decide +kernel

theorem hash_regular : isRegular 35 = true := by rw [C01L.isRegular_eq]; decide

/-- what may follow a name: end of input or a byte that ends the token -/
def NameEnd : Bytes → Prop
  | [] => True
  | d :: _ => isRegular d = false ∧ (d == 35) = false

theorem fmtNameBody_plain {c : Nat} (h : nameNeedsEsc c = false) (cs : Bytes) :
    fmtNameBody (c :: cs) = c :: fmtNameBody cs := by
  simp only [fmtNameBody, h, Bool.false_eq_true, if_false, List.cons_append, List.nil_append]

theorem fmtNameBody_esc {c : Nat} (h : nameNeedsEsc c = true) (cs : Bytes) :
    fmtNameBody (c :: cs) = 35 :: hexLower (c / 16) :: hexLower (c % 16) :: fmtNameBody cs := by
  simp only [fmtNameBody, h, if_true, List.cons_append, List.nil_append]

theorem fmtNameBody_length_ge (n : Bytes) : n.length ≤ (fmtNameBody n).length := by
  induction n with
  | nil => exact Nat.le_refl _
  | cons c cs ih =>
    cases he : nameNeedsEsc c
    · rw [fmtNameBody_plain he]; exact Nat.succ_le_succ ih
    · rw [fmtNameBody_esc he]; simp only [List.length_cons]; omega

theorem fmtNameBody_nameR (n : Bytes) (hn : AllBytes n) : Spec.Grammar.NameR n (fmtNameBody n) := by
  induction n with
  | nil => exact .nil
  | cons c cs ih =>
    obtain ⟨hc, hcs⟩ := (allBytes_cons c cs).mp hn
    cases he : nameNeedsEsc c
    · obtain ⟨h1, h2⟩ := plain_regular he
      rw [fmtNameBody_plain he]
      exact .plain c cs _ hc ((C01L.isRegular_eq c).symm.trans h1) h2 (ih hcs)
    · rw [fmtNameBody_esc he]
      exact .esc c _ _ cs _ hc (hexLower_nibble (c / 16) (by omega)).1 (hexLower_nibble (c % 16) (by omega)).1 (ih hcs)

theorem NameEnd.spec {rest : Bytes} (h : NameEnd rest) : C04hisc.NameEnd rest := by
  cases rest with
  | nil => trivial
  | cons d ds => exact (C01L.isRegular_eq d).symm.trans h.1

/-- **Name round trip** (`formatName` read by `ReadName`): for every byte string of at most
`maxNameBytes` bytes, before every continuation that ends the token. -/
theorem name_rt (n : Bytes) (hn : AllBytes n) (hlen : n.length ≤ Gen.scanner_maxNameBytes)
    (rest : Bytes) (hrest : NameEnd rest) :
    readName (fmtName n ++ rest) = .ok (n, rest) :=
  C04hisc.name_any_spelling n _ (fmtNameBody_nameR n hn) hlen rest hrest.spec

/-- the bytes `formatName` writes after the slash are regular: the writer never emits a delimiter or
    white space inside a name -/
theorem name_bytes_regular (n : Bytes) (hn : AllBytes n) :
    ∀ b ∈ fmtNameBody n, isRegular b = true := by
  induction n with
  | nil => exact nofun
  | cons c cs ih =>
    obtain ⟨hc, hcs⟩ := (allBytes_cons c cs).mp hn
    intro b hb
    cases he : nameNeedsEsc c
    · rw [fmtNameBody_plain he] at hb
      rcases List.mem_cons.mp hb with rfl | hb
      · exact (plain_regular he).1
      · exact ih hcs b hb
    · rw [fmtNameBody_esc he] at hb
      simp only [List.mem_cons] at hb
      rcases hb with rfl | rfl | rfl | hb
      · exact hash_regular
      · exact (hexLower_nibble _ (by omega)).2
      · exact (hexLower_nibble _ (by omega)).2
      · exact ih hcs b hb

-- non-vacuity: a concrete name with escapes meets the hypotheses and round-trips
example : (match readName (fmtName [65, 32, 35, 255] ++ [47]) with
    | .ok (n, r) => n == [65, 32, 35, 255] && r == [47] | _ => false) = true := by decide +kernel

end PdfVerif.C01
