import PdfVerif.Lemmas.CMapBox
/-!
# C13 — CMap and ToUnicode mappings (part 1): `rangeIndex` / `codesInRange`

`rangeIndex` (lookup position inside a rectangular range, `font/cmap/file.go`) and
`codesInRange` (enumeration order, `font/cmap/range.go`) are inverse bijections between the
codes of the box and `0 … boxCount-1` (mixed radix, most significant byte first), up to the cap
`math.MaxInt32` of `rangeIndex`.  Hence `LookupCID`/`Lookup` and `All` assign the same value to every code of a range.
The box vocabulary and the two characterisations these theorems are read off (`rangeIndex_eq_some`,
`codesInRange_getElem?`) are in Lemmas/CMapBox.lean.
-/
namespace PdfVerif.C13cc
open PdfVerif PdfVerif.CC PdfVerif.CMap

/-- `rangeIndex` (`font/cmap/file.go`) returns the mixed-radix position, and fails exactly outside the box or beyond
`math.MaxInt32`.  (`hc` is not needed: `CMap.rangeIndex_eq_some`.) -/
theorem rangeIndex_iff (f l c : Bytes) (hc : c ≠ []) (i : Nat) :
    rangeIndex f l c = some i ↔ InBox f l c ∧ mixedIndex f l c = i ∧ i ≤ maxInt32 :=
  rangeIndex_eq_some f l c i

/-- `codesInRange(first,last)` yields, at position `j`, the index `j`
and a code of the box whose `rangeIndex` is `j`: enumeration order and lookup position agree. -/
theorem rangeIndex_enum (first last : Bytes) (n j : Nat) (p : Nat × Bytes)
    (h : (codesInRange first last n)[j]? = some p) :
    p.1 = j ∧ InBox first last p.2 ∧ (j ≤ maxInt32 → rangeIndex first last p.2 = some j) := by
  by_cases hv : rangeIsValid first last = true
  · obtain ⟨_, h1, h2, h3⟩ := (codesInRange_getElem? first last n hv j p).mp h
    exact ⟨h1, h2, fun hj => (rangeIndex_eq_some ..).mpr ⟨h2, h3, hj⟩⟩
  · simp [codesInRange, hv] at h

/-- Every code of the box appears in `codesInRange`, at its mixed-radix position (as far as the enumeration is allowed to
run): with `rangeIndex_enum`, enumeration and `rangeIndex` are inverse to each other up to `math.MaxInt32` (beyond it:
Props/C13cck.lean). -/
theorem codesInRange_complete (first last c : Bytes) (n : Nat) (hv : rangeIsValid first last = true)
    (hc : InBox first last c) (hn : mixedIndex first last c < n) :
    (codesInRange first last n)[mixedIndex first last c]? = some (mixedIndex first last c, c) :=
  (codesInRange_getElem? first last n hv _ _).mpr ⟨hn, rfl, hc, rfl⟩

theorem codesInRange_length (first last : Bytes) (n : Nat) (hv : rangeIsValid first last = true) :
    (codesInRange first last n).length = min n (boxCount first last) :=
  length_codesInRange first last n hv

/-- non-vacuity: the box `<10 fe>`–`<11 ff>` has four codes -/
example : codesInRange [0x10, 0xfe] [0x11, 0xff] 10 =
    [(0, [0x10, 0xfe]), (1, [0x10, 0xff]), (2, [0x11, 0xfe]), (3, [0x11, 0xff])] := by decide +kernel
example : rangeIndex [0x10, 0xfe] [0x11, 0xff] [0x11, 0xfe] = some 2 := by decide +kernel

end PdfVerif.C13cc
