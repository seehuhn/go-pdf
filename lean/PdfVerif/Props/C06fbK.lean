import PdfVerif.Props.C06fbE
/-!
# C06 (CCITTFax, work package FB): mixed one- and two-dimensional coding (K > 0)

Rows are tagged (`1` = 1-D, `0` = 2-D, every K-th row 1-D), optionally preceded by an EOL code and followed by fill
bits; the data end with the return-to-control sequence of six `EOL+1`.  The reader (`decodeG3ScanLine2D`) skips EOL
codes (`skipEOLs`), reads the tag bit, recognises the return-to-control sequence by "tag 1 followed by eleven zeros"
and otherwise runs the 1-D or the 2-D row decoder.  Row theorems, row loop (`readRows_of_steps`) and
`stream_rt_of_loop` are those of `C06faC`; `ccitt_stream_rt` is the round trip for every K.
-/
namespace PdfVerif.C06fbK
open PdfVerif PdfVerif.FB PdfVerif.Gen PdfVerif.C06fbt PdfVerif.C06faC PdfVerif.C06fbA PdfVerif.C06fbE

theorem take_ne_zero (a t : Bits) (n : Nat) (ha : 1 ≤ bitsToNat a) (h1 : a.length ≤ n) (h2 : n ≤ (a ++ t).length) :
    bitsToNat ((a ++ t).take n) ≠ 0 := by
  rw [bitsToNat_take_append a t n h1 h2]
  have : 1 ≤ 2 ^ (n - a.length) := Nat.one_le_two_pow
  have := Nat.mul_le_mul ha this
  omega

theorem white_code_pos (i : Nat) (hi : i < 104) : 1 ≤ (codeEntry true i).1 := (code_facts true i hi).pos

/-- no EOL code ahead: `skipEOLs` only looks -/
theorem skipEOLs_none (r : Rd) (f : Nat) (he : Rd.clean r) (h11 : 11 ≤ (Rd.stream r).length)
    (hnz : bitsToNat ((Rd.stream r).take 11) ≠ 0) :
    Rd.clean (r.skipEOLs (f + 1)) ∧ Rd.stream (r.skipEOLs (f + 1)) = Rd.stream r ∧ (r.skipEOLs (f + 1)).line = r.line := by
  obtain ⟨p1, p2, p3, p4⟩ := peek_spec r 11 he (by omega) h11
  rw [Rd.skipEOLs, if_pos he.1]
  rcases hpk : r.peek 11 with ⟨v, r1⟩
  rw [hpk] at p1 p2 p3 p4
  simp only at p1 p2 p3 p4 ⊢
  rw [if_neg (by rw [p1]; exact hnz)]
  exact ⟨p2, p3, p4⟩

/-- one EOL code ahead, no second one behind it: consumed -/
theorem skipEOLs_one (r : Rd) (tl : Bits) (f : Nat) (he : Rd.clean r) (hs : Rd.stream r = codeBits 1 12 ++ tl)
    (h11 : 11 ≤ tl.length) (hnz : bitsToNat (tl.take 11) ≠ 0) :
    Rd.clean (r.skipEOLs (f + 2)) ∧ Rd.stream (r.skipEOLs (f + 2)) = tl ∧ (r.skipEOLs (f + 2)).line = r.line := by
  rw [eol12_bits, List.append_assoc] at hs
  have hlen : 11 ≤ (Rd.stream r).length := by rw [hs]; simp
  obtain ⟨p1, p2, p3, p4⟩ := peek_spec r 11 he (by omega) hlen
  have hv : (r.peek 11).1 = 0 := by
    rw [p1, hs, List.take_left' (List.length_replicate ..)]
    decide
  obtain ⟨c1, c2, c3⟩ := consume_spec (r.peek 11).2 11 p2 (by omega) (by rw [p3]; omega)
  rw [p3, hs, List.drop_left' (List.length_replicate ..)] at c2
  rw [Rd.skipEOLs, if_pos he.1]
  rcases hpk : r.peek 11 with ⟨v, r1⟩
  rw [hpk] at hv c1 c2 c3 p4
  simp only at hv c1 c2 c3 p4 ⊢
  rw [if_pos hv]
  generalize hr2 : r1.consume 11 = r2 at c1 c2 c3
  have hbl : r2.bitsLeft + 2 = (r2.bitsLeft + 1) + 1 := by omega
  obtain ⟨v1, v2, v3⟩ := waitForOne_one r2 tl (r2.bitsLeft + 1) c1 (by rw [c2]; rfl)
  rw [hbl]
  obtain ⟨s1, s2, s3⟩ := skipEOLs_none (r2.waitForOne (r2.bitsLeft + 1 + 1)) f v1 (by rw [v2]; exact h11) (by rw [v2]; exact hnz)
  exact ⟨s1, by rw [s2, v2], by rw [s3, v3, c3, p4]⟩

/-- no white code word starts with eleven zeros (the reader's test for the return-to-control
sequence cannot fire on a 1-D row) -/
theorem white_head_nz (i : Nat) (hi : i < 104) (t : Bits) (h : 11 ≤ (codeWord true i ++ t).length) :
    bitsToNat ((codeWord true i ++ t).take 11) ≠ 0 := by
  have hb := (code_facts true i hi).head
  unfold codeWord at h ⊢
  generalize (codeEntry true i).1 = c at *
  generalize (codeEntry true i).2.1 = w at *
  by_cases hw : 11 ≤ w
  · rw [List.take_append_of_le_length (by rw [codeBits_length]; exact hw)]; omega
  · rw [List.take_of_length_le (by rw [codeBits_length]; omega)] at hb
    exact take_ne_zero _ t 11 hb (by rw [codeBits_length]; omega) h

/-- `decodeG3ScanLine2D` up to the tag bit: an EOL code, if there is one, is skipped (no second one follows: the
next eleven bits are not all zero) and the tag bit `b` is read -/
theorem g32d_tag (p : CParams) (r : Rd) (eol : Bits) (heol : eol = [] ∨ eol = codeBits 1 12) (b : Bool) (tl refLine : Bits)
    (he : Rd.clean r) (hs : Rd.stream r = eol ++ (b :: tl)) (h11 : 11 ≤ (b :: tl).length)
    (hnz : bitsToNat ((b :: tl).take 11) ≠ 0) :
    ∃ r2, Rd.clean r2 ∧ Rd.stream r2 = tl ∧
      r.decodeG32D p refLine =
        if (if b then 1 else 0) = 1 then
          if !p.ignoreEOB ∧ r2.err = 0 then
            let (v, r3) := r2.peek 11
            if v = 0 then { r3 with line := [], err := 1 } else r3.decode1D p
          else r2.decode1D p
        else (r2.decode2D p refLine).alignRow p := by
  have hskip : Rd.clean (r.skipEOLs (r.bitsLeft + 2)) ∧ Rd.stream (r.skipEOLs (r.bitsLeft + 2)) = b :: tl := by
    rcases heol with h | h
    · rw [h, List.nil_append] at hs
      obtain ⟨s1, s2, _⟩ := skipEOLs_none r (r.bitsLeft + 1) he (by rw [hs]; exact h11) (by rw [hs]; exact hnz)
      exact ⟨s1, by rw [s2, hs]⟩
    · rw [h] at hs
      obtain ⟨s1, s2, _⟩ := skipEOLs_one r _ r.bitsLeft he hs h11 hnz
      exact ⟨s1, s2⟩
  obtain ⟨s1, s2⟩ := hskip
  unfold Rd.decodeG32D
  simp only []
  generalize r.skipEOLs (r.bitsLeft + 2) = r1 at s1 s2
  obtain ⟨t1, t2, t3, _⟩ := readBits_one r1 b tl s1 s2
  rcases hrb : r1.readBits 1 with ⟨tp, r2⟩
  rw [hrb] at t1 t2 t3
  simp only at t1 t2 t3 ⊢
  subst t1
  exact ⟨r2, t2, t3, rfl⟩

/-- a 1-D coded row of a mixed stream (optional EOL code, tag bit 1, the row's 1-D code) -/
theorem g32d_row_1d (p : CParams) (hc : 0 < p.columns) (row : Bytes) (r : Rd) (rest refLine : Bits)
    (hlen : row.length = p.lineBytes) (hpad : paddingOk p row = true) (he : Rd.clean r)
    (hs : Rd.stream r = eolp p ++ (true :: (encode1DLine p (pixelsOf p row) ++ rest))) (hrest : 13 ≤ rest.length) :
    ∃ r', r.decodeG32D p refLine = r'.alignRow p ∧ Rd.clean r' ∧ Rd.stream r' = rest ∧ r'.line = bytesToBits row := by
  obtain ⟨i, tail, hi, hhead⟩ := encode1DLine_head p (pixelsOf p row) (pixelsOf_ne_nil p hc row)
  have h11 : 11 ≤ (true :: (encode1DLine p (pixelsOf p row) ++ rest)).length := by
    simp only [List.length_cons, List.length_append]; omega
  obtain ⟨r2, t2, t3, hd⟩ := g32d_tag p r _ (eolp_cases p) true _ refLine he hs h11
    (take_ne_zero [true] _ 11 (by decide) (by simp) (by simpa using h11))
  rw [hd, if_pos (by simp)]
  by_cases hg : (!p.ignoreEOB) = true ∧ r2.err = 0
  · -- the return-to-control test looks at eleven bits of the row's first code word
    have h11' : 11 ≤ (Rd.stream r2).length := by rw [t3]; simp only [List.length_append]; omega
    obtain ⟨p1, p2, p3, _⟩ := peek_spec r2 11 t2 (by omega) h11'
    have hv : (r2.peek 11).1 ≠ 0 := by
      rw [p1, t3, hhead, List.append_assoc]
      apply white_head_nz i hi
      rw [← List.append_assoc, ← hhead, ← t3]; exact h11'
    rcases hpk : r2.peek 11 with ⟨v, r3⟩
    rw [hpk] at p2 p3 hv
    rw [if_pos hg]
    simp only at p2 p3 hv ⊢
    rw [if_neg hv]
    exact ccitt_g3_1d_row_rt_pre p row r3 rest hc hlen hpad p2 (by rw [p3, t3]) hrest
  · rw [if_neg hg]
    exact ccitt_g3_1d_row_rt_pre p row r2 rest hc hlen hpad t2 t3 hrest

/-- a 2-D coded row of a mixed stream (optional EOL code, tag bit 0, the row's 2-D code) -/
theorem g32d_row_2d (p : CParams) (hc : 0 < p.columns) (row : Bytes) (r : Rd) (rest refLine : Bits)
    (hlen : row.length = p.lineBytes) (hpad : paddingOk p row = true) (he : Rd.clean r)
    (hs : Rd.stream r = eolp p ++ (false :: (encode2DLine p ((refLine.take p.columns).map b2n) (pixelsOf p row) ++ rest)))
    (hrest : 13 ≤ rest.length) :
    ∃ r', r.decodeG32D p refLine = r'.alignRow p ∧ Rd.clean r' ∧ Rd.stream r' = rest ∧ r'.line = bytesToBits row := by
  obtain ⟨i, tail, hi, hhead⟩ := encode2DLine_head p hc ((refLine.take p.columns).map b2n) (pixelsOf p row)
  obtain ⟨hfit, hw1, hw7⟩ := modeEntry_fits i hi
  have hpos := modeEntry_code_pos i hi
  have h11 : 11 ≤ (false :: (encode2DLine p ((refLine.take p.columns).map b2n) (pixelsOf p row) ++ rest)).length := by
    simp only [List.length_cons, List.length_append]; omega
  -- tag bit 0 and a mode code: not eleven zeros
  have hnz : bitsToNat ((false :: (encode2DLine p ((refLine.take p.columns).map b2n) (pixelsOf p row) ++ rest)).take 11) ≠ 0 := by
    rw [hhead]
    have e : false :: (codeBits (modeEntry i).1 (modeEntry i).2.1 ++ tail ++ rest) =
        (false :: codeBits (modeEntry i).1 (modeEntry i).2.1) ++ (tail ++ rest) := by simp
    rw [e]
    apply take_ne_zero
    · rw [bitsToNat_cons, bitsToNat_codeBits, Nat.mod_eq_of_lt hfit]; simp; omega
    · simp only [List.length_cons, codeBits_length]; omega
    · rw [← e, ← hhead]; exact h11
  obtain ⟨r2, t2, t3, hd⟩ := g32d_tag p r _ (eolp_cases p) false _ refLine he hs h11 hnz
  rw [hd, if_neg (by simp)]
  obtain ⟨d1, d2, d3⟩ := ccitt_g4_row_rt p refLine row r2 rest hc hlen hpad t2 t3 hrest
  exact ⟨_, rfl, d1, d2, d3⟩

theorem eol1_bits : codeBits 3 13 = codeBits 1 12 ++ [true] := by decide

/-- six times EOL+1 (`endOfBlockBits_kpos`) -/
def rtcK : Bits := (List.replicate 6 (codeBits 3 13)).flatten

theorem rtcK_split : rtcK = codeBits 1 12 ++ (true :: (List.replicate 11 false ++
    ([true, true] ++ (List.replicate 4 (codeBits 3 13)).flatten))) := by decide

theorem rtcK_length : rtcK.length = 78 := by decide

/-- the return-to-control sequence of a mixed stream: EOL+1 followed by another EOL ends the data -/
theorem g32d_rtc (p : CParams) (hig : p.ignoreEOB = false) (r : Rd) (pad refLine : Bits) (he : Rd.clean r)
    (hs : Rd.stream r = rtcK ++ pad) :
    (r.decodeG32D p refLine).err = 1 ∧ (r.decodeG32D p refLine).line = [] := by
  rw [rtcK_split, List.append_assoc] at hs
  generalize htl : List.replicate 11 false ++ ([true, true] ++ (List.replicate 4 (codeBits 3 13)).flatten) = z at hs
  have hz : 11 ≤ z.length := by rw [← htl]; simp
  have hz0 : z.take 11 = List.replicate 11 false := by
    rw [← htl, List.take_left' (List.length_replicate ..)]
  have h11 : 11 ≤ (true :: (z ++ pad)).length := by simp only [List.length_append, List.length_cons]; omega
  obtain ⟨r2, t2, t3, hd⟩ := g32d_tag p r _ (.inr rfl) true (z ++ pad) refLine he (by rw [hs]; rfl) h11
    (take_ne_zero [true] _ 11 (by decide) (by simp) (by simpa using h11))
  have h11' : 11 ≤ (Rd.stream r2).length := by rw [t3, List.length_append]; omega
  obtain ⟨p1, _, _, _⟩ := peek_spec r2 11 t2 (by omega) h11'
  have hv : (r2.peek 11).1 = 0 := by
    rw [p1, t3, List.take_append_of_le_length hz, hz0]; decide
  rw [hd, if_pos (by simp), if_pos ⟨by simp [hig], t2.1⟩]
  rcases hpk : r2.peek 11 with ⟨v, r3⟩
  rw [hpk] at hv
  simp only at hv ⊢
  rw [if_pos hv]
  exact ⟨rfl, rfl⟩

theorem endOfBlockBits_kpos (p : CParams) (hk : p.k > 0) (hig : p.ignoreEOB = false) : endOfBlockBits p = rtcK := by
  unfold endOfBlockBits rtcK
  rw [hig, if_neg (by simp), if_neg (by omega), if_neg (by omega)]

/-- the reader's row loop over a mixed stream and the return-to-control sequence -/
theorem readRows_kpos (p : CParams) (hk : p.k > 0) (hc : 0 < p.columns) (hig : p.ignoreEOB = false)
    (pad : Bits) (hmod : p.byteAlign = true → (rtcK ++ pad).length % 8 = 0) :
    ∀ (rows : List Bytes) (r : Rd) (numRows fuel : Nat) (refLine : Bits) (c2 : Nat), Rd.clean r →
      refLine.length = 8 * p.lineBytes →
      Rd.stream r = allRowBitsP p rows c2 ((refLine.take p.columns).map b2n) ++ (rtcK ++ pad) →
      Rows2DOk p rows → (p.maxRows = 0 ∨ numRows + rows.length ≤ p.maxRows) → rows.length < fuel →
      Rd.readRows r p fuel numRows refLine = (rows, 1) := by
  have hds : ∀ (r : Rd) (ref : Bits), (r.decodeScanLine p ref).1 = r.decodeG32D p ref := by
    intro r ref; unfold Rd.decodeScanLine; rw [if_neg (by omega), if_neg (by omega)]
  intro rows r numRows fuel refLine c2 he hrl hs hok hmax hf
  refine readRows_of_steps p hc
    (fun r ref rows => ref.length = 8 * p.lineBytes ∧ Rd.clean r ∧ ∃ c2, Rd.stream r =
      allRowBitsP p rows c2 ((ref.take p.columns).map b2n) ++ (rtcK ++ pad))
    ?_ ?_ rows r refLine numRows fuel ⟨hrl, he, c2, hs⟩ hok hmax hf
  · rintro r ref ⟨_, he, c2, hs⟩
    obtain ⟨e1, e2⟩ := g32d_rtc p hig r pad ref he hs
    rw [hds]
    exact .inr ⟨he.1, e2, e1⟩
  · rintro r ref row rest hlen hpad ⟨hrl, he, c2, hs⟩
    rw [allRowBitsP_cons] at hs
    generalize hpx : (ref.take p.columns).map b2n = refpx at hs
    have hrow : ∃ r', r.decodeG32D p ref = r'.alignRow p ∧ Rd.clean r' ∧
        Rd.stream r' = padOf p (encodeRowBits p c2 refpx (pixelsOf p row)).1 ++
          (allRowBitsP p rest (encodeRowBits p c2 refpx (pixelsOf p row)).2 (pixelsOf p row) ++ (rtcK ++ pad)) ∧
        r'.line = bytesToBits row := by
      have hrest : ∀ (x y : Bits), 13 ≤ (x ++ (y ++ (rtcK ++ pad))).length := by
        intro x y; simp only [List.length_append, rtcK_length]; omega
      rw [encodeRowBits_kpos p hk] at hs ⊢
      by_cases h1d : (c2 : Int) ≥ p.k - 1
      · simp only [h1d, if_true] at hs ⊢
        apply g32d_row_1d p hc row r _ ref hlen hpad he _ (hrest _ _)
        rw [hs]; simp [List.append_assoc]
      · simp only [h1d, if_false] at hs ⊢
        apply g32d_row_2d p hc row r _ ref hlen hpad he _ (hrest _ _)
        rw [hs, hpx]; simp [List.append_assoc]
    obtain ⟨r', e0, g2, g3, g4⟩ := hrow
    obtain ⟨a1, a2, a3⟩ := alignRow_rows p r' _ _ rest _ _ g2 g3 hmod
    rw [← e0, ← hds r ref] at a1 a2 a3
    have hline : (r.decodeScanLine p ref).1.line = bytesToBits row := by rw [a3, g4]
    obtain ⟨hrl', hpx⟩ := decodeScanLine_ref r p ref row hlen hrl hline
    generalize (r.decodeScanLine p ref).1 = r2 at a1 a2 hline ⊢
    refine ⟨he.1, hline, hrl', a1, (encodeRowBits p c2 refpx (pixelsOf p row)).2, ?_⟩
    rw [hpx]
    exact a2

/-- mixed one- and two-dimensional stream round trip (K > 0, EndOfLine any, EncodedByteAlign any,
with the return-to-control sequence): every list of admissible rows is decoded back, for any row
limit `M` of the reader that is `0` or not below the number of rows -/
theorem ccitt_kpos_stream_rt (p : CParams) (M : Nat) (rows : List Bytes)
    (hk : p.k > 0) (hig : p.ignoreEOB = false)
    (hc : 0 < p.columns) (hok : Rows2DOk p rows) (hmaxE : p.maxRows = 0 ∨ rows.length ≤ p.maxRows)
    (hmaxD : M = 0 ∨ rows.length ≤ M) :
    decodeAll { p with maxRows := M } (encodeAll p rows.flatten).1 = (rows.flatten, 1) := by
  refine stream_rt_of_loop p M rows hc hok hmaxE fun pad r fuel hmod he hs hf => ?_
  rw [endOfBlockBits_kpos p hk hig] at hmod hs
  rw [if_pos (by omega)]
  exact readRows_kpos { p with maxRows := M } hk hc hig pad hmod rows r 0 fuel _ 0 he (by simp; exact Nat.mul_comm _ _)
    (by
      show Rd.stream r = allRowBitsP _ rows 0 (((List.replicate (p.lineBytes * 8) (!p.blackIs1)).take p.columns).map b2n) ++ _
      rw [initial_ref_pixels]; exact hs) hok (by simpa using hmaxD) hf

/-- CCITTFax stream round trip: every K, EndOfLine and EncodedByteAlign, with the end-of-block pattern -/
theorem ccitt_stream_rt (p : CParams) (M : Nat) (rows : List Bytes) (hig : p.ignoreEOB = false)
    (hc : 0 < p.columns) (hok : Rows2DOk p rows) (hmaxE : p.maxRows = 0 ∨ rows.length ≤ p.maxRows)
    (hmaxD : M = 0 ∨ rows.length ≤ M) :
    decodeAll { p with maxRows := M } (encodeAll p rows.flatten).1 = (rows.flatten, 1) := by
  by_cases hk0 : p.k ≤ 0
  · exact stream_rt_kle0 p M rows hk0 hig hc hok hmaxE hmaxD
  · exact ccitt_kpos_stream_rt p M rows (by omega) hig hc hok hmaxE hmaxD

/-- the parameter classes for which the round trip is a THEOREM: EVERY K (Group 4, Group 3 1-D,
mixed), EndOfLine any, EncodedByteAlign any — with the end-of-block pattern.  Validated only
(oracle `fb-ccitt-rt`, model correspondence, x/image/ccitt on every run): `IgnoreEndOfBlock`
(no EOFB/RTC, termination by `/Rows`; the reader's look-ahead runs beyond the end of the data, so
`Rd.clean` does not hold at the last rows; `regress_noeob` evaluates one such stream). -/
def provedClass (f : FCCITT) : Prop := f.ignoreEOB = false

/-- `ccitt_rt_statement` for every filter value with the end-of-block pattern -/
theorem ccitt_rt_supported_partial : ccitt_rt_supported_statement provedClass := by
  intro f rows hv hadm _ hig
  exact rt_of_stream_rt f rows hv hadm fun M hc hok hmaxE hmaxD =>
    ccitt_stream_rt f.encParams M rows hig hc hok hmaxE hmaxD

-- non-vacuity: K = 2 with EOL codes and fill bits, three rows (1-D, 2-D, 1-D)
example : (⟨2, true, true, 10, 0, false, false, 0⟩ : FCCITT).validate = true ∧
    ccittAdmissible (⟨2, true, true, 10, 0, false, false, 0⟩ : FCCITT).encParams [[0xAA, 0x80], [0xFF, 0xC0], [0x0F, 0x00]] ∧
    provedClass ⟨2, true, true, 10, 0, false, false, 0⟩ := by
  refine ⟨by decide, by decide, rfl⟩
example : decodeAll (⟨2, true, true, 10, 0, false, false, 0⟩ : FCCITT).decParams
    (encodeAll (⟨2, true, true, 10, 0, false, false, 0⟩ : FCCITT).encParams [0xAA, 0x80, 0xFF, 0xC0, 0x0F, 0x00]).1 =
      ([0xAA, 0x80, 0xFF, 0xC0, 0x0F, 0x00], 1) := by decide +kernel
example : decodeAll (⟨4, false, false, 10, 0, false, true, 0⟩ : FCCITT).decParams
    (encodeAll (⟨4, false, false, 10, 0, false, true, 0⟩ : FCCITT).encParams [0xAA, 0x80, 0xFF, 0xC0, 0x0F, 0x00]).1 =
      ([0xAA, 0x80, 0xFF, 0xC0, 0x0F, 0x00], 1) := by decide +kernel

end PdfVerif.C06fbK
