import PdfVerif.Props.C01tr
import PdfVerif.Model.CNTScan
import PdfVerif.Model.CNTState
import PdfVerif.Generated.FnContent
import PdfVerif.Generated.FnPdf
/-!
# C15 (translator bridge): small helpers of graphics/content = code GENERATED from the Go sources

`graphics/content/{stream,state}.go` contain a second copy of `hexDigit` and three `switch` tables
(`isASCIIFilter`, `needsClose`, `isStrokeOp`).  The CNT hand models use the extracted case lists
(`Gen.content_cases_*`); here they are proved equal to the functions translated from the source.
-/
namespace PdfVerif.C15trb
open PdfVerif PdfVerif.Gen

def nat (bs : List UInt8) : Bytes := bs.map (·.toNat)

/-- the content-stream scanner's `hexDigit` is the same function as the file scanner's -/
theorem content_hexDigit_eq_pdf : ∀ c : Nat, c < 256 →
    content_hexDigit (UInt8.ofNat c) = pdf_hexDigit (UInt8.ofNat c) := by decide +kernel

/-- the hand model's `hexVal` (Model/Scan.lean, used by `CNT.Scan`) is the generated content-stream
`hexDigit` (`none` ↦ 255), on every byte -/
theorem content_hexDigit_eq_hexVal : ∀ c : Nat, c < 256 →
    (content_hexDigit (UInt8.ofNat c)).toNat = (hexVal c).getD 255 := by
  intro c hc
  rw [content_hexDigit_eq_pdf c hc]
  exact C01tr.hexDigit_eq_hexVal c hc

theorem contains_nat (n : List UInt8) (cs : List (List UInt8)) :
    (cs.map nat).contains (nat n) = cs.any (fun c => n == c) := by
  induction cs with
  | nil => rfl
  | cons c cs ih =>
    simp only [List.map_cons, List.contains_cons, List.any_cons, ih]
    congr 1
    rw [Bool.eq_iff_iff, beq_iff_eq, beq_iff_eq]
    exact Go.map_toNat_inj

/-- a `switch name { case …: return true }; return false` of the Go code against the case list extracted from it.  In the
three uses `hb` holds because both sides normalise to the same `||` chain in source order (a reordered `case` list would break
the proof, not the statement) -/
theorem switch_bridge (cases : List (List Nat)) (n : List UInt8) (b : Bool)
    (hc : cases = (cases.map (·.map UInt8.ofNat)).map nat)
    (hb : b = (cases.map (·.map UInt8.ofNat)).any (n == ·)) : cases.contains (nat n) = b := by
  rw [hc, contains_nat, hb]

/-- `CNT.isASCIIFilter` (case list extracted from the source) = generated `isASCIIFilter` -/
theorem isASCIIFilter_bridge (n : List UInt8) : CNT.isASCIIFilter (nat n) = content_isASCIIFilter n :=
  switch_bridge _ n _ (by decide) (by
    simp only [content_isASCIIFilter, content_cases_isASCIIFilter, Id, Id.run, pure, List.map, List.any,
      Bool.or_false, Bool.or_assoc, UInt8.reduceOfNat, Bool.if_true_left, Bool.decide_eq_true])

theorem needsClose_bridge (n : List UInt8) : CNT.needsClose (nat n) = content_needsClose n :=
  switch_bridge _ n _ (by decide) (by
    simp only [content_needsClose, content_cases_needsClose, Id, Id.run, pure, List.map, List.any,
      Bool.or_false, Bool.or_assoc, UInt8.reduceOfNat, Bool.if_true_left, Bool.decide_eq_true])

theorem isStrokeOp_bridge (n : List UInt8) : CNT.isStrokeOp (nat n) = content_isStrokeOp n :=
  switch_bridge _ n _ (by decide) (by
    simp only [content_isStrokeOp, content_cases_isStrokeOp, Id, Id.run, pure, List.map, List.any,
      Bool.or_false, Bool.or_assoc, UInt8.reduceOfNat, Bool.if_true_left, Bool.decide_eq_true])

end PdfVerif.C15trb
