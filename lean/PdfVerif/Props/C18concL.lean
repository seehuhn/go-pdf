import PdfVerif.Lemmas.CONCRuns
import PdfVerif.Lemmas.CONCMarker
/-!
# C18 — `exclusive_runs_once`, `exclusive_progress` and `marker_released`

* The decode function run on behalf of a pending (i.e. by the registered owner of an exclusive
  decode) is entered at most once — for all traces, panics included.
* Under `SinkGuard` — a thread with a frame of `DecodeExclusive` on a reference on its stack starts no
  `DecodeExclusive` (a sufficient syntactic discipline, stronger than the restriction documented at
  `DecodeExclusive`: no cross-goroutine reference cycle) — and when no decode function panics, no
  reachable state is a deadlock: if some thread is inside a call, some thread can take a step which
  is not the start of a new call.  (Without a restriction there are deadlocks:
  `C18concCE.exclusive_self_deadlock`.)
* `marker_released`: a marker belongs to an open pending, and an open pending has a live owner — for
  all traces, panics included.
-/
namespace PdfVerif.C18concL
open PdfVerif PdfVerif.CONC

theorem xr_reachable (cfg : Cfg) (ls : List Label) (s : State)
    (h : run cfg State.init ls = some s) : XInv s ∧ RInv s :=
  reachable_inv cfg (fun _ _ => True) RInv RInv.init (fun _ _ _ _ _ hx hr hs => hr.step hx hs) ls s
    (guardedRun_of_forall cfg ls _ fun _ _ => trivial) h

/-- `exclusive_once` (5): in every reachable state, for every pending `p`, the history contains at
most one entry of a decode function on behalf of `p` — the function of an exclusive decode runs
once, however many callers there are and however they interleave. -/
theorem exclusive_runs_once (cfg : Cfg) (ls : List Label) (s : State)
    (h : run cfg State.init ls = some s) (p : Pid) : runsOf s.hist p ≤ 1 :=
  (xr_reachable cfg ls s h).2.once p

/-- before the owner has entered its function nobody has: a pending whose owner is still at
`ex:owner` or inside the reference loop of its `Decode` has no recorded run -/
theorem not_run_before_owner (cfg : Cfg) (ls : List Label) (s : State)
    (h : run cfg State.init ls = some s) (t : Tid) (p : Pid) (hp : p ∈ preRun (s.thr t)) :
    runsOf s.hist p = 0 :=
  (xr_reachable cfg ls s h).2.pre t p hp

theorem xl_reachable (cfg : Cfg) (ls : List Label) (s : State)
    (hg : GuardedRun cfg SinkGuard State.init ls) (h : run cfg State.init ls = some s) :
    XInv s ∧ LInv s :=
  reachable_inv cfg SinkGuard LInv LInv.init (fun _ _ _ _ hg hx hl hs => hl.step hx hg hs) ls s hg h

/-- `exclusive_progress`: deadlock freedom under `SinkGuard`.  In every state reachable by a guarded trace, if
some thread is inside a call then some thread can continue its current call (leave `Get`/a hook, or return
from its decode function). -/
theorem exclusive_progress (cfg : Cfg) (ls : List Label) (s : State)
    (hg : GuardedRun cfg SinkGuard State.init ls) (h : run cfg State.init ls = some s)
    (t : Tid) (hne : s.thr t ≠ []) :
    ∃ t', (step cfg s t' .go).isSome = true ∨ (step cfg s t' (.fnRet (.err (.fn 0)))).isSome = true := by
  obtain ⟨hx, hl⟩ := xl_reachable cfg ls s hg h
  -- a thread whose top frame is not a waiter can always continue
  have hfree : ∀ t0 f rest, s.thr t0 = f :: rest → (∀ k p, f ≠ .exWait k p) →
      (step cfg s t0 .go).isSome = true ∨ (step cfg s t0 (.fnRet (.err (.fn 0)))).isSome = true := by
    intro t0 f rest e hw
    refine enabled_of_top e ?_
    cases f with
    | dead => exact absurd rfl ((hl.stk t0).nodead _ (e ▸ List.mem_cons_self))
    | exRun k p => exact absurd e ((hl.stk t0).top k p rest)
    | exWait k p => exact absurd rfl (hw k p)
    | _ => rfl
  cases e : s.thr t with
  | nil => exact absurd e hne
  | cons f rest =>
    by_cases hw : ∃ k p, f = .exWait k p
    · obtain ⟨k, p, rfl⟩ := hw
      cases hd : (s.pend p).done with
      | true =>
        -- the pending is closed: the waiter wakes up
        refine ⟨t, .inl ?_⟩
        have hout := hx.doneOut p hd
        have hnp := hl.out p
        simp only [step, e, hd, if_true]
        cases ho : (s.pend p).out with
        | none => exact absurd ho hout
        | some res =>
          cases res with
          | panic => exact absurd ho hnp
          | err er => simp
          | ok v => simp
      | false =>
        -- the pending is open: its owner exists and is not itself waiting
        have hp : p < s.npend := hx.frames t (.exWait k p) (by rw [e]; simp)
        obtain ⟨t2, h2⟩ := hl.live p hp hd
        cases e2 : s.thr t2 with
        | nil => rw [e2, owned_nil] at h2; cases h2
        | cons g rest2 =>
          refine ⟨t2, hfree t2 g rest2 e2 fun k' p' eg => ?_⟩
          exact not_waiting_of_owner h2 (hl.one t2) k' p' rest2 (eg ▸ e2)
    · exact ⟨t, hfree t f rest e (fun k p ef => hw ⟨k, p, ef⟩)⟩

/-- non-vacuity: the page/form pattern — an exclusive "sink" decode whose function decodes another
object, racing with a plain decode of that object whose function starts the exclusive decode —
satisfies the guard; here thread 1 waits for the pending owned by thread 0. -/
example :
    let cfg : Cfg := ⟨fun _ => .direct, true⟩
    let ls : List Label :=
      [(0, .callExcl (.ref 1) 0 []), (0, .go), (1, .callDecode (.ref 2) 0 []), (1, .go),
       (1, .callExcl (.ref 1) 0 []), (0, .go), (0, .callDecode (.ref 2) 0 [])]
    GuardedRun cfg SinkGuard State.init ls ∧ (run cfg State.init ls).isSome = true := by
  refine ⟨?_, by decide +kernel⟩
  -- `GuardedRun`, `SinkGuard` are `Prop`-valued without `Decidable` instances: unfolded, not evaluated
  simp [GuardedRun, SinkGuard, step, canCall, exclCall, decLoop, State.init, upd, exclCount, isExcl,
    maxDepth, Gen.limits_MaxExtractDepth]

theorem xm_reachable (cfg : Cfg) (ls : List Label) (s : State)
    (h : run cfg State.init ls = some s) : XInv s ∧ MInv s :=
  reachable_inv cfg (fun _ _ => True) MInv MInv.init (fun _ _ _ _ _ hx hm hs => hm.step hx hs) ls s
    (guardedRun_of_forall cfg ls _ fun _ _ => trivial) h

/-- `marker_released`: on every exit path of `DecodeExclusive` — return, error, panic of the decode function,
`runtime.Goexit` (the label `.fnRet .panic` stands for both) — the in-progress marker is cleared and `done` is
closed.  As an invariant over all traces (no guard): (1) a `wip` entry names a pending which is not closed and
whose owner frame is alive in some thread's stack; (2) every pending which is not closed has a live owner.  So
no caller ever waits for an owner that is gone. -/
theorem marker_released (cfg : Cfg) (ls : List Label) (s : State)
    (h : run cfg State.init ls = some s) :
    (∀ k p, s.wip k = some p → (s.pend p).done = false ∧ ∃ t, p ∈ owned (s.thr t)) ∧
    (∀ p, p < s.npend → (s.pend p).done = false → ∃ t, p ∈ owned (s.thr t)) := by
  obtain ⟨hx, hm⟩ := xm_reachable cfg ls s h
  refine ⟨fun k p hk => ?_, hm.live⟩
  have hd := hm.undone k p hk
  exact ⟨hd, hm.live p (hx.wipb k p hk) hd⟩

/-- thread 0 owns `(r1, type 0)`, thread 1 waits; the owner's decode
function panics.  The waiter is released with the abort error, the marker is gone, and a later
exclusive decode of the reference runs afresh and succeeds. -/
example :
    let cfg : Cfg := ⟨fun _ => .direct, true⟩
    let ls : List Label :=
      [(0, .callExcl (.ref 1) 0 []), (1, .callExcl (.ref 1) 0 []), (0, .go), (0, .go),
       (0, .fnRet .panic), (1, .go),
       (2, .callExcl (.ref 1) 0 []), (2, .go), (2, .go), (2, .fnRet (.ok 7)), (2, .go), (2, .go), (2, .go)]
    (run cfg State.init ls).map (fun s => (s.thr 0, s.thr 1, s.thr 2)) = some ([.dead], [], []) ∧
    (run cfg State.init ls).map (fun s => s.wip (1, 0)) = some none ∧
    (run cfg State.init ls).map (fun s => s.hist.take 1) = some [.exc 2 (.ref 1) 0 (.ok 7) (some 1)] ∧
    (run cfg State.init ls).map (fun s => s.hist.filter fun e => match e with | .exc 1 _ _ _ _ => true | _ => false)
      = some [.exc 1 (.ref 1) 0 (.err .aborted) (some 0)] := by
  refine ⟨by decide +kernel, by decide +kernel, by decide +kernel, by decide +kernel⟩

end PdfVerif.C18concL
