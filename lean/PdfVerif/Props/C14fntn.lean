import PdfVerif.Props.C14fnt
import PdfVerif.Lemmas.Decimal
/-!
# C14 (work package FNT) — glyph names: the naming loop of `makeGlyphName` terminates

In simple.go an invalid candidate `base.altN` clears `base`, so that the next round takes the generic `ornNNN`
names (otherwise the loop would not end for the base name `.notdef`, all of whose `.altN` are invalid).
`nameLoop_total` gives the fuel bound `len(glyphNameUsed) + 2` from the two pigeonhole arguments the Go
comments appeal to (`exists_unused`: of `base.alt1 … base.alt(LEN+1)`, and of `orn000 … ornLEN`, one is not in
use); that `%d` and `%03d` are injective is read off `digitsVal` of the scanner model (`Lemmas/Decimal`).
`makeGlyphName_total`, then `encode_names_total`: in every state the exact model reaches the fuel 1024 of
the executable model suffices, i.e. the `none` branch of `Simple.encode` is dead.
-/
namespace PdfVerif.C14fntn
open PdfVerif PdfVerif.FNT PdfVerif.C14fnt

theorem digitsVal_zeros (k : Nat) (l : Bytes) : digitsVal (List.replicate k 48 ++ l) 0 = digitsVal l 0 := by
  induction k with
  | zero => rfl
  | succ k ih => rw [List.replicate_succ, List.cons_append, digitsVal]; exact ih

theorem pad3_val (n : Nat) : digitsVal (pad3 n) 0 = n := by
  rw [pad3, digitsVal_zeros, C01L.fntDec_eq_natDec, C01L.digitsVal_natDec]

theorem ornName_injective (a b : Nat) (h : ornName a = ornName b) : a = b := by
  have := congrArg (digitsVal · 0) (List.append_cancel_left h)
  rwa [pad3_val, pad3_val] at this

theorem altName_injective {base : Bytes} {a b : Nat} (h : altName base a = altName base b) : a = b := by
  have := congrArg (digitsVal · 0) (List.append_cancel_left h)
  rwa [C01L.fntDec_eq_natDec, C01L.fntDec_eq_natDec, C01L.digitsVal_natDec, C01L.digitsVal_natDec] at this

theorem exists_unused (used : Map Bytes Bool) (f : Nat → Bytes) (hf : ∀ a b, f a = f b → a = b) :
    ∃ j, j ≤ used.size ∧ Simple.nameUsed used (f j) = false := by
  obtain ⟨j, hj, hg⟩ := Map.exists_free_of_inj used f hf (used.size + 1) (Nat.lt_succ_self _)
  exact ⟨j, by omega, by simp [Simple.nameUsed, hg]⟩

/-- "Try one more name than gd.glyphNameUsed has elements.  This guarantees that we find a free name." -/
theorem ornSearch_some (used : Map Bytes Bool) : ∃ n, ornSearch used used.size = some n := by
  rcases ornSearch_cases used used.size with ⟨i, _, hs, _⟩ | ⟨_, hall⟩
  · exact ⟨_, hs⟩
  · obtain ⟨i, hi, hg⟩ := exists_unused used ornName ornName_injective
    rw [hall i hi] at hg; cases hg

/-- The hypothesis is the invariant of the Go loop: the candidate `g` ends it, or the `ornNNN` fall-back is armed,
or one of the next `n` candidates `base.altK` is not in use.  `n` shrinks in every round. -/
theorem nameLoop_total (used : Map Bytes Bool) (fuel : Nat) (base g : Bytes) (alt n : Nat)
    (h : (!isValidName g || Simple.nameUsed used g) = false ∨ base = [] ∨
      ∃ j, j < n ∧ Simple.nameUsed used (altName base (alt + 1 + j)) = false)
    (hf : n + 1 ≤ fuel) : ∃ m, nameLoop used fuel base g alt = some m := by
  fun_induction nameLoop used fuel base g alt generalizing n
  · omega
  · exact ⟨_, rfl⟩
  · next hs _ =>
    obtain ⟨m, hm⟩ := ornSearch_some used
    rw [hs] at hm; cases hm
  · next f base g alt hbad next base' horn ih =>
    obtain ⟨j, hj, hfree⟩ : ∃ j, j < n ∧ Simple.nameUsed used (altName base (alt + 1 + j)) = false := by
      rcases h with h | h | h
      · rw [hbad] at h; cases h
      · simp [h] at horn
      · exact h
    refine ih (n - 1) ?_ (by omega)
    by_cases hv : isValidName next = true
    · cases j with
      | zero => exact Or.inl (by simpa [hv] using hfree)
      | succ j =>
        refine Or.inr (Or.inr ⟨j, by omega, ?_⟩)
        simp only [base', hv, ↓reduceIte]
        rwa [show alt + 1 + 1 + j = alt + 1 + (j + 1) by omega]
    · -- an invalid candidate clears the base: the next round ends with a generic name
      exact Or.inr (Or.inl (if_neg hv))
  · exact ⟨_, rfl⟩

/-- `ornNNN` passes `names.IsValid`: six characters, a letter first, then letters and digits -/
theorem ornName_valid : ∀ i, i < 1000 → isValidName (ornName i) = true := by
  intro i hi
  have hlen := C01L.natDec_length_le 3 i (by decide) hi
  have hdig : ∀ b ∈ pad3 i, 48 ≤ b ∧ b ≤ 57 := by
    intro b hb
    rcases List.mem_append.mp hb with hb | hb
    · simp [List.mem_replicate] at hb; omega
    · rw [C01L.fntDec_eq_natDec] at hb; exact (C01L.isDigit_iff b).mp (C01L.natDec_digits i b hb)
  have hl : (pad3 i).length = 3 := by
    simp only [pad3, C01L.fntDec_eq_natDec, List.length_append, List.length_replicate]; omega
  -- what is left: every byte of `pad3 i` is a name character; it is a digit
  simp [isValidName, ornName, nameNotdef, hl, K.maxNameLen, nameChar, List.all_eq_true]
  exact fun b hb => Or.inl (Or.inl (Or.inr (hdig b hb)))

/-- every stored glyph name passes `names.IsValid` (`Encoding()` hands them to the font dictionary) -/
def NamesValid (s : Simple) : Prop := ∀ g n, s.glyphName.get g = some n → isValidName n = true

/-- the loop does not run out of fuel -/
theorem makeGlyphName_ne_none (s : Simple) (gid : Nat) (d f : Bytes) (hsz : s.glyphNameUsed.size ≤ 999) :
    s.makeGlyphName gid d f ≠ none := by
  rcases makeGlyphName_cases s gid d f with ⟨_, _, e⟩ | ⟨_, hn, _⟩ | ⟨_, _, _, e⟩
  · rw [e]; nofun
  · obtain ⟨j, hj, hfree⟩ := exists_unused s.glyphNameUsed (fun j => altName (startName d f) (0 + 1 + j))
      fun a b h => by have := altName_injective h; omega
    obtain ⟨n, hn'⟩ := nameLoop_total s.glyphNameUsed nameFuel (startName d f) (startName d f) 0
      (s.glyphNameUsed.size + 1) (Or.inr (Or.inr ⟨j, by omega, hfree⟩)) (by simp only [nameFuel]; omega)
    rw [hn] at hn'; cases hn'
  · rw [e]; nofun

theorem makeGlyphName_valid {s s1 : Simple} {gid : Nat} {d f n : Bytes}
    (hsz : s.glyphNameUsed.size ≤ 999) (hval : NamesValid s) (hm : s.makeGlyphName gid d f = some (s1, n)) :
    isValidName n = true ∧ s1.glyphName.get gid = some n ∧ NamesValid s1 ∧
      (s.glyphName.get gid = none → Simple.nameUsed s.glyphNameUsed n = false) := by
  rcases makeGlyphName_some hm with ⟨hg, rfl⟩ | ⟨_, hn, rfl⟩
  · exact ⟨hval gid n hg, hg, hval, fun h => by rw [hg] at h; cases h⟩
  · obtain ⟨hfresh, hvo⟩ := nameLoop_fresh hn
    have hvalid : isValidName n = true := by
      rcases hvo with h | ⟨i, hi, rfl⟩
      · exact h
      · exact ornName_valid i (by omega)
    refine ⟨hvalid, Map.get_insert_self .., fun g m hm => ?_, fun _ => hfresh⟩
    rcases Map.get_insert_some hm with ⟨_, rfl⟩ | hm
    · exact hvalid
    · exact hval g m hm

/-- **makeGlyphName returns a fresh valid name for every input**: every glyph, font-supplied name and AGL
name of the text, from any state with only valid stored names and at most 999 names in use (a reachable
state has at most 257; 999 is as far as `ornName_valid` goes, `%03d` writing three digits — the Go code has
no such bound).  The fuel suffices, and if the glyph had no name before, the name was not in use. -/
theorem makeGlyphName_total (s : Simple) (gid : Nat) (d f : Bytes)
    (hsz : s.glyphNameUsed.size ≤ 999) (hval : NamesValid s) :
    ∃ s1 n, s.makeGlyphName gid d f = some (s1, n) ∧ isValidName n = true ∧
      s1.glyphName.get gid = some n ∧ NamesValid s1 ∧
      (s.glyphName.get gid = none → Simple.nameUsed s.glyphNameUsed n = false) := by
  cases hm : s.makeGlyphName gid d f with
  | none => exact absurd hm (makeGlyphName_ne_none s gid d f hsz)
  | some p => exact ⟨p.1, p.2, rfl, makeGlyphName_valid hsz hval hm⟩

/-- `+ 1`: `NewSimple` presets the name `.notdef` before any code is handed out -/
structure NameCount (s : Simple) : Prop where
  count : s.glyphNameUsed.size ≤ s.info.size + 1
  valid : NamesValid s

theorem nameCount_init (w : Int) : NameCount (Simple.init w) := by
  refine ⟨by simp [Simple.init, Map.size], fun g n h => ?_⟩
  rw [(init_glyphName h).2]
  decide

/-- below 256 codes there are at most 256 names, so `makeGlyphName` has fuel to spare -/
theorem nameCount_bound {s : Simple} (h : NameCount s) (hsz : s.info.size < K.simpleMaxCodes) :
    s.glyphNameUsed.size ≤ 999 := by
  have := h.count
  simp only [K.simpleMaxCodes] at hsz
  omega

theorem nameCount_encode (base : Nat → Bytes) (s : Simple) (a : EncArgs) (h : NameCount s) :
    NameCount (s.encode base a).1 := by
  rcases encode_cases base s a with ⟨_, e⟩ | ⟨_, _, e⟩ | ⟨_, _, _, e⟩ | ⟨s1, n, pick, _, hsz1, hm, hp, e⟩ <;>
    rw [e]
  · exact h
  · exact ⟨h.count, h.valid⟩
  · exact h
  · obtain ⟨_, hi1, _⟩ := makeGlyphName_maps hm
    obtain ⟨_, _, hv1, _⟩ := makeGlyphName_valid (nameCount_bound h (hi1 ▸ hsz1)) h.valid hm
    refine ⟨?_, hv1⟩
    -- the name table grew by at most one entry, the code table by exactly one
    show s1.glyphNameUsed.size ≤ (s1.info.insert _ _).size + 1
    rw [Map.size_insert_of_none _ _ _ hp.2, hi1]
    have := h.count
    rcases makeGlyphName_some hm with ⟨_, rfl⟩ | ⟨_, _, rfl⟩
    · omega
    · have := Map.size_insert_le s.glyphNameUsed n true
      simp only at this ⊢; omega

/-- **the `none` branch of `Simple.encode` is dead**: in every state the exact model reaches from
`NewSimple`, an `Encode` that gets past the duplicate and overflow tests makes a glyph name — the
fuel 1024 of the executable model is never exhausted, for any glyph id, names and text. -/
theorem encode_names_total (base : Nat → Bytes) (w : Int) (as : List EncArgs) (a : EncArgs) :
    let s := runExact base (Simple.init w) as
    (s.encode base a).2.2 = none →
      (s.code.get (a.gid, a.text)).isSome = true ∨ s.info.size ≥ K.simpleMaxCodes := by
  intro s hnone
  rcases encode_cases base s a with ⟨hd, _⟩ | ⟨_, hfull, _⟩ | ⟨_, hsz, hm, _⟩ | ⟨s1, n, pick, _, _, _, _, e⟩
  · exact Or.inl hd
  · exact Or.inr hfull
  · exact absurd hm (makeGlyphName_ne_none _ _ _ _
      (nameCount_bound (runExact_induct base (nameCount_encode base) as _ (nameCount_init w)) hsz))
  · rw [e] at hnone; cases hnone

/-- every glyph name the exact model ever stores is valid (`names.IsValid`) -/
theorem glyph_names_valid (base : Nat → Bytes) (w : Int) (as : List EncArgs) (g : Nat) (n : Bytes)
    (h : (runExact base (Simple.init w) as).glyphName.get g = some n) : isValidName n = true :=
  (runExact_induct base (nameCount_encode base) as _ (nameCount_init w)).valid g n h

-- non-vacuity: a second glyph called ".notdef" (the base name all of whose `.altN` are invalid) gets
-- the first generic name, a third one the next; a glyph whose name is taken gets `.alt1`
example : ((Simple.init 0).makeGlyphName 5 nameNotdef [120]).map (·.2) = some (ornName 1) := by
  decide +kernel
example :
    (runExact (fun _ => nameNotdef) (Simple.init 0)
      [⟨5, nameNotdef, [120], 120, [120], 500⟩, ⟨6, nameNotdef, [121], 121, [121], 500⟩,
       ⟨7, [65], [65], 65, [65], 500⟩, ⟨8, [65], [65], 65, [66], 500⟩]).glyphName
      = [(8, altName [65] 1), (7, [65]), (6, ornName 2), (5, ornName 1), (0, nameNotdef)] := by
  decide +kernel

end PdfVerif.C14fntn
