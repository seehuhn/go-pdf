import PdfVerif.Props.C06fbt
import PdfVerif.Lemmas.FBAlign
/-!
# C06 (CCITTFax): row and stream round trip of the Group 3 1-D and Group 4 coders

Over `Model/FBCCITT.lean`, on the tables, run coder and bit reader of `Props/C06fbt.lean`: the rows
(`ccitt_g3_1d_row_rt_pre`, `_eol`; `g4_step`, `g4_lockstep`, `ccitt_g4_row_rt`), the encoder's bytes as bits
(`encodeAll_bits` over `allRowBitsP`), the row loop of `Reader.Read` for any invariant that `decodeScanLine` keeps
(`readRows_of_steps`; its instances for K = 0 and K < 0 here, for K > 0 in `Props/C06fbK.lean`) and `stream_rt_of_loop`,
which puts encoder and loop together: `g3_1d_stream_rt`, `g4_stream_rt`, `stream_rt_kle0`.  Every row lemma asks for 13
unread bits behind what it reads (`hrest`, see `Rd.clean`).  Not covered by proof anywhere: streams without
end-of-block pattern (`IgnoreEndOfBlock`), validated on every run.
-/
namespace PdfVerif.C06faC
open PdfVerif PdfVerif.FB PdfVerif.Gen PdfVerif.C06fbt PdfVerif.C06fbA PdfVerif.C06fbE PdfVerif.C06fbK

def ceil8 (n : Nat) : Nat := (n + 7) / 8 * 8

theorem ceil8_ge (n : Nat) : n ≤ ceil8 n := by unfold ceil8; omega
theorem ceil8_mono {a b : Nat} (h : a ≤ b) : ceil8 a ≤ ceil8 b := by unfold ceil8; omega
theorem ceil8_lt (n : Nat) : ceil8 n < n + 8 := by unfold ceil8; omega

theorem lineBytes_bounds (p : CParams) : p.columns ≤ 8 * p.lineBytes ∧ 8 * p.lineBytes < p.columns + 8 := by
  unfold CParams.lineBytes; omega

theorem ceil8_columns (p : CParams) : ceil8 p.columns = 8 * p.lineBytes := by unfold ceil8 CParams.lineBytes; omega

/-- the reader's line buffer holds the pixels `pre` and zero bits up to the next byte boundary -/
def LineIs (line : Bits) (pre : Bits) : Prop :=
  line = pre ++ List.replicate (ceil8 pre.length - pre.length) false

theorem lineIs_nil_iff (line : Bits) : LineIs line [] ↔ line = [] := by simp [LineIs, ceil8]

theorem lineIs_nil : LineIs [] [] := (lineIs_nil_iff []).2 rfl

theorem setRange_zero : ∀ (l : Bits) (e : Nat), e ≤ l.length → setRange l 0 e = List.replicate e true ++ l.drop e := by
  intro l
  induction l with
  | nil => intro e he; simp at he; subst he; simp [setRange]
  | cons b bs ih =>
    intro e he
    cases e with
    | zero =>
      simp only [setRange, Nat.lt_irrefl, and_false, if_false, List.replicate, List.nil_append, List.drop]
      have := ih 0 (by omega)
      simp only [List.replicate, List.nil_append, List.drop] at this
      simp only [Nat.zero_sub]
      rw [this]
    | succ e =>
      simp only [setRange, Nat.zero_lt_succ, and_self, if_true, Nat.zero_sub, Nat.add_sub_cancel]
      rw [ih e (by simp at he; omega)]
      simp [List.replicate_succ]

theorem setRange_append : ∀ (a b : Bits) (s e : Nat), s = a.length → s ≤ e →
    setRange (a ++ b) s e = a ++ setRange b 0 (e - s) := by
  intro a
  induction a with
  | nil => intro b s e hs _; subst hs; simp
  | cons x xs ih =>
    intro b s e hs he
    subst hs
    simp only [List.length_cons] at he ⊢
    simp only [List.cons_append, setRange]
    have : ¬ (xs.length + 1 = 0 ∧ 0 < e) := by omega
    rw [if_neg this, Nat.add_sub_cancel, ih b xs.length (e - 1) rfl (by omega)]
    have : e - 1 - xs.length = e - (xs.length + 1) := by omega
    rw [this]

theorem fillRow_empty (line : Bits) {start stop : Int} (fill : Bool) (h : start ≥ stop) :
    fillRow line start stop fill = line := by
  unfold fillRow; rw [if_pos h]

/-- `fillRowBits` appends a run to the pixels decoded so far -/
theorem fillRow_spec (line pre : Bits) (len : Nat) (fill : Bool) (h : LineIs line pre) :
    LineIs (fillRow line (pre.length : Int) ((pre.length : Int) + (len : Int)) fill) (pre ++ List.replicate len fill) := by
  -- `fillRowBits` grows the zero tail to `ceil8 (|pre| + len)` bits (`hgrow`) and then overwrites `len` of them
  unfold fillRow
  by_cases h0 : len = 0
  · subst h0; simp [h]
  · have hlt : ¬ ((pre.length : Int) ≥ (pre.length : Int) + (len : Int)) := by omega
    rw [if_neg hlt]
    have hreq : (Int.tdiv ((pre.length : Int) + (len : Int) + 7) 8).toNat * 8 = ceil8 (pre.length + len) := by
      unfold ceil8
      have : ((pre.length : Int) + (len : Int) + 7) = ((pre.length + len + 7 : Nat) : Int) := by omega
      rw [this, Int.tdiv_eq_ediv_of_nonneg (by omega)]
      norm_cast
    simp only [hreq]
    have hs : ((pre.length : Int)).toNat = pre.length := by omega
    have he : ((pre.length : Int) + (len : Int)).toNat = pre.length + len := by omega
    rw [hs, he]
    unfold LineIs at h ⊢
    subst h
    have hc1 := ceil8_ge pre.length
    have hc2 := ceil8_ge (pre.length + len)
    have hc3 : ceil8 pre.length ≤ ceil8 (pre.length + len) := ceil8_mono (by omega)
    have hgrow : pre ++ List.replicate (ceil8 pre.length - pre.length) false ++
        List.replicate (ceil8 (pre.length + len) - (pre ++ List.replicate (ceil8 pre.length - pre.length) false).length) false
        = pre ++ List.replicate (ceil8 (pre.length + len) - pre.length) false := by
      rw [List.append_assoc, List.replicate_append_replicate]
      congr 2
      simp; omega
    rw [hgrow]
    simp only [List.length_append, List.length_replicate]
    cases fill
    · simp only [Bool.false_eq_true, if_false]
      rw [List.append_assoc, List.replicate_append_replicate]
      congr 2; omega
    · simp only [if_true]
      rw [setRange_append pre _ pre.length (pre.length + len) rfl (by omega), Nat.add_sub_cancel_left,
        setRange_zero _ len (by simp; omega)]
      simp only [List.drop_replicate, List.append_assoc]
      congr 3; omega

/-- one code word in a 1-D row: the colour switches exactly after a terminating code (`i < 64`); after a make-up code the
reader owes a terminating code (`needTerm`), so the loop goes on even if the row is full.  The fuel `fd` exceeds the
unread bits and still does after the step (every code word has a bit): that is why `bitsLeft + 2` rounds are enough
for `decodeG3ScanLine1D`. -/
theorem dec1D_code (p : CParams) (white : Bool) (i : Nat) (hi : i < 104) (r : Rd) (rest pre : Bits)
    (fd n : Nat) (nt : Bool) (he : Rd.clean r) (hs : Rd.stream r = codeWord white i ++ rest) (hrest : tblBits white ≤ rest.length)
    (hfd : (Rd.stream r).length < fd)
    (hx : pre.length < p.columns ∨ nt = true) (hfit : pre.length + runValue i ≤ p.columns) (hl : LineIs r.line pre) :
    ∃ r' fd', Rd.decode1DGo r p fd pre.length white n nt =
        Rd.decode1DGo r' p fd' (pre.length + runValue i) (if i < 64 then !white else white) n (decide (64 ≤ i)) ∧
      rest.length < fd' ∧ Rd.clean r' ∧ Rd.stream r' = rest ∧
      LineIs r'.line (pre ++ List.replicate (runValue i) (white != p.blackIs1)) := by
  obtain ⟨d1, d2, d3, d4, d5⟩ := decodeRun_code white i hi r rest he hs hrest
  have hst := codeEntry_state white i
  have hmk := isMakeUp_codeEntry white i
  obtain ⟨f, rfl⟩ : ∃ f, fd = f + 1 := ⟨fd - 1, by omega⟩
  have hw := (code_facts white i hi).two_le
  rw [hs, List.length_append, codeWord, codeBits_length] at hfd
  rw [Rd.decode1DGo]
  rw [if_pos ⟨hx, he.1⟩]
  rcases hdr : r.decodeRun white with ⟨len, st, r2⟩
  rw [hdr] at d1 d2 d3 d4 d5
  simp only at d1 d2 d3 d4 d5 ⊢
  subst d1
  have hmin : min (runValue i) (p.columns - pre.length) = runValue i := by omega
  simp only [hmin]
  have hline := fillRow_spec r2.line pre (runValue i) (white != p.blackIs1) (by rw [d5]; exact hl)
  refine ⟨{ r2 with line := fillRow r2.line pre.length (pre.length + runValue i) (white != p.blackIs1) }, f,
    ?_, by omega, d3, d4, hline⟩
  rw [d2, hmk, hst]
  -- the state is a constant in each of the five classes of codes, different from `S_EOL`
  by_cases h1 : i < 64
  · cases white <;> simp (decide := true) [h1]
  · by_cases h2 : i < 91
    · cases white <;> simp (decide := true) [h1, h2]
    · simp (decide := true) [h1, h2]

/-- the code words of one run; the run may complete the row with a make-up code, and the terminating code of length 0
is still read -/
theorem dec1D_codes (p : CParams) (white : Bool) (rest : Bits) (hrest : tblBits white ≤ rest.length) (t : Nat) (ht : t < 64)
    (n : Nat) : ∀ (cs : List Nat) (pre : Bits) (r : Rd) (fd : Nat) (nt : Bool), (∀ i ∈ cs, 64 ≤ i ∧ i < 104) → Rd.clean r →
      Rd.stream r = ((cs ++ [t]).map (codeWord white)).flatten ++ rest → (Rd.stream r).length < fd →
      pre.length + ((cs ++ [t]).map runValue).sum ≤ p.columns →
      (pre.length < p.columns ∨ nt = true) →
      LineIs r.line pre →
      ∃ r' fd', Rd.decode1DGo r p fd pre.length white n nt =
          Rd.decode1DGo r' p fd' (pre.length + ((cs ++ [t]).map runValue).sum) (!white) n false ∧
        rest.length < fd' ∧ Rd.clean r' ∧ Rd.stream r' = rest ∧
        LineIs r'.line (pre ++ List.replicate (((cs ++ [t]).map runValue).sum) (white != p.blackIs1)) := by
  intro cs
  induction cs with
  | nil =>
    intro pre r fd nt _ he hs hfd hfit hx hl
    simp only [List.nil_append, List.map_cons, List.map_nil, List.flatten_cons, List.flatten_nil, List.append_nil,
      List.sum_cons, List.sum_nil, Nat.add_zero] at hs hfit ⊢
    obtain ⟨r', fd', h1, h0, h2, h3, h4⟩ := dec1D_code p white t (by omega) r rest pre fd n nt he hs hrest hfd hx hfit hl
    refine ⟨r', fd', ?_, h0, h2, h3, h4⟩
    have hd : decide (64 ≤ t) = false := by simp; omega
    rw [h1, if_pos ht, hd]
  | cons i cs ih =>
    intro pre r fd nt hcs he hs hfd hfit hx hl
    have hi := hcs i (by simp)
    have hv := runValue_makeup i hi.1
    simp only [List.cons_append, List.map_cons, List.flatten_cons, List.append_assoc, List.sum_cons] at hs hfit ⊢
    have hcont : tblBits white ≤ (((cs ++ [t]).map (codeWord white)).flatten ++ rest).length := by
      rw [List.length_append]; omega
    obtain ⟨r1, f1, h1, h0, h2, h3, h4⟩ := dec1D_code p white i hi.2 r _ pre fd n nt he hs hcont hfd hx (by omega) hl
    have hlen : (pre ++ List.replicate (runValue i) (white != p.blackIs1)).length = pre.length + runValue i := by simp
    obtain ⟨r2, f2, g1, g0, g2, g3, g4⟩ := ih (pre ++ List.replicate (runValue i) (white != p.blackIs1)) r1 f1 true
      (fun j hj => hcs j (by simp [hj])) h2 h3 (by rw [h3]; exact h0) (by rw [hlen]; omega) (Or.inr rfl) h4
    refine ⟨r2, f2, ?_, g0, g2, g3, ?_⟩
    · have hd : decide (64 ≤ i) = true := by simp; omega
      rw [h1, if_neg (by omega), hd, ← hlen, g1, hlen, Nat.add_assoc]
    · rw [List.append_assoc, List.replicate_append_replicate] at g4
      exact g4

theorem dec1D_run (p : CParams) (white : Bool) (len : Nat) (rest pre : Bits) (r : Rd) (fd n : Nat)
    (hrest : tblBits white ≤ rest.length) (he : Rd.clean r) (hs : Rd.stream r = encodeRun white len ++ rest)
    (hfd : (Rd.stream r).length < fd)
    (hfit : pre.length + len ≤ p.columns) (hx : pre.length < p.columns) (hl : LineIs r.line pre) :
    ∃ r' fd', Rd.decode1DGo r p fd pre.length white n false =
        Rd.decode1DGo r' p fd' (pre.length + len) (!white) n false ∧
      rest.length < fd' ∧ Rd.clean r' ∧ Rd.stream r' = rest ∧ LineIs r'.line (pre ++ List.replicate len (white != p.blackIs1)) := by
  obtain ⟨cs, t, ht, hcs, _, henc, hsum⟩ := encodeRun_codes white len
  rw [henc] at hs
  have := dec1D_codes p white rest hrest t ht n cs pre r fd false hcs he hs hfd (by rw [hsum]; exact hfit) (Or.inl hx) hl
  rwa [hsum] at this

def expandRuns : Bool → List Nat → Bits
  | _, [] => []
  | c, r :: rs => List.replicate r c ++ expandRuns (!c) rs

theorem getLastQ_cons_ne {α} (a : α) (l : List α) (h : l ≠ []) : (a :: l).getLast? = l.getLast? := by
  cases l with
  | nil => exact absurd rfl h
  | cons b bs => simp [List.getLast?_cons_cons]

theorem getLastQ_le_sum (l : List Nat) (x : Nat) (h : l.getLast? = some x) : x ≤ l.sum := by
  induction l with
  | nil => simp at h
  | cons a as ih =>
    cases as with
    | nil => simp at h; subst h; simp
    | cons b bs =>
      rw [getLastQ_cons_ne a (b :: bs) (by simp)] at h
      have := ih h
      simp only [List.sum_cons] at this ⊢; omega

/-- the loop of `decodeG3ScanLine1D` over `encode1DLine`'s output (every run after the first has at least one pixel; a
final run that is a multiple of 64 is read completely: make-up code and the terminating code of length 0) -/
theorem dec1D_runs (p : CParams) (rest : Bits) (hrest : 13 ≤ rest.length) (n : Nat) :
    ∀ (runs : List Nat) (white : Bool) (pre : Bits) (r : Rd) (fd : Nat), (Rd.stream r).length < fd → Rd.clean r →
      Rd.stream r = encodeRuns white runs ++ rest → pre.length + runs.sum = p.columns →
      (runs ≠ [] → pre.length < p.columns) → (∀ x ∈ runs.tail, 1 ≤ x) → LineIs r.line pre →
      ∃ r', Rd.decode1DGo r p fd pre.length white n false = r'.alignRow p ∧
        Rd.clean r' ∧ Rd.stream r' = rest ∧ LineIs r'.line (pre ++ expandRuns (white != p.blackIs1) runs) := by
  intro runs
  induction runs with
  | nil =>
    intro white pre r fd hfd he hs hsum _ _ hl
    refine ⟨r, ?_, he, by simpa [encodeRuns] using hs, by simpa [expandRuns] using hl⟩
    simp only [List.sum_nil, Nat.add_zero] at hsum
    obtain ⟨f, rfl⟩ : ∃ f, fd = f + 1 := ⟨fd - 1, by omega⟩
    rw [Rd.decode1DGo, if_neg (by simp; omega), if_pos hsum]
  | cons len rs ih =>
    intro white pre r fd hfd he hs hsum hx hpos hl
    simp only [encodeRuns, List.append_assoc, List.sum_cons] at hs hsum
    have hcont : tblBits white ≤ (encodeRuns (!white) rs ++ rest).length := by
      have := tblBits_le white
      rw [List.length_append]; omega
    obtain ⟨r1, f1, h1, h0, h2, h3, h4⟩ := dec1D_run p white len _ pre r fd n hcont he hs hfd (by omega) (hx (by simp)) hl
    have hlen : (pre ++ List.replicate len (white != p.blackIs1)).length = pre.length + len := by simp
    obtain ⟨r2, g1, g2, g3, g4⟩ := ih (!white) (pre ++ List.replicate len (white != p.blackIs1)) r1 f1 (by rw [h3]; exact h0) h2 h3
      (by rw [hlen]; omega)
      (by
        intro hrs
        cases rs with
        | nil => exact absurd rfl hrs
        | cons x xs =>
          have := hpos x (by simp)
          simp only [List.sum_cons] at hsum
          rw [hlen]; omega)
      (by
        intro x hx'
        cases rs with
        | nil => simp at hx'
        | cons y ys => exact hpos x (by simp only [List.tail_cons] at hx' ⊢; exact List.mem_cons_of_mem _ hx'))
      h4
    refine ⟨r2, ?_, g2, g3, ?_⟩
    · rw [h1, ← hlen, g1]
    · simpa [expandRuns, List.append_assoc] using g4

/-- a stored bit as a pixel value; by unfolding the anonymous `fun b => if b then 1 else 0` of the model's `pixelsOf` and
`Rd.decode2D`, which `pixelsOf_eq` and `ccitt_g4_row_rt` use through `rfl`/`change` -/
def b2n (b : Bool) : Nat := if b then 1 else 0

theorem b2n_inj (a b : Bool) : b2n a = b2n b ↔ a = b := by cases a <;> cases b <;> simp [b2n]

theorem groupRuns_expand : ∀ (bs : Bits) (c : Bool) (n : Nat),
    expandRuns c (groupRunsGo (b2n c) n (bs.map b2n)) = List.replicate n c ++ bs := by
  intro bs
  induction bs with
  | nil => intro c n; simp [groupRunsGo, expandRuns]
  | cons q rest ih =>
    intro c n
    simp only [List.map_cons, groupRunsGo]
    by_cases h : b2n q = b2n c
    · rw [if_pos h]
      have hq : q = c := (b2n_inj q c).1 h
      rw [ih c (n + 1), hq, List.replicate_succ']
      simp
    · rw [if_neg h]
      have hq : q = !c := by cases q <;> cases c <;> simp_all [b2n]
      simp only [expandRuns]
      rw [← hq, ih q 1]
      simp

theorem groupRuns_sum : ∀ (l : List Nat) (cur n : Nat), (groupRunsGo cur n l).sum = n + l.length := by
  intro l cur n
  fun_induction groupRunsGo cur n l
  · simp
  · next ih => rw [ih]; simp; omega
  · next ih => rw [List.sum_cons, ih]; simp; omega

theorem runs1D_cons (w q : Nat) (rest : List Nat) : runs1D w (q :: rest) = groupRunsGo w 0 (q :: rest) := by
  simp only [runs1D, groupRunsGo]
  split
  · next h => rw [h]
  · rfl

theorem runs1D_expand (bs : Bits) (w : Bool) : expandRuns w (runs1D (b2n w) (bs.map b2n)) = bs := by
  cases bs with
  | nil => rfl
  | cons q rest => rw [List.map_cons, runs1D_cons, ← List.map_cons, groupRuns_expand]; rfl

theorem runs1D_sum (l : List Nat) (w : Nat) : (runs1D w l).sum = l.length := by
  cases l with
  | nil => rfl
  | cons q rest => rw [runs1D_cons, groupRuns_sum, Nat.zero_add]

theorem whiteBit_eq (p : CParams) : p.whiteBit = b2n (true != p.blackIs1) := by
  unfold CParams.whiteBit; cases p.blackIs1 <;> rfl

theorem bytesToBits_append (a b : Bytes) : bytesToBits (a ++ b) = bytesToBits a ++ bytesToBits b := by
  simp [bytesToBits]

theorem bytesToBits_length (row : Bytes) : (bytesToBits row).length = 8 * row.length := by
  induction row with
  | nil => rfl
  | cons b bs ih =>
    simp only [bytesToBits, List.flatMap_cons, List.length_append, byteBits_length, List.length_cons] at ih ⊢
    omega

theorem pixelsOf_eq (p : CParams) (row : Bytes) (hlen : row.length = p.lineBytes) :
    pixelsOf p row = ((bytesToBits row).take p.columns).map b2n := by
  unfold pixelsOf
  simp only []
  have hl : (bytesToBits row).length = 8 * p.lineBytes := by rw [bytesToBits_length, hlen]
  have hge := (lineBytes_bounds p).1
  have h0 : p.columns - ((bytesToBits row).map fun b => if b = true then 1 else 0).length = 0 := by
    rw [List.length_map, hl]; omega
  rw [h0, List.replicate_zero, List.append_nil, ← List.map_take]
  rfl

/-- zero padding bits: the bits of a row beyond `columns` are zero -/
theorem row_padding (p : CParams) (row : Bytes) (hc : 0 < p.columns) (hlen : row.length = p.lineBytes)
    (hpad : paddingOk p row = true) :
    bytesToBits row = (bytesToBits row).take p.columns ++ List.replicate (ceil8 p.columns - p.columns) false := by
  have hlb := lineBytes_bounds p
  rw [ceil8_columns]
  conv => lhs; rw [← List.take_append_drop p.columns (bytesToBits row)]
  congr 1
  by_cases h8 : p.columns % 8 = 0
  · have : p.columns = 8 * p.lineBytes := by omega
    rw [List.drop_of_length_le (by rw [bytesToBits_length, hlen]; omega), this]; simp
  · -- the last byte `b`: its low `8 - columns % 8` bits are zero
    obtain ⟨q, m, hq, hm0, hm8, hL⟩ : ∃ q m, p.columns = 8 * q + m ∧ 0 < m ∧ m < 8 ∧ p.lineBytes = q + 1 :=
      ⟨p.columns / 8, p.columns % 8, by omega, by omega, by omega, by omega⟩
    unfold paddingOk at hpad
    rw [if_pos h8, show (p.columns - 1) / 8 = q by omega, show p.columns % 8 = m by omega] at hpad
    rw [hL] at hlen ⊢
    rw [hq]
    obtain ⟨ini, b, hrow⟩ : ∃ ini b, row = ini ++ [b] :=
      ⟨row.dropLast, row.getLast (by intro h; rw [h] at hlen; simp at hlen),
        (List.dropLast_concat_getLast _).symm⟩
    subst hrow
    have hini : ini.length = q := by simpa using hlen
    rw [List.getElem?_append_right (by omega), hini, Nat.sub_self] at hpad
    have hb : b % 2 ^ (8 - m) = 0 := by simpa using hpad
    have hbb : byteBits b = codeBits b (m + (8 - m)) := by unfold byteBits; congr 1; omega
    rw [bytesToBits_append, List.drop_append, List.drop_of_length_le (by rw [bytesToBits_length, hini]; omega),
      List.nil_append, bytesToBits_length, hini, show bytesToBits [b] = byteBits b by rw [bytesToBits_cons, bytesToBits_nil, List.append_nil],
      show 8 * q + m - 8 * q = m by omega, hbb, codeBits_drop, codeBits_zero_of_mod _ _ hb]
    congr 1; omega

theorem packBits_bytes (row : Bytes) (h : AllBytes row) : packBits (bytesToBits row) = (row, []) := by
  induction row with
  | nil => rfl
  | cons b bs ih =>
    have hb : b < 256 := by simp at h; exact h.1
    have hbs : AllBytes bs := by simp at h; exact h.2
    obtain ⟨b0, b1, b2, b3, b4, b5, b6, b7, h8⟩ := byteBits_eight b
    have hv := bitsToNat_byteBits b hb
    rw [h8] at hv
    simp only [bytesToBits, List.flatMap_cons] at ih ⊢
    rw [h8]
    simp only [List.cons_append, List.nil_append, packBits, ih hbs, hv]

theorem groupRuns_pos : ∀ (l : List Nat) (cur n : Nat), 1 ≤ n → ∀ x ∈ groupRunsGo cur n l, 1 ≤ x := by
  intro l cur n
  fun_induction groupRunsGo cur n l <;> intro hn x hx
  · simp at hx; omega
  · next ih => exact ih (by omega) x hx
  · next ih =>
    rcases List.mem_cons.1 hx with h | h
    · omega
    · exact ih (by omega) x h

theorem groupRuns_ne_nil : ∀ (l : List Nat) (cur n : Nat), groupRunsGo cur n l ≠ [] := by
  intro l cur n
  fun_induction groupRunsGo cur n l
  · simp
  · assumption
  · simp

theorem runs1D_last_pos (l : List Nat) (w x : Nat) (h : (runs1D w l).getLast? = some x) : 1 ≤ x := by
  cases l with
  | nil => simp [runs1D] at h
  | cons q rest =>
    simp only [runs1D] at h
    split at h
    · exact groupRuns_pos rest q 1 (by omega) x (List.mem_of_getLast? h)
    · rw [getLastQ_cons_ne 0 _ (groupRuns_ne_nil rest q 1)] at h
      exact groupRuns_pos rest q 1 (by omega) x (List.mem_of_getLast? h)

theorem runs1D_tail_pos (l : List Nat) (w : Nat) : ∀ x ∈ (runs1D w l).tail, 1 ≤ x := by
  intro x hx
  cases l with
  | nil => simp [runs1D] at hx
  | cons q rest =>
    simp only [runs1D] at hx
    split at hx
    · exact groupRuns_pos rest q 1 (by omega) x (List.mem_of_mem_tail hx)
    · simp only [List.tail_cons] at hx
      exact groupRuns_pos rest q 1 (by omega) x hx

theorem stream_length (r : Rd) : (Rd.stream r).length = r.bitsLeft := by
  unfold Rd.stream Rd.bitsLeft
  rw [List.length_append, bytesToBits_length]

def rowPixels (p : CParams) (row : Bytes) : Bits := (bytesToBits row).take p.columns

theorem rowPixels_length (p : CParams) (row : Bytes) (hlen : row.length = p.lineBytes) :
    (rowPixels p row).length = p.columns := by
  unfold rowPixels
  have := lineBytes_bounds p
  rw [List.length_take, bytesToBits_length, hlen]; omega

/-- a line buffer that holds the pixels of a whole row holds the row's bytes -/
theorem lineIs_row (p : CParams) (row : Bytes) (line : Bits) (hc : 0 < p.columns) (hlen : row.length = p.lineBytes)
    (hpad : paddingOk p row = true) (h : LineIs line (rowPixels p row)) : line = bytesToBits row := by
  unfold LineIs at h
  rw [h, rowPixels_length p row hlen]
  exact (row_padding p row hc hlen hpad).symm

theorem dec1D_row (p : CParams) (row : Bytes) (r0 : Rd) (rest : Bits) (n f : Nat)
    (hc : 0 < p.columns) (hlen : row.length = p.lineBytes) (hpad : paddingOk p row = true)
    (he : Rd.clean r0) (hl0 : r0.line = []) (hs : Rd.stream r0 = encode1DLine p (pixelsOf p row) ++ rest)
    (hrest : 13 ≤ rest.length) (hf : (Rd.stream r0).length < f) :
    ∃ r', Rd.decode1DGo r0 p f 0 true n false = r'.alignRow p ∧ Rd.clean r' ∧ Rd.stream r' = rest ∧
      r'.line = bytesToBits row := by
  unfold encode1DLine at hs
  rw [pixelsOf_eq p row hlen, whiteBit_eq p] at hs
  have hrl := rowPixels_length p row hlen
  change Rd.stream r0 = encodeRuns true (runs1D _ ((rowPixels p row).map b2n)) ++ rest at hs
  have hsum := runs1D_sum ((rowPixels p row).map b2n) (b2n (true != p.blackIs1))
  have hexp := runs1D_expand (rowPixels p row) (true != p.blackIs1)
  have htail := runs1D_tail_pos ((rowPixels p row).map b2n) (b2n (true != p.blackIs1))
  generalize runs1D (b2n (true != p.blackIs1)) ((rowPixels p row).map b2n) = runs at hs hsum hexp htail
  rw [List.length_map, hrl] at hsum
  obtain ⟨r', h1, h2, h3, h4⟩ := dec1D_runs p rest hrest n runs true [] r0 f hf he hs
    (by simpa using hsum) (fun _ => by simpa using hc) htail (by rw [hl0]; exact lineIs_nil)
  refine ⟨r', h1, h2, h3, ?_⟩
  rw [List.nil_append, hexp] at h4
  exact lineIs_row p row _ hc hlen hpad h4

/-- Group 3 one-dimensional row round trip.  For EVERY row of `Columns` pixels (also one
whose final run is a positive multiple of 64, class `ccitt-1d-final-run-64`), with any
reader state whose unread bits are the row's code followed by at least 13 more bits:
`decodeG3ScanLine1D` consumes exactly the row's code, raises no error and leaves the row's bytes in
the line buffer; the fill bits, if any, are left to its final `alignRow`. -/
theorem ccitt_g3_1d_row_rt_pre (p : CParams) (row : Bytes) (r : Rd) (rest : Bits)
    (hc : 0 < p.columns) (hlen : row.length = p.lineBytes) (hpad : paddingOk p row = true)
    (he : Rd.clean r) (hs : Rd.stream r = encode1DLine p (pixelsOf p row) ++ rest) (hrest : 13 ≤ rest.length) :
    ∃ r', r.decode1D p = r'.alignRow p ∧ Rd.clean r' ∧ Rd.stream r' = rest ∧ r'.line = bytesToBits row := by
  exact dec1D_row p row { r with line := [] } rest 0 _ hc hlen hpad he rfl hs hrest
    (by show (Rd.stream r).length < r.bitsLeft + 2; rw [stream_length]; omega)

/-- the same without byte alignment: `alignRow` does nothing -/
theorem ccitt_g3_1d_row_rt (p : CParams) (row : Bytes) (r : Rd) (rest : Bits)
    (hc : 0 < p.columns) (hal : p.byteAlign = false) (hlen : row.length = p.lineBytes) (hpad : paddingOk p row = true)
    (he : Rd.clean r) (hs : Rd.stream r = encode1DLine p (pixelsOf p row) ++ rest) (hrest : 13 ≤ rest.length) :
    Rd.clean (r.decode1D p) ∧ Rd.stream (r.decode1D p) = rest ∧ (r.decode1D p).line = bytesToBits row := by
  obtain ⟨r', h1, h2, h3, h4⟩ := ccitt_g3_1d_row_rt_pre p row r rest hc hlen hpad he hs hrest
  have : r'.alignRow p = r' := by unfold Rd.alignRow; simp [hal]
  rw [h1, this]
  exact ⟨h2, h3, h4⟩

theorem white_eol_entry : ccitt_whiteTable_Param 1 = 0 ∧ ccitt_whiteTable_State 1 = ccitt_S_EOL ∧
    ccitt_whiteTable_Width 1 = 11 := by decide +kernel

theorem eol12_bits : codeBits 1 12 = List.replicate 11 false ++ [true] := by decide

theorem readBits_one (r : Rd) (b : Bool) (tl : Bits) (he : Rd.clean r) (hs : Rd.stream r = b :: tl) :
    (r.readBits 1).1 = (if b then 1 else 0) ∧ Rd.clean (r.readBits 1).2 ∧ Rd.stream (r.readBits 1).2 = tl ∧
    (r.readBits 1).2.line = r.line := by
  have hlen : 1 ≤ (Rd.stream r).length := by rw [hs]; simp
  obtain ⟨p1, p2, p3, p4⟩ := peek_spec r 1 he (by omega) hlen
  obtain ⟨c1, c2, c3⟩ := consume_spec (r.peek 1).2 1 p2 (by omega) (by rw [p3]; exact hlen)
  unfold Rd.readBits
  simp only []
  refine ⟨?_, c1, ?_, by rw [c3, p4]⟩
  · rw [p1, hs]; cases b <;> rfl
  · rw [c2, p3, hs]; rfl

theorem waitForOne_one (r : Rd) (rest : Bits) (f : Nat) (he : Rd.clean r) (hs : Rd.stream r = true :: rest) :
    Rd.clean (r.waitForOne (f + 1)) ∧ Rd.stream (r.waitForOne (f + 1)) = rest ∧ (r.waitForOne (f + 1)).line = r.line := by
  obtain ⟨b1, b2⟩ := readBits_one r true rest he hs
  rw [Rd.waitForOne, if_pos he.1]
  rcases hrb : r.readBits 1 with ⟨v, r2⟩
  rw [hrb] at b1 b2
  simp only at b1 b2 ⊢
  rw [b1, if_neg (by decide)]
  exact b2

/-- `decodeRun` at an EOL code consumes the eleven zeros; the final `1` stays -/
theorem decodeRun_eol (r : Rd) (tl : Bits) (he : Rd.clean r) (hs : Rd.stream r = codeBits 1 12 ++ tl) :
    ∃ r', r.decodeRun true = (0, ccitt_S_EOL, r') ∧ Rd.clean r' ∧ Rd.stream r' = true :: tl ∧ r'.line = r.line := by
  have hlen : 12 ≤ (Rd.stream r).length := by rw [hs, List.length_append, codeBits_length]; omega
  obtain ⟨p1, p2, p3, p4⟩ := peek_spec r 12 he (by omega) hlen
  have hv : (r.peek 12).1 = 1 := by
    rw [p1, hs, List.take_left' (codeBits_length ..)]
    decide
  obtain ⟨w1, w2, w3⟩ := white_eol_entry
  obtain ⟨c1, c2, c3⟩ := consume_spec (r.peek 12).2 11 p2 (by omega) (by rw [p3]; omega)
  refine ⟨(r.peek 12).2.consume 11, ?_, c1, ?_, by rw [c3, p4]⟩
  · unfold Rd.decodeRun
    simp only [if_true, hv, w1, w2, w3]
    rfl
  · rw [c2, p3, hs, eol12_bits, List.append_assoc, List.drop_left' (List.length_replicate ..)]
    rfl

/-- an EOL code at the start of a row inside the 1-D loop: consumed (with its final `1`) and counted; the sixth in a row
ends the data -/
theorem dec1D_eol_step (p : CParams) (hc : 0 < p.columns) (r : Rd) (tl : Bits) (f n : Nat) (nt : Bool)
    (he : Rd.clean r) (hline : r.line = []) (hs : Rd.stream r = codeBits 1 12 ++ tl) :
    ∃ r2, Rd.clean r2 ∧ Rd.stream r2 = tl ∧ r2.line = [] ∧
      Rd.decode1DGo r p (f + 1) 0 true n nt =
        if (!p.ignoreEOB) = true ∧ n + 1 ≥ 6 then { r2 with err := 1 } else Rd.decode1DGo r2 p f 0 true (n + 1) false := by
  obtain ⟨r1, hdr, c1, c2, c3⟩ := decodeRun_eol r tl he hs
  obtain ⟨v1, v2, v3⟩ := waitForOne_one { r1 with line := [] } tl (r1.bitsLeft + 1) c1 c2
  refine ⟨_, v1, v2, v3, ?_⟩
  rw [Rd.decode1DGo, if_pos ⟨Or.inl hc, he.1⟩, hdr]
  have hfill : fillRow r1.line ((0 : Nat) : Int) (((0 : Nat) : Int) + ((0 : Nat) : Int)) (true != p.blackIs1) = [] := by
    rw [fillRow_empty _ _ (by omega), c3, hline]
  have hmk : isMakeUp ccitt_S_EOL = false := by decide
  simp only [Nat.zero_le, Nat.min_eq_left, Nat.add_zero, if_true, hfill, hmk]
  rfl

/-- the return-to-control sequence: `k` remaining EOL codes, `6 - k` already counted -/
theorem dec1D_rtc (p : CParams) (hc : 0 < p.columns) (hig : p.ignoreEOB = false) (pad : Bits) :
    ∀ (k : Nat) (r : Rd) (f : Nat), 1 ≤ k → k ≤ 6 → Rd.clean r → r.line = [] →
      Rd.stream r = (List.replicate k (codeBits 1 12)).flatten ++ pad →
      (Rd.decode1DGo r p (f + k) 0 true (6 - k) false).err = 1 ∧ (Rd.decode1DGo r p (f + k) 0 true (6 - k) false).line = [] := by
  intro k
  induction k with
  | zero => intro r f h1; omega
  | succ k ih =>
    intro r f _ hk6 he hline hs
    rw [List.replicate_succ, List.flatten_cons, List.append_assoc] at hs
    obtain ⟨r2, v1, v2, v3, hstep⟩ := dec1D_eol_step p hc r _ (f + k) (6 - (k + 1)) false he hline hs
    rw [← Nat.add_assoc, hstep]
    by_cases hk0 : k = 0
    · subst hk0
      rw [if_pos ⟨by simp [hig], by omega⟩]
      exact ⟨rfl, v3⟩
    · rw [if_neg (by omega), show 6 - (k + 1) + 1 = 6 - k by omega]
      exact ih r2 f (by omega) (by omega) v1 v3 v2

/-- `ccitt_g3_1d_row_rt_pre` with the row's EOL code in front if `EndOfLine` is set -/
theorem ccitt_g3_1d_row_rt_eol (p : CParams) (row : Bytes) (r : Rd) (rest : Bits)
    (hc : 0 < p.columns) (hlen : row.length = p.lineBytes) (hpad : paddingOk p row = true) (he : Rd.clean r)
    (hs : Rd.stream r = eolp p ++ (encode1DLine p (pixelsOf p row) ++ rest))
    (hrest : 13 ≤ rest.length) :
    ∃ r', r.decode1D p = r'.alignRow p ∧ Rd.clean r' ∧ Rd.stream r' = rest ∧ r'.line = bytesToBits row := by
  cases heol : p.endOfLine
  · rw [eolp, heol] at hs
    exact ccitt_g3_1d_row_rt_pre p row r rest hc hlen hpad he hs hrest
  · rw [eolp, heol, if_pos rfl] at hs
    have h2 := stream_length r
    rw [hs] at h2
    simp only [List.length_append, eol12, codeBits_length] at h2
    obtain ⟨r2, e1, e2, e3, hstep⟩ := dec1D_eol_step p hc { r with line := [] } _ (r.bitsLeft + 1) 0 false he rfl hs
    rw [if_neg (by omega)] at hstep
    unfold Rd.decode1D
    show ∃ r', Rd.decode1DGo _ p (r.bitsLeft + 1 + 1) 0 true 0 false = _ ∧ _
    rw [hstep]
    exact dec1D_row p row r2 rest 1 _ hc hlen hpad e1 e3 e2 hrest (by rw [e2]; simp only [List.length_append]; omega)

theorem packBits_spec (bits : Bits) :
    bytesToBits (packBits bits).1 ++ (packBits bits).2 = bits ∧ (packBits bits).2.length < 8 := by
  induction bits using packBits.induct with
  | case1 b0 b1 b2 b3 b4 b5 b6 b7 rest bytes left hp ih =>
    rw [packBits, hp]
    simp only [hp] at ih
    refine ⟨?_, ih.2⟩
    simp only [bytesToBits_cons, byteBits_bitsToNat [b0, b1, b2, b3, b4, b5, b6, b7] rfl, List.cons_append, List.nil_append]
    rw [ih.1]
  | case2 left h =>
    rw [packBits]
    · refine ⟨by simp [bytesToBits_nil], ?_⟩
      rcases left with _ | ⟨b0, _ | ⟨b1, _ | ⟨b2, _ | ⟨b3, _ | ⟨b4, _ | ⟨b5, _ | ⟨b6, _ | ⟨b7, rest⟩⟩⟩⟩⟩⟩⟩⟩ <;>
        first | exact absurd rfl (h _ _ _ _ _ _ _ _ _) | simp
    · exact h

theorem splitRows_flatten (n : Nat) (hn : 0 < n) : ∀ (rows : List Bytes) (fuel : Nat), (∀ row ∈ rows, row.length = n) →
    rows.length < fuel → splitRows n fuel rows.flatten = rows := by
  intro rows
  induction rows with
  | nil =>
    intro fuel _ hf
    cases fuel with
    | zero => omega
    | succ f => simp [splitRows]
  | cons row rest ih =>
    intro fuel hlen hf
    cases fuel with
    | zero => omega
    | succ f =>
      have hr := hlen row (by simp)
      simp only [List.flatten_cons, splitRows]
      have : ¬ ((row ++ rest.flatten).length < n ∨ n = 0) := by
        simp only [List.length_append]; omega
      rw [if_neg this, List.take_left' hr, List.drop_left' hr,
        ih f (fun r h => hlen r (by simp [h])) (by simp at hf; omega)]

theorem flatten_length_rows (n : Nat) : ∀ (rows : List Bytes), (∀ row ∈ rows, row.length = n) →
    rows.flatten.length = rows.length * n := by
  intro rows
  induction rows with
  | nil => intro _; simp
  | cons row rest ih =>
    intro h
    simp only [List.flatten_cons, List.length_append, List.length_cons, h row (by simp),
      ih (fun r hr => h r (by simp [hr]))]
    rw [Nat.succ_mul]; omega

theorem flushPending_bits (left : Bits) (h : left.length < 8) :
    ∃ k, k < 8 ∧ bytesToBits (flushPending left) = left ++ List.replicate k false := by
  unfold flushPending
  cases left with
  | nil => exact ⟨0, by omega, rfl⟩
  | cons a as =>
    refine ⟨8 - (a :: as).length, by simp; omega, ?_⟩
    rw [List.isEmpty_cons, if_neg (by simp), bytesToBits_cons, byteBits_bitsToNat _ (by simp at h ⊢; omega)]
    exact List.append_nil _

/-- the input is loaded bytewise, so the number of unread bits modulo 8 is the distance to the next byte boundary: with
fewer than 8 fill bits (of any value) in front of whole bytes `alignRow` skips exactly the fill bits -/
theorem alignRow_skip (p : CParams) (r : Rd) (pad suffix : Bits) (he : Rd.clean r) (hs : Rd.stream r = pad ++ suffix)
    (hal : p.byteAlign = true → pad.length < 8 ∧ suffix.length % 8 = 0) (hno : p.byteAlign = false → pad = []) :
    Rd.clean (r.alignRow p) ∧ Rd.stream (r.alignRow p) = suffix ∧ (r.alignRow p).line = r.line := by
  unfold Rd.alignRow
  cases hb : p.byteAlign
  · rw [if_neg (by simp), hs, hno hb]; exact ⟨he, rfl, rfl⟩
  · obtain ⟨hp, hm⟩ := hal hb
    have hlen := stream_length r
    rw [hs, List.length_append] at hlen
    unfold Rd.bitsLeft at hlen
    have hk : r.win.length % 8 = pad.length := by omega
    rw [if_pos ⟨rfl, he.1⟩, hk]
    obtain ⟨c1, c2, c3⟩ := consume_spec r pad.length he (by omega) (by rw [hs, List.length_append]; omega)
    refine ⟨c1, ?_, c3⟩
    rw [c2, hs, List.drop_left' rfl]

theorem pack_flush_bits (bits : Bits) :
    bytesToBits ((packBits bits).1 ++ flushPending (packBits bits).2) = bits ++ alignPad bits := by
  obtain ⟨k1, k2⟩ := packBits_spec bits
  obtain ⟨k, hk, hfp⟩ := flushPending_bits (packBits bits).2 k2
  have h : bytesToBits ((packBits bits).1 ++ flushPending (packBits bits).2) = bits ++ List.replicate k false := by
    rw [bytesToBits_append, hfp, ← List.append_assoc, k1]
  have hl := congrArg List.length h
  simp only [bytesToBits_length, List.length_append, List.length_replicate] at hl
  rw [h, alignPad]
  congr 2
  omega

theorem encodeRowsGo_bits (p : CParams) : ∀ (rows : List Bytes) (numRows c2 : Nat) (ref : List Nat) (pending : Bits),
    (∀ row ∈ rows, paddingOk p row = true) → (p.maxRows = 0 ∨ numRows + rows.length ≤ p.maxRows) →
    (p.byteAlign = true → pending = []) →
    (encodeRowsGo p rows numRows c2 ref pending).2.2 = none ∧
    (p.byteAlign = true → (encodeRowsGo p rows numRows c2 ref pending).2.1 = []) ∧
    bytesToBits (encodeRowsGo p rows numRows c2 ref pending).1 ++ (encodeRowsGo p rows numRows c2 ref pending).2.1 =
      pending ++ allRowBitsP p rows c2 ref := by
  intro rows
  induction rows with
  | nil => intro numRows c2 ref pending _ _ hpe; exact ⟨rfl, hpe, by simp [encodeRowsGo, allRowBitsP_nil, bytesToBits_nil]⟩
  | cons row rest ih =>
    intro numRows c2 ref pending hpad hmax hpe
    have hguard : ¬ (p.maxRows > 0 ∧ numRows ≥ p.maxRows) := by
      simp only [List.length_cons] at hmax; omega
    rw [encodeRowsGo, if_neg hguard, hpad row (by simp)]
    simp only [Bool.not_true, Bool.false_eq_true, if_false, allRowBitsP_cons]
    generalize encodeRowBits p c2 ref (pixelsOf p row) = e
    have hrec := fun left hl => ih (numRows + 1) e.2 (pixelsOf p row) left (fun r hr => hpad r (by simp [hr]))
      (by simp only [List.length_cons] at hmax; omega) hl
    cases hb : p.byteAlign
    · simp only [Bool.false_eq_true, if_false]
      obtain ⟨i1, _, i3⟩ := hrec (packBits (pending ++ e.1)).2 (fun h => by simp [hb] at h)
      refine ⟨i1, fun h => by simp at h, ?_⟩
      rw [bytesToBits_append, List.append_assoc, i3, ← List.append_assoc, (packBits_spec _).1, padOf_of_false p hb]
      simp only [List.append_assoc, List.nil_append]
    · simp only [if_true]
      obtain ⟨i1, i2, i3⟩ := hrec [] (fun _ => rfl)
      refine ⟨i1, fun _ => i2 hb, ?_⟩
      rw [bytesToBits_append, List.append_assoc, i3, List.nil_append, hpe hb, List.nil_append, pack_flush_bits,
        padOf_of_true p hb, List.append_assoc, List.nil_append]

/-- the encoder's output, bit by bit: all rows (with their fill bits), the end-of-block code, zero padding;
with EncodedByteAlign the tail after the rows consists of whole bytes -/
theorem encodeAll_bits (p : CParams) (rows : List Bytes) (hlb : 0 < p.lineBytes)
    (hlen : ∀ row ∈ rows, row.length = p.lineBytes) (hpad : ∀ row ∈ rows, paddingOk p row = true)
    (hmax : p.maxRows = 0 ∨ rows.length ≤ p.maxRows) :
    (encodeAll p rows.flatten).2 = none ∧
    ∃ k, k < 8 ∧ (p.byteAlign = true → (endOfBlockBits p ++ List.replicate k false).length % 8 = 0) ∧
      bytesToBits (encodeAll p rows.flatten).1 =
        allRowBitsP p rows 0 (List.replicate p.columns p.whiteBit) ++ (endOfBlockBits p ++ List.replicate k false) := by
  have hfl := flatten_length_rows p.lineBytes rows hlen
  have hsplit : splitRows p.lineBytes (rows.flatten.length + 1) rows.flatten = rows := by
    apply splitRows_flatten p.lineBytes hlb rows _ hlen
    rw [hfl]
    have : rows.length ≤ rows.length * p.lineBytes := Nat.le_mul_of_pos_right _ hlb
    omega
  have hmod : rows.flatten.length % p.lineBytes = 0 := by rw [hfl]; exact Nat.mul_mod_left _ _
  obtain ⟨e1, e2, e3⟩ := encodeRowsGo_bits p rows 0 0 (List.replicate p.columns p.whiteBit) [] hpad (by simpa using hmax)
    (fun _ => rfl)
  unfold encodeAll
  simp only [hsplit]
  generalize encodeRowsGo p rows 0 0 (List.replicate p.columns p.whiteBit) [] = g at e1 e2 e3
  rw [e1]
  have hbits : bytesToBits (g.1 ++ (packBits (g.2.1 ++ endOfBlockBits p)).1 ++ flushPending (packBits (g.2.1 ++ endOfBlockBits p)).2)
      = allRowBitsP p rows 0 (List.replicate p.columns p.whiteBit) ++
        (endOfBlockBits p ++ alignPad (g.2.1 ++ endOfBlockBits p)) := by
    rw [List.append_assoc, bytesToBits_append, pack_flush_bits, ← List.append_assoc, ← List.append_assoc, e3]
    simp
  refine ⟨by simp only [hmod, ne_eq, not_true_eq_false, false_and, if_false], (8 - (g.2.1 ++ endOfBlockBits p).length % 8) % 8,
    by omega, fun hal => ?_, hbits⟩
  rw [e2 hal]
  exact alignPad_mod ([] ++ endOfBlockBits p)

theorem allRowBitsP_mod (p : CParams) (hal : p.byteAlign = true) : ∀ (rows : List Bytes) (c2 : Nat) (ref : List Nat),
    (allRowBitsP p rows c2 ref).length % 8 = 0 := by
  intro rows
  induction rows with
  | nil => intro _ _; rfl
  | cons row rest ih =>
    intro c2 ref
    have h1 := padOf_of_true p hal _ ▸ alignPad_mod (encodeRowBits p c2 ref (pixelsOf p row)).1
    have h2 := ih (encodeRowBits p c2 ref (pixelsOf p row)).2 (pixelsOf p row)
    simp only [allRowBitsP_cons, List.length_append] at h1 h2 ⊢
    omega

theorem alignRow_rows (p : CParams) (r : Rd) (bits tail : Bits) (rest : List Bytes) (c2 : Nat) (ref : List Nat) (he : Rd.clean r)
    (hs : Rd.stream r = padOf p bits ++ (allRowBitsP p rest c2 ref ++ tail)) (hm : p.byteAlign = true → tail.length % 8 = 0) :
    Rd.clean (r.alignRow p) ∧ Rd.stream (r.alignRow p) = allRowBitsP p rest c2 ref ++ tail ∧ (r.alignRow p).line = r.line :=
  alignRow_skip p r _ _ he hs
    (fun hal => ⟨padOf_of_true p hal bits ▸ alignPad_length_lt bits, by
      have := allRowBitsP_mod p hal rest c2 ref
      have := hm hal
      rw [List.length_append]; omega⟩)
    (fun h => padOf_of_false p h bits)

/-- `changesGo` on stored bits -/
def chg : Bool → Nat → Bits → List Nat
  | _, _, [] => []
  | prev, x, c :: rest => if c ≠ prev then x :: chg c (x + 1) rest else chg prev (x + 1) rest

theorem changesGo_map : ∀ (bs : Bits) (prev : Bool) (x : Nat),
    changesGo (b2n prev) x (bs.map b2n) = chg prev x bs := by
  intro bs
  induction bs with
  | nil => intro _ _; rfl
  | cons c rest ih =>
    intro prev x
    simp only [List.map_cons, changesGo, chg]
    by_cases h : c = prev
    · subst h; simp [ih]
    · have : b2n c ≠ b2n prev := fun h' => h ((b2n_inj c prev).1 h')
      simp [h, this, ih]

theorem chg_replicate (c : Bool) : ∀ (j x : Nat) (t : Bits), chg c x (List.replicate j c ++ t) = chg c (x + j) t := by
  intro j
  induction j with
  | zero => intro x t; simp
  | succ j ih =>
    intro x t
    simp only [List.replicate_succ, List.cons_append, chg, ne_eq, not_true_eq_false, if_false]
    rw [ih]; congr 1; omega

theorem chg_ge : ∀ (bs : Bits) (prev : Bool) (x : Nat), ∀ y ∈ chg prev x bs, x ≤ y := by
  intro bs prev x
  fun_induction chg prev x bs <;> intro y hy
  · cases hy
  · next ih =>
    rcases List.mem_cons.1 hy with h | h
    · omega
    · have := ih y h; omega
  · next ih => have := ih y hy; omega

theorem split_run (c : Bool) : ∀ (l : Bits), ∃ k t, l = List.replicate k c ++ t ∧ (t = [] ∨ ∃ t', t = (!c) :: t') := by
  intro l
  induction l with
  | nil => exact ⟨0, [], rfl, .inl rfl⟩
  | cons d rest ih =>
    by_cases h : d = c
    · obtain ⟨k, t, h1, h2⟩ := ih
      exact ⟨k + 1, t, by rw [h, h1, List.replicate_succ]; rfl, h2⟩
    · refine ⟨0, d :: rest, rfl, .inr ⟨rest, ?_⟩⟩
      have : d = !c := by cases d <;> cases c <;> simp_all
      rw [this]

theorem two_runs (c : Bool) (l : Bits) : ∃ k1 n2 t, l = List.replicate k1 c ++ (List.replicate n2 (!c) ++ t) ∧
    (t = [] ∨ ∃ t', t = c :: t') ∧ (n2 = 0 → t = []) := by
  obtain ⟨k1, t, hl, ht | ⟨t', ht⟩⟩ := split_run c l
  · exact ⟨k1, 0, [], by rw [hl, ht]; rfl, .inl rfl, fun _ => rfl⟩
  · obtain ⟨k2, t2, ht', ht2⟩ := split_run (!c) t'
    rw [Bool.not_not] at ht2
    exact ⟨k1, k2 + 1, t2, by rw [hl, ht, ht', List.replicate_succ, List.cons_append], ht2, fun h => by omega⟩

theorem chg_sorted : ∀ (bs : Bits) (prev : Bool) (x : Nat), (chg prev x bs).Pairwise (· < ·) := by
  intro bs prev x
  fun_induction chg prev x bs
  · simp
  · next ih => exact List.pairwise_cons.2 ⟨fun y hy => by have := chg_ge _ _ _ y hy; omega, ih⟩
  · assumption

theorem searchGT_spec : ∀ (l : List Nat) (a0 : Int), l.Pairwise (· < ·) →
    ∀ i v, searchGT l a0 ≤ i → l[i]? = some v → a0 < (v : Int) := by
  intro l
  induction l with
  | nil => intro a0 _ i v _ h; simp at h
  | cons c rest ih =>
    intro a0 hp i v hi hg
    rw [List.pairwise_cons] at hp
    unfold searchGT at hi
    simp only [List.takeWhile_cons] at hi
    by_cases hc : (c : Int) ≤ a0
    · simp only [hc, decide_true, if_true, List.length_cons] at hi
      cases i with
      | zero => omega
      | succ j =>
        simp only [List.getElem?_cons_succ] at hg
        exact ih a0 hp.2 j v (by unfold searchGT; omega) hg
    · cases i with
      | zero =>
        simp only [List.getElem?_cons_zero, Option.some.injEq] at hg
        omega
      | succ j =>
        simp only [List.getElem?_cons_succ] at hg
        have hv : v ∈ rest := List.mem_of_getElem? hg
        have := hp.1 v hv
        omega

theorem changeAt_gt (l : List Nat) (columns : Nat) (a0 : Int) (hs : l.Pairwise (· < ·)) (ha : a0 < (columns : Int))
    (i : Nat) (hi : searchGT l a0 ≤ i) : a0 < (changeAt l columns i : Int) := by
  unfold changeAt
  cases hg : l[i]? with
  | none => simpa using ha
  | some v => exact searchGT_spec l a0 hs i v hi hg

theorem searchGT_append (A L : List Nat) (a0 : Int) (hA : ∀ x ∈ A, (x : Int) ≤ a0) (hL : ∀ x ∈ L.head?, a0 < (x : Int)) :
    searchGT (A ++ L) a0 = A.length := by
  unfold searchGT
  induction A with
  | nil =>
    cases L with
    | nil => rfl
    | cons c rest =>
      have := hL c (by simp)
      simp only [List.nil_append, List.takeWhile_cons]
      have : ¬ ((c : Int) ≤ a0) := by omega
      simp [this]
  | cons a as ih =>
    have ha := hA a (by simp)
    simp only [List.cons_append, List.takeWhile_cons, ha, decide_true, if_true, List.length_cons]
    rw [ih (fun x hx => hA x (by simp [hx]))]

theorem changeAt_append (A L : List Nat) (columns i : Nat) :
    changeAt (A ++ L) columns (A.length + i) = changeAt L columns i := by
  unfold changeAt
  rw [List.getElem?_append_right (by omega)]
  simp

theorem nextTwo_append (A L : List Nat) (columns : Nat) (a0 : Int) (hA : ∀ x ∈ A, (x : Int) ≤ a0)
    (hL : ∀ x ∈ L.head?, a0 < (x : Int)) :
    nextTwoChanges (A ++ L) columns a0 = (changeAt L columns 0, changeAt L columns 1) := by
  unfold nextTwoChanges
  simp only [searchGT_append A L a0 hA hL]
  rw [show A.length = A.length + 0 from rfl, changeAt_append, Nat.add_assoc, changeAt_append]

/-- `fillRowBits` with the 2-D coder's arguments (`start` may be the imaginary position −1) -/
theorem fillRow_spec2 (line pre : Bits) (start stop : Int) (fill : Bool) (h : LineIs line pre)
    (hs : start.toNat = pre.length) (h1 : -1 ≤ start) :
    LineIs (fillRow line start stop fill) (pre ++ List.replicate (stop.toNat - pre.length) fill) := by
  by_cases hge : start ≥ stop
  · have : stop.toNat - pre.length = 0 := by omega
    rw [fillRow_empty _ _ hge, this]; simpa using h
  · have hstop : 0 ≤ stop := by omega
    by_cases hlen : stop.toNat - pre.length = 0
    · -- only possible for start = −1, stop = 0
      have hst : start = -1 := by omega
      have hs0 : stop = 0 := by omega
      have hpre : pre = [] := List.eq_nil_of_length_eq_zero (by omega)
      subst hpre
      have hline : line = [] := (lineIs_nil_iff line).1 h
      subst hline hst hs0
      simp only [hlen, List.replicate_zero, List.append_nil]
      unfold fillRow
      cases fill <;> simp [setRange, lineIs_nil]
    · have hfr : fillRow line start stop fill = fillRow line (pre.length : Int) ((pre.length : Int) + ((stop.toNat - pre.length : Nat) : Int)) fill := by
        have e : (pre.length : Int) + ((stop.toNat - pre.length : Nat) : Int) = stop := by omega
        rw [e]
        unfold fillRow
        have c1 : ¬ ((pre.length : Int) ≥ stop) := by omega
        rw [if_neg hge, if_neg c1, hs]
        simp
      rw [hfr]
      exact fillRow_spec line pre _ fill h

theorem modeEntry_fits : ∀ i, i < 9 → (modeEntry i).1 < 2 ^ (modeEntry i).2.1 ∧ 1 ≤ (modeEntry i).2.1 ∧ (modeEntry i).2.1 ≤ 7 := by
  decide

/-- the reader in front of mode code `i` (pass, horizontal, V0, VR1–3, VL1–3) -/
theorem dec2D_mode (i : Nat) (hi : i < 9) (r : Rd) (rest : Bits) (he : Rd.clean r)
    (hs : Rd.stream r = codeBits (modeEntry i).1 (modeEntry i).2.1 ++ rest) (hrest : 7 ≤ rest.length) :
    ∃ value r1, r.peek 7 = (value, r1) ∧ ccitt_mainTable_State value = (modeEntry i).2.2.1 ∧
      ccitt_mainTable_Param value = (modeEntry i).2.2.2 ∧
      Rd.clean (r1.consume (ccitt_mainTable_Width value)) ∧ Rd.stream (r1.consume (ccitt_mainTable_Width value)) = rest ∧
      (r1.consume (ccitt_mainTable_Width value)).line = r.line := by
  obtain ⟨hfit, _, hw7⟩ := modeEntry_fits i hi
  obtain ⟨⟨s, hs1, hval⟩, hcons⟩ := peek_code r 7 _ _ rest he (by omega) hw7 hfit hs hrest
  obtain ⟨t1, t2, t3⟩ := main_table_complete i hi s hs1
  simp only [← hval] at t1 t2 t3
  rw [← t2] at hcons
  exact ⟨_, _, rfl, t1, t3, hcons⟩

theorem b2n_beq_one (c : Bool) : (b2n c == 1) = c := by cases c <;> rfl
theorem b2n_beq_zero (c : Bool) : (b2n c == 0) = !c := by cases c <;> rfl
theorem one_sub_b2n (c : Bool) : 1 - b2n c = b2n (!c) := by cases c <;> rfl

theorem dec2D_pass (p : CParams) (refCh : List Nat) (r : Rd) (rest pre : Bits) (f : Nat) (a0 pa : Int) (c pc : Nat)
    (b1 b2 : Nat) (he : Rd.clean r) (hs : Rd.stream r = codeBits 1 4 ++ rest) (hrest : 13 ≤ rest.length)
    (ha : a0 < (p.columns : Int)) (hpa : pa < a0) (hl : LineIs r.line pre)
    (hpl : a0.toNat = pre.length) (hm1 : -1 ≤ a0) (hb : findB1B2 refCh p.columns a0 c p.whiteBit = (b1, b2)) :
    ∃ r', Rd.decode2DGo r p refCh (f + 1) a0 pa c pc = Rd.decode2DGo r' p refCh f (b2 : Int) a0 c c ∧
      Rd.clean r' ∧ Rd.stream r' = rest ∧ LineIs r'.line (pre ++ List.replicate (b2 - pre.length) (c == 1)) := by
  obtain ⟨value, r1, hpk, m1, _, m3, m4, m5⟩ := dec2D_mode 0 (by decide) r rest he hs (by omega)
  have e2 : ccitt_mainTable_State value = ccitt_S_Pass := m1
  rw [Rd.decode2DGo, if_pos ⟨ha, he.1⟩, if_neg (by omega), hpk]
  simp only [hb, e2, if_true]
  have hline := fillRow_spec2 (r1.consume (ccitt_mainTable_Width value)).line pre a0 (b2 : Int) (c == 1)
    (by rw [m5]; exact hl) hpl hm1
  simp only [Int.toNat_natCast] at hline
  exact ⟨_, rfl, m3, m4, hline⟩

theorem dec2D_vert (p : CParams) (refCh : List Nat) (r : Rd) (rest pre : Bits) (f : Nat) (a0 pa : Int) (c pc : Nat)
    (b1 b2 : Nat) (delta : Int) (hd1 : -3 ≤ delta) (hd2 : delta ≤ 3)
    (he : Rd.clean r) (hs : Rd.stream r = vertCode delta ++ rest) (hrest : 13 ≤ rest.length)
    (ha : a0 < (p.columns : Int)) (hpa : pa < a0) (hl : LineIs r.line pre)
    (hpl : a0.toNat = pre.length) (hm1 : -1 ≤ a0) (hb : findB1B2 refCh p.columns a0 c p.whiteBit = (b1, b2))
    (hle : (b1 : Int) + delta ≤ (p.columns : Int)) :
    ∃ r', Rd.decode2DGo r p refCh (f + 1) a0 pa c pc = Rd.decode2DGo r' p refCh f ((b1 : Int) + delta) a0 (1 - c) c ∧
      Rd.clean r' ∧ Rd.stream r' = rest ∧
      LineIs r'.line (pre ++ List.replicate (((b1 : Int) + delta).toNat - pre.length) (c == 1)) := by
  obtain ⟨i, hi2, hi8, hvc, hint⟩ := vertCode_modeEntry delta hd1 hd2
  rw [hvc] at hs
  obtain ⟨value, r1, hpk, m1, m2, m3, m4, m5⟩ := dec2D_mode i (by omega) r rest he hs (by omega)
  have hst : (modeEntry i).2.2.1 = ccitt_S_Vert := by
    have : i = 2 ∨ i = 3 ∨ i = 4 ∨ i = 5 ∨ i = 6 ∨ i = 7 ∨ i = 8 := by omega
    rcases this with h | h | h | h | h | h | h <;> subst h <;> rfl
  rw [hst] at m1
  rw [Rd.decode2DGo, if_pos ⟨ha, he.1⟩, if_neg (by omega), hpk]
  simp only [hb, m1, if_true, m2, hint, Int.min_eq_left hle]
  have hline := fillRow_spec2 (r1.consume (ccitt_mainTable_Width value)).line pre a0 ((b1 : Int) + delta) (c == 1)
    (by rw [m5]; exact hl) hpl hm1
  exact ⟨_, rfl, m3, m4, hline⟩

/-- one run of the horizontal mode: `decodeFullRun`, the cap at the end of the row (not reached) and
`fillRowBits` from the position `s` -/
theorem dec2D_run (white fill : Bool) (n columns : Nat) (r : Rd) (rest pre : Bits) (s : Int) (he : Rd.clean r)
    (hs : Rd.stream r = encodeRun white n ++ rest) (hrest : 13 ≤ rest.length) (hl : LineIs r.line pre)
    (hpl : s = (pre.length : Int)) (hfit : pre.length + n ≤ columns) :
    ∃ len r', Rd.decodeFullRun r columns white (columns / 64 + 2) 0 = (len, r') ∧
      s + min (len : Int) ((columns : Int) - s) = ((pre.length + n : Nat) : Int) ∧ Rd.clean r' ∧ Rd.stream r' = rest ∧
      LineIs (fillRow r'.line s ((pre.length + n : Nat) : Int) fill) (pre ++ List.replicate n fill) := by
  have hB : tblBits white ≤ rest.length := Nat.le_trans (tblBits_le white) hrest
  obtain ⟨q1, q2, q3, q4⟩ := fullRun_rt white n columns (by omega) r rest he hs hB
  rcases hq : r.decodeFullRun columns white (columns / 64 + 2) 0 with ⟨len, r'⟩
  rw [hq] at q1 q2 q3 q4
  refine ⟨len, r', rfl, by simp only at q1; omega, q2, q3, ?_⟩
  have := fillRow_spec r.line pre n fill hl
  rw [q4, hpl]
  exact_mod_cast this

theorem dec2D_horiz (p : CParams) (refCh : List Nat) (r : Rd) (rest pre : Bits) (f : Nat) (a0 pa : Int) (c : Bool) (pc : Nat)
    (n1 n2 : Nat) (he : Rd.clean r)
    (hs : Rd.stream r = codeBits 1 3 ++ encodeRun (b2n c == p.whiteBit) n1 ++ encodeRun (b2n c != p.whiteBit) n2 ++ rest)
    (hrest : 13 ≤ rest.length) (ha : a0 < (p.columns : Int)) (hpa : pa < a0) (hl : LineIs r.line pre)
    (hpl : (max a0 0).toNat = pre.length) (hfit : pre.length + n1 + n2 ≤ p.columns) :
    ∃ r', Rd.decode2DGo r p refCh (f + 1) a0 pa (b2n c) pc =
        Rd.decode2DGo r' p refCh f ((pre.length + n1 + n2 : Nat) : Int) a0 (b2n c) (b2n c) ∧
      Rd.clean r' ∧ Rd.stream r' = rest ∧
      LineIs r'.line (pre ++ List.replicate n1 c ++ List.replicate n2 (!c)) := by
  rw [List.append_assoc, List.append_assoc] at hs
  obtain ⟨value, r1, hpk, m1, _, m3, m4, m5⟩ := dec2D_mode 1 (by decide) r _ he hs
    (by simp only [List.length_append]; omega)
  have e3 : ccitt_mainTable_State value = ccitt_S_Horiz := m1
  rw [Rd.decode2DGo, if_pos ⟨ha, he.1⟩, if_neg (by omega), hpk]
  rcases findB1B2 refCh p.columns a0 (b2n c) p.whiteBit with ⟨b1, b2⟩
  simp only [e3, if_true, b2n_beq_one, b2n_beq_zero]
  obtain ⟨len, r3, hq, hsum, q2, q3, q4⟩ := dec2D_run (b2n c == p.whiteBit) c n1 p.columns _ _ pre (max a0 0) m3 m4
    (by simp only [List.length_append]; omega) (by rw [m5]; exact hl) (by omega) (by omega)
  rw [hq]
  simp only [hsum]
  obtain ⟨len2, r5, hq2, hsum2, s2, s3, s4⟩ := dec2D_run (b2n c != p.whiteBit) (!c) n2 p.columns
    { r3 with line := fillRow r3.line (max a0 0) ((pre.length + n1 : Nat) : Int) c } rest (pre ++ List.replicate n1 c)
    ((pre.length + n1 : Nat) : Int) q2 q3 hrest q4 (by simp) (by simp; omega)
  have el : (pre ++ List.replicate n1 c).length = pre.length + n1 := by simp
  rw [el] at hsum2 s4
  rw [hq2]
  simp only [hsum2]
  exact ⟨_, rfl, s2, s3, s4⟩

/-- the pixel at position `a0` itself (none for the imaginary position −1) -/
def ext (a0 : Int) (c : Bool) : Bits := if a0 = -1 then [] else [c]

/-- coder state at `a0` with colour `c`: `D` = pixels before `a0`, `l` = pixels after `a0`,
    `A` = changing elements up to `a0`; the rest of the changing elements are those of `l`.  `c` is the colour of the
    pixel AT `a0` (`ext a0 c` in `bsq`), at `a0 = −1` that of the imaginary white pixel in front of the row -/
structure St (columns : Nat) (bs : Bits) (lineCh : List Nat) (a0 : Int) (c : Bool) (D l : Bits) (A : List Nat) : Prop where
  ch : lineCh = A ++ chg c (a0 + 1).toNat l
  hA : ∀ x ∈ A, (x : Int) ≤ a0
  len : (a0 + 1).toNat + l.length = columns
  lo : -1 ≤ a0
  dlen : D.length = (max a0 0).toNat
  bsq : bs = D ++ ext a0 c ++ l

theorem ext_neg_one (c : Bool) : ext (-1) c = [] := rfl

theorem ext_natCast (N : Nat) (c : Bool) : ext (N : Int) c = [c] := by unfold ext; rw [if_neg (by omega)]

theorem ext_length (a0 : Int) (c : Bool) (h : -1 ≤ a0) : (ext a0 c).length = (a0 + 1).toNat - (max a0 0).toNat := by
  unfold ext; split
  · subst_vars; rfl
  · simp; omega

theorem ext_replicate (a0 : Int) (c : Bool) : ext a0 c = List.replicate (ext a0 c).length c := by
  unfold ext; split <;> rfl

theorem enc2D_done (p : CParams) (refCh lineCh : List Nat) (n : Nat) (a0 : Int) (c : Nat) (h : ¬ a0 < (p.columns : Int)) :
    encode2DGo p refCh lineCh n a0 c = [] := by
  cases n with
  | zero => rfl
  | succ m => rw [encode2DGo, if_neg h]

theorem dec2D_done (p : CParams) (refCh : List Nat) (r : Rd) (fd : Nat) (a0 pa : Int) (c pc : Nat)
    (h : ¬ a0 < (p.columns : Int)) : Rd.decode2DGo r p refCh fd a0 pa c pc = r := by
  cases fd with
  | zero => rfl
  | succ m => rw [Rd.decode2DGo, if_neg (fun hh => h hh.1)]

theorem replicate_succ_append (n : Nat) (c : Bool) : List.replicate (n + 1) c = List.replicate n c ++ [c] :=
  List.replicate_succ'

theorem not_ne (c : Bool) : (!c) ≠ c := by cases c <;> simp

theorem changeAt_nil (columns i : Nat) : changeAt [] columns i = columns := rfl
theorem changeAt_zero (a : Nat) (l : List Nat) (columns : Nat) : changeAt (a :: l) columns 0 = a := rfl
theorem changeAt_succ (a : Nat) (l : List Nat) (columns i : Nat) :
    changeAt (a :: l) columns (i + 1) = changeAt l columns i := rfl

theorem chg_two (c : Bool) (x k1 n2 columns : Nat) (t : Bits) (ht : t = [] ∨ ∃ t', t = c :: t') (h0 : n2 = 0 → t = [])
    (hlen : x + k1 + n2 + t.length = columns) :
    (changeAt (chg c x (List.replicate k1 c ++ (List.replicate n2 (!c) ++ t))) columns 0,
     changeAt (chg c x (List.replicate k1 c ++ (List.replicate n2 (!c) ++ t))) columns 1) = (x + k1, x + k1 + n2) := by
  rw [chg_replicate]
  cases n2 with
  | zero =>
    rw [h0 rfl] at hlen ⊢
    simp only [List.length_nil] at hlen
    simp [chg, changeAt_nil]; omega
  | succ n =>
    rw [List.replicate_succ, List.cons_append, chg, if_pos (not_ne c), chg_replicate]
    rcases ht with ht | ⟨t', ht⟩
    · subst ht
      simp only [List.length_nil] at hlen
      simp [chg, changeAt_zero, changeAt_succ, changeAt_nil]; omega
    · subst ht
      rw [chg, if_pos (not_ne c).symm]
      simp [changeAt_zero, changeAt_succ]; omega

/-- from `a0` on the coding line has `k1` more pixels of colour `c` (up to `a1`), then `n2` of the
other colour (up to `a2`), then nothing or a pixel of colour `c` -/
theorem next_changes {columns : Nat} {bs : Bits} {lineCh : List Nat} {a0 : Int} {c : Bool} {D l : Bits} {A : List Nat}
    (h : St columns bs lineCh a0 c D l A) :
    ∃ k1 n2 t, l = List.replicate k1 c ++ (List.replicate n2 (!c) ++ t) ∧
      nextTwoChanges lineCh columns a0 = ((a0 + 1).toNat + k1, (a0 + 1).toNat + k1 + n2) ∧
      (t = [] ∨ ∃ t', t = c :: t') ∧ (n2 = 0 → t = []) := by
  obtain ⟨k1, n2, t, hl, ht, h0⟩ := two_runs c l
  refine ⟨k1, n2, t, hl, ?_, ht, h0⟩
  have hlen := h.len
  rw [hl] at hlen
  simp only [List.length_append, List.length_replicate] at hlen
  rw [h.ch, hl, nextTwo_append A _ columns a0 h.hA fun x hx => by
    have := chg_ge _ c (a0 + 1).toNat x (List.mem_of_mem_head? hx)
    have := h.lo
    omega]
  exact chg_two c _ k1 n2 columns t ht h0 (by omega)

theorem replicate_append_append (a b : Nat) (c : Bool) (X : Bits) :
    List.replicate a c ++ (List.replicate b c ++ X) = List.replicate (a + b) c ++ X := by
  rw [← List.append_assoc, List.replicate_append_replicate]

theorem St.of_nat {columns : Nat} {bs : Bits} {lineCh : List Nat} (N : Nat) (c : Bool) (D l : Bits) (A : List Nat)
    (hch : lineCh = A ++ chg c (N + 1) l) (hA : ∀ x ∈ A, x ≤ N) (hlen : N + 1 + l.length = columns)
    (hD : D.length = N) (hbs : bs = D ++ c :: l) : St columns bs lineCh (N : Int) c D l A where
  ch := hch
  hA := fun x hx => by have := hA x hx; omega
  len := hlen
  lo := by omega
  dlen := by omega
  bsq := by rw [hbs, ext_natCast]; simp

section
variable {columns : Nat} {bs : Bits} {lineCh : List Nat} {a0 : Int} {c : Bool} {D l : Bits} {A : List Nat}
  {k1 n2 : Nat} {t : Bits}

theorem St.bs_runs (h : St columns bs lineCh a0 c D l A) (hl : l = List.replicate k1 c ++ (List.replicate n2 (!c) ++ t)) :
    bs = D ++ List.replicate ((a0 + 1).toNat + k1 - D.length) c ++ (List.replicate n2 (!c) ++ t) := by
  have := ext_length a0 c h.lo
  have := h.dlen
  rw [h.bsq, hl, ext_replicate a0 c, List.append_assoc D, ← List.append_assoc _ _ (_ ++ t), List.replicate_append_replicate,
    List.append_assoc]
  congr 3; omega

/-- pass mode: `a0` moves to `b2`, short of `a1` -/
theorem St.pass (h : St columns bs lineCh a0 c D l A) (hl : l = List.replicate k1 c ++ (List.replicate n2 (!c) ++ t))
    (b : Nat) (h1 : a0 < (b : Int)) (h2 : b < (a0 + 1).toNat + k1) :
    St columns bs lineCh (b : Int) c (D ++ List.replicate (b - D.length) c)
      (List.replicate ((a0 + 1).toNat + k1 - (b + 1)) c ++ (List.replicate n2 (!c) ++ t)) A := by
  have hlen := h.len
  have hd := h.dlen
  rw [hl] at hlen
  simp only [List.length_append, List.length_replicate] at hlen
  refine St.of_nat b c _ _ A ?_ (fun x hx => by have := h.hA x hx; omega) ?_ ?_ ?_
  · rw [h.ch, hl, chg_replicate, chg_replicate]
    congr 2; omega
  · simp only [List.length_append, List.length_replicate]; omega
  · simp only [List.length_append, List.length_replicate]; omega
  · rw [St.bs_runs h hl, show c :: (List.replicate ((a0 + 1).toNat + k1 - (b + 1)) c ++ (List.replicate n2 (!c) ++ t)) =
      List.replicate 1 c ++ (List.replicate ((a0 + 1).toNat + k1 - (b + 1)) c ++ (List.replicate n2 (!c) ++ t)) from rfl]
    simp only [List.append_assoc, replicate_append_append]
    congr 3; omega

/-- vertical mode: `a0` moves to `a1`, a pixel of the other colour -/
theorem St.vert (h : St columns bs lineCh a0 c D l A) (hl : l = List.replicate k1 c ++ (List.replicate (n2 + 1) (!c) ++ t)) :
    St columns bs lineCh (((a0 + 1).toNat + k1 : Nat) : Int) (!c) (D ++ List.replicate ((a0 + 1).toNat + k1 - D.length) c)
      (List.replicate n2 (!c) ++ t) (A ++ [(a0 + 1).toNat + k1]) := by
  have hlen := h.len
  have hd := h.dlen
  have hlo := h.lo
  rw [hl] at hlen
  simp only [List.length_append, List.length_replicate] at hlen
  refine St.of_nat _ (!c) _ _ _ ?_ ?_ ?_ ?_ ?_
  · rw [h.ch, hl, chg_replicate, List.replicate_succ, List.cons_append, chg, if_pos (not_ne c), List.append_assoc]
    rfl
  · intro x hx
    rcases List.mem_append.mp hx with hx | hx
    · have := h.hA x hx; omega
    · simp at hx; omega
  · simp only [List.length_append, List.length_replicate]; omega
  · simp only [List.length_append, List.length_replicate]; omega
  · rw [St.bs_runs h hl, List.replicate_succ]
    simp only [List.append_assoc, List.cons_append]

/-- horizontal mode: `a0` moves over two changes to `a2`, a pixel of the colour `c` again (`St.vert` twice) -/
theorem St.horiz (h : St columns bs lineCh a0 c D l A)
    (hl : l = List.replicate k1 c ++ (List.replicate (n2 + 1) (!c) ++ c :: t)) :
    St columns bs lineCh (((a0 + 1).toNat + k1 + (n2 + 1) : Nat) : Int) c
      (D ++ List.replicate ((a0 + 1).toNat + k1 - D.length) c ++ List.replicate (n2 + 1) (!c)) t
      (A ++ [(a0 + 1).toNat + k1, (a0 + 1).toNat + k1 + (n2 + 1)]) := by
  have h2 := St.vert (k1 := n2) (n2 := 0) (t := t) (St.vert h hl) (by simp)
  have e1 : ((((a0 + 1).toNat + k1 : Nat) : Int) + 1).toNat + n2 = (a0 + 1).toNat + k1 + (n2 + 1) := by omega
  have e2 : (a0 + 1).toNat + k1 + (n2 + 1) - (D ++ List.replicate ((a0 + 1).toNat + k1 - D.length) c).length = n2 + 1 := by
    have := h.dlen
    have := h.lo
    simp only [List.length_append, List.length_replicate]; omega
  rw [e1, e2] at h2
  simpa only [Bool.not_not, List.replicate_zero, List.nil_append, List.append_assoc, List.cons_append] using h2
end

theorem findB1B2_snd_gt (refCh : List Nat) (columns : Nat) (a0 : Int) (c white : Nat) (hsorted : refCh.Pairwise (· < ·))
    (ha : a0 < (columns : Int)) : a0 < ((findB1B2 refCh columns a0 c white).2 : Int) := by
  unfold findB1B2
  apply changeAt_gt refCh columns a0 hsorted ha
  split <;> omega

theorem vertCode_length_pos (d : Int) (h1 : -3 ≤ d) (h2 : d ≤ 3) : 1 ≤ (vertCode d).length := by
  obtain ⟨i, _, _, hvc, _⟩ := vertCode_modeEntry d h1 h2
  rw [hvc, codeBits_length]
  exact (modeEntry_fits i (by omega)).2.1

/-- one mode code: from any coder state short of the end of the row the writer emits one mode
code (pass, vertical or horizontal with its two runs) and moves `a0` forward; the reader follows,
filling the line buffer up to the new `a0`.  At the end of the row the buffer holds the row.  In the proof
`a1 = a0 + 1 + k1` is the next change and `a2 = a1 + n2` the one after (`next_changes`); `n2 = 0` or `t = []` means that
this change is `Columns`, the end of the row, and then `D'` is all of `bs`. -/
theorem g4_step (p : CParams) (w : Bool) (bs : Bits) (refCh : List Nat) (hsorted : refCh.Pairwise (· < ·))
    {a0 : Int} {c : Bool} {D l : Bits} {A : List Nat} (hst : St p.columns bs (chg w 0 bs) a0 c D l A)
    (ha : a0 < (p.columns : Int)) :
    ∃ (code : Bits) (a0' : Int) (c' : Bool) (D' : Bits),
      (∀ m, encode2DGo p refCh (chg w 0 bs) (m + 1) a0 (b2n c) =
        code ++ encode2DGo p refCh (chg w 0 bs) m a0' (b2n c')) ∧
      1 ≤ code.length ∧ a0 < a0' ∧
      (if a0' < (p.columns : Int) then ∃ l' A', St p.columns bs (chg w 0 bs) a0' c' D' l' A' else D' = bs) ∧
      ∀ (r : Rd) (rest : Bits) (f : Nat) (pa : Int) (pc : Nat), 13 ≤ rest.length → Rd.clean r →
        Rd.stream r = code ++ rest → pa < a0 → LineIs r.line D →
        ∃ r', Rd.decode2DGo r p refCh (f + 1) a0 pa (b2n c) pc = Rd.decode2DGo r' p refCh f a0' a0 (b2n c') (b2n c) ∧
          Rd.clean r' ∧ Rd.stream r' = rest ∧ LineIs r'.line D' := by
  obtain ⟨k1, n2, t, hl, hnt, ht, hn0⟩ := next_changes hst
  have hlo := hst.lo
  have hdl := hst.dlen
  have hpl : a0.toNat = D.length := by omega
  have hlen := hst.len
  rw [hl] at hlen
  simp only [List.length_append, List.length_replicate] at hlen
  have hbs := St.bs_runs hst hl
  rcases hb : findB1B2 refCh p.columns a0 (b2n c) p.whiteBit with ⟨b1, b2⟩
  have hb2gt : a0 < (b2 : Int) := by
    have := findB1B2_snd_gt refCh p.columns a0 (b2n c) p.whiteBit hsorted ha
    rwa [hb] at this
  have henc : ∀ m, encode2DGo p refCh (chg w 0 bs) (m + 1) a0 (b2n c) =
      if b2 < (a0 + 1).toNat + k1 then codeBits 1 4 ++ encode2DGo p refCh (chg w 0 bs) m b2 (b2n c)
      else if -3 ≤ (((a0 + 1).toNat + k1 : Nat) : Int) - b1 ∧ (((a0 + 1).toNat + k1 : Nat) : Int) - b1 ≤ 3 then
        vertCode ((((a0 + 1).toNat + k1 : Nat) : Int) - b1) ++
          encode2DGo p refCh (chg w 0 bs) m (((a0 + 1).toNat + k1 : Nat) : Int) (1 - b2n c)
      else codeBits 1 3 ++ encodeRun (b2n c == p.whiteBit) (((((a0 + 1).toNat + k1 : Nat) : Int) - max a0 0).toNat)
        ++ encodeRun (b2n c != p.whiteBit) ((a0 + 1).toNat + k1 + n2 - ((a0 + 1).toNat + k1))
        ++ encode2DGo p refCh (chg w 0 bs) m (((a0 + 1).toNat + k1 + n2 : Nat) : Int) (b2n c) := by
    intro m; rw [encode2DGo, if_pos ha, hnt, hb]
  generalize ha1 : (a0 + 1).toNat + k1 = a1 at henc hbs
  by_cases hpass : b2 < a1
  · refine ⟨codeBits 1 4, b2, c, D ++ List.replicate (b2 - D.length) c, fun m => by rw [henc, if_pos hpass],
      by rw [codeBits_length]; omega, hb2gt, ?_, ?_⟩
    · subst ha1; rw [if_pos (by omega)]; exact ⟨_, _, St.pass hst hl b2 hb2gt hpass⟩
    · intro r rest f pa pc hrest he hs hpa hline
      obtain ⟨r1, h1, h2, h3, h4⟩ := dec2D_pass p refCh r rest D f a0 pa (b2n c) pc b1 b2 he hs hrest ha hpa
        hline hpl hlo hb
      rw [b2n_beq_one] at h4
      exact ⟨r1, h1, h2, h3, h4⟩
  · by_cases hv : -3 ≤ (a1 : Int) - b1 ∧ (a1 : Int) - b1 ≤ 3
    · refine ⟨vertCode ((a1 : Int) - b1), a1, !c, D ++ List.replicate (a1 - D.length) c,
        fun m => by rw [henc, if_neg hpass, if_pos hv, one_sub_b2n], vertCode_length_pos _ hv.1 hv.2, by omega, ?_, ?_⟩
      · split
        · obtain ⟨n, rfl⟩ : ∃ n, n2 = n + 1 := ⟨n2 - 1, by
            by_cases h0 : n2 = 0
            · rw [hn0 h0] at hlen; simp at hlen; omega
            · omega⟩
          subst ha1; exact ⟨_, _, St.vert hst hl⟩
        · have h0 : n2 = 0 := by omega
          have ht0 : t = [] := hn0 h0
          rw [hbs, h0, ht0]; simp
      · intro r rest f pa pc hrest he hs hpa hline
        obtain ⟨r1, h1, h2, h3, h4⟩ := dec2D_vert p refCh r rest D f a0 pa (b2n c) pc b1 b2 _ hv.1 hv.2 he hs hrest
          ha hpa hline hpl hlo hb (by omega)
        have ea : (b1 : Int) + ((a1 : Int) - (b1 : Int)) = (a1 : Int) := by omega
        rw [ea] at h1 h4
        rw [b2n_beq_one, Int.toNat_natCast] at h4
        rw [one_sub_b2n] at h1
        exact ⟨r1, h1, h2, h3, h4⟩
    · -- horizontal mode; the arithmetic of the two runs at once
      have harith : ((a1 : Int) - max a0 0).toNat = a1 - D.length ∧ a1 + n2 - a1 = n2 ∧ a0 < ((a1 + n2 : Nat) : Int) ∧
          (max a0 0).toNat = D.length ∧ D.length + (a1 - D.length) + n2 ≤ p.columns ∧
          ((D.length + (a1 - D.length) + n2 : Nat) : Int) = ((a1 + n2 : Nat) : Int) ∧
          (((a1 + n2 : Nat) : Int) < p.columns → 0 < t.length) ∧ (¬ ((a1 + n2 : Nat) : Int) < p.columns → t.length = 0) := by
        omega
      obtain ⟨e1, e2, e3, e4, e5, e6, e7, e8⟩ := harith
      refine ⟨codeBits 1 3 ++ encodeRun (b2n c == p.whiteBit) (a1 - D.length) ++ encodeRun (b2n c != p.whiteBit) n2,
        ((a1 + n2 : Nat) : Int), c, D ++ List.replicate (a1 - D.length) c ++ List.replicate n2 (!c),
        fun m => by rw [henc, if_neg hpass, if_neg hv, e1, e2],
        by simp only [List.length_append, codeBits_length]; exact Nat.le_add_right_of_le (Nat.le_add_right_of_le (by decide)), e3, ?_, ?_⟩
      · split
        · rename_i hlt
          rcases ht with ht | ⟨t', ht⟩
          · rw [ht] at e7; exact absurd (e7 hlt) (by simp)
          · cases n2 with
            | zero => rw [hn0 rfl] at ht; simp at ht
            | succ n =>
              subst ht ha1
              exact ⟨_, _, St.horiz hst hl⟩
        · rename_i hge
          rw [hbs, List.eq_nil_of_length_eq_zero (e8 hge)]; simp
      · intro r rest f pa pc hrest he hs hpa hline
        obtain ⟨r1, h1, h2, h3, h4⟩ := dec2D_horiz p refCh r rest D f a0 pa c pc (a1 - D.length) n2 he hs hrest ha
          hpa hline e4 e5
        rw [e6] at h1
        exact ⟨r1, h1, h2, h3, h4⟩

/-- Group 4 row, writer and reader in step (induction on the writer's fuel, i.e. on
    `Columns − a0`).  From any coder state, the reader follows the mode codes (pass, vertical,
    horizontal) the writer emits and ends with the whole row in its line buffer. -/
theorem g4_lockstep (p : CParams) (w : Bool) (bs : Bits) (refCh : List Nat) (hsorted : refCh.Pairwise (· < ·))
    (rest : Bits) (hrest : 13 ≤ rest.length) :
    ∀ (n : Nat) (a0 : Int) (c : Bool) (D l : Bits) (A : List Nat) (r : Rd) (pa : Int) (pc fd : Nat),
      St p.columns bs (chg w 0 bs) a0 c D l A → a0 < (p.columns : Int) → ((p.columns : Int) - a0).toNat ≤ n → pa < a0 →
      Rd.clean r → Rd.stream r = encode2DGo p refCh (chg w 0 bs) n a0 (b2n c) ++ rest → LineIs r.line D →
      (encode2DGo p refCh (chg w 0 bs) n a0 (b2n c)).length ≤ fd →
      ∃ r', Rd.decode2DGo r p refCh fd a0 pa (b2n c) pc = r' ∧ Rd.clean r' ∧ Rd.stream r' = rest ∧ LineIs r'.line bs := by
  intro n
  induction n with
  | zero => intro a0 c D l A r pa pc fd _ ha hn; omega
  | succ m ih =>
    intro a0 c D l A r pa pc fd hst ha hn hpa he hs hl hfd
    obtain ⟨code, a0', c', D', henc, hcl, hlt, hnext, hdec⟩ := g4_step p w bs refCh hsorted hst ha
    rw [henc, List.append_assoc] at hs
    rw [henc, List.length_append] at hfd
    obtain ⟨f, rfl⟩ : ∃ f, fd = f + 1 := ⟨fd - 1, by omega⟩
    obtain ⟨r1, h1, h2, h3, h4⟩ := hdec r _ f pa pc (by rw [List.length_append]; omega) he hs hpa hl
    by_cases hc : a0' < (p.columns : Int)
    · rw [if_pos hc] at hnext
      obtain ⟨l', A', hst'⟩ := hnext
      obtain ⟨r2, g1, g2, g3, g4⟩ := ih a0' c' D' l' A' r1 a0 (b2n c) f hst' hc (by omega) hlt h2 h3 h4 (by omega)
      exact ⟨r2, by rw [h1, g1], g2, g3, g4⟩
    · rw [if_neg hc] at hnext
      subst hnext
      rw [enc2D_done p refCh _ m a0' _ hc, List.nil_append] at h3
      exact ⟨r1, by rw [h1, dec2D_done p refCh r1 f _ _ _ _ hc], h2, h3, h4⟩

theorem changingElements_bits (p : CParams) (bs : Bits) :
    changingElements p (bs.map b2n) = chg (true != p.blackIs1) 0 bs := by
  unfold changingElements
  rw [whiteBit_eq, changesGo_map]

/-- Group 4 row round trip.  For every reference line and EVERY row of `Columns` pixels
(also rows with runs of 161344 or more equal pixels, class `ccitt-2d-long-run`:
`decodeFullRun` admits `Columns/64 + 2` code words), from any reader state
whose unread bits are the row's two-dimensional code followed by at least 13 more bits:
`decode2D` consumes exactly the row's code, raises no error and leaves the row's bytes in the
line buffer. -/
theorem ccitt_g4_row_rt (p : CParams) (refLine : Bits) (row : Bytes) (r : Rd) (rest : Bits)
    (hc : 0 < p.columns) (hlen : row.length = p.lineBytes) (hpad : paddingOk p row = true)
    (he : Rd.clean r)
    (hs : Rd.stream r = encode2DLine p ((refLine.take p.columns).map b2n) (pixelsOf p row) ++ rest)
    (hrest : 13 ≤ rest.length) :
    Rd.clean (r.decode2D p refLine) ∧ Rd.stream (r.decode2D p refLine) = rest ∧
    (r.decode2D p refLine).line = bytesToBits row := by
  have hpx := pixelsOf_eq p row hlen
  have hbl := rowPixels_length p row hlen
  unfold encode2DLine at hs
  rw [hpx] at hs
  change Rd.stream r = encode2DGo p _ (changingElements p ((rowPixels p row).map b2n)) _ _ _ ++ rest at hs
  rw [changingElements_bits p (rowPixels p row), changingElements_bits p (refLine.take p.columns), whiteBit_eq] at hs
  have hst : St p.columns (rowPixels p row) (chg (true != p.blackIs1) 0 (rowPixels p row)) (-1) (true != p.blackIs1) []
      (rowPixels p row) [] := by
    refine { ch := by simp, hA := by intro x hx; simp at hx, len := by simpa using hbl, lo := by omega,
             dlen := by show 0 = (max (-1 : Int) 0).toNat; decide, bsq := by simp [ext_neg_one] }
  have hfd : (encode2DGo p (chg (true != p.blackIs1) 0 (refLine.take p.columns)) (chg (true != p.blackIs1) 0 (rowPixels p row))
      (p.columns + 2) (-1) (b2n (true != p.blackIs1))).length ≤ r.bitsLeft + 2 := by
    have h2 := stream_length r
    rw [hs, List.length_append] at h2
    omega
  obtain ⟨r', h1, h2, h3, h4⟩ := g4_lockstep p (true != p.blackIs1) (rowPixels p row)
    (chg (true != p.blackIs1) 0 (refLine.take p.columns)) (chg_sorted _ _ _) rest hrest (p.columns + 2) (-1)
    (true != p.blackIs1) [] (rowPixels p row) [] { r with line := [] } (-2) (p.whiteBit ^^^ 1) (r.bitsLeft + 2)
    hst (by omega) (by omega) (by omega) he hs lineIs_nil hfd
  have hd : r.decode2D p refLine = r' := by
    unfold Rd.decode2D
    show Rd.decode2DGo { r with line := [] } p (changingElements p ((refLine.take p.columns).map b2n)) (r.bitsLeft + 2)
      (-1) (-2) p.whiteBit (p.whiteBit ^^^ 1) = r'
    rw [changingElements_bits p (refLine.take p.columns)]
    rw [← h1]
    congr 1
    exact whiteBit_eq p
  rw [hd]
  refine ⟨h2, h3, ?_⟩
  exact lineIs_row p row _ hc hlen hpad h4

theorem enc2D_head (p : CParams) (refCh lineCh : List Nat) (n : Nat) (a0 : Int) (c : Nat) (ha : a0 < (p.columns : Int)) :
    ∃ i tail, i < 9 ∧ encode2DGo p refCh lineCh (n + 1) a0 c = codeBits (modeEntry i).1 (modeEntry i).2.1 ++ tail := by
  rw [encode2DGo, if_pos ha]
  rcases nextTwoChanges lineCh p.columns a0 with ⟨a1, a2⟩
  rcases findB1B2 refCh p.columns a0 c p.whiteBit with ⟨b1, b2⟩
  simp only []
  split
  · exact ⟨0, _, by decide, rfl⟩
  · split
    · rename_i hv
      obtain ⟨i, _, hi8, hvc, _⟩ := vertCode_modeEntry _ hv.1 hv.2
      exact ⟨i, _, by omega, by rw [hvc]⟩
    · exact ⟨1, _, by decide, by simp only [List.append_assoc]; rfl⟩

theorem modeEntry_code_pos : ∀ i, i < 9 → 1 ≤ (modeEntry i).1 := by decide

/-- 24 bits that start with a mode code are not the end-of-facsimile-block code -/
theorem mode_not_eofb (i : Nat) (hi : i < 9) (tail : Bits) (h24 : 24 ≤ (codeBits (modeEntry i).1 (modeEntry i).2.1 ++ tail).length) :
    bitsToNat ((codeBits (modeEntry i).1 (modeEntry i).2.1 ++ tail).take 24) ≠ 4097 := by
  obtain ⟨hfit, hw1, hw7⟩ := modeEntry_fits i hi
  have hpos := modeEntry_code_pos i hi
  generalize (modeEntry i).1 = c at *
  generalize (modeEntry i).2.1 = w at *
  rw [bitsToNat_take_append _ _ 24 (by rw [codeBits_length]; omega) h24, codeBits_length, bitsToNat_codeBits,
    Nat.mod_eq_of_lt hfit]
  have h17 : 2 ^ 17 ≤ 2 ^ (24 - w) := Nat.pow_le_pow_right (by decide) (by omega)
  have : 2 ^ (24 - w) ≤ c * 2 ^ (24 - w) := Nat.le_mul_of_pos_left _ hpos
  have h17' : (2:Nat) ^ 17 = 131072 := by decide
  omega

theorem eofb_value : bitsToNat (codeBits 4097 24) = 4097 := by decide

theorem eofb_first7 : (codeBits 4097 24).take 7 = List.replicate 7 false := by decide

/-- `decodeG4ScanLine` after a row: the EOFB check -/
theorem decodeG4_after (p : CParams) (hig : p.ignoreEOB = false) (r1 : Rd) (he : Rd.clean r1) (h24 : 24 ≤ (Rd.stream r1).length) :
    let r2 := (if (r1.peek 24).1 = 4097 then { ((r1.peek 24).2.consume 24) with err := 1 } else (r1.peek 24).2)
    r2.line = r1.line ∧
    (bitsToNat ((Rd.stream r1).take 24) = 4097 → r2.err = 1) ∧
    (bitsToNat ((Rd.stream r1).take 24) ≠ 4097 → Rd.clean r2 ∧ Rd.stream r2 = Rd.stream r1) := by
  obtain ⟨p1, p2, p3, p4⟩ := peek_spec r1 24 he (by omega) h24
  obtain ⟨c1, c2, c3⟩ := consume_spec (r1.peek 24).2 24 p2 (by omega) (by rw [p3]; exact h24)
  simp only []
  rw [p1]
  by_cases hv : bitsToNat ((Rd.stream r1).take 24) = 4097
  · rw [if_pos hv]
    exact ⟨by show ((r1.peek 24).2.consume 24).line = _; rw [c3, p4], fun _ => rfl, fun h => absurd hv h⟩
  · rw [if_neg hv]
    exact ⟨p4, fun h => absurd h hv, fun _ => ⟨p2, p3⟩⟩

/-- the reader at the end-of-facsimile-block code: `decode2D` stops at the seven zeros without
    consuming anything -/
theorem dec2D_eofb (p : CParams) (hc : 0 < p.columns) (refLine : Bits) (r : Rd) (pad : Bits) (he : Rd.clean r)
    (hs : Rd.stream r = codeBits 4097 24 ++ pad) :
    Rd.clean (r.decode2D p refLine) ∧ Rd.stream (r.decode2D p refLine) = Rd.stream r ∧ (r.decode2D p refLine).line = [] := by
  unfold Rd.decode2D
  simp only []
  generalize hr0 : ({ r with line := [] } : Rd) = r0
  have he0 : Rd.clean r0 := by rw [← hr0]; exact he
  have hs0 : Rd.stream r0 = codeBits 4097 24 ++ pad := by rw [← hr0]; exact hs
  have hl0 : r0.line = [] := by rw [← hr0]
  have hsr : Rd.stream r = Rd.stream r0 := by rw [← hr0]; rfl
  have h7 : 7 ≤ (Rd.stream r0).length := by rw [hs0, List.length_append, codeBits_length]; omega
  obtain ⟨p1, p2, p3, p4⟩ := peek_spec r0 7 he0 (by omega) h7
  have hv : (r0.peek 7).1 = 0 := by
    rw [p1, hs0, List.take_append_of_le_length (by rw [codeBits_length]; omega), eofb_first7]; rfl
  have h11 : 11 ≤ (Rd.stream (r0.peek 7).2).length := by rw [p3, hs0, List.length_append, codeBits_length]; omega
  obtain ⟨q1, q2, q3, q4⟩ := peek_spec (r0.peek 7).2 11 p2 (by omega) h11
  have hbl : r0.bitsLeft + 2 = (r0.bitsLeft + 1) + 1 := by omega
  rw [hbl, Rd.decode2DGo, if_pos ⟨by omega, he0.1⟩, if_neg (by omega)]
  rcases hpk : r0.peek 7 with ⟨value, r1⟩
  rw [hpk] at hv q1 q2 q3 q4 p3 p4
  simp only at hv q1 q2 q3 q4 p3 p4 ⊢
  subst hv
  rw [if_pos main_table_rest.1]
  exact ⟨q2, by rw [q3, p3, hsr], by rw [q4, p4, hl0]⟩

theorem encode2DLine_head (p : CParams) (hc : 0 < p.columns) (ref px : List Nat) :
    ∃ i tail, i < 9 ∧ encode2DLine p ref px = codeBits (modeEntry i).1 (modeEntry i).2.1 ++ tail := by
  unfold encode2DLine
  exact enc2D_head p _ _ (p.columns + 1) (-1) _ (by omega)

theorem enc2D_params (p p' : CParams) (h1 : p'.columns = p.columns) (h2 : p'.blackIs1 = p.blackIs1)
    (refCh lineCh : List Nat) : ∀ (n : Nat) (a0 : Int) (c : Nat),
    encode2DGo p' refCh lineCh n a0 c = encode2DGo p refCh lineCh n a0 c := by
  have hw : p'.whiteBit = p.whiteBit := by unfold CParams.whiteBit; rw [h2]
  intro n
  induction n with
  | zero => intro _ _; rfl
  | succ m ih =>
    intro a0 c
    rw [encode2DGo, encode2DGo, h1, hw]
    simp only [ih]

theorem encode2DLine_params (p p' : CParams) (h1 : p'.columns = p.columns) (h2 : p'.blackIs1 = p.blackIs1)
    (ref px : List Nat) : encode2DLine p' ref px = encode2DLine p ref px := by
  have hw : p'.whiteBit = p.whiteBit := by unfold CParams.whiteBit; rw [h2]
  unfold encode2DLine changingElements
  rw [hw, h1, enc2D_params p p' h1 h2]

theorem encode1DLine_head (p : CParams) (px : List Nat) (h : px ≠ []) :
    ∃ i tail, i < 104 ∧ encode1DLine p px = codeWord true i ++ tail := by
  unfold encode1DLine
  have hne : runs1D p.whiteBit px ≠ [] := by
    cases px with
    | nil => exact absurd rfl h
    | cons q rest => rw [runs1D_cons]; exact groupRuns_ne_nil _ _ _
  cases hr : runs1D p.whiteBit px with
  | nil => exact absurd hr hne
  | cons len rs =>
    simp only [encodeRuns]
    obtain ⟨pre, t, ht, hpre, _, henc, _⟩ := encodeRun_codes true len
    rw [henc]
    cases pre with
    | nil => exact ⟨t, encodeRuns (!true) rs, by omega, by simp⟩
    | cons a as =>
      exact ⟨a, ((as ++ [t]).map (codeWord true)).flatten ++ encodeRuns (!true) rs, (hpre a (by simp)).2, by simp⟩

theorem encode1DLine_length_pos (p : CParams) (px : List Nat) (h : px ≠ []) : 1 ≤ (encode1DLine p px).length := by
  obtain ⟨i, tail, hi, hh⟩ := encode1DLine_head p px h
  have := (code_facts true i hi).two_le
  rw [hh, List.length_append, codeWord, codeBits_length]
  omega

theorem pixelsOf_length (p : CParams) (row : Bytes) : (pixelsOf p row).length = p.columns := by
  unfold pixelsOf
  simp only [List.length_take, List.length_append, List.length_map, List.length_replicate]
  omega

theorem pixelsOf_ne_nil (p : CParams) (hc : 0 < p.columns) (row : Bytes) : pixelsOf p row ≠ [] := by
  intro h; have := pixelsOf_length p row; rw [h] at this; simp at this; omega

theorem allRowBitsP_maxRows (p : CParams) (M : Nat) : ∀ (rows : List Bytes) (c2 : Nat) (ref : List Nat),
    allRowBitsP { p with maxRows := M } rows c2 ref = allRowBitsP p rows c2 ref := by
  have hrb : ∀ c2 ref px, encodeRowBits { p with maxRows := M } c2 ref px = encodeRowBits p c2 ref px := by
    intro c2 ref px
    unfold encodeRowBits
    rw [encode2DLine_params p { p with maxRows := M } rfl rfl]
    rfl
  intro rows
  induction rows with
  | nil => intro _ _; rfl
  | cons row rest ih =>
    intro c2 ref
    have hpx : pixelsOf { p with maxRows := M } row = pixelsOf p row := rfl
    simp only [allRowBitsP_cons, hpx, hrb, ih]
    rfl

theorem encodeRowBits_length_pos (p : CParams) (hc : 0 < p.columns) (c2 : Nat) (ref px : List Nat) (hpx : px ≠ []) :
    1 ≤ (encodeRowBits p c2 ref px).1.length := by
  have h1 := encode1DLine_length_pos p px hpx
  obtain ⟨i, tail, hi, h2⟩ := encode2DLine_head p hc ref px
  have hw := (modeEntry_fits i hi).2.1
  by_cases hk : p.k > 0
  · rw [encodeRowBits_kpos p hk]
    split <;> simp only [List.length_append, List.length_cons] <;> omega
  · by_cases hk0 : p.k = 0
    · rw [encodeRowBits_k0 p hk0]; simp only [List.length_append]; omega
    · rw [encodeRowBits_kneg p (by omega), h2]; simp only [List.length_append, codeBits_length]; omega

theorem allRowBitsP_length (p : CParams) (hc : 0 < p.columns) : ∀ (rows : List Bytes) (c2 : Nat) (ref : List Nat),
    rows.length ≤ (allRowBitsP p rows c2 ref).length := by
  intro rows
  induction rows with
  | nil => intro _ _; simp [allRowBitsP_nil]
  | cons row rest ih =>
    intro c2 ref
    have h0 := encodeRowBits_length_pos p hc c2 ref (pixelsOf p row) (pixelsOf_ne_nil p hc row)
    have h1 := ih (encodeRowBits p c2 ref (pixelsOf p row)).2 (pixelsOf p row)
    simp only [allRowBitsP_cons, List.length_append, List.length_cons] at h1 ⊢
    omega

/-- admissible rows: the first half of `C06fbt.ccittAdmissible`; `Rows2DOk` below is the same predicate -/
def Rows1DOk (p : CParams) (rows : List Bytes) : Prop :=
  ∀ row ∈ rows, row.length = p.lineBytes ∧ AllBytes row ∧ paddingOk p row = true

def Rows2DOk (p : CParams) (rows : List Bytes) : Prop :=
  ∀ row ∈ rows, row.length = p.lineBytes ∧ AllBytes row ∧ paddingOk p row = true

theorem rows2DOk_iff (p : CParams) (rows : List Bytes) : Rows2DOk p rows ↔ Rows1DOk p rows := Iff.rfl

theorem lineBytes_pos (p : CParams) (hc : 0 < p.columns) : 0 < p.lineBytes := by
  have := lineBytes_bounds p; omega

/-- the loop of `Reader.Read` for any invariant `Pos r ref rows` ("the reader `r` with reference line `ref` stands
in front of the code of `rows` and the end-of-block pattern") that `decodeScanLine` maintains: in front of a row it
delivers the row and moves on; at the end it reports EOF with an empty line, or the reader is at EOF already -/
theorem readRows_of_steps (p : CParams) (hc : 0 < p.columns) (Pos : Rd → Bits → List Bytes → Prop)
    (hend : ∀ r ref, Pos r ref [] → r.err = 1 ∨
      (r.err = 0 ∧ (r.decodeScanLine p ref).1.line = [] ∧ (r.decodeScanLine p ref).1.err = 1))
    (hrow : ∀ r ref row rest, row.length = p.lineBytes → paddingOk p row = true → Pos r ref (row :: rest) →
      r.err = 0 ∧ (r.decodeScanLine p ref).1.line = bytesToBits row ∧
      Pos { (r.decodeScanLine p ref).1 with line := [] } (r.decodeScanLine p ref).2 rest) :
    ∀ (rows : List Bytes) (r : Rd) (ref : Bits) (numRows fuel : Nat), Pos r ref rows → Rows2DOk p rows →
      (p.maxRows = 0 ∨ numRows + rows.length ≤ p.maxRows) → rows.length < fuel →
      Rd.readRows r p fuel numRows ref = (rows, 1) := by
  intro rows
  induction rows with
  | nil =>
    intro r ref numRows fuel hpos _ _ hf
    obtain ⟨f, rfl⟩ : ∃ f, fuel = f + 1 := ⟨fuel - 1, by simp at hf; omega⟩
    rw [Rd.readRows]
    rcases hend r ref hpos with h1 | ⟨h0, hl, he⟩
    · rw [if_neg (by omega), if_neg (by omega), h1]
    · split
      · rcases hds : r.decodeScanLine p ref with ⟨r1, ref1⟩
        rw [hds] at hl he
        simp only at hl he ⊢
        simp [hl, he]
      · rfl
  | cons row rest ih =>
    intro r ref numRows fuel hpos hok hmax hf
    obtain ⟨f, rfl⟩ : ∃ f, fuel = f + 1 := ⟨fuel - 1, by simp at hf; omega⟩
    obtain ⟨h1, h2, h3⟩ := hok row (by simp)
    obtain ⟨h0, hl, hnext⟩ := hrow r ref row rest h1 h3 hpos
    rw [Rd.readRows, if_pos ⟨h0, by simp only [List.length_cons] at hmax; omega⟩]
    rcases hds : r.decodeScanLine p ref with ⟨r1, ref1⟩
    rw [hds] at hl hnext
    simp only at hl hnext ⊢
    have hne : r1.line.isEmpty = false := by
      have hlen := bytesToBits_length row
      have := lineBytes_pos p hc
      rw [hl]
      cases hb : bytesToBits row with
      | nil => rw [hb] at hlen; simp at hlen; omega
      | cons a as => rfl
    rw [hne, ih _ ref1 (numRows + 1) f hnext (fun r' hr' => hok r' (by simp [hr']))
      (by simp only [List.length_cons] at hmax; omega) (by simp at hf; omega), hl, packBits_bytes row h2]
    rfl

/-- `copy(r.refLine, r.line)` after a row of full length: the row is the new reference line -/
theorem decodeScanLine_ref (r : Rd) (p : CParams) (ref : Bits) (row : Bytes) (hlen : row.length = p.lineBytes)
    (hrl : ref.length = 8 * p.lineBytes) (hline : (r.decodeScanLine p ref).1.line = bytesToBits row) :
    (r.decodeScanLine p ref).2.length = 8 * p.lineBytes ∧
    ((r.decodeScanLine p ref).2.take p.columns).map b2n = pixelsOf p row := by
  have hbl : (bytesToBits row).length = 8 * p.lineBytes := by rw [bytesToBits_length, hlen]
  have h2 : (r.decodeScanLine p ref).2 = bytesToBits row := by
    unfold Rd.decodeScanLine at hline ⊢
    simp only [] at hline ⊢
    rw [hline, hbl, hrl, Nat.min_self, List.take_of_length_le (by omega), List.drop_of_length_le (by omega), List.append_nil]
  rw [h2, pixelsOf_eq p row hlen]
  exact ⟨hbl, rfl⟩

theorem initial_ref_pixels (p : CParams) :
    ((List.replicate (p.lineBytes * 8) (!p.blackIs1)).take p.columns).map b2n = List.replicate p.columns p.whiteBit := by
  have hle : p.columns ≤ p.lineBytes * 8 := by have := lineBytes_bounds p; omega
  rw [List.take_replicate, Nat.min_eq_left hle, List.map_replicate, whiteBit_eq]
  congr 1
  cases p.blackIs1 <;> rfl

/-- encoder and reader put together: if the reader's row loop, started on the bits of the rows, the end-of-block
pattern and some padding, delivers the rows, then `decodeAll ∘ encodeAll` is the identity on them.  The reader's row cap
`M` is a parameter of its own, as in the stream theorems (Go's Reader and Writer each get their `/Rows`); the filter
sets `M := encParams.maxRows` (`rt_of_stream_rt`), and `allRowBitsP_maxRows` says the writer's bits do not depend on it. -/
theorem stream_rt_of_loop (p : CParams) (M : Nat) (rows : List Bytes) (hc : 0 < p.columns) (hok : Rows2DOk p rows)
    (hmaxE : p.maxRows = 0 ∨ rows.length ≤ p.maxRows)
    (hloop : ∀ (pad : Bits) (r : Rd) (fuel : Nat),
      (p.byteAlign = true → (endOfBlockBits p ++ pad).length % 8 = 0) → Rd.clean r →
      Rd.stream r = allRowBitsP { p with maxRows := M } rows 0 (List.replicate p.columns p.whiteBit) ++ (endOfBlockBits p ++ pad) →
      rows.length < fuel →
      Rd.readRows r { p with maxRows := M } fuel 0
        (if p.k ≠ 0 then List.replicate (p.lineBytes * 8) (!p.blackIs1) else []) = (rows, 1)) :
    decodeAll { p with maxRows := M } (encodeAll p rows.flatten).1 = (rows.flatten, 1) := by
  obtain ⟨_, k, _, hmod, hbits⟩ := encodeAll_bits p rows (lineBytes_pos p hc) (fun r hr => (hok r hr).1)
    (fun r hr => (hok r hr).2.2) hmaxE
  generalize (encodeAll p rows.flatten).1 = data at hbits
  have hfuel : rows.length < 8 * data.length + 8 := by
    have h1 := allRowBitsP_length p hc rows 0 (List.replicate p.columns p.whiteBit)
    have h2 := congrArg List.length hbits
    rw [bytesToBits_length, List.length_append] at h2
    omega
  rw [← allRowBitsP_maxRows p M] at hbits
  have := hloop (List.replicate k false) { win := [], src := data, err := 0, line := [] } (8 * data.length + 8) hmod
    ⟨rfl, rfl, rfl⟩ hbits hfuel
  unfold decodeAll decodeRows
  exact (congrArg (fun x => (x.1.flatten, x.2)) this)

theorem readRows_1d (p : CParams) (hk : p.k = 0) (hc : 0 < p.columns) (hig : p.ignoreEOB = false) (pad : Bits)
    (hmod : p.byteAlign = true → (endOfBlockBits p ++ pad).length % 8 = 0)
    (rows : List Bytes) (r : Rd) (numRows fuel c2 : Nat) (ref : List Nat) (he : Rd.clean r)
    (hs : Rd.stream r = allRowBitsP p rows c2 ref ++ (endOfBlockBits p ++ pad))
    (hok : Rows2DOk p rows) (hmax : p.maxRows = 0 ∨ numRows + rows.length ≤ p.maxRows) (hf : rows.length < fuel) :
    Rd.readRows r p fuel numRows [] = (rows, 1) := by
  have heob : endOfBlockBits p = (List.replicate 6 (codeBits 1 12)).flatten := by
    unfold endOfBlockBits; simp [hig, hk]
  have hds : ∀ r : Rd, r.decodeScanLine p [] = (r.decode1D p, []) := by
    intro r; unfold Rd.decodeScanLine; simp [hk]
  refine readRows_of_steps p hc
    (fun r ref rows => ref = [] ∧ Rd.clean r ∧ ∃ c2 refpx, Rd.stream r = allRowBitsP p rows c2 refpx ++ (endOfBlockBits p ++ pad))
    ?_ ?_ rows r [] numRows fuel ⟨rfl, he, c2, ref, hs⟩ hok hmax hf
  · rintro r ref ⟨rfl, he, c2, refpx, hs⟩
    right
    rw [allRowBitsP_nil, List.nil_append, heob] at hs
    have hbl : 72 ≤ r.bitsLeft := by
      rw [← stream_length, hs]; simp [codeBits_length]; omega
    obtain ⟨f2, hf2⟩ : ∃ f2, r.bitsLeft + 2 = f2 + 6 := ⟨r.bitsLeft + 2 - 6, by omega⟩
    have hrtc := dec1D_rtc p hc hig pad 6 { r with line := [] } f2 (by omega) (by omega) he rfl hs
    rw [hds]
    unfold Rd.decode1D
    show _ ∧ (Rd.decode1DGo _ p (r.bitsLeft + 2) 0 true 0 false).line = [] ∧ (Rd.decode1DGo _ p (r.bitsLeft + 2) 0 true 0 false).err = 1
    rw [hf2]
    exact ⟨he.1, hrtc.2, hrtc.1⟩
  · rintro r ref row rest hlen hpad ⟨rfl, he, c2, refpx, hs⟩
    rw [allRowBitsP_cons, encodeRowBits_k0 p hk] at hs
    simp only [List.append_assoc] at hs
    obtain ⟨r', e0, g2, g3, g4⟩ := ccitt_g3_1d_row_rt_eol p row r _ hc hlen hpad he hs
      (by rw [heob]; simp [codeBits_length]; omega)
    obtain ⟨a1, a2, a3⟩ := alignRow_rows p r' _ _ rest c2 _ g2 g3 hmod
    rw [← e0] at a1 a2 a3
    rw [hds]
    exact ⟨he.1, by rw [a3, g4], rfl, a1, c2, pixelsOf p row, a2⟩

theorem g3_1d_stream_rt (p : CParams) (M : Nat) (rows : List Bytes) (hk : p.k = 0) (hig : p.ignoreEOB = false)
    (hc : 0 < p.columns) (hok : Rows2DOk p rows) (hmaxE : p.maxRows = 0 ∨ rows.length ≤ p.maxRows)
    (hmaxD : M = 0 ∨ rows.length ≤ M) :
    decodeAll { p with maxRows := M } (encodeAll p rows.flatten).1 = (rows.flatten, 1) := by
  refine stream_rt_of_loop p M rows hc hok hmaxE fun pad r fuel hmod he hs hf => ?_
  rw [if_neg (by simp [hk])]
  exact readRows_1d { p with maxRows := M } hk hc hig pad hmod rows r 0 fuel 0 _ he hs hok (by simpa using hmaxD) hf

/-- Group 3 one-dimensional stream round trip (K = 0, no EOL, no byte alignment, with the
return-to-control sequence): every list of admissible rows (also rows ending in a run that is a
positive multiple of 64, class `ccitt-1d-final-run-64`) is decoded back, for any row limit `M` of the
reader that is `0` or not below the number of rows. -/
theorem ccitt_g3_1d_stream_rt (p : CParams) (M : Nat) (rows : List Bytes)
    (hk : p.k = 0) (heol : p.endOfLine = false) (hal : p.byteAlign = false) (hig : p.ignoreEOB = false)
    (hc : 0 < p.columns) (hok : Rows1DOk p rows) (hmaxE : p.maxRows = 0 ∨ rows.length ≤ p.maxRows)
    (hmaxD : M = 0 ∨ rows.length ≤ M) :
    decodeAll { p with maxRows := M } (encodeAll p rows.flatten).1 = (rows.flatten, 1) :=
  g3_1d_stream_rt p M rows hk hig hc ((rows2DOk_iff p rows).2 hok) hmaxE hmaxD

/-- the reader's row loop over Group 4 rows and the EOFB: the EOFB is
consumed right after the last row, so the reader is at EOF when it comes back for the next one.  The EOFB test runs
after EVERY row, so between two rows the next 24 bits must not read 4097: they start with a mode code
(`encode2DLine_head`, `mode_not_eofb`). -/
theorem readRows_g4 (p : CParams) (hk : p.k < 0) (hc : 0 < p.columns) (hig : p.ignoreEOB = false) (pad : Bits)
    (hmod : p.byteAlign = true → (endOfBlockBits p ++ pad).length % 8 = 0)
    (rows : List Bytes) (r : Rd) (numRows fuel c2 : Nat) (refLine : Bits) (he : Rd.clean r)
    (hrl : refLine.length = 8 * p.lineBytes)
    (hs : Rd.stream r = allRowBitsP p rows c2 ((refLine.take p.columns).map b2n) ++ (endOfBlockBits p ++ pad))
    (hok : Rows2DOk p rows) (hmax : p.maxRows = 0 ∨ numRows + rows.length ≤ p.maxRows) (hf : rows.length < fuel) :
    Rd.readRows r p fuel numRows refLine = (rows, 1) := by
  have heob : endOfBlockBits p = codeBits 4097 24 := by
    unfold endOfBlockBits; simp [hig, hk]
  rw [heob] at hmod hs
  have hds : ∀ (r : Rd) (ref : Bits), (r.decodeScanLine p ref).1 =
      (if (((r.decode2D p ref).alignRow p).peek 24).1 = 4097 then
        { ((((r.decode2D p ref).alignRow p).peek 24).2.consume 24) with err := 1 }
       else (((r.decode2D p ref).alignRow p).peek 24).2) := by
    intro r ref; unfold Rd.decodeScanLine Rd.decodeG4; simp [hk, hig]
  have heofb : ∀ t : Bits, bitsToNat ((codeBits 4097 24 ++ t).take 24) = 4097 := by
    intro t
    rw [List.take_left' (codeBits_length ..), eofb_value]
  refine readRows_of_steps p hc
    (fun r ref rows => ref.length = 8 * p.lineBytes ∧ ((Rd.clean r ∧ ∃ c2, Rd.stream r =
      allRowBitsP p rows c2 ((ref.take p.columns).map b2n) ++ (codeBits 4097 24 ++ pad)) ∨ (rows = [] ∧ r.err = 1)))
    ?_ ?_ rows r refLine numRows fuel ⟨hrl, .inl ⟨he, c2, hs⟩⟩ hok hmax hf
  · rintro r ref ⟨_, ⟨he, c2, hs⟩ | ⟨_, h1⟩⟩
    · rw [allRowBitsP_nil, List.nil_append] at hs
      obtain ⟨d1, d2, d3⟩ := dec2D_eofb p hc ref r pad he hs
      obtain ⟨a1, a2, a3⟩ := alignRow_skip p (r.decode2D p ref) [] _ d1 (by rw [d2, hs]; rfl)
        (fun hal => ⟨by simp, hmod hal⟩) (fun _ => rfl)
      obtain ⟨g1, g2, _⟩ := decodeG4_after p hig _ a1 (by rw [a2, List.length_append, codeBits_length]; omega)
      rw [hds]
      exact .inr ⟨he.1, by rw [g1, a3, d3], g2 (by rw [a2]; exact heofb pad)⟩
    · exact .inl h1
  · rintro r ref row rest hlen hpad ⟨hrl, ⟨he, c2, hs⟩ | ⟨h, _⟩⟩
    · rw [allRowBitsP_cons, encodeRowBits_kneg p hk] at hs
      simp only [List.append_assoc] at hs
      obtain ⟨d1, d2, d3⟩ := ccitt_g4_row_rt p ref row r _ hc hlen hpad he hs
        (by simp only [List.length_append, codeBits_length]; omega)
      obtain ⟨a1, a2, a3⟩ := alignRow_rows p (r.decode2D p ref) _ _ rest c2 _ d1 d2 hmod
      obtain ⟨g1, g2, g3⟩ := decodeG4_after p hig _ a1
        (by rw [a2]; simp only [List.length_append, codeBits_length]; omega)
      simp only [] at g1 g2 g3
      rw [← hds r ref] at g1 g2 g3
      have hline : (r.decodeScanLine p ref).1.line = bytesToBits row := by rw [g1, a3, d3]
      obtain ⟨hrl', hpx⟩ := decodeScanLine_ref r p ref row hlen hrl hline
      generalize (r.decodeScanLine p ref).1 = r2 at g1 g2 g3 hline ⊢
      refine ⟨he.1, hline, hrl', ?_⟩
      rw [hpx]
      cases rest with
      | nil => exact .inr ⟨rfl, g2 (by rw [a2]; exact heofb pad)⟩
      | cons row2 rest2 =>
        obtain ⟨i, tail, hi, hhead⟩ := encode2DLine_head p hc (pixelsOf p row) (pixelsOf p row2)
        obtain ⟨e2, s2⟩ := g3 (by
          rw [a2, allRowBitsP_cons, encodeRowBits_kneg p hk, hhead]
          simp only [List.append_assoc]
          exact mode_not_eofb i hi _ (by simp only [List.length_append, codeBits_length]; omega))
        exact .inl ⟨e2, c2, s2.trans a2⟩
    · cases h

theorem g4_stream_rt (p : CParams) (M : Nat) (rows : List Bytes) (hk : p.k < 0) (hig : p.ignoreEOB = false)
    (hc : 0 < p.columns) (hok : Rows2DOk p rows) (hmaxE : p.maxRows = 0 ∨ rows.length ≤ p.maxRows)
    (hmaxD : M = 0 ∨ rows.length ≤ M) :
    decodeAll { p with maxRows := M } (encodeAll p rows.flatten).1 = (rows.flatten, 1) := by
  refine stream_rt_of_loop p M rows hc hok hmaxE fun pad r fuel hmod he hs hf => ?_
  rw [if_pos (by omega)]
  exact readRows_g4 { p with maxRows := M } hk hc hig pad hmod rows r 0 fuel 0 _ he (by simp; exact Nat.mul_comm _ _)
    (by
      show Rd.stream r = allRowBitsP _ rows 0 (((List.replicate (p.lineBytes * 8) (!p.blackIs1)).take p.columns).map b2n) ++ _
      rw [initial_ref_pixels]; exact hs) hok (by simpa using hmaxD) hf

theorem stream_rt_kle0 (p : CParams) (M : Nat) (rows : List Bytes) (hk : p.k ≤ 0) (hig : p.ignoreEOB = false)
    (hc : 0 < p.columns) (hok : Rows2DOk p rows) (hmaxE : p.maxRows = 0 ∨ rows.length ≤ p.maxRows)
    (hmaxD : M = 0 ∨ rows.length ≤ M) :
    decodeAll { p with maxRows := M } (encodeAll p rows.flatten).1 = (rows.flatten, 1) := by
  by_cases hm : p.k < 0
  · exact g4_stream_rt p M rows hm hig hc hok hmaxE hmaxD
  · exact g3_1d_stream_rt p M rows (by omega) hig hc hok hmaxE hmaxD

/-- Group 4 stream round trip (K < 0, no byte alignment, with EOFB): every list of admissible
rows (also with runs of 161344 or more pixels) is decoded back, for any row limit `M` of the reader
that is `0` or not below the number of rows. -/
theorem ccitt_g4_stream_rt (p : CParams) (M : Nat) (rows : List Bytes)
    (hk : p.k < 0) (hal : p.byteAlign = false) (hig : p.ignoreEOB = false)
    (hc : 0 < p.columns) (hok : Rows2DOk p rows) (hmaxE : p.maxRows = 0 ∨ rows.length ≤ p.maxRows)
    (hmaxD : M = 0 ∨ rows.length ≤ M) :
    decodeAll { p with maxRows := M } (encodeAll p rows.flatten).1 = (rows.flatten, 1) :=
  g4_stream_rt p M rows hk hig hc hok hmaxE hmaxD

/-- `validate` and `ccittAdmissible` give the hypotheses of the stream theorems: a width of at least one pixel,
admissible rows, not more rows than either side admits (the reader's row cap is the writer's `maxRows`) -/
theorem rt_of_stream_rt (f : FCCITT) (rows : List Bytes) (hv : f.validate = true)
    (hadm : ccittAdmissible f.encParams rows)
    (h : ∀ M, 0 < f.encParams.columns → Rows2DOk f.encParams rows →
      (f.encParams.maxRows = 0 ∨ rows.length ≤ f.encParams.maxRows) → (M = 0 ∨ rows.length ≤ M) →
      decodeAll { f.encParams with maxRows := M } (encodeAll f.encParams rows.flatten).1 = (rows.flatten, 1)) :
    decodeAll f.decParams (encodeAll f.encParams rows.flatten).1 = (rows.flatten, 1) := by
  have hcols : 0 < f.encParams.columns := by
    unfold FCCITT.validate at hv
    show 0 < f.cols.toNat
    unfold FCCITT.cols
    split at hv
    · simp at hv
    · rename_i h1
      split <;> omega
  -- `f.decParams`, `{ f.encParams with maxRows := f.decodeMaxRows.toNat }` and `f.encParams` are the same term by
  -- unfolding: in the goal, and in `hadm.2` for both caps
  exact h f.decodeMaxRows.toNat hcols hadm.1 hadm.2 hadm.2

/-- `C06fbt.ccitt_rt_statement` for Group 4 (K < 0) and Group 3 one-dimensional coding without EOL markers (K = 0,
EndOfLine = false), with the end-of-block pattern and without byte alignment; no condition on the pixel data.  The
proof uses neither `hrows` (see `rt_of_stream_rt`) nor `hal` nor the `EndOfLine` half of `hmode`; every K, EOL markers
and EncodedByteAlign are covered by `C06fbK.ccitt_rt_supported_partial`, IgnoreEndOfBlock by no proof. -/
theorem ccitt_rt_g4_g31d (f : FCCITT) (rows : List Bytes) (hv : f.validate = true)
    (hadm : ccittAdmissible f.encParams rows) (hrows : (rows.length : Int) ≤ f.decodeMaxRows)
    (hig : f.ignoreEOB = false) (hal : f.byteAlign = false)
    (hmode : f.k < 0 ∨ (f.k = 0 ∧ f.endOfLine = false)) :
    decodeAll f.decParams (encodeAll f.encParams rows.flatten).1 = (rows.flatten, 1) :=
  rt_of_stream_rt f rows hv hadm fun M => stream_rt_kle0 f.encParams M rows (by show f.k ≤ 0; omega) hig

-- non-vacuity: Group 4 and Group 3 1-D parameter sets with rows that meet every hypothesis
example : (⟨-1, false, false, 3, 0, false, false, 0⟩ : FCCITT).validate = true ∧
    ccittAdmissible (⟨-1, false, false, 3, 0, false, false, 0⟩ : FCCITT).encParams w3 := by decide
example : (⟨0, false, false, 10, 0, false, true, 0⟩ : FCCITT).validate = true ∧
    ccittAdmissible (⟨0, false, false, 10, 0, false, true, 0⟩ : FCCITT).encParams [[0xAA, 0x80], [0xFF, 0xC0]] := by
  decide

end PdfVerif.C06faC
