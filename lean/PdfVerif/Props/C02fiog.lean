import PdfVerif.Props.C02fioe
import PdfVerif.Props.C02fiof
/-!
# C02 (work package FIO) — `file_rt_table`: the whole-file round trip for classic xref tables

Writer side: `OpenInv` (the state of the open stream), `SDocAt`/`sdoc_invariant` (every completed
stream object stands in the file with its final `/Length` text and exactly the bytes written),
`doc_complete` (every in-use entry belongs to a recorded object); all three are carried along
`Reach` (`Reach.sgrow`, `Reach.cover`).  Reader side: `stream_at_rt` (through `SDocAt.get_rt`), `stream_dict_nrm`,
`openTable_close` (table *and* trailer dictionary, on `C01L.readDict_fmt`).  Composition: `file_rt_table`.
-/
namespace PdfVerif.C02fiog
open PdfVerif PdfVerif.FIO PdfVerif.C02fio PdfVerif.C02fiob PdfVerif.C02fioe PdfVerif.C02fiof
open PdfVerif.C01b PdfVerif.C01L PdfVerif.C01d

/-- the text of the `/Length` value of a finished stream with `n` bytes: the number (possibly
    over the remains of the twelve reserved blanks), or a reference to a written integer `n` -/
def LenText (doc : List (Nat × Nat × Obj)) (value : Bytes) (n : Nat) : Prop :=
  (∃ j, value = decOf n ++ List.replicate j 32) ∨
  (∃ r, value = decOf r ++ [32, 48, 32, 82] ∧ r < Gen.fio_maxXRefSize ∧ (r, 0, Obj.int n) ∈ doc)

/-- the stream object `x = (num, gen, dict, body)` is in the file: its entry is in use, and at
    its offset stand the header, the dictionary with `/Length`, `stream`, the bytes written,
    `endstream endobj` -/
def SDocAt (s : WState) (x : Nat × Nat × List (Bytes × Obj) × Bytes) : Prop :=
  ∃ e dictBytes value off, s.xref.get x.1 = some e ∧ e.gen = x.2.1 ∧ e.inStream = 0 ∧ 0 ≤ e.pos ∧
    fmtDictLen s.opts.fmt s.opts.litStr x.2.2.1 value = some (dictBytes, off) ∧
    LenText s.doc value x.2.2.2.length ∧
    At s.out e.pos.toNat (objHeader x.1 x.2.1 ++ dictBytes ++ kStream ++ x.2.2.2 ++ kEndstream) ∧
    ∀ st p, s.stm = some st → st.patchPos = some p →
      e.pos.toNat + (objHeader x.1 x.2.1 ++ dictBytes ++ kStream ++ x.2.2.2 ++ kEndstream).length ≤ p

theorem SDocAt.grow {a b : WState} {x : Nat × Nat × List (Bytes × Obj) × Bytes} (hd : SDocAt a x) (hg : Grow a b) :
    SDocAt b x := by
  obtain ⟨e, db, value, off, h1, h2, h3, h4, h5, h6, h7, h8⟩ := hd
  refine ⟨e, db, value, off, hg.mono _ _ h1, h2, h3, h4, by rw [hg.opts]; exact h5, ?_, hg.keep _ _ h7 h8, ?_⟩
  · rcases h6 with h | ⟨r, hr1, hr2, hr3⟩
    · exact .inl h
    · exact .inr ⟨r, hr1, hr2, hg.doc _ hr3⟩
  · intro st' p' hs hp
    rcases hg.patch st' p' hs hp with ⟨st, ha, hb⟩ | hle
    · exact h8 st p' ha hb
    · have := h7.end_le; omega

/-- new stream objects are in the file -/
def SGrow (s s' : WState) : Prop := ∀ x, x ∈ s'.sdoc → x ∈ s.sdoc ∨ SDocAt s' x

theorem SGrow.of_eq {s s' : WState} (h : s'.sdoc = s.sdoc) : SGrow s s' := fun x hx => .inl (by rw [← h]; exact hx)

theorem SGrow.trans {a b c : WState} (h1 : SGrow a b) (h2 : SGrow b c) (g2 : Grow b c) : SGrow a c := by
  intro x hx
  rcases h2 x hx with hb | hd
  · rcases h1 x hb with ha | hd
    · exact .inl ha
    · exact .inr (hd.grow g2)
  · exact .inr hd

/-- the state of the open stream: before `startWriting` everything written is in the buffer and
    the entry points at the current position; afterwards the header, the dictionary (with the
    `/Length` value chosen) and `stream` stand at the entry's offset, followed by the bytes -/
structure OpenInv (s : WState) : Prop where
  unstarted : ∀ st, s.stm = some st → st.started = false →
    st.buf = s.sdata ∧ st.patchPos = none ∧ st.lenRef = none ∧
    ∃ e, s.xref.get st.num = some e ∧ e.gen = st.gen ∧ e.inStream = 0 ∧ e.pos = (s.pos : Int)
  started : ∀ st, s.stm = some st → st.started = true →
    ∃ e P pre post value, s.xref.get st.num = some e ∧ e.gen = st.gen ∧ e.inStream = 0 ∧ 0 ≤ e.pos ∧
      P.length = e.pos.toNat ∧
      (∀ v, fmtDictLen s.opts.fmt s.opts.litStr st.dict v = some (pre ++ v ++ post, pre.length)) ∧
      s.out = P ++ (objHeader st.num st.gen ++ (pre ++ value ++ post) ++ kStream ++ s.sdata) ∧
      st.startPos = P.length + (objHeader st.num st.gen ++ (pre ++ value ++ post) ++ kStream).length ∧
      ((∃ l, st.userLen = some l ∧ value = intDec l ∧ st.patchPos = none ∧ st.lenRef = none) ∨
       (st.userLen = none ∧ value = blanks12 ∧ st.lenRef = none ∧
          st.patchPos = some (P.length + (objHeader st.num st.gen).length + pre.length)) ∨
       (st.userLen = none ∧ st.patchPos = none ∧
          ∃ r, st.lenRef = some r ∧ value = decOf r ++ [32, 48, 32, 82] ∧ r < Gen.fio_maxXRefSize))

theorem OpenInv.of_none {s : WState} (h : s.stm = none) : OpenInv s :=
  ⟨fun st hs _ => (by rw [h] at hs; cases hs), fun st hs _ => (by rw [h] at hs; cases hs)⟩

/-- the reference `n g` belongs to a recorded plain object, a recorded stream object, or the open stream -/
def Cov (s : WState) (n g : Nat) : Prop :=
  (∃ o, (n, g, o) ∈ s.doc) ∨ (∃ d b, (n, g, d, b) ∈ s.sdoc) ∨ (∃ st, s.stm = some st ∧ st.num = n ∧ st.gen = g)

/-- the ghost document is complete: every in-use entry outside object streams is accounted for -/
def Cover (s : WState) : Prop :=
  ∀ n e, s.xref.get n = some e → e.inStream = 0 → 0 ≤ e.pos → Cov s n e.gen

theorem cover_of {s s' : WState} (hc : Cover s)
    (hx : ∀ n e, s'.xref.get n = some e → e.inStream = 0 → s.xref.get n = some e ∨ Cov s' n e.gen)
    (hm : ∀ n g, Cov s n g → Cov s' n g) : Cover s' := by
  intro n e hg h0 hp
  rcases hx n e hg h0 with h | h
  · exact hm _ _ (hc n e h h0 hp)
  · exact h

theorem Cov_mono {s s' : WState} (hd : ∀ x, x ∈ s.doc → x ∈ s'.doc) (hs : ∀ x, x ∈ s.sdoc → x ∈ s'.sdoc)
    (hst : ∀ st, s.stm = some st → (∃ st', s'.stm = some st' ∧ st'.num = st.num ∧ st'.gen = st.gen) ∨
      ∃ d b, (st.num, st.gen, d, b) ∈ s'.sdoc) (n g : Nat) : Cov s n g → Cov s' n g := by
  rintro (⟨o, ho⟩ | ⟨d, b, hdb⟩ | ⟨st, h1, rfl, rfl⟩)
  · exact .inl ⟨o, hd _ ho⟩
  · exact .inr (.inl ⟨d, b, hs _ hdb⟩)
  · rcases hst st h1 with ⟨st', a, b, c⟩ | h
    · exact .inr (.inr ⟨st', a, b, c⟩)
    · exact .inr (.inl h)

theorem startWriting_layout {s s3 : WState} {st st' : OpenStm} {known : Option Nat}
    (h : startWriting s st known = .ok (s3, st')) :
    ∃ value dictBytes off, fmtDictLen s.opts.fmt s.opts.litStr st.dict value = some (dictBytes, off) ∧
      s3.out = s.out ++ (objHeader st.num st.gen ++ dictBytes ++ kStream ++ st.buf) ∧
      s3.sdoc = s.sdoc ∧ s3.sdata = s.sdata ∧ s3.doc = s.doc ∧ s3.xref = s.xref ∧ s3.opts = s.opts ∧
      st'.num = st.num ∧ st'.gen = st.gen ∧ st'.dict = st.dict ∧ st'.userLen = st.userLen ∧
      st'.started = true ∧ st'.startPos = s.pos + (objHeader st.num st.gen ++ dictBytes ++ kStream).length ∧
      ((∃ l, st.userLen = some l ∧ value = intDec l ∧ st'.patchPos = none ∧ st'.lenRef = st.lenRef) ∨
       (st.userLen = none ∧ ∃ l, known = some l ∧ value = decOf l ∧ st'.patchPos = none ∧ st'.lenRef = st.lenRef) ∨
       (st.userLen = none ∧ known = none ∧ value = blanks12 ∧ st'.lenRef = st.lenRef ∧
          st'.patchPos = some (s.pos + (objHeader st.num st.gen).length + off)) ∨
       (st.userLen = none ∧ known = none ∧ st'.patchPos = none ∧
          ∃ r, st'.lenRef = some r ∧ value = decOf r ++ [32, 48, 32, 82] ∧ r < Gen.fio_maxXRefSize)) := by
  obtain ⟨n, lr, pp, value, db, off, _, hfd, rfl, rfl, hk⟩ := startWriting_ok h
  exact ⟨value, db, off, hfd, by simp only [emit_out, List.append_assoc], rfl, rfl, rfl, rfl, rfl, rfl, rfl, rfl, rfl,
    rfl, rfl, hk⟩

theorem putPlain_s {s s' : WState} {num gen : Nat} {o : Obj} (hs : s.stm = none)
    (h : putPlain s num gen o = .ok s') : SGrow s s' ∧ OpenInv s' := by
  obtain ⟨_, _, _, _, _, rfl⟩ := putPlain_ok h
  exact ⟨.of_eq rfl, .of_none hs⟩

theorem putPlain_cover {s s' : WState} {num gen : Nat} {o : Obj} (hc : Cover s) (hs : s.stm = none)
    (h : putPlain s num gen o = .ok s') : Cover s' := by
  obtain ⟨x, n, _, hset, _, rfl⟩ := putPlain_ok h
  refine cover_of hc ?_ (Cov_mono (fun _ hx => by simp [emit_doc, hx]) (fun _ h => h) (fun st hst => nomatch hs.symm.trans hst))
  intro n' e hg _
  rcases setXRef_get hset hg with ⟨rfl, rfl⟩ | hg
  · exact .inr (.inl ⟨o, by simp [emit_doc]⟩)
  · exact .inl hg

theorem openStream_s {s s' : WState} {num gen : Nat} {dict : List (Bytes × Obj)} {ul : Option Int}
    (h : openStream s num gen dict ul = .ok s') : SGrow s s' ∧ OpenInv s' := by
  obtain ⟨_, x, n, hset, rfl⟩ := openStream_ok h
  obtain ⟨_, hx, _⟩ := setXRef_ok hset
  refine ⟨.of_eq rfl, ?_, ?_⟩
  · intro st hs _
    simp only [Option.some.injEq] at hs
    subst hs
    exact ⟨rfl, rfl, rfl, { inStream := 0, pos := s.pos, gen := gen }, by simp only; rw [hx, C02fio.get_set]; simp,
      rfl, rfl, rfl⟩
  · intro st hs hst
    simp only [Option.some.injEq] at hs
    subst hs
    simp at hst

theorem openStream_cover {s s' : WState} {num gen : Nat} {dict : List (Bytes × Obj)} {ul : Option Int}
    (hc : Cover s) (h : openStream s num gen dict ul = .ok s') : Cover s' := by
  obtain ⟨hs, x, n, hset, rfl⟩ := openStream_ok h
  refine cover_of hc ?_ (Cov_mono (fun _ h => h) (fun _ h => h) (fun st hst => nomatch hs.symm.trans hst))
  intro n' e hg _
  rcases setXRef_get hset hg with ⟨rfl, rfl⟩ | hg
  · exact .inr (.inr (.inr ⟨_, rfl, rfl, rfl⟩))
  · exact .inl hg

theorem streamWrite_s {s s' : WState} {p : Bytes} (hi : Inv s) (ho : OpenInv s) (h : streamWrite s p = .ok s') :
    SGrow s s' ∧ OpenInv s' := by
  obtain ⟨st, hs, ⟨hst, rfl⟩ | ⟨hst, rfl⟩ | ⟨hst, s1, st1, hsw, rfl⟩⟩ := streamWrite_ok h
  · refine ⟨.of_eq rfl, ?_, ?_⟩
    · intro st' hs' hst'
      simp only [emit_stm, hs, Option.some.injEq] at hs'
      subst hs'
      simp [hst] at hst'
    · intro st' hs' _
      simp only [emit_stm, hs, Option.some.injEq] at hs'
      subst hs'
      obtain ⟨e, P, pre, post, value, h1, h2, h3, h4, h5, h6, h7, h8, h9⟩ := ho.started st hs hst
      refine ⟨e, P, pre, post, value, h1, h2, h3, h4, h5, h6, ?_, h8, h9⟩
      simp only [emit_out, emit_sdata]
      rw [h7]
      simp only [List.append_assoc]
  · obtain ⟨u1, u2, u3, e, u4, u5, u6, u7⟩ := ho.unstarted st hs hst
    refine ⟨.of_eq rfl, ?_, ?_⟩
    · intro st2 hs2 _
      simp only [Option.some.injEq] at hs2
      subst hs2
      exact ⟨by simp [u1], u2, u3, e, u4, u5, u6, u7⟩
    · intro st2 hs2 hst2
      simp only [Option.some.injEq] at hs2
      subst hs2
      simp [hst] at hst2
  · obtain ⟨u1, _, u3, e, u4, u5, u6, u7⟩ := ho.unstarted st hs hst
    obtain ⟨n, lr, pp, value, db, off, _, hfd, rfl, rfl, hk⟩ := startWriting_ok hsw
    obtain ⟨pre, post, rfl, rfl, hall, _⟩ := fmtDictLen_parts hfd
    refine ⟨.of_eq rfl, ?_, ?_⟩
    · intro st2 hs2 hst2
      simp only [emit_stm, Option.some.injEq] at hs2
      subst hs2
      simp at hst2
    · intro st2 hs2 _
      simp only [emit_stm, Option.some.injEq] at hs2
      subst hs2
      have hpl : s.out.length = e.pos.toNat := by rw [u7, hi.pos_eq]; simp
      refine ⟨e, s.out, pre, post, value, u4, u5, u6, by rw [u7]; omega, hpl, hall, ?_, ?_, ?_⟩
      · simp only [emit_out, emit_sdata, u1, List.append_assoc]
      · simp only [hi.pos_eq]
      · rcases hk with ⟨l, k1, k2, k3, k4⟩ | ⟨_, l, k1, _⟩ | ⟨k0, _, k2, k3, k4⟩ | ⟨k0, _, k2, r, k3, k4, k5⟩
        · exact .inl ⟨l, k1, k2, k3, by rw [k4]; exact u3⟩
        · cases k1
        · exact .inr (.inl ⟨k0, k2, by rw [k3]; exact u3, by rw [k4, hi.pos_eq]⟩)
        · exact .inr (.inr ⟨k0, k2, r, k3, k4, k5⟩)

theorem streamWrite_cover {s s' : WState} {p : Bytes} (hc : Cover s) (h : streamWrite s p = .ok s') : Cover s' := by
  obtain ⟨st, hs, ⟨_, rfl⟩ | ⟨_, rfl⟩ | ⟨_, s1, st1, hsw, rfl⟩⟩ := streamWrite_ok h
  · exact hc
  · exact cover_of hc (fun n e hg _ => .inl hg) (Cov_mono (fun _ h => h) (fun _ h => h)
      (fun st' hst' => by cases hs.symm.trans hst'; exact .inl ⟨_, rfl, rfl, rfl⟩))
  · obtain ⟨n, lr, pp, value, db, off, _, _, rfl, rfl, _⟩ := startWriting_ok hsw
    exact cover_of hc (fun n e hg _ => .inl hg) (Cov_mono (fun _ h => h) (fun _ h => h)
      (fun st' hst' => by cases hs.symm.trans hst'; exact .inl ⟨_, rfl, rfl, rfl⟩))

theorem closeLength_fields {s s1 : WState} {st st1 : OpenStm} {len : Nat}
    (h : closeLength s st = .ok (s1, st1, len)) : s1.xref = s.xref ∧ s1.doc = s.doc ∧ s1.sdoc = s.sdoc :=
  (closeLength_keeps h).2

/-- the length bookkeeping at the close of a stream: the length is the number of bytes written,
    and the object stands in the output with its final `/Length` text -/
theorem closeLength_layout {s s1 : WState} {st st1 : OpenStm} {len : Nat} (hi : Inv s) (ho : OpenInv s)
    (hs : s.stm = some st) (hr : closeLength s st = .ok (s1, st1, len))
    (hmm : lengthMismatch st.userLen len = false) :
    len = s.sdata.length ∧
    ∃ e P dictBytes value off, s.xref.get st.num = some e ∧ e.gen = st.gen ∧ e.inStream = 0 ∧ 0 ≤ e.pos ∧
      P.length = e.pos.toNat ∧
      fmtDictLen s.opts.fmt s.opts.litStr st.dict value = some (dictBytes, off) ∧
      s1.out = P ++ (objHeader st.num st.gen ++ dictBytes ++ kStream ++ s.sdata) ∧
      ((∃ j, value = decOf len ++ List.replicate j 32) ∨
       (∃ r, value = decOf r ++ [32, 48, 32, 82] ∧ r < Gen.fio_maxXRefSize ∧
          (r, 0, PutObj.plain (.int len)) ∈ s1.after)) := by
  -- a caller-supplied `/Length` that passed the check is the decimal text of `len`
  have hdirect : ∀ l : Int, st.userLen = some l → intDec l = decOf len := by
    intro l hl
    rw [hl] at hmm
    simp [lengthMismatch] at hmm
    subst hmm
    rw [C01L.decOf_eq_natDec]; rfl
  -- For a started stream the way `/Length` was written (`OpenInv.started`: the caller's number, twelve
  -- blanks to patch, `r 0 R`) goes with the case of `closeLength_ok` of the same kind (nothing to do, the
  -- patch, the deferred integer); the six mixed pairs contradict each other in `lenRef` or `patchPos`.
  rcases closeLength_ok hr with ⟨hst, _, hl, hcase⟩ | ⟨hst, hl, hsw⟩
  · obtain ⟨e, P, pre, post, value, h1, h2, h3, h4, h5, h6, h7, h8, h9⟩ := ho.started st hs hst
    have hlen : len = s.sdata.length := by
      rw [hl, hi.pos_eq, h8, h7]; simp only [List.length_append]; omega
    refine ⟨hlen, ?_⟩
    rcases hcase with ⟨r, hlr, rfl⟩ | ⟨hlr, p, hpp, hvl, rfl⟩ | ⟨hlr, hpp, rfl⟩
    · refine ⟨e, P, pre ++ value ++ post, value, pre.length, h1, h2, h3, h4, h5, h6 value, h7, ?_⟩
      rcases h9 with ⟨l, _, _, _, k4⟩ | ⟨_, _, k3, _⟩ | ⟨_, _, r', k3, k4, k5⟩
      · rw [hlr] at k4; cases k4
      · rw [hlr] at k3; cases k3
      · rw [hlr] at k3; cases k3
        exact .inr ⟨r, k4, k5, by simp⟩
    · rcases h9 with ⟨l, _, _, k3, _⟩ | ⟨_, k2, _, k4⟩ | ⟨_, k2, _⟩
      · rw [hpp] at k3; cases k3
      · rw [hpp] at k4
        simp only [Option.some.injEq] at k4
        refine ⟨e, P, pre ++ (decOf len ++ List.replicate (12 - (decOf len).length) 32) ++ post,
          _, pre.length, h1, h2, h3, h4, h5, h6 _, ?_, .inl ⟨_, rfl⟩⟩
        show patchAt s.out p (decOf len) = _
        have hsplit : s.out = (P ++ objHeader st.num st.gen ++ pre) ++ blanks12 ++ (post ++ kStream ++ s.sdata) := by
          rw [h7, k2]; simp only [List.append_assoc]
        have hp : p = (P ++ objHeader st.num st.gen ++ pre).length := by rw [k4]; simp; omega
        rw [hsplit, hp, patchAt_mid _ _ _ hvl]
        simp only [List.append_assoc]
      · rw [hpp] at k2; cases k2
    · rcases h9 with ⟨l, k1, k2, _, _⟩ | ⟨_, _, _, k4⟩ | ⟨_, _, r', k3, _⟩
      · refine ⟨e, P, pre ++ value ++ post, value, pre.length, h1, h2, h3, h4, h5, h6 value, h7, .inl ⟨0, ?_⟩⟩
        rw [k2, hdirect l k1]; simp
      · rw [hpp] at k4; cases k4
      · rw [hlr] at k3; cases k3
  · obtain ⟨u1, _, _, e, u4, u5, u6, u7⟩ := ho.unstarted st hs hst
    obtain ⟨n, lr, pp, value, db, off, _, hfd, rfl, rfl, hk⟩ := startWriting_ok hsw
    have hpl : s.out.length = e.pos.toNat := by rw [u7, hi.pos_eq]; simp
    refine ⟨by rw [hl, u1], e, s.out, db, value, off, u4, u5, u6, by rw [u7]; omega, hpl, hfd,
      by simp only [emit_out, u1, List.append_assoc], ?_⟩
    rcases hk with ⟨l, k1, k2, _, _⟩ | ⟨_, l, k1, k2, _⟩ | ⟨_, k1, _⟩ | ⟨_, k1, _⟩
    · exact .inl ⟨0, by rw [k2, hdirect l k1]; simp⟩
    · simp only [Option.some.injEq] at k1
      exact .inl ⟨0, by rw [k2, ← k1]; simp⟩
    · cases k1
    · cases k1

/-- the close of a stream puts the stream object into the file.  `g` and `sg` are what the replay of
    the deferred `Put`s does; an indirect `/Length` is in the document only after it, hence `hd`. -/
theorem closed_s {s s1 s' : WState} {st st1 : OpenStm} {len : Nat} (hi : Inv s) (ho : OpenInv s)
    (hs : s.stm = some st) (hr : closeLength s st = .ok (s1, st1, len))
    (hmm : lengthMismatch st.userLen len = false)
    (g : Grow { emit s1 (kEndstream ++ prettyNL s.opts) with
      stm := none, after := [], sdoc := s1.sdoc ++ [(st.num, st.gen, st.dict, s.sdata)] } s')
    (sg : SGrow { emit s1 (kEndstream ++ prettyNL s.opts) with
      stm := none, after := [], sdoc := s1.sdoc ++ [(st.num, st.gen, st.dict, s.sdata)] } s')
    (hs' : s'.stm = none) (hd : ∀ n g o, (n, g, PutObj.plain o) ∈ s1.after → (n, g, o) ∈ s'.doc) : SGrow s s' := by
  obtain ⟨hopts, hx, hdoc, hsdoc⟩ := closeLength_keeps hr
  obtain ⟨hlen, e, P, dictBytes, value, off, x1, x2, x3, x4, x5, x6, x7, x8⟩ := closeLength_layout hi ho hs hr hmm
  intro x hx'
  rcases sg x hx' with hx3 | hd'
  · simp only [List.mem_append, List.mem_singleton] at hx3
    rcases hx3 with hx3 | rfl
    · exact .inl (by rw [← hsdoc]; exact hx3)
    · right
      refine ⟨e, dictBytes, value, off, g.mono _ _ (by simpa [emit_xref, hx] using x1), x2, x3, x4, ?_, ?_, ?_, ?_⟩
      · rw [g.opts.trans (hopts :)]; exact x6
      · simp only
        rw [← hlen]
        rcases x8 with hj | ⟨r', r1, r2, r3⟩
        · exact .inl hj
        · exact .inr ⟨r', r1, r2, hd r' 0 (.int len) r3⟩
      · refine g.keep _ _ ?_ (fun st2 p2 h1 => by simp at h1)
        simp only [emit_out, x7, ← x5]
        exact ⟨P, prettyNL s.opts, by simp only [List.append_assoc], rfl⟩
      · intro st2 p2 h1; rw [hs'] at h1; cases h1
  · exact .inr hd'

theorem closed_cover {s s1 : WState} {st st1 : OpenStm} {len : Nat} (hc : Cover s) (hs : s.stm = some st)
    (hr : closeLength s st = .ok (s1, st1, len)) :
    Cover { emit s1 (kEndstream ++ prettyNL s.opts) with
      stm := none, after := [], sdoc := s1.sdoc ++ [(st.num, st.gen, st.dict, s.sdata)] } := by
  obtain ⟨hopts, hx, hdoc, hsdoc⟩ := closeLength_keeps hr
  exact cover_of hc (fun n e hg _ => .inl (by simpa [emit_xref, hx] using hg))
    (Cov_mono (fun x hx' => by simpa [emit_doc, hdoc] using hx') (fun x hx' => by simp [hsdoc, hx'])
      (fun st' hst' => by cases hs.symm.trans hst'; exact .inr ⟨st.dict, s.sdata, by simp⟩))

theorem Reach.sgrow {s s' : WState} (h : Reach s s') : Inv s → OpenInv s → SGrow s s' ∧ OpenInv s' := by
  induction h with
  | refl => exact fun _ ho => ⟨.of_eq rfl, ho⟩
  | trans h1 h2 ih1 ih2 =>
    intro hi ho
    obtain ⟨a1, b1⟩ := ih1 hi ho
    obtain ⟨a2, b2⟩ := ih2 (h1.inv hi) b1
    exact ⟨a1.trans a2 (Reach.grow h2 (h1.inv hi)), b2⟩
  | bump | deferred => exact fun _ ho => ⟨.of_eq rfl, ⟨ho.unstarted, ho.started⟩⟩
  | plain hs h => exact fun _ _ => putPlain_s hs h
  | opened h => exact fun _ _ => openStream_s h
  | written h => exact fun hi ho => streamWrite_s hi ho h
  | members hs _ => exact fun _ _ => ⟨.of_eq rfl, .of_none hs⟩
  | emitted _ _ hs => exact fun _ _ => ⟨.of_eq rfl, .of_none hs⟩
  | closed hs hcl hmm r hs' hd ih =>
    intro hi ho
    have ia := closed_inv hi hs hcl
    exact ⟨closed_s hi ho hs hcl hmm (Reach.grow r ia) (ih ia (.of_none rfl)).1 hs' hd, .of_none hs'⟩

theorem Reach.cover {s s' : WState} (h : Reach s s') : Inv s → Cover s → Cover s' := by
  induction h with
  | refl | bump | deferred | emitted => exact fun _ hc => hc
  | trans h1 _ ih1 ih2 => exact fun hi hc => ih2 (h1.inv hi) (ih1 hi hc)
  | plain hs h => exact fun _ hc => putPlain_cover hc hs h
  | opened h => exact fun _ hc => openStream_cover hc h
  | written h => exact fun _ hc => streamWrite_cover hc h
  | members _ h =>
    intro hi hc
    -- the members' entries point into the object stream, whose number is positive
    obtain ⟨_, m2, _⟩ := setEntries_get _ _ h
    have := hi.npos
    exact cover_of hc (fun k e hg h0 => .inl ((m2 k e hg).resolve_right (by omega))) (fun _ _ h => h)
  | closed hs hcl _ _ _ _ ih => exact fun hi hc => ih (closed_inv hi hs hcl) (closed_cover hc hs hcl)

theorem alloc_s {s s' : WState} {r : Nat} (ho : OpenInv s) (h : alloc s = some (s', r)) :
    SGrow s s' ∧ OpenInv s' := by
  obtain ⟨rfl, _⟩ := alloc_ok h
  exact ⟨.of_eq rfl, ⟨ho.unstarted, ho.started⟩⟩

theorem streamClose_s {s s' : WState} (hi : Inv s) (ho : OpenInv s) (h : streamClose s = .ok s') : SGrow s s' :=
  (Reach.sgrow (streamClose_reach h).1 hi ho).1

theorem put_s {s s' : WState} {num gen : Nat} {o : PutObj} (hi : Inv s) (ho : OpenInv s)
    (h : put s num gen o = .ok s') : SGrow s s' ∧ OpenInv s' :=
  Reach.sgrow (put_reach h).1 hi ho

theorem optPut_s {s s' : WState} {o : Option Obj} {r : Option Nat} (hi : Inv s) (hs : s.stm = none)
    (h : optPut s o = .ok (s', r)) : SGrow s s' :=
  (Reach.sgrow (optPut_reach h).1 hi (.of_none hs)).1

theorem alloc_cover {s s' : WState} {r : Nat} (hc : Cover s) (h : alloc s = some (s', r)) : Cover s' := by
  obtain ⟨rfl, _⟩ := alloc_ok h
  exact hc

theorem streamClose_cover {s s' : WState} (hi : Inv s) (hc : Cover s) (h : streamClose s = .ok s') : Cover s' :=
  Reach.cover (streamClose_reach h).1 hi hc

theorem put_cover {s s' : WState} {num gen : Nat} {o : PutObj} (hi : Inv s) (hc : Cover s)
    (h : put s num gen o = .ok s') : Cover s' :=
  Reach.cover (put_reach h).1 hi hc

theorem optPut_cover {s s' : WState} {o : Option Obj} {r : Option Nat} (hi : Inv s) (hc : Cover s)
    (h : optPut s o = .ok (s', r)) : Cover s' :=
  Reach.cover (optPut_reach h).1 hi hc

theorem initState_cover {o : WOpts} {s0 : WState} (h0 : initState o = some s0) : Cover s0 :=
  fun n e hg _ hp => by have := ((initState_ok h0).2 n e hg).2; omega

/-- **writer objects stay.**  For every option set and every program the writer model accepts —
with classic tables or with object streams and a cross-reference stream — every plain object
written directly and every completed stream object (the object streams made by `WriteCompressed`
and the cross-reference stream of `Close` included) stands in the file where its entry points, and
every in-use entry which is not a member of an object stream belongs to one of them or to the
stream still open. -/
theorem objects_stay (o : WOpts) (s0 s : WState) (ops : List Op)
    (h0 : initState o = some s0) (h : run s0 ops 0 = .ok s) :
    (∀ x, x ∈ s.doc → DocAt s x) ∧ (∀ x, x ∈ s.sdoc → SDocAt s x) ∧ Cover s := by
  have hr := run_reach ops h
  have hi0 := init_inv o s0 h0
  obtain ⟨_, _, hsd0, hstm0, _⟩ := initState_facts o s0 h0
  have hc0 := initState_cover h0
  exact ⟨docs_stay h0 h,
    fun x hx => ((Reach.sgrow hr hi0 (.of_none hstm0)).1 x hx).resolve_left (by simp [hsd0]), Reach.cover hr hi0 hc0⟩

/-- **sdoc_invariant.**  (`objects_stay`, second part; `hobj` is not used: it holds in object-stream
mode too.)  For every program the writer model accepts, every stream
object that was completed (`OpenStream`/`Write`*/`Close`, `Put` of a stream, also from the queue of
another stream) stands in the file at its entry's offset: header, the dictionary with the final
`/Length` text (direct, patched over the reserved blanks, or `r 0 R` with the integer object `r`
in the document), `stream`, exactly the bytes handed to `Write`, `endstream endobj`. -/
theorem sdoc_invariant (o : WOpts) (s0 s : WState) (ops : List Op) (hobj : o.objStm = false)
    (h0 : initState o = some s0) (h : run s0 ops 0 = .ok s) :
    ∀ x, x ∈ s.sdoc → SDocAt s x :=
  (objects_stay o s0 s ops h0 h).2.1

theorem fmtDictLen_head {opt : FmtOpt} {lit : Bool} {kv : List (Bytes × Obj)} {v bytes : Bytes} {off : Nat}
    (h : fmtDictLen opt lit kv v = some (bytes, off)) : ∃ dt, bytes = 60 :: 60 :: dt := by
  obtain ⟨_, _, rfl, _, _, dt, rfl⟩ := fmtDictLen_parts h
  exact ⟨_, rfl⟩

theorem sdBefore_keys (d : List (Bytes × Obj)) : ∀ e ∈ rdKV (sdBefore d), e.1 ≠ kLength := by
  intro e he hk
  have h1 : e.1 ∈ keysOf (sdBefore d) := (keysOf_rdKV_sublist _).subset (List.mem_map.mpr ⟨e, he, rfl⟩)
  obtain ⟨e', he', hek⟩ := List.mem_map.mp h1
  have := List.all_eq_true.1 List.all_takeWhile _ he'
  simp at this
  exact this (by rw [hek, hk])

theorem dictGet_mid (k : Bytes) (b a : List (Bytes × Obj)) (v : Obj) (hb : ∀ e ∈ b, e.1 ≠ k) (hv : v ≠ .null) :
    dictGet (b ++ (k, v) :: a) k = some v := by
  have hf : (b ++ (k, v) :: a).find? (fun e => e.1 == k) = some (k, v) := by
    rw [List.find?_append, List.find?_eq_none.2 (fun e he => by simpa using hb e he)]
    simp
  unfold dictGet
  rw [hf]
  cases v <;> first | rfl | exact absurd rfl hv

theorem filter_mid (k : Bytes) (b a : List (Bytes × Obj)) (v : Obj) (hb : ∀ e ∈ b, e.1 ≠ k) (ha : ∀ e ∈ a, e.1 ≠ k) :
    (b ++ (k, v) :: a).filter (fun e => e.1 != k) = b ++ a := by
  rw [List.filter_append, List.filter_cons_of_neg (by simp),
    List.filter_eq_self.2 (fun e he => by simpa using hb e he), List.filter_eq_self.2 (fun e he => by simpa using ha e he)]

theorem sdAfter_keys (d : List (Bytes × Obj)) (hg : good (.dict (sdKv0 d)) = true)
    (hd : depthOf (.dict (sdKv0 d)) ≤ Gen.scanner_maxScannerNestDepth) :
    ∀ e ∈ rdKV (sdAfter d), e.1 ≠ kLength := by
  obtain ⟨x, _, _, _, _, hnd, _⟩ := sd_facts d hg hd
  intro e he hk
  have h1 : e.1 ∈ keysOf (sdAfter d) := (keysOf_rdKV_sublist _).subset (List.mem_map.mpr ⟨e, he, rfl⟩)
  have := (List.nodup_cons.mp (List.nodup_append.mp hnd).2.1).1
  exact this (hk ▸ h1)

theorem stream_at_rt (file : Bytes) (opt : FmtOpt) (n g : Nat) (d : List (Bytes × Obj)) (body : Bytes)
    (pos : Nat) (dictBytes value : Bytes) (off : Nat) (doc : List (Nat × Nat × Obj))
    (hfmt : fmtDictLen opt false d value = some (dictBytes, off))
    (hlt : LenText doc value body.length)
    (hat : At file pos (objHeader n g ++ dictBytes ++ kStream ++ body ++ kEndstream))
    (hg : good (.dict (sdKv0 d)) = true) (hd : depthOf (.dict (sdKv0 d)) ≤ Gen.scanner_maxScannerNestDepth)
    (hnum : n < Gen.fio_maxXRefSize) (hgen : g ≤ Gen.fio_maxGeneration)
    (hfs : file.length < 9223372036854775808)
    (getInt : Obj → Except Err Int)
    (hgi : ∀ i, getInt (.int i) = .ok i)
    (hgr : ∀ r len, (r, 0, Obj.int len) ∈ doc → getInt (.ref r 0) = .ok len) :
    ∃ start rest, readIndirectObject (file.drop pos) pos getInt
        = .ok (.stream (rdKV (sdBefore d) ++ rdKV (sdAfter d)) start body.length, n, g, rest) ∧
      (file.drop start).take body.length = body := by
  obtain ⟨rest, hdrop⟩ := At.drop hat
  obtain ⟨dt, hdt⟩ := fmtDictLen_head hfmt
  have hsize : body.length ≤ 9223372036854775807 := by
    have := hat.end_le
    simp only [List.length_append] at this
    omega
  obtain ⟨lv, hlv, hlvn, hgetInt⟩ : ∃ lv, LenVal value lv ∧ lv ≠ .null ∧ getInt lv = .ok (body.length : Int) := by
    rcases hlt with ⟨j, hj⟩ | ⟨r, hr1, hr2, hr3⟩
    · refine ⟨.int body.length, ?_, by simp, hgi _⟩
      rw [hj, C01L.decOf_eq_natDec]
      exact lenVal_patched body.length j (by omega)
    · refine ⟨.ref r 0, ?_, by simp, hgr r _ hr3⟩
      rw [hr1, C01L.decOf_eq_natDec]
      exact lenVal_ref r (C02fioc.maxXRefSize_eq ▸ hr2)
  have hrd : ∀ rest' fuel, fuel ≥ 3 * (dictBytes ++ rest').length + 2 →
      readDict fuel 0 (dictBytes ++ rest') = .ok (rdKV (sdBefore d) ++ (kLength, lv) :: rdKV (sdAfter d), rest') :=
    fun rest' fuel hf => stream_dict_rt opt d value lv hlv hg hd dictBytes off hfmt rest' fuel hf
  have hread := stream_obj_rt n g hnum hgen dictBytes body rest _ lv dt hdt hrd pos getInt
    (dictGet_mid kLength _ _ lv (sdBefore_keys d) hlvn) hgetInt
    (by have := hat.end_le; rw [List.length_append] at this; omega)
  rw [C02fioc.kLen_eq, filter_mid kLength _ _ lv (sdBefore_keys d) (sdAfter_keys d hg hd)] at hread
  refine ⟨pos + (objHeader n g).length + dictBytes.length + 8, _, by rw [hdrop]; exact hread, ?_⟩
  obtain ⟨pre, post, h1, h2⟩ := hat
  subst h1
  have : pre ++ (objHeader n g ++ dictBytes ++ kStream ++ body ++ kEndstream) ++ post
      = (pre ++ objHeader n g ++ dictBytes ++ kStream) ++ (body ++ (kEndstream ++ post)) := by
    simp only [List.append_assoc]
  rw [this, List.drop_left' (by simp only [List.length_append, h2]; rfl), List.take_left' rfl]

/-- **get_stream_rt.**  `Reader.get` on the entry of a stream object that stands in the file
returns a stream whose extent holds exactly the bytes written; its dictionary is the sorted
dictionary read back, without `/Length`. -/
theorem get_stream_rt (file : Bytes) (m : XMap) (opt : FmtOpt) (n g : Nat) (d : List (Bytes × Obj)) (body : Bytes)
    (pos : Int) (dictBytes value : Bytes) (off : Nat) (doc : List (Nat × Nat × Obj))
    (hm : m.get n = some { inStream := 0, pos := pos, gen := g }) (hpos : 0 ≤ pos)
    (hfmt : fmtDictLen opt false d value = some (dictBytes, off))
    (hlt : LenText doc value body.length)
    (hat : At file pos.toNat (objHeader n g ++ dictBytes ++ kStream ++ body ++ kEndstream))
    (hg : good (.dict (sdKv0 d)) = true) (hd : depthOf (.dict (sdKv0 d)) ≤ Gen.scanner_maxScannerNestDepth)
    (hnum : n < Gen.fio_maxXRefSize) (hgen : g ≤ Gen.fio_maxGeneration)
    (hsize : body.length ≤ 9223372036854775807) (hfs : file.length < 9223372036854775808)
    (inflate : Bytes → Option Bytes) (getInt : Obj → Except Err Int)
    (hgi : ∀ i, getInt (.int i) = .ok i)
    (hgr : ∀ r len, (r, 0, Obj.int len) ∈ doc → getInt (.ref r 0) = .ok len) :
    ∃ start, readerGet file m 0 inflate getInt n g
        = .ok (some (.stream (rdKV (sdBefore d) ++ rdKV (sdAfter d)) start body.length)) ∧
      (file.drop start).take body.length = body := by
  obtain ⟨start, rest, hrio, hbody⟩ := stream_at_rt file opt n g d body pos.toNat dictBytes value off doc hfmt hlt hat
    hg hd hnum hgen hfs getInt hgi hgr
  exact ⟨start, readerGet_of_direct hm hpos hrio, hbody⟩

/-- **stream_dict_nrm.**  The dictionary of the stream read back is, in C01's comparison form, the
dictionary given to `OpenStream` without its `/Length` entry. -/
theorem stream_dict_nrm (d : List (Bytes × Obj)) (hg : good (.dict (sdKv0 d)) = true)
    (hd : depthOf (.dict (sdKv0 d)) ≤ Gen.scanner_maxScannerNestDepth) :
    nrm (.dict (rdKV (sdBefore d) ++ rdKV (sdAfter d))) = nrm (.dict (d.filter fun e => e.1 != kLength)) := by
  obtain ⟨x, hx, hxk, _, _, hnd, _⟩ := sd_facts d hg hd
  have hg' := hg
  simp only [good, Bool.and_eq_true, decide_eq_true_eq] at hg'
  obtain ⟨⟨hgkv, hndk⟩, _⟩ := hg'
  have hgd : goodKV (d.filter fun e => e.1 != kLength) = true := by
    rw [goodKV_iff] at hgkv ⊢
    intro e he; exact hgkv e (by simp [sdKv0, he])
  -- the sorted list is a permutation of the canonical entries plus /Length
  have hp : (sdBefore d ++ x :: sdAfter d).Perm (canonKV (d.filter fun e => e.1 != kLength) ++ [(kLength, Obj.int 0)]) := by
    rw [← hx]
    have := sortedEntries_perm (canonKV (sdKv0 d))
    simpa [sdAll, sdKv0, canonKV_append, canonKV, Obj.canon] using this
  -- `x` is that entry
  have hxe : x = (kLength, Obj.int 0) := by
    have hm : x ∈ canonKV (d.filter fun e => e.1 != kLength) ++ [(kLength, Obj.int 0)] :=
      hp.mem_iff.mp (by simp)
    rcases List.mem_append.mp hm with h | h
    · exfalso
      have : x.1 ∈ keysOf (canonKV (d.filter fun e => e.1 != kLength)) := List.mem_map.mpr ⟨x, h, rfl⟩
      rw [canonKV_keys] at this
      obtain ⟨e, he, hek⟩ := List.mem_map.mp this
      have := (List.mem_filter.mp he).2
      simp at this
      exact this (by rw [hek, hxk])
    · simpa using h
  subst hxe
  have hp2 : (sdBefore d ++ sdAfter d).Perm (canonKV (d.filter fun e => e.1 != kLength)) := by
    have h1 : ((kLength, Obj.int 0) :: (sdBefore d ++ sdAfter d)).Perm
        ((kLength, Obj.int 0) :: canonKV (d.filter fun e => e.1 != kLength)) :=
      (List.perm_middle.symm.trans hp).trans (List.perm_append_singleton _ _)
    exact h1.cons_inv
  have hnd2 : (keysOf (sdBefore d ++ sdAfter d)).Nodup := by
    have : (keysOf (sdBefore d ++ sdAfter d)).Sublist (keysOf (sdBefore d) ++ kLength :: keysOf (sdAfter d)) := by
      simp only [keysOf, List.map_append]
      exact List.Sublist.append (List.Sublist.refl _) (List.sublist_cons_self _ _)
    exact List.Nodup.sublist this hnd
  simp only [nrm]
  rw [← rdKV_append, ← nrmKV_rd_canon _ hgd, nrmKV_rdKV, nrmKV_rdKV]
  refine congrArg _ (sortKV_perm_eq (hp2.filterMap hEntry) ?_)
  exact List.Nodup.sublist (keysOf_filterMap_hEntry _) hnd2

theorem SDocAt.get_rt {s : WState} {n g : Nat} {d : List (Bytes × Obj)} {body : Bytes} (hd : SDocAt s (n, g, d, body))
    (henc : s.opts.encrypted = false) (m : XMap)
    (hm : ∀ e, s.xref.get n = some e → e.inStream = 0 → 0 ≤ e.pos →
      m.get n = some { inStream := 0, pos := e.pos, gen := e.gen })
    (hb : ∀ e, s.xref.get n = some e → n < Gen.fio_maxXRefSize ∧ e.gen ≤ Gen.fio_maxGeneration)
    (hg : good (.dict (sdKv0 d)) = true) (hdep : depthOk (.dict (sdKv0 d)))
    (hfs : s.out.length < 9223372036854775808)
    (inflate : Bytes → Option Bytes) (getInt : Obj → Except Err Int)
    (hgi : ∀ i, getInt (.int i) = .ok i)
    (hgr : ∀ r len, (r, 0, Obj.int len) ∈ s.doc → getInt (.ref r 0) = .ok len) :
    ∃ rdict start, readerGet s.out m 0 inflate getInt n g = .ok (some (.stream rdict start body.length)) ∧
      (s.out.drop start).take body.length = body ∧
      nrm (.dict rdict) = nrm (.dict (d.filter fun e => e.1 != kLength)) := by
  obtain ⟨e, dictBytes, value, off, hxe, heg, hins, hpos, hfd, hlt, hat, _⟩ := hd
  simp only at hxe heg hfd hlt hat
  have hmn := hm e hxe hins hpos
  obtain ⟨hn, hg65⟩ := hb e hxe
  rw [heg] at hmn hg65
  rw [show s.opts.litStr = false by simp [WOpts.litStr, henc]] at hfd
  obtain ⟨start, rest, hrio, hbody⟩ := stream_at_rt s.out s.opts.fmt n g d body e.pos.toNat dictBytes value off s.doc
    hfd hlt hat hg hdep hn hg65 hfs getInt hgi hgr
  exact ⟨_, start, readerGet_of_direct hmn hpos hrio, hbody, stream_dict_nrm d hg hdep⟩

/-- the keys `Prev` and `XRefStm`, with which `openTable` refuses a trailer (no incremental updates,
    no hybrid files in this model) -/
def kPrevB : Bytes := [80, 114, 101, 118]
def kXRefStmB : Bytes := [88, 82, 101, 102, 83, 116, 109]

/-- what `readXRefTable` and `openTable` do behind the subsections: the `trailer` keyword, the
    trailer dictionary, and the refusal of `/Prev` and `/XRefStm` -/
def trailerPart (m : XMap) (r1 : Bytes) : Except Err (XMap × List (Bytes × Obj)) :=
  match skipWS r1 with
  | (_, true) => .error .eof
  | (r2, false) =>
    if !isPrefixOf kwTrailer r2 then .error .malformed else
    match skipWS (r2.drop 7) with
    | (_, true) => .error .eof
    | (r3, false) =>
      match readDict (scanFuel r3) 0 r3 with
      | .error e => .error e
      | .ok (d, _) =>
        if (d.any fun e => e.1 == kPrevB || e.1 == kXRefStmB) then .error .other else .ok (m, d)

/-- `Model/FIOReader.openTable` has the text of `openTableXRef` and `trailerPart` inline: both sides are
    the same tree of matches, and the proof follows the scrutinees in their order -/
theorem openTable_eq (file : Bytes) :
    openTable file = (match openTableXRef file with
      | .error e => .error e
      | .ok (m, r1) => trailerPart m r1) := by
  unfold openTable openTableXRef
  cases findHeaderOffset file with
  | none => rfl
  | some hdr =>
    simp only
    cases findXRef file hdr with
    | error e => rfl
    | ok start =>
      simp only
      by_cases hp : isPrefixOf kwXref (file.drop start) = true
      · simp only [hp, Bool.not_true, Bool.false_eq_true, ↓reduceIte]
        unfold readXRefTable
        simp only [hp, Bool.not_true, Bool.false_eq_true, ↓reduceIte]
        cases hsk : skipWS ((file.drop start).drop 4) with
        | mk r0 b =>
          cases b with
          | true => rfl
          | false =>
            simp only
            cases readXRefSubsections (r0.length + 1) [] r0 with
            | error e => rfl
            | ok p =>
              obtain ⟨m, r1⟩ := p
              simp only [trailerPart]
              cases skipWS r1 with
              | mk r2 b2 =>
                cases b2 with
                | true => rfl
                | false =>
                  simp only
                  by_cases ht : isPrefixOf kwTrailer r2 = true
                  · simp only [ht, Bool.not_true, Bool.false_eq_true, ↓reduceIte]
                    cases skipWS (r2.drop 7) with
                    | mk r3 b3 =>
                      cases b3 with
                      | true => rfl
                      | false =>
                        simp only
                        cases readDict (scanFuel r3) 0 r3 with
                        | error e => rfl
                        | ok q => obtain ⟨d, r4⟩ := q; rfl
                  · simp [ht]
      · simp [hp]


theorem mem_closeTrailer {tr : List (Bytes × Obj)} {cr ir : Option Nat} {size : Nat} {e : Bytes × Obj}
    (he : e ∈ closeTrailer tr cr ir size) :
    (e ∈ tr ∧ e.1 ≠ kRoot ∧ e.1 ≠ kInfo ∧ e.1 ≠ kSize) ∨ (∃ n, cr = some n ∧ e = (kRoot, .ref n 0)) ∨
      (∃ n, ir = some n ∧ e = (kInfo, .ref n 0)) ∨ e = (kSize, .int size) := by
  simp only [closeTrailer, List.mem_append, List.mem_singleton] at he
  rcases he with ((he | he) | he) | he
  · have := List.mem_filter.mp he
    simp at this
    exact .inl ⟨this.1, this.2.1.1, this.2.1.2, this.2.2⟩
  · exact .inr (.inl (mem_refOfO.1 he))
  · exact .inr (.inr (.inl (mem_refOfO.1 he)))
  · exact .inr (.inr (.inr he))

theorem closeTrailer_good (tr : List (Bytes × Obj)) (cr ir : Option Nat) (size : Nat)
    (htg : goodKV tr = true) (htn : (keysOf tr).Nodup) (htl : tr.length + 3 ≤ Gen.scanner_maxDictLen)
    (htd : depthKV tr + 1 ≤ Gen.scanner_maxScannerNestDepth)
    (hcr : ∀ n, cr = some n → n < Gen.fio_maxXRefSize) (hir : ∀ n, ir = some n → n < Gen.fio_maxXRefSize)
    (hsz : size ≤ Gen.fio_maxXRefSize) :
    good (.dict (closeTrailer tr cr ir size)) = true ∧ depthOk (.dict (closeTrailer tr cr ir size)) := by
  have hall : ∀ e ∈ closeTrailer tr cr ir size, goodName e.1 = true ∧ good e.2 = true ∧ depthOf e.2 ≤ depthKV tr := by
    intro e he
    rcases mem_closeTrailer he with ⟨h, _⟩ | ⟨n, h1, rfl⟩ | ⟨n, h1, rfl⟩ | rfl
    · exact ⟨((goodKV_iff _).1 htg e h).1, ((goodKV_iff _).1 htg e h).2, (depthKV_le tr _).mp (Nat.le_refl _) e h⟩
    · have := hcr n h1
      exact ⟨by show goodName kRoot = true; decide, good_ref.2 ⟨this, by decide⟩, by simp [depthOf_ref]⟩
    · have := hir n h1
      exact ⟨by show goodName kInfo = true; decide, good_ref.2 ⟨this, by decide⟩, by simp [depthOf_ref]⟩
    · simp only [Gen.fio_maxXRefSize] at hsz
      exact ⟨by show goodName kSize = true; decide, by simp only [good_int]; omega, by simp [depthOf_int]⟩
  have hnd : (keysOf (closeTrailer tr cr ir size)).Nodup := by
    have hsub : (keysOf (closeTrailer tr cr ir size)).Sublist
        (keysOf (tr.filter fun e => e.1 != kRoot && e.1 != kInfo && e.1 != kSize) ++ [kRoot, kInfo, kSize]) := by
      simp only [closeTrailer, keysOf_append, List.append_assoc]
      refine List.Sublist.append (List.Sublist.refl _) ?_
      exact List.Sublist.append (keysOf_refOfO_sublist cr kRoot)
        (List.Sublist.append (keysOf_refOfO_sublist ir kInfo) (List.Sublist.refl [kSize]))
    refine List.Nodup.sublist hsub ?_
    rw [List.nodup_append]
    refine ⟨?_, by decide, ?_⟩
    · exact List.Nodup.sublist (List.Sublist.map _ (List.filter_sublist)) htn
    · intro a ha b hb hab
      subst hab
      obtain ⟨e, he, rfl⟩ := mem_keysOf.1 ha
      have := (List.mem_filter.mp he).2
      simp at this
      simp at hb
      rcases hb with h | h | h
      · exact this.1.1 h
      · exact this.1.2 h
      · exact this.2 h
  have hlen : (closeTrailer tr cr ir size).length ≤ Gen.scanner_maxDictLen := by
    have h1 : (tr.filter fun e => e.1 != kRoot && e.1 != kInfo && e.1 != kSize).length ≤ tr.length :=
      List.length_filter_le _ _
    have h2 := refOfO_length_le cr kRoot
    have h3 := refOfO_length_le ir kInfo
    simp only [closeTrailer, List.length_append, List.length_cons, List.length_nil]
    omega
  obtain ⟨a, b⟩ := good_dict_of_entries hall hnd hlen
  exact ⟨a, by unfold depthOk; omega⟩

/-- the hypotheses on the trailer entries fixed at `NewWriter` (`ID`, …): within C01's limits and
    without `/Prev` and `/XRefStm` -/
structure TrailerOk (tr : List (Bytes × Obj)) : Prop where
  good : goodKV tr = true
  nodup : (keysOf tr).Nodup
  len : tr.length + 3 ≤ Gen.scanner_maxDictLen  -- 3: `Root`, `Info`, `Size`, which `Close` adds
  depth : depthKV tr + 1 ≤ Gen.scanner_maxScannerNestDepth
  noPrev : ∀ e ∈ tr, e.1 ≠ kPrevB ∧ e.1 ≠ kXRefStmB

/-- on the file a table-mode `Close` leaves behind `openTable` returns the writer's map and a trailer
    dictionary equal, in C01's comparison form, to the one `Close` assembled -/
theorem openTable_close {s s' : WState} {cat : Obj} {info : Option Obj} {tr : List (Bytes × Obj)} {raw : Bytes}
    (hi : Inv s) (hobj : s.opts.objStm = false) (h : close s cat info tr raw = .ok s')
    (hhdr : ∃ rest, s.out = kPdf ++ rest)
    (hsize : s'.out.length < 10000000000)
    (hgen : ∀ n e, s'.xref.get n = some e → e.gen ≤ 65535)
    (hnr : s'.nextRef ≤ Gen.fio_maxXRefSize) (htr : TrailerOk tr) :
    ∃ m trd cr ir, openTable s'.out = .ok (m, trd) ∧
      (∀ j, j < s'.nextRef → m.get j = some (normTab (s'.xref.get j))) ∧
      (∀ j, s'.nextRef ≤ j → m.get j = none) ∧
      nrm (.dict trd) = nrm (.dict (closeTrailer tr cr ir s'.nextRef)) ∧
      (∃ n, cr = some n ∧ (n, 0, cat) ∈ s'.doc) ∧
      (info = none → ir = none) ∧
      (∀ i, info = some i → ∃ n, ir = some n ∧ (n, 0, i) ∈ s'.doc) := by
  obtain ⟨m, td, tail, cr, ir, hopen, hm1, hm2, htd, ⟨nc, hc1, hc2, hc3⟩, hi0, hi1⟩ :=
    openTableXRef_close hi hobj h hhdr hsize hgen hnr
  obtain ⟨hgood, hdep⟩ := closeTrailer_good tr cr ir s'.nextRef htr.good htr.nodup htr.len htr.depth
    (fun n hn => by rw [hc1] at hn; cases hn; exact hc2)
    (fun n hn => by
      cases hinfo : info with
      | none => rw [hi0 hinfo] at hn; cases hn
      | some i =>
        obtain ⟨n', h1, h2, _⟩ := hi1 i hinfo
        rw [h1] at hn; cases hn; exact h2) hnr
  refine ⟨m, rdKV (sortedEntries (canonKV (closeTrailer tr cr ir s'.nextRef))), cr, ir, ?_, hm1, hm2, ?_,
    ⟨nc, hc1, hc3⟩, hi0, fun i hi' => by obtain ⟨n, a, _, b⟩ := hi1 i hi'; exact ⟨n, a, b⟩⟩
  · rw [openTable_eq, hopen]
    simp only [trailerPart]
    have h116 : isSpace 116 = false := by decide +kernel
    have hsk1 : skipWS (kwTrailer ++ (10 :: (td ++ tail))) = (kwTrailer ++ (10 :: (td ++ tail)), false) :=
      skipWS_cons_stop h116 (by omega) _
    obtain ⟨c, t, ht, hc⟩ := C02fiod.format_head _ (.dict _) hgood td htd
    have hsk2 : skipWS ((kwTrailer ++ (10 :: (td ++ tail))).drop 7) = (td ++ tail, false) := by
      rw [List.drop_left' (by simp [kwTrailer]), skipWS_lf, ht]
      exact skipWS_tok c _ hc
    have hrd := readDict_fmt s.opts.fmtPlain _ hgood hdep td htd tail (scanFuel (td ++ tail)) (by simp [scanFuel])
    simp only [hsk1, isPrefixOf_self_append, Bool.not_true, Bool.false_eq_true, ↓reduceIte, hsk2, hrd]
    have hany : (rdKV (sortedEntries (canonKV (closeTrailer tr cr ir s'.nextRef)))).any
        (fun e => e.1 == kPrevB || e.1 == kXRefStmB) = false := by
      rw [List.any_eq_false]
      intro e he
      have h1 : e.1 ∈ keysOf (sortedEntries (canonKV (closeTrailer tr cr ir s'.nextRef))) :=
        (keysOf_rdKV_sublist _).subset (List.mem_map.mpr ⟨e, he, rfl⟩)
      have h2 : e.1 ∈ keysOf (closeTrailer tr cr ir s'.nextRef) := by
        have := (keysOf_perm (sortedEntries_perm (canonKV (closeTrailer tr cr ir s'.nextRef)))).mem_iff.mp h1
        rwa [canonKV_keys] at this
      obtain ⟨e', he', hek⟩ := List.mem_map.mp h2
      have hne : e'.1 ≠ kPrevB ∧ e'.1 ≠ kXRefStmB := by
        rcases mem_closeTrailer he' with ⟨hm, _⟩ | ⟨n, _, rfl⟩ | ⟨n, _, rfl⟩ | rfl
        · exact htr.noPrev e' hm
        · exact ⟨by show kRoot ≠ kPrevB; decide, by show kRoot ≠ kXRefStmB; decide⟩
        · exact ⟨by show kInfo ≠ kPrevB; decide, by show kInfo ≠ kXRefStmB; decide⟩
        · exact ⟨by show kSize ≠ kPrevB; decide, by show kSize ≠ kXRefStmB; decide⟩
      rw [hek] at hne
      simp [hne.1, hne.2]
    simp only [hany, Bool.false_eq_true, ↓reduceIte]
  · have := nrm_rd_canon (.dict (closeTrailer tr cr ir s'.nextRef)) hgood
    simpa [Obj.canon, rd] using this

/-- The composition of the writer side (`objects_stay`) with the reader side (`DocAt.get_rt`,
`SDocAt.get_rt`), once, for every output form and every state of a program: for ANY cross-reference
map `m` that has, on a set `P` of numbers, the writer's in-use entries with offset and generation,
`Reader.get` returns every plain object written and every completed stream object.  `file_rt_table`
is this at the map read from the table (`P` everything), `C02fioh.file_rt_xrefstream_partial` at
the map decoded from a cross-reference stream (`P` everything but the stream's own number). -/
theorem written_get_rt {o : WOpts} {s0 s : WState} {ops : List Op} (henc : o.encrypted = false)
    (h0 : initState o = some s0) (h : run s0 ops 0 = .ok s)
    (hsize : s.out.length < 9223372036854775808)
    (hgen : ∀ n e, s.xref.get n = some e → e.gen ≤ 65535) (hnr : s.nextRef ≤ Gen.fio_maxXRefSize)
    (m : XMap) (P : Nat → Prop)
    (hm : ∀ n e, P n → s.xref.get n = some e → e.inStream = 0 → 0 ≤ e.pos →
      m.get n = some { inStream := 0, pos := e.pos, gen := e.gen })
    (inflate : Bytes → Option Bytes) (getInt : Obj → Except Err Int)
    (hgi : ∀ i, getInt (.int i) = .ok i)
    (hgr : ∀ r len, (r, 0, Obj.int len) ∈ s.doc → getInt (.ref r 0) = .ok len) :
    (∀ n g ob, P n → (n, g, ob) ∈ s.doc → good ob = true → depthOk ob → isRefObj ob = false →
      ∃ r, readerGet s.out m 0 inflate getInt n g = .ok (some (.plain r)) ∧ nrm r = nrm ob) ∧
    (∀ n g d body, P n → (n, g, d, body) ∈ s.sdoc → good (.dict (sdKv0 d)) = true → depthOk (.dict (sdKv0 d)) →
      ∃ rdict start, readerGet s.out m 0 inflate getInt n g = .ok (some (.stream rdict start body.length)) ∧
        (s.out.drop start).take body.length = body ∧
        nrm (.dict rdict) = nrm (.dict (d.filter fun e => e.1 != kLength))) := by
  obtain ⟨his, hoptss, _⟩ := run_facts h0 h
  have henc' : s.opts.encrypted = false := by rw [hoptss]; exact henc
  obtain ⟨hdoc, hsdoc, _⟩ := objects_stay o s0 s _ h0 h
  have hb : ∀ n e, s.xref.get n = some e → n < Gen.fio_maxXRefSize ∧ e.gen ≤ Gen.fio_maxGeneration :=
    fun n e => entry_limits his hnr hgen
  exact ⟨fun n g ob hP hmem hgood hdep hnref => (hdoc _ hmem).get_rt henc' m (fun e => hm n e hP) (hb n)
      hgood hdep hnref inflate getInt,
    fun n g d body hP hmem hgood hdep => (hsdoc _ hmem).get_rt henc' m (fun e => hm n e hP) (hb n)
      hgood hdep hsize inflate getInt hgi hgr⟩

/-- **file_rt_table.**  The whole-file round trip for classic cross-reference tables.

For every option set without object streams and without encryption, and every program the writer
model accepts that ends in `Close` — any mix of `Alloc`, `Put` of plain objects and of stream
objects, `OpenStream`/`Write`*/`Close` with a direct, a patched (seekable sink) or an indirect
(non-seekable sink) `/Length`, `Put` while a stream is open, `WriteCompressed` (which falls back to
`Put`s here), references that are never written — if the file is shorter than 10^10 bytes,
generations are ≤ 65535, object numbers stay below the reader's limit and the trailer entries fixed
at `NewWriter` are within C01's limits, then the reader model, applied to nothing but the bytes of
the file:

* `openTable` succeeds: `%PDF-` at offset 0, the last `startxref`, the table, the trailer
  dictionary.  The trailer equals (in C01's comparison form) the one `Close` assembled: fixed
  entries, `Root` → the catalog object, `Info` → the Info object (if any), `Size`.
* `Reader.get` returns every plain object that reached the file (`WState.doc`: direct and deferred
  `Put`s, indirect `/Length` integers, catalog, Info) and is within C01's limits, up to C01's
  comparison form;
* `Reader.get` returns for every completed stream object (`WState.sdoc`) a stream whose extent in
  the file holds exactly the bytes handed to `Write`, with the dictionary given to `OpenStream`
  (without `/Length`) in comparison form; `getInt` stands for the reader's resolution of `/Length`
  (an integer, or a reference to an integer object of the document);
* `Reader.get` returns `null` for every reference whose number was never written, is free, or was
  written with another generation. -/
theorem file_rt_table (o : WOpts) (s0 s : WState) (ops : List Op)
    (cat : Obj) (info : Option Obj) (tr : List (Bytes × Obj)) (raw : Bytes)
    (hobj : o.objStm = false) (henc : o.encrypted = false)
    (h0 : initState o = some s0)
    (h : run s0 (ops ++ [.close cat info tr raw]) 0 = .ok s)
    (hsize : s.out.length < 10000000000)
    (hgen : ∀ n e, s.xref.get n = some e → e.gen ≤ 65535)
    (hnr : s.nextRef ≤ Gen.fio_maxXRefSize) (htr : TrailerOk tr)
    (inflate : Bytes → Option Bytes) (getInt : Obj → Except Err Int)
    (hgi : ∀ i, getInt (.int i) = .ok i)
    (hgr : ∀ r len, (r, 0, Obj.int len) ∈ s.doc → getInt (.ref r 0) = .ok len) :
    ∃ m trd cr ir, openTable s.out = .ok (m, trd) ∧
      nrm (.dict trd) = nrm (.dict (closeTrailer tr cr ir s.nextRef)) ∧
      (∃ n, cr = some n ∧ (n, 0, cat) ∈ s.doc) ∧
      (info = none → ir = none) ∧
      (∀ i, info = some i → ∃ n, ir = some n ∧ (n, 0, i) ∈ s.doc) ∧
      (∀ n g ob, (n, g, ob) ∈ s.doc → good ob = true → depthOk ob → isRefObj ob = false →
        ∃ r, readerGet s.out m 0 inflate getInt n g = .ok (some (.plain r)) ∧ nrm r = nrm ob) ∧
      (∀ n g d body, (n, g, d, body) ∈ s.sdoc → good (.dict (sdKv0 d)) = true → depthOk (.dict (sdKv0 d)) →
        ∃ rdict start, readerGet s.out m 0 inflate getInt n g = .ok (some (.stream rdict start body.length)) ∧
          (s.out.drop start).take body.length = body ∧
          nrm (.dict rdict) = nrm (.dict (d.filter fun e => e.1 != kLength))) ∧
      (∀ n g, (∀ e, s.xref.get n = some e → e.pos < 0 ∨ e.gen ≠ g) →
        readerGet s.out m 0 inflate getInt n g = .ok none) := by
  obtain ⟨s1, hi1, hopts1, hclose, hhdr1, his, hoptss⟩ := run_close h0 h
  obtain ⟨m, trd, cr, ir, hopen, hm1, hm2, htrd, hcr, hir0, hir1⟩ :=
    openTable_close hi1 (by rw [hopts1]; exact hobj) hclose hhdr1 hsize hgen hnr htr
  obtain ⟨hplain, hstream⟩ := written_get_rt henc h0 h (by omega) hgen hnr m (fun _ => True)
    (fun n e _ hxe _ hpos => table_entry his hm1 hxe hpos) inflate getInt hgi hgr
  exact ⟨m, trd, cr, ir, hopen, htrd, hcr, hir0, hir1, fun n g ob => hplain n g ob trivial,
    fun n g d body => hstream n g d body trivial, fun n g hfree => get_null_table hm1 hm2 n g hfree inflate getInt⟩

/-- **doc_complete.**  (`objects_stay`, third part; `hobj` is not used.)  The ghost document is
complete: in every state the writer model reaches, every in-use cross-reference entry belongs to a recorded plain object, to a recorded
stream object, or to the stream that is still open — so after `Close` the three clauses of
`file_rt_table` (plain objects, stream objects, `null`) cover every reference. -/
theorem doc_complete (o : WOpts) (s0 s : WState) (ops : List Op) (hobj : o.objStm = false)
    (h0 : initState o = some s0) (h : run s0 ops 0 = .ok s) : Cover s :=
  (objects_stay o s0 s ops h0 h).2.2

/-- after `Close` every reference falls under one of the three clauses of `file_rt_table` -/
theorem refs_total (o : WOpts) (s0 s : WState) (ops : List Op)
    (cat : Obj) (info : Option Obj) (tr : List (Bytes × Obj)) (raw : Bytes)
    (hobj : o.objStm = false) (h0 : initState o = some s0)
    (h : run s0 (ops ++ [.close cat info tr raw]) 0 = .ok s) (n g : Nat) :
    (∃ ob, (n, g, ob) ∈ s.doc) ∨ (∃ d body, (n, g, d, body) ∈ s.sdoc) ∨
      (∀ e, s.xref.get n = some e → e.pos < 0 ∨ e.gen ≠ g) := by
  obtain ⟨s1, hi1, hopts1, hclose, _⟩ := run_close h0 h
  have hobj1 : s1.opts.objStm = false := by rw [hopts1]; exact hobj
  obtain ⟨s2, _, _, _, _, L⟩ := close_table_layout hobj1 hclose
  have i2 := L.reach.inv hi1
  cases hxe : s.xref.get n with
  | none => exact .inr (.inr (fun e he => by cases he))
  | some e =>
    by_cases hp : e.pos < 0
    · exact .inr (.inr (fun e' he' => by cases he'; exact .inl hp))
    · by_cases hg : e.gen = g
      · have hins := (table_entries i2 L.stm2 L.table (L.xref ▸ hxe)).1
        rcases doc_complete o s0 s _ hobj h0 h n e hxe hins (by omega) with h1 | h1 | ⟨st, hst, _⟩
        · exact .inl (hg ▸ h1)
        · exact .inr (.inl (hg ▸ h1))
        · rw [L.stm] at hst; cases hst
      · exact .inr (.inr (fun e' he' => by cases he'; exact .inr hg))

-- non-vacuity of `file_rt_table`: a table-form program (PDF 1.3): a 1030-byte stream whose
-- `/Length` is patched over the reserved blanks (seekable sink), resp. is the indirect object 4
-- (non-seekable sink), a `Put` deferred while the stream is open; `openTable` succeeds and
-- `Reader.get` returns the stream with exactly its 1030 bytes, and the plain objects
example : (match initState { C02fiob.exOpts with version := 4 } with
    | some s0 => (match run s0 C02fiob.exProg 0 with
      | .ok s => (match openTable s.out with
          | .ok (m, trd) =>
            s.sdoc.length == 1 && s.doc.length == 3 &&
            (match dictGet trd kSize with | some (.int 5) => true | _ => false) &&
            (match readerGet s.out m 0 (fun _ => none) (fun o => match o with | .int i => .ok i | _ => .error .malformed) 2 0 with
             | .ok (some (.stream [] start 1030)) => (s.out.drop start).take 1030 == List.replicate 1030 65
             | _ => false) &&
            (match readerGet s.out m 0 (fun _ => none) (fun _ => .error .malformed) 3 0 with
             | .ok (some (.plain (.name [65]))) => true | _ => false)
          | _ => false)
      | _ => false)
    | none => false) = true := by decide +kernel

example : (match initState { C02fiob.exOpts with version := 4, seekable := false } with
    | some s0 => (match run s0 C02fiob.exProg 0 with
      | .ok s => (match openTable s.out with
          | .ok (m, _) =>
            s.sdoc.length == 1 && s.doc.length == 4 &&
            (match readerGet s.out m 0 (fun _ => none)
                (fun o => match o with | .int i => .ok i | .ref 4 0 => .ok 1030 | _ => .error .malformed) 2 0 with
             | .ok (some (.stream [] start 1030)) => (s.out.drop start).take 1030 == List.replicate 1030 65
             | _ => false) &&
            (match readerGet s.out m 0 (fun _ => none) (fun _ => .error .malformed) 4 0 with
             | .ok (some (.plain (.int 1030))) => true | _ => false)
          | _ => false)
      | _ => false)
    | none => false) = true := by decide +kernel

end PdfVerif.C02fiog
