import PdfVerif.Model.HISReader
import PdfVerif.Lemmas.ScanBytes
/-!
# C04 — all offsets are relative to the header: junk in front of it

Junk before the header (no `%PDF-` inside it, header still within the first 1024 bytes) moves
the header offset found by `findHeaderOffset` and the position of the newest cross-reference
section found by `findXRef` by exactly its length.  (The same shift for the positions of the
objects themselves is validated by the harness — junk of 0–1019 bytes — not proved.)
-/
namespace PdfVerif.C04hise
open PdfVerif PdfVerif.HIS

/-- the junk holds no `%PDF-`: the pattern starts nowhere in the first `n` bytes -/
def NoneBefore (pat bs : Bytes) (n : Nat) : Prop := ∀ j, j < n → isPrefixOf pat (bs.drop j) = false

theorem indexOf_skip (pat : Bytes) : ∀ (junk f : Bytes), NoneBefore pat (junk ++ f) junk.length →
    indexOf pat (junk ++ f) = (indexOf pat f).map (· + junk.length) := by
  intro junk
  induction junk with
  | nil => intro f _; cases h : indexOf pat f <;> simp [h]
  | cons c cs ih =>
    intro f h
    have h0 := h 0 (by simp)
    simp only [List.drop_zero, List.cons_append] at h0
    have ih' := ih f (fun j hj => by have := h (j + 1) (by simp; omega); simpa using this)
    show indexOf pat (c :: (cs ++ f)) = _
    rw [indexOf, h0, ih']
    cases indexOf pat f with
    | none => simp
    | some v => simp; omega

/-- Junk of any content before the header — as long as no `%PDF-` starts inside it and the header still lies in the
first 1024 bytes, where `findHeaderOffset` looks — moves the header offset by exactly its length. -/
theorem header_offset_junk (junk f : Bytes) (i : Nat)
    (hno : NoneBefore findHeaderOffset.pdfMagicR (junk ++ f) junk.length)
    (hf : indexOf findHeaderOffset.pdfMagicR (f.take (1024 - junk.length)) = some i)
    (hj : junk.length ≤ 1024) :
    findHeaderOffset (junk ++ f) = .ok (junk.length + i) := by
  unfold findHeaderOffset
  rw [List.take_append, List.take_of_length_le hj]
  have hno' : NoneBefore findHeaderOffset.pdfMagicR (junk ++ f.take (1024 - junk.length)) junk.length := by
    intro j hj'
    have h1 := hno j hj'
    -- an occurrence in the truncated text would be an occurrence in the whole
    cases hocc : isPrefixOf findHeaderOffset.pdfMagicR ((junk ++ f.take (1024 - junk.length)).drop j) with
    | false => rfl
    | true =>
      have hd : (junk ++ f.take (1024 - junk.length)).drop j = junk.drop j ++ f.take (1024 - junk.length) := by
        rw [List.drop_append_of_le_length (by omega)]
      have hd2 : (junk ++ f).drop j = junk.drop j ++ f := by
        rw [List.drop_append_of_le_length (by omega)]
      rw [hd] at hocc
      rw [hd2, C01L.isPrefixOf_mono ((List.prefix_append_right_inj _).2 (List.take_prefix _ _)) hocc] at h1
      cases h1
  rw [indexOf_skip _ junk _ hno', hf]
  simp [Nat.add_comm]

theorem lastFrom_eq (pat : Bytes) : ∀ (bs : Bytes) (i : Nat) (best : Option Nat),
    lastIndexOfFrom pat i bs best = ((lastIndexOfFrom pat 0 bs none).map (· + i)).or best := by
  intro bs
  induction bs with
  | nil => intro i best; rfl
  | cons c cs ih =>
    intro i best
    simp only [lastIndexOfFrom]
    rw [ih (i + 1), ih (0 + 1)]
    cases lastIndexOfFrom pat 0 cs none with
    | some r => simp; omega
    | none => cases isPrefixOf pat (c :: cs) <;> simp

/-- what candidate `best'` the search carries into `b` is left open: `lastFrom_eq` discards it when `b` has a match -/
theorem lastFrom_append (pat : Bytes) : ∀ (a b : Bytes) (i : Nat) (best : Option Nat),
    ∃ best', lastIndexOfFrom pat i (a ++ b) best = lastIndexOfFrom pat (i + a.length) b best' := by
  intro a
  induction a with
  | nil => intro b i best; exact ⟨best, by simp⟩
  | cons c cs ih =>
    intro b i best
    obtain ⟨best', h⟩ := ih b (i + 1) (if isPrefixOf pat (c :: (cs ++ b)) = true then some i else best)
    refine ⟨best', ?_⟩
    simp only [List.cons_append, lastIndexOfFrom, h, List.length_cons]
    congr 1; omega

theorem lastOccurrence_junk (pat junk f : Bytes) (p : Nat) (h : lastOccurrence pat f = some p) :
    lastOccurrence pat (junk ++ f) = some (p + junk.length) := by
  unfold lastOccurrence at h ⊢
  obtain ⟨best', hb⟩ := lastFrom_append pat junk f 0 none
  rw [hb, lastFrom_eq, h, Nat.zero_add]; rfl

/-- With junk before the header the position of the newest cross-reference section (`findXRef`) moves by exactly the
length of the junk: the value after `startxref` is added to the header offset, and its range check uses the size of
the file minus the header offset. -/
theorem findXRef_junk (junk f : Bytes) (i p : Nat) (h : lastOccurrence kwStartxrefT f = some p) :
    findXRef (junk ++ f) (junk.length + i) =
      match findXRef f i with
      | .ok x => .ok (x + junk.length)
      | .error e => .error e := by
  unfold findXRef
  rw [lastOccurrence_junk _ junk f p h, h]
  simp only
  have hd : (junk ++ f).drop (p + junk.length + 9) = f.drop (p + 9) := by
    rw [Nat.add_right_comm, Nat.add_comm, ← List.drop_drop, List.drop_left]
  rw [hd]
  cases readInt (f.drop (p + 9)) with
  | error e => cases e <;> rfl
  | ok r =>
    obtain ⟨x, rest⟩ := r
    simp only [List.length_append]
    rw [Int.natCast_add, Int.natCast_add, Int.add_sub_add_left]
    split
    · rfl
    · simp only [Except.ok.injEq]; omega

-- non-vacuity: 3 bytes of junk, then a 44-byte file whose startxref says 9
example : (match findXRef ([1, 2, 3] ++ bytesOfString "%PDF-1.4\nxref\n0 0\ntrailer<<>>\nstartxref\n9\n%%EOF") 3 with
    | .ok x => x == 12 | _ => false) = true := by decide +kernel

end PdfVerif.C04hise
