import PdfVerif.Model.FNTWidths
import PdfVerif.Model.FNTSimple
import PdfVerif.Lemmas.FNTMap
/-!
# C14 (work package FNT) — width arrays (the property `widths_rt` of DESIGN.md)

Composite fonts: `decodeCompositeWidths (encodeCompositeWidths m)` performs exactly the
assignments `res[cid] = m[cid]` in ascending CID order (`w_roundtrip`), hence returns every
recorded width (`w_lookup`).  Simple fonts: every code that has a glyph reads back its width
through `FirstChar`/`Widths`/`MissingWidth`, whatever default width was chosen
(`simple_widths_rt`).  Models: `Model/FNTWidths.lean` (tied to `font/dict/metrics.go` and
`graphics/extract/font-metrics.go` by the `wenc`/`wdec`/`swenc`/`swdec` correspondence lines).
-/
namespace PdfVerif.C14fntc
open PdfVerif PdfVerif.FNT

/-- the assignments `res[c] = w0, res[c+1] = w1, …` that a run of widths starting at CID `c` stands for -/
def zipFrom : Nat → List Int → List (Nat × Int)
  | _, [] => []
  | c, w :: ws => (c, w) :: zipFrom (c + 1) ws

/-- the assignments an item stands for -/
def expandItem : WItem → List (Nat × Int)
  | .range c0 c1 w => zipFrom c0 (List.replicate (c1 - c0 + 1) w)
  | .list c0 ws => zipFrom c0 ws

/-- a range item is ascending (the decoder rejects `c1 < c0`, and `expandItem` would misread it) -/
def ItemOk : WItem → Prop
  | .range c0 c1 _ => c0 ≤ c1
  | .list _ _ => True

theorem zipFrom_append (c : Nat) (a b : List Int) :
    zipFrom c (a ++ b) = zipFrom c a ++ zipFrom (c + a.length) b := by
  induction a generalizing c with
  | nil => simp [zipFrom]
  | cons x xs ih => simp [zipFrom, ih, Nat.add_assoc, Nat.add_comm 1]

theorem zipFrom_keys (c : Nat) (a : List Int) : (zipFrom c a).map Prod.fst = List.range' c a.length := by
  induction a generalizing c with
  | nil => rfl
  | cons x xs ih => simp [zipFrom, ih, List.range'_succ]

theorem zipFrom_length (c : Nat) (a : List Int) : (zipFrom c a).length = a.length := by
  simpa using congrArg List.length (zipFrom_keys c a)

theorem zipFrom_mem_ge (c : Nat) (a : List Int) (p : Nat × Int) (h : p ∈ zipFrom c a) :
    c ≤ p.1 ∧ p.1 < c + a.length := by
  have := List.mem_map_of_mem (f := Prod.fst) h
  rwa [zipFrom_keys, List.mem_range'_1] at this

theorem zipFrom_le {c : Nat} {a : List Int} {m : Nat} (h : ∀ p ∈ zipFrom c a, p.1 ≤ m) (hne : a ≠ []) :
    c + a.length ≤ m + 1 := by
  have hpos : 0 < a.length := List.length_pos_iff.mpr hne
  have hk : c + a.length - 1 ∈ (zipFrom c a).map Prod.fst := by
    rw [zipFrom_keys, List.mem_range'_1]; omega
  obtain ⟨p, hp, e⟩ := List.mem_map.mp hk
  have := h p hp
  omega

/-- state invariant of the encoder loop: the run covers the CIDs `rs … re`, and while `allEqual` is
    set all its widths equal the first -/
def RunInv (rs re : Nat) (run : List Int) (ae : Bool) : Prop :=
  ∀ hne : run ≠ [], re + 1 = rs + run.length ∧ (ae = true → ∀ w ∈ run, w = run.head hne)

theorem flushRun_spec {rs re : Nat} {run : List Int} {ae : Bool} (h : RunInv rs re run ae) :
    (flushRun rs re run ae).flatMap expandItem = zipFrom rs run ∧ ∀ it ∈ flushRun rs re run ae, ItemOk it := by
  unfold flushRun
  cases run with
  | nil => simp [zipFrom]
  | cons w0 ws =>
    obtain ⟨hre, hae⟩ := h (by simp)
    simp only [List.length_cons] at hre ⊢
    split
    · next hc =>
      -- an all-equal run of length `re - rs + 1` is what the range item expands to
      simp only [Bool.and_eq_true] at hc
      have hrep : w0 :: ws = List.replicate (re - rs + 1) w0 :=
        List.eq_replicate_iff.mpr ⟨by simp; omega, hae hc.1⟩
      simp [expandItem, ItemOk, ← hrep]
      omega
    · simp [expandItem, ItemOk]

theorem encLoop_spec (l : List (Nat × Int)) (rs re : Nat) (run : List Int) (ae : Bool)
    (h : RunInv rs re run ae) :
    (encLoop l rs re run ae).flatMap expandItem = zipFrom rs run ++ l ∧
    ∀ it ∈ encLoop l rs re run ae, ItemOk it := by
  fun_induction encLoop l rs re run ae
  · simpa using flushRun_spec h
  · next ih => simpa [zipFrom] using ih fun _ => ⟨rfl, fun _ => by simp⟩
  · next ih =>
    -- break: flush, start a new run
    have hf := flushRun_spec h
    have hr := ih fun _ => ⟨rfl, fun _ => by simp⟩
    refine ⟨?_, fun it hit => (List.mem_append.mp hit).elim (hf.2 it) (hr.2 it)⟩
    rw [List.flatMap_append, hf.1, hr.1]; simp [zipFrom]
  · next cid w rest rs re w0 run' ae hnb ih =>
    -- no break: the CID continues the run
    obtain ⟨hre, hae⟩ := h (by simp)
    simp only [List.length_cons] at hre
    have hcid : cid = re + 1 := by simp at hnb; exact hnb.1
    have hr := ih fun _ => ⟨by simp; omega, fun hae' x hx => by
      -- the flag stays set only if it was set and `w = w0`; `x` is `w0`, in `run'`, or `w`
      have hae1 : ae = true ∧ w = w0 := by simpa using hae'
      rcases (by simpa using hx : x = w0 ∨ x ∈ run' ∨ x = w) with hx | hx | hx
      · exact hx
      · exact hae hae1.1 x (List.mem_cons_of_mem _ hx)
      · rw [hx]; exact hae1.2⟩
    refine ⟨?_, hr.2⟩
    rw [hr.1, zipFrom_append]
    have : rs + (run'.length + 1) = cid := by omega
    simp [this, zipFrom]

theorem encodeW_expand (l : List (Nat × Int)) :
    (encodeW l).flatMap expandItem = l ∧ ∀ it ∈ encodeW l, ItemOk it := by
  simpa [encodeW, zipFrom] using encLoop_spec l 0 0 [] false (fun h => absurd rfl h)

theorem assignRange_spec (wi : Int) (n c count : Nat) (log : List (Nat × Int))
    (h : count + n ≤ K.maxWEntries) :
    assignRange wi n c count log = .ok (count + n, (zipFrom c (List.replicate n wi)).reverse ++ log) := by
  fun_induction assignRange wi n c count log
  · simp [zipFrom]
  · omega
  · next ih => rw [ih (by omega)]; simp [List.replicate_succ, zipFrom]; omega

theorem assignList_spec (ws : List Int) (c0 count : Nat) (log : List (Nat × Int))
    (hc : ws ≠ [] → c0 + ws.length ≤ K.maxCID + 1) (h : count + ws.length ≤ K.maxWEntries) :
    assignList (ws.map fun w => Obj.int w) (c0 : Int) count log =
      .ok (count + ws.length, (zipFrom c0 ws).reverse ++ log) := by
  induction ws generalizing c0 count log with
  | nil => simp [assignList, zipFrom]
  | cons w ws ih =>
    simp only [List.map_cons, assignList, asInt]
    have hc' := hc (by simp)
    simp only [List.length_cons] at hc' h
    have h0 : ¬ ((c0 : Int) > (K.maxCID : Nat)) := by
      have : c0 ≤ K.maxCID := by omega
      omega
    have h1 : ¬ (count + 1 > K.maxWEntries) := by omega
    simp only [h0, h1, ↓reduceIte]
    have := ih (c0 + 1) (count + 1) ((c0, w) :: log) (by intro _; omega) (by omega)
    simp only [Int.toNat_natCast]
    have e : ((c0 : Int) + 1) = ((c0 + 1 : Nat) : Int) := by omega
    rw [e, this]
    simp [zipFrom]; omega

theorem decodeWAux_item (it : WItem) (fuel count : Nat) (rest : List Obj) (log : List (Nat × Int))
    (hok : ItemOk it) (hcid : ∀ p ∈ expandItem it, p.1 ≤ K.maxCID)
    (hcount : count + (expandItem it).length ≤ K.maxWEntries) :
    decodeWAux (fuel + 1) (it.toObjs ++ rest) count log =
      decodeWAux fuel rest (count + (expandItem it).length) ((expandItem it).reverse ++ log) := by
  cases it with
  | range c0 c1 w =>
    have hok : c0 ≤ c1 := hok
    have hc1 := zipFrom_le hcid (List.ne_nil_of_length_pos (by simp))
    simp only [List.length_replicate] at hc1
    simp only [expandItem, zipFrom_length, List.length_replicate] at hcount ⊢
    have g1 : ¬ (((c0 : Int) < 0 ∨ (c1 : Int) < (c0 : Int)) ∨ (c1 : Int) > (K.maxCID : Nat)) := by omega
    have e1 : ((c1 : Int) - (c0 : Int) + 1).toNat = c1 - c0 + 1 := by omega
    simp only [WItem.toObjs, List.cons_append, List.nil_append, decodeWAux, asInt, Bool.or_eq_true,
      decide_eq_true_eq, g1, ↓reduceIte, e1, Int.toNat_natCast,
      assignRange_spec w (c1 - c0 + 1) c0 count log hcount]
  | list c0 ws =>
    simp only [expandItem, zipFrom_length] at hcount ⊢
    have g1 : ¬ ((c0 : Int) < 0) := by omega
    simp only [WItem.toObjs, List.cons_append, List.nil_append, decodeWAux, asInt, asArr, g1, ↓reduceIte,
      assignList_spec ws c0 count log (zipFrom_le hcid) hcount]

theorem decodeWAux_spec (items : List WItem) (fuel count : Nat) (log : List (Nat × Int))
    (hf : fuel > (flattenW items).length)
    (hfit : ∀ it ∈ items, ItemOk it ∧ ∀ p ∈ expandItem it, p.1 ≤ K.maxCID)
    (hcount : count + (items.flatMap expandItem).length ≤ K.maxWEntries) :
    decodeWAux fuel (flattenW items) count log = .ok ((items.flatMap expandItem).reverse ++ log) := by
  induction items generalizing fuel count log with
  | nil =>
    cases fuel with
    | zero => simp at hf
    | succ f => simp [flattenW, decodeWAux]
  | cons it rest ih =>
    cases fuel with
    | zero => simp at hf
    | succ f =>
      have hflat : flattenW (it :: rest) = it.toObjs ++ flattenW rest := by simp [flattenW]
      have hobjs : it.toObjs.length ≥ 1 := by cases it <;> simp [WItem.toObjs]
      rw [List.flatMap_cons, List.length_append] at hcount
      rw [hflat, List.length_append] at hf
      rw [hflat, decodeWAux_item it f count _ log (hfit it List.mem_cons_self).1 (hfit it List.mem_cons_self).2 (by omega),
        ih f _ _ (by omega) (fun x hx => hfit x (List.mem_cons_of_mem _ hx)) (by omega), List.flatMap_cons]
      simp

/-- Property `widths_rt` for composite fonts: for every width table with CIDs ≤ 65535 and at most 65536 entries
(given as the entries of the Go map in ascending CID order; neither order nor distinctness is needed here),
decoding the W array written by `encodeCompositeWidths` performs exactly the assignments `res[cid] = width`. -/
theorem w_roundtrip (l : List (Nat × Int)) (hcid : ∀ p ∈ l, p.1 ≤ K.maxCID)
    (hlen : l.length ≤ K.maxWEntries) :
    decodeW (flattenW (encodeW l)) = .ok l := by
  obtain ⟨hexp, hok⟩ := encodeW_expand l
  have hfit : ∀ it ∈ encodeW l, ItemOk it ∧ ∀ p ∈ expandItem it, p.1 ≤ K.maxCID := fun it hit =>
    ⟨hok it hit, fun p hp => hcid p (hexp ▸ List.mem_flatMap.mpr ⟨it, hit, hp⟩)⟩
  unfold decodeW
  rw [decodeWAux_spec (encodeW l) _ 0 [] (Nat.lt_succ_self _) hfit (by rw [hexp]; omega)]
  simp [hexp, Except.map]

/-- keys of a Go map are distinct -/
def DistinctKeys (l : List (Nat × Int)) : Prop := Map.NodupKeys l

/-- Property `widths_rt` as the reader sees it: after `extract` has decoded the W array, the width of
every recorded CID is the recorded width (and `DW` applies only to CIDs that were not recorded) -/
theorem w_lookup (l : List (Nat × Int)) (hd : DistinctKeys l) (hcid : ∀ p ∈ l, p.1 ≤ K.maxCID)
    (hlen : l.length ≤ K.maxWEntries) (dw : Int) :
    ∃ log, decodeW (flattenW (encodeW l)) = .ok log ∧
      (∀ cid w, (cid, w) ∈ l → cidWidth log dw cid = w) ∧
      (∀ cid, cid ∉ Map.keys l → cidWidth log dw cid = dw) := by
  refine ⟨l, w_roundtrip l hcid hlen, fun cid w hm => ?_, fun cid hn => ?_⟩
  · simp [cidWidth, logGet, Map.get_of_mem (Map.nodupKeys_reverse hd) (List.mem_reverse.mpr hm)]
  · have : Map.get l.reverse cid = none :=
      Map.get_none_iff_not_mem_keys.mpr (by simpa [Map.keys] using hn)
    simp [cidWidth, logGet, this]

-- non-vacuity: a table with a run of equal widths, a run of different widths, a gap and the
-- last CID meets the hypotheses, uses both item forms and round-trips
example : encodeW [(1, 500), (2, 500), (3, 500), (4, 600), (5, 250), (9, 0), (65535, 1000)] =
    [.range 1 3 500, .list 4 [600, 250], .list 9 [0], .list 65535 [1000]] ∧
    (match decodeW (flattenW (encodeW [(1, 500), (2, 500), (3, 500), (4, 600), (5, 250), (9, 0), (65535, 1000)])) with
      | .ok l => l == [(1, 500), (2, 500), (3, 500), (4, 600), (5, 250), (9, 0), (65535, 1000)]
      | .error _ => false) = true := by
  decide +kernel

/-- ISO 32000-2, Table 115 (entries in a CIDFont dictionary): "DW … Default value: 1000".  The
writer omits DW when it equals `dict.DefaultWidthDefault` and the reader assumes that constant when
DW is absent; both sides agree with each other by construction, this pins them to the standard
(over the regenerated `Generated/FNTFacts.lean`). -/
theorem dw_default_is_spec : defaultDW = 1000 := by decide

theorem lastCharFrom_spec (skip : Nat → Bool) (n : Nat) :
    lastCharFrom skip n ≤ n ∧ ∀ c, lastCharFrom skip n < c → c ≤ n → skip c = true := by
  fun_induction lastCharFrom skip n
  · exact ⟨Nat.le_refl _, fun c h1 h2 => by omega⟩
  · next k hs ih =>
    refine ⟨by omega, fun c h1 h2 => ?_⟩
    by_cases hc : c = k + 1
    · rw [hc]; exact hs
    · exact ih.2 c h1 (by omega)
  · exact ⟨Nat.le_refl _, fun c h1 h2 => by omega⟩

theorem firstCharFrom_spec (skip : Nat → Bool) (last fuel f : Nat) (hf : f ≤ last) :
    f ≤ firstCharFrom skip last fuel f ∧ firstCharFrom skip last fuel f ≤ last ∧
    ∀ c, f ≤ c → c < firstCharFrom skip last fuel f → skip c = true := by
  fun_induction firstCharFrom skip last fuel f
  · exact ⟨Nat.le_refl _, hf, fun c h1 h2 => by omega⟩
  · next k f hc ih =>
    simp at hc
    obtain ⟨a, b, c'⟩ := ih (by omega)
    refine ⟨by omega, b, fun x hx1 hx2 => ?_⟩
    by_cases hxf : x = f
    · subst hxf; exact hc.2
    · exact c' x (by omega) hx2
  · exact ⟨Nat.le_refl _, hf, fun c h1 h2 => by omega⟩

theorem assignSimple_range (ww : Nat → Int) (n a : Nat) (g : Nat → Int) (h : a + n ≤ 256) :
    assignSimple ((List.range' a n).map fun c => Obj.int (ww c)) (a : Int) g =
      fun c => if a ≤ c ∧ c < a + n then ww c else g c := by
  induction n generalizing a g with
  | zero => funext c; simp [assignSimple]; omega
  | succ k ih =>
    simp only [List.range'_succ, List.map_cons, assignSimple, asInt]
    have ha : ((a : Int) < 256) := by omega
    simp only [ha, ↓reduceIte]
    have e : ((a : Int) + 1) = ((a + 1 : Nat) : Int) := by omega
    rw [e, ih (a + 1) _ (by omega)]
    funext c
    simp only [Int.toNat_natCast]
    by_cases h1 : a + 1 ≤ c ∧ c < a + 1 + k
    · have : a ≤ c ∧ c < a + (k + 1) := by omega
      simp [h1, this]
    · by_cases h2 : c = a
      · subst h2; simp
      · have : ¬ (a ≤ c ∧ c < a + (k + 1)) := by omega
        simp [h1, h2, this]

/-- Property `widths_rt` for simple fonts: whatever `DefaultWidth()` returned: the reader accepts what
`setSimpleWidths` wrote, and every code that has a glyph gets its width back — from `Widths` inside
`FirstChar..LastChar`, from `MissingWidth` outside. -/
theorem simple_widths_rt (ww : Nat → Int) (mapped : Nat → Bool) (dw : Int) :
    let r := encodeSimpleW ww mapped dw
    let d := decodeSimpleW r.firstChar (some (r.widths.map fun w => Obj.int w)) dw
    d.1 = true ∧ r.firstChar ≤ r.lastChar ∧ r.lastChar ≤ 255 ∧
    r.widths.length = r.lastChar - r.firstChar + 1 ∧
    ∀ c, c < 256 → mapped c = true → d.2 c = ww c := by
  intro r d
  have hlast : r.lastChar ≤ 255 := by
    simp only [r, encodeSimpleW]; exact (lastCharFrom_spec _ 255).1
  obtain ⟨_, (hfl : r.firstChar ≤ r.lastChar), hfs⟩ :=
    firstCharFrom_spec (fun c => !mapped c || ww c == dw) r.lastChar 256 0 (Nat.zero_le _)
  have hwl : r.widths.length = r.lastChar - r.firstChar + 1 := by
    simp [r, encodeSimpleW]
  have hd : d = (true, assignSimple (r.widths.map fun w => Obj.int w) r.firstChar (fun _ => dw)) := by
    have g : ¬ ((r.widths.length > 256 ∨ (r.firstChar : Int) < 0) ∨ (r.firstChar : Int) ≥ 256) := by
      rw [hwl]; omega
    simp [d, decodeSimpleW, g]
  refine ⟨by rw [hd], hfl, hlast, hwl, ?_⟩
  intro c hc hm
  rw [hd]
  simp only
  have hw : r.widths.map (fun w => Obj.int w) =
      (List.range' r.firstChar (r.lastChar - r.firstChar + 1)).map fun c => Obj.int (ww c) := by
    simp [r, encodeSimpleW]
  rw [hw, assignSimple_range ww _ r.firstChar _ (by omega)]
  simp only
  split
  · rfl
  · rename_i hout
    -- outside FirstChar..LastChar: the code was skipped, so its width is the default width
    have hskip : (fun c => !mapped c || ww c == dw) c = true := by
      by_cases h1 : c < r.firstChar
      · exact hfs c (Nat.zero_le _) h1
      · have hlc : r.lastChar < c := by omega
        simp only [r, encodeSimpleW] at hlc
        exact (lastCharFrom_spec _ 255).2 c hlc (by omega)
    simp [hm] at hskip
    exact hskip.symm

-- non-vacuity: three mapped codes, the outer two at the default width
example :
    let ww : Nat → Int := fun c => if c == 65 then 722 else if c == 66 then 600 else if c == 200 then 500 else 0
    let mapped : Nat → Bool := fun c => c == 65 || c == 66 || c == 200
    encodeSimpleW ww mapped 500 = ⟨65, 66, [722, 600]⟩ ∧
    (decodeSimpleW 65 (some [.int 722, .int 600]) 500).2 200 = 500 := by
  decide +kernel

/-- `dict.Width[c]` as the simple embedders fill it (`for c, info := range MappedCodes()`):
    the recorded width for mapped codes, 0 elsewhere -/
def dictWidth (s : Simple) (c : Nat) : Int :=
  match s.info.get c with
  | some i => i.width
  | none => 0

/-- Property `codes_readback`, the width through the file (simple fonts): compose the encoder state with the
width pipeline of the font dictionary: whatever `MissingWidth` the embedder chose, the width the
reader finds for a code that has an entry and a glyph name is the width `Codes` reports on the
writer side — the width recorded by `Encode`. -/
theorem simple_pipeline_width (s : Simple) (dw : Int) (c : Nat) (i : Info) (hlt : c < 256)
    (hc : s.info.get c = some i) (hname : s.encodingName c ≠ []) :
    let r := encodeSimpleW (dictWidth s) (fun c => s.encodingName c != []) dw
    (decodeSimpleW r.firstChar (some (r.widths.map fun w => Obj.int w)) dw).2 c = (s.codeOut c).width ∧
    (s.codeOut c).width = i.width := by
  intro r
  have h := (simple_widths_rt (dictWidth s) (fun c => s.encodingName c != []) dw).2.2.2.2 c hlt
    (by simp [hname])
  refine ⟨?_, by simp [Simple.codeOut, Simple.getInfo, hc]⟩
  rw [h]
  simp [dictWidth, Simple.codeOut, Simple.getInfo, hc]

end PdfVerif.C14fntc
