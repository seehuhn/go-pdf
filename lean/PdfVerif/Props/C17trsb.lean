import PdfVerif.Props.C17trs
/-!
# C17 (second part) — the property in one statement; the writer's loops; the in-memory value

With `write_ok` of `C17trs` the property theorems there are put together without the hypothesis "the
writer returned" (`write_total`, `height_bound`, `lookup_write_full`, the instances for name and
number trees).  `mergeTail_inv`, `collapse_total`: the writer's two loops on their own, under the
depth invariant of `tail` (`Lemmas/TRSTail.lean`).  Last, the in-memory value: every answer is a
function of the current map (`memAll_ext`, `history_independent`).
-/
namespace PdfVerif.C17trsb
open PdfVerif PdfVerif.TRSN PdfVerif.C17trs
open TRSTail TRSAssoc
-- the theorems of this file take the instances of their section whether or not they use them
set_option linter.unusedSectionVars false

section
variable {K V : Type} [KeyOrd K]

/-- **mergeTail never leaves the slice bounds, terminates, and restores the invariant** -/
theorem mergeTail_inv : ∀ (fuel : Nat) (t : List (Info K V)), Inv1 t → fuel ≥ t.length + 1 →
    ∃ t', mergeTail fuel t = .ok t' ∧ TailInv t'
  | fuel, t, hinv, hf =>
    (mergeTail_keeps (Q := fun _ => True) (fun _ _ _ _ _ _ _ => trivial) fuel t hinv
      (fun _ _ => trivial) hf).imp fun _ h => ⟨h.1, h.2.1⟩

/-- **collapse terminates within its loop bound and never leaves the slice bounds**: any fuel with
    `fuel + (depth of the last node) ≥ (depth of the first) + 2` is enough; the model's
    `collapseFuel` is (`TRSTail.collapseFuel_enough`) -/
theorem collapse_total : ∀ (fuel : Nat) (t : List (Info K V)), Inv1 t →
    (2 ≤ t.length → ∀ d0 dl, (dsI t)[0]? = some d0 → (dsI t)[t.length - 1]? = some dl →
      fuel + dl ≥ d0 + 2) →
    fuel ≥ 1 →
    ∃ t', collapse fuel t = .ok t'
  | _, [], _, _, h1 => ⟨_, collapse_short h1 (Nat.zero_le 1)⟩
  | fuel, a :: t, hinv, hf, h1 =>
    have ⟨r, h, _⟩ := collapse_keeps (Q := fun _ => True) (fun _ _ _ _ _ _ _ => trivial) fuel
      (a :: t) a rfl hinv (fun _ _ => trivial)
      (fun h2 _ hb => hf h2 _ _ (dsI_getElem? rfl)
        (dsI_getLast? hb)) h1
    ⟨[r], h⟩

end

section
variable {K V : Type} [KeyOrd K] [LawfulKeyOrd K] [DecidableEq K]

/-- **`Write` succeeds on every strictly ascending sequence** (with `unsorted_rejected`:
    exactly on those): no step leaves a slice bound and every loop ends within the bound the
    model gives it -/
theorem write_total (es : List (K × V)) (hasc : Asc es) : ∃ r, write es = .ok r :=
  (write_ok es hasc).imp fun _ h => h.1

theorem lookup_write (maxDepth : Nat) (es : List (K × V)) (hasc : Asc es) :
    ∃ r, write es = .ok r ∧
      (rootHeight r ≤ maxDepth →
        (∀ k v, (k, v) ∈ es → lookup maxDepth r k = .found v) ∧
        (∀ k, (∀ e ∈ es, e.1 ≠ k) → lookup maxDepth r k = .notFound) ∧
        all maxDepth r = es) := by
  obtain ⟨r, hw⟩ := write_total es hasc
  exact ⟨r, hw, fun hh => ⟨lookup_write_present maxDepth es hasc r hw hh,
    lookup_write_absent maxDepth es hasc r hw hh, all_sorted_complete maxDepth es hasc r hw hh⟩⟩

/-- **the height of a written tree is logarithmic**: a tree for fewer than
    `maxChildren ^ (maxDepth - 3)` entries has at most `maxDepth` levels, so the readers' depth
    cap (256) is never reached by a tree the writer can produce in practice (64^253 entries) -/
theorem height_bound (es : List (K × V)) (hasc : Asc es) (r : Option (NTree K V)) (hw : write es = .ok r)
    (maxDepth : Nat) (hmd : 3 ≤ maxDepth) (hsmall : es.length < M ^ (maxDepth - 3)) :
    rootHeight r ≤ maxDepth := by
  have := (write_root es hasc r hw).2 _ hsmall
  omega

/-- **C17 in one statement**: for every strictly ascending entry list of fewer than
    `maxChildren ^ (maxDepth - 3)` entries, `Write` returns a tree on which `Lookup` finds exactly
    the stored value for every key and nothing for every other key, and `All` enumerates exactly
    the entries in ascending order -/
theorem lookup_write_full (maxDepth : Nat) (hmd : 3 ≤ maxDepth) (es : List (K × V)) (hasc : Asc es)
    (hsmall : es.length < M ^ (maxDepth - 3)) :
    ∃ r, write es = .ok r ∧
      (∀ k v, (k, v) ∈ es → lookup maxDepth r k = .found v) ∧
      (∀ k, (∀ e ∈ es, e.1 ≠ k) → lookup maxDepth r k = .notFound) ∧
      all maxDepth r = es := by
  obtain ⟨r, hw, h⟩ := lookup_write maxDepth es hasc
  exact ⟨r, hw, h (height_bound es hasc r hw maxDepth hmd hsmall)⟩

/-- name trees as the Go code instantiates them: byte-string keys, depth cap `MaxNameTreeDepth` -/
theorem nametree_faithful (es : List (Bytes × V)) (hasc : Asc es)
    (hsmall : es.length < M ^ (Gen.limits_MaxNameTreeDepth - 3)) :
    ∃ r, write es = .ok r ∧
      (∀ k v, (k, v) ∈ es → lookup Gen.limits_MaxNameTreeDepth r k = .found v) ∧
      (∀ k, (∀ e ∈ es, e.1 ≠ k) → lookup Gen.limits_MaxNameTreeDepth r k = .notFound) ∧
      all Gen.limits_MaxNameTreeDepth r = es :=
  lookup_write_full _ (by decide) es hasc hsmall

/-- number trees: integer keys, depth cap `MaxNumberTreeDepth` -/
theorem numtree_faithful (es : List (Int × V)) (hasc : Asc es)
    (hsmall : es.length < M ^ (Gen.limits_MaxNumberTreeDepth - 3)) :
    ∃ r, write es = .ok r ∧
      (∀ k v, (k, v) ∈ es → lookup Gen.limits_MaxNumberTreeDepth r k = .found v) ∧
      (∀ k, (∀ e ∈ es, e.1 ≠ k) → lookup Gen.limits_MaxNumberTreeDepth r k = .notFound) ∧
      all Gen.limits_MaxNumberTreeDepth r = es :=
  lookup_write_full _ (by decide) es hasc hsmall

/-- **present with a null value is not absent.**  `Lookup` answers with a pair: found-or-not,
    and the value.  Take values that may be null (`Option W`, `none` = the PDF null object) and a
    key stored with the null value: both readers answer `found none` — the same answer — and
    that is not the answer `notFound` an absent key gets. -/
theorem null_value_present {W : Type} (maxDepth : Nat) (es : List (K × Option W)) (hasc : Asc es)
    (r : Option (NTree K (Option W))) (hw : write es = .ok r) (hh : rootHeight r ≤ maxDepth)
    (k : K) (hmem : (k, none) ∈ es) :
    lookup maxDepth r k = .found none ∧
    memLookup (extractInMemory maxDepth r) k = .found none ∧
    lookup maxDepth r k ≠ .notFound ∧ memLookup (extractInMemory maxDepth r) k ≠ .notFound := by
  have h1 := lookup_write_present maxDepth es hasc r hw hh k none hmem
  have h2 := (readers_agree maxDepth es hasc r hw hh).2.2 k
  rw [h1] at h2
  refine ⟨h1, h2, ?_, ?_⟩
  · rw [h1]; intro h; cases h
  · rw [h2]; intro h; cases h

/-- the association list holds every key once (a Go map) -/
def KeysNodup (m : List (K × V)) : Prop := m.Pairwise fun a b => a.1 ≠ b.1

theorem mapGet_mapSet (k k' : K) (v : V) : ∀ m : List (K × V),
    mapGet k' (mapSet k v m) = if k' = k then some v else mapGet k' m := by
  intro m
  fun_induction mapSet k v m with
  | case1 => by_cases h : k' = k <;> simp [mapGet_nil, mapGet_cons, h, Ne.symm]
  | case2 x rest => by_cases h : k' = k <;> simp [mapGet_cons, h, Ne.symm]
  | case3 a x rest ha ih =>
    by_cases h : a = k'
    · subst h; simp [mapGet_cons, ha]
    · simp [mapGet_cons, h, ih]

theorem mapGet_mapDel (k k' : K) : ∀ m : List (K × V), KeysNodup m →
    mapGet k' (mapDel k m) = if k' = k then none else mapGet k' m := by
  intro m h
  fun_induction mapDel k m with
  | case1 => simp [mapGet_nil]
  | case2 x rest =>
    by_cases h2 : k' = k
    · subst h2
      simpa [mapGet_cons] using mapGet_none_of_notKey fun e he => ((List.pairwise_cons.mp h).1 e he).symm
    · simp [mapGet_cons, h2, Ne.symm h2]
  | case3 a x rest ha ih =>
    by_cases h2 : a = k'
    · subst h2; simp [mapGet_cons, ha]
    · simp [mapGet_cons, h2, ih (List.pairwise_cons.mp h).2]

omit [DecidableEq K] in
theorem memAll_asc (m : List (K × V)) (h : KeysNodup m) : Asc (memAll m) := sortByKey_pairwise m h

omit [LawfulKeyOrd K] [DecidableEq K] in
theorem memAll_perm (m : List (K × V)) : (memAll m).Perm m := sortByKey_perm m

/-- **no hidden state**: what `All()` yields is determined by the current content of the map
    (by what `Lookup` answers for every key) -/
theorem memAll_ext (m1 m2 : List (K × V)) (h1 : KeysNodup m1) (h2 : KeysNodup m2)
    (h : ∀ k, mapGet k m1 = mapGet k m2) : memAll m1 = memAll m2 := by
  apply asc_ext _ _ (memAll_asc m1 h1) (memAll_asc m2 h2)
  intro e
  obtain ⟨k, v⟩ := e
  rw [(memAll_perm m1).mem_iff, (memAll_perm m2).mem_iff, mem_iff_mapGet h1, mem_iff_mapGet h2, h k]

/-- the states of an in-memory value: reachable from the empty map by assignments and deletions -/
inductive Reach : List (K × V) → Prop
  | empty : Reach []
  | set (k : K) (v : V) {m : List (K × V)} : Reach m → Reach (mapSet k v m)
  | del (k : K) {m : List (K × V)} : Reach m → Reach (mapDel k m)

omit [KeyOrd K] [LawfulKeyOrd K] in
theorem Reach.keysNodup {m : List (K × V)} (h : Reach m) : KeysNodup m := by
  induction h with
  | empty => simp [KeysNodup]
  | set k v _ ih => exact pairwise_mapSet k v _ ih
  | del k _ ih => exact ih.sublist (mapDel_sublist k _)

/-- **histories**: two histories on an in-memory value that lead to the same map content give the
    same enumeration (ascending, each entry once) and the same lookups -/
theorem history_independent (m1 m2 : List (K × V)) (h1 : Reach m1) (h2 : Reach m2)
    (h : ∀ k, mapGet k m1 = mapGet k m2) :
    memAll m1 = memAll m2 ∧ Asc (memAll m1) ∧ (memAll m1).Perm m1 ∧
      ∀ k, memLookup m1 k = memLookup m2 k :=
  ⟨memAll_ext m1 m2 h1.keysNodup h2.keysNodup h, memAll_asc m1 h1.keysNodup, memAll_perm m1,
    fun k => by simp [memLookup, h k]⟩

end

end PdfVerif.C17trsb
