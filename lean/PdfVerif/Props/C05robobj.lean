import PdfVerif.Lemmas.ROBParse
import PdfVerif.Props.C05robbuf
import PdfVerif.Props.C01g
/-!
# C05/C01 — the object parser over the 1024-byte window refines the whole-input parser

`Model/ROBScanObj.lean` is `ReadObject` and its companions as `scanner.go` runs them, on the buffer state;
`Model/Scan.lean` is the same parser on the whole remaining input, and all C01 theorems (round trip, totality, caps)
are about the latter.  This file closes the gap: for every fault-free reader that serves the bytes `d`, with any
chunking, the buffered parser returns what the whole-input parser returns, stops at the same position, never takes a
panicking branch and, where it returns a value, has not set `hang`.  The two parsers are compared in
`Lemmas/ROBParse.lean` for readers that may fail; a fault-free reader is one on which nothing is ever latched
(`kept_noerr`), which leaves the fault-free outcome.  `Good` and `RelE`/`Rel` are the forms in which the theorems are
published; `inv_good` and `rel_of_out` are the one conversion each from `Inv d e0 P` and `Out` of the Lemmas modules.
Under reader faults, and for `hang` after an error: `Props/C19robtok.lean`, `Props/C19robobj.lean` (`readObject_fault`).
-/
namespace PdfVerif.C05robobj
open PdfVerif PdfVerif.ROB PdfVerif.C05robbuf PdfVerif.ROBParse

/-! ## `panicked` is set by the explicit panic branches only: the window operations leave it as it is -/

theorem peekN_panicked (src : Source) (n : Nat) (hn : n ≤ bufSize) (s : SB) :
    (peekN src n s).1.panicked = s.panicked :=
  peekN_keeps src (fun s' => s'.panicked = s.panicked) (fun s' p => (refill_panicked src s').trans p) n hn s rfl

theorem readByte_panicked (src : Source) (s : SB) : (readByte src s).1.panicked = s.panicked := by
  have hp := peekN_panicked src 1 (by decide) s
  -- every exit returns the state `PeekN` left, or that state with `pos` advanced
  fun_cases readByte src s <;> simp_all

theorem skipString_panicked (src : Source) (pat : Bytes) (hn : pat.length ≤ bufSize) (s : SB) :
    (skipString src pat s).1.panicked = s.panicked := by
  have hp := peekN_panicked src pat.length hn s
  fun_cases skipString src pat s <;> simp_all

theorem scanBytes_panicked {σ : Type} (src : Source) (acc : σ → Nat → Option σ) :
    ∀ (fuel : Nat) (empty : Bool) (st : σ) (s : SB), (scanBytes src acc fuel empty st s).1.panicked = s.panicked :=
  fun fuel empty st s =>
    scanBytes_keeps src acc (fun s' => s'.panicked = s.panicked) _ (fun _ _ p _ => p)
      (fun s' p => (refill_panicked src s').trans p) (fun _ p => p) (fun _ p => p) fuel empty st s rfl

theorem skipWhiteSpace_panicked (src : Source) (fuel : Nat) (s : SB) :
    (skipWhiteSpace src fuel s).1.panicked = s.panicked := by
  rw [skipWhiteSpace_fst]
  exact scanBytes_panicked src wsAcc fuel true false s

/-- a state reached on a fault-free reader: coherent, nothing latched, no panic branch taken -/
structure Good (d : Bytes) (s : SB) : Prop where
  coh : Coh d .io s
  noerr : s.err = none
  nopanic : s.panicked = false
  /-- `CurrentPos` (for a scanner whose reader starts at offset 0) is the number of bytes of `d`
      that are no longer in the view -/
  posok : s.currentPos + (view d s).length = d.length

theorem good_init (d : Bytes) : Good d (SB.init 0) :=
  ⟨coh_init d .io 0, rfl, rfl, by rw [view_init]; simp [SB.init, SB.currentPos]⟩

theorem scanBytes_posinv {σ : Type} {d : Bytes} {e0 : Err} {src : Source} (h : FaultyOver d e0 src)
    (acc : σ → Nat → Option σ) :
    ∀ (fuel : Nat) (empty : Bool) (st : σ) (s : SB), Coh d e0 s →
      (scanBytes src acc fuel empty st s).1.currentPos + (view d (scanBytes src acc fuel empty st s).1).length =
        s.currentPos + (view d s).length :=
  scanBytes_pos h acc

theorem scanSpec_len {σ : Type} (acc : σ → Nat → Option σ) : ∀ (inp : Bytes) (st : σ),
    (scanSpec acc st inp).2.1.length ≤ inp.length := by
  intro inp
  induction inp with
  | nil => exact fun st => Nat.le_refl _
  | cons b bs ih =>
    intro st
    cases h : acc st b with
    | none => rw [scanSpec_cons_none bs h]; exact Nat.le_refl _
    | some st' => rw [scanSpec_cons_some bs h]; exact Nat.le_succ_of_le (ih st')

/-- the result `r` of a buffered function agrees with the result `m` of the whole-input function:
    same value and the view is the rest of the input; same error.  `E` is what is known about the
    state after an error; every statement of this file has it trivial (`Rel`). -/
def RelE {α : Type} (d : Bytes) (E : SB → Prop) (r : SB × Except Err α) (m : Except Err (α × Bytes)) : Prop :=
  match m with
  | .ok (v, rest) => r.2 = .ok v ∧ Good d r.1 ∧ view d r.1 = rest
  | .error e => r.2 = .error e ∧ r.1.panicked = false ∧ E r.1

abbrev Rel {α : Type} (d : Bytes) (r : SB × Except Err α) (m : Except Err (α × Bytes)) : Prop :=
  RelE d (fun _ => True) r m

section
variable {α : Type} {d : Bytes} {E : SB → Prop}

theorem relE_ok {s : SB} (v : α) {rest : Bytes} (hs : Good d s ∧ view d s = rest) : RelE d E (s, .ok v) (.ok (v, rest)) :=
  ⟨rfl, hs⟩

theorem rel_err {s : SB} {e : Err} (hp : s.panicked = false) : Rel (α := α) d (s, .error e) (.error e) :=
  ⟨rfl, hp, trivial⟩

/-- the two ways in which `RelE` holds, as equations to rewrite both sides with -/
theorem relE_cases {r : SB × Except Err α} {m : Except Err (α × Bytes)} (h : RelE d E r m) :
    (∃ s e, r = (s, .error e) ∧ m = .error e ∧ s.panicked = false ∧ E s) ∨
    (∃ s v rest, r = (s, .ok v) ∧ m = .ok (v, rest) ∧ Good d s ∧ view d s = rest) := by
  obtain ⟨s, x⟩ := r
  unfold RelE at h
  split at h
  · dsimp only at h; obtain ⟨rfl, hs⟩ := h; exact .inr ⟨s, _, _, rfl, rfl, hs⟩
  · dsimp only at h; obtain ⟨rfl, hp, he⟩ := h; exact .inl ⟨s, _, rfl, rfl, hp, he⟩

end

theorem hardErr_none : hardErr none = none := rfl

/-- wrapping the value of a token into an object, on both sides -/
theorem rel_wrap {α : Type} {d : Bytes} (f : α → Obj) {r : SB × Except Err α} {m : Except Err (α × Bytes)} (h : Rel d r m) :
    Rel d (match r with | (s2, .ok v) => (s2, Except.ok (f v)) | (s2, .error e) => (s2, Except.error e))
      (m.map fun p => (f p.1, p.2)) := by
  rcases relE_cases h with ⟨s, e, rfl, rfl, hp, _⟩ | ⟨s, v, rest, rfl, rfl, hs⟩
  · exact rel_err hp
  · exact relE_ok (f v) hs

/-- what a `Good` state carries besides `Coh` -/
abbrev Clean (d : Bytes) (s : SB) : Prop :=
  s.err = none ∧ s.panicked = false ∧ s.currentPos + (view d s).length = d.length

theorem inv_good {d : Bytes} {s : SB} : Inv d .io (Clean d) s ↔ Good d s :=
  ⟨fun g => ⟨g.coh, g.p.1, g.p.2.1, g.p.2.2⟩, fun g => ⟨g.coh, g.noerr, g.nopanic, g.posok⟩⟩

/-- an outcome of `Lemmas/ROBParse.lean` on a state that has nothing latched: the reader's error is not among
    the cases -/
theorem rel_of_out {α : Type} {d : Bytes} {r : SB × Except Err α} {m : Except Err (α × Bytes)}
    (h : Out d .io (Clean d) (fun _ => True) r m) : Rel d r m :=
  h.casesOn (fun _ v g => relE_ok v ⟨inv_good.1 g, rfl⟩) (fun _ _ g _ => rel_err (inv_good.1 g).nopanic)
    fun _ g hl => absurd ((inv_good.1 g).noerr.symm.trans hl) nofun

section
variable {d : Bytes} {src : Source} (g : GoodOver d src) {sf : Nat} (hsf : d.length + 2 ≤ sf)
include g hsf

/-- **`ReadObject` over the buffer, at any point of a scan.**  From every reachable fault-free scanner state (`Good`)
    and for every chunking of the reader, `ReadObject` over the 1024-byte window returns what the whole-input model
    `readObject` returns on the bytes not yet consumed (`view`), with the same fuel and depth: the same value, in a state
    that is again `Good` and stands at the model's remaining input; or the same error, and no Go panic on the way. -/
theorem readObjectBuf_refines_at (fuel depth : Nat) (s : SB) (gs : Good d s) :
    Rel d (readObjectBuf src sf fuel depth s) (readObject fuel depth (view d s)) :=
  have F := g .io (by decide)
  rel_of_out ((refF_all F ((kept_noerr g).and (kept_nopanic.and (kept_pos F _))) hsf (fun s p => by have := p.2.2; omega)
    (by decide) fuel).1 depth s (inv_good.2 gs))

end

/-- what the caller of `ReadObject` sees: the value together with `CurrentPos()` afterwards, or the
    error -/
def observe (r : SB × Except Err Obj) : Except Err (Obj × Nat) :=
  match r.2 with
  | .ok v => .ok (v, r.1.currentPos)
  | .error e => .error e

/-- the whole-input model's answer in the same terms: the remaining input `rest` is the position
    `|d| - |rest|` -/
def lift (d : Bytes) (m : Except Err (Obj × Bytes)) : Except Err (Obj × Nat) :=
  match m with
  | .ok (v, rest) => .ok (v, d.length - rest.length)
  | .error e => .error e

/-- `CurrentPos` is the number of bytes that have left the view -/
theorem observe_ok {d : Bytes} {s : SB} (v : Obj) (h : s.currentPos + (view d s).length = d.length) :
    observe (s, .ok v) = lift d (.ok (v, view d s)) := by
  show Except.ok (v, s.currentPos) = Except.ok (v, d.length - (view d s).length)
  congr 2
  omega

theorem observe_fresh {d : Bytes} {src : Source} (g : GoodOver d src) {sf : Nat} (hsf : d.length + 2 ≤ sf)
    (fuel : Nat) : observe (readObjectBuf src sf fuel 0 (SB.init 0)) = lift d (readObject fuel 0 d) := by
  have R := readObjectBuf_refines_at g hsf fuel 0 _ (good_init d)
  rw [view_init] at R
  rcases relE_cases R with ⟨s, e, hb, hm, _⟩ | ⟨s, v, rest, hb, hm, hs⟩ <;> rw [hb, hm]
  · rfl
  · exact hs.2 ▸ observe_ok v hs.1.posok

/-- **`readObjectBuf_refines`.**  A fresh scanner over a fault-free reader that serves `d` in chunks
    of any sizes: `ReadObject` returns the value of `parseObject d` (= `readObject (scanFuel d) 0 d`,
    the model of C01) and `CurrentPos()` is the model's remaining-input position, or it returns the
    model's error.  The window size 1024, the refills, `PeekN(5)`/`PeekN(6)`/`PeekN(3)`/`PeekN(1)` and
    the `s.pos++` steps are invisible. -/
theorem readObjectBuf_refines {d : Bytes} {src : Source} (g : GoodOver d src) {sf : Nat}
    (hsf : d.length + 2 ≤ sf) :
    observe (readObjectBuf src sf (scanFuel d) 0 (SB.init 0)) = lift d (parseObject d) :=
  observe_fresh g hsf (scanFuel d)

/-- the state after it: no modelled Go panic ever; after a value also no latched error, no
    exhausted loop fuel (`hang`), the unconsumed bytes are the model's remaining input — so the
    next `ReadObject` is again covered by `readObjectBuf_refines_at` -/
theorem readObjectBuf_state {d : Bytes} {src : Source} (g : GoodOver d src) {sf : Nat}
    (hsf : d.length + 2 ≤ sf) :
    (readObjectBuf src sf (scanFuel d) 0 (SB.init 0)).1.panicked = false ∧
    ∀ v rest, parseObject d = .ok (v, rest) →
      Good d (readObjectBuf src sf (scanFuel d) 0 (SB.init 0)).1 ∧
      (readObjectBuf src sf (scanFuel d) 0 (SB.init 0)).1.hang = false ∧
      (readObjectBuf src sf (scanFuel d) 0 (SB.init 0)).1.err = none ∧
      view d (readObjectBuf src sf (scanFuel d) 0 (SB.init 0)).1 = rest := by
  unfold parseObject
  have R := readObjectBuf_refines_at g hsf (scanFuel d) 0 _ (good_init d)
  rw [view_init] at R
  rcases relE_cases R with ⟨s, e, hb, hm, hp, _⟩ | ⟨s, v, rest, hb, hm, hs⟩ <;> rw [hb, hm]
  · exact ⟨hp, fun v rest hh => by cases hh⟩
  · refine ⟨hs.1.nopanic, fun v' rest' hh => ?_⟩
    cases hh
    exact ⟨hs.1, hs.1.coh.nohang, hs.1.noerr, hs.2⟩

/-- the fuel does not matter once it is at least `scanFuel d` (C01g's fuel lemma carried over to the
    buffer) -/
theorem readObjectBuf_fuel_indep {d : Bytes} {src : Source} (g : GoodOver d src) {sf : Nat}
    (hsf : d.length + 2 ≤ sf) (f : Nat) (hf : scanFuel d ≤ f) (v : Obj) (rest : Bytes)
    (h : parseObject d = .ok (v, rest)) :
    observe (readObjectBuf src sf f 0 (SB.init 0)) = .ok (v, d.length - rest.length) := by
  rw [observe_fresh g hsf f, C01g.parseObject_fuel_indep d f hf (v, rest) h]
  rfl

/-- and the model never answers with its out-of-fuel error (C01g `parse_total`), so neither does the
    buffer-level `ReadObject` for that reason -/
theorem readObjectBuf_total {d : Bytes} {src : Source} (g : GoodOver d src) {sf : Nat}
    (hsf : d.length + 2 ≤ sf) :
    observe (readObjectBuf src sf (scanFuel d) 0 (SB.init 0)) ≠ .error .other := by
  rw [readObjectBuf_refines g hsf]
  have := C01g.parse_total d
  unfold lift
  intro h
  split at h
  · cases h
  · rename_i e he
    cases h
    exact this he

/-- `[1 /A#42 (x\101\n) <4a4> <</K [true null 2 0 R -.5]>>] tail` -/
def exD : Bytes := [91, 49, 32, 47, 65, 35, 52, 50, 32, 40, 120, 92, 49, 48, 49, 92, 110, 41, 32, 60, 52, 97, 52, 62, 32, 60, 60, 47, 75, 32, 91, 116, 114, 117, 101, 32, 110, 117, 108, 108, 32, 50, 32, 48, 32, 82, 32, 45, 46, 53, 93, 62, 62, 93, 32, 116, 97, 105, 108]

-- served 1, 2, 3 and 7 bytes at a time and unchunked: always the model's value, and `CurrentPos`
-- is the offset of ` tail`
example : (List.all [0, 1, 2, 3, 7] fun chunk =>
    match observe (readObjectBuf (goodSrc exD chunk) (exD.length + 2) (scanFuel exD) 0 (SB.init 0)), parseObject exD with
    | .ok (a, p), .ok (b, rest) => a.wire == b.wire && p == exD.length - 5 && rest == [32, 116, 97, 105, 108]
    | _, _ => false) = true := by
  decide +kernel

/-- a literal string that does not fit the 1024-byte window: `(` 1500×`a` `)` `x` -/
def exLong : Bytes := 40 :: (List.replicate 1500 97 ++ [41, 120])

example : (match observe (readObjectBuf (goodSrc exLong 0) (exLong.length + 2) (scanFuel exLong) 0 (SB.init 0)) with
    | .ok (.str v, p) => v.length == 1500 && p == 1502
    | _ => false) = true := by
  -- by the refinement theorem only the whole-input model is left to evaluate
  rw [readObjectBuf_refines (goodSrc_goodOver exLong 0) (Nat.le_refl _)]
  decide +kernel

-- errors are the model's errors: an unterminated dictionary (EOF) and a stray `>` (malformed)
example : (match observe (readObjectBuf (goodSrc [60, 60, 47, 65] 1) 6 (scanFuel [60, 60, 47, 65]) 0 (SB.init 0)),
      parseObject [60, 60, 47, 65] with
    | .error a, .error b => a == b
    | _, _ => false) = true ∧
    (match observe (readObjectBuf (goodSrc [91, 62, 93] 1) 5 (scanFuel [91, 62, 93]) 0 (SB.init 0)),
      parseObject [91, 62, 93] with
    | .error .malformed, .error .malformed => true
    | _, _ => false) = true := by
  decide +kernel

end PdfVerif.C05robobj
