import PdfVerif.Props.C02fioi
/-!
# C02 (work package FIO) — opening a file with a cross-reference stream

The writer invariant "no stream open ⇒ no deferred `Put`s" (`run_na`), the form of the file after
`Close` in object-stream mode (`close_xrefstream_form`), the opening sequence of the reader
(`openXRefStream`), and the whole-file round trip through it (`file_rt_xrefstream`).
-/
namespace PdfVerif.C02fioj
open PdfVerif PdfVerif.FIO PdfVerif.C01b PdfVerif.C01L PdfVerif.C01d PdfVerif.C02fio PdfVerif.C02fioc PdfVerif.C02fiob PdfVerif.C02fioe PdfVerif.C02fiof PdfVerif.C02fiog PdfVerif.C02fioh PdfVerif.C02fioi

/-- the queue of deferred `Put`s is only used while a stream is open -/
def NoAfter (s : WState) : Prop := s.stm = none → s.after = []

/-- while a stream is open `NoAfter` says nothing; closing it empties the queue before the replay -/
theorem Reach.noAfter {s s' : WState} (h : Reach s s') : NoAfter s → NoAfter s' := by
  induction h with
  | refl | bump | members | emitted => exact id
  | trans _ _ ih1 ih2 => exact ih2 ∘ ih1
  | plain _ h => obtain ⟨_, _, _, _, _, rfl⟩ := putPlain_ok h; exact id
  | opened h => exact fun _ hs => by obtain ⟨_, _, st, hst, _⟩ := openStream_sm h; rw [hst] at hs; cases hs
  | written h =>
    intro _ hs
    obtain ⟨st, hst, _⟩ := streamWrite_ok h
    obtain ⟨_, _, st', hst', _⟩ := streamWrite_sm hst h
    rw [hst'] at hs; cases hs
  | deferred _ _ hst => exact fun _ hs => by rw [show _ = none from hs] at hst; cases hst
  | closed _ _ _ _ _ _ ih => exact fun _ => ih fun _ => rfl

theorem run_na (ops : List Op) : ∀ {s s' : WState} {i : Nat}, Inv s → NoAfter s → run s ops i = .ok s' → NoAfter s' :=
  fun _ hna h => Reach.noAfter (run_reach ops h) hna

theorem init_na (o : WOpts) (s0 : WState) (h0 : initState o = some s0) : NoAfter s0 := by
  obtain ⟨⟨_, rfl⟩, _⟩ := initState_ok h0
  exact fun _ => rfl

/-- a stream opened with a caller-supplied `/Length` uses neither the seek-back patch nor an
    indirect length object -/
def DirectLen (st : OpenStm) : Prop := st.userLen.isSome = true ∧ st.lenRef = none ∧ st.patchPos = none

theorem startWriting_direct {s s1 : WState} {st st1 : OpenStm} {known : Option Nat} (hd : DirectLen st)
    (h : startWriting s st known = .ok (s1, st1)) : DirectLen st1 ∧ ∃ bs, s1 = emit s bs := by
  obtain ⟨hu, hl, hp⟩ := hd
  obtain ⟨l, hl'⟩ := Option.isSome_iff_exists.1 hu
  -- (not from `startWriting_ok`, which does not say that `nextRef` stays on this exit)
  revert s1 st1
  fun_cases startWriting s st known <;> intro s1 st1 h <;> cases h
  rename_i hdr sel _ _ _ hsel _ _ _ patch s2 s3
  -- a caller-supplied `/Length`: the first branch of `sel`
  simp only [sel, hl'] at hsel; cases hsel
  exact ⟨⟨hu, hl, by simp [patch, hl']⟩, _, emit_emit _ _ _⟩

theorem streamWrite_direct {s s' : WState} {p : Bytes} {st : OpenStm} (hs : s.stm = some st) (hd : DirectLen st)
    (h : streamWrite s p = .ok s') :
    (∃ st', s'.stm = some st' ∧ DirectLen st') ∧ ∃ bs, s' = { emit s bs with stm := s'.stm, sdata := s'.sdata } := by
  obtain ⟨st0, hs0, hcase⟩ := streamWrite_ok h
  rw [hs] at hs0; cases hs0
  rcases hcase with ⟨_, rfl⟩ | ⟨_, rfl⟩ | ⟨_, s1, st1, hsw, rfl⟩
  · exact ⟨⟨st, hs, hd⟩, p, rfl⟩
  · exact ⟨⟨_, rfl, hd⟩, [], by rw [emit_nil]⟩
  · obtain ⟨d1, bs, rfl⟩ := startWriting_direct hd hsw
    exact ⟨⟨st1, rfl, d1⟩, bs ++ p, by simp [emit, List.append_assoc, Nat.add_assoc]⟩

theorem closeLength_direct {s s1 : WState} {st st1 : OpenStm} {len : Nat} (hd : DirectLen st)
    (h : closeLength s st = .ok (s1, st1, len)) : ∃ bs, s1 = emit s bs := by
  rcases closeLength_ok h with ⟨_, _, _, ⟨r, hr, _⟩ | ⟨_, p, hp, _⟩ | ⟨_, _, rfl⟩⟩ | ⟨_, _, hsw⟩
  · rw [hd.2.1] at hr; cases hr
  · rw [hd.2.2] at hp; cases hp
  · exact ⟨[], (emit_nil _).symm⟩
  · exact (startWriting_direct hd hsw).2

theorem streamClose_direct {s s' : WState} {st : OpenStm} (hs : s.stm = some st) (hd : DirectLen st)
    (ha : s.after = []) (h : streamClose s = .ok s') :
    ∃ bs, s' = { emit s (bs ++ kEndstream ++ prettyNL s.opts) with
      stm := none, after := [], sdoc := s.sdoc ++ [(st.num, st.gen, st.dict, s.sdata)] } := by
  obtain ⟨st', s1, st1, len, hs', hcl, _, hrep⟩ := streamCloseWith_ok h
  rw [hs] at hs'; cases hs'
  obtain ⟨bs, rfl⟩ := closeLength_direct hd hcl
  rw [emit_after, ha] at hrep
  cases hrep
  exact ⟨bs, by simp [emit, List.append_assoc, Nat.add_assoc]⟩


/-- `Close` in object-stream mode, from `s` to `s'`: `s3` is the state in which the rows are encoded —
    the cross-reference stream's own number `ref` is allocated, its entry not yet made; `cr`, `ir` are the
    numbers of the catalog and of Info, `mid` the bytes of the stream object up to `endstream` -/
structure StreamClose (s s' s3 : WState) (ref : Nat) (cr ir : Option Nat) (mid : Bytes) (info : Option Obj)
    (tr : List (Bytes × Obj)) (raw : Bytes) : Prop where
  root : ∃ c, cr = some c ∧ c < Gen.fio_maxXRefSize
  noInfo : info = none → ir = none
  infoRef : ∀ v, info = some v → ∃ n, ir = some n ∧ n < Gen.fio_maxXRefSize
  inv3 : Inv s3
  opts : s3.opts = s.opts
  fresh : s3.xref.get ref = none
  below : ref < s3.nextRef
  len : s.out.length ≤ s3.out.length
  /-- the final table is `s3`'s plus the stream's own entry, at the offset `startxref` names -/
  table : ∀ j, s'.xref.get j = if j = ref then some ⟨0, (s3.pos : Int), 0⟩ else s3.xref.get j
  /-- the stream object is recorded with the dictionary for `s3`'s table -/
  recorded : (ref, 0, xrefStreamDict ((tr.filter fun e => e.1 != kRoot && e.1 != kInfo && e.1 != kSize) ++
        refOfO cr kRoot ++ refOfO ir kInfo) s3.nextRef (fieldWidth (maxFields s3.xref 0 s3.nextRef).1)
      (fieldWidth (maxFields s3.xref 0 s3.nextRef).2), raw) ∈ s'.sdoc
  out : s'.out = s3.out ++ mid ++ kEndstream ++ kStartxref ++ decOf s3.pos ++ kEOF
  nextRef : s'.nextRef = s3.nextRef
  last : ref + 1 = s3.nextRef
  mono : ∀ k e, s.xref.get k = some e → s3.xref.get k = some e

theorem close_stream_layout {s s' : WState} {cat : Obj} {info : Option Obj} {tr : List (Bytes × Obj)} {raw : Bytes}
    (hi : Inv s) (hna : NoAfter s) (hobj : s.opts.objStm = true) (h : close s cat info tr raw = .ok s') :
    ∃ s3 ref cr ir mid, StreamClose s s' s3 ref cr ir mid info tr raw := by
  obtain ⟨hs', s1, catRef, s2, infoRef, h1, h2, ⟨_, s3, ref, s4, s5, s6, ha, h4, h5, h6, rfl⟩ | ⟨hno, _⟩⟩ := close_ok h
  case inr => rw [hobj] at hno; cases hno
  have n1 := (optPut_reach h1).2 hs'
  have n2 := (optPut_reach h2).2 n1
  have r2 := (optPut_reach h1).1.trans (optPut_reach h2).1
  have i2 := r2.inv hi
  have g2 := Reach.grow r2 hi
  have o2 := r2.keeps.opts
  have a2 : s2.after = [] := Reach.noAfter r2 hna n2
  have i3 := (alloc_reach ha).inv i2
  obtain ⟨rfl, rfl, _⟩ := alloc_ok ha
  -- the cross-reference stream is opened with a direct `/Length`: no number is taken for it
  obtain ⟨_, x, n, hset, rfl⟩ := openStream_ok h4
  obtain ⟨hnone, hx, _, _, hnn⟩ := setXRef_ok hset
  rw [if_neg (Nat.not_le.2 (Nat.lt_succ_self _))] at hnn
  obtain ⟨⟨st5, hst5, hdl5⟩, bs5, e5⟩ := streamWrite_direct rfl ⟨rfl, rfl, rfl⟩ h5
  obtain ⟨_, hd5, st5', hst5', hn5, hg5, hdict5⟩ := streamWrite_sm rfl h5
  rw [hst5] at hst5'; cases hst5'
  obtain ⟨bs6, rfl⟩ := streamClose_direct hst5 hdl5 (by rw [e5]; exact a2) h6
  have hhum : prettyNL s5.opts = [] := by
    have : s.opts.human = false := by
      simp [WOpts.objStm] at hobj; exact hobj.2
    rw [e5]
    simp only [emit_opts]
    rw [o2]
    simp [prettyNL, this]
  obtain ⟨_, hcr⟩ := optPut_ref hs' h1
  obtain ⟨c, hc1, hc2, _⟩ := hcr cat rfl
  obtain ⟨hir0, hir1⟩ := optPut_ref n1 h2
  refine ⟨_, _, catRef, infoRef, bs5 ++ bs6, ⟨c, hc1, hc2⟩, hir0,
    fun v hv => by obtain ⟨n, a, b, _⟩ := hir1 v hv; exact ⟨n, a, b⟩, i3, o2, hnone, Nat.lt_succ_self _,
    g2.len, ?_, ?_, ?_, by simp only [emit_nextRef]; rw [e5]; exact hnn, rfl, g2.mono⟩
  -- left: `table`, `recorded`, `out`
  · intro j
    simp only [emit_xref]
    rw [e5]
    simp only [emit_xref]
    rw [hx, C02fio.get_set]
  · simp only [emit_sdoc, hn5, hg5, hdict5, hd5]
    subst hc1
    cases infoRef <;> simp [refOfO_none, refOfO_some]
  · simp only [emit_out, hhum]
    rw [e5]
    simp [emit_out, List.append_assoc]

/-- **close_xrefstream_form.**  `Close` in object-stream mode, from a state of a program (`Inv`,
`NoAfter`): `s3` is the state in which the rows are encoded — the cross-reference stream's own
number `ref` is allocated, its entry not yet made.  The final table is `s3`'s table plus that one
entry (at the offset `startxref` names), the stream object is recorded with the dictionary
`xrefStreamDict` for `s3`'s table and the bytes `raw`, and the file ends with `endstream endobj`,
`startxref`, the offset, `%%EOF`. -/
theorem close_xrefstream_form {s s' : WState} {cat : Obj} {info : Option Obj} {tr : List (Bytes × Obj)} {raw : Bytes}
    (hi : Inv s) (hna : NoAfter s) (hobj : s.opts.objStm = true) (h : close s cat info tr raw = .ok s') :
    ∃ (s3 : WState) (ref : Nat) (cr ir : Option Nat) (mid : Bytes),
      (∃ c, cr = some c ∧ c < Gen.fio_maxXRefSize) ∧
      (info = none → ir = none) ∧ (∀ v, info = some v → ∃ n, ir = some n ∧ n < Gen.fio_maxXRefSize) ∧
      Inv s3 ∧ s3.opts = s.opts ∧ s3.xref.get ref = none ∧ ref < s3.nextRef ∧ s.out.length ≤ s3.out.length ∧
      (∀ j, s'.xref.get j = if j = ref then some ⟨0, (s3.pos : Int), 0⟩ else s3.xref.get j) ∧
      (ref, 0, xrefStreamDict ((tr.filter fun e => e.1 != kRoot && e.1 != kInfo && e.1 != kSize) ++
          refOfO cr kRoot ++ refOfO ir kInfo) s3.nextRef (fieldWidth (maxFields s3.xref 0 s3.nextRef).1)
        (fieldWidth (maxFields s3.xref 0 s3.nextRef).2), raw) ∈ s'.sdoc ∧
      s'.out = s3.out ++ mid ++ kEndstream ++ kStartxref ++ decOf s3.pos ++ kEOF ∧
      s'.nextRef = s3.nextRef ∧ ref + 1 = s3.nextRef ∧ (∀ k e, s.xref.get k = some e → s3.xref.get k = some e) := by
  obtain ⟨s3, ref, cr, ir, mid, L⟩ := close_stream_layout hi hna hobj h
  exact ⟨s3, ref, cr, ir, mid, L.root, L.noInfo, L.infoRef, L.inv3, L.opts, L.fresh, L.below, L.len, L.table,
    L.recorded, L.out, L.nextRef, L.last, L.mono⟩


/-- the dictionary of the cross-reference stream of a file without fixed trailer entries
    (`Root`, `Info` if any, and the entries `writeXRefStream` adds), the `/DecodeParms` given -/
def xsDict' (c : Nat) (ir : Option Nat) (n w2 w3 : Nat) (parms : List (Bytes × Obj)) : List (Bytes × Obj) :=
  [(kRoot, Obj.ref c 0)] ++ refOfO ir kInfo ++
    [(kType, .name nXRef), (kSize, .int n), (kW, .arr [.int 1, .int w2, .int w3]), (kFilter, .name nFlate),
     (kDecodeParms, .dict parms)]
/-- the two forms of `/DecodeParms` (`/Columns` is left out when it is 1; at most 1 + 8 + 8) -/
def XsParms (parms : List (Bytes × Obj)) : Prop :=
  parms = [(kPredictor, .int 12)] ∨ ∃ k : Nat, k ≤ 17 ∧ parms = [(kPredictor, .int 12), (kColumns, .int k)]

theorem xsDict_eq (c : Nat) (ir : Option Nat) (n w2 w3 : Nat) (hw2 : w2 ≤ 8) (hw3 : w3 ≤ 8) :
    ∃ parms, XsParms parms ∧
      xrefStreamDict (([] : List (Bytes × Obj)).filter (fun e => e.1 != kRoot && e.1 != kInfo && e.1 != kSize) ++
        refOfO (some c) kRoot ++ refOfO ir kInfo) n w2 w3 = xsDict' c ir n w2 w3 parms := by
  refine ⟨[(kPredictor, .int 12)] ++ (if (1 + w2 + w3 != 1) = true then [(kColumns, .int ((1 + w2 + w3 : Nat) : Int))] else []),
    ?_, by cases ir <;> rfl⟩
  split
  · exact .inr ⟨_, by omega, rfl⟩
  · exact .inl rfl

theorem xsDict_sdKv0 (c : Nat) (ir : Option Nat) (n w2 w3 : Nat) (parms : List (Bytes × Obj)) :
    sdKv0 (xsDict' c ir n w2 w3 parms) = xsDict' c ir n w2 w3 parms ++ [(kLength, .int 0)] := by
  cases ir <;> rfl

theorem xsDict_nodup (c : Nat) (ir : Option Nat) (n w2 w3 : Nat) (parms : List (Bytes × Obj)) :
    (keysOf (sdKv0 (xsDict' c ir n w2 w3 parms))).Nodup := by
  rw [xsDict_sdKv0]
  cases ir <;> simp only [xsDict', refOfO_none, refOfO_some, keysOf, List.map, List.cons_append, List.nil_append] <;>
    decide +kernel

theorem xsDict_get (c : Nat) (ir : Option Nat) (n w2 w3 : Nat) (parms : List (Bytes × Obj)) (hp : XsParms parms) :
    dictGet (rdKV (sdBefore (xsDict' c ir n w2 w3 parms)) ++ rdKV (sdAfter (xsDict' c ir n w2 w3 parms))) kSize = some (.int n) ∧
    dictGet (rdKV (sdBefore (xsDict' c ir n w2 w3 parms)) ++ rdKV (sdAfter (xsDict' c ir n w2 w3 parms))) kW
      = some (.arr [.int 1, .int w2, .int w3]) ∧
    dictGet (rdKV (sdBefore (xsDict' c ir n w2 w3 parms)) ++ rdKV (sdAfter (xsDict' c ir n w2 w3 parms))) kIndex = none := by
  have hn := xsDict_nodup c ir n w2 w3 parms
  rw [sd_dictGet _ hn (by decide), sd_dictGet _ hn (by decide), sd_dictGet _ hn (by decide), xsDict_sdKv0]
  cases ir <;> exact ⟨rfl, rfl, rfl⟩

theorem goodName_keys : goodName kRoot = true ∧ goodName kInfo = true ∧ goodName kType = true ∧ goodName kSize = true ∧
    goodName kW = true ∧ goodName kFilter = true ∧ goodName kDecodeParms = true ∧ goodName kLength = true ∧
    goodName kPredictor = true ∧ goodName kColumns = true ∧ goodName nXRef = true ∧ goodName nFlate = true := by
  decide +kernel

theorem xsDict_good (c : Nat) (ir : Option Nat) (n w2 w3 : Nat) (parms : List (Bytes × Obj)) (hp : XsParms parms)
    (hc : c < Gen.fio_maxXRefSize) (hir : ∀ i, ir = some i → i < Gen.fio_maxXRefSize)
    (hn : n ≤ Gen.fio_maxXRefSize) (hw2 : w2 ≤ 8) (hw3 : w3 ≤ 8) :
    good (.dict (sdKv0 (xsDict' c ir n w2 w3 parms))) = true ∧
    depthOf (.dict (sdKv0 (xsDict' c ir n w2 w3 parms))) ≤ Gen.scanner_maxScannerNestDepth := by
  obtain ⟨g1, g2, g3, g4, g5, g6, g7, g8, g9, g10, g11, g12⟩ := goodName_keys
  simp only [Gen.fio_maxXRefSize] at hn
  have hpg : good (.dict parms) = true ∧ depthOf (.dict parms) = 1 := by
    rcases hp with rfl | ⟨k, hk, rfl⟩
    · exact ⟨by decide +kernel, rfl⟩
    · refine ⟨?_, rfl⟩
      have : (keysOf [(kPredictor, Obj.int 12), (kColumns, .int k)]).Nodup := by
        show [kPredictor, kColumns].Nodup; decide +kernel
      simp [good, goodKV, g9, g10, this, Gen.scanner_maxDictLen]; omega
  have hall : ∀ e ∈ sdKv0 (xsDict' c ir n w2 w3 parms), goodName e.1 = true ∧ good e.2 = true ∧ depthOf e.2 ≤ 1 := by
    rw [xsDict_sdKv0]
    intro e he
    simp only [xsDict', List.mem_append, List.mem_cons, List.not_mem_nil, or_false] at he
    -- one case per entry, in the order of `xsDict'`; `/Length` last
    rcases he with ((rfl | he) | rfl | rfl | rfl | rfl | rfl) | rfl
    · exact ⟨g1, good_ref.2 ⟨hc, by decide⟩, by simp [depthOf_ref]⟩
    · obtain ⟨i, rfl, rfl⟩ := mem_refOfO.1 he
      exact ⟨g2, good_ref.2 ⟨hir i rfl, by decide⟩, by simp [depthOf_ref]⟩
    · exact ⟨g3, g11, by simp [depthOf_name]⟩
    · exact ⟨g4, by simp only [good_int]; omega, by simp [depthOf_int]⟩
    · exact ⟨g5, by simp [good, goodList, Gen.scanner_maxArrayLen]; omega, by simp [depthOf_arr, depthList_cons, depthList_nil, depthOf_int]⟩
    · exact ⟨g6, g12, by simp [depthOf_name]⟩
    · exact ⟨g7, hpg.1, Nat.le_of_eq hpg.2⟩
    · exact ⟨g8, by decide, by simp [depthOf_int]⟩
  obtain ⟨a, b⟩ := good_dict_of_entries hall (xsDict_nodup c ir n w2 w3 parms)
    (by rw [xsDict_sdKv0]; cases ir <;> simp [xsDict', refOfO_none, refOfO_some, Gen.scanner_maxDictLen])
  exact ⟨a, by simp only [Gen.scanner_maxScannerNestDepth]; omega⟩


theorem checkXRefStreamDict_plain {d : List (Bytes × Obj)} {n w2 w3 len : Nat}
    (hsz : dictGet d kSize = some (.int n)) (hw : dictGet d kW = some (.arr [.int 1, .int w2, .int w3]))
    (hidx : dictGet d kIndex = none) (hw2 : w2 ≤ 8) (hw3 : w3 ≤ 8)
    (hcap : n ≤ min Gen.fio_maxXRefSize (Gen.fio_XRefEntriesBase + Gen.fio_XRefEntriesPerByte * len)) :
    checkXRefStreamDict d (len : Int) = .ok ([1, w2, w3], [(0, n)]) := by
  have h1 : (decide ((n : Int) < 0) || decide ((n : Int) > (Gen.fio_maxXRefSize : Nat))) = false := by
    simp; omega
  have h2 : widthsOf [.int 1, .int (w2 : Int), .int (w3 : Int)] = some [1, w2, w3] := by
    have a2 : (decide ((w2 : Int) < 0) || decide ((w2 : Int) > 8)) = false := by simp; omega
    have a3 : (decide ((w3 : Int) < 0) || decide ((w3 : Int) > 8)) = false := by simp; omega
    simp [widthsOf, a2, a3]
  have h4 : ¬ ((len : Int) < 0) := by omega
  unfold checkXRefStreamDict
  simp only [hsz, hw, hidx, h1, h2, Bool.false_eq_true, ↓reduceIte, List.length_cons, List.length_nil]
  simp [h4]
  omega

/-- the reader's opening sequence on a file whose `startxref` names a cross-reference stream:
    the offset, `ReadIndirectObject` there, `checkXRefStreamDict` on the dictionary read, and —
    for the form `writeXRefStream` produces: `/W [1 w2 w3]`, no `/Index` — the data through
    `decodeXRefData` (other forms are outside this model: `Err.other`).  The header offset is taken
    as 0 (`findXRef file 0`), where `Model/FIOReader.openTable` first runs `findHeaderOffset`: a file
    the writer made starts with `%PDF-` (`C02fioe.findHeaderOffset_zero`), junk before the header is
    not modelled here -/
def openXRefStream (file : Bytes) (inflate : Bytes → Option Bytes) (getInt : Obj → Except Err Int) : Except Err XMap :=
  match findXRef file 0 with
  | .error e => .error e
  | .ok off =>
    match readIndirectObject (file.drop off) off getInt with
    | .error e => .error e
    | .ok (.plain _, _, _, _) => .error .malformed
    | .ok (.stream d start len, _, _, _) =>
      match checkXRefStreamDict d (len : Int) with
      | .error e => .error e
      | .ok ([1, w2, w3], [(0, n)]) => decodeXRefData inflate w2 w3 n ((file.drop start).take len)
      | .ok _ => .error .other

theorem open_xrefstream_file (file pre : Bytes) (p : Nat) (opt : FmtOpt) (ref c : Nat) (ir : Option Nat) (n w2 w3 : Nat)
    (parms : List (Bytes × Obj)) (raw dictBytes value : Bytes) (off : Nat) (doc : List (Nat × Nat × Obj))
    (hfile : file = pre ++ [10] ++ kStartxref ++ decOf p ++ kEOF) (hp0 : 0 < p) (hpl : p ≤ pre.length)
    (hfmt : fmtDictLen opt false (xsDict' c ir n w2 w3 parms) value = some (dictBytes, off))
    (hlt : LenText doc value raw.length)
    (hat : At file p (objHeader ref 0 ++ dictBytes ++ kStream ++ raw ++ kEndstream))
    (hpm : XsParms parms) (hc : c < Gen.fio_maxXRefSize) (hir : ∀ i, ir = some i → i < Gen.fio_maxXRefSize)
    (hw2 : w2 ≤ 8) (hw3 : w3 ≤ 8) (href : ref < Gen.fio_maxXRefSize)
    (hfs : file.length < 9223372036854775808)
    (hcap : n ≤ min Gen.fio_maxXRefSize (Gen.fio_XRefEntriesBase + Gen.fio_XRefEntriesPerByte * raw.length))
    (inflate : Bytes → Option Bytes) (getInt : Obj → Except Err Int)
    (hgi : ∀ i, getInt (.int i) = .ok i)
    (hgr : ∀ r len, (r, 0, Obj.int len) ∈ doc → getInt (.ref r 0) = .ok len) :
    openXRefStream file inflate getInt = decodeXRefData inflate w2 w3 n raw := by
  have hn : n ≤ Gen.fio_maxXRefSize := by omega
  obtain ⟨hg, hd⟩ := xsDict_good c ir n w2 w3 parms hpm hc hir hn hw2 hw3
  obtain ⟨start, rest, hrio, hbody⟩ := stream_at_rt file opt ref 0 (xsDict' c ir n w2 w3 parms) raw p dictBytes value off doc
    hfmt hlt hat hg hd href (by simp [Gen.fio_maxGeneration]) hfs getInt hgi hgr
  obtain ⟨hsz, hw, hidx⟩ := xsDict_get c ir n w2 w3 parms hpm
  have hfx : findXRef file 0 = .ok p := by
    rw [hfile]
    exact findXRef_tail pre p hp0 (by simp; omega) (by rw [hfile] at hfs; simp at hfs; omega)
  unfold openXRefStream
  simp only [hfx, hrio, hbody, checkXRefStreamDict_plain hsz hw hidx hw2 hw3 hcap]

/-- **open_xrefstream_rt.**  The opening sequence, on the file `Close` leaves in stream form, yields
a map that agrees with the writer's table except at the stream's own number `ref`.
Idea: `close_stream_layout` gives the state `s3` in which the rows were encoded, whose table is the
final one without `ref`, so `hz` applies at `s3.xref`; the stream object itself is found through its
record in `sdoc`.  The last three conjuncts serve `file_rt_xrefstream`: `ref` has an entry only after
`Close`, and the map decoded has `ref` free.  `hz` quantifies over every `x` with the given lookups
because an `XMap` is an association list: two lists with the same lookups need not be equal. -/
theorem open_xrefstream_rt (o : WOpts) (s0 s : WState) (ops : List Op)
    (cat : Obj) (info : Option Obj) (raw : Bytes)
    (henc : o.encrypted = false) (hobj : o.objStm = true)
    (h0 : initState o = some s0)
    (h : run s0 (ops ++ [.close cat info [] raw]) 0 = .ok s)
    (hsize : s.out.length < 9223372036854775808)
    (hlim : ∀ n e, s.xref.get n = some e → e.gen ≤ 65535 ∧ e.pos < (two63 : Int) ∧ e.inStream < Gen.fio_maxXRefSize ∧
      (e.inStream ≠ 0 → 0 ≤ e.pos))
    (hcap : s.nextRef ≤ min Gen.fio_maxXRefSize (Gen.fio_XRefEntriesBase + Gen.fio_XRefEntriesPerByte * raw.length))
    (inflate : Bytes → Option Bytes) (getInt : Obj → Except Err Int)
    (hgi : ∀ i, getInt (.int i) = .ok i)
    (hgr : ∀ r len, (r, 0, Obj.int len) ∈ s.doc → getInt (.ref r 0) = .ok len)
    (hz : ∀ x : XMap, (∀ j, x.get j = if j + 1 = s.nextRef then none else s.xref.get j) →
      inflate raw = some (xrefStreamPayload x s.nextRef).2.2) :
    ∃ m ref, ref + 1 = s.nextRef ∧ openXRefStream s.out inflate getInt = .ok m ∧
      (∀ n e, n ≠ ref → s.xref.get n = some e → e.inStream = 0 → 0 ≤ e.pos →
        m.get n = some { inStream := 0, pos := e.pos, gen := e.gen }) ∧
      (∀ n, n ≠ ref → (s.xref.get n = none ∨ ∃ e, s.xref.get n = some e ∧ e.inStream = 0 ∧ e.pos < 0) →
        (m.get n = none ∨ ∃ x, m.get n = some x ∧ x.pos < 0)) ∧
      (∀ n e, s.xref.get n = some e → e.inStream ≠ 0 → 0 ≤ e.pos →
        m.get n = some { inStream := e.inStream, pos := e.pos, gen := 0 }) ∧
      (∃ e, s.xref.get ref = some e ∧ e.inStream = 0) ∧
      (∀ s1, run s0 ops 0 = .ok s1 → ∀ k e, s1.xref.get k = some e → k ≠ ref) ∧
      (m.get ref = none ∨ ∃ x, m.get ref = some x ∧ x.pos < 0) := by
  obtain ⟨his, hoptss, _⟩ := run_facts h0 h
  have hlit : s.opts.litStr = false := by rw [hoptss]; simp [WOpts.litStr, henc]
  obtain ⟨_, hsdoc, _⟩ := C02fioh.writer_objects_stay o s0 s _ h0 h
  obtain ⟨s1, hr1, hclose⟩ := run_append ops _ h
  simp only [step] at hclose
  obtain ⟨hi1, hopts1, rest1, hout1⟩ := run_facts h0 hr1
  have hna1 := Reach.noAfter (run_reach ops hr1) (init_na o s0 h0)
  obtain ⟨s3, ref, cr, ir, mid, L⟩ := close_stream_layout hi1 hna1 (by rw [hopts1]; exact hobj) hclose
  obtain ⟨c, rfl, hc⟩ := L.root
  have hnone := L.fresh
  have hrefn := L.last; have hlen3 := L.len; have hnr3 := L.nextRef  -- for `omega`
  -- the table encoded (`s3`'s) is the final one without the stream's own entry
  have hget : ∀ n, n ≠ ref → s.xref.get n = s3.xref.get n := fun n hne => by rw [L.table n, if_neg hne]
  have hok : ∀ j, j < s3.nextRef → EntryOK (s3.xref.get j) := by
    intro j _
    cases hg : s3.xref.get j with
    | none => trivial
    | some e =>
      have hne : j ≠ ref := by intro heq; subst heq; rw [hnone] at hg; cases hg
      exact hlim j e (by rw [hget j hne, hg])
  obtain ⟨hw2, hw3, _⟩ := xref_stream_rt s3.xref s3.nextRef hok
  have hinf : inflate raw = some (xrefStreamPayload s3.xref s3.nextRef).2.2 := by
    rw [← L.nextRef]
    refine hz s3.xref (fun j => ?_)
    by_cases hj : j = ref
    · subst hj; rw [if_pos (by omega)]; exact hnone
    · rw [if_neg (by omega)]; exact (hget j hj).symm
  obtain ⟨m, hdec, hm1, hm2, hm3⟩ := xrefstream_map_agrees s3.xref s3.nextRef hok (fun j e hj => L.inv3.below j e hj) inflate raw hinf
  have hp1 : (xrefStreamPayload s3.xref s3.nextRef).1 = fieldWidth (maxFields s3.xref 0 s3.nextRef).1 := rfl
  have hp2 : (xrefStreamPayload s3.xref s3.nextRef).2.1 = fieldWidth (maxFields s3.xref 0 s3.nextRef).2 := rfl
  rw [hp1, hp2] at hdec
  -- the stream object in the file
  obtain ⟨e, dictBytes, value, off, hxe, heg, hins, hpos, hfd, hlt, hat, _⟩ := hsdoc _ L.recorded
  simp only at hxe heg hfd hlt hat
  have hxref := L.table ref
  rw [if_pos rfl, hxe] at hxref
  simp only [Option.some.injEq] at hxref
  subst hxref
  simp only [Int.toNat_natCast] at hat
  obtain ⟨parms, hpm, hxd⟩ := xsDict_eq c ir s3.nextRef _ _ hw2 hw3
  rw [hlit, hxd] at hfd
  have hfile : s.out = (s3.out ++ mid ++ kEndstream.dropLast) ++ [10] ++ kStartxref ++ decOf s3.pos ++ kEOF := by
    rw [L.out]; simp [kEndstream]
  have hp0 : 0 < s3.pos := by
    rw [L.inv3.pos_eq]
    have : 5 ≤ s1.out.length := by rw [hout1]; simp [kPdf]
    omega
  have hopen := open_xrefstream_file s.out (s3.out ++ mid ++ kEndstream.dropLast) s3.pos s.opts.fmt ref c ir s3.nextRef _ _ parms raw dictBytes value off s.doc
    hfile hp0 (by rw [L.inv3.pos_eq]; simp) hfd hlt hat hpm hc
    (fun i hi => by
      cases hinfo : info with
      | none => rw [L.noInfo hinfo] at hi; cases hi
      | some v => obtain ⟨n, a, b⟩ := L.infoRef v hinfo; rw [a] at hi; cases hi; exact b)
    hw2 hw3 (by have := his.below ref _ hxe; omega) hsize (by rw [← L.nextRef]; exact hcap) inflate getInt hgi hgr
  refine ⟨m, ref, by omega, by rw [hopen, hdec], ?_, ?_, ?_, ⟨_, hxe, rfl⟩, ?_, hm2 ref (.inl hnone)⟩
  · -- in-use entries
    intro n e hne hx hi' hp'
    exact hm1 n e (by rw [← hget n hne]; exact hx) hi' hp'
  · -- free numbers
    intro n hne hfree
    exact hm2 n (by rw [← hget n hne]; exact hfree)
  · -- members of object streams
    intro n e hx hi' hp'
    have hne : n ≠ ref := by
      intro heq; subst heq
      rw [hxe] at hx; cases hx
      exact hi' rfl
    exact hm3 n e (by rw [← hget n hne]; exact hx) hi' hp'
  · -- `ref` has no entry before `Close`
    intro sx hsx k e' hk heq
    rw [hr1] at hsx
    simp only [Except.ok.injEq] at hsx
    subst hsx
    subst heq
    rw [L.mono _ _ hk] at hnone
    cases hnone


/-- **file_rt_xrefstream.**  The whole-file round trip for files with a CROSS-REFERENCE STREAM and
OBJECT STREAMS.  For every program of Writer operations the model accepts in object-stream mode
(PDF ≥ 1.5, not human-readable, unencrypted; Alloc, Put of plain and stream objects, OpenStream /
Write / Close with all `/Length` strategies, Put while a stream is open, WriteCompressed, failed
operations) ending in `Close`, the reader model applied to NOTHING BUT THE BYTES of the file

* opens it (`openXRefStream`): finds the last `startxref`, reads the cross-reference stream object
  there with `ReadIndirectObject`, accepts its dictionary (`checkXRefStreamDict`: `/Size`,
  `/W [1 w2 w3]`, no `/Index`) and decodes the data (`decodeXRefData`) into a map `m`;

and `Reader.get` with that map returns

* for every plain object written directly an object equal to it up to C01's comparison form,
* for every completed stream object (object streams included) a stream whose extent holds exactly
  the bytes handed to `Write`, with the dictionary given (without `/Length`),
* `null` for every never-written or free number — and for the cross-reference stream's own number
  `ref` (the last one): `writeXRefStream` encodes the rows before its own entry is made, so the
  file's table has that number free (that is why the first three clauses say `n ≠ ref`),
* for every member of every `WriteCompressed` (of at most `maxObjStmObjects` members: one object
  stream) the object written, up to comparison form.

Hypotheses, all about the final state, the parameters or C01's limits — none about intermediate
states: the file is below 2^63 bytes; generations ≤ 65535, offsets below 2^63, container numbers
below 2^24 (`hlim`); `Size` within the reader's budget `min(2^24, 8192 + 32·len(raw))` (`hcap`:
beyond it the reader refuses the file — the known finding D26); zlib is trusted: `inflate raw` = the
predicted rows of the table without the own entry (`hz`), and per object stream `inflate raws.head` = the content assembled; `getInt`
resolves `/Length` (`hgi`, `hgr`); objects within C01's limits.

RESTRICTIONS (not proved beyond them): no fixed trailer entries (`trailer = []`: a file without
`/ID`; with `/ID` the dictionary read back has further entries, and the lookups of `/Size`, `/W`,
`/Index` through its sorted form (`sd_dictGet`) need its keys distinct); `WriteCompressed` calls of more than `maxObjStmObjects`
members (split over several object streams) are covered by the writer-side invariants only;
`openXRefStream` is the composition, made here, of the separately modelled and implementation-
compared steps `findXRef`, `readIndirectObject`, `checkXRefStreamDict`, `decodeXRefStream` with the
Flate/PNG-Up layer as in `decodeXRefData` (it does not read `/Filter` and `/DecodeParms` from the
dictionary: the writer's are fixed); the trailer entries `Root`/`Info` of the dictionary read back
are not part of the conclusion. -/
theorem file_rt_xrefstream (o : WOpts) (s0 s : WState) (ops : List Op)
    (cat : Obj) (info : Option Obj) (raw : Bytes)
    (henc : o.encrypted = false) (hobj : o.objStm = true)
    (h0 : initState o = some s0)
    (h : run s0 (ops ++ [.close cat info [] raw]) 0 = .ok s)
    (hsize : s.out.length < 9223372036854775808)
    (hlim : ∀ n e, s.xref.get n = some e → e.gen ≤ 65535 ∧ e.pos < (two63 : Int) ∧ e.inStream < Gen.fio_maxXRefSize ∧
      (e.inStream ≠ 0 → 0 ≤ e.pos))
    (hcap : s.nextRef ≤ min Gen.fio_maxXRefSize (Gen.fio_XRefEntriesBase + Gen.fio_XRefEntriesPerByte * raw.length))
    (inflate : Bytes → Option Bytes) (getInt : Obj → Except Err Int)
    (hgi : ∀ i, getInt (.int i) = .ok i)
    (hgr : ∀ r len, (r, 0, Obj.int len) ∈ s.doc → getInt (.ref r 0) = .ok len)
    (hz : ∀ x : XMap, (∀ j, x.get j = if j + 1 = s.nextRef then none else s.xref.get j) →
      inflate raw = some (xrefStreamPayload x s.nextRef).2.2) :
    ∃ m ref, ref + 1 = s.nextRef ∧ openXRefStream s.out inflate getInt = .ok m ∧
      (∀ n g ob, n ≠ ref → (n, g, ob) ∈ s.doc → good ob = true → depthOk ob → isRefObj ob = false →
        ∃ r, readerGet s.out m 0 inflate getInt n g = .ok (some (.plain r)) ∧ nrm r = nrm ob) ∧
      (∀ n g d body, n ≠ ref → (n, g, d, body) ∈ s.sdoc → good (.dict (sdKv0 d)) = true → depthOk (.dict (sdKv0 d)) →
        ∃ rdict start, readerGet s.out m 0 inflate getInt n g = .ok (some (.stream rdict start body.length)) ∧
          (s.out.drop start).take body.length = body ∧
          nrm (.dict rdict) = nrm (.dict (d.filter fun e => e.1 != kLength))) ∧
      (∀ n g, n ≠ ref → (s.xref.get n = none ∨ ∃ e, s.xref.get n = some e ∧ e.inStream = 0 ∧ e.pos < 0) →
        readerGet s.out m 0 inflate getInt n g = .ok none) ∧
      (∀ g, readerGet s.out m 0 inflate getInt ref g = .ok none) ∧
      (∀ ops1 items raws ops2, ops = ops1 ++ .writeCompressed items raws :: ops2 →
        items ≠ [] → items.length ≤ Gen.fio_maxObjStmObjects →
        (∀ it ∈ items, good it.2.2 = true ∧ depthOk it.2.2) →
        ∀ content cnt first,
          objStmContent o.fmtPlain (items.map fun (num, _, ob) => (num, ob)) = some (content, cnt, first) →
          inflate (raws.headD []) = some content → content.length ≤ 9223372036854775807 →
          ∀ (j num g : Nat) (ob : Obj), items[j]? = some (num, g, ob) →
            ∃ r, readerGet s.out m 0 inflate getInt num 0 = .ok (some (.plain r)) ∧ nrm r = nrm ob) := by
  obtain ⟨m, ref, hrefn, hopen, hm, hmfree, hmstm, ⟨eref, hxref, _⟩, hpre, hown⟩ :=
    open_xrefstream_rt o s0 s ops cat info raw henc hobj h0 h hsize hlim hcap inflate getInt hgi hgr hz
  have hnr : s.nextRef ≤ Gen.fio_maxXRefSize := by omega
  obtain ⟨c1, c2, c3⟩ := file_rt_xrefstream_partial o s0 s ops cat info [] raw henc h0 h hsize
    (fun n e hx => (hlim n e hx).1) hnr m (· ≠ ref)
    hm hmfree inflate getInt hgi hgr
  refine ⟨m, ref, hrefn, hopen, c1, c2, c3, ?_, ?_⟩
  · -- the cross-reference stream's own number is free in the map it encodes
    intro g
    rcases hown with h1 | ⟨x, h1, h2⟩
    · exact get_free s.out m ref g default (.inl h1) inflate getInt
    · exact get_free s.out m ref g x (.inr ⟨h1, h2⟩) inflate getInt
  · intro ops1 items raws ops2 hops hne hcapi hgood content cnt first hc hinf hclen j num g ob hj
    subst hops
    obtain ⟨sRef, _, _, hcont, hmem⟩ := file_rt_xrefstream_members o s0 s ops1 ops2 items raws cat info [] raw henc hobj h0 h
      hsize hnr m (· ≠ ref) hm hmstm inflate getInt hgi hgr hne hcapi hgood
      content cnt first hc hinf hclen
    obtain ⟨s1, hr1, _⟩ := run_append _ _ h
    obtain ⟨e1, he1⟩ := hcont s1 hr1
    exact hmem (hpre s1 hr1 sRef e1 he1) j num g ob hj


-- non-vacuity of `file_rt_xrefstream` on the file of `C02fioh`'s example (plain objects 1, 3, 7, the
-- 1030-byte stream object 2, the object stream 6 with members 4 and 5, the cross-reference stream
-- 8; zlib replaced by "stored": `inflate := some`): the hypotheses hold — object-stream mode, no
-- fixed trailer entries, the limits `hlim`, the budget `hcap` (9 ≤ 8192 + 32·54), `hz` (the bytes
-- given to `Close` are the predicted rows of the table without the own entry) — and the
-- conclusions are observed on nothing but the bytes: `openXRefStream` succeeds, the map has the
-- in-use and compressed entries and object 8 free, `Reader.get` returns every object, the stream
-- data, both members, and null for 8 and 9
example : (match initState C02fioh.exOpts with
    | some s0 => (match run s0 (C02fioh.exProg []) 0 with
      | .ok sa =>
        let pl := xrefStreamPayload (sa.xref.filter (fun (p : Nat × XEntry) => p.1 != 8)) sa.nextRef
        (match run s0 (C02fioh.exProg pl.2.2) 0 with
         | .ok s =>
           (match openXRefStream s.out some C02fioh.exGetInt with
            | .ok m =>
              C02fioh.exOpts.objStm && !C02fioh.exOpts.encrypted && s.nextRef == 9 &&
              decide (s.out.length < 9223372036854775808) &&
              decide (s.nextRef ≤ min Gen.fio_maxXRefSize (Gen.fio_XRefEntriesBase + Gen.fio_XRefEntriesPerByte * pl.2.2.length)) &&
              (List.range 9).all (fun n => match s.xref.get n with
                | none => false
                | some e => decide (e.gen ≤ 65535) && decide (e.pos < (two63 : Int)) &&
                    decide (e.inStream < Gen.fio_maxXRefSize) && (e.inStream == 0 || decide (0 ≤ e.pos))) &&
              (xrefStreamPayload (s.xref.filter (fun (p : Nat × XEntry) => p.1 + 1 != s.nextRef)) s.nextRef).2.2 == pl.2.2 &&
              m.get 8 == some ⟨0, -1, 0⟩ && m.get 4 == some ⟨6, 0, 0⟩ && m.get 2 == s.xref.get 2 && m.get 9 == none &&
              (match readerGet s.out m 0 some C02fioh.exGetInt 1 0 with | .ok (some (.plain (.int 5))) => true | _ => false) &&
              (match readerGet s.out m 0 some C02fioh.exGetInt 3 0 with | .ok (some (.plain (.name [65]))) => true | _ => false) &&
              (match readerGet s.out m 0 some C02fioh.exGetInt 7 0 with | .ok (some (.plain (.dict [([84], .int 1)]))) => true | _ => false) &&
              (match readerGet s.out m 0 some C02fioh.exGetInt 2 0 with
               | .ok (some (.stream [] start 1030)) => (s.out.drop start).take 1030 == List.replicate 1030 65
               | _ => false) &&
              (match readerGet s.out m 0 some C02fioh.exGetInt 6 0 with
               | .ok (some (.stream _ start len)) => (s.out.drop start).take len == C02fioh.exObjStm
               | _ => false) &&
              (match readerGet s.out m 0 some C02fioh.exGetInt 4 0 with | .ok (some (.plain (.int 7))) => true | _ => false) &&
              (match readerGet s.out m 0 some C02fioh.exGetInt 5 0 with | .ok (some (.plain (.name [66]))) => true | _ => false) &&
              (match readerGet s.out m 0 some C02fioh.exGetInt 8 0 with | .ok none => true | _ => false) &&
              (match readerGet s.out m 0 some C02fioh.exGetInt 9 0 with | .ok none => true | _ => false)
            | .error _ => false)
         | _ => false)
      | _ => false)
    | none => false) = true := by decide +kernel

end PdfVerif.C02fioj
