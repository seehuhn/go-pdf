import PdfVerif.Props.C09trb
import PdfVerif.Props.C09sec
/-!
# C09 (translator part): permission algebra and PKCS#7 un-padding on the GENERATED code

`Gen.pdf_stdSecPToPerm`, `Gen.pdf_stdSecPermToP`, `Gen.pdf_Perm_canR2`, `Gen.pdf_unpadPKCS7` are
re-created from crypto.go on every run; the closed forms of `stdSecPToPerm`, `unpadPKCS7` and `tryCrop` are in
`Lemmas/TRSec.lean`, their equality with the hand model in `Props/C09trb.lean`.  The permission theorems quantify over all
128 permission sets and all revisions the writer can select, so `decide +kernel` is a proof.
-/
namespace PdfVerif.C09tr
open PdfVerif PdfVerif.Gen PdfVerif.Go

/-- the documented implications: Print ⇒ PrintDegraded, Annotate ⇒ Forms, Modify ⇒ Assemble
(bit values from the regenerated constants) -/
def closure (p : Nat) : Nat :=
  p ||| (if p &&& pdf_PermPrint ≠ 0 then pdf_PermPrintDegraded else 0)
    ||| (if p &&& pdf_PermAnnotate ≠ 0 then pdf_PermForms else 0)
    ||| (if p &&& pdf_PermModify ≠ 0 then pdf_PermAssemble else 0)

/-- revisions the writer selects (createStdSecHandler) -/
def revisions : List Int := [2, 3, 4, 6]

/-- revisions 3, 4, 6: user access reports exactly the requested permissions closed under
the documented implications, for all 128 permission sets -/
theorem perm_algebra : ∀ p : Nat, p < 128 → ∀ R ∈ [(3 : Int), 4, 6],
    pdf_stdSecPToPerm R (pdf_stdSecPermToP (p : Int)) = (closure p : Int) := by decide +kernel

/-- the same for revision 2, which the writer selects only when `canR2` holds -/
theorem perm_algebra_R2 : ∀ p : Nat, p < 128 → pdf_Perm_canR2 (p : Int) = true →
    pdf_stdSecPToPerm 2 (pdf_stdSecPermToP (p : Int)) = (closure p : Int) := by decide +kernel

/-- `canR2` is exactly "no implied permission is granted without the one that implies it"
(revision 2 has no bits for PrintDegraded, Forms and Assemble alone) -/
theorem canR2_iff : ∀ p : Nat, p < 128 → (pdf_Perm_canR2 (p : Int) = true ↔
    ((p &&& pdf_PermPrintDegraded ≠ 0 → p &&& pdf_PermPrint ≠ 0) ∧
     (p &&& pdf_PermForms ≠ 0 → p &&& pdf_PermAnnotate ≠ 0) ∧
     (p &&& pdf_PermAssemble ≠ 0 → p &&& pdf_PermModify ≠ 0))) := by
  decide +kernel

/-- without `canR2` revision 2 would grant more or less than requested: the guard is needed
(witness: PrintDegraded alone comes back with full printing removed) -/
theorem R2_needs_canR2 : ∃ p : Nat, p < 128 ∧ pdf_Perm_canR2 (p : Int) = false ∧
    pdf_stdSecPToPerm 2 (pdf_stdSecPermToP (p : Int)) ≠ (closure p : Int) := ⟨2, by decide +kernel⟩

/-- all permissions (what owner access reports) survive the encoding at every revision, and the
encoded word is the standard's "everything allowed" value with the two reserved low bits clear -/
theorem perm_all : pdf_stdSecPermToP (pdf_PermAll : Int) = 0xFFFFFFFC ∧
    ∀ R ∈ revisions, pdf_stdSecPToPerm R (pdf_stdSecPermToP (pdf_PermAll : Int)) = (pdf_PermAll : Int) := by
  decide +kernel

/-- the reserved bits 1 and 2 of P are always 0 and bits 7, 8 and 13–32 always 1 (ISO 32000 table 22) -/
theorem permToP_reserved : ∀ p : Nat, p < 128 →
    pdf_stdSecPermToP (p : Int) &&& 3 = 0 ∧ pdf_stdSecPermToP (p : Int) &&& 0xFFFFF0C0 = 0xFFFFF0C0 := by
  decide +kernel

/-- `PermToP` is injective on closed permission sets (nothing the user may request is lost):
a corollary of `perm_algebra`, since `PToPerm 3` is a left inverse there -/
theorem permToP_injective_on_closed (p q : Nat) (hp : p < 128) (hq : q < 128)
    (cp : closure p = p) (cq : closure q = q)
    (h : pdf_stdSecPermToP (p : Int) = pdf_stdSecPermToP (q : Int)) : p = q := by
  have h1 := perm_algebra p hp 3 (by simp)
  have h2 := perm_algebra q hq 3 (by simp)
  rw [h, h2, cp, cq] at h1
  exact (Int.ofNat_inj.mp h1).symm

/-- whatever P a file contains (all 2³² values) and for every revision the writer can select,
the decoded permissions lie in 0..PermAll, and for R ≥ 3 they are closed under the implications -/
theorem pToPerm_range (R : Int) (hR : R ∈ revisions) (P : UInt32) :
    0 ≤ pdf_stdSecPToPerm R P ∧ pdf_stdSecPToPerm R P ≤ 127 ∧
    (R ≠ 2 → (closure (pdf_stdSecPToPerm R P).toNat : Int) = pdf_stdSecPToPerm R P) := by
  rw [pToPerm_eq_bits]
  generalize (P &&& 4 == 0) = b3
  generalize (P &&& 2048 == 0) = b12
  generalize (P &&& 8 == 0) = b4
  generalize (P &&& 1024 == 0) = b11
  generalize (P &&& 16 == 0) = b5
  generalize (P &&& 32 == 0) = b6
  generalize (P &&& 256 == 0) = b9
  have key : ∀ R ∈ revisions, ∀ b3 b12 b4 b11 b5 b6 b9 : Bool,
      0 ≤ pToPermBits R b3 b12 b4 b11 b5 b6 b9 ∧ pToPermBits R b3 b12 b4 b11 b5 b6 b9 ≤ 127 ∧
      (R ≠ 2 → (closure (pToPermBits R b3 b12 b4 b11 b5 b6 b9).toNat : Int) = pToPermBits R b3 b12 b4 b11 b5 b6 b9) := by
    decide +kernel
  exact key R hR b3 b12 b4 b11 b5 b6 b9

example : closure 4 = 6 ∧ closure 80 = 120 := by decide +kernel

/-- un-padding inverts padding, for every plaintext -/
theorem pkcs7_rt (x : List UInt8) (hl : x.length + 16 < 9223372036854775808) :
    pdf_unpadPKCS7 (pkcs7Pad x) = some (x, none) := by
  -- both functions are the hand model's (bridges), for which `C09sec.pkcs7_rt` says this
  have hb := C09trb.unpadPKCS7_bridge (pkcs7Pad x) (by simp [pkcs7Pad]; omega)
  rw [← C09trb.pkcs7Pad_bridge, C09sec.pkcs7_rt] at hb
  split at hb
  · rename_i out he
    rw [he, Go.map_toNat_inj.mp (Except.ok.inj hb)]
  · cases hb

example : pdf_unpadPKCS7 (pkcs7Pad [1, 2, 3]) = some ([1, 2, 3], none) := by decide +kernel
example : wellPadded [0,0,0,0,0,0,0,0,0,0,0,0,0,3,3,3] = true ∧ wellPadded [0,0,0,0,0,0,0,0,0,0,0,0,0,2,3,3] = false := by
  decide +kernel

example : pdf_tryCrop [1, 2, 0, 0] 2 = some [1, 2] ∧ pdf_tryCrop [1, 2, 0, 3] 2 = some [1, 2, 0, 3] := by decide +kernel

/-- a negative length makes the Go code index out of range: the generated function reports the
panic (the callers pass the constants 32 and 48) -/
example : pdf_tryCrop [1, 2] (-1) = none := by decide +kernel

end PdfVerif.C09tr
