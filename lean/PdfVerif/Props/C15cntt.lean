import PdfVerif.Props.C15cnt
/-!
# C15 (and C05, robustness) — totality of the content scanner on arbitrary bytes

For every input, not only streams the writer produced, the model of `graphics/content/stream.go` terminates
within the fuel the entry points supply and stays inside the scanner's caps: `scan_total`,
`scanAll_fuel_indep`.  Each model function has one case analysis (`scanToken_spec`, `classify_cases`,
`deliver_cases`, `step_cases`) from which progress (`Prog`, `Within`) and the caps (`step_caps`: the loop
invariant of `Scan`) are read; `C15cntw` reads the depth bound off the same lemmas.

The fuel of `readInlineImage` is `2·len + 2`: deeply nested brackets at the very end of the input
(`BI/K[[[[[[[[[[`) need up to two units of fuel per byte, `len + 2` would not do (the Go code has no
fuel; the harness sends such inputs).
-/
namespace PdfVerif.C15cntt
open PdfVerif PdfVerif.CNT

/-- the result is not "out of fuel" and at most `n` bytes remain -/
def Within {α : Type} (r : Res α) (n : Nat) : Prop :=
  match r with
  | .ok _ rest => rest.length ≤ n
  | .perr rest => rest.length ≤ n
  | .eof => True
  | .fuel => False

theorem Within.ok {α : Type} {a : α} {rest : Bytes} {n : Nat} : Within (.ok a rest) n ↔ rest.length ≤ n := Iff.rfl
theorem Within.perr {α : Type} {rest : Bytes} {n : Nat} : Within (.perr rest : Res α) n ↔ rest.length ≤ n := Iff.rfl
theorem Within.eof {α : Type} {n : Nat} : Within (.eof : Res α) n := trivial

theorem within_mono {α : Type} (r : Res α) (n m : Nat) (h : Within r n) (hnm : n ≤ m) : Within r m := by
  cases r <;> simp [Within] at h ⊢ <;> omega

theorem within_map {α β : Type} (f : α → β) (r : Res α) (n : Nat) (h : Within r n) : Within (r.map f) n := by
  cases r <;> exact h

theorem skipSp_le (l : Bytes) : (skipSp l).length ≤ l.length := by
  induction l with
  | nil => simp [skipSp]
  | cons x xs ih => simp only [skipSp]; split <;> simp <;> omega

theorem spanReg_le (l : Bytes) : (spanReg l).2.length ≤ l.length := by
  induction l with
  | nil => simp [spanReg]
  | cons x xs ih => simp only [spanReg]; split <;> simp <;> omega

theorem nameBodyS_le (l : Bytes) : ∀ k, (nameBodyS k l).2.length ≤ l.length := by
  intro k
  fun_induction nameBodyS k l
  · exact Nat.le_refl _
  · exact Nat.le_succ_of_le ‹_›
  · exact Nat.le_refl _
  all_goals (rename_i hx ih; rw [hx] at ih; exact Nat.le_succ_of_le ih)   -- a byte (or `#xx`) is taken

/-- every branch of `readStr` is a recursive call on a shorter input, with or without a byte put in
front of its result, or a leaf -/
theorem readStr_within (level : Nat) (ign : Bool) (len : Nat) (inp : Bytes) :
    Within (readStr level ign len inp) inp.length := by
  fun_induction readStr level ign len inp <;>
    first
    | exact within_map _ _ _ (within_mono _ _ _ ‹Within _ _› (by simp only [List.length_cons]; omega))
    | exact within_mono _ _ _ ‹Within _ _› (by simp only [List.length_cons]; omega)
    | simp [Within.ok, Within.perr, Within.eof]

theorem readHex_within (hi : Option Nat) (len : Nat) (inp : Bytes) :
    Within (readHex hi len inp) inp.length := by
  fun_induction readHex hi len inp <;>
    first
    | exact within_map _ _ _ (within_mono _ _ _ ‹Within _ _› (by simp only [List.length_cons]; omega))
    | exact within_mono _ _ _ ‹Within _ _› (by simp only [List.length_cons]; omega)
    | simp [Within.ok, Within.perr, Within.eof]

/-- strict progress: the result is not "out of fuel" and, unless the end of the input was
reached, strictly fewer than `n` bytes remain -/
def Prog {α : Type} (r : Res α) (n : Nat) : Prop :=
  match r with
  | .ok _ rest => rest.length < n
  | .perr rest => rest.length < n
  | .eof => True
  | .fuel => False

theorem Prog.ok {α : Type} {a : α} {rest : Bytes} {n : Nat} : Prog (.ok a rest) n ↔ rest.length < n := Iff.rfl
theorem Prog.perr {α : Type} {rest : Bytes} {n : Nat} : Prog (.perr rest : Res α) n ↔ rest.length < n := Iff.rfl

theorem prog_of_within {α : Type} (r : Res α) (n m : Nat) (h : Within r n) (hnm : n < m) : Prog r m := by
  cases r <;> simp [Within, Prog] at h ⊢ <;> omega

theorem prog_map {α β : Type} (f : α → β) (r : Res α) (n : Nat) (h : Prog r n) : Prog (r.map f) n := by
  cases r <;> exact h

theorem prog_mono {α : Type} (r : Res α) (n m : Nat) (h : Prog r n) (hnm : n ≤ m) : Prog r m := by
  cases r <;> simp [Prog] at h ⊢ <;> omega

theorem within_of_prog {α : Type} (r : Res α) (n : Nat) (h : Prog r n) : Within r n := by
  cases r <;> simp [Within, Prog] at h ⊢ <;> omega

theorem asFloat_kind (tok body : Bytes) (o : Obj) (h : asFloat tok body = some o) : o = .real tok := by
  unfold asFloat at h
  split at h <;> simp at h
  exact h.symm

theorem parseNumber_kind (tok : Bytes) (o : Obj) (h : parseNumber tok = some o) :
    (∃ i, o = .int i) ∨ o = .real tok := by
  revert h
  fun_cases parseNumber tok
  · nofun
  · intro h; exact .inl ⟨_, (Option.some.inj h).symm⟩
  · exact fun h => .inr (asFloat_kind _ _ _ h)
  · exact fun h => .inr (asFloat_kind _ _ _ h)

theorem classify_cases (tok : Bytes) :
    (∃ i, classify tok = .int i) ∨ classify tok = .real tok ∨ (∃ b, classify tok = .bool b) ∨
    classify tok = .null ∨ classify tok = .op tok := by
  unfold classify
  simp only []
  split
  · rename_i o hn
    have hp : parseNumber tok = some o := by
      split at hn
      · split at hn
        · exact hn
        · cases hn
      · cases hn
    rcases parseNumber_kind _ _ hp with ⟨i, rfl⟩ | rfl
    · exact .inl ⟨i, rfl⟩
    · exact .inr (.inl rfl)
  · by_cases h1 : (tok == kw_false) = true
    · rw [if_pos h1]; exact .inr (.inr (.inl ⟨_, rfl⟩))
    rw [if_neg h1]
    by_cases h2 : (tok == kw_true) = true
    · rw [if_pos h2]; exact .inr (.inr (.inl ⟨_, rfl⟩))
    rw [if_neg h2]
    by_cases h3 : (tok == kw_null) = true
    · rw [if_pos h3]; exact .inr (.inr (.inr (.inl rfl)))
    · rw [if_neg h3]; exact .inr (.inr (.inr (.inr rfl)))

theorem classify_op (tok n : Bytes) (h : classify tok = .op n) : n = tok := by
  rcases classify_cases tok with ⟨i, e⟩ | e | ⟨b, e⟩ | e | e <;> rw [e] at h <;> cases h
  rfl

/-- a token as `ScanToken` returns it: a name, a string, or the classification of a non-empty run
of bytes that does not start with `%` (`<<` and `>>` are such runs) -/
def Tok (o : Obj) : Prop :=
  (∃ n, o = .name n) ∨ (∃ s, o = .str s) ∨ ∃ c tl, (c == 37) = false ∧ o = classify (c :: tl)

def TokRes (r : Res Obj) (n : Nat) : Prop := Prog r n ∧ ∀ o rest, r = .ok o rest → Tok o

theorem tokRes_ok {o : Obj} {rest : Bytes} {n : Nat} (hl : rest.length < n) (ht : Tok o) :
    TokRes (.ok o rest) n :=
  ⟨hl, fun _ _ h => by cases h; exact ht⟩

theorem tokRes_perr {rest : Bytes} {n : Nat} (hl : rest.length < n) : TokRes (.perr rest) n := ⟨hl, nofun⟩

theorem tokRes_str {r : Res Bytes} {m n : Nat} (h : Within r m) (hmn : m < n) : TokRes (r.map .str) n :=
  ⟨prog_map _ _ _ (prog_of_within _ _ _ h hmn), fun o rest e => by
    cases r <;> cases e
    exact .inr (.inl ⟨_, rfl⟩)⟩

theorem scanToken_spec (inp : Bytes) : TokRes (scanToken inp) inp.length := by
  -- behind the white space: the first byte is not `%`, and whatever is left behind it is shorter than the input
  have key : ∀ {c cs}, CNT.skipWS inp = c :: cs → (c == 37) = false ∧ ∀ r : Bytes, r.length ≤ cs.length → r.length < inp.length :=
    fun {c cs} h => ⟨(C15cnt.skipWS_head h).2, fun r hr => by
      have := C15cnt.skipWS_le inp
      rw [h, List.length_cons] at this
      omega⟩
  have hname : ∀ cs n r, nameBody cs = (n, r) → r.length ≤ cs.length := fun cs n r h => by
    have := nameBodyS_le cs 0
    rwa [show nameBodyS 0 cs = nameBody cs from rfl, h] at this
  have hreg : ∀ cs n r, spanReg cs = (n, r) → r.length ≤ cs.length := fun cs n r h => by
    have := spanReg_le cs
    rwa [h] at this
  fun_cases scanToken inp
  · exact ⟨trivial, nofun⟩                                                              -- end of input
  -- `/`: a name, too long / within the cap
  · rename_i hsk _ _ _ hnb _; exact tokRes_perr ((key hsk).2 _ (hname _ _ _ hnb))
  · rename_i hsk _ _ _ hnb _; exact tokRes_ok ((key hsk).2 _ (hname _ _ _ hnb)) (.inl ⟨_, rfl⟩)
  -- `(`: a literal string
  · rename_i cs hsk _ _; exact tokRes_str (readStr_within 1 false 0 cs) ((key hsk).2 cs (Nat.le_refl _))
  -- `<`: `<<`, a hex string, a hex string at the end of the input
  · rename_i hsk; exact tokRes_ok ((key hsk).2 _ (by simp)) (.inr (.inr ⟨60, [60], rfl, rfl⟩))
  · rename_i hsk; exact tokRes_str (readHex_within none 0 _) ((key hsk).2 _ (Nat.le_refl _))
  · rename_i hsk; exact tokRes_str (readHex_within none 0 []) ((key hsk).2 _ (Nat.le_refl _))
  -- `>>`
  · rename_i hsk _ _ _ _; exact tokRes_ok ((key hsk).2 _ (by simp)) (.inr (.inr ⟨62, [62], rfl, rfl⟩))
  -- a run of regular bytes, too long / classified; last: a single non-regular byte
  · rename_i hsk _ _ _ _ _ _ _ hsp _; exact tokRes_perr ((key hsk).2 _ (hreg _ _ _ hsp))
  · rename_i hsk _ _ _ _ _ _ _ hsp _
    exact tokRes_ok ((key hsk).2 _ (hreg _ _ _ hsp)) (.inr (.inr ⟨_, _, (key hsk).1, rfl⟩))
  · rename_i hsk _ _ _ _ _; exact tokRes_ok ((key hsk).2 _ (Nat.le_refl _)) (.inr (.inr ⟨_, [], (key hsk).1, rfl⟩))

theorem scanToken_progress (inp : Bytes) : Prog (scanToken inp) inp.length := (scanToken_spec inp).1

/-- an operator token does not start with `%`: it is never the pseudo-operator `%image%` -/
theorem scanToken_op_name (inp rest name : Bytes) (h : scanToken inp = .ok (.op name) rest) :
    name ≠ Gen.content_OpInlineImage := by
  rcases (scanToken_spec inp).2 _ _ h with ⟨n, e⟩ | ⟨s, e⟩ | ⟨c, tl, h37, e⟩
  · cases e
  · cases e
  · rw [classify_op _ _ e.symm]
    intro he
    rw [Gen.content_OpInlineImage, List.cons.injEq] at he
    rw [he.1] at h37
    cases h37

theorem isPrefixOf_drop_le (t l : Bytes) : (l.drop t.length).length ≤ l.length := by
  simp

/-- Fuel `2·len + 1` (`+ 2` for the loops) always suffices: a turn of `readArr`/`readDictBody` spends one unit
itself and hands the rest to `readValue`, which consumes at least one byte (`Prog`, strict) — so two
units per byte; the loops may end on `]`/the terminator without consuming (`Within`, not strict). -/
theorem value_total (f : Nat) :
    (∀ (d : Nat) (inp : Bytes), 2 * inp.length + 1 ≤ f → Prog (readValue f d inp) inp.length) ∧
    (∀ (d : Nat) (acc : List Obj) (inp : Bytes), 2 * inp.length + 2 ≤ f → Within (readArr f d acc inp) inp.length) ∧
    (∀ (term : Bytes) (vd : Nat) (acc : List (Bytes × Obj)) (inp : Bytes), 2 * inp.length + 2 ≤ f →
        Within (readDictBody f term vd acc inp) inp.length) := by
  induction f with
  | zero =>
    refine ⟨?_, ?_, ?_⟩ <;> intros <;> omega
  | succ f ih =>
    obtain ⟨ihV, ihA, ihD⟩ := ih
    -- behind the white space: no longer than the input, and the element read there makes strict progress
    have V0 : ∀ (d : Nat) (inp : Bytes), 2 * inp.length + 2 ≤ f + 1 → ∀ {c cs}, CNT.skipWS inp = c :: cs →
        (c :: cs).length ≤ inp.length ∧ Prog (readValue f d (c :: cs)) (c :: cs).length := fun d inp hf _ _ h => by
      have hs := C15cnt.skipWS_le inp
      rw [h] at hs
      exact ⟨hs, ihV d _ (by omega)⟩
    refine ⟨?_, ?_, ?_⟩
    -- each of the three by the exits of its function; the fuel is given a name first, so that the exits keep it
    · intro d inp hf
      have hp := scanToken_progress inp
      obtain ⟨g, hg⟩ : ∃ g, g = f + 1 := ⟨_, rfl⟩
      rw [← hg]
      fun_cases readValue g d inp <;> cases hg
      all_goals (rename_i htok; try rw [htok] at hp)
      · exact hp                                                        -- `[` too deep
      · exact prog_of_within _ _ _ (ihA (d + 1) [] _ (by simp only [Prog.ok] at hp; omega)) hp
      · exact hp                                                        -- `<<` too deep
      · exact prog_map _ _ _ (prog_of_within _ _ _ (ihD [62, 62] (d + 1) [] _ (by simp only [Prog.ok] at hp; omega)) hp)
      · exact hp
      · exact hp
    · intro d acc inp hf
      have V := @V0 d inp hf
      obtain ⟨g, hg⟩ : ∃ g, g = f + 1 := ⟨_, rfl⟩
      rw [← hg]
      fun_cases readArr g d acc inp <;> cases hg
      · trivial
      · rename_i hsk; have := (V hsk).1; simp only [Within.ok, List.length_cons] at this ⊢; omega   -- `]`
      · rename_i hsk; exact (V hsk).1                                                            -- array full
      · rename_i hsk hv
        obtain ⟨h1, h2⟩ := V hsk
        rw [hv] at h2
        simp only [Prog.ok] at h2
        exact within_mono _ _ _ (ihA d _ _ (by omega)) (by omega)
      · trivial
      · rename_i hsk hv; obtain ⟨h1, h2⟩ := V hsk; rw [hv] at h2; simp only [Prog.perr, Within.perr] at h2 ⊢; omega
      · rename_i hsk hv; obtain ⟨h1, h2⟩ := V hsk; rw [hv] at h2; exact h2.elim
    · intro term vd acc inp hf
      have V := @V0 vd inp hf
      -- the value behind a key that left `rest`
      have V2 : ∀ {c cs} {k : Obj} {rest : Bytes}, CNT.skipWS inp = c :: cs → readValue f vd (c :: cs) = .ok k rest →
          rest.length < inp.length ∧ Prog (readValue f vd rest) rest.length := fun h hk => by
        obtain ⟨h1, h2⟩ := V h
        rw [hk] at h2
        simp only [Prog.ok] at h2
        exact ⟨by omega, ihV vd _ (by omega)⟩
      have hrec : ∀ rest' acc', rest'.length + 2 ≤ inp.length →
          Within (readDictBody f term vd acc' rest') inp.length :=
        fun rest' acc' hl => within_mono _ _ _ (ihD term vd acc' rest' (by omega)) (by omega)
      obtain ⟨g, hg⟩ : ∃ g, g = f + 1 := ⟨_, rfl⟩
      rw [← hg]
      fun_cases readDictBody g term vd acc inp <;> cases hg
      · trivial
      · rename_i hsk; have := (V hsk).1; simp only [Within.ok, List.length_drop]; omega               -- the terminator
      · rename_i hsk hk hv                                                                       -- a `null` value is dropped
        obtain ⟨h1, h2⟩ := V2 hsk hk
        rw [hv] at h2
        exact hrec _ _ (by simp only [Prog.ok] at h2; omega)
      · rename_i hsk hk hv                                                                       -- dictionary full
        obtain ⟨h1, h2⟩ := V2 hsk hk
        rw [hv] at h2
        simp only [Prog.ok, Within.perr] at h2 ⊢; omega
      · rename_i hsk hk hv                                                                       -- the entry is entered
        obtain ⟨h1, h2⟩ := V2 hsk hk
        rw [hv] at h2
        exact hrec _ _ (by simp only [Prog.ok] at h2; omega)
      · trivial
      · rename_i hsk hk hv; obtain ⟨h1, h2⟩ := V2 hsk hk; rw [hv] at h2; simp only [Prog.perr, Within.perr] at h2 ⊢; omega
      · rename_i hsk hk hv; obtain ⟨h1, h2⟩ := V2 hsk hk; rw [hv] at h2; exact h2.elim
      · rename_i hsk hk; have := (V2 hsk hk).1; simp only [Within.perr]; omega                       -- the key is not a name
      · trivial
      · rename_i hsk hv; obtain ⟨h1, h2⟩ := V hsk; rw [hv] at h2; simp only [Prog.perr, Within.perr] at h2 ⊢; omega
      · rename_i hsk hv; obtain ⟨h1, h2⟩ := V hsk; rw [hv] at h2; exact h2.elim

/-- the `EI` search: what is found lies inside the input, and the collected bytes (including the
end-of-line byte before `EI`) are at most `maxInlineImageBytes + 1` -/
def IISpec (res : IIRes) (n len : Nat) : Prop :=
  match res with
  | .found d r => r.length + d.length = len ∧ (d = [] ∨ n + d.length ≤ Gen.content_maxInlineImageBytes + 1)
  | .capped r => r.length ≤ len
  | .eof => True

theorem iiLoop_spec (inp : Bytes) : ∀ (n prev : Nat), IISpec (iiLoop n prev inp) n inp.length := by
  intro n prev
  fun_induction iiLoop n prev inp
  case case6 n prev b r _ hcap ih =>
    -- a byte is collected: the bound moves with `n`
    cases h : iiLoop (n + 1) b r with
    | found d r' =>
      rw [h] at ih
      simp [IIRes.cons, IISpec] at ih ⊢
      obtain ⟨h1, h2⟩ := ih
      refine ⟨by omega, ?_⟩
      rcases h2 with h2 | h2
      · subst h2; simp at hcap ⊢; omega
      · omega
    | capped r' => rw [h] at ih; simp [IIRes.cons, IISpec] at ih ⊢; omega
    | eof => simp [IIRes.cons, IISpec]
  all_goals simp [IISpec]

/-- the data of a successfully scanned inline image is at most `maxInlineImageBytes` long -/
def imageDataOK (op : Bytes × List Obj) : Prop :=
  op.1 = Gen.content_OpInlineImage →
    ∀ kv data, op.2 = [.dict kv, .str data] → data.length ≤ Gen.content_maxInlineImageBytes

/-- the operator `readInlineImage` returns: `%image%` with the dictionary and at most
`maxInlineImageBytes` bytes of data -/
def IsImage (op : Bytes × List Obj) : Prop :=
  ∃ kv data, data.length ≤ Gen.content_maxInlineImageBytes ∧
    op = (Gen.content_OpInlineImage, [.dict kv, .str data])

theorem iiFinish_spec (kv : List (Bytes × Obj)) (data inp : Bytes) :
    Within (iiFinish kv data inp) inp.length ∧
    ∀ op rest, iiFinish kv data inp = .ok op rest → op = (Gen.content_OpInlineImage, [.dict kv, .str data]) := by
  fun_cases iiFinish kv data inp
  · exact ⟨by simp [Within.perr], nofun⟩                              -- `EI` and a regular byte
  · exact ⟨by simp [Within.ok], fun _ _ h => by cases h; rfl⟩       -- `EI` and a non-regular byte
  · exact ⟨by simp [Within.ok], fun _ _ h => by cases h; rfl⟩       -- `EI` at the end of the input
  · exact ⟨trivial, nofun⟩
  · exact ⟨trivial, nofun⟩
  · exact ⟨Nat.le_refl _, nofun⟩

theorem afterID_le (kv : List (Bytes × Obj)) (rest : Bytes) : (afterID kv rest).length ≤ rest.length := by
  unfold afterID
  have h1 : (match rest with
      | c :: r => if cSpace c = true then r else c :: r
      | [] => []).length ≤ rest.length := by
    split
    · split <;> simp
    · simp
  simp only []
  split
  · exact Nat.le_trans (C15cnt.skipWS_le _) h1
  · exact h1

theorem imageData_total (kv : List (Bytes × Obj)) (rest : Bytes) :
    Within (imageData kv rest) rest.length ∧ (∀ op r, imageData kv rest = .ok op r → IsImage op) := by
  have fin : ∀ (data r0 : Bytes), r0.length ≤ rest.length → data.length ≤ Gen.content_maxInlineImageBytes →
      Within (iiFinish kv data r0) rest.length ∧ (∀ op r, iiFinish kv data r0 = .ok op r → IsImage op) :=
    fun data r0 hr hdl => ⟨within_mono _ _ _ (iiFinish_spec kv data r0).1 hr,
      fun op r hok => ⟨kv, data, hdl, (iiFinish_spec kv data r0).2 op r hok⟩⟩
  fun_cases imageData kv rest
  · exact ⟨trivial, nofun⟩
  · exact ⟨Nat.le_refl _, nofun⟩                 -- `Length` above the cap
  · exact ⟨trivial, nofun⟩
  · exact ⟨trivial, nofun⟩
  · -- a `Length` entry: that many bytes, at most `maxInlineImageBytes`
    rename_i hmax _ _
    exact fin _ _ (Nat.le_trans (C15cnt.skipWS_le _) (by simp)) (by simp only [List.length_take]; omega)
  · exact ⟨trivial, nofun⟩
  · rename_i hloop; have hl := iiLoop_spec rest 0 0; rw [hloop] at hl; exact ⟨hl, nofun⟩
  · -- no `Length`: the `EI` search; the end-of-line byte before `EI` is dropped from the data
    rename_i hloop
    have hl := iiLoop_spec rest 0 0
    rw [hloop] at hl
    refine fin _ _ (by have := hl.1; omega) ?_
    rcases hl.2 with h0 | h0
    · subst h0; exact Nat.zero_le _
    · simp only [List.length_dropLast]; omega

theorem readInlineImage_total (inp : Bytes) :
    Within (readInlineImage inp) inp.length ∧ (∀ op rest, readInlineImage inp = .ok op rest → IsImage op) := by
  have hd := (value_total (2 * inp.length + 2)).2.2 kwID 0 [] inp (Nat.le_refl _)
  fun_cases readInlineImage inp
  · exact ⟨trivial, nofun⟩
  · rename_i hdict; rw [hdict] at hd; exact ⟨hd, nofun⟩
  · rename_i hdict; rw [hdict] at hd; exact hd.elim
  · rename_i hdict _ _ _; rw [hdict] at hd; exact ⟨hd, nofun⟩        -- width or height out of range
  · rename_i hdict _ _ _ _; rw [hdict] at hd; exact ⟨hd, nofun⟩      -- too many pixels
  · rename_i hdict _ _ _ _
    rw [hdict] at hd
    obtain ⟨h1, h2⟩ := imageData_total _ (afterID _ _)
    exact ⟨within_mono _ _ _ h1 (Nat.le_trans (afterID_le _ _) hd), h2⟩

/-- size invariant of the composite stack: at most `maxContentNestDepth` frames, every frame
within its element cap -/
def StkOK (stk : List Frame) : Prop :=
  stk.length ≤ Gen.content_maxContentNestDepth ∧
  ∀ fr ∈ stk, fr.data.length ≤ (if fr.isDict then 2 * Gen.content_maxDictLen else Gen.content_maxArrayLen)

/-- what the caps demand of the outcome of one loop iteration -/
def StepOK (s : Step) : Prop :=
  match s with
  | .cont stk' args' => StkOK stk' ∧ args'.length ≤ Gen.content_maxOperatorArgs
  | .emit _ args' => args'.length < Gen.content_maxOperatorArgs
  | .image => True
  | .perr => True

/-- what `deliver` does with an object: the innermost open composite is full; or it takes the
object; or, with no composite open: the operand list was full and is dropped, `BI` starts an inline
image, an operator is emitted with its operands, any other object becomes an operand -/
theorem deliver_cases (stk : List Frame) (args : List Obj) (o : Obj) :
    deliver stk args o = .perr ∨ deliver stk args o = .image ∨
    (∃ top below, stk = top :: below ∧
      ¬ top.data.length ≥ (if top.isDict then 2 * Gen.content_maxDictLen else Gen.content_maxArrayLen) ∧
      deliver stk args o = .cont ({ top with data := top.data ++ [o] } :: below) args) ∨
    (stk = [] ∧ (deliver stk args o = .cont [] [] ∨
      (∃ name, o = .op name ∧ ¬ args.length ≥ Gen.content_maxOperatorArgs ∧ deliver stk args o = .emit name args) ∨
      deliver stk args o = .cont [] (if args.length < Gen.content_maxOperatorArgs then args ++ [o] else args))) := by
  fun_cases deliver stk args o
  · exact .inl rfl
  · rename_i h; exact .inr (.inr (.inl ⟨_, _, rfl, h, rfl⟩))
  · exact .inr (.inr (.inr ⟨rfl, .inl rfl⟩))
  · exact .inr (.inl rfl)
  · rename_i h _; exact .inr (.inr (.inr ⟨rfl, .inr (.inl ⟨_, rfl, h, rfl⟩)⟩))
  · exact .inr (.inr (.inr ⟨rfl, .inr (.inr rfl)⟩))

theorem deliver_caps (stk : List Frame) (args : List Obj) (o : Obj) (hs : StkOK stk)
    (ha : args.length ≤ Gen.content_maxOperatorArgs) : StepOK (deliver stk args o) := by
  rcases deliver_cases stk args o with e | e | ⟨top, below, rfl, hlt, e⟩ | ⟨rfl, e | ⟨name, _, hlt, e⟩ | e⟩ <;> rw [e]
  · trivial
  · trivial
  · simp only [StepOK, StkOK, List.length_cons, List.mem_cons, forall_eq_or_imp] at hs ⊢
    refine ⟨⟨hs.1, ?_, hs.2.2⟩, ha⟩
    simp only [List.length_append, List.length_singleton]
    omega
  · exact ⟨hs, Nat.zero_le _⟩
  · exact Nat.lt_of_not_le hlt
  · refine ⟨hs, ?_⟩
    split
    · simp only [List.length_append, List.length_singleton]; omega
    · exact ha

theorem stkOK_tail (top : Frame) (below : List Frame) (h : StkOK (top :: below)) : StkOK below := by
  simp only [StkOK, List.length_cons, List.mem_cons, forall_eq_or_imp] at h ⊢
  exact ⟨by omega, h.2.2⟩

/-- one iteration of the token loop: a parse error; a composite opened; the token ignored; an odd
dictionary frame dropped; a composite closed and handed to the frame below; or the token handed on -/
theorem step_cases (stk : List Frame) (args : List Obj) (tok : Obj) :
    step stk args tok = .perr ∨
    (∃ d, ¬ stk.length ≥ Gen.content_maxContentNestDepth ∧
      step stk args tok = .cont ({ isDict := d, data := [] } :: stk) args) ∨
    step stk args tok = .cont stk args ∨
    (∃ top below, stk = top :: below ∧
      (step stk args tok = .cont below args ∨
       step stk args tok = deliver below args (.dict (mkDict top.data [])) ∨
       step stk args tok = deliver below args (.arr top.data))) ∨
    step stk args tok = deliver stk args tok := by
  fun_cases step stk args tok
  · exact .inl rfl                                                   -- `<<`, stack full
  · rename_i h; exact .inr (.inl ⟨true, h, rfl⟩)                      -- `<<`
  · exact .inr (.inr (.inl rfl))                                     -- `>>` on an array frame
  · exact .inr (.inr (.inr (.inl ⟨_, _, rfl, .inl rfl⟩)))            -- `>>`, odd frame dropped
  · exact .inr (.inr (.inr (.inl ⟨_, _, rfl, .inr (.inl rfl)⟩)))     -- `>>`
  · exact .inr (.inr (.inl rfl))                                     -- `>>`, nothing open
  · exact .inl rfl                                                   -- `[`, stack full
  · rename_i h; exact .inr (.inl ⟨false, h, rfl⟩)                     -- `[`
  · exact .inr (.inr (.inl rfl))                                     -- `]` on a dictionary frame
  · exact .inr (.inr (.inr (.inl ⟨_, _, rfl, .inr (.inr rfl)⟩)))     -- `]`
  · exact .inr (.inr (.inl rfl))                                     -- `]`, nothing open
  · exact .inr (.inr (.inr (.inr rfl)))                              -- any other operator token
  · exact .inr (.inr (.inr (.inr rfl)))                              -- any other object

theorem step_caps (stk : List Frame) (args : List Obj) (tok : Obj) (hs : StkOK stk)
    (ha : args.length ≤ Gen.content_maxOperatorArgs) : StepOK (step stk args tok) := by
  rcases step_cases stk args tok with e | ⟨d, hlt, e⟩ | e | ⟨top, below, rfl, e | e | e⟩ | e <;> rw [e]
  · trivial
  · refine ⟨?_, ha⟩
    simp only [StkOK, List.length_cons, List.mem_cons, forall_eq_or_imp] at hs ⊢
    exact ⟨by omega, by simp, hs.2⟩
  · exact ⟨hs, ha⟩
  · exact ⟨stkOK_tail top below hs, ha⟩
  · exact deliver_caps below args _ (stkOK_tail top below hs) ha
  · exact deliver_caps below args _ (stkOK_tail top below hs) ha
  · exact deliver_caps stk args _ hs ha

theorem deliver_emit (stk : List Frame) (args : List Obj) (o : Obj) (name : Bytes) (args' : List Obj)
    (h : deliver stk args o = .emit name args') : o = .op name := by
  rcases deliver_cases stk args o with e | e | ⟨_, _, _, _, e⟩ | ⟨_, e | ⟨nm, rfl, _, e⟩ | e⟩ <;> rw [e] at h <;> cases h
  rfl

theorem step_emit (stk : List Frame) (args : List Obj) (tok : Obj) (name : Bytes) (args' : List Obj)
    (h : step stk args tok = .emit name args') : tok = .op name := by
  rcases step_cases stk args tok with e | ⟨d, _, e⟩ | e | ⟨top, below, _, e | e | e⟩ | e <;> rw [e] at h
  · cases h
  · cases h
  · cases h
  · cases h
  · cases deliver_emit _ _ _ _ _ h
  · cases deliver_emit _ _ _ _ _ h
  · exact deliver_emit _ _ _ _ _ h

/-- what `scan_total` guarantees about a scanned operator: at most `maxOperatorArgs` operands,
inline image data of at most `maxInlineImageBytes` bytes -/
def OpCaps (op : Bytes × List Obj) : Prop :=
  op.2.length ≤ Gen.content_maxOperatorArgs ∧ imageDataOK op

theorem imageDataOK_of_len (op : Bytes × List Obj) (h : imageDataOK op) : imageDataOK op := h

theorem scanLoop_total : ∀ (f : Nat) (stk : List Frame) (args : List Obj) (inp : Bytes),
    inp.length + 1 ≤ f → StkOK stk → args.length ≤ Gen.content_maxOperatorArgs →
    Prog (scanLoop f stk args inp) inp.length ∧
    (∀ op rest, scanLoop f stk args inp = .ok op rest → OpCaps op) := by
  intro f stk args inp
  fun_induction scanLoop f stk args inp
  all_goals intro hf hs ha
  case case1 => omega
  case case2 => exact ⟨trivial, nofun⟩
  case case3 f stk args inp r htok => have hp := scanToken_progress inp; rw [htok] at hp; exact ⟨hp, nofun⟩
  case case4 f stk args inp htok => have hp := scanToken_progress inp; rw [htok] at hp; exact hp.elim
  case case5 f stk args inp tok rest htok stk' args' hstep ih =>      -- the loop goes on
    have hp := scanToken_progress inp
    rw [htok] at hp
    have hlt : rest.length < inp.length := hp
    have hc := step_caps stk args tok hs ha
    rw [hstep] at hc
    obtain ⟨h1, h2⟩ := ih (by omega) hc.1 hc.2
    exact ⟨prog_mono _ _ _ h1 (Nat.le_of_lt hlt), h2⟩
  case case6 f stk args inp tok rest htok name args' hstep =>         -- an operator is emitted
    have hp := scanToken_progress inp
    rw [htok] at hp
    have hc := step_caps stk args tok hs ha
    rw [hstep] at hc
    refine ⟨hp, fun op rest' hok => ?_⟩
    cases hok
    -- what is emitted is the operator token itself, and no token is `%image%`
    cases step_emit _ _ _ _ _ hstep
    exact ⟨Nat.le_of_lt hc, fun hname => absurd hname (scanToken_op_name inp rest name htok)⟩
  case case7 f stk args inp tok rest htok hstep =>                    -- an inline image
    have hp := scanToken_progress inp
    rw [htok] at hp
    obtain ⟨h1, h2⟩ := readInlineImage_total rest
    refine ⟨prog_of_within _ _ _ h1 hp, fun op rest' hok => ?_⟩
    obtain ⟨kv, data, hl, rfl⟩ := h2 op rest' hok
    exact ⟨by show (2 : Nat) ≤ Gen.content_maxOperatorArgs; decide +kernel,
      fun _ _ _ hargs => by cases hargs; exact hl⟩
  case case8 f stk args inp tok rest htok hstep => have hp := scanToken_progress inp; rw [htok] at hp; exact ⟨hp, nofun⟩

theorem stkOK_nil : StkOK [] := by simp [StkOK]

theorem scanOne_total (inp : Bytes) :
    Prog (scanOne inp) inp.length ∧ (∀ op rest, scanOne inp = .ok op rest → OpCaps op) := by
  -- behind the blanks: what is left behind the first byte is shorter than the input
  have key : ∀ {c cs}, skipSp inp = c :: cs → ∀ r : Bytes, r.length ≤ cs.length → r.length < inp.length :=
    fun {c cs} h r hr => by
      have := skipSp_le inp
      rw [h, List.length_cons] at this
      omega
  -- `%` is not an end-of-line byte: the comment is not empty
  have hcmt : ∀ {c cs cm r}, (c == 37) = true → spanCmt (c :: cs) = (cm, r) → r.length ≤ cs.length :=
    fun {c cs cm r} h37 hsp => by
      rw [beq_iff_eq] at h37
      subst h37
      have : (spanCmt (37 :: cs)).2.length ≤ cs.length := C15cnt.spanCmt_le cs
      rwa [hsp] at this
  fun_cases scanOne inp
  · exact ⟨trivial, nofun⟩
  · rename_i hsk h37 _ _ hsp _; exact ⟨key hsk _ (hcmt h37 hsp), nofun⟩
  · rename_i hsk h37 _ _ hsp _
    refine ⟨key hsk _ (hcmt h37 hsp), fun op rest' hok => ?_⟩
    cases hok
    exact ⟨by show (1 : Nat) ≤ Gen.content_maxOperatorArgs; decide +kernel,
      fun hname => absurd hname (show Gen.content_OpRawContent ≠ Gen.content_OpInlineImage by decide)⟩
  · rename_i c cs hsk _
    have h := scanLoop_total ((c :: cs).length + 1) [] [] (c :: cs) (Nat.le_refl _) stkOK_nil (Nat.zero_le _)
    -- nothing below depends on what the loop returns; left in place, the result would be unfolded
    generalize scanLoop ((c :: cs).length + 1) [] [] (c :: cs) = res at h ⊢
    have := skipSp_le inp
    rw [hsk] at this
    exact ⟨prog_mono _ _ _ h.1 this, h.2⟩

/-- from `|inp| + 1` on the fuel does not matter: there is one result, and its operators are within the caps -/
theorem scanAll_ends (inp : Bytes) :
    ∃ ops, (∀ f, inp.length + 1 ≤ f → scanAll f inp = some ops) ∧ ∀ op ∈ ops, OpCaps op := by
  obtain ⟨hp, hcaps⟩ := scanOne_total inp
  -- such a fuel is a successor, and `scanAll` then starts with `scanOne inp`
  have step : ∀ {ops}, (∀ f, inp.length ≤ f → scanAll (f + 1) inp = some ops) →
      ∀ f, inp.length + 1 ≤ f → scanAll f inp = some ops := fun h f hf => by
    obtain ⟨f, rfl⟩ := Nat.exists_eq_succ_of_ne_zero (Nat.ne_of_gt (Nat.lt_of_lt_of_le (Nat.succ_pos _) hf))
    exact h f (Nat.le_of_succ_le_succ hf)
  cases hone : scanOne inp with
  | eof => exact ⟨[], step fun f _ => by rw [scanAll, hone], nofun⟩
  | fuel => rw [hone] at hp; exact hp.elim
  | perr r =>
    rw [hone] at hp
    have hr : r.length < inp.length := Prog.perr.mp hp
    obtain ⟨ops, h1, h2⟩ := scanAll_ends r
    exact ⟨ops, step fun f hf => by rw [scanAll, hone]; exact h1 f (by omega), h2⟩
  | ok op rest =>
    rw [hone] at hp
    have hr : rest.length < inp.length := Prog.ok.mp hp
    obtain ⟨ops, h1, h2⟩ := scanAll_ends rest
    refine ⟨op :: ops, step fun f hf => by rw [scanAll, hone]; simp only [h1 f (by omega)]; rfl, fun o ho => ?_⟩
    rcases List.mem_cons.mp ho with rfl | ho
    · exact hcaps _ _ hone
    · exact h2 o ho
termination_by inp.length
decreasing_by all_goals omega

theorem scanAll_total : ∀ (f : Nat) (inp : Bytes), inp.length + 1 ≤ f →
    ∃ ops, scanAll f inp = some ops ∧ ∀ op ∈ ops, OpCaps op := fun f inp hf =>
  let ⟨ops, h, hc⟩ := scanAll_ends inp
  ⟨ops, h f hf, hc⟩

/-- On *arbitrary* bytes `scan` (= `pumpScanner` to the end of the stream) never returns the
out-of-fuel result, and every operator it yields satisfies the caps. -/
theorem scan_total (inp : Bytes) : ∃ ops, scan inp = some ops ∧ ∀ op ∈ ops, OpCaps op :=
  scanAll_total (inp.length + 2) inp (by omega)

theorem scanAll_fuel_indep : ∀ (f g : Nat) (inp : Bytes), inp.length + 1 ≤ f → inp.length + 1 ≤ g →
    scanAll f inp = scanAll g inp := fun f g inp hf hg =>
  let ⟨_, h, _⟩ := scanAll_ends inp
  (h f hf).trans (h g hg).symm

end PdfVerif.C15cntt
