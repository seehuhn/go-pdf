import PdfVerif.Model.FAAsciiHex
import PdfVerif.Model.FAAscii85
import PdfVerif.Model.FARunLength
import PdfVerif.Model.FALZW
import PdfVerif.Lemmas.Digits
/-!
# C06 (part A) — decode(encode x) = x for ASCIIHex, ASCII85 and RunLength; chunking of `Write`

A reader is a relation (`Emits`, `run_reads`); per codec a structure says what a reader must do with
the pieces the writer writes (`HexSem`, `A85Sem`, `PacketSem`) and one theorem that every such reader
reads the writer's output as the input (`ahex_reads`, `a85_reads`, `rl_reads`).  The round trips are
these at the model decoders; C07 takes the reference decoders.  The chunking theorems cover all four
writers (LZW's round trip is in C06faL).
-/
namespace PdfVerif.C06fa
open PdfVerif PdfVerif.FA

/-! `feedG step st xs` (`G`: generic in the writer's `step`) is one `Write(xs)` call: the state
afterwards and the bytes handed to the underlying writer.  Writing `xs` and then `ys` and closing
gives the same output as writing `xs ++ ys` at once — for every split, hence for every sequence of
`Write` calls. -/

section Chunking
variable {σ ε : Type} (step : σ → Nat → σ × List ε)

/-- one `Write` call -/
def feedG : σ → Bytes → σ × List ε
  | st, [] => (st, [])
  | st, b :: bs => let r := feedG (step st b).1 bs; (r.1, (step st b).2 ++ r.2)

theorem run_append (run : σ → Bytes → List ε)
    (hcons : ∀ st b bs, run st (b :: bs) = (step st b).2 ++ run (step st b).1 bs) (xs ys : Bytes) : ∀ st,
    run st (xs ++ ys) = (feedG step st xs).2 ++ run (feedG step st xs).1 ys := by
  induction xs with
  | nil => intro st; simp [feedG]
  | cons b bs ih => intro st; simp [hcons, feedG, ih]

end Chunking

/-! A reader is given by a relation `Rd s out`: it decodes the complete stream `s` to `out` and a clean
end of data.  The model decoders are readers (`ofDec`), and so are the reference decoders of `Spec/`
(C07), whatever their shape. -/

/-- the writers' line buffers and packets are of this kind, so what they decode to can be put
    together piece by piece -/
def Emits (Rd : Bytes → Bytes → Prop) (e F : Bytes) : Prop := ∀ rest out, Rd rest out → Rd (e ++ rest) (F ++ out)

theorem emits_nil (Rd : Bytes → Bytes → Prop) : Emits Rd [] [] := fun _ _ h => h

theorem emits_append {Rd : Bytes → Bytes → Prop} {e1 F1 e2 F2 : Bytes} (h1 : Emits Rd e1 F1) (h2 : Emits Rd e2 F2) :
    Emits Rd (e1 ++ e2) (F1 ++ F2) := by
  intro rest out h
  rw [List.append_assoc, List.append_assoc]
  exact h1 _ _ (h2 _ _ h)

def ofDec (D : Bytes → DecRes) (s out : Bytes) : Prop := D s = (out, none)

theorem emits_ofDec {D : Bytes → DecRes} {e F : Bytes} (h : ∀ rest, D (e ++ rest) = DecRes.pre F (D rest)) :
    Emits (ofDec D) e F := by
  intro rest out hr
  rw [ofDec, h, show D rest = _ from hr]
  rfl

/-- `Inv st p`: the writer is in state `st` and `p` are the input bytes it has accepted but that are
    not yet in what the reader has read.  Each step emits something the reader reads as a prefix `F` of
    `p ++ [b]` and keeps the rest pending; `close` writes out what is pending and the end marker. -/
theorem run_reads {σ : Type} (step : σ → Nat → σ × Bytes) (close : σ → Bytes) (run : σ → Bytes → Bytes)
    (hnil : ∀ st, run st [] = close st)
    (hcons : ∀ st b bs, run st (b :: bs) = (step st b).2 ++ run (step st b).1 bs)
    (Rd : Bytes → Bytes → Prop) (Inv : σ → Bytes → Prop) (ok : Nat → Prop)
    (hstep : ∀ st p b, ok b → Inv st p →
      ∃ F p', Inv (step st b).1 p' ∧ Emits Rd (step st b).2 F ∧ F ++ p' = p ++ [b])
    (hclose : ∀ st p, Inv st p → Rd (close st) p) :
    ∀ xs, (∀ b ∈ xs, ok b) → ∀ st p, Inv st p → Rd (run st xs) (p ++ xs) := by
  intro xs
  induction xs with
  | nil => intro _ st p h; rw [hnil, List.append_nil]; exact hclose st p h
  | cons b bs ih =>
    intro hx st p h
    obtain ⟨F, p', hI, hE, hF⟩ := hstep st p b (hx b List.mem_cons_self) h
    have := hE _ _ (ih (fun c hc => hx c (List.mem_cons_of_mem _ hc)) _ _ hI)
    rw [hcons]
    rwa [← List.append_assoc, hF, List.append_assoc] at this

section AsciiHex
open AsciiHex

theorem ahex_digits_val : ∀ n, n < 16 → hexVal (alpha n) = some n := by decide +kernel

theorem ahex_digits_eq (b : Nat) : digits b = [alpha (b / 16), alpha (b % 16)] := rfl

theorem ahex_dec_pair (d : Nat → Nat) (hd : ∀ n, n < 16 → hexVal (d n) = some n) (b : Nat) (hb : b < 256)
    (rest : Bytes) : dec none (d (b / 16) :: d (b % 16) :: rest) = DecRes.pre [b] (dec none rest) := by
  have h3 : b / 16 * 2 ^ Gen.ahex_reader_Read_shift + b % 16 = b := by
    rw [show Gen.ahex_reader_Read_shift = 4 from rfl]; omega
  simp [dec, hd (b / 16) (by omega), hd (b % 16) (by omega), h3]

theorem ahex_dec_digits (b : Nat) (hb : b < 256) (rest : Bytes) :
    dec none (digits b ++ rest) = DecRes.pre [b] (dec none rest) :=
  ahex_dec_pair alpha ahex_digits_val b hb rest

/-- the model's branch "line full and empty" cannot occur: `cap = 80`, so `len + 3 > cap` needs `len ≥ 78` -/
theorem ahex_step_cases (buf : Bytes) (b : Nat) :
    step buf b = (buf ++ digits b, []) ∨ step buf b = (digits b, buf ++ [10]) := by
  fun_cases step buf b with
  | case1 => exact .inr rfl
  | case2 h h0 => have : cap = 80 := rfl; have : Gen.ahex_writer_Write_reserve = 3 := rfl; omega
  | case3 => exact .inl rfl

theorem ahex_close_cases (buf : Bytes) : close buf = buf ++ [62] ∨ close buf = buf ++ [10, 62] := by
  unfold close
  split
  · exact .inr (List.append_assoc ..)
  · exact .inl rfl

theorem ahex_dec_nl (rest : Bytes) : dec none (10 :: rest) = dec none rest := by
  have : hexVal 10 = none ∧ isWs 10 = true := by decide
  simp [dec, this]

theorem ahex_dec_gt (rest : Bytes) : dec none (62 :: rest) = ([], none) := by
  have : hexVal 62 = none ∧ isWs 62 = false ∧ Gen.ahex_reader_Read_gt = 62 := by decide
  simp [dec, this]

/-- what a reader must do with the pieces `asciihex/write.go` hands to the underlying writer -/
structure HexSem (Rd : Bytes → Bytes → Prop) : Prop where
  pair : ∀ b, b < 256 → Emits Rd (digits b) [b]
  nl : Emits Rd [10] []
  eod : Rd [62] []

theorem ahex_step_ok {Rd : Bytes → Bytes → Prop} (sem : HexSem Rd) (buf p : Bytes) (b : Nat) (hb : b < 256)
    (h : Emits Rd buf p) :
    ∃ F p', Emits Rd (step buf b).1 p' ∧ Emits Rd (step buf b).2 F ∧ F ++ p' = p ++ [b] := by
  rcases ahex_step_cases buf b with hs | hs <;> rw [hs]
  · exact ⟨[], p ++ [b], emits_append h (sem.pair b hb), emits_nil _, rfl⟩
  · exact ⟨p, [b], sem.pair b hb, by simpa using emits_append h sem.nl, rfl⟩

theorem ahex_close_ok {Rd : Bytes → Bytes → Prop} (sem : HexSem Rd) (buf p : Bytes) (h : Emits Rd buf p) :
    Rd (close buf) p := by
  rcases ahex_close_cases buf with hc | hc <;> rw [hc]
  · simpa using h _ _ sem.eod
  · simpa using h _ _ (sem.nl _ _ sem.eod)

theorem ahex_reads {Rd : Bytes → Bytes → Prop} (sem : HexSem Rd) (x : Bytes) (hx : AllBytes x) : Rd (encode x) x :=
  run_reads step close run (fun _ => rfl) (fun _ _ _ => rfl) Rd (Emits Rd) (· < 256) (ahex_step_ok sem)
    (ahex_close_ok sem) x hx [] [] (emits_nil _)

theorem ahex_model_sem : HexSem (ofDec (dec none)) where
  pair := fun b hb => emits_ofDec (ahex_dec_digits b hb)
  nl := emits_ofDec ahex_dec_nl
  eod := ahex_dec_gt []

/-- **ASCIIHex round trip**: for every byte string, the reader applied to everything the
    writer hands to the underlying stream returns the input and a clean end of data. -/
theorem asciihex_rt (x : Bytes) (hx : AllBytes x) : decode (encode x) = (x, none) :=
  ahex_reads ahex_model_sem x hx

example : decode (encode [0, 1, 254, 255, 16, 32]) = ([0, 1, 254, 255, 16, 32], none) := by decide +kernel
-- a line break is really produced (41 bytes > one line of 39) and read over
example : (encode (List.replicate 41 171)).contains 10 = true ∧
    decode (encode (List.replicate 41 171)) = (List.replicate 41 171, none) := by decide +kernel

end AsciiHex

section Ascii85
open Ascii85

attribute [local simp] Gen.a85_ascii85Reader_Read_gt Gen.a85_ascii85Reader_Read_bang
  Gen.a85_ascii85Reader_Read_span Gen.a85_ascii85Reader_Read_base Gen.a85_ascii85Reader_Read_z
  Gen.a85_ascii85Reader_Read_group Gen.a85_ascii85Reader_Read_tilde Gen.a85_ascii85Reader_Read_pad
  Gen.a85_ascii85Writer_Close_tilde Gen.a85_ascii85Writer_Close_gt Gen.a85_ascii85Writer_Write_byteBits
  Gen.a85_ascii85Writer_Write_groupBytes Gen.a85_ascii85Writer_Write_reserve Gen.a85_ascii85Writer_Write_nl
  Gen.a85_ascii85Writer_Write_z Gen.a85_ascii85Writer_Write_base Gen.a85_ascii85Writer_Write_bang

/-! Both alphabets of the codec are positional: a group is four digits in base 256 and five digits
in base 85 (written with offset `'!'`). -/

def digitsBE (B off : Nat) : Nat → Nat → Bytes
  | 0, _ => []
  | m + 1, v => digitsBE B off m (v / B) ++ [v % B + off]

theorem digitsBE_nil (B off v : Nat) : digitsBE B off 0 v = [] := rfl

theorem digitsBE_succ (B off m v : Nat) :
    digitsBE B off (m + 1) v = digitsBE B off m (v / B) ++ [v % B + off] := rfl

theorem digitsBE_eq (B off : Nat) : ∀ m v, digitsBE B off m v = (Digits.be B v m).map (· + off)
  | 0, _ => rfl
  | m + 1, v => by rw [digitsBE_succ, digitsBE_eq B off m, Digits.be_succ_low, List.map_append]; rfl

theorem digitsBE_zero (B m v : Nat) : digitsBE B 0 m v = Digits.be B v m := by
  rw [digitsBE_eq]; exact List.map_id' _

theorem digitsBE_length (B off m v : Nat) : (digitsBE B off m v).length = m := by
  rw [digitsBE_eq, List.length_map, Digits.be_length]

theorem digitsBE_take (B off k n v : Nat) :
    (digitsBE B off (k + n) v).take k = digitsBE B off k (v / B ^ n) := by
  rw [digitsBE_eq, digitsBE_eq, Digits.be_add, List.map_append,
    List.take_left' (by rw [List.length_map, Digits.be_length])]

theorem digitsBE_push (B off k v b : Nat) (hb : b < B) :
    digitsBE B off (k + 1) (v * B + b) = digitsBE B off k v ++ [b + off] := by
  have hB : 0 < B := by omega
  rw [digitsBE_succ, Nat.mul_comm v B, Nat.mul_add_div hB, Nat.mul_add_mod, Nat.div_eq_of_lt hb, Nat.mod_eq_of_lt hb,
    Nat.add_zero]

theorem bytes4_eq (v : Nat) : bytes4 v = digitsBE 256 0 4 v := by
  simp [bytes4, digitsBE_succ, digitsBE_nil, Nat.div_div_eq_div_mul]

theorem digits5_eq (v : Nat) : digits5 v = digitsBE 85 33 5 v := by
  simp [digits5, base, bang, digitsBE_succ, digitsBE_nil]

theorem a85_dec_digit (v k d : Nat) (rest : Bytes) (hd : d < 85) (hk : k + 1 ≠ 5) :
    dec v k ((d + 33) :: rest) = dec ((v * 85 + d) % u32) (k + 1) rest := by
  have h1 : 33 ≤ d + 33 ∧ d + 33 < 33 + 85 := by omega
  have hk' : ¬ k = 4 := by omega
  simp [dec, h1, hk']

theorem a85_dec_digit_last (v d : Nat) (rest : Bytes) (hd : d < 85) :
    dec v 4 ((d + 33) :: rest) = DecRes.pre (bytes4 ((v * 85 + d) % u32)) (dec 0 0 rest) := by
  have h1 : 33 ≤ d + 33 ∧ d + 33 < 33 + 85 := by omega
  simp [dec, h1]

/-- no group is complete and `85 ^ 4 < 2 ^ 32`, so nothing wraps -/
theorem a85_dec_digits (m : Nat) (hm : m ≤ 4) : ∀ q rest, q < 85 ^ m →
    dec 0 0 (digitsBE 85 33 m q ++ rest) = dec q m rest := by
  induction m with
  | zero => intro q rest hq; simp [show q = 0 by omega, digitsBE_nil]
  | succ m ih =>
    intro q rest hq
    have h4 : (85 : Nat) ^ (m + 1) ≤ 85 ^ 4 := Nat.pow_le_pow_right (by decide) hm
    have hq' : q / 85 < 85 ^ m := Nat.div_lt_of_lt_mul (by rw [Nat.mul_comm, ← Nat.pow_succ]; exact hq)
    rw [digitsBE_succ, List.append_assoc, List.singleton_append, ih (by omega) _ _ hq',
      a85_dec_digit _ _ _ _ (Nat.mod_lt _ (by decide)) (by omega), Nat.div_add_mod',
      Nat.mod_eq_of_lt (by simp only [u32]; omega)]

theorem a85_dec_digits5 (v : Nat) (hv : v < 2 ^ 32) (rest : Bytes) :
    dec 0 0 (digits5 v ++ rest) = DecRes.pre (bytes4 v) (dec 0 0 rest) := by
  rw [digits5_eq, digitsBE_succ, List.append_assoc, List.singleton_append,
    a85_dec_digits 4 (Nat.le_refl _) _ _ (by omega), a85_dec_digit_last _ _ _ (Nat.mod_lt _ (by decide)),
    Nat.div_add_mod', Nat.mod_eq_of_lt (show v < u32 from hv)]

theorem a85_dec_z (rest : Bytes) : dec 0 0 (122 :: rest) = DecRes.pre [0, 0, 0, 0] (dec 0 0 rest) := by
  simp [dec, bytes4]

theorem a85_dec_nl (v k : Nat) (rest : Bytes) : dec v k (10 :: rest) = dec v k rest := by
  have : isSpace 10 = true := by decide
  simp [dec, this]

theorem a85_dec_tilde (v k : Nat) (hk : 2 ≤ k) (rest : Bytes) :
    dec v k (126 :: 62 :: rest) = ((bytes4 (padV (5 - k) v)).take (k - 1), none) := by
  have h1 : ¬ k = 0 := by omega
  have h2 : ¬ k = 1 := by omega
  have h3 : isSpace 126 = false := by decide
  simp [dec, decEnd, h1, h2, h3]

theorem a85_dec_tilde0 (rest : Bytes) : dec 0 0 (126 :: 62 :: rest) = ([], none) := by
  have h3 : isSpace 126 = false := by decide
  simp [dec, decEnd, h3]

/-! The partial final group: `Close` shifts its `k` bytes `v` up to a full word `v·256ⁿ` (`k + n = 4`) and writes the leading
`k + 1` of its five digits, i.e. `q = v·256ⁿ / 85ⁿ`.  Either reader fills up with `n` digits 84,
which gives `q·85ⁿ + (85ⁿ − 1)`. -/

theorem a85_pad_step (q E : Nat) :
    (q * 85 + 84) * E + (E - 1) = q * (E * 85) + (E * 85 - 1) := by
  rw [Nat.add_mul, Nat.mul_assoc q 85 E, Nat.mul_comm 85 E]
  omega

/-- the value filled up lies in `[v·256ⁿ, (v+1)·256ⁿ)` because `85ⁿ ≤ 256ⁿ`: it does not
    overflow 32 bits and its `k` leading bytes are `v` -/
theorem a85_pad (k n v : Nat) (hkn : k + n = 4) (hv : v < 256 ^ k) :
    v * 256 ^ n / 85 ^ n < 85 ^ (k + 1) ∧
    v * 256 ^ n / 85 ^ n * 85 ^ n + (85 ^ n - 1) < 2 ^ 32 ∧
    (v * 256 ^ n / 85 ^ n * 85 ^ n + (85 ^ n - 1)) / 256 ^ n = v := by
  have hE : 0 < 85 ^ n := Nat.pow_pos (by decide)
  have hEB : 85 ^ n ≤ 256 ^ n := Nat.pow_le_pow_left (by decide) n
  have h1 := Nat.div_mul_le_self (v * 256 ^ n) (85 ^ n)
  have h2 := Nat.lt_div_mul_add (a := v * 256 ^ n) hE
  have h3 : (v + 1) * 256 ^ n ≤ 2 ^ 32 := by
    rw [show (2 : Nat) ^ 32 = 256 ^ (k + n) by rw [hkn], Nat.pow_add]
    exact Nat.mul_le_mul_right _ hv
  have h4 : (v + 1) * 256 ^ n = v * 256 ^ n + 256 ^ n := Nat.succ_mul ..
  refine ⟨Nat.div_lt_of_lt_mul ?_, by omega, Nat.div_eq_of_lt_le (by omega) (by omega)⟩
  rw [← Nat.pow_add, show n + (k + 1) = 5 by omega]
  omega

theorem a85_padV_eq (n : Nat) : ∀ q, q * 85 ^ n + (85 ^ n - 1) < 2 ^ 32 → padV n q = q * 85 ^ n + (85 ^ n - 1) := by
  induction n with
  | zero => intro q _; simp [padV]
  | succ n ih =>
    intro q h
    have hE : 1 ≤ 85 ^ n := Nat.pow_pos (by decide)
    rw [Nat.pow_succ, ← a85_pad_step q _] at h ⊢
    have : q * 85 + 84 ≤ (q * 85 + 84) * 85 ^ n := Nat.le_mul_of_pos_right _ hE
    rw [padV, Gen.a85_ascii85Reader_Read_base, Gen.a85_ascii85Reader_Read_pad,
      Nat.mod_eq_of_lt (show q * 85 + 84 < u32 by simp only [u32]; omega), ih _ h]

theorem a85_tail (k v : Nat) (hk3 : k ≤ 3) (hv : v < 256 ^ k) : ∃ n q, k + n = 4 ∧
    (digits5 (v * 2 ^ ((4 - k) * 8))).take (k + 1) = digitsBE 85 33 (k + 1) q ∧ q < 85 ^ (k + 1) ∧
    q * 85 ^ n + (85 ^ n - 1) < 2 ^ 32 ∧
    (digitsBE 256 0 4 (q * 85 ^ n + (85 ^ n - 1))).take k = digitsBE 256 0 k v := by
  obtain ⟨n, hn⟩ : ∃ n, k + n = 4 := ⟨4 - k, by omega⟩
  obtain ⟨hq, hlt, hdiv⟩ := a85_pad k n v hn hv
  refine ⟨n, _, hn, ?_, hq, hlt, ?_⟩
  · rw [show 4 - k = n by omega, Nat.pow_mul', digits5_eq, show 5 = k + 1 + n by omega, digitsBE_take]
  · rw [← hn, digitsBE_take, hdiv]

theorem a85_dec_tail (k v : Nat) (hk1 : 1 ≤ k) (hk3 : k ≤ 3) (hv : v < 256 ^ k) :
    dec 0 0 ((digits5 (v * 2 ^ ((4 - k) * 8))).take (k + 1) ++ [126, 62]) = (digitsBE 256 0 k v, none) := by
  obtain ⟨n, q, hn, hd, hq, hlt, hb⟩ := a85_tail k v hk3 hv
  rw [hd, a85_dec_digits (k + 1) (by omega) _ _ hq, a85_dec_tilde _ _ (by omega), show 5 - (k + 1) = n by omega,
    a85_padV_eq n _ hlt, bytes4_eq, Nat.add_sub_cancel, hb]

theorem a85_step_part (w : W) (b : Nat) (h : w.k + 1 ≠ 4) :
    step w b = (⟨w.v * 256 + b, w.k + 1, w.buf⟩, []) := by
  have h' : ¬ w.k = 3 := by omega
  simp [step, h']

/-- the `grp` of `Ascii85.step` -/
def a85Group (v : Nat) : Bytes := if v == 0 then [122] else digits5 v

theorem a85_step_full (w : W) (b : Nat) (h : w.k + 1 = 4) :
    step w b = (if cap < w.buf.length + 8 then (⟨0, 0, a85Group (w.v * 256 + b)⟩, w.buf ++ [10])
      else (⟨0, 0, w.buf ++ a85Group (w.v * 256 + b)⟩, [])) := by
  have h' : w.k = 3 := by omega
  simp [step, h', a85Group]

/-- the accumulator `w.v` holds the `w.k` bytes of the group begun (Go: `w.v`, `w.k`) -/
def A85WOK (w : W) : Prop := w.k ≤ 3 ∧ w.v < 256 ^ w.k

theorem a85_wok_zero (buf : Bytes) : A85WOK ⟨0, 0, buf⟩ := ⟨Nat.zero_le _, Nat.one_pos⟩

theorem a85_wok_push {w : W} (hw : A85WOK w) (b : Nat) (hb : b < 256) (hk : w.k + 1 ≠ 4) :
    A85WOK ⟨w.v * 256 + b, w.k + 1, w.buf⟩ := by
  have h1 : w.k ≤ 3 := hw.1
  have h2 := hw.2
  exact ⟨show w.k + 1 ≤ 3 by omega, show w.v * 256 + b < 256 ^ (w.k + 1) by rw [Nat.pow_succ]; omega⟩

theorem a85_wok_full {w : W} (hw : A85WOK w) (b : Nat) (hb : b < 256) (hk : w.k + 1 = 4) :
    w.v * 256 + b < 2 ^ 32 := by
  have h2 := hw.2
  rw [show w.k = 3 by omega] at h2
  omega

theorem a85Group_cases (v : Nat) : v = 0 ∧ a85Group v = [122] ∨ a85Group v = digits5 v := by
  unfold a85Group
  by_cases h : v = 0 <;> simp [h]

theorem a85_group_ok (v : Nat) (hv : v < 2 ^ 32) (rest : Bytes) :
    dec 0 0 (a85Group v ++ rest) = DecRes.pre (bytes4 v) (dec 0 0 rest) := by
  rcases a85Group_cases v with ⟨rfl, h⟩ | h <;> rw [h]
  · exact a85_dec_z rest
  · exact a85_dec_digits5 v hv rest

/-- what a reader must do with the pieces `ascii85.go`'s writer hands down; `tail`: the partial final
    group of `k` bytes `v` that `Close` writes, with the EOD marker -/
structure A85Sem (Rd : Bytes → Bytes → Prop) : Prop where
  group : ∀ v, v < 2 ^ 32 → Emits Rd (a85Group v) (bytes4 v)
  nl : Emits Rd [10] []
  tail : ∀ k v, 1 ≤ k → k ≤ 3 → v < 256 ^ k →
    Rd ((digits5 (v * 2 ^ ((4 - k) * 8))).take (k + 1) ++ [126, 62]) (digitsBE 256 0 k v)
  eod : Rd [126, 62] []

/-- `p`, the input not yet in what the reader has read: the bytes of the groups in the line buffer
    `w.buf`, then those held in the accumulator -/
def A85Inv (Rd : Bytes → Bytes → Prop) (w : W) (p : Bytes) : Prop :=
  A85WOK w ∧ ∃ ys, Emits Rd w.buf ys ∧ p = ys ++ digitsBE 256 0 w.k w.v

theorem a85_step_ok {Rd : Bytes → Bytes → Prop} (sem : A85Sem Rd) (w : W) (p : Bytes) (b : Nat) (hb : b < 256)
    (h : A85Inv Rd w p) :
    ∃ F p', A85Inv Rd (step w b).1 p' ∧ Emits Rd (step w b).2 F ∧ F ++ p' = p ++ [b] := by
  obtain ⟨hw, ys, hbuf, rfl⟩ := h
  have hpush : digitsBE 256 0 (w.k + 1) (w.v * 256 + b) = digitsBE 256 0 w.k w.v ++ [b] :=
    digitsBE_push 256 0 w.k w.v b hb
  by_cases hk : w.k + 1 = 4
  · -- the group is complete: its bytes are those held before and `b`
    have hg := sem.group _ (a85_wok_full hw b hb hk)
    rw [bytes4_eq, ← hk, hpush] at hg
    rw [a85_step_full w b hk]
    split
    · exact ⟨ys, _, ⟨a85_wok_zero _, _, hg, rfl⟩, by simpa using emits_append hbuf sem.nl, by simp [digitsBE_nil]⟩
    · exact ⟨[], _, ⟨a85_wok_zero _, _, emits_append hbuf hg, rfl⟩, emits_nil _, by simp [digitsBE_nil]⟩
  · rw [a85_step_part w b hk]
    exact ⟨[], _, ⟨a85_wok_push hw b hb hk, ys, hbuf, rfl⟩, emits_nil _, by
      rw [hpush, List.nil_append, List.append_assoc]⟩

theorem a85_close_ok {Rd : Bytes → Bytes → Prop} (sem : A85Sem Rd) (w : W) (p : Bytes) (h : A85Inv Rd w p) :
    Rd (close w) p := by
  obtain ⟨hw, ys, hb, rfl⟩ := h
  rw [close, List.append_assoc]
  refine hb _ _ ?_
  by_cases hk : w.k = 0
  · simpa [hk, digitsBE_nil] using sem.eod
  · simpa [hk] using sem.tail w.k w.v (by omega) hw.1 hw.2

theorem a85_reads {Rd : Bytes → Bytes → Prop} (sem : A85Sem Rd) (x : Bytes) (hx : AllBytes x) : Rd (encode x) x :=
  run_reads step close run (fun _ => rfl) (fun _ _ _ => rfl) Rd (A85Inv Rd) (· < 256) (a85_step_ok sem)
    (a85_close_ok sem) x hx W.init [] ⟨a85_wok_zero _, [], emits_nil _, rfl⟩

theorem a85_model_sem : A85Sem (ofDec (dec 0 0)) where
  group := fun v hv => emits_ofDec (a85_group_ok v hv)
  nl := emits_ofDec (a85_dec_nl 0 0)
  tail := a85_dec_tail
  eod := a85_dec_tilde0 []

/-- **ASCII85 round trip** for every byte string: `z` groups, line breaks (after 73 to 77 characters),
    the partial final group and `~>` are all read back. -/
theorem ascii85_rt (x : Bytes) (hx : AllBytes x) : decode (encode x) = (x, none) :=
  a85_reads a85_model_sem x hx

example : decode (encode [0, 0, 0, 0, 1, 2, 3, 4, 255, 255, 255, 255, 7]) =
    ([0, 0, 0, 0, 1, 2, 3, 4, 255, 255, 255, 255, 7], none) := by decide +kernel
-- `z`, a line break and a partial group really occur
example : (encode (List.replicate 4 0 ++ List.range 70)).contains 122 = true ∧
    (encode (List.replicate 4 0 ++ List.range 70)).contains 10 = true ∧
    decode (encode (List.replicate 4 0 ++ List.range 70)) = (List.replicate 4 0 ++ List.range 70, none) := by
  decide +kernel

end Ascii85

section RunLength
open RunLength

attribute [local simp] Gen.rl_rlWriter_Write_trigger Gen.rl_rlWriter_Write_startRepeat
  Gen.rl_rlWriter_Write_maxLiteral Gen.rl_rlWriter_Write_maxRepeat Gen.rl_rlWriter_flushLiteral_litBias
  Gen.rl_rlWriter_flushRepeat_repBase Gen.rl_rlWriter_Close_eod Gen.rl_rlReader_Read_eod
  Gen.rl_rlReader_Read_litBound Gen.rl_rlReader_Read_litBias Gen.rl_rlReader_Read_repBase

theorem rl_dec_lit_run (lit : Bytes) (rest : Bytes) : ∀ fresh, lit ≠ [] →
    dec (.lit lit.length fresh) (lit ++ rest) = DecRes.pre lit (dec .len rest) := by
  induction lit with
  | nil => intro _ h; exact absurd rfl h
  | cons c cs ih =>
    intro fresh _
    cases cs with
    | nil => simp [dec]
    | cons d ds =>
      have := ih false (by simp)
      rw [show (c :: d :: ds) ++ rest = c :: ((d :: ds) ++ rest) from rfl,
        show (c :: d :: ds).length = (d :: ds).length + 1 from rfl, dec]
      have hn : ¬ ((d :: ds).length + 1 ≤ 1) := by simp
      rw [if_neg hn, Nat.add_sub_cancel, this]
      simp

theorem rl_dec_litPacket (lit rest : Bytes) (h1 : 1 ≤ lit.length) (h2 : lit.length ≤ 128) :
    dec .len (litPacket lit ++ rest) = DecRes.pre lit (dec .len rest) := by
  have hne : lit ≠ [] := by intro h; simp [h] at h1
  have e1 : ¬ (lit.length - 1 = 128) := by omega
  have e2 : lit.length - 1 < 128 := by omega
  have e3 : lit.length - 1 + 1 = lit.length := by omega
  simp [litPacket, dec, e1, e2, e3, rl_dec_lit_run lit rest true hne]

theorem rl_dec_repPacket (n v : Nat) (rest : Bytes) (h2 : n ≤ 128) :
    dec .len (repPacket n v ++ rest) = DecRes.pre (List.replicate n v) (dec .len rest) := by
  have e1 : ¬ (257 - n = 128) := by omega
  have e2 : ¬ (257 - n < 128) := by omega
  have e3 : 257 - (257 - n) = n := by omega
  simp [repPacket, dec, e1, e2, e3]

/-- a pending repeat run has 2 to 128 bytes (the writer starts one at 3; 2 is what the format and
    `PacketSem.rep` allow); fewer than 128 literals are pending, because a full buffer is written out
    in the step that fills it -/
def RlWOK (w : W) : Prop :=
  (w.repeatCount = 0 ∨ (2 ≤ w.repeatCount ∧ w.repeatCount ≤ 128 ∧ w.lit = [])) ∧ w.lit.length < 128

def rlPending (w : W) : Bytes := List.replicate w.repeatCount w.repeatVal ++ w.lit

/-- what the writer-side analysis needs to know about a packet reader: a relation "`e` is read as
    `F`" that holds for the empty string, is closed under concatenation, and holds for the two
    packet kinds.  (Instantiated with the model reader here and with the reference reader in C07.) -/
structure PacketSem (E : Bytes → Bytes → Prop) : Prop where
  nil : E [] []
  append : ∀ {e1 F1 e2 F2 : Bytes}, E e1 F1 → E e2 F2 → E (e1 ++ e2) (F1 ++ F2)
  lit : ∀ lit : Bytes, 1 ≤ lit.length → lit.length ≤ 128 → E (litPacket lit) lit
  rep : ∀ n v : Nat, 2 ≤ n → n ≤ 128 → E (repPacket n v) (List.replicate n v)

theorem rl_model_sem : PacketSem (Emits (ofDec (dec .len))) where
  nil := emits_nil _
  append := emits_append
  lit := fun lit h1 h2 => emits_ofDec fun rest => rl_dec_litPacket lit rest h1 h2
  rep := fun n v _ h2 => emits_ofDec fun rest => rl_dec_repPacket n v rest h2

theorem list_len3 {α} (l : List α) (h : l.length = 3) : ∃ x y z, l = [x, y, z] := by
  match l, h with
  | [x, y, z], _ => exact ⟨x, y, z, rfl⟩

theorem rl_stepLit_cases (lit : Bytes) (b : Nat) :
    (stepLit lit b = (⟨lit ++ [b], 0, 0⟩, []) ∧ (lit ++ [b]).length ≠ 128) ∨
    (stepLit lit b = (⟨[], 0, 0⟩, litPacket (lit ++ [b])) ∧ (lit ++ [b]).length = 128) ∨
    ∃ head x, lit ++ [b] = head ++ [x, x, x] ∧
      stepLit lit b = (⟨[], 3, x⟩, if head.length > 0 then litPacket head else []) := by
  fun_cases stepLit lit b with
  | case1 L used _ x y z hd heq =>  -- three equal bytes at the end
    obtain ⟨rfl, rfl⟩ : x = y ∧ y = z := by simpa using heq
    exact .inr (.inr ⟨_, x, by rw [← hd]; exact (List.take_append_drop _ _).symm, rfl⟩)
  | case2 _ _ _ _ _ _ _ _ h128 => exact .inr (.inl ⟨rfl, beq_iff_eq.mp h128⟩)  -- the buffer is full
  | case3 _ _ _ _ _ _ _ _ h128 => exact .inl ⟨rfl, fun h => h128 (beq_iff_eq.mpr h)⟩
  | case4 L used h3 hno =>  -- cannot be: the drop has three elements
    have h3' : 3 ≤ L.length := h3
    obtain ⟨x, y, z, hd⟩ := list_len3 (L.drop (L.length - 3)) (by rw [List.length_drop]; omega)
    exact (hno x y z hd).elim
  | case5 L used h3 => exact .inl ⟨rfl, fun h => h3 (show L.length ≥ _ by rw [h]; decide)⟩

theorem rl_stepLit_ok {E : Bytes → Bytes → Prop} (sem : PacketSem E) (lit : Bytes) (b : Nat) (hl : lit.length < 128) :
    RlWOK (stepLit lit b).1 ∧ ∃ F, F ++ rlPending (stepLit lit b).1 = lit ++ [b] ∧ E (stepLit lit b).2 F := by
  have hL : (lit ++ [b]).length = lit.length + 1 := List.length_append
  rcases rl_stepLit_cases lit b with ⟨hs, hn⟩ | ⟨hs, hn⟩ | ⟨head, x, hd, hs⟩ <;> rw [hs]
  · exact ⟨⟨.inl rfl, by show (lit ++ [b]).length < 128; omega⟩, [], rfl, sem.nil⟩
  · exact ⟨⟨.inl rfl, (by decide : 0 < 128)⟩, lit ++ [b], List.append_nil _, sem.lit _ (by omega) (by omega)⟩
  · have hh : head.length + 3 = lit.length + 1 := by rw [← hL, hd, List.length_append]; rfl
    refine ⟨⟨.inr ⟨(by decide : 2 ≤ 3), (by decide : 3 ≤ 128), rfl⟩, (by decide : 0 < 128)⟩, head, by rw [hd]; rfl, ?_⟩
    dsimp only
    split
    · exact sem.lit head (by omega) (by omega)
    · rw [List.eq_nil_of_length_eq_zero (by omega : head.length = 0)]; exact sem.nil

theorem rl_step_ok {E : Bytes → Bytes → Prop} (sem : PacketSem E) (w : W) (b : Nat) (hw : RlWOK w) :
    RlWOK (step w b).1 ∧ ∃ F, F ++ rlPending (step w b).1 = rlPending w ++ [b] ∧ E (step w b).2 F := by
  obtain ⟨hrc, hl⟩ := hw
  obtain ⟨hok, F, hF, hE⟩ := rl_stepLit_ok sem w.lit b hl
  fun_cases step w b with
  | case1 hpos hsame =>  -- the repeat run goes on
    obtain ⟨h2, h128, hlit⟩ := hrc.resolve_left (by omega)
    simp only [Bool.and_eq_true, beq_iff_eq, decide_eq_true_eq] at hsame
    obtain ⟨hb, hlt⟩ := hsame
    simp at hlt
    refine ⟨⟨Or.inr ⟨by simp; omega, by simp; omega, hlit⟩, hl⟩, [], ?_, sem.nil⟩
    simp [rlPending, hlit, hb, List.replicate_succ']
  | case2 hpos _ w' e hs =>  -- the repeat run ends: its packet, then `stepLit`
    obtain ⟨h2, h128, hlit⟩ := hrc.resolve_left (by omega)
    rw [hs] at hok hF hE
    refine ⟨hok, List.replicate w.repeatCount w.repeatVal ++ F, ?_, sem.append (sem.rep _ _ h2 h128) hE⟩
    rw [List.append_assoc, hF]; simp [rlPending, hlit]
  | case3 hpos => exact ⟨hok, F, by rw [hF]; simp [rlPending, show w.repeatCount = 0 by omega], hE⟩

theorem rl_close_emits {E : Bytes → Bytes → Prop} (sem : PacketSem E) (w : W) (hw : RlWOK w) :
    ∃ e, close w = e ++ [Gen.rl_rlWriter_Close_eod] ∧ E e (rlPending w) := by
  obtain ⟨hrc, hl⟩ := hw
  unfold close
  have hE1 : E (if w.repeatCount > 0 then repPacket w.repeatCount w.repeatVal else [])
      (List.replicate w.repeatCount w.repeatVal) := by
    split
    · rcases hrc with h0 | ⟨h2, h128, _⟩
      · omega
      · exact sem.rep _ _ h2 h128
    · have : w.repeatCount = 0 := by omega
      rw [this]; exact sem.nil
  have hE2 : E (if w.lit.length > 0 then litPacket w.lit else []) w.lit := by
    split
    · exact sem.lit _ (by omega) (by omega)
    · have : w.lit = [] := List.eq_nil_of_length_eq_zero (by omega)
      rw [this]; exact sem.nil
  exact ⟨_, rfl, sem.append hE1 hE2⟩

theorem rl_model_eod : ofDec (dec .len) [128] [] := by simp [ofDec, dec]

theorem rl_reads {Rd : Bytes → Bytes → Prop} (sem : PacketSem (Emits Rd)) (heod : Rd [128] []) (x : Bytes) :
    Rd (encode x) x :=
  run_reads step close run (fun _ => rfl) (fun _ _ _ => rfl) Rd (fun w p => RlWOK w ∧ p = rlPending w) (fun _ => True)
    (fun w p b _ h => by
      obtain ⟨hok, F, hF, hE⟩ := rl_step_ok sem w b h.1
      exact ⟨F, _, ⟨hok, rfl⟩, hE, h.2 ▸ hF⟩)
    (fun w p h => by
      obtain ⟨e, he, hE⟩ := rl_close_emits sem w h.1
      rw [he, h.2]
      simpa using hE _ _ heod)
    x (fun _ _ => trivial) W.init [] ⟨by simp [RlWOK, W.init], rfl⟩

/-- **RunLength round trip**, for every byte string (no side condition on the values is
    needed: the value byte of a repeat packet and literal bytes are copied verbatim). -/
theorem runlength_rt (x : Bytes) : decode (encode x) = (x, none) :=
  rl_reads rl_model_sem rl_model_eod x

example : decode (encode [1, 2, 2, 3, 3, 3, 3, 4]) = ([1, 2, 2, 3, 3, 3, 3, 4], none) := by decide +kernel
-- both packet kinds and the 128 limits really occur: 131 equal bytes, then 130 distinct ones
example : encode (List.replicate 131 9 ++ List.range 130) =
    [129, 9, 254, 9, 127] ++ List.range 128 ++ [1, 128, 129, 128] := by decide +kernel

end RunLength

/-- **Chunking is irrelevant** (ASCIIHex writer): `Write(xs); Write(ys); Close` = `Write(xs ++ ys); Close`. -/
theorem chunking_irrelevant_asciihex (buf xs ys : Bytes) :
    AsciiHex.run buf (xs ++ ys) =
      (feedG AsciiHex.step buf xs).2 ++ AsciiHex.run (feedG AsciiHex.step buf xs).1 ys :=
  run_append AsciiHex.step AsciiHex.run (fun _ _ _ => rfl) xs ys buf

theorem chunking_irrelevant_ascii85 (w : Ascii85.W) (xs ys : Bytes) :
    Ascii85.run w (xs ++ ys) = (feedG Ascii85.step w xs).2 ++ Ascii85.run (feedG Ascii85.step w xs).1 ys :=
  run_append Ascii85.step Ascii85.run (fun _ _ _ => rfl) xs ys w

theorem chunking_irrelevant_runlength (w : RunLength.W) (xs ys : Bytes) :
    RunLength.run w (xs ++ ys) = (feedG RunLength.step w xs).2 ++ RunLength.run (feedG RunLength.step w xs).1 ys :=
  run_append RunLength.step RunLength.run (fun _ _ _ => rfl) xs ys w

theorem chunking_irrelevant_lzw (w : LZW.W) (xs ys : Bytes) :
    LZW.run w (xs ++ ys) = (feedG LZW.step w xs).2 ++ LZW.run (feedG LZW.step w xs).1 ys :=
  run_append LZW.step LZW.run (fun _ _ _ => rfl) xs ys w

end PdfVerif.C06fa
