import PdfVerif.Lemmas.FALZW
/-!
# C06 (part A, LZW) — bit packing round trip and `decode (encode x) = x` for LZW

Encoder and decoder are each measured against the state of the LZW protocol, `Book` (width, `hi`, the
last code, the string `S c` of every code; the decoder is one entry behind: the `code = hi` case).  A
decoder `Follows` the protocol if it reads every code that may be sent as that code's string; the
library's writer keeps to it (`WAt`, `run_follows`), its reader follows it (`RAt`, `reader_follows`);
C07 puts the reference codec against the same protocol.  `Sim` is the relation `run_sim` is stated
with; `sim_book` reads it as a writer and a reader at a common book.

The constants of `lzw/{reader,writer}.go` appear as numerals: 9 and 12 bits, 256 the clear code, 257 the
eof code (and `hi` when there is no entry), 258 the first entry, 4095 `maxCode`, 4096 `tableSize`;
`clear_eq` … `tableSize_eq` (Lemmas/FALZW), `maxCode_eq`, `initWidth_eq` tie them to the generated ones.
-/
namespace PdfVerif.C06faL
open PdfVerif PdfVerif.FA PdfVerif.FA.LZW

/-- number of zero bits `Close` appends to fill the last byte -/
def padLen (n : Nat) : Nat := (8 - n % 8) % 8

theorem bitsToBytes_eq : ∀ bits : Bits, bits ≠ [] → bitsToBytes bits =
    ofBits (bits.take 8 ++ List.replicate (8 - (bits.take 8).length) false) :: bitsToBytes (bits.drop 8)
  | [], h => absurd rfl h
  | [_], _ | [_, _], _ | [_, _, _], _ | [_, _, _, _], _ | [_, _, _, _, _], _ | [_, _, _, _, _, _], _
  | [_, _, _, _, _, _, _], _ => rfl
  | _ :: _ :: _ :: _ :: _ :: _ :: _ :: _ :: _, _ => by simp [bitsToBytes]

/-- **Bit packing round trip**: cutting a bit string into bytes and reading the bytes back
    bit by bit gives the bit string followed by the zero padding of the last byte. -/
theorem bitpack_rt (bits : Bits) :
    bytesToBits (bitsToBytes bits) = bits ++ List.replicate (padLen bits.length) false := by
  induction h : bits.length using Nat.strongRecOn generalizing bits with
  | _ n ih =>
    subst h
    by_cases hne : bits = []
    · subst hne; rfl
    · have hpos : 0 < bits.length := List.length_pos_iff.mpr hne
      have hbyte := toBits_ofBits (bits.take 8 ++ List.replicate (8 - (bits.take 8).length) false)
      rw [show (bits.take 8 ++ List.replicate (8 - (bits.take 8).length) false).length = 8 by
        rw [List.length_append, List.length_replicate, List.length_take]; omega] at hbyte
      rw [bitsToBytes_eq bits hne, bytesToBits, hbyte,
        ih _ (by rw [List.length_drop]; omega) _ rfl, List.length_take, List.length_drop]
      by_cases h8 : 8 ≤ bits.length
      · -- a full byte: no padding here, the same padding at the end
        rw [Nat.min_eq_left h8, Nat.sub_self, List.replicate_zero, List.append_nil, ← List.append_assoc,
          List.take_append_drop, padLen, padLen, ← Nat.mod_eq_sub_mod h8]
      · rw [List.take_of_length_le (by omega), List.drop_of_length_le (by omega), Nat.min_eq_right (by omega),
          show bits.length - 8 = 0 by omega, padLen, padLen, Nat.mod_eq_of_lt (Nat.lt_of_not_le h8),
          Nat.mod_eq_of_lt (by omega : 8 - bits.length < 8)]
        exact List.append_nil _

/-- `decBits` from the point where the last bit of a code has arrived (the body of `decode`'s loop in
    `reader.go` after `r.read()`) -/
def afterCode (r : R) (code : Nat) (rest : Bits) : DecRes :=
  match stepCode r code with
  | .cont r' out => DecRes.pre out (decBits r' r'.width 0 rest)
  | .eof => ([], none)
  | .bad e => ([], some e)

/-- with `decBits`'s accumulator `acc`, so that the induction goes through (`decBits_read` is the case
    `acc = 0`, where the `foldl` is `ofBits`) -/
theorem decBits_bits (r : R) (rest : Bits) : ∀ (bits : Bits) (acc : Nat), bits ≠ [] →
    decBits r bits.length acc (bits ++ rest) =
      afterCode r (bits.foldl (fun a b => 2 * a + (if b then 1 else 0)) acc) rest
  | [b], acc, _ => rfl
  | b :: b' :: bs, acc, _ => by
    rw [List.cons_append, List.length_cons, decBits, if_neg (by simp), Nat.add_sub_cancel,
      decBits_bits r rest (b' :: bs) _ (List.cons_ne_nil _ _)]
    rfl

theorem decBits_read (r : R) (width c : Nat) (rest : Bits) (hw : 1 ≤ width) (hc : c < 2 ^ width) :
    decBits r width 0 (toBits width c ++ rest) = afterCode r c rest := by
  have := decBits_bits r rest (toBits width c) 0 (fun h => by
    have := toBits_length width c; rw [h] at this; simp at this; omega)
  rw [toBits_length] at this
  rw [this]
  show afterCode r (ofBits (toBits width c)) rest = _
  rw [ofBits_toBits, Nat.mod_eq_of_lt hc]

/-! Writer (`incHi`) and reader (`advance`) step `width, hi, overflow` in the same way as long as
the table is not full. -/

theorem maxCode_eq : maxCode = 4095 := rfl
theorem initWidth_eq : initWidth = 9 := rfl

/-- the width after `incHi`/`advance` have made an entry; `overflow` stands beside `width` because the
    Go test is `hi + earlyChange == overflow` -/
def nextWidth (width hi overflow ec : Nat) : Nat := if hi + 1 + ec = overflow then width + 1 else width

/-- the first three conjuncts are for `advance_eq` and `Book.OK.sent`; the last (a smallest possible
    width stays so, `Book.Min.sent`) only for the reference codec of C07 -/
theorem nextWidth_spec {width hi ov ec : Nat} (hpow : ov = 2 ^ width) (hlo : 9 ≤ width) (hhi : width ≤ 12)
    (hov : hi + ec < ov) (hmax : hi + ec < 4095) :
    9 ≤ nextWidth width hi ov ec ∧ nextWidth width hi ov ec ≤ 12 ∧ hi + 1 + ec < 2 ^ nextWidth width hi ov ec ∧
    ((width = 9 ∨ 2 ^ (width - 1) ≤ hi + ec) →
      (nextWidth width hi ov ec = 9 ∨ 2 ^ (nextWidth width hi ov ec - 1) ≤ hi + 1 + ec)) := by
  unfold nextWidth
  split
  · have : width ≠ 12 := by intro h12; rw [h12] at hpow; omega
    refine ⟨by omega, by omega, by rw [Nat.pow_succ, ← hpow]; omega, fun _ => .inr ?_⟩
    rw [Nat.add_sub_cancel, ← hpow]; omega
  · exact ⟨hlo, hhi, by rw [← hpow]; omega, fun h => h.imp id fun h => by omega⟩

theorem advance_eq (r : R) (code : Nat) (t : Array (Nat × Nat))
    (hov : r.hi + r.ec < r.overflow) (hpow : r.overflow = 2 ^ r.width) (hmax : r.hi + r.ec < 4095)
    (hlo : 9 ≤ r.width) (hw : r.width ≤ 12) :
    advance r code t =
      { r with table := t, last := some code, hi := r.hi + 1,
               width := nextWidth r.width r.hi r.overflow r.ec,
               overflow := 2 ^ nextWidth r.width r.hi r.overflow r.ec } := by
  have h12 := (nextWidth_spec hpow hlo hw hov hmax).2.1
  unfold nextWidth at h12 ⊢
  by_cases hb : r.hi + 1 + r.ec = r.overflow
  · -- `overflow` is reached below 4096, so the width is below 12
    rw [if_pos hb] at h12 ⊢
    rw [advance_wider r code t (Nat.le_of_eq hb.symm) (by rw [maxWidth_eq]; omega)]
  · rw [if_neg hb, advance_same r code t (by omega), ← hpow]

theorem incHi_full (w : W) (hf : w.hi + 1 + w.ec = 4095) :
    incHi w = ({ w with width := initWidth, hi := LZW.eof, overflow := clear * 2, table := [] },
      toBits (nextWidth w.width w.hi w.overflow w.ec) clear, true) := by
  unfold incHi nextWidth
  by_cases hb : w.hi + 1 + w.ec = w.overflow
  · have hov : w.overflow = 4095 := by omega
    simp [hf, hov, maxCode_eq]
  · have hb' : ¬ 4095 = w.overflow := by omega
    simp [hf, hb', maxCode_eq]

theorem incHi_notfull (w : W) (hpow : w.overflow = 2 ^ w.width) (hf : ¬ w.hi + 1 + w.ec = 4095) :
    incHi w = ({ w with width := nextWidth w.width w.hi w.overflow w.ec, hi := w.hi + 1,
                        overflow := 2 ^ nextWidth w.width w.hi w.overflow w.ec }, [], false) := by
  unfold incHi nextWidth
  by_cases hb : w.hi + 1 + w.ec = w.overflow
  · have hov : ¬ w.overflow = 4095 := by omega
    simp [hb, hov, maxCode_eq, Nat.pow_succ, ← hpow]
  · simp [hb, hf, maxCode_eq, ← hpow]

/-- the input bytes the writer has accepted but not yet turned into a code -/
def pendingStr (w : W) (S : Nat → Bytes) : Bytes :=
  match w.saved with
  | none => []
  | some c => S c

theorem pendingStr_some {w : W} {code : Nat} (S : Nat → Bytes) (hs : w.saved = some code) :
    pendingStr w S = S code := by rw [pendingStr, hs]

/-- the strings of the codes once entry `c` stands for `s` -/
def updS (S : Nat → Bytes) (c : Nat) (s : Bytes) : Nat → Bytes := fun d => if d = c then s else S d

theorem updS_self (S : Nat → Bytes) (c : Nat) (s : Bytes) : updS S c s c = s := if_pos rfl

theorem updS_lt (S : Nat → Bytes) (s : Bytes) {c d : Nat} (h : d < c) : updS S c s d = S d := if_neg (Nat.ne_of_lt h)

/-- What encoder and decoder agree on after the codes sent since the last clear code.  `ec` is
    `earlyChange` (0 or 1), `last` is `none` right after the start or a clear code; `hi` is the newest
    entry, only half defined (the string of `last` followed by the first byte of whatever code comes
    next), and 257 when there is none. -/
structure Book where
  width : Nat
  hi : Nat
  ec : Nat
  last : Option Nat
  S : Nat → Bytes

structure Book.OK (B : Book) : Prop where
  ec_le : B.ec ≤ 1
  w_lo : 9 ≤ B.width
  w_hi : B.width ≤ 12
  hi_lo : 257 ≤ B.hi
  hi_ov : B.hi + B.ec < 2 ^ B.width
  lit : ∀ c, c < 256 → B.S c = [c]
  lastv : match B.last with
    | none => B.hi = 257
    | some l => ValidPrefix l B.hi ∧ 258 ≤ B.hi

theorem Book.OK.hi_lt {B : Book} (h : B.OK) : B.hi + B.ec < 4096 :=
  Nat.lt_of_lt_of_le h.hi_ov (Nat.pow_le_pow_right (by decide) h.w_hi)

/-- Code `c` may be sent next.  `room`: an encoder clears the table before it is full.  `link`: the
    half-defined entry `hi` is completed by the first byte of the string of `c` — for `c = hi` this
    determines that string, and it is how a decoder finds it. -/
structure Book.Sendable (B : Book) (c : Nat) : Prop where
  room : B.hi + B.ec < 4095
  valid : c < 256 ∨ (258 ≤ c ∧ c ≤ B.hi)
  first : B.last = none → c < 256
  link : ∀ l, B.last = some l → ∃ b0, B.S B.hi = B.S l ++ [b0] ∧ (B.S c).head? = some b0

theorem Book.Sendable.prefix {B : Book} {c : Nat} (hc : B.Sendable c) : ValidPrefix c (B.hi + 1) := .of_le hc.valid

theorem Book.Sendable.lt {B : Book} {c : Nat} (hc : B.Sendable c) (hB : B.OK) : c < 2 ^ B.width := by
  have := hB.hi_ov
  have : (2 : Nat) ^ 9 ≤ 2 ^ B.width := Nat.pow_le_pow_right (by decide) hB.w_lo
  rcases hc.valid with h1 | h1 <;> omega

/-- after code `c`: one more entry, half defined -/
def Book.sent (B : Book) (c : Nat) : Book :=
  { B with width := nextWidth B.width B.hi (2 ^ B.width) B.ec, hi := B.hi + 1, last := some c }

def Book.reset (B : Book) : Book := { B with width := 9, hi := 257, last := none }

/-- the encoder has seen the next byte: entry `hi` gets its string; no decoder can tell
    (`Follows.define`) -/
def Book.define (B : Book) (s : Bytes) : Book := { B with S := updS B.S B.hi s }

theorem Book.sent_width {B : Book} (c : Nat) {width hi ov ec : Nat} (hw : width = B.width) (hh : hi = B.hi)
    (ho : ov = 2 ^ B.width) (he : ec = B.ec) : (B.sent c).width = nextWidth width hi ov ec := by
  subst hw hh ho he; rfl

theorem Book.OK.reset {B : Book} (h : B.OK) : B.reset.OK :=
  { ec_le := h.ec_le, w_lo := Nat.le_refl _, w_hi := (by decide : 9 ≤ 12), hi_lo := Nat.le_refl _,
    hi_ov := (by have := h.ec_le; show 257 + B.ec < 512; omega), lit := h.lit, lastv := rfl }

theorem Book.OK.sent {B : Book} (h : B.OK) {c : Nat} (hc : B.Sendable c) : (B.sent c).OK := by
  obtain ⟨a, b, d, -⟩ := nextWidth_spec (width := B.width) (hi := B.hi) (ec := B.ec) rfl h.w_lo h.w_hi h.hi_ov hc.room
  exact { ec_le := h.ec_le, w_lo := a, w_hi := b, hi_lo := Nat.le_succ_of_le h.hi_lo, hi_ov := d, lit := h.lit,
          lastv := ⟨hc.prefix, Nat.succ_le_succ h.hi_lo⟩ }

theorem Book.OK.define {B : Book} (h : B.OK) (s : Bytes) : (B.define s).OK :=
  { h with lit := fun c hc => (updS_lt B.S s (by have := h.hi_lo; omega)).trans (h.lit c hc) }

/-- the code width is the smallest that fits `hi + ec` -/
def Book.Min (B : Book) : Prop := B.width = 9 ∨ 2 ^ (B.width - 1) ≤ B.hi + B.ec

theorem Book.Min.sent {B : Book} (hB : B.OK) (h : B.Min) {c : Nat} (hc : B.Sendable c) : (B.sent c).Min :=
  (nextWidth_spec (width := B.width) rfl hB.w_lo hB.w_hi hB.hi_ov hc.room).2.2.2 h

/-- a decoder that follows the protocol: `At r B` — in state `r` it has read the codes of `B`;
    `Rd r bits out` — from `r` it decodes `bits` to `out` and a clean end of data -/
structure Follows {ρ : Type} (At : ρ → Book → Prop) (Rd : ρ → Bits → Bytes → Prop) : Prop where
  code : ∀ {r B c}, B.OK → At r B → B.Sendable c → ∃ r', At r' (B.sent c) ∧
    ∀ rest out, Rd r' rest out → Rd r (toBits B.width c ++ rest) (B.S c ++ out)
  clear : ∀ {r B}, B.OK → At r B → ∃ r', At r' B.reset ∧
    ∀ rest out, Rd r' rest out → Rd r (toBits B.width clear ++ rest) out
  eof : ∀ {r B}, B.OK → At r B → ∀ tl, Rd r (toBits B.width LZW.eof ++ tl) []
  define : ∀ {r B} (s : Bytes), B.OK → At r B → At r (B.define s)

/-! An encoder holds back a match (a string that has a code) and sends its code when the next byte `x`
does not extend it; the new entry is the match followed by `x`, and `x` is the new match.  When
the table is full it sends a clear code instead of making the entry. -/

theorem Book.sendable_lit {B : Book} (hroom : B.hi + B.ec < 4095) (hl : B.last = none) {x : Nat} (hx : x < 256) :
    B.Sendable x :=
  { room := hroom, valid := .inl hx, first := fun _ => hx, link := fun _ h => (nomatch hl.symm.trans h) }

theorem Book.Sendable.grow {B : Book} (hB : B.OK) {code c x : Nat} (h : B.Sendable code) (h258 : 258 ≤ c)
    (hle : c ≤ B.hi) (hS : B.S c = B.S code ++ [x]) : B.Sendable c :=
  { room := h.room, valid := .inr ⟨h258, hle⟩
    first := fun hn => by
      -- an entry exists, so there is a last code
      have := hB.lastv; rw [hn] at this
      have : B.hi = 257 := this
      omega
    link := fun l hl => by
      obtain ⟨b0, h1, h2⟩ := h.link l hl
      refine ⟨b0, h1, ?_⟩
      rw [hS]
      cases hc : B.S code with
      | nil => rw [hc] at h2; nomatch h2
      | cons _ _ => rw [hc] at h2; exact h2 }

/-- the book after the encoder has sent `code` because byte `x` did not extend its match -/
def Book.next (B : Book) (code x : Nat) : Book :=
  if B.hi + 1 + B.ec = 4095 then B.reset else (B.sent code).define (B.S code ++ [x])

def Book.emitted (B : Book) (code : Nat) : Bits :=
  toBits B.width code ++ if B.hi + 1 + B.ec = 4095 then toBits (B.sent code).width clear else []

/-- the two exits of `next` and `emitted`: the table is full, or there is room for the entry -/
theorem Book.next_cases (B : Book) (code x : Nat) :
    (B.hi + 1 + B.ec = 4095 ∧ B.next code x = B.reset ∧
      B.emitted code = toBits B.width code ++ toBits (B.sent code).width clear) ∨
    (¬ B.hi + 1 + B.ec = 4095 ∧ B.next code x = (B.sent code).define (B.S code ++ [x]) ∧
      B.emitted code = toBits B.width code) := by
  unfold Book.next Book.emitted
  split
  · exact .inl ⟨‹_›, rfl, rfl⟩
  · exact .inr ⟨‹_›, rfl, List.append_nil _⟩

theorem Book.next_ec (B : Book) (code x : Nat) : (B.next code x).ec = B.ec := by
  rcases B.next_cases code x with ⟨-, h, -⟩ | ⟨-, h, -⟩ <;> rw [h] <;> rfl

theorem Book.OK.next {B : Book} (h : B.OK) {code : Nat} (hc : B.Sendable code) (x : Nat) : (B.next code x).OK := by
  rcases B.next_cases code x with ⟨-, hn, -⟩ | ⟨-, hn, -⟩ <;> rw [hn]
  · exact h.reset
  · exact (h.sent hc).define _

theorem Book.Min.next {B : Book} (hB : B.OK) (h : B.Min) {code : Nat} (hc : B.Sendable code) (x : Nat) :
    (B.next code x).Min := by
  rcases B.next_cases code x with ⟨-, hn, -⟩ | ⟨-, hn, -⟩ <;> rw [hn]
  · exact .inl rfl
  · exact h.sent hB hc

theorem Book.Sendable.next {B : Book} (hB : B.OK) {code : Nat} (h : B.Sendable code) {x : Nat} (hx : x < 256) :
    (B.next code x).Sendable x ∧ (B.next code x).S x = [x] := by
  have hroom := h.room
  have hhl := hB.hi_lo
  rcases B.next_cases code x with ⟨-, hn, -⟩ | ⟨hf, hn, -⟩ <;> rw [hn]
  · exact ⟨Book.sendable_lit (by have := hB.ec_le; show 257 + B.ec < 4095; omega) rfl hx, hB.lit x hx⟩
  · have hSx : updS B.S (B.hi + 1) (B.S code ++ [x]) x = [x] := (updS_lt _ _ (by omega)).trans (hB.lit x hx)
    refine ⟨{ room := (by show B.hi + 1 + B.ec < 4095; omega), valid := .inl hx, first := fun hn => (nomatch hn),
              link := fun l hl => ?_ }, hSx⟩
    obtain rfl : code = l := Option.some.inj hl
    refine ⟨x, ?_, by show (updS B.S (B.hi + 1) (B.S code ++ [x]) x).head? = some x; rw [hSx]; rfl⟩
    show updS B.S (B.hi + 1) _ (B.hi + 1) = updS B.S (B.hi + 1) _ code ++ [x]
    rw [updS_self, updS_lt _ _ (h.prefix.lt (by omega))]

theorem Follows.emit {ρ : Type} {At : ρ → Book → Prop} {Rd : ρ → Bits → Bytes → Prop} (F : Follows At Rd)
    {B : Book} {r : ρ} (hB : B.OK) (hr : At r B) {code : Nat} (hc : B.Sendable code) (x : Nat) :
    ∃ r', At r' (B.next code x) ∧ ∀ rest out, Rd r' rest out → Rd r (B.emitted code ++ rest) (B.S code ++ out) := by
  obtain ⟨r1, hr1, hread⟩ := F.code hB hr hc
  have hB1 := hB.sent hc
  rcases B.next_cases code x with ⟨-, hn, he⟩ | ⟨-, hn, he⟩ <;> rw [hn, he]
  · obtain ⟨r2, hr2, hclr⟩ := F.clear hB1 hr1
    exact ⟨r2, hr2, fun rest out ho => by rw [List.append_assoc]; exact hread _ _ (hclr rest out ho)⟩
  · exact ⟨r1, F.define _ hB1 hr1, hread⟩

/-- the writer's state after it has sent its saved code because byte `x` did not extend the match -/
def afterMiss (w : W) (code x : Nat) : W :=
  match incHi w with
  | (w1, _, true) => { w1 with saved := some x }
  | (w1, _, false) => { w1 with saved := some x, table := (code * 2 ^ 8 + x, w1.hi) :: w1.table }

theorem incHi_clr (w : W) : (incHi w).2.2 = false → (incHi w).2.1 = [] := by
  rw [incHi]
  dsimp only
  by_cases h : (w.hi + 1 + w.ec == maxCode) = true
  · rw [if_pos h]; exact fun hn => nomatch hn
  · rw [if_neg h]; exact fun _ => rfl

theorem step_first (w : W) (x : Nat) (hs : w.saved = none) : step w x = ({ w with saved := some x }, []) := by
  simp [step, hs]

theorem step_hit (w : W) (code x c : Nat) (hs : w.saved = some code)
    (hl : lookup (code * 2 ^ 8 + x) w.table = some c) : step w x = ({ w with saved := some c }, []) := by
  simp [step, hs, hl]

theorem step_miss (w : W) (code x : Nat) (hs : w.saved = some code)
    (hl : lookup (code * 2 ^ 8 + x) w.table = none) :
    step w x = (afterMiss w code x, toBits w.width code ++ (incHi w).2.1) := by
  have hclr := incHi_clr w
  rw [step, afterMiss, hs]
  dsimp only
  rw [hl]
  revert hclr
  rcases incHi w with ⟨w1, clr, reset⟩
  intro hclr
  cases reset
  · rw [show clr = [] from hclr rfl, List.append_nil]
  · rfl

theorem afterMiss_full (w : W) (code x : Nat) (hf : w.hi + 1 + w.ec = 4095) :
    afterMiss w code x =
      { w with width := initWidth, hi := LZW.eof, overflow := clear * 2, table := [], saved := some x } := by
  rw [afterMiss, incHi_full w hf]

theorem afterMiss_notfull (w : W) (code x : Nat) (hpow : w.overflow = 2 ^ w.width)
    (hf : ¬ w.hi + 1 + w.ec = 4095) :
    afterMiss w code x =
      { w with width := nextWidth w.width w.hi w.overflow w.ec, hi := w.hi + 1,
               overflow := 2 ^ nextWidth w.width w.hi w.overflow w.ec,
               saved := some x, table := (code * 2 ^ 8 + x, w.hi + 1) :: w.table } := by
  rw [afterMiss, incHi_notfull w hpow hf]

theorem afterMiss_saved (w : W) (code x : Nat) : (afterMiss w code x).saved = some x := by
  unfold afterMiss
  rcases incHi w with ⟨w1, clr, b⟩
  cases b <;> rfl

/-- The library's writer `w` has written the codes of `B`: its registers are those of the book, every
    entry of its hash table extends the string of an earlier code by one byte, and the code it holds
    back may be sent. -/
structure WAt (w : W) (B : Book) : Prop where
  width_eq : w.width = B.width
  hi_eq : w.hi = B.hi
  ov_eq : w.overflow = 2 ^ B.width
  ec_eq : w.ec = B.ec
  /-- the writer sends a clear code as soon as the table is full -/
  room : B.hi + B.ec < 4095
  enc : ∀ key c, lookup key w.table = some c →
      258 ≤ c ∧ c ≤ B.hi ∧ ∃ p b, key = p * 256 + b ∧ b < 256 ∧ ValidPrefix p c ∧ B.S c = B.S p ++ [b]
  savedn : w.saved = none → B.last = none
  sendable : ∀ code, w.saved = some code → B.Sendable code

theorem WAt.ov_pow {w : W} {B : Book} (h : WAt w B) : w.overflow = 2 ^ w.width := h.width_eq ▸ h.ov_eq

theorem WAt.first {w : W} {B : Book} (h : WAt w B) (x : Nat) (hx : x < 256) (hs : w.saved = none) :
    WAt { w with saved := some x } B :=
  { h with savedn := fun hn => (nomatch hn)
           sendable := fun _ hc => Option.some.inj hc ▸ Book.sendable_lit h.room (h.savedn hs) hx }

theorem WAt.hit {w : W} {B : Book} (h : WAt w B) (hB : B.OK) (code x c : Nat) (hx : x < 256)
    (hs : w.saved = some code) (hl : lookup (code * 2 ^ 8 + x) w.table = some c) :
    WAt { w with saved := some c } B ∧ B.S c = B.S code ++ [x] := by
  obtain ⟨h258, hle, p, b, hkey, hb, -, hS⟩ := h.enc _ c hl
  obtain ⟨rfl, rfl⟩ : code = p ∧ x = b := by
    have : code * 256 + x = p * 256 + b := hkey
    omega
  exact ⟨{ h with savedn := fun hn => (nomatch hn)
                  sendable := fun _ hc => Option.some.inj hc ▸ (h.sendable code hs).grow hB h258 hle hS }, hS⟩

theorem WAt.emitted {w : W} {B : Book} (h : WAt w B) (code : Nat) :
    toBits w.width code ++ (incHi w).2.1 = B.emitted code := by
  rcases B.next_cases code 0 with ⟨hf, -, he⟩ | ⟨hf, -, he⟩ <;> rw [he] <;> rw [← h.hi_eq, ← h.ec_eq] at hf
  · rw [incHi_full w hf, Book.sent_width code h.width_eq h.hi_eq h.ov_eq h.ec_eq, h.width_eq]
  · rw [incHi_notfull w h.ov_pow hf, List.append_nil, h.width_eq]

theorem WAt.miss {w : W} {B : Book} (h : WAt w B) (hB : B.OK) (code x : Nat) (hs : w.saved = some code) (hx : x < 256) :
    WAt (afterMiss w code x) (B.next code x) := by
  have hsend := h.sendable code hs
  have hnext := (hsend.next hB hx).1
  have hsendable : ∀ c, (afterMiss w code x).saved = some c → (B.next code x).Sendable c := fun c hc =>
    Option.some.inj ((afterMiss_saved w code x).symm.trans hc) ▸ hnext
  have hsavedn : (afterMiss w code x).saved = none → (B.next code x).last = none := fun hn =>
    nomatch (afterMiss_saved w code x).symm.trans hn
  have hroom := hnext.room
  -- these three speak of `B.next code x` and are rewritten with the goal in both cases
  revert hsendable hsavedn hroom
  rcases B.next_cases code x with ⟨hfull, hn, -⟩ | ⟨hfull, hn, -⟩ <;> rw [hn] <;> rw [← h.hi_eq, ← h.ec_eq] at hfull
  · rw [afterMiss_full w code x hfull]
    intro hsendable hsavedn hroom
    exact { width_eq := rfl, hi_eq := rfl, ov_eq := rfl, ec_eq := h.ec_eq, room := hroom,
            enc := fun _ _ hlk => (nomatch (show none = some _ from hlk)), savedn := hsavedn, sendable := hsendable }
  · rw [afterMiss_notfull w code x h.ov_pow hfull]
    intro hsendable hsavedn hroom
    have hhl := hB.hi_lo
    have hcode : code < B.hi + 1 := hsend.prefix.lt (by omega)
    have hwid := Book.sent_width code h.width_eq h.hi_eq h.ov_eq h.ec_eq
    refine { width_eq := hwid.symm
             hi_eq := congrArg (· + 1) h.hi_eq
             ov_eq := congrArg (2 ^ ·) hwid.symm
             ec_eq := h.ec_eq, room := hroom, enc := ?_, savedn := hsavedn, sendable := hsendable }
    -- the table: the new entry `hi + 1`, or an old one, whose strings are as they were
    intro key d hlk
    show 258 ≤ d ∧ d ≤ B.hi + 1 ∧ ∃ p b, key = p * 256 + b ∧ b < 256 ∧ ValidPrefix p d ∧
      updS B.S (B.hi + 1) (B.S code ++ [x]) d = updS B.S (B.hi + 1) (B.S code ++ [x]) p ++ [b]
    rw [show lookup key ((code * 2 ^ 8 + x, w.hi + 1) :: w.table) =
      if (code * 2 ^ 8 + x == key) = true then some (w.hi + 1) else lookup key w.table from rfl] at hlk
    by_cases hk : (code * 2 ^ 8 + x == key) = true
    · rw [if_pos hk, h.hi_eq] at hlk
      obtain rfl : B.hi + 1 = d := Option.some.inj hlk
      exact ⟨by omega, Nat.le_refl _, code, x, (beq_iff_eq.mp hk).symm, hx,
        hsend.prefix, by rw [updS_self, updS_lt _ _ hcode]⟩
    · rw [if_neg hk] at hlk
      obtain ⟨h1, h2, p, b, hkey, hb, hvp, hS⟩ := h.enc key d hlk
      refine ⟨h1, Nat.le_succ_of_le h2, p, b, hkey, hb, hvp, ?_⟩
      rw [updS_lt _ _ (Nat.lt_succ_of_le h2), updS_lt _ _ (Nat.lt_succ_of_le (Nat.le_of_lt (Nat.lt_of_lt_of_le
        (hvp.lt (by omega)) h2)))]
      exact hS

/-- `Close` sends the saved code as `Write` would on one more byte -/
theorem WAt.close_eq {w : W} {B : Book} (h : WAt w B) (hB : B.OK) {code : Nat} (hs : w.saved = some code) :
    close w = B.emitted code ++ toBits (B.next code 0).width LZW.eof := by
  have h1 := h.miss hB code 0 hs (by decide)
  have hem := h.emitted code
  have hw1 : (afterMiss w code 0).width = (incHi w).1.width := by
    unfold afterMiss
    rcases incHi w with ⟨w1, clr, b⟩
    cases b <;> rfl
  rw [close, hs]
  rcases hinc : incHi w with ⟨w1, clr, b⟩
  rw [hinc] at hem hw1
  dsimp only at hem hw1 ⊢
  rw [← hem, ← h1.width_eq, hw1]

/-- any decoder that follows the protocol reads what the library's writer writes -/
theorem run_follows {ρ : Type} {At : ρ → Book → Prop} {Rd : ρ → Bits → Bytes → Prop} (F : Follows At Rd)
    (xs : Bytes) (hx : AllBytes xs) : ∀ (w : W) (B : Book) (r : ρ), B.OK → WAt w B → At r B → ∀ tl,
    Rd r (run w xs ++ tl) (pendingStr w B.S ++ xs) := by
  induction xs with
  | nil =>
    intro w B r hB h hr tl
    rw [run, List.append_nil]
    cases hs : w.saved with
    | none =>
      rw [close, hs, pendingStr, hs]
      exact h.width_eq ▸ F.eof hB hr tl
    | some code =>
      have hsend := h.sendable code hs
      obtain ⟨r1, hr1, hread⟩ := F.emit hB hr hsend 0
      have := hread _ _ (F.eof (hB.next hsend 0) hr1 tl)
      rwa [h.close_eq hB hs, pendingStr_some _ hs, List.append_assoc, ← List.append_nil (B.S code)]
  | cons x xs ih =>
    intro w B r hB h hr tl
    obtain ⟨hx256, hxs⟩ := (allBytes_cons x xs).mp hx
    show Rd r ((step w x).2 ++ run (step w x).1 xs ++ tl) _
    cases hs : w.saved with
    | none =>
      have := ih hxs _ B r hB (h.first x hx256 hs) hr tl
      rw [step_first w x hs]
      simpa [pendingStr, hs, hB.lit x hx256] using this
    | some code =>
      cases hl : lookup (code * 2 ^ 8 + x) w.table with
      | some c =>
        obtain ⟨h', hS⟩ := h.hit hB code x c hx256 hs hl
        have := ih hxs _ B r hB h' hr tl
        rw [step_hit w code x c hs hl]
        simpa [pendingStr, hs, hS] using this
      | none =>
        have hsend := h.sendable code hs
        obtain ⟨r1, hr1, hread⟩ := F.emit hB hr hsend x
        have := hread _ _ (ih hxs _ _ r1 (hB.next hsend x) (h.miss hB code x hs hx256) hr1 tl)
        rw [step_miss w code x hs hl, h.emitted code]
        simpa [pendingStr, hs, afterMiss_saved, (hsend.next hB hx256).2] using this

/-- The library's reader `r` has read the codes of `B`: its registers are those of the book, and it
    knows every entry below `hi`, with the book's strings. -/
structure RAt (r : R) (B : Book) : Prop where
  width_eq : r.width = B.width
  hi_eq : r.hi = B.hi
  ov_eq : r.overflow = 2 ^ B.width
  ec_eq : r.ec = B.ec
  last_eq : r.last = B.last
  size : r.table.size = 4096
  dec : ∀ c, 258 ≤ c → c < B.hi → ∃ p s, r.table[c]? = some (p, s) ∧ ValidPrefix p c ∧ B.S c = B.S p ++ [s]

def Decodes (r : R) (bits : Bits) (out : Bytes) : Prop := decBits r r.width 0 bits = (out, none)

theorem expand_ok {r : R} {B : Book} (hB : B.OK) (h : RAt r B) :
    ∀ c, ValidPrefix c B.hi → ∀ fuel, c < fuel → ∀ acc,
      expand r.table fuel c acc = some (B.S c ++ acc) := by
  intro c
  induction c using Nat.strongRecOn with
  | _ c ih =>
    intro hc fuel hf acc
    obtain ⟨f, rfl⟩ : ∃ f, fuel = f + 1 := ⟨fuel - 1, by omega⟩
    rw [expand]
    by_cases hlit : c < 256
    · simp [clear_eq, hlit, hB.lit c hlit]
    · obtain ⟨h258, hlt⟩ := hc.resolve_left hlit
      obtain ⟨p, s, hget, hvp, hS⟩ := h.dec c h258 hlt
      have hp : p < c := hvp.lt (by omega)
      simp only [clear_eq, hlit, if_false, hget]
      rw [ih p hp (hvp.mono (Nat.le_of_lt hlt)) f (by omega), hS]
      simp

theorem expand_known {r : R} {B : Book} (hB : B.OK) (h : RAt r B) (c : Nat) (hc : ValidPrefix c B.hi) :
    ∃ hd tl, B.S c = hd :: tl ∧ expand r.table tableSize c [] = some (hd :: tl) := by
  have hexp := expand_ok hB h c hc tableSize (by
    have := hB.hi_lt
    rw [tableSize_eq]; rcases hc with h1 | h1 <;> omega) []
  rw [List.append_nil] at hexp
  cases hS : B.S c with
  | cons a b => exact ⟨a, b, rfl, hS ▸ hexp⟩
  | nil =>
    rcases hc with h1 | ⟨h1, h2⟩
    · rw [hB.lit c h1] at hS; nomatch hS
    · obtain ⟨p, s, -, -, hS'⟩ := h.dec c h1 h2
      rw [hS'] at hS
      exact absurd hS (by simp)

theorem stepCode_emitted {r : R} {B : Book} (hB : B.OK) (h : RAt r B) {code : Nat} (hc : B.Sendable code) :
    ∃ first, (B.S code).head? = some first ∧
      stepCode r code = .cont (advance r code (save r first)) (B.S code) := by
  rcases hc.valid with hlit | ⟨h258, hle⟩
  · exact ⟨code, by rw [hB.lit code hlit]; rfl, by simp [stepCode, clear_eq, hlit, hB.lit code hlit]⟩
  · have hnl : ¬ code < 256 := by omega
    have hnc : ¬ code = 256 := by omega
    have hne : ¬ code = 257 := by omega
    have hle' : code ≤ r.hi := h.hi_eq ▸ hle
    by_cases heq : code = r.hi
    · -- the entry the encoder has just created: the previous string and its first byte
      cases hl : r.last with
      | none => exact absurd (hc.first (h.last_eq ▸ hl)) hnl
      | some l =>
        have hlB : B.last = some l := h.last_eq ▸ hl
        have hvp : ValidPrefix l B.hi := by have := hB.lastv; rw [hlB] at this; exact this.1
        obtain ⟨b0, hS, hhead⟩ := hc.link l hlB
        obtain ⟨hd, tl, hSl, hexp⟩ := expand_known hB h l hvp
        have hSc : B.S code = hd :: tl ++ [b0] := by rw [heq, h.hi_eq, hS, hSl]
        obtain rfl : hd = b0 := by simpa [hSc] using hhead
        refine ⟨hd, by rw [hSc]; rfl, ?_⟩
        -- first `code` becomes `r.hi`, so that the test `code == r.hi` fires (the branch with a last code);
        -- then back, because the three guards before `code ≤ hi` are known false of `code`
        simp only [stepCode, clear_eq, eof_eq, heq, beq_self_eq_true, if_true, hl, hexp, ← hSc]
        simp [← heq, hnl, hnc, hne]
    · obtain ⟨hd, tl, hSc, hexp⟩ := expand_known hB h code (Or.inr ⟨h258, by rw [← h.hi_eq]; omega⟩)
      refine ⟨hd, by rw [hSc]; rfl, ?_⟩
      simp only [stepCode, clear_eq, eof_eq, hnl, hnc, hne, if_false, hle', if_true, heq, beq_iff_eq, hexp, hSc]

theorem save_dec {r : R} {B : Book} (hB : B.OK) (h : RAt r B) {code : Nat} (hc : B.Sendable code) (first : Nat)
    (hfirst : (B.S code).head? = some first) :
    ∀ c, 258 ≤ c → c < B.hi + 1 →
      ∃ p s, (save r first)[c]? = some (p, s) ∧ ValidPrefix p c ∧ B.S c = B.S p ++ [s] := by
  intro c h1 h2
  by_cases hlt : c < B.hi
  · obtain ⟨p, s, hg, hv, hS⟩ := h.dec c h1 hlt
    exact ⟨p, s, (save_get_ne r first (by rw [h.hi_eq]; omega)).trans hg, hv, hS⟩
  · obtain rfl : c = B.hi := by omega
    have hlv := hB.lastv
    cases hl : B.last with
    | none => rw [hl] at hlv; have : B.hi = 257 := hlv; omega
    | some l =>
      rw [hl] at hlv
      obtain ⟨b0, hS, hhead⟩ := hc.link l hl
      obtain rfl : b0 = first := Option.some.inj (hhead.symm.trans hfirst)
      refine ⟨l, b0, ?_, hlv.1, hS⟩
      rw [← h.hi_eq]
      have := hB.hi_lt
      exact save_get_hi r b0 (h.last_eq.trans hl) (by rw [h.size, h.hi_eq]; omega)

theorem read_code {r : R} {B : Book} (hB : B.OK) (h : RAt r B) {code : Nat} (hc : B.Sendable code) :
    ∃ r', RAt r' (B.sent code) ∧ ∀ rest,
      decBits r r.width 0 (toBits B.width code ++ rest) = DecRes.pre (B.S code) (decBits r' r'.width 0 rest) := by
  obtain ⟨first, hfirst, hstep⟩ := stepCode_emitted hB h hc
  have hov : r.overflow = 2 ^ r.width := h.width_eq ▸ h.ov_eq
  have hadv := advance_eq r code (save r first) (by rw [hov, h.width_eq, h.hi_eq, h.ec_eq]; exact hB.hi_ov) hov
    (by rw [h.hi_eq, h.ec_eq]; exact hc.room) (h.width_eq ▸ hB.w_lo) (h.width_eq ▸ hB.w_hi)
  refine ⟨advance r code (save r first), ?_, fun rest => ?_⟩
  · rw [hadv]
    have hwid := Book.sent_width code h.width_eq h.hi_eq h.ov_eq h.ec_eq
    exact { width_eq := hwid.symm
            hi_eq := congrArg (· + 1) h.hi_eq
            ov_eq := congrArg (2 ^ ·) hwid.symm
            ec_eq := h.ec_eq, last_eq := rfl, size := save_size r first h.size
            dec := save_dec hB h hc first hfirst }
  · rw [← h.width_eq, decBits_read r r.width code rest (Nat.le_trans (by decide) (h.width_eq ▸ hB.w_lo))
      (h.width_eq ▸ hc.lt hB), afterCode, hstep]

theorem read_eof (r : R) (n : Nat) (tl : Bits) (h9 : 9 ≤ n) :
    decBits r n 0 (toBits n LZW.eof ++ tl) = ([], none) := by
  rw [decBits_read r n LZW.eof tl (Nat.le_trans (by decide) h9)
    (ctl_lt (by decide) h9), afterCode, stepCode_eof]

theorem read_clear (r : R) (n : Nat) (rest : Bits) (h9 : 9 ≤ n) :
    decBits r n 0 (toBits n clear ++ rest) =
      decBits { r with width := initWidth, hi := LZW.eof, overflow := 2 ^ initWidth, last := none } initWidth 0 rest := by
  rw [decBits_read r n clear rest (Nat.le_trans (by decide) h9)
    (ctl_lt (by decide) h9), afterCode, stepCode_clear]
  rfl

theorem reader_follows : Follows RAt Decodes where
  code := by
    intro r B c hB hr hc
    obtain ⟨r', hr', hread⟩ := read_code hB hr hc
    refine ⟨r', hr', fun rest out ho => ?_⟩
    rw [Decodes, hread, show decBits _ _ 0 rest = _ from ho]
    rfl
  clear := by
    intro r B hB hr
    refine ⟨{ r with width := initWidth, hi := LZW.eof, overflow := 2 ^ initWidth, last := none },
      { width_eq := rfl, hi_eq := rfl, ov_eq := rfl, ec_eq := hr.ec_eq, last_eq := rfl, size := hr.size,
        dec := fun c h1 (h2 : c < 257) => by omega }, fun rest out ho => ?_⟩
    rw [Decodes, hr.width_eq, read_clear _ _ rest hB.w_lo]
    exact ho
  eof := fun hB hr tl => by
    rw [Decodes, hr.width_eq]; exact read_eof _ _ tl hB.w_lo
  define := by
    intro r B s _ hr
    refine { hr with dec := fun c h1 h2 => ?_ }
    obtain ⟨p, s', hg, hvp, hS⟩ := hr.dec c h1 h2
    have h2 : c < B.hi := h2
    refine ⟨p, s', hg, hvp, ?_⟩
    show updS B.S B.hi s c = updS B.S B.hi s p ++ [s']
    rw [updS_lt _ _ h2, updS_lt _ _ (Nat.lt_trans (hvp.lt (by omega)) h2), hS]

/-- Writer `w` and reader `r` (which has read every code `w` has written) are in step;
    `S c` is the byte string that code `c` stands for. -/
structure Sim (w : W) (r : R) (S : Nat → Bytes) : Prop where
  width_eq : w.width = r.width
  hi_eq : w.hi = r.hi
  ov_eq : w.overflow = r.overflow
  ec_eq : w.ec = r.ec
  ec_le : w.ec ≤ 1
  ov_pow : w.overflow = 2 ^ w.width
  w_lo : 9 ≤ w.width
  w_hi : w.width ≤ 12
  hi_lo : 257 ≤ w.hi
  hi_ov : w.hi + w.ec < w.overflow
  hi_max : w.hi + w.ec < 4095
  lit : ∀ c, c < 256 → S c = [c]
  /-- every entry of the writer's table extends the string of an earlier code by one byte -/
  enc : ∀ key c, lookup key w.table = some c →
      258 ≤ c ∧ c ≤ w.hi ∧ ∃ p b, key = p * 256 + b ∧ b < 256 ∧ ValidPrefix p c ∧ S c = S p ++ [b]
  size : r.table.size = 4096
  /-- the reader knows every entry below `hi`, with the same strings -/
  dec : ∀ c, 258 ≤ c → c < r.hi → ∃ p s, r.table[c]? = some (p, s) ∧ ValidPrefix p c ∧ S c = S p ++ [s]
  saved : match w.saved with
    | none => r.last = none
    | some code => (code < 256 ∨ (258 ≤ code ∧ code ≤ w.hi)) ∧ (r.last = none → code < 256)
  /-- the writer's newest entry `hi` is the last code written, extended by the first pending byte -/
  last : match r.last with
    | none => w.hi = 257
    | some l => ValidPrefix l w.hi ∧ 258 ≤ w.hi ∧
        ∃ b0, S w.hi = S l ++ [b0] ∧ (pendingStr w S).head? = some b0

theorem sim_book {w : W} {r : R} {S : Nat → Bytes} (h : Sim w r S) :
    (⟨w.width, w.hi, w.ec, r.last, S⟩ : Book).OK ∧ WAt w ⟨w.width, w.hi, w.ec, r.last, S⟩ ∧
      RAt r ⟨w.width, w.hi, w.ec, r.last, S⟩ := by
  have hlast := h.last
  have hsaved := h.saved
  refine ⟨{ ec_le := h.ec_le, w_lo := h.w_lo, w_hi := h.w_hi, hi_lo := h.hi_lo, hi_ov := h.ov_pow ▸ h.hi_ov,
            lit := h.lit, lastv := ?_ },
    { width_eq := rfl, hi_eq := rfl, ov_eq := h.ov_pow, ec_eq := rfl, room := h.hi_max, enc := h.enc,
      savedn := fun hs => ?_, sendable := fun code hs => ?_ },
    { width_eq := h.width_eq.symm, hi_eq := h.hi_eq.symm, ov_eq := h.ov_eq ▸ h.ov_pow, ec_eq := h.ec_eq.symm,
      last_eq := rfl, size := h.size, dec := fun c h1 h2 => h.dec c h1 (h.hi_eq ▸ h2) }⟩
  · show match r.last with
      | none => w.hi = 257
      | some l => ValidPrefix l w.hi ∧ 258 ≤ w.hi
    cases hl : r.last with
    | none => rw [hl] at hlast; exact hlast
    | some l => rw [hl] at hlast; exact ⟨hlast.1, hlast.2.1⟩
  · rw [hs] at hsaved; exact hsaved
  · rw [hs] at hsaved
    refine { room := h.hi_max, valid := hsaved.1, first := hsaved.2, link := fun l hl => ?_ }
    have hl : r.last = some l := hl
    rw [hl] at hlast
    obtain ⟨b0, h1, h2⟩ := hlast.2.2
    exact ⟨b0, h1, by rwa [pendingStr_some S hs] at h2⟩

/-- **Simulation.**  From any pair of states in step, the reader turns everything the writer
    still writes (followed by arbitrary bits, e.g. the padding of the last byte) into the
    pending string followed by the remaining input. -/
theorem run_sim (xs : Bytes) (hx : AllBytes xs) : ∀ (w : W) (r : R) (S : Nat → Bytes), Sim w r S → ∀ tl,
    decBits r r.width 0 (run w xs ++ tl) = (pendingStr w S ++ xs, none) :=
  fun w r _ h tl => run_follows reader_follows xs hx w _ r (sim_book h).1 (sim_book h).2.1 (sim_book h).2.2 tl

/-- the protocol at the start: no entries, nine bits, the strings of the literal codes -/
def book0 (early : Bool) : Book := ⟨9, 257, if early then 1 else 0, none, fun c => if c < 256 then [c] else []⟩

theorem book0_ok (early : Bool) : (book0 early).OK :=
  { ec_le := by cases early <;> decide, w_lo := Nat.le_refl _, w_hi := (by decide : 9 ≤ 12), hi_lo := Nat.le_refl _,
    hi_ov := by cases early <;> decide, lit := fun _ hc => if_pos hc, lastv := rfl }

theorem wat_init (early : Bool) : WAt (W.init early) (book0 early) :=
  { width_eq := rfl, hi_eq := rfl, ov_eq := rfl, ec_eq := rfl, room := by cases early <;> decide,
    enc := fun _ _ hlk => (nomatch (show none = some _ from hlk)), savedn := fun _ => rfl,
    sendable := fun _ hn => (nomatch hn) }

theorem rat_init (early : Bool) : RAt (R.init early) (book0 early) :=
  { width_eq := rfl, hi_eq := rfl, ov_eq := rfl, ec_eq := rfl, last_eq := rfl, size := by simp [R.init, tableSize_eq],
    dec := fun c h1 (h2 : c < 257) => by omega }

/-- both encoders start with a clear code, which leaves the fresh reader as it is -/
theorem decBits_leading_clear (early : Bool) (rest : Bits) :
    decBits (R.init early) initWidth 0 (toBits initWidth clear ++ rest) = decBits (R.init early) initWidth 0 rest :=
  read_clear _ _ rest (by decide)

/-- **LZW round trip** (both `EarlyChange` settings) for every byte string: the reader applied to
    the bytes the writer produces — leading clear code, variable code width, clear codes when
    the table fills up, eof code, zero padding — returns the input and a clean end of data. -/
theorem lzw_rt (early : Bool) (x : Bytes) (hx : AllBytes x) : decode early (encode early x) = (x, none) := by
  unfold decode encode encodeBits
  rw [bitpack_rt, List.append_assoc, decBits_leading_clear]
  exact run_follows reader_follows x hx (W.init early) (book0 early) (R.init early) (book0_ok early) (wat_init early)
    (rat_init early) _

-- non-vacuity: concrete inputs (with a `code = hi` case: "aaaa…") round-trip by evaluation
example : decode true (encode true [97, 97, 97, 97, 97, 97, 97, 98, 97, 98, 97, 98]) =
    ([97, 97, 97, 97, 97, 97, 97, 98, 97, 98, 97, 98], none) := by decide +kernel
example : encode false [] = [128, 64, 64] := by decide +kernel

end PdfVerif.C06faL
