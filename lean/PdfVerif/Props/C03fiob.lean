import PdfVerif.Props.C03fio
import PdfVerif.Props.C02fioj
/-!
# C03 — the end of the file, byte for byte (work package FIO)

Corollaries of `close_table_layout` / `writer_wf_table_partial` (table form) and of
`close_stream_layout` (stream form): the end of the file is what `Close` appends and `checkTail`
accepts it; no entry points behind the cross-reference section; distinct objects stand at distinct
offsets.
-/
namespace PdfVerif.C03fiob
open PdfVerif PdfVerif.FIO PdfVerif.C03fio
open PdfVerif.C02fiob (At Inv)

theorem stream_tail_ok {s3 : WState} {out mid : Bytes} (i3 : Inv s3)
    (hout : out = s3.out ++ mid ++ kEndstream ++ kStartxref ++ decOf s3.pos ++ kEOF)
    (hsize : out.length < 10000000000) : Spec.FileWF.checkTail out = .ok s3.pos :=
  tail_ok (mid := mid ++ kEndstream.dropLast) i3 (by rw [hout]; simp [kEndstream]) (Nat.lt_trans hsize (by decide))

/-- **eof_is_last.**  After a successful `Close` in table form the file *ends* with
`startxref\n <x> \n%%EOF\n` — nothing stands behind the end-of-file marker — where `x` is
the number the independent `checkTail` returns; immediately in front of `startxref` stands the
end-of-line that closes the trailer dictionary, and the keyword `trailer` follows the table
without a gap (the table starts at `x`, the trailer at `x + |table|`). -/
theorem eof_is_last {s s' : WState} {cat : Obj} {info : Option Obj} {tr : List (Bytes × Obj)} {raw : Bytes}
    (hi : Inv s) (hobj : s.opts.objStm = false) (h : close s cat info tr raw = .ok s')
    (hsize : s'.out.length < 10000000000) :
    ∃ (x : Nat) (pre body td : Bytes),
      Spec.FileWF.checkTail s'.out = .ok x ∧
      pre.length = x ∧
      xrefTableBody s'.xref s'.nextRef = some body ∧
      s'.out = pre ++ body ++ kTrailerNL ++ td ++ [10] ++ kStartxref ++ decOf x ++ kEOF ∧
      At s'.out (x + body.length) kTrailerNL := by
  obtain ⟨s2, body, td, _, _, L⟩ := C02fioe.close_table_layout hobj h
  have i2 := L.reach.inv hi
  refine ⟨s2.pos, s2.out, body, td, tail_ok i2 L.out (Nat.lt_trans hsize (by decide)), i2.pos_eq.symm, ?_, ?_, ?_⟩
  · rw [L.xref, L.nextRef]; exact L.table
  · rw [L.out]; simp
  · rw [L.out, i2.pos_eq]
    exact ⟨s2.out ++ body, td ++ [10] ++ (kStartxref ++ decOf s2.out.length ++ kEOF), by simp, by simp⟩

/-- the offset after `startxref` lies strictly inside the file: at least the 26 bytes of
`trailer\n`, the end-of-line, `startxref\n` and `\n%%EOF\n` stand behind it (besides table, trailer
dictionary and the digits).  Hypotheses are those of `writer_wf_table_partial`, met by the
`decide +kernel` example there. -/
theorem close_table_xref_after_body {s s' : WState} {cat : Obj} {info : Option Obj} {tr : List (Bytes × Obj)} {raw : Bytes}
    (hi : Inv s) (hobj : s.opts.objStm = false) (h : close s cat info tr raw = .ok s')
    (hsize : s'.out.length < 10000000000) :
    ∃ x, Spec.FileWF.checkTail s'.out = .ok x ∧ x + 26 ≤ s'.out.length := by
  obtain ⟨x, pre, body, td, h1, h2, _, h4, _⟩ := eof_is_last hi hobj h hsize
  refine ⟨x, h1, ?_⟩
  rw [h4, ← h2]
  simp [kTrailerNL, kwTrailer, kStartxref, kEOF]
  omega

/-- the digits in front of a space are the longest prefix of digits -/
theorem digits_sep (ds ds' r r' : Bytes) (h : ds.all isDigit = true) (h' : ds'.all isDigit = true)
    (he : ds ++ 32 :: r = ds' ++ 32 :: r') : ds = ds' := by
  have key : ∀ d t : Bytes, d.all isDigit = true → (d ++ 32 :: t).takeWhile isDigit = d := by
    intro d t hd
    rw [List.takeWhile_append_of_pos (by simpa using hd)]
    simp [isDigit]
  rw [← key ds r h, he, key ds' r' h']

theorem decOf_inj (n n' : Nat) (r r' : Bytes) (h : decOf n ++ 32 :: r = decOf n' ++ 32 :: r') : n = n' := by
  obtain ⟨a1, a2, _, _⟩ := C02fioc.decOf_spec n (n + 1) (C01L.lt_ten_pow_succ n) (by omega)
  obtain ⟨b1, b2, _, _⟩ := C02fioc.decOf_spec n' (n' + 1) (C01L.lt_ten_pow_succ n') (by omega)
  have := digits_sep _ _ r r' a1 b1 h
  rw [← a2, ← b2, this]

theorem header_at_inj {out : Bytes} {p n g n' g' : Nat}
    (h1 : At out p (objHeader n g)) (h2 : At out p (objHeader n' g')) : n = n' := by
  obtain ⟨pre, rest, e1, l1⟩ := h1
  obtain ⟨pre', rest', e2, l2⟩ := h2
  rw [e1] at e2
  simp only [List.append_assoc] at e2
  have := List.append_inj e2 (by omega)
  have h := this.2
  unfold objHeader at h
  simp only [List.append_assoc, List.singleton_append] at h
  exact decOf_inj n n' _ _ h

theorem objHeader_length_pos (n g : Nat) : 0 < (objHeader n g).length := by
  simp [objHeader, kObj]; omega

/-- **offsets_distinct_inv.**  In every state satisfying the writer invariant — at any moment of
a program, with or without an open stream, table form or stream form — two in-use entries (not in
an object stream) with the same offset belong to the same object number. -/
theorem offsets_distinct_inv {s : WState} (hi : Inv s)
    (n n' : Nat) (e e' : XEntry) (hn : s.xref.get n = some e) (hn' : s.xref.get n' = some e')
    (hs : e.inStream = 0) (hs' : e'.inStream = 0) (hp : 0 ≤ e.pos) (heq : e.pos = e'.pos) : n = n' := by
  have hp' : 0 ≤ e'.pos := by omega
  rcases hi.entries n e hn hs hp with a1 | ⟨st, h1, _, h3, _, h5⟩
  · rcases hi.entries n' e' hn' hs' hp' with a2 | ⟨st', _, _, _, _, k5⟩
    · rw [← heq] at a2
      exact header_at_inj a1 a2
    · -- `n` has its header inside the file, `n'` is the pending stream at the end of the file
      have := a1.end_le
      have hl := objHeader_length_pos n e.gen
      have := hi.pos_eq
      omega
  · rcases hi.entries n' e' hn' hs' hp' with a2 | ⟨st', k1, _, k3, _, _⟩
    · have := a2.end_le
      have hl := objHeader_length_pos n' e'.gen
      have := hi.pos_eq
      omega
    · rw [h1] at k1
      cases k1
      omega

theorem offsets_distinct_reachable (o : WOpts) (s0 s : WState) (ops : List Op)
    (h0 : initState o = some s0) (hr : run s0 ops 0 = .ok s)
    (n n' : Nat) (e e' : XEntry) (hn : s.xref.get n = some e) (hn' : s.xref.get n' = some e')
    (hs : e.inStream = 0) (hs' : e'.inStream = 0) (hp : 0 ≤ e.pos) (heq : e.pos = e'.pos) : n = n' :=
  offsets_distinct_inv (C02fiob.run_inv ops (C02fiob.init_inv o s0 h0) hr) n n' e e' hn hn' hs hs' hp heq

/-- **xref_offsets_distinct.**  In the file a successful `Close` leaves behind (table form), two
in-use cross-reference entries with the same byte offset are entries of the same object number:
the table never sends two objects to one place.  (`offsets_distinct_inv` at the state whose table
`Close` writes; `hsize` and `hgen` are not needed for it.) -/
theorem xref_offsets_distinct {s s' : WState} {cat : Obj} {info : Option Obj} {tr : List (Bytes × Obj)} {raw : Bytes}
    (hi : Inv s) (hobj : s.opts.objStm = false) (h : close s cat info tr raw = .ok s')
    (hsize : s'.out.length < 10000000000)
    (hgen : ∀ n e, s'.xref.get n = some e → e.gen ≤ 65535)
    (n n' : Nat) (e e' : XEntry) (hn : s'.xref.get n = some e) (hn' : s'.xref.get n' = some e')
    (hp : 0 ≤ e.pos) (heq : e.pos = e'.pos) : n = n' := by
  obtain ⟨s2, _, _, _, _, L⟩ := C02fioe.close_table_layout hobj h
  have i2 := L.reach.inv hi
  rw [L.xref] at hn hn'
  exact offsets_distinct_inv i2 n n' e e' hn hn' (C02fioe.table_entries i2 L.stm2 L.table hn).1
    (C02fioe.table_entries i2 L.stm2 L.table hn').1 hp heq

/-- **eof_is_last_xrefstream.**  After a successful `Close` in object-stream mode the file ends
with `\nendstream\nendobj\n` `startxref\n <x> \n%%EOF\n` and nothing behind it; the independent
`checkTail` accepts that end and returns `x`; `x` is the length of everything written before the
cross-reference stream object, and the final table's entry for the stream's own number `ref`
(the last number, `ref + 1 = Size`) is an in-use entry at exactly `x` with generation 0. -/
theorem eof_is_last_xrefstream {s s' : WState} {cat : Obj} {info : Option Obj} {tr : List (Bytes × Obj)} {raw : Bytes}
    (hi : Inv s) (hna : C02fioj.NoAfter s) (hobj : s.opts.objStm = true) (h : close s cat info tr raw = .ok s')
    (hsize : s'.out.length < 10000000000) :
    ∃ (x ref : Nat) (pre mid : Bytes),
      Spec.FileWF.checkTail s'.out = .ok x ∧
      pre.length = x ∧
      s'.out = pre ++ mid ++ kEndstream ++ kStartxref ++ decOf x ++ kEOF ∧
      s'.xref.get ref = some ⟨0, (x : Int), 0⟩ ∧ ref + 1 = s'.nextRef := by
  obtain ⟨s3, ref, cr, ir, mid, L⟩ := C02fioj.close_stream_layout hi hna hobj h
  exact ⟨s3.pos, ref, s3.out, mid, stream_tail_ok L.inv3 L.out hsize, L.inv3.pos_eq.symm, L.out,
    by simpa using L.table ref, by rw [L.nextRef]; exact L.last⟩

/-- `eof_is_last_xrefstream` for every program: `Inv` and `NoAfter` hold of every reachable state -/
theorem eof_is_last_xrefstream_reachable (o : WOpts) (s0 s s' : WState) (ops : List Op)
    {cat : Obj} {info : Option Obj} {tr : List (Bytes × Obj)} {raw : Bytes}
    (h0 : initState o = some s0) (hr : run s0 ops 0 = .ok s)
    (hobj : s.opts.objStm = true) (h : close s cat info tr raw = .ok s')
    (hsize : s'.out.length < 10000000000) :
    ∃ (x ref : Nat) (pre mid : Bytes),
      Spec.FileWF.checkTail s'.out = .ok x ∧ pre.length = x ∧
      s'.out = pre ++ mid ++ kEndstream ++ kStartxref ++ decOf x ++ kEOF ∧
      s'.xref.get ref = some ⟨0, (x : Int), 0⟩ ∧ ref + 1 = s'.nextRef :=
  have i0 := C02fiob.init_inv o s0 h0
  eof_is_last_xrefstream (C02fiob.run_inv ops i0 hr) (C02fioj.run_na ops i0 (C02fioj.init_na o s0 h0) hr) hobj h hsize

/-- `eof_is_last` for every program: `Inv` holds of every reachable state -/
theorem eof_is_last_reachable (o : WOpts) (s0 s s' : WState) (ops : List Op)
    {cat : Obj} {info : Option Obj} {tr : List (Bytes × Obj)} {raw : Bytes}
    (h0 : initState o = some s0) (hr : run s0 ops 0 = .ok s)
    (hobj : s.opts.objStm = false) (h : close s cat info tr raw = .ok s')
    (hsize : s'.out.length < 10000000000) :
    ∃ (x : Nat) (pre body td : Bytes),
      Spec.FileWF.checkTail s'.out = .ok x ∧ pre.length = x ∧
      xrefTableBody s'.xref s'.nextRef = some body ∧
      s'.out = pre ++ body ++ kTrailerNL ++ td ++ [10] ++ kStartxref ++ decOf x ++ kEOF ∧
      At s'.out (x + body.length) kTrailerNL :=
  eof_is_last (C02fiob.run_inv ops (C02fiob.init_inv o s0 h0) hr) hobj h hsize

/-- **objects_before_xref.**  Table form, after a successful `Close`: every in-use entry's object
header `N G obj` lies completely in front of the offset `x` that `startxref` names (and
`checkTail` returns) — no entry points into the table, the trailer or behind the file. -/
theorem objects_before_xref {s s' : WState} {cat : Obj} {info : Option Obj} {tr : List (Bytes × Obj)} {raw : Bytes}
    (hi : Inv s) (hobj : s.opts.objStm = false) (h : close s cat info tr raw = .ok s')
    (hsize : s'.out.length < 10000000000) :
    ∃ x, Spec.FileWF.checkTail s'.out = .ok x ∧
      ∀ n e, s'.xref.get n = some e → 0 ≤ e.pos → e.pos.toNat + (objHeader n e.gen).length ≤ x := by
  obtain ⟨s2, body, td, _, _, L⟩ := C02fioe.close_table_layout hobj h
  have i2 := L.reach.inv hi
  refine ⟨s2.pos, tail_ok i2 L.out (Nat.lt_trans hsize (by decide)), fun n e hg hp => ?_⟩
  rw [i2.pos_eq]
  exact ((C02fioe.table_entries i2 L.stm2 L.table (L.xref ▸ hg)).2.2 hp).end_le

/-- **entries_not_behind_xrefstream.**  Stream form, after a successful `Close`: no in-use entry
outside object streams has an offset behind `x`, the offset of the cross-reference stream object
that `startxref` names; the entry at `x` is the stream's own. -/
theorem entries_not_behind_xrefstream {s s' : WState} {cat : Obj} {info : Option Obj} {tr : List (Bytes × Obj)} {raw : Bytes}
    (hi : Inv s) (hna : C02fioj.NoAfter s) (hobj : s.opts.objStm = true) (h : close s cat info tr raw = .ok s')
    (hsize : s'.out.length < 10000000000) :
    ∃ x, Spec.FileWF.checkTail s'.out = .ok x ∧
      ∀ n e, s'.xref.get n = some e → e.inStream = 0 → 0 ≤ e.pos → e.pos.toNat ≤ x := by
  obtain ⟨s3, ref, cr, ir, mid, L⟩ := C02fioj.close_stream_layout hi hna hobj h
  have i3 := L.inv3
  refine ⟨s3.pos, stream_tail_ok i3 L.out hsize, fun n e hg hs hp => ?_⟩
  rw [L.table n] at hg
  split at hg
  · cases hg; simp
  · rcases i3.entries n e hg hs hp with ha | ⟨st, _, _, _, _, h5⟩
    · have := ha.end_le
      rw [i3.pos_eq]; omega
    · omega


/-- **entries_inside_file.**  At every moment of every program no in-use entry (outside object
streams) names an offset behind what has been written: its header lies inside the file, or it is
the entry of the stream just opened, whose header comes next (offset = current length). -/
theorem entries_inside_file (o : WOpts) (s0 s : WState) (ops : List Op)
    (h0 : initState o = some s0) (hr : run s0 ops 0 = .ok s)
    (n : Nat) (e : XEntry) (hn : s.xref.get n = some e) (hs : e.inStream = 0) (hp : 0 ≤ e.pos) :
    e.pos.toNat ≤ s.out.length := by
  have hi := C02fiob.run_inv ops (C02fiob.init_inv o s0 h0) hr
  rcases hi.entries n e hn hs hp with ha | ⟨st, _, _, _, _, h5⟩
  · have := ha.end_le; omega
  · have := hi.pos_eq; omega

-- non-vacuity of the stream-form theorems: a PDF 1.5 program (cross-reference stream) ends in a
-- state whose tail the checker accepts; the offset it returns is the one recorded for the
-- cross-reference stream's own number, the last one
example : (match initState { C02fiob.exOpts with version := Gen.fio_V1_5 } with
    | some s0 => (match run s0 C02fiob.exProg 0 with
      | .ok s => (match Spec.FileWF.checkTail s.out with
          | .ok x => s.opts.objStm && s.xref.get (s.nextRef - 1) == some ⟨0, (x : Int), 0⟩ && decide (0 < x)
          | _ => false)
      | _ => false)
    | none => false) = true := by decide +kernel

end PdfVerif.C03fiob
