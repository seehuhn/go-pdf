import PdfVerif.Model.ROBSink
/-!
# C19 — `sink_fault`: a failing sink is reported no later than `Close`

Over the model of `bufio.Writer` (`Model/ROBSink.lean`): the error field is sticky, every failing
call of the sink sets it in the same operation, and the final `Flush` of `Writer.Close` returns it.
So whatever the Writer wrote and whenever the sink failed (any call index, with or without a
partial write), some call no later than `Close` returns the sink's error.  What is *not* covered
here: that every Writer method passes the error of `w.w.Write` on (evaluated by the all-k
enumeration of the harness), and `Placeholder.Set`, which seeks and writes on the raw sink and
returns those errors directly.
-/
namespace PdfVerif.C19robsink
open PdfVerif PdfVerif.ROB

/-- the invariant: a failed sink call is never forgotten -/
def Inv (b : BW) : Prop := b.failed = true → b.err.isSome = true

theorem Inv.failed_eq {b : BW} (h : Inv b) (he : b.err = none) : b.failed = false := by
  cases hb : b.failed with
  | false => rfl
  | true => have := h hb; rw [he] at this; cases this

theorem Inv.of_failed_eq {b : BW} (h : b.failed = false) : Inv b :=
  fun hc => by rw [h] at hc; cases hc

theorem flush_inv (sink : Sink) (b : BW) (h : Inv b) :
    Inv (b.flush sink).1 ∧ ((b.flush sink).1.err.isSome = true → (b.flush sink).2 = (b.flush sink).1.err) := by
  unfold BW.flush
  cases he : b.err with
  | some e => exact ⟨h, fun _ => he.symm⟩
  | none =>
    have hf := h.failed_eq he
    by_cases h0 : b.buf.length = 0
    · rw [if_pos h0]
      exact ⟨h, fun hc => by rw [he] at hc; cases hc⟩
    · simp only [h0, if_false]
      cases hs : (sink b.calls b.buf).2 with
      | some e => simp [Inv]
      | none =>
        by_cases hshort : min (sink b.calls b.buf).1 b.buf.length < b.buf.length
        · simp [Inv, hshort]
        · simp [Inv, hshort, hf]

theorem write_inv (sink : Sink) : ∀ (fuel : Nat) (b : BW) (p : Bytes), Inv b → Inv (BW.write sink fuel b p).1 := by
  intro fuel
  induction fuel with
  | zero => intro b p h; exact h
  | succ fuel ih =>
    intro b p h
    unfold BW.write
    cases he : b.err with
    | some e => exact h
    | none =>
      have hf := h.failed_eq he
      by_cases hbig : p.length > b.size - b.buf.length
      · simp only [hbig, if_true]
        by_cases h0 : b.buf.length = 0
        · simp only [h0, if_true]
          -- the direct write: `err` and `failed` are set together
          refine ih _ _ fun hfl => ?_
          rw [show b.failed = false from hf] at hfl
          exact hfl
        · simp only [h0, if_false]
          have F := (flush_inv sink ⟨b.size, b.buf ++ p.take (b.size - b.buf.length), none, b.calls, b.out, b.failed⟩
            (Inv.of_failed_eq hf)).1
          generalize BW.flush sink ⟨b.size, b.buf ++ p.take (b.size - b.buf.length), none, b.calls, b.out, b.failed⟩ = r at F
          exact ih r.1 _ F
      · simp only [hbig, if_false]
        exact Inv.of_failed_eq hf

/-- **sink_fault** (bufio layer): after any sequence of `Write` calls, if some call of the sink
    failed — at whatever call index; it returned an error, or it was a call made by `Flush` and wrote
    short (`io.ErrShortWrite`; a short write without error of the direct `Write` is retried by bufio and
    does not count) — the final `Flush` of `Writer.Close` returns an error, namely the sticky one. -/
theorem sink_fault (sink : Sink) (fuel : Nat) : ∀ (ps : List Bytes) (b : BW), Inv b →
    (session sink fuel b ps).2.1.failed = true →
      (session sink fuel b ps).2.2.isSome = true ∧ (session sink fuel b ps).2.2 = (session sink fuel b ps).2.1.err := by
  intro ps
  induction ps with
  | nil =>
    intro b h hf
    simp only [session] at hf ⊢
    have F := flush_inv sink b h
    have hs := F.1 hf
    exact ⟨by rw [F.2 hs]; exact hs, F.2 hs⟩
  | cons p ps ih =>
    intro b h hf
    simp only [session] at hf ⊢
    exact ih _ (write_inv sink fuel b p h) hf

-- non-vacuity: 16-byte buffer, three writes, the sink's second call fails after 3 bytes:
-- the third Write and the final Flush both return the error
example :
    let sink : Sink := fun k p => if k = 1 then (3, some .io) else (p.length, none)
    let r := session sink 100 (BW.new 16) [List.replicate 10 1, List.replicate 10 2, List.replicate 30 3, [4]]
    (r.1, r.2.2, r.2.1.failed) = ([none, none, some .io, some .io], some .io, true) := by decide +kernel

/-- **direct_sink_fault**: over a directly used sink the property holds exactly as far as every
    call's error is looked at: if the code checks every call and some call has failed, the session
    reports an error.  This is a statement about the SHAPE of the code; that `writer.go` has this
    shape (every `Write`, `Seek`, `Flush` result is tested before the next call) is evaluated on the
    implementation by the all-k enumeration over direct sinks (`harness/rob_c19s.go`), not proved: the
    write sequences of `writeXRefTable`, `writeXRefStream` and the trailer are not modelled. -/
theorem direct_sink_fault (sink : Sink) (checked : Nat → Bool) (hall : ∀ k, checked k = true) :
    ∀ (ps : List Bytes) (k : Nat), (directSession sink checked k ps).2 = true →
      (directSession sink checked k ps).1.isSome = true := by
  intro ps
  induction ps with
  | nil => intro k h; simp [directSession] at h
  | cons p ps ih =>
    intro k h
    unfold directSession at h ⊢
    cases hs : (sink k p).2 with
    | none => rw [hs] at h; simp only [] at h ⊢; exact ih (k + 1) h
    | some e => simp only [hall k, if_true]; rfl

-- … and one unchecked call is enough to lose a one-off failure: three writes, the error of the second
-- one is not looked at (e.g. it is overwritten by the next `fmt.Fprintf` of a loop whose error is tested
-- once at the end), the sink fails only there: nothing is reported.  Behind `bufio.Writer` the same
-- program reports it (`sink_fault`).
example :
    let sink : Sink := fun k p => if k = 1 then (0, some .io) else (p.length, none)
    directSession sink (fun k => k != 1) 0 [[1], [2], [3]] = (none, true) := by decide +kernel

example :
    let sink : Sink := fun k p => if k = 1 then (0, some .io) else (p.length, none)
    directSession sink (fun _ => true) 0 [[1], [2], [3]] = (some .io, true) := by decide +kernel

end PdfVerif.C19robsink
