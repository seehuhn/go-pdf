import PdfVerif.Lemmas.TRFilter
import PdfVerif.Spec.TRPng
import PdfVerif.Generated.FnJbig2
/-!
# C08 (translator part): bounds and exactness facts about GENERATED code

`Gen.pred_*` (internal/filter/predict), `Gen.lim_*` (internal/limits), the `validate` functions of filter.go
(`Gen.pdf_*`) and `Gen.jbig2_*` (internal/filter/jbig2: work limit, `checkedMul`, `checkBitmapSize`) are re-created
from the Go sources on every run; the closed forms that the bridges need are in `Lemmas/TRFilter.lean`, the equality with
the hand models in `Props/C08trb.lean`.  The theorems quantify over every argument value (`Go.IsI64 x` = "x is a Go int")
unless a hypothesis says otherwise (the `*_partial` ones, the image-size facts).
-/
namespace PdfVerif.C08tr
open PdfVerif PdfVerif.Gen PdfVerif.Go

/-- the generated `paethPredictor` is the PNG specification's predictor for all 2²⁴ inputs: the
`int` arithmetic of the Go code never wraps and selects the same neighbour, ties included -/
theorem paeth_spec (a b c : UInt8) :
    pred_paethPredictor a b c =
      match Spec.Png.paethSel a.toNat b.toNat c.toNat with
      | 0 => a | 1 => b | 2 => c := by
  unfold pred_paethPredictor Spec.Png.paethSel
  have ha := u8_cast_bounds a
  have hb := u8_cast_bounds b
  have hc := u8_cast_bounds c
  generalize (a.toNat : Int) = A at ha ⊢
  generalize (b.toNat : Int) = B at hb ⊢
  generalize (c.toNat : Int) = C at hc ⊢
  as_aux_lemma =>
    simp (disch := omega) only [Id.run, pure, i64_of_bounds, abs_eq_natAbs, Bool.and_eq_true, decide_eq_true_eq,
      Int.ofNat_le]
    split
    · simp [*]
    · split <;> simp [*]

theorem paeth_picks (a b c : UInt8) :
    pred_paethPredictor a b c = a ∨ pred_paethPredictor a b c = b ∨ pred_paethPredictor a b c = c := by
  rw [paeth_spec]
  split <;> simp

example : pred_paethPredictor 10 20 15 = 15 ∧ Spec.Png.paethSel 10 20 15 = 2 := by decide +kernel

/-- once `Validate` accepts parameters of a real predictor,
none of the derived sizes can overflow `int`, and the row buffer is at most
`MaxImageWidth·MaxImageChannels·16/8` = 4 MiB -/
theorem validated_sizes (p : pred_Params) (hp : p.Predictor ≠ 1) (hv : pred_Params_Validate p = none) :
    pred_Params_bitsPerPixel p = p.Colors * p.BitsPerComponent ∧
    pred_Params_bitsPerRow p = p.Colors * p.BitsPerComponent * p.Columns ∧
    pred_Params_bytesPerRow p = (p.Colors * p.BitsPerComponent * p.Columns + 7) / 8 ∧
    1 ≤ pred_Params_bytesPerRow p ∧ pred_Params_bytesPerRow p ≤ 4194304 ∧
    pred_Params_bytesPerPixel p = (p.Colors * p.BitsPerComponent + 7) / 8 ∧
    1 ≤ pred_Params_bytesPerPixel p ∧ pred_Params_bytesPerPixel p ≤ 512 := by
  obtain ⟨hc, hb, hk1, hk2, hrow⟩ := ((validate_ok_iff p).mp hv).resolve_left hp
  obtain ⟨a1, a2, a3, a4⟩ := FB.prod_bounds (colors := p.Colors) (by omega) (by omega) hb hk1 hk2
  unfold pred_Params_bytesPerRow pred_Params_bytesPerPixel pred_Params_bitsPerRow pred_Params_bitsPerPixel
  simp (disch := omega) only [Id.run, pure, i64_of_bounds, quoK_pos, true_and]
  omega

example : pred_Params_Validate ⟨3, 8, 100, 12⟩ = none ∧ pred_Params_bytesPerRow ⟨3, 8, 100, 12⟩ = 300 := by
  decide +kernel

theorem streamBudget_bounded (n : Int) (h : IsI64 n) :
    (lim_StreamBudgetBase : Int) ≤ lim_StreamBudget n ∧
    lim_StreamBudget n ≤ lim_StreamBudgetBase + lim_StreamBudgetHardCap := by
  rw [streamBudget_spec n h]
  unfold lim_StreamBudgetBase lim_StreamBudgetMultiplier lim_StreamBudgetHardCap
  omega

theorem streamBudget_mono (m n : Int) (hm : IsI64 m) (hn : IsI64 n) (h : m ≤ n) :
    lim_StreamBudget m ≤ lim_StreamBudget n := by
  rw [streamBudget_spec m hm, streamBudget_spec n hn]
  unfold lim_StreamBudgetBase lim_StreamBudgetMultiplier lim_StreamBudgetHardCap
  omega

/-- full-strength statement for `MaxXRefEntries`: exact for every `int64` length -/
def MaxXRefEntriesExact : Prop := ∀ n : Int, IsI64 n →
  lim_MaxXRefEntries n = lim_XRefEntriesBase + lim_XRefEntriesPerByte * max n 0

/-- … which is false: the product `32·rawLen` is not guarded and wraps from rawLen = 2⁵⁸ on (there
the cap is negative and every xref stream is rejected; a wrapped cap is always below the exact one: fails safe;
such lengths cannot occur) -/
theorem maxXRefEntries_exact_false : ¬ MaxXRefEntriesExact := by
  intro h
  have := h 288230376151711744 (by decide)
  revert this
  decide +kernel

theorem shadingBudget_spec_partial (n : Int) (h : IsI64 n) (hn : n < 144115188075855872) :
    lim_ShadingBudget n = lim_StreamBudgetBase + lim_MaxShadingExpansion * max n 0 := by
  unfold lim_ShadingBudget lim_StreamBudgetBase lim_MaxShadingExpansion
  unfold IsI64 at h
  simp only [Id.run, pure, decide_eq_true_eq]
  split <;> simp (disch := omega) only [i64_of_bounds] <;> omega

/-- exact (mathematical) encoded size of an image in bytes -/
def imageBytes (w h ch bpc : Int) : Int := (w * ch * bpc + 7) / 8 * h

/-- on the domain the callers establish (dimensions ≤ 2²⁰, channels and bits ≤ 1024; the real
caps are 2¹⁶, 32 and 16) the `int64` computation of the image size never wraps -/
theorem imageDecodedBytes_exact {w h ch bpc : Int}
    (hw : 0 < w ∧ w ≤ 1048576) (hh : 0 < h ∧ h ≤ 1048576) (hc : 0 < ch ∧ ch ≤ 1024) (hb : 0 < bpc ∧ bpc ≤ 1024) :
    lim_imageDecodedBytes w h ch bpc = imageBytes w h ch bpc := by
  have m1 : 0 < w * ch ∧ w * ch ≤ 1048576 * 1024 :=
    ⟨Int.mul_pos hw.1 hc.1, Int.mul_le_mul hw.2 hc.2 (by omega) (by omega)⟩
  have m2 : 0 < w * ch * bpc ∧ w * ch * bpc ≤ 1048576 * 1024 * 1024 :=
    ⟨Int.mul_pos m1.1 hb.1, Int.mul_le_mul m1.2 hb.2 (by omega) (by omega)⟩
  have m3 : 0 ≤ (w * ch * bpc + 7) / 8 ∧ (w * ch * bpc + 7) / 8 ≤ 1048576 * 1024 * 128 + 1 := by omega
  have m4 : 0 ≤ (w * ch * bpc + 7) / 8 * h ∧ (w * ch * bpc + 7) / 8 * h ≤ (1048576 * 1024 * 128 + 1) * 1048576 :=
    ⟨Int.mul_nonneg m3.1 (by omega), Int.mul_le_mul m3.2 hh.2 (by omega) (by omega)⟩
  unfold lim_imageDecodedBytes imageBytes
  simp (disch := omega) only [Id.run, pure, i64_of_bounds, quoK_pos]

/-- … so `ImageBytesExceedLimit` decides exactly "more than MaxImageBytes" there -/
theorem imageBytesExceed_exact_partial {w h ch bpc : Int}
    (hw : 0 < w ∧ w ≤ 1048576) (hh : 0 < h ∧ h ≤ 1048576) (hc : 0 < ch ∧ ch ≤ 1024) (hb : 0 < bpc ∧ bpc ≤ 1024) :
    lim_ImageBytesExceedLimit w h ch bpc = decide (imageBytes w h ch bpc > lim_MaxImageBytes) := by
  unfold lim_ImageBytesExceedLimit
  simp only [Id.run, pure]
  rw [imageDecodedBytes_exact hw hh hc hb]
  have : 0 ≤ imageBytes w h ch bpc := by
    unfold imageBytes
    have : 0 < w * ch * bpc := Int.mul_pos (Int.mul_pos hw.1 hc.1) hb.1
    exact Int.mul_nonneg (by omega) (by omega)
  unfold lim_MaxImageBytes
  have e : ¬ (w ≤ 0) ∧ ¬ (h ≤ 0) ∧ ¬ (ch ≤ 0) ∧ ¬ (bpc ≤ 0) := by omega
  simp [e]
  omega

/-- full-strength statement: `ImageBytesExceedLimit` is exact for all positive `int` arguments -/
def ImageBytesExceedExact : Prop := ∀ w h ch bpc : Int, IsI64 w → IsI64 h → IsI64 ch → IsI64 bpc →
  0 < w → 0 < h → 0 < ch → 0 < bpc →
  lim_ImageBytesExceedLimit w h ch bpc = decide (imageBytes w h ch bpc > lim_MaxImageBytes)

/-- … it is false: `int64(width)*int64(channels)*int64(bpc)` can wrap to a small non-negative value
(2³²·2³²·1 ≡ 0), which the `size < 0` test does not see.  The callers bound width and height by
`MaxImageWidth/Height` and the bit depth by 16 first, so this needs ≥ 2²⁷ channels. -/
theorem imageBytesExceed_exact_false : ¬ ImageBytesExceedExact := by
  intro h
  have := h 4294967296 1 4294967296 1 (by decide) (by decide) (by decide) (by decide) (by decide) (by decide) (by decide) (by decide)
  revert this
  decide +kernel

/-- `ImageDataLimit` lies in `[0, MaxImageBytes]` for **all** arguments, wrapped products included
(the `size < 0` test catches the negative wrap, the cap the rest) -/
theorem imageDataLimit_bounded (w h ch bpc : Int) :
    0 ≤ lim_ImageDataLimit w h ch bpc ∧ lim_ImageDataLimit w h ch bpc ≤ lim_MaxImageBytes := by
  unfold lim_ImageDataLimit lim_MaxImageBytes
  simp only [Id.run, pure, Bool.or_eq_true, decide_eq_true_eq]
  generalize lim_imageDecodedBytes w h ch bpc = s
  split
  · omega
  · split <;> omega

/-- 2³¹: a bound that keeps `width·height` inside `int64` -/
theorem imagePixelsExceed_sound {w h : Int} (hw : 0 < w ∧ w ≤ 2147483648) (hh : 0 < h ∧ h ≤ 2147483648) :
    lim_ImagePixelsExceedLimit w h = decide (w * h > lim_MaxImagePixels) := by
  have m : 0 < w * h ∧ w * h ≤ 2147483648 * 2147483648 :=
    ⟨Int.mul_pos hw.1 hh.1, Int.mul_le_mul hw.2 hh.2 (by omega) (by omega)⟩
  unfold lim_ImagePixelsExceedLimit lim_MaxImagePixels
  simp only [Id.run, pure]
  rw [i64_of_bounds (x := w * h) (by omega) (by omega)]
  have e : ¬ (w ≤ 0) ∧ ¬ (h ≤ 0) := by omega
  simp [e]

/-- what `validateFlateLZW` guarantees about accepted parameters (every Flate/LZW encoder is
created only after it) -/
theorem validateFlateLZW_bounds (v p colors bpc columns : Int)
    (h : pdf_validateFlateLZW v p colors bpc columns = none) :
    (p = 0 ∨ p = 1 ∨ p = 2 ∨ (10 ≤ p ∧ p ≤ 15)) ∧
    ((p = 0 ∨ p = 1) → colors = 0 ∧ bpc = 0 ∧ columns = 0) ∧
    (0 ≤ colors) ∧ (v < 4 → colors ≤ 4) ∧
    (bpc = 0 ∨ bpc = 1 ∨ bpc = 2 ∨ bpc = 4 ∨ bpc = 8 ∨ (bpc = 16 ∧ 6 ≤ v)) ∧
    (0 ≤ columns ∧ columns ≤ 1048576) := by
  obtain ⟨hv, h⟩ := (validateFlateLZW_ok_iff ..).mp h
  refine ⟨hv, ?_⟩
  by_cases hu : p = 0 ∨ p = 1
  · obtain ⟨rfl, rfl, rfl⟩ := (if_pos hu).mp h
    simp
  · obtain ⟨hc, hb, hk, -⟩ := (if_neg hu).mp h
    exact ⟨fun hu' => absurd hu' hu, by omega, by omega, hb, by omega⟩

/-- on the generated code (the final check of `validateFlateLZW`, library commit 879cf71; finding D22): for ALL
arguments, parameters accepted by `validateFlateLZW` are accepted by `predict.Params.Validate` on
`predictParams(…)`, so `predict.NewWriter` / `NewReader` do not fail on the parameters -/
theorem validate_ok_encode_ok (v p colors bpc columns : Int)
    (h : pdf_validateFlateLZW v p colors bpc columns = none) :
    pred_Params_Validate (pdf_predictParams p colors bpc columns) = none :=
  ((validateFlateLZW_ok_iff ..).mp h).encode_ok (by rw [validate_ok_iff, predictParams_eq])

theorem jbig2_workLimit_spec (n : Int) (h : IsI64 n) :
    jbig2_workLimit n = min (jbig2_workBudgetBase + jbig2_workBudgetPerByte * max n 0) jbig2_workBudgetHardCap := by
  unfold jbig2_workLimit jbig2_workBudgetBase jbig2_workBudgetPerByte jbig2_workBudgetHardCap
  unfold IsI64 at h
  simp only [Id.run, pure, decide_eq_true_eq]
  unfold i64
  split <;> split <;> omega

/-- the overflow test of `checkedMul` (`c/a != b || c < 0` on the wrapped product `c`) is exact for positive
operands: if the product does not fit, a non-negative `c` is smaller than it, and so is `a·(c/a)` -/
theorem mul_fits_iff {a b : Int} (ha : 1 ≤ a) (hb : 1 ≤ b) (hb' : b < 9223372036854775808) :
    i64 (Int.tdiv (i64 (a * b)) a) = b ∧ 0 ≤ i64 (a * b) ↔ a * b < 9223372036854775808 := by
  have hP : 1 ≤ a * b := Int.mul_pos ha hb
  constructor
  · rintro ⟨hq, hc0⟩
    have hc := (i64_isI64 (a * b)).2
    generalize i64 (a * b) = c at *
    have hle : a * (c / a) ≤ c := Int.mul_ediv_self_le (by omega)
    have hle2 : c / a ≤ c := Int.ediv_le_self a hc0
    have hq0 : 0 ≤ c / a := Int.ediv_nonneg hc0 (by omega)
    rw [Int.tdiv_eq_ediv_of_nonneg hc0, i64_of_bounds (by omega) (by omega)] at hq
    rw [hq] at hle
    omega
  · intro hfit
    rw [i64_of_bounds (x := a * b) (by omega) hfit, Int.tdiv_eq_ediv_of_nonneg (by omega),
      Int.mul_ediv_cancel_left b (by omega), i64_of_bounds (by omega) hb']
    exact ⟨rfl, by omega⟩

/-- no panic: the division is guarded by `a == 0` -/
theorem checkedMul_eq (a b : Int) (hb : b < 9223372036854775808) :
    jbig2_checkedMul a b = some (
      if a < 0 ∨ b < 0 then (0, some "jbig2: negative operand in multiplication: %d * %d")
      else if a * b < 9223372036854775808 then (a * b, none)
      else (0, some "jbig2: multiplication overflow: %d * %d")) := by
  unfold jbig2_checkedMul quo64
  simp only [pure, bind, Bool.or_eq_true, decide_eq_true_eq, beq_iff_eq, bne_iff_ne, ne_eq]
  by_cases hneg : a < 0 ∨ b < 0
  · rw [if_pos hneg, if_pos hneg]
  by_cases hz : a = 0 ∨ b = 0
  · have : a * b = 0 := by rcases hz with h | h <;> simp [h]
    rw [if_neg hneg, if_pos hz, if_neg hneg, this]
    rfl
  have h := mul_fits_iff (a := a) (b := b) (by omega) (by omega) hb
  rw [if_neg hneg, if_neg hz, if_neg hneg, if_neg (by omega), Option.bind_some]
  by_cases hfit : a * b < 9223372036854775808
  · obtain ⟨hq, hc⟩ := h.mpr hfit
    have hP : 0 < a * b := Int.mul_pos (by omega) (by omega)
    rw [if_neg (not_not_intro hq), if_neg (Int.not_lt.mpr hc), if_pos hfit, i64_of_bounds (by omega) hfit]
  · have hc : ¬ (i64 (Int.tdiv (i64 (a * b)) a) = b ∧ 0 ≤ i64 (a * b)) := mt h.mp hfit
    rw [if_neg hfit]
    by_cases hq : i64 (Int.tdiv (i64 (a * b)) a) = b
    · rw [if_neg (not_not_intro hq), if_pos (by omega : i64 (a * b) < 0)]
    · rw [if_pos hq]

/-- both factors are bounded before a product is formed, so neither product can wrap -/
theorem checkBitmapSize_ok_iff (w h : Int) :
    jbig2_checkBitmapSize w h = none ↔
      0 ≤ w ∧ 0 ≤ h ∧ w ≤ jbig2_maxPixels ∧ h ≤ jbig2_maxPixels ∧
      (w = 0 ∨ h = 0 ∨ (w * h ≤ jbig2_maxPixels ∧ (w + 7) / 8 * h ≤ jbig2_maxBitmapBytes)) := by
  unfold jbig2_checkBitmapSize jbig2_maxPixels jbig2_maxBitmapBytes
  simp only [go_ret, reduceCtorEq]
  by_cases hr : 0 ≤ w ∧ 0 ≤ h ∧ w ≤ 16777216 ∧ h ≤ 16777216
  · obtain ⟨h1, h2, h3, h4⟩ := hr
    have m1 : 0 ≤ w * h ∧ w * h ≤ 16777216 * 16777216 :=
      ⟨Int.mul_nonneg h1 h2, Int.mul_le_mul h3 h4 h2 (by omega)⟩
    have m2 : 0 ≤ (w + 7) / 8 * h ∧ (w + 7) / 8 * h ≤ 2097152 * 16777216 :=
      ⟨Int.mul_nonneg (by omega) h2, Int.mul_le_mul (by omega) h4 h2 (by omega)⟩
    rw [i64_of_bounds (x := w * h) (by omega) (by omega), i64_of_bounds (x := w + 7) (by omega) (by omega),
      quoK_pos (by omega) (by omega) (by omega), i64_of_bounds (x := (w + 7) / 8 * h) (by omega) (by omega)]
    generalize w * h = P
    generalize (w + 7) / 8 * h = Q
    grind
  · grind

/-- `checkedMul` never panics, and is error-free (then exact) exactly when both operands are non-negative and the product fits -/
theorem checkedMul_spec (a b : Int) (ha : IsI64 a) (hb : IsI64 b) :
    ∃ v err, jbig2_checkedMul a b = some (v, err) ∧
      (err = none ↔ 0 ≤ a ∧ 0 ≤ b ∧ a * b < 9223372036854775808) ∧
      (err = none → v = a * b) ∧ (err ≠ none → v = 0) := by
  rw [checkedMul_eq a b hb.2]
  by_cases hneg : a < 0 ∨ b < 0
  · exact ⟨0, _, congrArg some (if_pos hneg), by simp; omega, by simp, fun _ => rfl⟩
  by_cases hfit : a * b < 9223372036854775808
  · exact ⟨_, none, by rw [if_neg hneg, if_pos hfit], by simp; omega, fun _ => rfl, by simp⟩
  · exact ⟨0, _, by rw [if_neg hneg, if_neg hfit], by simp; omega, by simp, fun _ => rfl⟩

theorem checkBitmapSize_iff (w h : Int) (hw : IsI64 w) (hh : IsI64 h) :
    jbig2_checkBitmapSize w h = none ↔
      0 ≤ w ∧ 0 ≤ h ∧ w ≤ jbig2_maxPixels ∧ h ≤ jbig2_maxPixels ∧
      (w = 0 ∨ h = 0 ∨ (w * h ≤ jbig2_maxPixels ∧ (w + 7) / 8 * h ≤ jbig2_maxBitmapBytes)) :=
  checkBitmapSize_ok_iff w h

example : jbig2_checkedMul 3037000500 3037000500 = some (0, some "jbig2: multiplication overflow: %d * %d") ∧
    jbig2_checkedMul 3037000499 3037000499 = some (9223372030926249001, none) := by decide +kernel

example : lim_StreamBudget 1000 = lim_StreamBudgetBase + 1024000 ∧ lim_StreamBudget (-5) = lim_StreamBudgetBase ∧
    lim_StreamBudget 9223372036854775807 = lim_StreamBudgetBase + 268435456 := by decide +kernel

end PdfVerif.C08tr
