import PdfVerif.Props.C13ccb
import PdfVerif.Props.C12ccf
/-!
# C13 (part 5) — `SetMapping` on a file with a parent chain
-/
namespace PdfVerif.C13cce
open PdfVerif PdfVerif.CC PdfVerif.CMap PdfVerif.C13cc PdfVerif.C13ccb

/-- `lookup_setMapping` with parents (of the code as of the fixes 5f29395 and e336336, which the model follows).
`SetMapping` leaves out exactly the entries for which a parent has a *mapping* with the same CID; `LookupCID` on the
chain returns the mapped CID for every mapped code, and for every other byte string the chain's answer without this
file's mappings. -/
theorem lookup_setMapping_parents (f f' : CMapFile) (parents : Chain) (codec : Codec) (data : List (Nat × Nat))
    (h : setMapping f parents codec data = .ok f')
    (hcid : ∀ p ∈ data, p.2 < 4294967296)
    (hbytes : ∀ p ∈ data, ∀ bs, codec.appendCode p.1 = .ok bs → AllBytes bs)
    (hfun : ∀ p ∈ data, ∀ q ∈ data, codec.appendCode p.1 = codec.appendCode q.1 → p.2 = q.2) :
    (∀ p ∈ data, ∃ bs, codec.appendCode p.1 = .ok bs ∧ lookupCID (f' :: parents) bs = p.2) ∧
    (∀ bs, (∀ p ∈ data, codec.appendCode p.1 ≠ .ok bs) →
      lookupCID (f' :: parents) bs = lookupCID ({ f' with singles := [], ranges := [] } :: parents) bs) := by
  obtain ⟨l1, l2⟩ := lookupCID_setMapping h hcid hbytes hfun
  exact ⟨l1, fun bs hno => by rw [lookupCID_cons, lookupCID_cons, l2 bs hno]; rfl⟩

/-! The witness of D30b (parent notdef `<00>-<FF> → 2`, child notdef `<16> → 7`, data `{0x16 ↦ 2}`; the code
before e336336 stores nothing and answers `LookupCID(<16>)` with 7): the entry is kept and the lookup returns 2.
Replayed against the real code on every run (`cmFixed`). -/

def witnessParent : CMapFile := ⟨[], [], [], [], [⟨[0], [255], 2⟩]⟩
def witnessChild : CMapFile := ⟨[], [], [], [⟨[0x16], 7⟩], []⟩
def witnessCodec : Codec := ⟨[⟨255, 0⟩]⟩

/-- `5` and `1` are the depth bound and the number of nodes that `Codec.codeSpaceRange` passes to `walk`; `walk` is
compiled by well-founded recursion and does not unfold by `rfl`, hence `walk_succ`; `cidEntries` below computes. -/
theorem witnessCodec_csr : witnessCodec.codeSpaceRange = .ok [⟨[0], [255]⟩] := by
  have : walk [⟨255, 0⟩] 5 1 [] 0 [] [] 0 = .ok [⟨[0], [255]⟩] := by
    rw [C12ccf.walk_succ]
    simp [C12ccf.walkChild, Gen.cc_validLeaf]
  simp only [Codec.codeSpaceRange, witnessCodec, List.length_cons, List.length_nil, this]
  rfl

theorem witness_setMapping :
    ∃ f', setMapping witnessChild [witnessParent] witnessCodec [(0x16, 2)] = .ok f' ∧
      f'.singles = [⟨[0x16], 2⟩] ∧ lookupCID (f' :: [witnessParent]) [0x16] = 2 := by
  have he : cidEntries witnessCodec [witnessParent] [(0x16, 2)] = .ok [⟨[], 0x16, 2⟩] := by rfl
  simp only [setMapping, witnessCodec_csr, he]
  exact ⟨_, rfl, by decide +kernel, by decide +kernel⟩

end PdfVerif.C13cce
