import PdfVerif.Lemmas.C01Fuel
import PdfVerif.Lemmas.C01Total
/-!
# C01 (part g) — the scanner model's fuel

`readObject` and its four companions recurse on a fuel argument (no `partial`).  More fuel changes
no finished result (`C01L.stable_le`: a value or an error of the scanner), and from `3·|input| + 3`
on every result is finished (`readObject_errors`), so from there on the result is the same for every
fuel (`readObject_fuel_indep`): `parseObject`'s fuel `3·|input| + 8` is one such.
-/
namespace PdfVerif.C01g
open PdfVerif PdfVerif.C01L

/-- **Fuel monotonicity**: a successful `readObject` stays the same with more fuel. -/
theorem readObject_fuel_mono (f f' d : Nat) (inp : Bytes) (r : Obj × Bytes) (hle : f ≤ f')
    (h : readObject f d inp = .ok r) : readObject f' d inp = .ok r :=
  by rw [(stable_le hle).1 d inp (.ok h), h]

theorem readArray_fuel_mono (f f' d : Nat) (inp : Bytes) (r : List Obj × Bytes) (hle : f ≤ f')
    (h : readArray f d inp = .ok r) : readArray f' d inp = .ok r :=
  by rw [(stable_le hle).2.1 d inp (.ok h), h]

theorem readDict_fuel_mono (f f' d : Nat) (inp : Bytes) (r : List (Bytes × Obj) × Bytes) (hle : f ≤ f')
    (h : readDict f d inp = .ok r) : readDict f' d inp = .ok r :=
  by rw [(stable_le hle).2.2 d inp (.ok h), h]

/-- whatever some fuel up to `scanFuel` parses, `parseObject` parses -/
theorem parseObject_complete (inp : Bytes) (f : Nat) (hf : f ≤ scanFuel inp) (r : Obj × Bytes)
    (h : readObject f 0 inp = .ok r) : parseObject inp = .ok r :=
  readObject_fuel_mono f (scanFuel inp) 0 inp r hf h

/-- two successful parses with different fuel agree -/
theorem readObject_fuel_unique (f1 f2 d : Nat) (inp : Bytes) (r1 r2 : Obj × Bytes)
    (h1 : readObject f1 d inp = .ok r1) (h2 : readObject f2 d inp = .ok r2) : r1 = r2 := by
  have a := readObject_fuel_mono f1 (max f1 f2) d inp r1 (by omega) h1
  have b := readObject_fuel_mono f2 (max f1 f2) d inp r2 (by omega) h2
  rw [a] at b
  exact Except.ok.inj b

/-- **The scanner's error classes.**  For ANY input, at every nesting depth and with every fuel from
`3·|input| + 3` on, `readObject` fails only with `eof` or `malformed`: never with the model's
out-of-fuel error (so the recursion budget suffices and the "unreachable" branch of the `R`
detection is unreachable), nor with an error class of the byte source. -/
theorem readObject_errors (f d : Nat) (inp : Bytes) (hf : 3 * inp.length + 3 ≤ f) (e : Err)
    (h : readObject f d inp = .error e) : e = .eof ∨ e = .malformed :=
  C01L.readObject_scanErr hf h

/-- **The fuel is irrelevant.**  For ANY input, at every nesting depth, `readObject` returns the same result
— value or error — for every fuel from `3·|input| + 3` on. -/
theorem readObject_fuel_indep (f f' d : Nat) (inp : Bytes) (hf : 3 * inp.length + 3 ≤ f)
    (hf' : 3 * inp.length + 3 ≤ f') : readObject f d inp = readObject f' d inp := by
  have done : ∀ g, 3 * inp.length + 3 ≤ g → Done (readObject g d inp) :=
    fun g hg h => ScanErr.ne_other (readObject_errors g d inp hg _ h) rfl
  rcases Nat.le_total f f' with h | h
  · exact ((stable_le h).1 d inp (done f hf)).symm
  · exact (stable_le h).1 d inp (done f' hf')

/-- For ANY input, `parseObject` never returns the model's out-of-fuel error
`.other`: the recursion budget `scanFuel = 3·|input| + 8` always suffices, and the
"unreachable" branch of the `R` detection (fewer than two integers on the stack although
`integersSeen ≥ 2`) is indeed unreachable.  So every result of the model is a result the scanner
can produce: a value, `eof`, or `malformed`. -/
theorem parse_total (inp : Bytes) : parseObject inp ≠ .error .other :=
  fun h => ScanErr.ne_other (readObject_errors _ 0 inp (scanFuel_ge _) _ h) rfl

/-- the same for every nesting depth and every fuel from `3·|input| + 3` on -/
theorem readObject_total (f d : Nat) (inp : Bytes) (hf : 3 * inp.length + 3 ≤ f) :
    readObject f d inp ≠ .error .other :=
  fun h => ScanErr.ne_other (readObject_errors f d inp hf _ h) rfl

/-- every successful read consumes at least one byte (the loops of `ReadArray`/`ReadDict`
    terminate) -/
theorem readObject_consumes (f d : Nat) (inp : Bytes) (o : Obj) (r : Bytes)
    (h : readObject f d inp = .ok (o, r)) : r.length < inp.length :=
  C01L.readObject_consumes h

/-- with enough fuel the result is the same for every fuel, when it is a value -/
theorem parseObject_fuel_indep (inp : Bytes) (f : Nat) (hf : scanFuel inp ≤ f) (r : Obj × Bytes)
    (h : parseObject inp = .ok r) : readObject f 0 inp = .ok r :=
  readObject_fuel_indep f (scanFuel inp) 0 inp (Nat.le_trans (scanFuel_ge inp) hf) (scanFuel_ge inp) ▸ h

-- non-vacuity: `[[1]]` needs fuel 7; less gives the model's `other`, more gives the same value
example : (match readObject 7 0 [91, 91, 49, 93, 93], readObject 100 0 [91, 91, 49, 93, 93] with
      | .ok (a, ra), .ok (b, rb) => a.wire == b.wire && ra == rb && ra == []
      | _, _ => false) = true ∧
    (match readObject 6 0 [91, 91, 49, 93, 93] with | .error .other => true | _ => false) = true := by
  decide +kernel

end PdfVerif.C01g
