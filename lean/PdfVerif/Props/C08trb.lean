import PdfVerif.Props.C08tr
import PdfVerif.Props.C08fb
import PdfVerif.Generated.FnCcitt
import PdfVerif.Generated.FnFrag
/-!
C06/C07/C08 (translator bridge): the FB hand models (`Model/FBPredict.lean`, `Model/FBParams.lean`, on which
`Props/C0{6,7,8}fb*.lean` are proved) = the code GENERATED from the Go sources on every run: `predict.Params.Validate`, the
derived sizes, `paethPredictor`, `FlatePredictor.isValid`, `validateFlateLZW`, the filter `validate` methods,
`limits.StreamBudget`, `ccittfax.BufferBytes`, and the geometry clamp of `FilterCCITTFax.Decode` (fragments `Gen.frag_*`), so
the hand-model theorems transfer to the translated code.  `getPixel_spec` and `bufferBytes_default` are closed forms of
generated `ccittfax` functions, stated without a hand-model counterpart.
-/
namespace PdfVerif.C08trb
open PdfVerif PdfVerif.Gen PdfVerif.Go PdfVerif.C08tr

/-- the generated parameter record of a hand-model record -/
def gp (p : FB.PParams) : pred_Params := ⟨p.colors, p.bpc, p.columns, p.predictor⟩

theorem wrap64_eq (x : Int) : FB.wrap64 x = i64 x := rfl

theorem paeth_bridge (a b c : UInt8) :
    FB.paeth a.toNat b.toNat c.toNat = (pred_paethPredictor a b c).toNat := by
  rw [paeth_spec]
  unfold FB.paeth Spec.Png.paethSel
  simp only []
  split
  · rfl
  · split <;> rfl

theorem bitsPerPixel_bridge (p : FB.PParams) : p.bitsPerPixel = pred_Params_bitsPerPixel (gp p) := rfl
theorem bitsPerRow_bridge (p : FB.PParams) : p.bitsPerRow = pred_Params_bitsPerRow (gp p) := rfl

/-- `(bits + 7) / 8`, exact in the hand model and in `int` arithmetic in the generated code, agree while
`bits + 7` fits -/
theorem ceilDiv8_bridge {x : Int} (hx : IsI64 x) (h : x + 7 < 9223372036854775808) :
    Int.tdiv (x + 7) 8 = quoK (i64 (x + 7)) 8 := by
  unfold IsI64 at hx
  rw [i64_of_bounds (by omega) h, quoK_eq_tdiv ⟨by omega, h⟩ (by omega)]

theorem bytesPerPixel_bridge (p : FB.PParams) (h : p.bitsPerPixel + 7 < 9223372036854775808) :
    p.bytesPerPixel = pred_Params_bytesPerPixel (gp p) :=
  ceilDiv8_bridge (i64_isI64 _) h

theorem bytesPerRow_bridge (p : FB.PParams) (h : p.bitsPerRow + 7 < 9223372036854775808) :
    p.bytesPerRow = pred_Params_bytesPerRow (gp p) :=
  ceilDiv8_bridge (i64_isI64 _) h

theorem validate_bridge (p : FB.PParams) : p.validate = (pred_Params_Validate (gp p)).isNone := by
  rw [Bool.eq_iff_iff, C08fb.validate_iff, Option.isNone_iff_eq_none, validate_ok_iff]
  rfl

theorem predictorValid_bridge (p : Int) : FB.predictorValid p = pdf_FlatePredictor_isValid p := by
  rw [Bool.eq_iff_iff, predictor_isValid_iff, C08fb.predictorValid_iff]

theorem ccitt_validate_bridge (f : FB.FCCITT) (v : Int) :
    f.validate = true ↔
      pdf_FilterCCITTFax_validate ⟨f.k, f.endOfLine, f.byteAlign, f.columns, f.rows, f.ignoreEOB, f.blackIs1, f.damaged⟩ v = some none := by
  rw [C08fb.ccitt_validate_iff, ccitt_validate_iff, C08fb.geoMax_eq]
  rfl

theorem predictParams_bridge (p colors bpc columns : Int) :
    gp (FB.predictParams p colors bpc columns) = pdf_predictParams p colors bpc columns := by
  rw [predictParams_eq]
  rfl

theorem validateFlateLZW_bridge (v : Nat) (p colors bpc columns : Int) :
    FB.validateFlateLZW v p colors bpc columns = (pdf_validateFlateLZW (v : Int) p colors bpc columns).isNone := by
  rw [Bool.eq_iff_iff, C08fb.validateFlateLZW_iff, Option.isNone_iff_eq_none, validateFlateLZW_ok_iff,
    ← predictParams_bridge, ← Option.isNone_iff_eq_none, ← validate_bridge]

/-- `C08fb.validate_ok_encode_ok` restated in the bridge module: `validateFlateLZW_bridge` and `validate_bridge` turn it into
the statement `C08tr.validate_ok_encode_ok` about the generated code, and back -/
theorem validate_ok_encode_ok_model (v : Nat) (p colors bpc columns : Int)
    (h : FB.validateFlateLZW v p colors bpc columns = true) : (FB.predictParams p colors bpc columns).validate = true :=
  C08fb.validate_ok_encode_ok v p colors bpc columns h

/-- hand model `FFlate.validate` = generated `FilterFlate.validate` -/
theorem flate_validate_bridge (f : FB.FFlate) (v : Nat) :
    f.validate v = (pdf_FilterFlate_validate ⟨f.predictor, f.colors, f.bpc, f.columns⟩ (v : Int)).isNone := by
  unfold FB.FFlate.validate pdf_FilterFlate_validate meta_V1_2
  simp only [Id.run, pure]
  rw [validateFlateLZW_bridge]
  by_cases h : v < 3
  · have : ((v : Int) < 3) := by omega
    simp [h, this]
  · have : ¬ ((v : Int) < 3) := by omega
    simp [h, this]

/-- hand model `FLZW.validate` = generated `FilterLZW.validate` -/
theorem lzw_validate_bridge (f : FB.FLZW) (v : Nat) :
    f.validate v = (pdf_FilterLZW_validate ⟨f.predictor, f.colors, f.bpc, f.columns, f.offByOne⟩ (v : Int)).isNone := by
  unfold FB.FLZW.validate pdf_FilterLZW_validate
  simp only [Id.run, pure]
  exact validateFlateLZW_bridge v _ _ _ _

/-- `limits.StreamBudget` on the non-negative lengths the hand model covers -/
theorem streamBudget_bridge (n : Nat) (h : n < 9223372036854775808) :
    (FB.streamBudget n : Int) = lim_StreamBudget (n : Int) := by
  rw [streamBudget_spec (n : Int) ⟨by omega, by omega⟩]
  unfold FB.streamBudget limits_StreamBudgetBase limits_StreamBudgetHardCap limits_StreamBudgetMultiplier
    lim_StreamBudgetBase lim_StreamBudgetHardCap lim_StreamBudgetMultiplier
  split <;> omega

/-- the generated ccittfax parameter record of a hand-model record (`Columns` already defaulted) -/
def gc (p : FB.CParams) : ccitt_Params :=
  ⟨p.columns, p.k, p.maxRows, p.endOfLine, p.byteAlign, p.blackIs1, p.ignoreEOB, 0⟩

/-- `ccittfax.BufferBytes` = the hand model's `bufferBytes` (positive column counts up to 2⁴⁰: the bound only has to keep
the sums inside `int`; `validate` admits `Columns ≤ 2²⁰`) -/
theorem bufferBytes_bridge (p : FB.CParams) (h0 : 0 < p.columns) (h1 : p.columns ≤ 1099511627776) :
    ccitt_BufferBytes (gc p) = (FB.bufferBytes p : Int) := by
  unfold ccitt_BufferBytes FB.bufferBytes FB.CParams.lineBytes gc
  simp only [Id.run, pure, beq_iff_eq, decide_eq_true_eq, bne_iff_ne, ne_eq]
  rw [if_neg (by omega), if_neg (by omega)]
  simp (disch := omega) only [i64_of_bounds, quoK_pos]
  split <;> omega

/-- `BufferBytes` applies the default width 1728 to `Columns == 0` and returns 0 for negative widths -/
theorem bufferBytes_default (p : ccitt_Params) (h : p.Columns = 0) :
    ccitt_BufferBytes p = ccitt_BufferBytes { p with Columns := 1728 } := by
  unfold ccitt_BufferBytes
  simp [Id.run, h]

/-- `getPixel` never panics; inside the image it is bit `x` of the line (most significant first),
outside it is the white value -/
theorem getPixel_spec (p : ccitt_Params) (line : List UInt8) (x : Int) (hx : IsI64 x) :
    ccitt_Params_getPixel p line x = some (
      if 0 ≤ x ∧ x < p.Columns ∧ x / 8 < line.length then
        (line.getD (x / 8).toNat 0 >>> UInt8.ofNat (7 - (x % 8).toNat)) &&& 1
      else ccitt_Params_whiteBit p) := by
  unfold ccitt_Params_getPixel ccitt_Params_whiteBit len
  unfold IsI64 at hx
  simp only [pure, bind, Id.run]
  by_cases hin : 0 ≤ x ∧ x < p.Columns ∧ x / 8 < line.length
  · obtain ⟨h0, h1, h2⟩ := hin
    rw [quoK_pos h0 (by omega) (by omega), remK_nonneg 8 h0,
      if_neg (by simp only [Bool.or_eq_true, decide_eq_true_eq]; omega), if_pos ⟨h0, h1, h2⟩,
      i64_of_bounds (by omega) (by omega), idx_eq_getD _ 0 (by omega) h2, toU64_toNat (by omega) (by omega),
      Option.bind_some, shr8_of_lt _ (by omega)]
    congr 4
    omega
  · have c : (decide (x < 0) || decide (x ≥ p.Columns) || decide (quoK x 8 ≥ line.length)) = true := by
      simp only [Bool.or_eq_true, decide_eq_true_eq]
      by_cases h0 : 0 ≤ x
      · rw [quoK_pos h0 (by omega) (by omega)]; omega
      · omega
    rw [if_pos c, if_neg hin]
    cases p.BlackIs1 <;> rfl

/-- `cols := max(params.Columns, 1)`; `geoMax := max(1, min(MaxImageHeight, MaxImagePixels/cols))`
is the hand model's `FB.geoMax`; the division cannot panic because `cols ≥ 1` -/
theorem geoMax_bridge (columns : Int) :
    frag_FilterCCITTFax_Decode_geoMax (frag_FilterCCITTFax_Decode_cols columns) = some (FB.geoMax columns) := by
  unfold frag_FilterCCITTFax_Decode_geoMax frag_FilterCCITTFax_Decode_cols
  rw [quo64_pos (by omega) (by omega) (by omega), C08fb.geoMax_eq]
  rfl

/-- the rows limit the decoder works with = `FB.FCCITT.decodeMaxRows` (every filter record) -/
theorem decodeMaxRows_bridge (f : FB.FCCITT) (h : IsI64 f.cols) :
    frag_FilterCCITTFax_Decode_geoMax (frag_FilterCCITTFax_Decode_cols f.cols) = some (FB.geoMax f.cols) ∧
    f.decodeMaxRows = (if frag_FilterCCITTFax_Decode_clamp f.rows (FB.geoMax f.cols) then FB.geoMax f.cols else f.rows) := by
  refine ⟨geoMax_bridge f.cols, ?_⟩
  unfold FB.FCCITT.decodeMaxRows frag_FilterCCITTFax_Decode_clamp
  simp only [Bool.or_eq_true, decide_eq_true_eq]

/-- the clamp keeps the row limit between 1 and `MaxImageHeight`, and `rows·cols ≤ MaxImagePixels`
whenever more than one row is allowed (the bound the decoder's output relies on) -/
theorem geoMax_bounds (columns : Int) :
    1 ≤ FB.geoMax columns ∧ FB.geoMax columns ≤ 65536 ∧
    (1 < FB.geoMax columns → FB.geoMax columns * max columns 1 ≤ 134217728) :=
  ⟨(C08fb.geoMax_pos columns).1, (C08fb.geoMax_pos columns).2, C08fb.geoMax_mul_le columns⟩

end PdfVerif.C08trb
