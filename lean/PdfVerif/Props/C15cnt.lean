import PdfVerif.Model.CNTScan
import PdfVerif.Model.CNTWrite
import PdfVerif.Lemmas.ScanBytes
/-!
# C15 — content streams: operators written are the operators read

Statements are about `Model/CNTWrite.lean` (graphics/content/writer.go, operators.go, on top of
the `types.go` formatter model `Model/Format.lean`) and `Model/CNTScan.lean`
(graphics/content/stream.go); the C15 correspondence run ties both to the code.

This file: the lexical layer (names, strings, and tokens of regular bytes — numbers and keywords, given as
`RegTok`; integers are `C15cntd` — for all byte strings, also behind
the separator `pdf.Format` threads through composites), operator names, and the step from one
operator (`OpStep`) to sequences and split streams (`scan_ops`, `scan_join`, `scan_split`).
-/
namespace PdfVerif.C15cnt
open PdfVerif PdfVerif.CNT

/-- the content package's own character class table is the table of `scanner.go` -/
theorem class_tables_equal : Gen.content_class = Gen.scanner_class ∧
    Gen.content_regular = Gen.scanner_regular ∧ Gen.content_space = Gen.scanner_space ∧
    Gen.content_delimiter = Gen.scanner_delimiter := ⟨rfl, rfl, rfl, rfl⟩

/-- `operatorTable` maps every key to itself, so the lookup in `ScanToken` is the identity -/
theorem operatorTable_id : ∀ e ∈ Gen.content_operatorTable, e.1 = e.2 := by decide +kernel

/-- the size caps of the content scanner are those of `scanner.go` -/
theorem caps_equal : Gen.content_maxStringBytes = Gen.scanner_maxStringBytes ∧
    Gen.content_maxNameBytes = Gen.scanner_maxNameBytes ∧ Gen.content_maxArrayLen = Gen.scanner_maxArrayLen ∧
    Gen.content_maxDictLen = Gen.scanner_maxDictLen := by decide

theorem cReg_eq (c : Nat) : cReg c = isRegular c := rfl

theorem cSpace_eq (c : Nat) : cSpace c = isSpace c := rfl

theorem hexVal_hexLower : ∀ n < 16, hexVal (hexLower n) = some n := by decide

theorem plain_byte (c : Nat) (h : nameNeedsEsc c = false) : (c == 35) = false ∧ cReg c = true := by
  simp only [nameNeedsEsc, Bool.or_eq_false_iff, Bool.not_eq_false'] at h
  exact ⟨h.2, h.1.1.1⟩

theorem delim_class : ∀ c ∈ [37, 40, 41, 47, 60, 62, 91, 93], cReg c = false ∧ cSpace c = false := by
  decide +kernel

theorem cReg_delim {c : Nat} (h : c ∈ [37, 40, 41, 47, 60, 62, 91, 93]) : cReg c = false := (delim_class c h).1
theorem cSpace_delim {c : Nat} (h : c ∈ [37, 40, 41, 47, 60, 62, 91, 93]) : cSpace c = false := (delim_class c h).2

theorem cSpace_of_cReg (c : Nat) (h : cReg c = true) : cSpace c = false := by
  simp only [cReg, cSpace, beq_iff_eq] at h ⊢
  rw [h]; rfl

theorem cReg_35 : cReg 35 = true := by decide +kernel
theorem cReg_73 : cReg 73 = true := by decide +kernel
-- space and newline: the scanner's facts (`class_tables_equal`: the two class tables are one)
theorem cReg_32 : cReg 32 = false := C01L.space_facts.2.2.1
theorem cReg_10 : cReg 10 = false := C01L.space_facts.2.2.2
theorem cSpace_32 : cSpace 32 = true := C01L.space_facts.1
theorem cSpace_10 : cSpace 10 = true := C01L.space_facts.2.1

/-- a regular byte is not white space, and is none of the bytes `ScanToken` dispatches on -/
theorem reg_byte_any (c : Nat) (h : cReg c = true) :
    cSpace c = false ∧ (c == 37) = false ∧ (c == 47) = false ∧ (c == 40) = false ∧
    (c == 60) = false ∧ (c == 62) = false := by
  have ne : ∀ d ∈ [37, 40, 41, 47, 60, 62, 91, 93], (c == d) = false := by
    intro d hd
    rw [beq_eq_false_iff_ne]
    rintro rfl
    rw [cReg_delim hd] at h
    cases h
  exact ⟨cSpace_of_cReg c h, ne _ (by simp), ne _ (by simp), ne _ (by simp), ne _ (by simp), ne _ (by simp)⟩

/-- what may follow a token made of regular bytes: the end of input or a non-regular byte -/
def TokEnd : Bytes → Prop
  | [] => True
  | d :: _ => cReg d = false

theorem tokEnd_32 (r : Bytes) : TokEnd (32 :: r) := cReg_32
theorem tokEnd_10 (r : Bytes) : TokEnd (10 :: r) := cReg_10

theorem tokEnd_append (a b : Bytes) (hne : a ≠ []) (h : TokEnd a) : TokEnd (a ++ b) := by
  cases a with
  | nil => exact absurd rfl hne
  | cons c tl => exact h

/-- nothing is skipped in front of the first byte: it is neither white space nor `%` -/
def Starts : Bytes → Prop
  | [] => False
  | c :: _ => cSpace c = false ∧ (c == 37) = false

theorem starts_append {a : Bytes} (b : Bytes) (h : Starts a) : Starts (a ++ b) := by
  cases a with
  | nil => exact h.elim
  | cons c tl => exact h

theorem starts_reg {c : Nat} (r : Bytes) (h : cReg c = true) : Starts (c :: r) :=
  ⟨(reg_byte_any c h).1, (reg_byte_any c h).2.1⟩

theorem starts_delim {c : Nat} (h : c ∈ [40, 41, 47, 60, 62, 91, 93]) (r : Bytes) : Starts (c :: r) :=
  ⟨cSpace_delim (List.mem_cons_of_mem _ h), (by decide : ∀ d ∈ [40, 41, 47, 60, 62, 91, 93], (d == 37) = false) c h⟩

theorem skipWS_starts {l : Bytes} (h : Starts l) : CNT.skipWS l = l := by
  cases l with
  | nil => exact h.elim
  | cons c r => simp [CNT.skipWS, h.1, h.2]

theorem skipWS_nil : CNT.skipWS [] = [] := rfl

theorem skipWS_pct (r : Bytes) : CNT.skipWS (37 :: r) = skipCmt r := by
  rw [CNT.skipWS, if_neg (by rw [cSpace_delim (by simp)]; nofun)]; rfl

theorem skipWS_space (c : Nat) (r : Bytes) (h1 : cSpace c = true) : CNT.skipWS (c :: r) = CNT.skipWS r := by
  simp [CNT.skipWS, h1]

/-- the content package's own `SkipWhiteSpace`/`SkipToEOL` are those of `scanner.go` (without the `io.EOF` flag) -/
theorem skipWS_eq_scanner (l : Bytes) :
    CNT.skipWS l = (PdfVerif.skipWS l).1 ∧ skipCmt l = (skipComment l).1 := by
  induction l with
  | nil => exact ⟨rfl, rfl⟩
  | cons c cs ih =>
    constructor
    · by_cases h37 : c = 37
      · subst h37
        rw [CNT.skipWS, PdfVerif.skipWS, if_neg (by rw [cSpace_delim (by simp)]; nofun)]
        exact ih.2
      · have h37' : (c == 37) = false := by simpa using h37
        rw [CNT.skipWS, PdfVerif.skipWS, h37', cSpace_eq]
        simp only [Bool.false_eq_true, if_false]
        split
        · exact ih.1
        · rfl
    · rw [skipCmt, skipComment, Bool.or_comm]
      split
      · rename_i h
        have hs : cSpace c = true := by
          simp only [Bool.or_eq_true, beq_iff_eq] at h
          rcases h with rfl | rfl <;> decide +kernel
        rw [if_pos hs]
        exact ih.1
      · exact ih.2

theorem skipWS_idem (l : Bytes) : CNT.skipWS (CNT.skipWS l) = CNT.skipWS l := by
  rw [(skipWS_eq_scanner _).1, (skipWS_eq_scanner l).1, C01L.skipWS_idem]

theorem skipWS_le (l : Bytes) : (CNT.skipWS l).length ≤ l.length := by
  rw [(skipWS_eq_scanner l).1]; exact C01L.skipWS_len l

theorem skipWS_head {l r : Bytes} {c : Nat} (h : CNT.skipWS l = c :: r) : Starts (c :: r) := by
  have hid := skipWS_idem l
  rw [h] at hid
  have short : ∀ x : Bytes, x = c :: r → x.length ≤ r.length → False := fun x hx hl => by
    rw [hx] at hl; exact Nat.not_succ_le_self _ hl
  cases hs : cSpace c with
  | true => exact (short _ ((skipWS_space c r hs).symm.trans hid) (skipWS_le r)).elim
  | false =>
    refine ⟨hs, ?_⟩
    cases h37 : c == 37 with
    | false => rfl
    | true =>
      rw [CNT.skipWS, if_neg (by rw [hs]; nofun), if_pos h37] at hid
      refine (short _ hid ?_).elim
      rw [(skipWS_eq_scanner r).2]
      exact (C01L.skip_suffix r).2.length_le

theorem scanToken_space (c : Nat) (r : Bytes) (h1 : cSpace c = true) : scanToken (c :: r) = scanToken r := by
  simp [scanToken, skipWS_space c r h1]

theorem scanToken_skipWS (l : Bytes) : scanToken (CNT.skipWS l) = scanToken l := by
  simp only [scanToken, skipWS_idem]

theorem scanToken_eof (l : Bytes) (h : CNT.skipWS l = []) : scanToken l = .eof := by
  simp only [scanToken, h]

theorem scanToken_sep (ns : Bool) (l : Bytes) : scanToken (sep ns ++ l) = scanToken l := by
  cases ns with
  | false => rfl
  | true => exact scanToken_space 32 l cSpace_32

theorem scanLoop_space (c : Nat) (r : Bytes) (h : cSpace c = true) (fuel : Nat) (stk : List Frame) (args : List Obj) :
    scanLoop fuel stk args (c :: r) = scanLoop fuel stk args r := by
  cases fuel with
  | zero => rfl
  | succ f => rw [scanLoop, scanLoop, scanToken_space c r h]

theorem skipSp_space (c : Nat) (r : Bytes) (h1 : cSpace c = true) : skipSp (c :: r) = skipSp r := by
  simp [skipSp, h1]

theorem scanOne_space (c : Nat) (r : Bytes) (h1 : cSpace c = true) : scanOne (c :: r) = scanOne r := by
  simp [scanOne, skipSp_space c r h1]

theorem scanOne_starts (l : Bytes) (h : Starts l) : scanOne l = scanLoop (l.length + 1) [] [] l := by
  cases l with
  | nil => exact h.elim
  | cons c r => simp [scanOne, skipSp, h.1, h.2]

theorem spanCmt_le (l : Bytes) : (spanCmt l).2.length ≤ l.length := by
  induction l with
  | nil => simp [spanCmt]
  | cons x xs ih => simp only [spanCmt]; split <;> simp <;> omega

theorem spanCmt_snd_cons (c : Nat) (cs : Bytes) :
    (spanCmt (c :: cs)).2 = if c == 10 || c == 13 then c :: cs else (spanCmt cs).2 := by
  simp only [spanCmt]; split <;> rfl

theorem spanReg_all (tok rest : Bytes) (h : ∀ b ∈ tok, cReg b = true) (hend : TokEnd rest) :
    spanReg (tok ++ rest) = (tok, rest) := by
  induction tok with
  | nil =>
    cases rest with
    | nil => simp [spanReg]
    | cons d ds => simp [TokEnd] at hend; simp [spanReg, hend]
  | cons c cs ih =>
    have hc : cReg c = true := h c (by simp)
    have := ih (fun b hb => h b (by simp [hb]))
    simp [spanReg, hc, this]

theorem nameBody_rt (n : Bytes) (hn : AllBytes n) (rest : Bytes) (hrest : TokEnd rest) :
    nameBodyS 0 (fmtNameBody n ++ rest) = (n, rest) := by
  induction n with
  | nil =>
    cases rest with
    | nil => simp [fmtNameBody, nameBodyS]
    | cons d ds => simp [TokEnd] at hrest; simp [fmtNameBody, nameBodyS, hrest]
  | cons c cs ih =>
    have hc : c < 256 := by simp [AllBytes] at hn; exact hn.1
    have hcs : AllBytes cs := by simp [AllBytes] at hn ⊢; exact hn.2
    have ih := ih hcs
    by_cases he : nameNeedsEsc c = true
    · -- `#`, two hex digits: `tryHex` decodes them to `c / 16 * 16 + c % 16`
      have h1 := hexVal_hexLower (c / 16) (by omega)
      have h2 := hexVal_hexLower (c % 16) (by omega)
      simp [fmtNameBody, he, nameBodyS, cReg_35, hex2, h1, h2, Nat.div_add_mod', ih]
    · have he' : nameNeedsEsc c = false := by simpa using he
      obtain ⟨h1, h2⟩ := plain_byte c he'
      simp [fmtNameBody, he', nameBodyS, h1, h2, ih]

/-- `ReadName` reads back what `formatName` wrote, for every byte string below the name cap, and stops
before whatever ends the token -/
theorem name_rt (n : Bytes) (hn : AllBytes n) (hlen : n.length ≤ Gen.content_maxNameBytes)
    (rest : Bytes) (hrest : TokEnd rest) :
    scanToken (fmtName n ++ rest) = .ok (.name n) rest := by
  have hl : ¬ (Gen.content_maxNameBytes < n.length) := by omega
  simp [scanToken, fmtName, skipWS_starts (starts_delim (c := 47) (by simp) _), nameBody,
    nameBody_rt n hn rest hrest, hl]

theorem countClose_cons (c : Nat) (cs : Bytes) :
    countClose (c :: cs) = (if c == 41 then 1 else 0) + countClose cs := rfl

/-- The loop invariant of `formatString`/`ReadString`: while `level` unescaped parentheses are
open and `closing` closing parentheses remain in the input, the reader's bracket level is
`level + 1` and it returns exactly the remaining input.  `prev` (the previous byte) only decides how
the writer spells a line feed after a carriage return; the reader's answer does not depend on it, so it
is arbitrary here. -/
theorem readStr_fmt (s : Bytes) : ∀ (prev : Option Nat) (level closing len : Nat) (rest : Bytes),
    closing = countClose s → level ≤ closing → len + s.length < Gen.content_maxStringBytes →
    readStr (level + 1) false len (fmtStrLoop prev level closing s ++ 41 :: rest) = .ok s rest := by
  intro prev level closing len rest
  -- at each exit of the writer's loop the reader takes the branch that undoes it
  fun_induction fmtStrLoop prev level closing s generalizing len
  all_goals
    intro hc hl hlen
    have hlen' : ¬ (Gen.content_maxStringBytes ≤ len) := by simp at hlen; omega
    try (rw [countClose_cons] at hc; simp only [List.length_cons] at hlen)
  case case1 prev level closing =>
    simp [countClose] at hc
    subst hc
    obtain rfl : level = 0 := by omega
    simp only [List.nil_append]; rw [readStr.eq_def]; simp [hlen']
  case case2 prev level closing c cs h13 ih =>        -- CR, written `\r`
    obtain rfl := eq_of_beq h13
    have := ih (len + 1) (by simpa using hc) hl (by omega)
    simp only [List.cons_append, List.nil_append]; rw [readStr.eq_def]; simp [hlen', this]
  case case3 prev level closing c cs _ h10 ih =>      -- LF, written `\n` next to a CR, raw otherwise
    obtain rfl := eq_of_beq h10
    have := ih (len + 1) (by simpa using hc) hl (by omega)
    split <;> (simp only [List.cons_append, List.nil_append]; rw [readStr.eq_def]; simp [hlen', this])
  case case4 prev level closing c cs _ _ h40 hlt ih => -- `(` that a later `)` closes
    obtain rfl := eq_of_beq h40
    have := ih (len + 1) (by simpa using hc) (by omega) (by omega)
    simp only [List.cons_append, List.nil_append]; rw [readStr.eq_def]; simp [hlen', this]
  case case5 prev level closing c cs _ _ h40 hlt ih => -- `(` without one, written `\(`
    obtain rfl := eq_of_beq h40
    have := ih (len + 1) (by simpa using hc) hl (by omega)
    simp only [List.cons_append, List.nil_append]; rw [readStr.eq_def]; simp [hlen', this, isOct]
  case case6 prev level closing c cs _ _ _ h41 hpos ih => -- `)` closing an open `(`
    obtain rfl := eq_of_beq h41
    simp at hc
    have := ih (len + 1) (by omega) (by omega) (by omega)
    rw [show level - 1 + 1 = level from by omega] at this
    have hne : ¬ (level = 0) := by omega
    simp only [List.cons_append, List.nil_append]; rw [readStr.eq_def]; simp [hlen', this, hne]
  case case7 prev level closing c cs _ _ _ h41 hpos ih => -- `)` with nothing open, written `\)`
    obtain rfl := eq_of_beq h41
    simp at hc
    have := ih (len + 1) (by omega) (by omega) (by omega)
    simp only [List.cons_append, List.nil_append]; rw [readStr.eq_def]; simp [hlen', this, isOct]
  case case8 prev level closing c cs _ _ _ _ h92 ih =>  -- backslash, doubled
    obtain rfl := eq_of_beq h92
    have := ih (len + 1) (by simpa using hc) hl (by omega)
    simp only [List.cons_append, List.nil_append]; rw [readStr.eq_def]; simp [hlen', this, isOct]
  case case9 prev level closing c cs h13 h10 h40 h41 h92 ih => -- any other byte, as it stands
    have := ih (len + 1) (by simpa [h41] using hc) hl (by omega)
    simp only [List.cons_append, List.nil_append]; rw [readStr.eq_def]
    simp only [beq_iff_eq] at h13 h10 h40 h41 h92
    simp [hlen', this, h13, h40, h41, h92]

/-- `ReadString` returns the string `formatString` wrote (literal form, the only one used without
`OptPretty`), for every byte string shorter than the scanner's cap, and stops right behind the closing
parenthesis. -/
theorem string_rt (s : Bytes) (hlen : s.length < Gen.content_maxStringBytes) (rest : Bytes) :
    scanToken (fmtStrLiteral s ++ rest) = .ok (.str s) rest := by
  have := readStr_fmt s none 0 (countClose s) 0 rest rfl (Nat.zero_le _) (by omega)
  simp at this
  simp [scanToken, fmtStrLiteral, skipWS_starts (starts_delim (c := 40) (by simp) _), this]

/-- the written form of a number or keyword operand and what the scanner makes of it -/
structure RegTok (w : Bytes) (o : Obj) : Prop where
  ne : w ≠ []
  reg : ∀ b ∈ w, cReg b = true
  len : w.length ≤ Gen.content_maxNameBytes
  cls : classify w = o

theorem regTok_scan (w : Bytes) (o : Obj) (h : RegTok w o) (rest : Bytes) (hend : TokEnd rest) :
    scanToken (w ++ rest) = .ok o rest := by
  match w, h.ne, h.reg, h.len, h.cls with
  | c :: cs, _, hreg, hlen, hcls =>
    have hc := hreg c (by simp)
    obtain ⟨_, _, k3, k4, k5, k6⟩ := reg_byte_any c hc
    have hsp := spanReg_all cs rest (fun b hb => hreg b (by simp [hb])) hend
    have hl : ¬ (Gen.content_maxNameBytes < cs.length + 1) := by simp at hlen; omega
    simp [scanToken, skipWS_starts (starts_reg _ hc), k3, k4, k5, k6, hc, hsp, hl, hcls]

theorem regTok_null : RegTok [110, 117, 108, 108] .null :=
  ⟨by decide, by decide +kernel, by decide, by rfl⟩
theorem regTok_true : RegTok [116, 114, 117, 101] (.bool true) :=
  ⟨by decide, by decide +kernel, by decide, by rfl⟩
theorem regTok_false : RegTok [102, 97, 108, 115, 101] (.bool false) :=
  ⟨by decide, by decide +kernel, by decide, by rfl⟩

/-- what the scanner returns for an operand (Go: `pdf.Array(nil)` is written as `null`; a real
is written with a decimal point) -/
def normA : Obj → Obj
  | .nilArr => .null
  | .real t => .real (realToken t)
  | o => o

/-- Operands of the lexical layer: null, booleans, 64-bit integers, reals whose written token
is a number token, names and strings below the scanner's size caps. -/
def FlatOk : Obj → Prop
  | .null => True
  | .nilArr => True
  | .bool _ => True
  | .int i => RegTok (intDec i) (.int i)
  | .real t => RegTok (realToken t) (.real (realToken t))
  | .name n => AllBytes n ∧ n.length ≤ Gen.content_maxNameBytes
  | .str s => s.length < Gen.content_maxStringBytes
  | _ => False

theorem fmtObj_name (opt : FmtOpt) (ns : Bool) (n : Bytes) : fmtObj opt ns (.name n) = some (fmtName n, true) := by
  simp only [fmtObj]

theorem flat_cases (x : Obj) (h : FlatOk x) (ns : Bool) (bs : Bytes) (ns' : Bool)
    (hb : fmtObj copt ns x = some (bs, ns')) :
    (∃ w, RegTok w (normA x) ∧ bs = sep ns ++ w ∧ ns' = true) ∨
      (∃ n, x = .name n ∧ bs = fmtName n ∧ ns' = true) ∨
      ∃ s, x = .str s ∧ bs = fmtStrLiteral s ∧ ns' = false := by
  have reg : ∀ w, RegTok w (normA x) → fmtObj copt ns x = some (sep ns ++ w, true) →
      ∃ w, RegTok w (normA x) ∧ bs = sep ns ++ w ∧ ns' = true := by
    intro w hw e
    rw [e] at hb
    obtain ⟨rfl, rfl⟩ := Prod.mk.inj (Option.some.inj hb)
    exact ⟨w, hw, rfl, rfl⟩
  cases x with
  | null => exact .inl (reg _ regTok_null (by simp [fmtObj]))
  | nilArr => exact .inl (reg _ regTok_null (by simp [fmtObj]))
  | bool b =>
    cases b with
    | true => exact .inl (reg _ regTok_true (by simp [fmtObj]))
    | false => exact .inl (reg _ regTok_false (by simp [fmtObj]))
  | int i => exact .inl (reg _ h (by simp [fmtObj]))
  | real t => exact .inl (reg _ h (by simp [fmtObj]))
  | name n =>
    rw [fmtObj_name, Option.some.injEq, Prod.mk.injEq] at hb
    exact .inr (.inl ⟨n, rfl, hb.1.symm, hb.2.symm⟩)
  | str s =>
    simp only [fmtObj, fmtString, copt, Bool.false_eq_true, Bool.false_and, if_false, Option.some.injEq,
      Prod.mk.injEq] at hb
    exact .inr (.inr ⟨s, rfl, hb.1.symm, hb.2.symm⟩)
  | _ => exact absurd h (by simp [FlatOk])

theorem atom_seq (x : Obj) (h : FlatOk x) (ns : Bool) (bs : Bytes) (ns' : Bool)
    (hb : fmtObj copt ns x = some (bs, ns')) (rest : Bytes) (hend : ns' = true → TokEnd rest) :
    scanToken (bs ++ rest) = .ok (normA x) rest := by
  rcases flat_cases x h ns bs ns' hb with ⟨w, hw, rfl, rfl⟩ | ⟨n, rfl, rfl, rfl⟩ | ⟨s, rfl, rfl, rfl⟩
  · rw [List.append_assoc, scanToken_sep]
    exact regTok_scan w _ hw rest (hend rfl)
  · exact name_rt n h.1 h.2 rest (hend rfl)
  · exact string_rt s h rest

theorem normA_not_op (o : Obj) (h : FlatOk o) : ∀ n, normA o ≠ .op n := by
  intro n
  cases o <;> simp [normA, FlatOk] at h ⊢

theorem canon_flat (x : Obj) (h : FlatOk x) : x.canon = x := by
  cases x <;> first | rfl | exact absurd h (by simp [FlatOk])

/-- admissible operator names: non-empty, regular bytes only, at most `maxNameBytes` long,
not read as a number or keyword, and not `BI`. -/
structure OpNameOk (name : Bytes) : Prop where
  ne : name ≠ []
  reg : ∀ b ∈ name, cReg b = true
  len : name.length ≤ Gen.content_maxNameBytes
  cls : classify name = .op name
  notBI : name ≠ Gen.content_opBeginInlineImage

theorem OpNameOk.regTok {name : Bytes} (h : OpNameOk name) : RegTok name (.op name) := ⟨h.ne, h.reg, h.len, h.cls⟩

theorem opName_ne (name : Bytes) (h : OpNameOk name) (lit : Bytes) (b : Nat) (hb : b ∈ lit)
    (hr : cReg b = false) : (name == lit) = false := by
  rw [beq_eq_false_iff_ne]
  rintro rfl
  rw [h.reg b hb] at hr
  cases hr

/-- an admissible name is not one of the pseudo-operator names (they contain `%`) -/
theorem opName_not_pseudo (name : Bytes) (h : OpNameOk name) :
    (name == Gen.content_OpRawContent) = false ∧ (name == Gen.content_OpInlineImage) = false :=
  ⟨opName_ne name h _ 37 (by decide) (cReg_delim (by simp)),
   opName_ne name h _ 37 (by decide) (cReg_delim (by simp))⟩

theorem step_operator (args : List Obj) (name : Bytes) (h : OpNameOk name)
    (hlen : args.length < Gen.content_maxOperatorArgs) :
    step [] args (.op name) = .emit name args := by
  have h1 := opName_ne name h [60, 60] 60 (by simp) (cReg_delim (by simp))
  have h2 := opName_ne name h [62, 62] 62 (by simp) (cReg_delim (by simp))
  have h3 := opName_ne name h [91] 91 (by simp) (cReg_delim (by simp))
  have h4 := opName_ne name h [93] 93 (by simp) (cReg_delim (by simp))
  have h5 : (name == Gen.content_opBeginInlineImage) = false := by simpa using h.notBI
  have h6 : ¬ (Gen.content_maxOperatorArgs ≤ args.length) := by omega
  simp [step, deliver, h1, h2, h3, h4, h5, h6]

theorem scanLoop_name (acc : List Obj) (name rest : Bytes) (fuel : Nat) (h : OpNameOk name)
    (hlen : acc.length < Gen.content_maxOperatorArgs) :
    scanLoop (fuel + 1) [] acc (name ++ 10 :: rest) = .ok (name, acc) (10 :: rest) := by
  have ht := regTok_scan name _ h.regTok (10 :: rest) (tokEnd_10 rest)
  simp [scanLoop, ht, step_operator acc name h hlen]

theorem fmtArgs_cons_inv {a : Obj} {as : List Obj} {ab : Bytes} (h : fmtArgs (a :: as) = some ab) :
    ∃ x y, fmtArg a = some x ∧ fmtArgs as = some y ∧ ab = x ++ 32 :: y := by
  simp only [fmtArgs] at h
  split at h
  · rename_i x y hx hy
    exact ⟨x, y, hx, hy, (Option.some.inj h).symm⟩
  · cases h

theorem fmtOps_cons_inv {op : Bytes × List Obj} {ops : List (Bytes × List Obj)} {bs : Bytes}
    (h : fmtOps (op :: ops) = some bs) :
    ∃ x y, fmtOp op.1 op.2 = some x ∧ fmtOps ops = some y ∧ bs = x ++ y := by
  obtain ⟨n, a⟩ := op
  simp only [fmtOps] at h
  split at h
  · rename_i x y hx hy
    exact ⟨x, y, hx, hy, (Option.some.inj h).symm⟩
  · cases h

theorem mapM_cons_inv {α β : Type} {f : α → Option β} {x : α} {xs : List α} {ys : List β}
    (h : (x :: xs).mapM f = some ys) : ∃ y ys', f x = some y ∧ xs.mapM f = some ys' ∧ ys = y :: ys' := by
  simp only [List.mapM_cons] at h
  cases hx : f x with
  | none => simp [hx] at h
  | some y =>
    cases hy : xs.mapM f with
    | none => simp [hx, hy] at h
    | some ys' => simp [hx, hy] at h; exact ⟨y, ys', rfl, rfl, h.symm⟩

/-- `bs` (the bytes `Operator.Format` wrote for one operator) ends in a newline, and `Scan`,
started anywhere before it, returns `op` and stops before that newline — whatever follows.  The
newline is left to the next call (`scanAll_space`, `reads_nl`), which is what makes segments joined
by a newline read like the unsplit stream. -/
def OpStep (bs : Bytes) (op : Bytes × List Obj) : Prop :=
  ∃ body, bs = body ++ [10] ∧ ∀ rest, scanOne (body ++ 10 :: rest) = .ok op (10 :: rest)

theorem scanAll_space (c : Nat) (r : Bytes) (h : cSpace c = true) (f : Nat) : scanAll f (c :: r) = scanAll f r := by
  cases f with
  | zero => simp [scanAll]
  | succ f => simp [scanAll, scanOne_space c r h]

theorem scanAll_nil (f : Nat) : scanAll (f + 1) [] = some [] := by
  simp [scanAll, scanOne, skipSp]

/-- `bs` reads as the operators `ops`: the pump loop, started on `bs` followed by anything, returns
`ops` and goes on behind `bs` with the fuel that is left; `bs` is long enough to pay for it.
Closed under concatenation (`reads_append`) and under a newline in front (`reads_nl`), which is
all that `Operators.RawBytes` and `page.SegmentsReader` do. -/
def Reads (bs : Bytes) (ops : List (Bytes × List Obj)) : Prop :=
  ops.length ≤ bs.length ∧
    ∀ rest fuel, scanAll (fuel + ops.length) (bs ++ rest) = (scanAll fuel rest).map (ops ++ ·)

theorem reads_nil : Reads [] [] :=
  ⟨Nat.le_refl _, fun rest fuel => by cases h : scanAll fuel rest <;> simp [h]⟩

theorem reads_op {b : Bytes} {op : Bytes × List Obj} (h : OpStep b op) : Reads b [op] := by
  obtain ⟨body, rfl, hscan⟩ := h
  refine ⟨by simp, fun rest fuel => ?_⟩
  have e : (body ++ [10]) ++ rest = body ++ 10 :: rest := by simp
  rw [e, List.length_singleton, scanAll, hscan rest]
  simp only []
  rw [scanAll_space 10 _ cSpace_10]     -- the newline `OpStep` left unread is skipped here
  cases scanAll fuel rest <;> simp

theorem reads_append {a b : Bytes} {xs ys : List (Bytes × List Obj)} (ha : Reads a xs) (hb : Reads b ys) :
    Reads (a ++ b) (xs ++ ys) := by
  refine ⟨by have := ha.1; have := hb.1; simp; omega, fun rest fuel => ?_⟩
  have e : fuel + (xs ++ ys).length = (fuel + ys.length) + xs.length := by simp; omega
  rw [List.append_assoc, e, ha.2, hb.2]
  cases scanAll fuel rest <;> simp

theorem reads_nl {b : Bytes} {ys : List (Bytes × List Obj)} (hb : Reads b ys) : Reads (10 :: b) ys :=
  ⟨by have := hb.1; simp; omega, fun rest fuel => by
    rw [List.cons_append, scanAll_space 10 _ cSpace_10]; exact hb.2 rest fuel⟩

theorem scan_of_reads {bs : Bytes} {ops : List (Bytes × List Obj)} (h : Reads bs ops) : scan bs = some ops := by
  have h2 := h.2 [] (bs.length + 2 - ops.length)
  have e : bs.length + 2 - ops.length + ops.length = bs.length + 2 := by have := h.1; omega
  have e2 : bs.length + 2 - ops.length = (bs.length + 1 - ops.length) + 1 := by have := h.1; omega
  rw [e] at h2
  rw [e2, scanAll_nil] at h2
  simpa [scan] using h2

/-- the segments of a split content stream, joined as `page.SegmentsReader` joins them -/
def joinSegments : List Bytes → Bytes
  | [] => []
  | [b] => b
  | b :: bs => b ++ 10 :: joinSegments bs

theorem reads_fmtOps (P : Bytes × List Obj → Prop) (N : Bytes × List Obj → Bytes × List Obj)
    (hP : ∀ op, P op → ∀ b, fmtOp op.1 op.2 = some b → OpStep b (N op))
    (ops : List (Bytes × List Obj)) : ∀ (bs : Bytes), (∀ op ∈ ops, P op) → fmtOps ops = some bs →
    Reads bs (ops.map N) := by
  induction ops with
  | nil =>
    intro bs _ hb
    obtain rfl : [] = bs := Option.some.inj hb
    exact reads_nil
  | cons op ops ih =>
    intro bs hall hb
    obtain ⟨x, y, hx, hy, rfl⟩ := fmtOps_cons_inv hb
    exact reads_append (reads_op (hP op (hall _ (by simp)) x hx)) (ih y (fun o ho => hall o (by simp [ho])) hy)

theorem reads_join (P : Bytes × List Obj → Prop) (N : Bytes × List Obj → Bytes × List Obj)
    (hP : ∀ op, P op → ∀ b, fmtOp op.1 op.2 = some b → OpStep b (N op))
    (segs : List (List (Bytes × List Obj))) : ∀ (bss : List Bytes),
    (∀ seg ∈ segs, ∀ op ∈ seg, P op) → segs.mapM fmtOps = some bss →
    Reads (joinSegments bss) (segs.flatten.map N) := by
  induction segs with
  | nil =>
    intro bss _ hb
    obtain rfl : [] = bss := Option.some.inj hb
    exact reads_nil
  | cons seg segs ih =>
    intro bss hall hb
    obtain ⟨x, ys, hx, hy, rfl⟩ := mapM_cons_inv hb
    have hx' := reads_fmtOps P N hP seg x (hall seg (by simp)) hx
    have ih' := ih ys (fun s hs => hall s (by simp [hs])) hy
    rw [List.flatten_cons, List.map_append]
    match ys, ih' with
    | [], ih' => simpa [joinSegments] using reads_append hx' ih'
    | y :: ys', ih' => exact reads_append hx' (reads_nl ih')

theorem scan_join (P : Bytes × List Obj → Prop) (N : Bytes × List Obj → Bytes × List Obj)
    (hP : ∀ op, P op → ∀ b, fmtOp op.1 op.2 = some b → OpStep b (N op))
    (segs : List (List (Bytes × List Obj))) (bss : List Bytes)
    (hall : ∀ seg ∈ segs, ∀ op ∈ seg, P op) (hb : segs.mapM fmtOps = some bss) :
    scan (joinSegments bss) = some (segs.flatten.map N) :=
  scan_of_reads (reads_join P N hP segs bss hall hb)

theorem scan_ops (P : Bytes × List Obj → Prop) (N : Bytes × List Obj → Bytes × List Obj)
    (hP : ∀ op, P op → ∀ b, fmtOp op.1 op.2 = some b → OpStep b (N op))
    (ops : List (Bytes × List Obj)) (bs : Bytes) (hall : ∀ op ∈ ops, P op) (hb : fmtOps ops = some bs) :
    scan bs = some (ops.map N) :=
  scan_of_reads (reads_fmtOps P N hP ops bs hall hb)

/-- `scan_join` and `scan_ops` together (the form the `ops_rt`/`split_rt` theorems downstream have): the split
stream reads as the unsplit one, and that as the operators written -/
theorem scan_split (P : Bytes × List Obj → Prop) (N : Bytes × List Obj → Bytes × List Obj)
    (hP : ∀ op, P op → ∀ b, fmtOp op.1 op.2 = some b → OpStep b (N op))
    (segs : List (List (Bytes × List Obj))) (hall : ∀ seg ∈ segs, ∀ op ∈ seg, P op)
    (bss : List Bytes) (hb : segs.mapM fmtOps = some bss) (whole : Bytes) (hw : fmtOps segs.flatten = some whole) :
    scan (joinSegments bss) = scan whole ∧ scan whole = some (segs.flatten.map N) := by
  have h2 := scan_ops P N hP segs.flatten whole (fun op hop => by
    obtain ⟨seg, hs, ho⟩ := List.mem_flatten.mp hop
    exact hall seg hs op ho) hw
  exact ⟨by rw [h2]; exact scan_join P N hP segs bss hall hb, h2⟩

end PdfVerif.C15cnt
