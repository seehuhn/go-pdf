import PdfVerif.Model.HISSeq
import PdfVerif.Props.C20hisc
/-!
# C20 — nothing is recorded in the middle of a line (D-C20-2)

`markerRegexp` starts with `(?:\r\n|\r|\n|^)`, and `scanner.Find` hands the regexp engine the
bytes from its current read position to the end of its buffer: `^` is true wherever a search
starts — behind the previous match, 64 bytes before the end of a 1024-byte window that held no
match (file offsets 960, 1920, … of a marker-free region), and 64 bytes before the end of the
data.  A marker-like text found there may stand in the middle of a line; `locateObjects` therefore records a
match without a line-start part only at offset 0 or behind an end-of-line byte (`HIS.lineInitial` in
`HIS.locLoop`; b778f0b).  `locateObjects_line_initial` states the effect for every input, on the windowed model,
without mentioning windows.
-/
namespace PdfVerif.C20hise
open PdfVerif PdfVerif.HIS PdfVerif.C20hisc

/-- reducible, like `SecOK` and `StateOK`: the statement of `locateObjects_line_initial` writes `SecOK` out and has to
    unfold to the same text -/
@[reducible] def LineStart (file : Bytes) (p : Nat) : Prop :=
  p = 0 ∨ ∃ c, file[p - 1]? = some c ∧ isEolByte c = true

theorem lineStart_zero (file : Bytes) : LineStart file 0 := .inl rfl

theorem lineInitial_lineStart (file : Bytes) (pos lead : Nat)
    (hlead : ∀ i, i < lead → ∃ c, file[pos + i]? = some c ∧ isEolByte c = true)
    (h : lineInitial file pos lead = true) : LineStart file (pos + lead) := by
  by_cases hl : lead > 0
  · -- the last byte of the match's line-start part is an end-of-line byte of the file
    have := hlead (lead - 1) (by omega)
    rw [show pos + (lead - 1) = pos + lead - 1 by omega] at this
    exact .inr this
  · have hl0 : lead = 0 := by omega
    subst hl0
    unfold lineInitial at h
    simp only [Nat.lt_irrefl, decide_false, Bool.false_or, Bool.or_eq_true, beq_iff_eq] at h
    rcases h with h | h
    · exact .inl (by omega)
    · right
      rw [List.head?_drop] at h
      simp only [Nat.add_zero]
      split at h
      · rename_i c hc
        refine ⟨c, hc, (isEolByte_iff c).mpr ?_⟩
        simp only [Bool.or_eq_true, beq_iff_eq] at h
        exact h.symm
      · cases h

@[reducible] def SecOK (file : Bytes) (sec : Section) : Prop :=
  (∀ o ∈ sec.objects, LineStart file o.start) ∧ LineStart file sec.xrefPos ∧ LineStart file sec.trailerPos ∧
    LineStart file sec.startXRefPos ∧ LineStart file sec.eofPos

@[reducible] def StateOK (file : Bytes) (s : LocState) : Prop :=
  (∀ sec ∈ s.done, SecOK file sec) ∧ SecOK file s.cur

theorem secOK_empty (file : Bytes) : SecOK file {} :=
  ⟨fun o ho => (by cases ho), .inl rfl, .inl rfl, .inl rfl, .inl rfl⟩

theorem stateOK_finish (file : Bytes) (s : LocState) (h : StateOK file s) : StateOK file s.finish := by
  obtain ⟨hd, ho, hx, ht, hs, he⟩ := h
  unfold LocState.finish
  refine ⟨?_, secOK_empty file⟩
  simp only []
  split
  · intro sec hsec
    simp only [List.mem_cons] at hsec
    rcases hsec with rfl | hsec
    · exact ⟨fun o hm => ho o (by simpa using hm), hx, ht, hs, he⟩
    · exact hd sec hsec
  · exact hd

theorem stateOK_locStep (file : Bytes) (s : LocState) (pos : Nat) (m : Marker)
    (h : StateOK file s) (hp : LineStart file pos) : StateOK file (locStep s pos m) := by
  refine locStep_ind (StateOK file) pos (stateOK_finish file) ?_ ?_ ?_ ?_ ?_ s m h
  · intro t n g ⟨hd, ho, hx, ht, hs, he⟩
    refine ⟨hd, fun o hm => ?_, hx, ht, hs, he⟩
    rcases List.mem_cons.mp hm with rfl | hm
    · exact hp
    · exact ho o hm
  · exact fun t ⟨hd, ho, hx, ht, hs, he⟩ => ⟨hd, ho, hp, ht, hs, he⟩
  · exact fun t ⟨hd, ho, hx, ht, hs, he⟩ => ⟨hd, ho, hx, hp, hs, he⟩
  · exact fun t ⟨hd, ho, hx, ht, hs, he⟩ => ⟨hd, ho, hx, ht, hp, he⟩
  · exact fun t ⟨hd, ho, hx, ht, hs, he⟩ => ⟨hd, ho, hx, ht, hs, hp⟩

theorem stateOK_locLoop (file : Bytes) (fuel : Nat) (w wfin : Win) (s sfin : LocState)
    (hs : StateOK file s) (h : locLoop file fuel w s = .ok (sfin, wfin)) : StateOK file sfin := by
  refine (locLoop_inv file (fun _ t => StateOK file t) ?_ fuel w wfin s sfin hs h).1
  intro w w' pos len lead m s hs hfind
  split
  · rename_i hl
    obtain ⟨_, _, hh, _⟩ := find_hit_spec hfind
    exact stateOK_locStep file s _ m hs (lineInitial_lineStart file pos lead hh.eol hl)
  · exact hs

/-- Every offset recorded by `locateObjects` (objects, `xref`, `trailer`, `startxref`, `%%EOF`) is the start of a
line — for every input, with the scanner's buffer windows as they are: 0, or directly behind a CR or LF byte of the
file. -/
theorem locateObjects_line_initial (file : Bytes) (loc : Located) (h : locateObjects file = .ok loc) :
    ∀ sec ∈ loc.sections, (∀ o ∈ sec.objects, LineStart file o.start) ∧ LineStart file sec.xrefPos ∧
      LineStart file sec.trailerPos ∧ LineStart file sec.startXRefPos ∧ LineStart file sec.eofPos := by
  obtain ⟨w0, _, _, _, s, w, _, hloop, hsecs⟩ := locateObjects_ok file loc h
  have h0 : StateOK file { done := [], cur := {}, used := false, inTrailer := false } :=
    ⟨fun sec hs => (by cases hs), secOK_empty file⟩
  have hfin := stateOK_finish file s (stateOK_locLoop file _ _ _ _ _ h0 hloop)
  intro sec hsec
  exact hfin.1 sec (by simpa [hsecs] using hsec)

-- `1 0 obj 999 endobj` in the middle of a line, at offset 960 of a marker-free region (where the second
-- window's search starts), is not recorded
def exFile : Bytes := bytesOfString "%PDF-1.7\n" ++ List.replicate 949 120 ++ bytesOfString "x 1 0 obj 999 endobj " ++
  List.replicate 200 120 ++ bytesOfString "\n2 0 obj\n7\nendobj\n"
example : (match locLoop exFile 5 { base := 0, pos := 9, used := 1024 } { done := [], cur := {}, used := false, inTrailer := false } with
    | .ok (s, _) => s.cur.objects.map (fun o => (o.num, o.start))
    | .error _ => [(0, 0)]) = [(2, 1180)] := by decide +kernel

end PdfVerif.C20hise
