import PdfVerif.Lemmas.CONCSummary
/-!
# C18 — counterexample traces: the hypotheses of the theorems of C18conc* are needed

* `prefix_*`: the model of `cacheStoreOrLoad` **before** commit 231d3ca (`fixed := false`)
  violates `cache_monotone` and `agreement` on a race over a chain `r1 → r2` (defect D12: five
  transitions set it up, three more show it); the same trace on the repaired model keeps the
  published value (`fixed_same_trace`).
* `nil_result_returned_as_nil`: a nil result is handed to the waiter and to every later call as nil;
  nothing panics (C18-F1, go-pdf commit e69b1c0: every conversion is comma-ok).  `protocol_never_panics` is
  the general statement behind it, over all traces, and stands here for that reason.
* `pair_on_chain_breaks_agreement`: `StoreOrLoadPair` on the head of a reference chain breaks agreement (C18-F2);
  this is why `agreement` carries the hypothesis `PairOnDirect`.
* `exclusive_self_deadlock`: `DecodeExclusive` re-entered for its own key blocks for ever (the
  documented restriction of `DecodeExclusive`); this is why `decode_never_blocks` is about
  `Decode`.
The traces are closed computations checked by the kernel (`decide`).
-/
namespace PdfVerif.C18concCE
open PdfVerif PdfVerif.CONC

/-- file: object 1 is a reference to object 2, everything else is direct -/
def chainGet (r : Ref) : GetRes := if r = 1 then .ref 2 else .direct

def oldCfg : Cfg := ⟨chainGet, false⟩
def newCfg : Cfg := ⟨chainGet, true⟩

/-- A (thread 0) follows r1 → r2, misses both and is parked in `Get(r2)`; B (thread 1) decodes
r2, publishes value 5 and returns it. -/
def d12a : List Label :=
  [(0, .callDecode (.ref 1) 0 []), (0, .go),
   (1, .callDecode (.ref 2) 0 []), (1, .go), (1, .fnRet (.ok 5))]

/-- A's decode function returns value 7; `cacheStoreOrLoad([r1, r2], 7)`; B decodes r2 again. -/
def d12b : List Label :=
  [(0, .go), (0, .fnRet (.ok 7)), (1, .callDecode (.ref 2) 0 [])]

def cacheAt (s : Option State) (k : Key) : Option (Option Val) := s.map (·.cache k)

/-- before the fix: B's published entry for r2 is overwritten (5 becomes 7) -/
theorem prefix_cache_not_monotone :
    cacheAt (run oldCfg State.init d12a) (2, 0) = some (some 5) ∧
    cacheAt (run oldCfg State.init (d12a ++ d12b)) (2, 0) = some (some 7) := by
  constructor <;> decide +kernel

/-- before the fix: two `Decode(r2)` of thread 1 return different values -/
theorem prefix_agreement_fails :
    (run oldCfg State.init (d12a ++ d12b)).map (fun s => s.hist.filter fun e =>
      match e with
      | .dec 1 (.ref 2) 0 _ => true
      | _ => false)
    = some [.dec 1 (.ref 2) 0 (.ok 7), .dec 1 (.ref 2) 0 (.ok 5)] := by
  decide +kernel

/-- after the fix, the same race: A adopts 5 for the whole chain, everybody sees 5 -/
theorem fixed_same_trace :
    cacheAt (run newCfg State.init (d12a ++ d12b)) (2, 0) = some (some 5) ∧
    cacheAt (run newCfg State.init (d12a ++ d12b)) (1, 0) = some (some 5) ∧
    (run newCfg State.init (d12a ++ d12b)).map (fun s => s.hist.take 2)
      = some [.dec 1 (.ref 2) 0 (.ok 5), .dec 0 (.ref 1) 0 (.ok 5)] := by
  refine ⟨by decide +kernel, by decide +kernel, by decide +kernel⟩

def flat0 : Cfg := ⟨fun _ => .direct, true⟩

/-- thread 0 decodes `r1` exclusively and its function returns the nil value; thread 1 arrives
while the pending is open and waits -/
def nilA : List Label :=
  [(0, .callExcl (.ref 1) 2 []), (1, .callExcl (.ref 1) 2 []), (0, .go), (0, .go),
   (0, .fnRet (.ok nilVal)), (0, .go), (0, .go), (0, .go), (1, .go)]

/-- The owner, the waiter, a later exclusive decode, a later `Decode` and a later `StoreOrLoadPair` all return
the nil value, and no thread dies (with a plain `v.(T)`, as in go-pdf before commit e69b1c0, the waiter and
every later `DecodeExclusive` / `StoreOrLoadPair` of the reference panicked). -/
theorem nil_result_returned_as_nil :
    (run flat0 State.init
        (nilA ++ [(0, .callExcl (.ref 1) 2 []), (1, .callDecode (.ref 1) 2 []), (2, .callPair 1 2 3 8 9)])).map
        (fun s => (s.hist, s.thr 0, s.thr 1, s.thr 2))
      = some ([.pair 2 1 2 3 8 9 (some (nilVal, 9)), .dec 1 (.ref 1) 2 (.ok nilVal),
               .exc 0 (.ref 1) 2 (.ok nilVal) none, .exc 1 (.ref 1) 2 (.ok nilVal) (some 0),
               .exc 0 (.ref 1) 2 (.ok nilVal) (some 0), .dec 0 (.ref 1) 2 (.ok nilVal),
               .run 0 2 [1] [1] (some 0)], [], [], []) := by
  decide +kernel

/-- in general (all traces, all values — nil or not, any types): if no decode function panics, no
thread ever dies; the protocol's own conversions (`r, _ := v.(T)` on the cache-hit, waiter and
pair paths) cannot panic. -/
theorem protocol_never_panics (cfg : Cfg) (ls : List Label) (s : State)
    (hl : ∀ l ∈ ls, l.2 ≠ .fnRet .panic) (h : run cfg State.init ls = some s) (t : Tid) :
    ∀ f ∈ s.thr t, f ≠ .dead :=
  run_inv cfg (fun l => l.2 ≠ .fnRet .panic) (fun s => ∀ t, ∀ f ∈ s.thr t, f ≠ .dead)
    (fun _ _ _ _ hg hi hs => noDead_step hg hi hs) ls State.init s hl
    (by intro t f hf; rw [init_thr] at hf; cases hf) h t

def d15 : List Label :=
  [(0, .callDecode (.ref 2) 0 []), (0, .go), (0, .fnRet (.ok 5)),   -- r2 ↦ 5
   (0, .callDecode (.ref 1) 0 []), (0, .go),                         -- Decode(r1) = 5 via r2; r1 stays uncached
   (0, .callPair 1 0 1 8 9),                                         -- publishes (r1,0) ↦ 8
   (0, .callDecode (.ref 1) 0 [])]                                   -- Decode(r1) = 8

theorem pair_on_chain_breaks_agreement :
    (run newCfg State.init d15).map (fun s => s.hist.filter fun e =>
      match e with
      | .dec 0 (.ref 1) 0 _ => true
      | _ => false)
    = some [.dec 0 (.ref 1) 0 (.ok 8), .dec 0 (.ref 1) 0 (.ok 5)] := by
  decide +kernel

def flatCfg : Cfg := ⟨fun _ => .direct, true⟩

/-- a decode function running under `DecodeExclusive(r1)` calls `DecodeExclusive(r1)` again -/
def selfDeadlock : List Label :=
  [(0, .callExcl (.ref 1) 0 []), (0, .go), (0, .go), (0, .callExcl (.ref 1) 0 [1])]

theorem exclusive_self_deadlock :
    ∃ s, run flatCfg State.init selfDeadlock = some s ∧ s.thr 0 ≠ [] ∧
      ∀ a, step flatCfg s 0 a = none := by
  refine ⟨_, rfl, by decide +kernel, ?_⟩
  intro a
  cases a <;> rfl

end PdfVerif.C18concCE
