import PdfVerif.Lemmas.ROBParse
/-!
# C19 — the token readers of the scanner over a FAILING reader

`Lemmas/ROBParse.lean` compares the buffer-level parser (`Model/ROBScanObj.lean`) with the whole-input parser
(`Model/Scan.lean`) on a reader that may fail with `e0` at any call, any number of times, with or without bytes
delivered together with the error (`FaultyOver d e0 src`).  This file and `Props/C19robobj.lean` read it at the states
`GoodF d e0 lat`.  The outcome of every function is the fault-free one (`RelA`: the value and unconsumed input, or the
error, of the whole-input model) or the reader's error `e0`, and in no case a (modelled) Go panic.  (That there is
no third outcome rests on the fixes of findings ROB-6 and ROB-7: the `PeekN(6)` in `ReadObject` and the `PeekN(3)` in
`tryHex`, whose errors `scanner.go` must not drop.)  `GoodF`, `RelA`/`FltB`/`RelF` are the forms in which the theorems are
published; `inv_goodF` and `relF_of_out` are the one conversion each from `Inv d e0 P` and `Out` of the Lemmas modules.
-/
namespace PdfVerif.C19robtok
open PdfVerif PdfVerif.ROB PdfVerif.C05robbuf PdfVerif.C05robobj PdfVerif.ROBParse

theorem peekN_latched (src : Source) (n : Nat) (hn : n ≤ bufSize) (s : SB) (x : Err) (h : s.err = some x) :
    peekN src n s = if s.pos + n > s.buf.length then (s, s.buf.drop s.pos, some x)
      else (s, (s.buf.drop s.pos).take n, none) := by
  unfold peekN
  have hn' : ¬ (n > bufSize) := by omega
  simp only [hn', if_false]
  by_cases hA : s.pos + n > s.buf.length
  · simp only [hA, if_true, refill_latch src s x h]
  · simp only [hA, if_false]

theorem skipString_latched_srcOff (src : Source) (pat : Bytes) (hn : pat.length ≤ bufSize) (s : SB) (x : Err)
    (h : s.err = some x) : (skipString src pat s).1.srcOff = s.srcOff := by
  unfold skipString
  rw [peekN_latched src pat.length hn s x h]
  by_cases hA : s.pos + pat.length > s.buf.length
  · simp only [hA, if_true]
  · simp only [hA, if_false]
    split <;> rfl

/-- a state reached on a reader that fails with `e0`: coherent with the data (the latched error,
    if any, is `e0`), no panic branch taken, `CurrentPos` consistent with the view.  `lat = true`
    records that the reader HAS failed (`scanner.err = e0`). -/
structure GoodF (d : Bytes) (e0 : Err) (lat : Bool) (s : SB) : Prop where
  coh : Coh d e0 s
  nopanic : s.panicked = false
  posok : s.currentPos + (view d s).length = d.length
  /-- the unconsumed bytes are a suffix of the data (for a scanner started at offset 0) -/
  vsuf : view d s <:+ d
  lat : lat = true → s.err = some e0

theorem GoodF.toLat {d : Bytes} {e0 : Err} {lat : Bool} {s : SB} (gs : GoodF d e0 lat s) (h : s.err = some e0) :
    GoodF d e0 true s := ⟨gs.coh, gs.nopanic, gs.posok, gs.vsuf, fun _ => h⟩

theorem GoodF.unLat {d : Bytes} {e0 : Err} {lat : Bool} {s : SB} (gs : GoodF d e0 true s) :
    GoodF d e0 lat s := ⟨gs.coh, gs.nopanic, gs.posok, gs.vsuf, fun _ => gs.lat rfl⟩

theorem goodF_init (d : Bytes) (e0 : Err) : GoodF d e0 false (SB.init 0) :=
  ⟨coh_init d e0 0, rfl, by rw [view_init]; simp [SB.init, SB.currentPos], by rw [view_init]; exact List.suffix_refl d,
    fun h => by cases h⟩

/-- what a `GoodF` state carries besides `Coh` (`vsuf` because `GoodF` has the field; no proof reads it) -/
abbrev Carried (d : Bytes) (e0 : Err) (lat : Bool) (s : SB) : Prop :=
  s.panicked = false ∧ s.currentPos + (view d s).length = d.length ∧ view d s <:+ d ∧ (lat = true → s.err = some e0)

theorem kept_carried {d : Bytes} {e0 : Err} {src : Source} (h : FaultyOver d e0 src) (lat : Bool) :
    Kept d e0 src (Carried d e0 lat) :=
  kept_nopanic.and ((kept_pos h _).and ((kept_suffix h d).and (kept_latched _)))

theorem inv_goodF {d : Bytes} {e0 : Err} {lat : Bool} {s : SB} : Inv d e0 (Carried d e0 lat) s ↔ GoodF d e0 lat s :=
  ⟨fun g => ⟨g.coh, g.p.1, g.p.2.1, g.p.2.2.1, g.p.2.2.2⟩, fun g => ⟨g.coh, g.nopanic, g.posok, g.vsuf, g.lat⟩⟩

theorem Carried.vlen {d : Bytes} {e0 : Err} {lat : Bool} (s : SB) (p : Carried d e0 lat s) :
    (view d s).length ≤ d.length := by
  have := p.2.1; omega

/-! `PeekN`, `SkipString`, `SkipWhiteSpace` stated on `GoodF`, each as one formula about the call's projections.  The token
theorems below do not go through these but through the relations of `Lemmas/ROBBuf.lean` and `Lemmas/ROBParse.lean`. -/

section
variable {d : Bytes} {e0 : Err} {src : Source} (h : FaultyOver d e0 src) {lat : Bool}
include h

theorem peekF (n : Nat) (hn : n ≤ bufSize) (s : SB) (gs : GoodF d e0 lat s) :
    ∃ s1 buf err, peekN src n s = (s1, buf, err) ∧ GoodF d e0 lat s1 ∧ view d s1 = view d s ∧
      (s.buf.drop s.pos).length ≤ (s1.buf.drop s1.pos).length ∧ buf <+: s1.buf.drop s1.pos ∧
      ((err = none ∧ buf = (view d s).take n) ∨
       (err = some e0 ∧ GoodF d e0 true s1 ∧ buf.length < n ∧ buf = s1.buf.drop s1.pos)) := by
  have R := peekN_spec h n hn s gs.coh
  have S := peekN_shape h n hn s gs.coh
  have g1 := inv_goodF.1 ⟨R.coh, (kept_carried h lat).peekN h n hn s gs.coh (inv_goodF.2 gs).p⟩
  generalize peekN src n s = r at R S g1
  obtain ⟨s1, buf, err⟩ := r
  refine ⟨s1, buf, err, rfl, g1, R.view_eq, S.1, R.window, ?_⟩
  rcases R.out with ⟨a, b⟩ | ⟨a, b⟩
  · exact .inl ⟨a, b⟩
  · have := S.2 (by rw [show err = some e0 from a]; exact Option.some_ne_none _)
    exact .inr ⟨a, g1.toLat b, this.2, this.1⟩

/-- what a successful `PeekN` allows: advancing over the bytes seen -/
theorem peekAdvF (n : Nat) (hn : n ≤ bufSize) (s : SB) (gs : GoodF d e0 lat s) :
    ∃ s1 buf err, peekN src n s = (s1, buf, err) ∧ GoodF d e0 lat s1 ∧ view d s1 = view d s ∧
      (s.buf.drop s.pos).length ≤ (s1.buf.drop s1.pos).length ∧
      (∀ k, k ≤ buf.length → GoodF d e0 lat (adv k s1) ∧ view d (adv k s1) = (view d s).drop k) ∧
      ((err = none ∧ buf = (view d s).take n) ∨
       (err = some e0 ∧ GoodF d e0 true s1 ∧ buf.length < n ∧ buf = s1.buf.drop s1.pos)) := by
  obtain ⟨s1, buf, err, hp, g1, v1, hw, hwin, hout⟩ := peekF h n hn s gs
  refine ⟨s1, buf, err, hp, g1, v1, hw, fun k hk => ?_, hout⟩
  have := adv_inv (kept_carried h lat) k s1 (inv_goodF.2 g1) (Nat.le_trans hk hwin.length_le)
  exact ⟨inv_goodF.1 this.1, by rw [this.2, v1]⟩

theorem skipstrF (pat : Bytes) (hn : pat.length ≤ bufSize) (s : SB) (gs : GoodF d e0 lat s) :
    ((skipString src pat s).2 = none ∧ (view d s).take pat.length = pat ∧ GoodF d e0 lat (skipString src pat s).1 ∧
      view d (skipString src pat s).1 = (view d s).drop pat.length) ∨
    ((skipString src pat s).2 = some .malformed ∧ (view d s).take pat.length ≠ pat ∧
      GoodF d e0 lat (skipString src pat s).1 ∧ view d (skipString src pat s).1 = view d s) ∨
    ((skipString src pat s).2 = some e0 ∧ GoodF d e0 true (skipString src pat s).1) := by
  refine (skipString_ends h (kept_carried h lat) pat hn s (inv_goodF.2 gs)).casesOn ?_ ?_ ?_
  · intro s1 rest hv g1 v1
    exact .inl ⟨rfl, by rw [hv, List.take_left], inv_goodF.1 g1, by rw [hv, List.drop_left]; exact v1⟩
  · intro s1 hb g1 v1
    exact .inr (.inl ⟨rfl, fun ht => hb (List.prefix_iff_eq_take.2 ht.symm), inv_goodF.1 g1, v1⟩)
  · intro s1 g1 hl
    exact .inr (.inr ⟨rfl, (inv_goodF.1 g1).toLat hl⟩)

variable {sf : Nat} (hsf : d.length + 2 ≤ sf)
include hsf

theorem wsF (s : SB) (gs : GoodF d e0 lat s) :
    GoodF d e0 lat (skipWhiteSpace src sf s).1 ∧
    ((((skipWhiteSpace src sf s).2 = none ∨ (skipWhiteSpace src sf s).2 = some .eof) ∧
       skipWS (view d s) = (view d (skipWhiteSpace src sf s).1, decide ((skipWhiteSpace src sf s).2 = some .eof))) ∨
     ((skipWhiteSpace src sf s).2 = some e0 ∧ GoodF d e0 true (skipWhiteSpace src sf s).1)) := by
  have W := skipWhiteSpace_ends h (kept_carried h lat) s (inv_goodF.2 gs) (fuel_le hsf s)
  generalize skipWhiteSpace src sf s = r at W ⊢
  generalize skipWS (view d s) = w at W ⊢
  cases W with
  | eof s1 g1 => exact ⟨inv_goodF.1 g1, .inl ⟨.inr rfl, rfl⟩⟩
  | ok s1 c rest g1 hv hw => exact ⟨inv_goodF.1 g1, .inl ⟨.inl rfl, rfl⟩⟩
  | flt w s1 g1 hl => exact ⟨inv_goodF.1 g1, .inr ⟨rfl, (inv_goodF.1 g1).toLat hl⟩⟩

end

/-- the fault-free outcome (`lat` is carried along: a latched error stays latched) -/
def RelA {α : Type} (d : Bytes) (e0 : Err) (lat : Bool) (E : SB → Prop) (r : SB × Except Err α)
    (m : Except Err (α × Bytes)) : Prop :=
  match m with
  | .ok (v, rest) => r.2 = .ok v ∧ GoodF d e0 lat r.1 ∧ view d r.1 = rest
  | .error e => r.2 = .error e ∧ GoodF d e0 lat r.1 ∧ E r.1

/-- the reader's error is returned (and latched) -/
def FltB {α : Type} (d : Bytes) (e0 : Err) (r : SB × Except Err α) : Prop :=
  r.2 = .error e0 ∧ GoodF d e0 true r.1

/-- fault-free outcome, or the reader's error -/
def RelF {α : Type} (d : Bytes) (e0 : Err) (lat : Bool) (E : SB → Prop) (r : SB × Except Err α)
    (m : Except Err (α × Bytes)) : Prop :=
  RelA d e0 lat E r m ∨ FltB d e0 r

section
variable {α : Type} {d : Bytes} {e0 : Err} {lat : Bool} {E : SB → Prop}

theorem relF_ok (s : SB) (v : α) (rest : Bytes) (gs : GoodF d e0 lat s) (hv : view d s = rest) :
    RelF d e0 lat E (s, .ok v) (.ok (v, rest)) :=
  Or.inl ⟨rfl, gs, hv⟩

theorem relF_err (s : SB) (e : Err) (gs : GoodF d e0 lat s) (he : E s) :
    RelF (α := α) d e0 lat E (s, .error e) (.error e) :=
  Or.inl ⟨rfl, gs, he⟩

theorem relF_flt (s : SB) (m : Except Err (α × Bytes)) (gl : GoodF d e0 true s) :
    RelF (α := α) d e0 lat E (s, .error e0) m :=
  Or.inr ⟨rfl, gl⟩

/-- the three ways a call can have ended.  With `refine (…).elim ?_ ?_ ?_` the call and the model's
    call are replaced, in the goal, by each of the three pairs of results. -/
@[elab_as_elim]
theorem RelF.elim {motive : SB × Except Err α → Except Err (α × Bytes) → Prop}
    {r : SB × Except Err α} {m : Except Err (α × Bytes)} (hr : RelF d e0 lat E r m)
    (ok : ∀ s v, GoodF d e0 lat s → motive (s, .ok v) (.ok (v, view d s)))
    (err : ∀ s e, GoodF d e0 lat s → E s → motive (s, .error e) (.error e))
    (flt : ∀ s, GoodF d e0 true s → motive (s, .error e0) m) : motive r m := by
  obtain ⟨s, res⟩ := r
  rcases hr with a | ⟨b1, b2⟩
  · cases m with
    | ok p => obtain ⟨v, rest⟩ := p; obtain ⟨a1, a2, a3⟩ := a; cases a1; subst a3; exact ok s v a2
    | error e => obtain ⟨a1, a2, a3⟩ := a; cases a1; exact err s e a2 a3
  · cases b1; exact flt s b2

/-- once the error is latched, every outcome leaves it latched -/
theorem relF_goodT {α : Type} {d : Bytes} {e0 : Err} {E : SB → Prop} {r : SB × Except Err α}
    {m : Except Err (α × Bytes)} (hr : RelF d e0 true E r m) : GoodF d e0 true r.1 :=
  hr.elim (fun _ _ g => g) (fun _ _ g _ => g) (fun _ g => g)

end

/-- a statement proved for a latched state holds for it under any `lat` -/
theorem relF_unLat {α : Type} {d : Bytes} {e0 : Err} {lat : Bool} {E : SB → Prop} {r : SB × Except Err α}
    {m : Except Err (α × Bytes)} (hr : RelF d e0 true E r m) : RelF d e0 lat E r m :=
  hr.elim (fun s v g => relF_ok s v _ g.unLat rfl) (fun s e g he => relF_err s e g.unLat he) fun s g => relF_flt s _ g

theorem relF_of_out {α : Type} {d : Bytes} {e0 : Err} {lat : Bool} {E : SB → Prop} {r : SB × Except Err α}
    {m : Except Err (α × Bytes)} (h : Out d e0 (Carried d e0 lat) E r m) : RelF d e0 lat E r m :=
  h.casesOn (fun s v g => relF_ok s v _ (inv_goodF.1 g) rfl) (fun s e g he => relF_err s e (inv_goodF.1 g) he)
    fun s g hl => relF_flt s _ ((inv_goodF.1 g).toLat hl)

section
variable {d : Bytes} {e0 : Err} {src : Source} (h : FaultyOver d e0 src) {sf : Nat} (hsf : d.length + 2 ≤ sf)
include h hsf

/-- **`ReadName` on a failing reader**: the fault-free outcome or the reader's error -/
theorem readName_fault {lat : Bool} (s : SB) (gs : GoodF d e0 lat s) :
    RelF d e0 lat (NameErrF d (view d s)) (readNameBuf src sf s) (readName (view d s)) :=
  relF_of_out (readNameF h (kept_carried h lat) hsf Carried.vlen s (inv_goodF.2 gs))

/-- **`ReadNumber` on a failing reader**: the fault-free outcome or the reader's error -/
theorem readNumber_fault {lat : Bool} (s : SB) (gs : GoodF d e0 lat s) :
    RelF d e0 lat (fun _ => True) (readNumberBuf src sf s) (readNumber (view d s)) :=
  relF_of_out (readNumberF h (kept_carried h lat) hsf s (inv_goodF.2 gs))

/-- **`ReadInteger` on a failing reader** (input not ending in the leading white space, see
    `ROBParse.readIntegerF`): the fault-free outcome or the reader's error -/
theorem readInteger_fault {lat : Bool} (s : SB) (gs : GoodF d e0 lat s) (hws : (skipWS (view d s)).2 = false) :
    RelF d e0 lat (fun _ => True) (readIntegerBuf src sf s) (readInteger (view d s)) :=
  relF_of_out (readIntegerF h (kept_carried h lat) hsf s (inv_goodF.2 gs) hws)

/-- **`ReadString` on a failing reader**: the fault-free outcome or the reader's error -/
theorem readString_fault {lat : Bool} (s : SB) (gs : GoodF d e0 lat s) :
    RelF d e0 lat (fun _ => True) (readStringBuf src sf s) (readString (view d s)) :=
  relF_of_out (readStringF h (kept_carried h lat) hsf Carried.vlen s (inv_goodF.2 gs))

/-- **`ReadHexString` on a failing reader**: the fault-free outcome or the reader's error -/
theorem readHexString_fault {lat : Bool} (s : SB) (gs : GoodF d e0 lat s) :
    RelF d e0 lat (fun _ => True) (readHexStringBuf src sf s) (readHexString (view d s)) :=
  relF_of_out (readHexStringF h (kept_carried h lat) hsf s (inv_goodF.2 gs))

end

end PdfVerif.C19robtok
