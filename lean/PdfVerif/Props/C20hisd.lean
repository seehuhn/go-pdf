import PdfVerif.Model.HISSeq
import PdfVerif.Props.C20hisb
import PdfVerif.Props.C20hisc
import PdfVerif.Props.C20hisf
import PdfVerif.Props.C02fiod
import PdfVerif.Props.C04hisf
/-!
# C20 — `scan_recovers` on the model, for writer-shaped input

For an input of the shape `pre ++ q ++ (LF N G obj LF body LF endobj)* ++ rest`, `rest` arbitrary (what a cut at ANY
offset leaves: `cut_shape`), on `Model/HISObj.lean` / `Model/HISSeq.lean`:

* reading: a completely written object reads back and is checked unbroken (`his_indirect_obj_rt`,
  `complete_object_checked`); one whose remaining bytes hold no `endobj` is Broken (`cut_object_broken`);
* the un-windowed scan `flatLoop` (defined here) finds exactly the headers when no marker can start between them
  (`Quiet`, `lineQuiet`): `flat_listed`, `flat_lists`; with the reading: `scan_recovers_flat_partial`;
* the windowed scan `HIS.locLoop`, any number of windows: a line-initial header of at most 64 bytes is recorded
  (`Listed`: it is in the listing the scan would return; `locLoop_records`, on `C20hisf.find_reaches_header`), hence every object of a writer-shaped input (`locLoop_lists`);
  `locate_single_window_partial` is the case where the first window is computed; `Props/C20hisg.lean` the case of
  one header, at the level of `locateObjects`.

Not proved: "windowed Find = leftmost match over the whole input" (false without quietness: `^` also matches at
every window restart, word boundaries at every window end), so the windowed theorems say that the objects are
listed, not that nothing else is; that the windowed loop returns (`.ok`) is a hypothesis of theirs.
-/
namespace PdfVerif.C20hisd
open PdfVerif PdfVerif.HIS PdfVerif.C01b PdfVerif.C01L PdfVerif.C01d PdfVerif.C20hisb PdfVerif.C20hisc
open PdfVerif.C20hisf (Inv HeaderAt HeaderAt.of_parts find_reaches_header)

/-! ## a completely written object reads back; an object without `endobj` is Broken -/

/-- `"\nendobj"` -/
def k7 : Bytes := [10, 101, 110, 100, 111, 98, 106]

theorem k7_append (rest : Bytes) : k7 ++ rest = 10 :: 101 :: ([110, 100, 111, 98, 106] ++ rest) := rfl

theorem skipWS_k7 (rest : Bytes) :
    skipWS (k7 ++ rest) = (101 :: ([110, 100, 111, 98, 106] ++ rest), false) := by
  rw [k7_append, skipWS_lf]
  exact skipWS_tok 101 _ (by simp [tokStart])

theorem drop_sub_suffix {r file : Bytes} (h : r <:+ file) : file.drop (file.length - r.length) = r :=
  (List.suffix_iff_eq_drop.mp h).symm

theorem readObjectTop_of_readObject (file : Bytes) (p : Nat) (getInt : Obj → Except Err Int) (v : Obj) (k : Bytes)
    (h : readObject (objFuel (file.drop p)) 0 (file.drop p) = .ok (v, k)) (limit : Option Nat := none) :
    readObjectTop file p getInt false limit = .ok (.obj v, file.length - k.length) := by
  unfold readObjectTop
  generalize file.drop p = inp at h
  simp only []
  split
  · rename_i t
    -- the dictionary branch of `readObject`; one more unit of fuel does not change the dictionary read
    have hf : objFuel (60 :: 60 :: t) = (3 * (60 :: 60 :: t).length + 7) + 1 := by simp [objFuel]
    rw [hf, readObject_dict] at h
    cases hd : readDict (3 * (60 :: 60 :: t).length + 7) 0 (60 :: 60 :: t) with
    | error e => rw [hd] at h; cases h
    | ok pr =>
      obtain ⟨d, r⟩ := pr
      rw [hd] at h
      rw [hf, readDict_mono hd]
      dsimp only at h ⊢
      split at h
      · cases h
      · rename_i hns
        cases h
        simp [hns]
  · simp only [Bool.false_eq_true, if_false]; rw [h]
  · rw [h]

/-- the text of one object as `Writer.Put` emits it, without the final line feed:
    `N G obj\n`, the formatted object, `\nendobj` -/
def objText (num gen : Nat) (body : Bytes) : Bytes := FIO.objHeader num gen ++ body ++ k7

/-- A completely written object reads back, whatever surrounds it: for every good object (C01's limits; not a bare
reference), every reference in range, every formatting mode, every `pre`, `rest` (also the empty rest of a file cut
right behind `endobj`) and `getInt`, `ReadIndirectObject` at the offset of the object returns it (up to the normal
form `nrm`), with its reference, and stops behind `endobj`. -/
theorem his_indirect_obj_rt (opt : FmtOpt) (o : Obj) (hg : good o = true) (hd : depthOk o) (hr : isRefObj o = false)
    (num gen : Nat) (hnum : num < Gen.his_xref_maxXRefSize) (hgen : gen ≤ Gen.his_xref_maxGeneration) :
    ∃ body, format opt [o] = some body ∧ nrm (rd o.canon) = nrm o ∧
      ∀ (pre rest : Bytes) (getInt : Obj → Except Err Int) (limit : Option Nat),
      readIndirect (pre ++ (objText num gen body ++ rest)) pre.length getInt false limit
        = .ok { val := .obj (rd o.canon), num := num, gen := gen, endPos := pre.length + (objText num gen body).length } := by
  obtain ⟨⟨bs, ns'⟩, hf⟩ := fmtObj_some opt o.canon (good_canon o hg) false
  have hfmt := (format_single opt o bs).mpr ⟨ns', hf⟩
  obtain ⟨c, t, htok, hstart⟩ := C02fiod.format_head opt o hg bs hfmt
  refine ⟨bs, hfmt, nrm_rd_canon o hg, ?_⟩
  intro pre rest getInt limit
  obtain ⟨k', h1, h2⟩ := C02fiod.format_reads opt o hg hd hr bs (k7 ++ rest) hfmt
    (.inr ⟨101, [110, 100, 111, 98, 106] ++ rest, rfl, by simp [tokStart]⟩)
  -- the file, and the rests the reader continues with, each a suffix of the file (for `drop_sub_suffix`)
  let tl := 101 :: ([110, 100, 111, 98, 106] ++ rest)
  let file := pre ++ (FIO.objHeader num gen ++ (bs ++ (k7 ++ rest)))
  have hfile : pre ++ (objText num gen bs ++ rest) = file := by simp only [file, objText, List.append_assoc]
  have sk7 : k7 ++ rest <:+ file :=
    (List.suffix_append bs _).trans ((List.suffix_append _ _).trans (List.suffix_append _ _))
  have sbs : bs ++ (k7 ++ rest) <:+ file := (List.suffix_append _ _).trans (List.suffix_append _ _)
  have hk' : skipWS k' = (tl, false) ∧ k' <:+ file := by
    rcases h2 with h | h
    · rw [h]; exact ⟨skipWS_k7 rest, sk7⟩
    · rw [h, skipWS_k7]; exact ⟨skipWS_tok 101 _ (by simp [tokStart]), (List.suffix_cons 10 tl).trans sk7⟩
  have htop := readObjectTop_of_readObject file (file.length - (bs ++ (k7 ++ rest)).length) getInt (rd o.canon) k'
    (by rw [drop_sub_suffix sbs]; exact h1) limit
  -- the header: two integers, `obj`, the line feed in front of the object
  have hc : skipWS (bs ++ (k7 ++ rest)) = (bs ++ (k7 ++ rest), false) := by
    rw [htok]; exact skipWS_tok c _ hstart
  obtain ⟨e1, e2, e3, e4⟩ := C02fiod.objHeader_reads num gen (by simp [Gen.his_xref_maxXRefSize] at hnum; omega)
    (by simp [Gen.his_xref_maxGeneration] at hgen; omega) _ hc
  have hend : startsWith tl kwEndobj = true := by
    simp [tl, startsWith, kwEndobj, isPrefixOf]
  have hpos : file.length - tl.length + 6 = pre.length + (objText num gen bs).length := by
    simp only [file, tl, objText, k7, List.length_append, List.length_cons, List.length_nil]; omega
  have hN := (congrArg readInt (List.drop_left (l₁ := pre))).trans ((C04hisf.readInt_eq _).trans e1)
  have hG := (C04hisf.readInt_eq _).trans e2
  have hobj : startsWith (111 :: 98 :: 106 :: 10 :: (bs ++ (k7 ++ rest))) kwObj = true := by
    simp [startsWith, kwObj, isPrefixOf]
  have hbehind : skipWS (file.drop (file.length - k'.length)) = (tl, false) := by rw [drop_sub_suffix hk'.2]; exact hk'.1
  rw [hfile, readIndirect_ok hN hG e3 hobj e4 ⟨by omega, by omega⟩ ⟨by omega, by omega⟩ htop hbehind hend, hpos]
  rfl

/-- `findLimit` (1430e5c): a recovered extent under the limit `l` (the start of the next located
    object) is the extent found without a limit, and its EOL+`endstream` begins in front of `l`;
    a first EOL+`endstream` at or behind `l` is an error (the object becomes Broken instead of
    swallowing its successor) -/
theorem recoverExtent_limit (file : Bytes) (start l : Nat) :
    (∀ ext, recoverExtent file start (some l) = .ok ext →
        recoverExtent file start none = .ok ext ∧ ext.after < l + 10) ∧
    (∀ ext, recoverExtent file start none = .ok ext → ext.after ≥ l + 10 →
        recoverExtent file start (some l) = .error .malformed) := by
  unfold recoverExtent
  cases findEolEndstream (file.drop start) with
  | none => exact ⟨fun ext h => (by cases h), fun ext h => (by cases h)⟩
  | some i =>
    simp only [Bool.false_eq_true, if_false, decide_eq_true_eq]
    by_cases hl : start + i ≥ l
    · simp only [hl, if_true]
      exact ⟨fun ext h => (by cases h), fun ext _ _ => trivial⟩
    · simp only [hl, if_false]
      refine ⟨fun ext h => ⟨h, ?_⟩, fun ext h hge => ?_⟩
      · cases h; simp only []; omega
      · cases h; simp only [] at hge; omega

/-- a successful `ReadIndirectObject` at `pos` has seen the keyword `endobj` at or behind `pos`: the second half of
`C20hisb.readIndirect_spec`, for any `limit` -/
theorem ok_implies_endobj_after (file : Bytes) (pos : Nat) (getInt : Obj → Except Err Int) (scalarOnly : Bool)
    (ind : Indirect) (limit : Option Nat := none) (h : readIndirect file pos getInt scalarOnly limit = .ok ind) :
    ∃ q, isPrefixOf kwEndobj ((file.drop pos).drop q) = true :=
  (readIndirect_spec file pos getInt scalarOnly limit).2 ind h

/-- `checkObjects` on a completely written object: not Broken, with the end offset of `endobj` (what `FileInfo.Read`
returns is `his_indirect_obj_rt`'s value). -/
theorem complete_object_checked (file : Bytes) (secs : List HIS.Section) (fo : FileObject) (r : Obj) (e : Nat)
    (h : ∀ getInt limit, readIndirect file fo.start getInt false limit
        = .ok { val := .obj r, num := fo.num, gen := fo.gen, endPos := e }) :
    ∃ c, checkObject file secs fo = .ok c ∧ c.broken = false ∧ c.start = fo.start ∧ c.endPos = e
      ∧ c.num = fo.num ∧ c.gen = fo.gen := by
  unfold checkObject
  simp only [h]
  exact ⟨_, rfl, rfl, rfl, rfl, rfl, rfl⟩

/-- The object containing the cut is Broken (if its header is listed at all): when the bytes from its offset to the
end of the data do not contain `endobj`. -/
theorem cut_object_broken (file : Bytes) (secs : List HIS.Section) (fo : FileObject)
    (hx : NoEndobj (file.drop fo.start)) :
    ∃ c, checkObject file secs fo = .ok c ∧ c.broken = true := by
  obtain ⟨e, he, hcls⟩ := readIndirect_noEndobj file fo.start (fun o => (safeGetInt file secs 12 [] o).2)
    (fun o => safeGetInt_typed file secs 12 [] o) false (nextStart secs fo.start) hx
  unfold checkObject
  simp only [he]
  rcases hcls with rfl | rfl <;> exact ⟨_, rfl, rfl⟩

/-! ## what a scan lists (`Listed`), and the text of a writer-shaped input -/

def allObjs (s : LocState) : List FileObject := s.done.flatMap (·.objects) ++ s.cur.objects

/-- an unused current section holds no object: the states for which a step of the scan keeps membership in `allObjs` -/
def WF (s : LocState) : Prop := s.used = false → s.cur.objects = []

/-- `fo` is in the listing `locateObjects` would return if the scan ended in state `s`.  Every step of the scan keeps
    that, whatever the state (`allObjs` also counts the objects of a current section that is not in use, which
    `finish` drops: membership in it is kept only by states with `WF`). -/
def Listed (s : LocState) (fo : FileObject) : Prop := fo ∈ s.finish.done.flatMap (·.objects)

theorem listed_iff {s : LocState} {fo : FileObject} :
    Listed s fo ↔ fo ∈ s.done.flatMap (·.objects) ∨ (s.used = true ∧ fo ∈ s.cur.objects) := by
  unfold Listed LocState.finish
  cases s.used <;> simp [or_comm]

theorem Listed.mem_allObjs {s : LocState} {fo : FileObject} (h : Listed s fo) : fo ∈ allObjs s :=
  List.mem_append.mpr ((listed_iff.mp h).imp_right (·.2))

theorem listed_locStep (s : LocState) (pos : Nat) (m : Marker) (fo : FileObject) (h : Listed s fo) :
    Listed (locStep s pos m) fo := by
  refine locStep_ind (Listed · fo) pos (fun _ ht => ht) ?_ ?_ ?_ ?_ ?_ s m h
  · intro t n g ht
    rw [listed_iff] at ht ⊢
    exact ht.imp_right fun h => ⟨rfl, List.mem_cons_of_mem _ h.2⟩
  · exact fun t ht => listed_iff.mpr ((listed_iff.mp ht).imp_right fun h => ⟨rfl, h.2⟩)
  · exact fun t ht => listed_iff.mpr ((listed_iff.mp ht).imp_right fun h => ⟨rfl, h.2⟩)
  · exact fun t ht => listed_iff.mpr ((listed_iff.mp ht).imp_right fun h => ⟨rfl, h.2⟩)
  · exact fun t ht => listed_iff.mpr ((listed_iff (s := t)).mp ht)

theorem listed_locStep_obj (s : LocState) (pos : Nat) (n g : Bytes)
    (hn : digitsVal n 0 < Gen.his_xref_maxXRefSize) (hg : digitsVal g 0 < 65536) :
    Listed (locStep s pos (.obj n g)) { num := digitsVal n 0, gen := digitsVal g 0, start := pos } :=
  listed_iff.mpr (.inr ⟨(locStep_records s pos n g hn hg).2, List.mem_of_mem_head? (locStep_records s pos n g hn hg).1⟩)

/-- `N G obj` as the writer prints it -/
def hdr7 (num gen : Nat) : Bytes := headerBytes (FIO.decOf num) [32] (FIO.decOf gen) [32]

/-- the writer's header `N G obj`: its parts, its length (with the line feed in front at most 18 of the 64
    bytes of `regexpOverlap`) and the values of its digit strings -/
theorem hdr7_parts (n g : Nat) (hn : n < Gen.his_xref_maxXRefSize) (hg : g < 65536) :
    HeaderParts (FIO.decOf n) [32] (FIO.decOf g) [32] ∧ 1 + (hdr7 n g).length ≤ Gen.his_scanner_regexpOverlap ∧
      digitsVal (FIO.decOf n) 0 = n ∧ digitsVal (FIO.decOf g) 0 = g := by
  obtain ⟨hn1, hn2, hn3, hn4⟩ := C02fioc.decOf_spec n 8 (by simp [Gen.his_xref_maxXRefSize] at hn; omega) (by omega)
  obtain ⟨hg1, hg2, hg3, hg4⟩ := C02fioc.decOf_spec g 5 (by omega) (by omega)
  refine ⟨⟨hn3, by simp, hg3, by simp, fun x hx => by simpa using (List.all_eq_true.mp hn1) x hx,
    fun x hx => by simpa using (List.all_eq_true.mp hg1) x hx, by simp [isMarkerWS], by simp [isMarkerWS]⟩, ?_, hn2, hg2⟩
  simp only [hdr7, headerBytes_length, List.length_cons, List.length_nil, Gen.his_scanner_regexpOverlap]
  omega

theorem listed_locStep_hdr7 (s : LocState) (pos n g : Nat) (hn : n < Gen.his_xref_maxXRefSize) (hg : g < 65536) :
    Listed (locStep s pos (.obj (FIO.decOf n) (FIO.decOf g))) { num := n, gen := g, start := pos } := by
  obtain ⟨_, _, hvn, hvg⟩ := hdr7_parts n g hn hg
  have := listed_locStep_obj s pos (FIO.decOf n) (FIO.decOf g) (by rw [hvn]; exact hn) (by rw [hvg]; exact hg)
  rwa [hvn, hvg] at this

/-- the objects as the writer emits them, each preceded by the line feed that ends the previous
    line: `\n N G obj \n body \nendobj` -/
def objsText : List (Nat × Nat × Bytes) → Bytes
  | [] => []
  | (n, g, b) :: os => 10 :: (hdr7 n g ++ (10 :: (b ++ k7))) ++ objsText os

/-- the headers one expects to be located, given the offset of the first line feed -/
def expected : Nat → List (Nat × Nat × Bytes) → List FileObject
  | _, [] => []
  | off, (n, g, b) :: os =>
    { num := n, gen := g, start := off + 1 } :: expected (off + 1 + (hdr7 n g).length + 1 + b.length + 7) os

theorem objText_eq (num gen : Nat) (body : Bytes) :
    objText num gen body = hdr7 num gen ++ (10 :: (body ++ k7)) := by
  simp [objText, hdr7, headerBytes, FIO.objHeader, FIO.kObj, kwObj, List.append_assoc]

/-- every expected header sits behind a line feed and in front of the complete text of its object; the line
    feed is the first byte behind `x`, or the byte in front of it is the `j` of an `endobj` -/
theorem expected_decomp : ∀ (os : List (Nat × Nat × Bytes)) (x rest : Bytes) (fo : FileObject),
    fo ∈ expected x.length os →
    ∃ n g b pre' rest', (n, g, b) ∈ os ∧ fo = { num := n, gen := g, start := pre'.length + 1 } ∧
      x ++ (objsText os ++ rest) = pre' ++ 10 :: (objText n g b ++ rest') ∧ (pre' = x ∨ ∃ y, pre' = x ++ (y ++ [106])) := by
  intro os
  induction os with
  | nil => intro x rest fo h; simp [expected] at h
  | cons o os ih =>
    intro x rest fo h
    obtain ⟨n, g, b⟩ := o
    simp only [expected, List.mem_cons] at h
    rcases h with rfl | h
    · exact ⟨n, g, b, x, objsText os ++ rest, by simp, rfl, by simp [objsText, objText_eq, List.append_assoc], .inl rfl⟩
    · have hx : x.length + 1 + (hdr7 n g).length + 1 + b.length + 7 = (x ++ (10 :: (hdr7 n g ++ (10 :: (b ++ k7))))).length := by
        simp [k7]; omega
      rw [hx] at h
      obtain ⟨n', g', b', pre', rest', hm, hfo, hfile, hpre⟩ := ih _ rest fo h
      refine ⟨n', g', b', pre', rest', by simp [hm], hfo, ?_, .inr ?_⟩
      · rw [← hfile]; simp [objsText, List.append_assoc]
      · rcases hpre with rfl | ⟨y, rfl⟩
        · exact ⟨10 :: (hdr7 n g ++ 10 :: (b ++ [10, 101, 110, 100, 111, 98])), by simp [k7]⟩
        · exact ⟨10 :: (hdr7 n g ++ 10 :: (b ++ k7)) ++ y, by simp⟩

/-- every cut of `objects ++ tail` consists of some of the objects, complete, and a remainder
    that is shorter than the next object -/
theorem cut_shape : ∀ (os : List (Nat × Nat × Bytes)) (tail : Bytes) (t : Nat),
    ∃ k rest, (objsText os ++ tail).take t = objsText (os.take k) ++ rest ∧
      (∀ o os', os.drop k = o :: os' → rest.length < (objsText [o]).length) := by
  intro os
  induction os with
  | nil => intro tail t; exact ⟨0, tail.take t, by simp [objsText], by intro o os' h; simp at h⟩
  | cons o os ih =>
    intro tail t
    by_cases ht : t < (objsText [o]).length
    · refine ⟨0, (objsText (o :: os) ++ tail).take t, by simp [objsText], ?_⟩
      intro o' os' h
      simp only [List.drop_zero, List.cons.injEq] at h
      obtain ⟨rfl, _⟩ := h
      simp only [List.length_take]; omega
    · obtain ⟨k, rest, h1, h2⟩ := ih tail (t - (objsText [o]).length)
      refine ⟨k + 1, rest, ?_, ?_⟩
      · have hsplit : objsText (o :: os) ++ tail = objsText [o] ++ (objsText os ++ tail) := by
          obtain ⟨n, g, b⟩ := o; simp [objsText, List.append_assoc]
        have hsplit2 : objsText ((o :: os).take (k + 1)) = objsText [o] ++ objsText (os.take k) := by
          obtain ⟨n, g, b⟩ := o; simp [objsText, List.append_assoc]
        rw [hsplit, hsplit2, List.take_append, List.take_of_length_le (by omega), h1, List.append_assoc]
      · intro o' os' h; exact h2 o' os' (by simpa using h)

/-! ## the un-windowed scan

`flatLoop` is `HIS.locLoop` over an un-windowed `Find`: the leftmost match in the whole rest of the input, `^`
only where a search starts, every match recorded (no `lineInitial` test).  With `Quiet` regions between the
headers it finds exactly the headers, one per iteration: `flat_lists`, and the first two conjuncts of
`scan_recovers_flat_partial`, say what the scan does on the matcher's semantics alone.  For the real loop see
the next section, which needs no quietness and says only that the objects are listed. -/

/-- `locateObjects`' loop over an un-windowed `Find`: the leftmost match in the rest of the
    input, with `^` at the position where the search starts -/
def flatLoop (file : Bytes) : Nat → Nat → LocState → LocState
  | 0, _, s => s
  | f+1, p, s =>
    match matchMarker (file.drop p) with
    | none => s
    | some m => flatLoop file f (p + m.b) (locStep s (p + m.a + m.tag.1) m.tag.2)

theorem flatLoop_listed (file : Bytes) (fo : FileObject) : ∀ (f p : Nat) (s : LocState), Listed s fo →
    Listed (flatLoop file f p s) fo := by
  intro f p s
  fun_induction flatLoop file f p s
  case case1 => exact id
  case case2 => exact id
  case case3 ih => exact fun h => ih (listed_locStep _ _ _ fo h)

/-- first bytes of the five markers: a digit, `x`, `t`, `s`, `%` -/
def starter (c : Nat) : Bool := isDigit c || c == 120 || c == 116 || c == 115 || c == 37

theorem body_none_nil : matchMarkerBody [] = none := by
  simp [matchMarkerBody, spanP, isPrefixOf, kwObj, kwXref, kwTrailer, kwStartxref, kwEOF]

theorem body_none (c : Nat) (t : Bytes) (h : starter c = false) : matchMarkerBody (c :: t) = none := by
  simp only [starter, Bool.or_eq_false_iff, beq_eq_false_iff_ne] at h
  obtain ⟨⟨⟨⟨h1, h2⟩, h3⟩, h4⟩, h5⟩ := h
  simp [matchMarkerBody, spanP, h1, isPrefixOf, kwXref, kwTrailer, kwStartxref, kwEOF,
    Ne.symm h2, Ne.symm h3, Ne.symm h4, Ne.symm h5]

/-- semantic quietness: wherever the search starts in `q` and whatever follows `q`, no match
    starts inside `q` (`atStart` refers to the first byte of `q`) -/
def Quiet (q : Bytes) : Prop :=
  ∀ (y : Bytes) (j : Nat), j < q.length → matchMarkerAt (j == 0) ((q ++ y).drop j) = none

/-- syntactic criterion: every byte that follows an EOL byte is not a marker start, and the
    last byte is not an EOL byte -/
def lineQuiet : Bytes → Bool
  | [] => true
  | [c] => !isEolByte c
  | c :: d :: t => (!isEolByte c || !starter d) && lineQuiet (d :: t)

theorem groupText_starter {c : Nat} {r : Bytes} {mk : Marker} (h : GroupText (c :: r) mk) : starter c = true := by
  rcases h with ⟨n, w1, g, w2, _, hx, hp⟩ | hk
  · obtain ⟨d, nt, rfl⟩ := List.exists_cons_of_ne_nil hp.hn
    rw [headerBytes_cons] at hx
    simp [starter, (List.cons.inj hx).1, hp.hnd d (by simp)]
  · simp only [kwMarkers, kwXref, kwTrailer, kwStartxref, kwEOF, List.mem_cons, Prod.mk.injEq, List.cons.injEq,
      List.not_mem_nil, or_false] at hk
    rcases hk with h | h | h | h <;> rw [h.1.1] <;> rfl

theorem lineQuiet_spec : ∀ (q : Bytes), lineQuiet q = true → ∀ i c, q[i]? = some c → isEolByte c = true →
    ∃ d, q[i + 1]? = some d ∧ starter d = false
  | [], _, i, c, hc, _ => by simp at hc
  | [c0], h, i, c, hc, he => by
    cases i with
    | zero => simp only [List.getElem?_cons_zero, Option.some.injEq] at hc; subst hc; simp [lineQuiet, he] at h
    | succ i => simp at hc
  | c0 :: d :: t, h, i, c, hc, he => by
    simp only [lineQuiet, Bool.and_eq_true, Bool.or_eq_true, Bool.not_eq_true'] at h
    cases i with
    | zero =>
      simp only [List.getElem?_cons_zero, Option.some.injEq] at hc
      subst hc
      rcases h.1 with h1 | h1
      · rw [he] at h1; cases h1
      · exact ⟨d, rfl, h1⟩
    | succ i => exact lineQuiet_spec (d :: t) h.2 i c (by simpa using hc) he

theorem lineQuiet_lead (q y : Bytes) (hq : lineQuiet q = true) (j : Nat) (hj : j < q.length)
    (b : Bool) (len lead : Nat) (mk : Marker) (h : matchMarkerAt b ((q ++ y).drop j) = some (len, lead, mk)) :
    lead = 0 ∧ ∃ c, q[j]? = some c ∧ starter c = true := by
  obtain ⟨hh, _⟩ := at_hit h
  obtain ⟨x, hx, _, s, hs⟩ := hh.group
  have heol := hh.eol
  simp only [Nat.zero_add] at hs heol
  have hget : ∀ i c, ((q ++ y).drop j)[i]? = some c → j + i < q.length → q[j + i]? = some c := by
    intro i c hc hi
    rw [List.getElem?_drop, List.getElem?_append_left hi] at hc
    exact hc
  obtain ⟨c, r, rfl⟩ := List.exists_cons_of_ne_nil hx.ne_nil
  have hst := groupText_starter hx
  have hstart : ((q ++ y).drop j)[lead]? = some c := by
    have : (((q ++ y).drop j).drop lead)[0]? = some c := by rw [← hs]; rfl
    rwa [List.getElem?_drop, Nat.add_zero] at this
  -- the line-start bytes are end-of-line bytes of `q`, each followed by a byte of `q`
  have hin : ∀ i, i ≤ lead → j + i < q.length := by
    intro i
    induction i with
    | zero => intro _; exact hj
    | succ i ih =>
      intro hi
      obtain ⟨e, he, hee⟩ := heol i (by omega)
      obtain ⟨d, hd, _⟩ := lineQuiet_spec q hq (j + i) e (hget i e he (ih (by omega))) hee
      exact (List.getElem?_eq_some_iff.mp hd).1
  by_cases hl : lead = 0
  · subst hl
    exact ⟨rfl, c, hget 0 c hstart hj, hst⟩
  · -- the byte behind the last of them is no marker start, but the group matches there
    exfalso
    obtain ⟨e, he, hee⟩ := heol (lead - 1) (by omega)
    obtain ⟨d, hd, hds⟩ := lineQuiet_spec q hq (j + (lead - 1)) e (hget _ e he (hin _ (by omega))) hee
    have hc := hget lead c hstart (hin lead (Nat.le_refl _))
    rw [show j + (lead - 1) + 1 = j + lead by omega, hc] at hd
    cases hd
    rw [hst] at hds
    cases hds

theorem lineQuiet_inner (q y : Bytes) (hq : lineQuiet q = true) (j : Nat) (hj : j + 1 < q.length) :
    matchMarkerAt (j + 1 == 0) ((q ++ y).drop (j + 1)) = none := by
  cases h : matchMarkerAt (j + 1 == 0) ((q ++ y).drop (j + 1)) with
  | none => rfl
  | some r =>
    obtain ⟨len, lead, mk⟩ := r
    have hb := (at_hit h).2 (lineQuiet_lead q y hq (j + 1) hj _ _ _ _ h).1
    simp at hb

/-- the syntactic criterion implies quietness (the first byte must not be a marker start
    either, because `^` matches where the search starts) -/
theorem quiet_of_lineQuiet (q : Bytes) (hq : lineQuiet q = true)
    (hhead : ∀ c t, q = c :: t → starter c = false) : Quiet q := by
  intro y j hj
  cases j with
  | succ j => exact lineQuiet_inner q y hq j hj
  | zero =>
    cases h : matchMarkerAt (0 == 0) ((q ++ y).drop 0) with
    | none => rfl
    | some r =>
      obtain ⟨len, lead, mk⟩ := r
      obtain ⟨_, c, hc, hst⟩ := lineQuiet_lead q y hq 0 hj _ _ _ _ h
      cases q with
      | nil => simp at hj
      | cons c0 t =>
        simp only [List.getElem?_cons_zero, Option.some.injEq] at hc
        rw [← hc, hhead c0 t rfl] at hst
        cases hst

/-- a quiet region does not end in an end-of-line byte: a header could follow it -/
theorem quiet_last (q' : Bytes) (c : Nat) (hq : Quiet (q' ++ [c])) : isEolByte c = false := by
  cases he : isEolByte c with
  | false => rfl
  | true =>
    have hc : [c] = [10] ∨ [c] = [13] ∨ [c] = [13, 10] := by
      rcases (isEolByte_iff c).mp he with rfl | rfl <;> simp
    have hrec := header_parts_recognised (hdr7_parts 0 0 (by decide) (by decide)).1 [c] [] hc rfl (q'.length == 0)
    have := hq (hdr7 0 0 ++ []) q'.length (by simp)
    rw [List.append_assoc, List.drop_left, hdr7, hrec] at this
    cases this

/-- reference in range (`locStep` parses the generation with `ParseUint(…, 10, 16)`, hence `65536`), and no marker can start
    between `obj` and the end of `endobj` -/
def ObjOK (o : Nat × Nat × Bytes) : Prop :=
  o.1 < Gen.his_xref_maxXRefSize ∧ o.2.1 < 65536 ∧ Quiet (10 :: (o.2.2 ++ k7))

theorem matchMarker_hdr7 (q tail : Bytes) (num gen : Nat) (hq : Quiet q)
    (hnum : num < Gen.his_xref_maxXRefSize) (hgen : gen < 65536) :
    matchMarker (q ++ 10 :: (hdr7 num gen ++ 10 :: tail))
      = some { a := q.length, b := q.length + (1 + (hdr7 num gen).length),
               tag := (1, .obj (FIO.decOf num) (FIO.decOf gen)) } := by
  obtain ⟨hp, _⟩ := hdr7_parts num gen hnum hgen
  have hrec := header_parts_recognised hp [10] (10 :: tail) (.inl rfl) (by simp [wordEnd, isWordByte, isDigit])
    (q.length == 0)
  have hlen : [10].length + ((FIO.decOf num).length + [32].length + (FIO.decOf gen).length + [32].length + 3)
      = 1 + (hdr7 num gen).length := by
    simp only [hdr7, headerBytes_length, List.length_cons, List.length_nil]
  rw [hlen] at hrec
  exact matchMarker_found q 10 _ _ _ _ (fun j hj => hq _ j hj) hrec

theorem flatLoop_step (pre q : Bytes) (num gen : Nat) (tail : Bytes) (hq : Quiet q)
    (hnum : num < Gen.his_xref_maxXRefSize) (hgen : gen < 65536) (f : Nat) (s : LocState) :
    flatLoop (pre ++ (q ++ (10 :: (hdr7 num gen ++ (10 :: tail))))) (f + 1) pre.length s
      = flatLoop (pre ++ (q ++ (10 :: (hdr7 num gen ++ (10 :: tail))))) f
          (pre.length + (q.length + (1 + (hdr7 num gen).length)))
          (locStep s (pre.length + q.length + 1) (.obj (FIO.decOf num) (FIO.decOf gen))) := by
  rw [flatLoop, List.drop_left, matchMarker_hdr7 q tail num gen hq hnum hgen]

/-- the file around the first of the objects, as `flatLoop_step` and the induction step see it -/
theorem file_cons (pre q rest : Bytes) (n g : Nat) (b : Bytes) (os : List (Nat × Nat × Bytes)) :
    pre ++ (q ++ (objsText ((n, g, b) :: os) ++ rest))
        = pre ++ (q ++ (10 :: (hdr7 n g ++ (10 :: (b ++ k7 ++ (objsText os ++ rest)))))) ∧
    pre ++ (q ++ (objsText ((n, g, b) :: os) ++ rest))
        = (pre ++ q ++ 10 :: hdr7 n g) ++ ((10 :: (b ++ k7)) ++ (objsText os ++ rest)) ∧
    (pre ++ q ++ 10 :: hdr7 n g).length = pre.length + (q.length + (1 + (hdr7 n g).length)) ∧
    (pre ++ q ++ 10 :: hdr7 n g).length + (10 :: (b ++ k7)).length
        = pre.length + q.length + 1 + (hdr7 n g).length + 1 + b.length + 7 := by
  refine ⟨by simp [objsText, List.append_assoc], by simp [objsText, List.append_assoc], ?_, ?_⟩ <;>
    simp only [List.length_append, List.length_cons, k7, List.length_nil] <;> omega

theorem flat_listed : ∀ (os : List (Nat × Nat × Bytes)) (pre q rest : Bytes) (f : Nat) (s : LocState),
    Quiet q → (∀ o ∈ os, ObjOK o) → os.length ≤ f →
    ∀ fo ∈ expected (pre.length + q.length) os,
      Listed (flatLoop (pre ++ (q ++ (objsText os ++ rest))) f pre.length s) fo := by
  intro os
  induction os with
  | nil => intro pre q rest f s _ _ _ fo hfo; cases hfo
  | cons o os ih =>
    intro pre q rest f s hq hok hf fo hfo
    obtain ⟨n, g, b⟩ := o
    obtain ⟨hn, hg, hqb⟩ := hok (n, g, b) (by simp)
    obtain ⟨f, rfl⟩ : ∃ f', f = f' + 1 := ⟨f - 1, by simp at hf; omega⟩
    obtain ⟨hfile, hfile2, hlen, hoff⟩ := file_cons pre q rest n g b os
    rw [hfile, flatLoop_step pre q n g _ hq hn hg f s]
    rcases List.mem_cons.mp hfo with rfl | hfo
    · exact flatLoop_listed _ _ _ _ _ (listed_locStep_hdr7 s _ n g hn hg)
    · -- the same situation behind this header
      rw [← hfile, hfile2, ← hlen]
      exact ih _ (10 :: (b ++ k7)) rest f _ hqb (fun o ho => hok o (by simp [ho])) (by simp at hf; omega)
        fo (by rw [hoff]; exact hfo)

theorem flat_lists : ∀ (os : List (Nat × Nat × Bytes)) (pre q rest : Bytes) (f : Nat) (s : LocState),
    Quiet q → WF s → (∀ o ∈ os, ObjOK o) → os.length ≤ f →
    ∀ fo ∈ expected (pre.length + q.length) os,
      fo ∈ allObjs (flatLoop (pre ++ (q ++ (objsText os ++ rest))) f pre.length s) :=
  fun os pre q rest f s hq _ hok hf fo hfo => (flat_listed os pre q rest f s hq hok hf fo hfo).mem_allObjs

/-- `scan_recovers` of DESIGN §5 C20, over the un-windowed matcher.  Let the data be `pre ++ q ++ objects ++ rest`
where the scan stands at `|pre|`, no marker can start in `q` nor between an object's `obj` and
the end of its `endobj` (`Quiet`), every object is `LF N G obj LF body LF endobj` with the
reference in range, and `rest` is ARBITRARY (what a cut at any offset leaves: `cut_shape`).
Then, for every one of the objects:
1. the scan loop lists it at its offset (and therefore the scan does not end with "no PDF content");
2. if its body is the formatted text of a good object `o`, `checkObjects` records it unbroken with
   its end offset, and reading it (`FileInfo.Read`) gives `o` (up to `nrm`);
and 3. any listed header whose remaining bytes do not contain `endobj` (the object containing the
cut) is recorded as Broken.  `checkObjects` never aborts (`checkObject_total`). -/
theorem scan_recovers_flat_partial (opt : FmtOpt) (pre q rest : Bytes)
    (hq : Quiet q) (s : LocState) (hw : WF s) (f : Nat)
    (os : List (Nat × Nat × Bytes)) (hok : ∀ o ∈ os, ObjOK o) (hf : os.length ≤ f) (secs : List HIS.Section) :
    let file := pre ++ (q ++ (objsText os ++ rest))
    let sfin := flatLoop file f pre.length s
    (∀ fo ∈ expected (pre.length + q.length) os, fo ∈ allObjs sfin) ∧
    (os ≠ [] → sfin.finish.done ≠ []) ∧
    (∀ fo ∈ expected (pre.length + q.length) os, ∃ n g b, (n, g, b) ∈ os ∧ fo.num = n ∧ fo.gen = g ∧
      ∀ o, good o = true → depthOk o → isRefObj o = false → format opt [o] = some b →
        g ≤ Gen.his_xref_maxGeneration →
        nrm (rd o.canon) = nrm o ∧
        (∀ getInt, readIndirect file fo.start getInt false
          = .ok { val := .obj (rd o.canon), num := n, gen := g, endPos := fo.start + (objText n g b).length }) ∧
        ∃ c, checkObject file secs fo = .ok c ∧ c.broken = false ∧ c.start = fo.start ∧
          c.endPos = fo.start + (objText n g b).length) ∧
    (∀ fo, NoEndobj (file.drop fo.start) → ∃ c, checkObject file secs fo = .ok c ∧ c.broken = true) := by
  intro file sfin
  refine ⟨flat_lists os pre q rest f s hq hw hok hf, ?_, ?_, fun fo hx => cut_object_broken file secs fo hx⟩
  · intro hne
    cases os with
    | nil => exact absurd rfl hne
    | cons o os' =>
      obtain ⟨n, g, b⟩ := o
      have hmem : Listed sfin _ := flat_listed _ pre q rest f s hq hok hf ⟨n, g, pre.length + q.length + 1⟩ (by simp [expected])
      intro hnil
      rw [Listed, hnil] at hmem
      cases hmem
  · intro fo hfo
    have hlen : pre.length + q.length = (pre ++ q).length := by simp
    rw [hlen] at hfo
    obtain ⟨n, g, b, pre', rest', hm, hfoeq, hfile⟩ : ∃ n g b pre' rest', (n, g, b) ∈ os ∧
        fo = { num := n, gen := g, start := pre'.length } ∧
        pre ++ q ++ (objsText os ++ rest) = pre' ++ (objText n g b ++ rest') := by
      obtain ⟨n, g, b, pre', rest', hm, hfoeq, hfile, _⟩ := expected_decomp os (pre ++ q) rest fo hfo
      exact ⟨n, g, b, pre' ++ [10], rest', hm, by simp [hfoeq], by simp [hfile]⟩
    refine ⟨n, g, b, hm, by rw [hfoeq], by rw [hfoeq], ?_⟩
    intro o hg hd hr hfmt hgen
    obtain ⟨hn, _, _⟩ := hok (n, g, b) hm
    obtain ⟨body, hf', hnrm, hread⟩ := his_indirect_obj_rt opt o hg hd hr n g hn hgen
    have hb : body = b := by rw [hfmt] at hf'; cases hf'; rfl
    subst hb
    have hfile' : file = pre' ++ (objText n g body ++ rest') := by
      simp only [file]; rw [← hfile]; simp [List.append_assoc]
    have hstart : fo.start = pre'.length := by rw [hfoeq]
    have hr2 : ∀ getInt limit, readIndirect file fo.start getInt false limit
        = .ok { val := .obj (rd o.canon), num := fo.num, gen := fo.gen, endPos := fo.start + (objText n g body).length } := by
      intro gi lim; rw [hfile', hstart, hfoeq]; exact hread pre' rest' gi lim
    refine ⟨hnrm, ?_, ?_⟩
    · intro gi; have := hr2 gi none; rw [hfoeq] at this ⊢; exact this
    · obtain ⟨c, hc, h2, h3, h4, _, _⟩ := complete_object_checked file secs fo (rd o.canon) _ hr2
      exact ⟨c, hc, h2, h3, h4⟩

/-! ## the windowed scan `HIS.locLoop`: every header is recorded, whatever the number of windows -/

/-- from the scan loop to the listing: what the loop, started in the window behind the `%PDF-x.y`
    match, records in its final state is listed by `locateObjects` -/
theorem locateObjects_lists (file : Bytes) (loc : Located) (hloc : locateObjects file = .ok loc)
    (w0 : Win) (p0 l0 : Nat) (v0 : Bytes)
    (hfirst : find file matchStart (file.length + 8) { base := 0, pos := 0, used := 0 } = .ok (w0, p0, l0, v0))
    (fo : FileObject)
    (h : ∀ s w, locLoop file (file.length + 2) w0 { done := [], cur := {}, used := false, inTrailer := false } = .ok (s, w) →
      Listed s fo) : fo ∈ loc.sections.flatMap (·.objects) := by
  obtain ⟨_, _, _, _, s, w, hfirst', hloop, hsecs⟩ := locateObjects_ok file loc hloc
  rw [hfirst] at hfirst'
  cases hfirst'
  rw [hsecs]
  simpa only [Listed, List.mem_flatMap, List.mem_reverse] using h s w hloop

/-- The scan loop records every line-initial header `LF N ws G ws obj` of at most 64 bytes (the bound of
`C20hisf.find_reaches_header`; number `< maxXRefSize` and generation `< 65536` are the code's limits), for every file
and any number of windows, from every window state at or before the header's line feed, if the loop returns.
`hfront`: a match in front of the header must end in front of it; that is so when the scan started at the line feed
itself (`s0`: a position at or before which it started), or the byte in front of the line feed is no end-of-line
byte. -/
theorem locLoop_records (file : Bytes) (a : Nat) (n w1 g w2 rest : Bytes) (h : HeaderAt file a n w1 g w2 rest)
    (hk : 1 + (headerBytes n w1 g w2).length ≤ Gen.his_scanner_regexpOverlap)
    (hnv : digitsVal n 0 < Gen.his_xref_maxXRefSize) (hgv : digitsVal g 0 < 65536) (s0 : Nat)
    (hfront : s0 = a ∨ a = 0 ∨ ∃ c, file[a - 1]? = some c ∧ isEolByte c = false) :
    ∀ (fuel : Nat) (w : Win) (s sfin : LocState) (wfin : Win), Inv file w → s0 ≤ w.base + w.pos → w.base + w.pos ≤ a →
    locLoop file fuel w s = .ok (sfin, wfin) →
    Listed sfin { num := digitsVal n 0, gen := digitsVal g 0, start := a + 1 } := by
  have hfa : file[a]? = some 10 := by
    have : (file.drop a)[0]? = some 10 := by rw [h.eq]; rfl
    rw [List.getElem?_drop] at this; simpa using this
  intro fuel w s sfin wfin hi h0 hP hloop
  -- invariant of the loop: the header is recorded, or the scan stands at or before its LF
  refine match locLoop_inv file
    (fun w s => Listed s { num := digitsVal n 0, gen := digitsVal g 0, start := a + 1 }
      ∨ (Inv file w ∧ s0 ≤ w.base + w.pos ∧ w.base + w.pos ≤ a)) ?_ fuel w wfin s sfin (.inr ⟨hi, h0, hP⟩) hloop with
    | ⟨hfin, heof⟩ => ?_
  · intro w w' p l lead mk s hcase hf
    rcases hcase with hmem | ⟨hi, h0, hP⟩
    · left; split
      · exact listed_locStep s _ _ _ hmem
      · exact hmem
    rcases find_reaches_header file a n w1 g w2 rest h hk (file.length + 8) w hi hP with hoth | ⟨_, _, _, _, hf', hpa, hi'⟩
    · rw [hoth] at hf; cases hf
    rw [hf] at hf'; cases hf'
    obtain ⟨len, hPp, hh, hend⟩ := find_hit_spec hf
    by_cases hpeq : p = a
    · -- the match at the header's LF is the header
      subst hpeq
      obtain ⟨rfl, rfl, _⟩ := hh.at_header h.parts h.eq
      have hli : lineInitial file p 1 = true := by simp [lineInitial]
      simp only [hli, if_true]
      exact .inl (listed_locStep_obj s (p + 1) n g hnv hgv)
    · -- a match in front of the header ends in front of it
      have := hh.ends_before_lf hfa (hfront.resolve_left (by omega)) (by omega)
      exact .inr ⟨hi', by omega, by omega⟩
  · -- at `io.EOF` the scan cannot still be in front of the header
    rcases hfin with hmem | ⟨hi', _, hP'⟩
    · exact hmem
    · rcases find_reaches_header file a n w1 g w2 rest h hk _ wfin hi' hP' with hoth | ⟨_, _, _, _, hf, _⟩
      · rw [hoth] at heof; cases heof
      · rw [hf] at heof; cases heof

/-- The scan loop on writer-shaped input of any length: from every window state at or before the end of `x`, if the
loop returns, every one of the objects is recorded at its offset.  No quietness is needed (something else may be
recorded as well); `s0` and `hx` are `s0` and `hfront` of `locLoop_records` for the first of the objects. -/
theorem locLoop_lists (os : List (Nat × Nat × Bytes)) (x rest : Bytes)
    (hok : ∀ o ∈ os, o.1 < Gen.his_xref_maxXRefSize ∧ o.2.1 < 65536) (s0 : Nat)
    (hx : s0 = x.length ∨ x.length = 0 ∨ ∃ c, x[x.length - 1]? = some c ∧ isEolByte c = false)
    (fuel : Nat) (w : Win) (s sfin : LocState) (wfin : Win) (hi : Inv (x ++ (objsText os ++ rest)) w)
    (h0 : s0 ≤ w.base + w.pos) (hP : w.base + w.pos ≤ x.length)
    (hloop : locLoop (x ++ (objsText os ++ rest)) fuel w s = .ok (sfin, wfin)) :
    ∀ fo ∈ expected x.length os, Listed sfin fo := by
  intro fo hfo
  obtain ⟨n, g, b, pre', rest', hm, rfl, hfile, hpre⟩ := expected_decomp os x rest fo hfo
  obtain ⟨hn, hg⟩ := hok _ hm
  rw [hfile] at hi hloop
  have hdrop : (pre' ++ 10 :: (objText n g b ++ rest')).drop pre'.length = 10 :: (hdr7 n g ++ 10 :: (b ++ k7 ++ rest')) := by
    rw [List.drop_left, objText_eq]; simp
  obtain ⟨hp, hk, hvn, hvg⟩ := hdr7_parts n g hn hg
  have hat := HeaderAt.of_parts hp (rest := 10 :: (b ++ k7 ++ rest')) (by simp [wordEnd, isWordByte, isDigit]) hdrop
  have hle : x.length ≤ pre'.length := by rcases hpre with rfl | ⟨y, rfl⟩ <;> simp
  have := locLoop_records _ pre'.length _ _ _ _ _ hat hk (by rw [hvn]; exact hn) (by rw [hvg]; exact hg) s0 ?_
    fuel w s sfin wfin hi h0 (by omega) hloop
  · rwa [hvn, hvg] at this
  · rcases hpre with rfl | ⟨y, rfl⟩
    · rcases hx with h | h | ⟨c, hc, hce⟩
      · exact .inl h
      · exact .inr (.inl h)
      · refine .inr (.inr ⟨c, ?_, hce⟩)
        rw [List.getElem?_append_left (by have := (List.getElem?_eq_some_iff.mp hc).1; omega)]; exact hc
    · refine .inr (.inr ⟨106, ?_, by decide⟩)
      rw [← List.append_assoc x y, List.append_assoc (x ++ y), List.length_append, List.length_singleton,
        Nat.add_sub_cancel, List.getElem?_append_right (Nat.le_refl _), Nat.sub_self]
      rfl

theorem find_first (file : Bytes) (m : Match Bytes) (hpos : 0 < file.length)
    (hlen : file.length ≤ Gen.his_scanner_scannerBufSize) (hms : matchStart file = some m) :
    find file matchStart (file.length + 8) { base := 0, pos := 0, used := 0 }
      = .ok ({ base := 0, pos := m.b, used := file.length }, m.a, m.b - m.a, m.tag) := by
  have hrestart : restart { base := 0, pos := 0, used := 0 } = 0 := rfl
  have hrefill : ({ base := 0, pos := 0, used := 0 } : Win).refill file.length = { base := 0, pos := 0, used := file.length } := by
    simp only [Win.refill, Nat.sub_self, Nat.zero_add, Nat.sub_zero]
    congr 1
    exact Nat.min_eq_right hlen
  have hc : (decide ((0 : Nat) < Gen.his_scanner_scannerBufSize) && (0 : Nat) == file.length) = false := by
    simp [Gen.his_scanner_scannerBufSize]; omega
  -- the empty window holds no match; after the refill the whole input is in the window
  rw [show file.length + 8 = (file.length + 6) + 1 + 1 from rfl, find_miss _ _ _ _ rfl, hrestart, hrefill]
  simp only [hc, Bool.false_eq_true, if_false]
  rw [find_hit file matchStart (file.length + 6) { base := 0, pos := 0, used := file.length } m
    (by simp only [Nat.zero_add, Nat.sub_zero, List.drop_zero, List.take_length]; exact hms)]
  simp

/-- The windowed `locateObjects` on an input that fits into one window (at most
`scannerBufSize` bytes): if it returns a listing, the listing contains every one of the objects at
its offset.  An instance of `locLoop_lists`: of `ObjOK` only the two ranges are used, of `Quiet q` only that
`q` does not end in an end-of-line byte (the hypotheses are those of `scan_recovers_flat_partial`, so that the two can be
used on the same input); `hdr` is what the header match consumes (`%PDF-x.y` and the byte
behind it). -/
theorem locate_single_window_partial (hdr q rest : Bytes) (os : List (Nat × Nat × Bytes)) (m : Match Bytes)
    (hq : Quiet q) (hok : ∀ o ∈ os, ObjOK o)
    (hlen : (hdr ++ (q ++ (objsText os ++ rest))).length ≤ Gen.his_scanner_scannerBufSize)
    (hms : matchStart (hdr ++ (q ++ (objsText os ++ rest))) = some m) (hmb : m.b = hdr.length)
    (loc : Located) (hloc : locateObjects (hdr ++ (q ++ (objsText os ++ rest))) = .ok loc) :
    ∀ fo ∈ expected (hdr.length + q.length) os, fo ∈ loc.sections.flatMap (·.objects) := by
  intro fo hfo
  have hpos : 0 < (hdr ++ (q ++ (objsText os ++ rest))).length := by
    cases hfile : hdr ++ (q ++ (objsText os ++ rest)) with
    | nil => rw [hfile] at hms; cases hms
    | cons _ _ => simp
  refine locateObjects_lists _ loc hloc _ _ _ _ (find_first _ m hpos hlen hms) fo fun s w hloop => ?_
  have hfile : hdr ++ (q ++ (objsText os ++ rest)) = (hdr ++ q) ++ (objsText os ++ rest) := by simp
  rw [hmb] at hloop
  rw [← List.length_append] at hfo
  rw [hfile] at hloop hlen
  refine locLoop_lists os (hdr ++ q) rest (fun o ho => ⟨(hok o ho).1, (hok o ho).2.1⟩) hdr.length ?_ _ _ _ s w
    ⟨by simp, hlen, by simp, fun _ => by simp⟩ (by simp) (by simp) hloop fo hfo
  -- the scan starts behind `hdr`: at the first line feed, or `q` ends in a byte that is no end-of-line byte
  rcases List.eq_nil_or_concat q with rfl | ⟨q', c, rfl⟩
  · exact .inl (by simp)
  · rw [List.concat_eq_append] at hq ⊢
    exact .inr (.inr ⟨c, by simp [← List.append_assoc], quiet_last q' c hq⟩)

/-! ## non-vacuity and the writer's own header -/

/-- the binary comment line `%\x80\x80\x80\x80` which the Writer puts behind the header is quiet -/
theorem quiet_binary_comment : Quiet [37, 128, 128, 128, 128] := by
  intro y j hj
  cases j with
  | succ j => exact lineQuiet_inner _ y (by decide) j hj
  | zero =>
    -- 37 128 …: `%` is no digit and begins no keyword but `%%EOF`, which needs a second `%`
    simp [matchMarkerAt, matchMarkerBody, spanP, isDigit, isPrefixOf, kwXref, kwTrailer, kwStartxref, kwEOF]

-- a formatted dictionary body is quiet between `obj` and the end of `endobj`
example : ObjOK (7, 0, bytesOfString "<</Type/Catalog/Pages 2 0 R>>") :=
  ⟨by decide, by decide, quiet_of_lineQuiet _ (by decide +kernel) (by intro c t h; cases h; decide)⟩

-- the un-windowed scan of a two-object file cut inside the third object: both complete objects
-- are listed at their offsets, the third header is listed too (and is Broken)
def exFile : Bytes := bytesOfString "%PDF-1.7\n%" ++ [128, 128, 128, 128] ++
  bytesOfString "\n1 0 obj\n<</A 1>>\nendobj\n2 0 obj\n[/N]\nendobj\n3 0 obj\n<</B"
example : ((allObjs (flatLoop exFile 9 9 { done := [], cur := {}, used := false, inTrailer := false })).map
    fun o => (o.num, o.gen, o.start)) = [(3, 0, 59), (2, 0, 39), (1, 0, 15)] := by
  decide +kernel

end PdfVerif.C20hisd
