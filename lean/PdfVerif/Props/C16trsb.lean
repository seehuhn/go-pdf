import PdfVerif.Lemmas.TRSStep
import PdfVerif.Lemmas.TRSDepth
/-!
# C16 — the depth invariant of `tail`: the internal panics are unreachable

`mergeNodes` panics when it is asked to merge fewer than 2 or more than `maxDegree` nodes, the
loops index `tail` at computed positions, and `checkInvariants` panics on a depth sequence that
is not weakly decreasing or has more than `maxDegree` nodes of one depth.  The theorems here
show, on the model, that none of this can happen: every `tail` satisfies `TailInv` (depths
weakly decrease, fewer than `maxDegree` nodes per depth) between operations, and the loops keep
the weaker `Inv1` (a run of `maxDegree` equal depths at most at the very end) while they run.
In the lemmas about `merge`, `nd`, `pd`, `δ` are its `nextDepth`, `prevDepth` and `depth`.
-/
namespace PdfVerif.C16trsb
open PdfVerif PdfVerif.TRSP PdfVerif.TRSDepth PdfVerif.C16trs

/-- the depth sequence of a `tail` -/
def ds (t : List PNode) : List Nat := t.map (·.depth)

theorem ds_length (t : List PNode) : (ds t).length = t.length := by simp [ds]

theorem ds_getD {t : List PNode} {i : Nat} (h : i < t.length) : (ds t).getD i 0 = t[i].depth := by
  simp [ds, h]

/-- loop invariant: depths weakly decrease, and `maxDegree` equal depths in a row occur at most
    at the very end of the tail -/
def Inv1 (a : List PNode) : Prop := Desc (ds a) ∧ WinIn maxDegree (ds a)

/-- invariant of every `tail` between operations: depths weakly decrease and there are fewer
    than `maxDegree` nodes of each depth -/
def TailInv (a : List PNode) : Prop := Desc (ds a) ∧ WinAll maxDegree (ds a)

theorem TailInv.inv1 {a : List PNode} (h : TailInv a) : Inv1 a := ⟨h.1, h.2.winIn⟩

theorem maxDepthOf_le (x : Nat) : ∀ cs : List PNode, (∀ n ∈ cs, n.depth ≤ x) → maxDepthOf cs ≤ x
  | [], _ => by simp [maxDepthOf]
  | c :: cs, h => by
    simp only [maxDepthOf]
    have h1 := h c (by simp)
    have h2 := maxDepthOf_le x cs (fun n hn => h n (by simp [hn]))
    omega

theorem maxDepthOf_range {nodes : List PNode} (hd : Desc (ds nodes)) {a b : Nat} (h1 : a < b)
    (h3 : b ≤ nodes.length) : maxDepthOf ((nodes.drop a).take (b - a)) = (ds nodes).getD a 0 := by
  have ha : a < nodes.length := by omega
  apply Nat.le_antisymm
  · apply maxDepthOf_le
    intro n hn
    obtain ⟨i, hi, rfl⟩ := List.mem_iff_getElem.mp hn
    simp only [List.length_take, List.length_drop] at hi
    rw [List.getElem_take, List.getElem_drop, ← ds_getD (by omega)]
    exact hd.le (by omega)
  · rw [List.drop_eq_getElem_cons ha, show b - a = (b - a - 1) + 1 by omega, List.take_succ_cons,
      ds_getD ha, maxDepthOf]
    omega

theorem mergeNodes_depths {nodes : List PNode} (hd : Desc (ds nodes)) {a b : Nat} (c : MCtx)
    (h1 : a + 2 ≤ b) (h2 : b ≤ a + maxDegree) (h3 : b ≤ nodes.length) :
    ∃ nodes' c', mergeNodes nodes a b c = .ok (nodes', c') ∧
      ds nodes' = (ds nodes).take a ++ ((ds nodes).getD a 0 + 1) :: (ds nodes).drop b := by
  have hcond : ¬ (b > nodes.length ∨ b < a + 2 ∨ b > a + maxDegree) := by omega
  unfold mergeNodes
  rw [if_neg hcond, ← maxDepthOf_range hd (show a < b by omega) h3]
  exact ⟨_, _, rfl, by simp only [ds, List.map_append, List.map_cons, List.map_take, List.map_drop]⟩

theorem mergeNodes_trailing {t : List PNode} (hinv : Inv1 t) {s : Nat} (c : MCtx) (h1 : s + 2 ≤ t.length)
    (h2 : t.length ≤ s + maxDegree) (hprev : 1 ≤ s → (ds t).getD s 0 < (ds t).getD (s - 1) 0) :
    ∃ t' c', mergeNodes t s t.length c = .ok (t', c') ∧ Inv1 t' ∧ t'.length = s + 1 := by
  have hl := ds_length t
  obtain ⟨t', c', hm, hds⟩ := mergeNodes_depths hinv.1 c h1 h2 (Nat.le_refl _)
  rw [← hl, List.drop_length] at hds
  refine ⟨t', c', hm, ?_, ?_⟩
  · rw [Inv1, hds]
    exact merge_from (Nat.le_of_lt maxDegree_ge_two) hinv (by omega) hprev
  · have := congrArg List.length hds
    rw [ds_length, List.length_append, List.length_take] at this
    simp only [List.length_cons, List.length_nil] at this
    omega

/-- `p`: a position known to be shallower than `start - 1`; the loop stops at the first step down,
    at `p` at the latest -/
theorem advanceStart_spec {a : List PNode} (hd : Desc (ds a)) {p : Nat} (hp : p < a.length) :
    ∀ (fuel start : Nat), 1 ≤ start → start ≤ p → p + 2 ≤ fuel + start →
    (ds a).getD p 0 < (ds a).getD (start - 1) 0 →
    ∃ e, advanceStart a fuel start = .ok e ∧ start ≤ e ∧ e ≤ p ∧
      (ds a).getD e 0 < (ds a).getD (e - 1) 0
  | 0, start, _, _, hf, _ => by omega
  | fuel + 1, start, h1, hsp, hf, hlt => by
    unfold advanceStart
    rw [if_neg (by omega), List.getElem?_eq_getElem (show start - 1 < a.length by omega),
      List.getElem?_eq_getElem (show start < a.length by omega)]
    simp only
    rw [← ds_getD, ← ds_getD]
    by_cases heq : (ds a).getD (start - 1) 0 = (ds a).getD start 0
    · rw [if_pos (by simpa using heq)]
      have : start ≠ p := by intro h; subst h; omega
      obtain ⟨e, he, h2, h3⟩ := advanceStart_spec hd hp fuel (start + 1) (by omega) (by omega) (by omega)
        (by rw [Nat.add_sub_cancel, ← heq]; exact hlt)
      exact ⟨e, he, by omega, h3⟩
    · rw [if_neg (by simpa using heq)]
      have := hd.le (i := start - 1) (j := start) (by omega)
      exact ⟨start, rfl, Nat.le_refl _, hsp, by omega⟩

/-- **one step of collapse / of merge's first loop never panics** under the loop invariant,
    and keeps it -/
theorem mergeTrailing_inv {a : List PNode} (c : MCtx) (hinv : Inv1 a) (hlen : 2 ≤ a.length) :
    ∃ a' c', mergeTrailing a c = .ok (a', c') ∧ Inv1 a' ∧ a'.length < a.length ∧ 1 ≤ a'.length := by
  have hD := maxDegree_ge_two
  have hl := ds_length a
  -- the run that `advanceStart` walks over ends before the last node: a window of `maxDegree`
  -- nodes that ends at the last but one is not constant
  have hstart : ∃ e, advanceStart a (a.length + 2) (a.length - maxDegree) = .ok e ∧
      a.length ≤ e + maxDegree ∧ e + 2 ≤ a.length ∧
      (1 ≤ e → (ds a).getD e 0 < (ds a).getD (e - 1) 0) := by
    by_cases hsmall : a.length ≤ maxDegree
    · rw [show a.length - maxDegree = 0 by omega]
      exact ⟨0, rfl, by omega, by omega, by omega⟩
    · obtain ⟨e, he, h1, h2, h3⟩ := advanceStart_spec hinv.1 (p := a.length - 2) (by omega)
        (a.length + 2) (a.length - maxDegree) (by omega) (by omega) (by omega)
        (hinv.2.lt (by omega) (by omega))
      exact ⟨e, he, by omega, by omega, fun _ => h3⟩
  obtain ⟨e, he, h1, h2, h3⟩ := hstart
  obtain ⟨a', c', hm, hinv', hlen'⟩ := mergeNodes_trailing hinv c h2 h1 h3
  unfold mergeTrailing
  simp only [he, hm]
  exact ⟨a', c', rfl, hinv', by omega, by omega⟩

theorem collapse_inv : ∀ (fuel : Nat) (a : List PNode) (c : MCtx), Inv1 a → fuel ≥ a.length + 1 →
    ∃ a' c', collapse fuel a c = .ok (a', c') ∧ a'.length ≤ 1
  | 0, a, _, _, hf => by omega
  | fuel + 1, a, c, hinv, hf => by
    unfold collapse
    by_cases hl : a.length ≤ 1
    · rw [if_pos hl]; exact ⟨a, c, rfl, hl⟩
    · obtain ⟨a1, c1, hm, hinv1, hlt, _⟩ := mergeTrailing_inv c hinv (by omega)
      rw [if_neg hl, hm]
      exact collapse_inv fuel a1 c1 hinv1 (by omega)

/-- **the merge loop of AppendPage never panics, terminates, and restores the invariant** -/
theorem appendLoop_inv : ∀ (fuel : Nat) (t : List PNode) (c : MCtx), Inv1 t → fuel ≥ t.length + 1 →
    ∃ t' c', appendLoop fuel t c = .ok (t', c') ∧ TailInv t'
  | 0, t, _, _, hf => by omega
  | fuel + 1, t, c, hinv, hf => by
    have hD := maxDegree_ge_two
    unfold appendLoop
    dsimp only
    by_cases hn : t.length < maxDegree
    · rw [if_pos hn]
      exact ⟨t, c, rfl, hinv.1, hinv.2.winAll (by omega) fun h => by rw [ds_length] at h; omega⟩
    · rw [if_neg hn, List.getElem?_eq_getElem (show t.length - 1 < t.length by omega),
        List.getElem?_eq_getElem (show t.length - maxDegree < t.length by omega)]
      simp only
      rw [← ds_getD, ← ds_getD]
      by_cases heq : (ds t).getD (t.length - 1) 0 = (ds t).getD (t.length - maxDegree) 0
      · -- the last `maxDegree` nodes are one run, and it starts there
        obtain ⟨t1, c1, hm, hinv1, hlen1⟩ := mergeNodes_trailing hinv c (s := t.length - maxDegree)
          (by omega) (by omega) (fun hs => hinv.2.prev_lt hinv.1 hD (by rw [ds_length]; omega) hs
            (by rw [ds_length]; exact heq))
        rw [if_neg (by simpa using heq), hm]
        exact appendLoop_inv fuel t1 c1 hinv1 (by omega)
      · rw [if_pos (by simpa using heq)]
        refine ⟨t, c, rfl, hinv.1, hinv.2.winAll (by omega) fun _ => ?_⟩
        have := hinv.1.le (i := t.length - maxDegree) (j := t.length - 1) (by omega)
        rw [ds_length]
        omega

theorem inv1_snoc_leaf {t : List PNode} (h : TailInv t) (n : PNode) (hn : n.depth = 0) : Inv1 (t ++ [n]) := by
  rw [Inv1, show ds (t ++ [n]) = ds t ++ [0] by simp [ds, hn]]
  exact snoc_zero maxDegree_ge_two h

/-- `checkInvariants` after `k` nodes of a tail that satisfies the invariant, the last `num` of
    them (from position `s` on) of depth `cur`, accepts the rest -/
theorem depthsOK_drop {t : List PNode} (h : TailInv t) : ∀ (n k s cur num : Nat), k + n = t.length →
    1 ≤ num → s + num = k → (∀ m, s ≤ m → m < k → (ds t).getD m 0 = cur) →
    depthsOK (some (cur, num)) (t.drop k) = true
  | 0, k, _, cur, num, hk, _, _, _ => by rw [List.drop_of_length_le (by omega)]; rfl
  | n + 1, k, s, cur, num, hk, h1, h2, hrun => by
    have hkl : k < t.length := by omega
    rw [List.drop_eq_getElem_cons hkl, depthsOK, ← ds_getD hkl]
    have hle := h.1.le (i := s) (j := k) (by omega)
    rw [hrun s (Nat.le_refl _) (by omega)] at hle
    by_cases hlt : (ds t).getD k 0 < cur
    · rw [if_pos hlt]
      exact depthsOK_drop h n (k + 1) k _ 1 (by omega) (Nat.le_refl _) rfl
        fun m hm1 hm2 => by rw [show m = k by omega]
    · have hrun' : ∀ m, s ≤ m → m < k + 1 → (ds t).getD m 0 = cur := fun m hm1 hm2 => by
        by_cases hm : m = k
        · rw [hm]; omega
        · exact hrun m hm1 (by omega)
      -- the run of `cur` goes on: it has fewer than `maxDegree` nodes
      have := h.2.run_lt (Nat.le_of_lt maxDegree_ge_two) (e := k + 1) (by rw [ds_length]; omega) hrun'
      rw [if_neg hlt, if_neg (by omega), if_neg (by omega)]
      exact depthsOK_drop h n (k + 1) s cur (num + 1) (by omega) (by omega) (by omega) hrun'

theorem depthsOK_of_tailInv {t : List PNode} (h : TailInv t) : depthsOK none t = true := by
  match t, h with
  | [], _ => rfl
  | n :: rest, h =>
    exact depthsOK_drop h rest.length 1 0 n.depth 1 (Nat.add_comm _ _) (Nat.le_refl _) rfl
      fun m _ hm => by rw [show m = 0 by omega]; rfl

theorem append_tail_ok {tail : List PNode} (h : TailInv tail) (n : PNode) (hn : n.depth = 0) (c : MCtx) :
    ∃ tail2 c2, appendLoop ((tail ++ [n]).length + 1) (tail ++ [n]) c = .ok (tail2, c2) ∧
      TailInv tail2 ∧ depthsOK none tail2 = true := by
  obtain ⟨t2, c2, h1, h2⟩ := appendLoop_inv _ _ c (inv1_snoc_leaf h n hn) (Nat.le_refl _)
  exact ⟨t2, c2, h1, h2, depthsOK_of_tailInv h2⟩

/-- `collapse` with the loop bound `closeRoot` gives it, on a tail that satisfies the invariant -/
theorem collapse_ok {tail : List PNode} (h : TailInv tail) (c : MCtx) :
    ∃ t c', collapse (tail.length + 1) tail c = .ok (t, c') ∧ t.length ≤ 1 :=
  collapse_inv _ _ c h.inv1 (Nat.le_refl _)

theorem tailInv_nil : TailInv [] := desc_winAll_nil maxDegree

theorem backStart_spec (a : List PNode) (d : Nat) : ∀ (start : Nat), start ≤ a.length →
    backStart a d start ≤ start ∧
    (∀ m, backStart a d start ≤ m → m < start → (ds a).getD m 0 = d) ∧
    (1 ≤ backStart a d start → (ds a).getD (backStart a d start - 1) 0 ≠ d)
  | 0, _ => by simp [backStart]
  | start + 1, hs => by
    unfold backStart
    rw [List.getElem?_eq_getElem (show start < a.length by omega)]
    simp only
    rw [← ds_getD]
    by_cases heq : (ds a).getD start 0 = d
    · rw [if_pos (by simpa using heq)]
      obtain ⟨i1, i2, i3⟩ := backStart_spec a d start (by omega)
      refine ⟨by omega, fun m hm1 hm2 => ?_, i3⟩
      by_cases hms : m = start
      · rw [hms, heq]
      · exact i2 m hm1 (by omega)
    · rw [if_neg (by simpa using heq)]
      exact ⟨Nat.le_refl _, fun m h1 h2 => by omega, fun _ => heq⟩

theorem backStart_run {a : List PNode} (hd : Desc (ds a)) {d stop : Nat} (h1 : 1 ≤ stop) (hs : stop ≤ a.length)
    (hlast : (ds a).getD (stop - 1) 0 = d) :
    backStart a d stop < stop ∧ (∀ m, backStart a d stop ≤ m → m < stop → (ds a).getD m 0 = d) ∧
    (1 ≤ backStart a d stop → d < (ds a).getD (backStart a d stop - 1) 0) := by
  obtain ⟨i1, i2, i3⟩ := backStart_spec a d stop hs
  have hlt : backStart a d stop < stop := by
    apply Classical.byContradiction
    intro hcon
    exact i3 (by omega) (by rw [show backStart a d stop = stop by omega]; exact hlast)
  refine ⟨hlt, i2, fun h => ?_⟩
  have := hd.le (i := backStart a d stop - 1) (j := backStart a d stop) (by omega)
  rw [i2 _ (Nat.le_refl _) hlt] at this
  have := i3 h
  omega

theorem fwdEnd_spec (a : List PNode) (d : Nat) : ∀ (fuel stop : Nat), stop ≤ a.length →
    fuel + stop ≥ a.length + 1 →
    stop ≤ fwdEnd a d fuel stop ∧ fwdEnd a d fuel stop ≤ a.length ∧
    (∀ m, stop ≤ m → m < fwdEnd a d fuel stop → (ds a).getD m 0 = d) ∧
    (fwdEnd a d fuel stop < a.length → (ds a).getD (fwdEnd a d fuel stop) 0 ≠ d)
  | 0, stop, hs, hf => by omega
  | fuel + 1, stop, hs, hf => by
    unfold fwdEnd
    by_cases hlt : stop < a.length
    · rw [List.getElem?_eq_getElem hlt]
      simp only
      rw [← ds_getD]
      by_cases heq : (ds a).getD stop 0 = d
      · rw [if_pos (by simpa using heq)]
        obtain ⟨i1, i2, i3, i4⟩ := fwdEnd_spec a d fuel (stop + 1) (by omega) (by omega)
        refine ⟨by omega, i2, fun m hm1 hm2 => ?_, i4⟩
        by_cases hms : m = stop
        · rw [hms, heq]
        · exact i3 m (by omega) hm2
      · rw [if_neg (by simpa using heq)]
        exact ⟨Nat.le_refl _, by omega, fun m h1 h2 => by omega, fun _ => heq⟩
    · rw [List.getElem?_eq_none (by omega)]
      simp only
      exact ⟨Nat.le_refl _, hs, fun m h1 h2 => by omega, fun h => by omega⟩

theorem mergeInner_none (fuel : Nat) (a : List PNode) (start stop : Nat) (ch : Bool) (c : MCtx)
    (h : stop < start + maxDegree) :
    mergeInner (fuel + 1) a start stop ch c = .ok (a, start, stop, ch, c) := by
  unfold mergeInner
  rw [if_neg (by omega)]

theorem depthLoop_idle (fuel : Nat) (L : List PNode) (start stop δ pd : Nat) (c : MCtx)
    (h : stop < start + maxDegree) :
    mergeDepthLoop (fuel + 1) L start stop δ pd c =
      if pd < δ ∨ start = 0 then .ok (L, c)
      else mergeDepthLoop fuel L (backStart L (δ + 1) start) start (δ + 1) pd c := by
  rw [mergeDepthLoop, mergeInner_none L.length L start stop false c h]
  simp

/-- one iteration with a window of `maxDegree` to `2·maxDegree - 1` nodes that starts a run: exactly
    one merge, after which only the window ending at the new node may be constant -/
theorem depthLoop_merge {L : List PNode} (hd : Desc (ds L)) (fuel start stop δ pd : Nat) (c : MCtx)
    (h1 : start + maxDegree ≤ stop) (h2 : stop < start + 2 * maxDegree) (h3 : stop ≤ L.length)
    (hprev : 1 ≤ start → (ds L).getD start 0 < (ds L).getD (start - 1) 0)
    (hwin : ∀ i j, i + maxDegree = j + 1 → j < (ds L).length → j < start ∨ start + maxDegree ≤ i →
      (ds L).getD j 0 < (ds L).getD i 0) :
    ∃ L' c', mergeDepthLoop (fuel + 1) L start stop δ pd c =
        mergeDepthLoop fuel L' (backStart L' (δ + 1) (start + 1)) (start + 1) (δ + 1) pd c' ∧
      Desc (ds L') ∧ WinExcept maxDegree start (ds L') ∧ L'.length + maxDegree = L.length + 1 ∧
      (ds L').getD start 0 = (ds L).getD start 0 + 1 := by
  have hD := maxDegree_ge_two
  have hs : start + maxDegree ≤ (ds L).length := by rw [ds_length]; omega
  obtain ⟨L', c', hm, hds⟩ := mergeNodes_depths hd c (a := start) (b := start + maxDegree) (by omega)
    (Nat.le_refl _) (by omega)
  have hds' : ds L' = mergeAt (ds L) start maxDegree ((ds L).getD start 0) := hds
  refine ⟨L', c', ?_, ?_, ?_, ?_, ?_⟩
  · rw [mergeDepthLoop, show L.length + 1 = L.length - 1 + 2 by omega, mergeInner, if_pos h1, hm]
    simp only
    rw [mergeInner_none _ _ _ _ _ _ (by omega)]
    simp
  · rw [hds']
    exact desc_mergeAt hd (by omega) hs hprev
  · rw [hds']
    exact winExcept_mergeAt hD hd (by omega) hs hprev hwin
  · have := length_mergeAt (v := (ds L).getD start 0) hs
    rw [← hds', ds_length, ds_length] at this
    exact this
  · rw [hds']
    exact getD_mergeAt_eq (by omega)

/-- **the outer loop from its second iteration on** never panics, terminates within its bound
    and leaves a tail with fewer than `maxDegree` nodes per depth.  At the top of such an
    iteration the window is the run of `δ` that ends at `stop - 1`; either the tail is in order
    already, or something was merged: then only the window of `maxDegree` nodes that ends at
    `stop - 1` may be constant, the node there is at least as deep as `δ`, and the loop does not
    stop before it has looked at that depth (it is at most `pd + 1`).  Fuel: every iteration
    lowers `stop` or raises `δ`, and `δ` passes `pd + 1` at most once; `mergeJoin` starts with
    `prevDepth + length + 2`. -/
theorem depthLoop_inv : ∀ (fuel : Nat) (L : List PNode) (stop δ pd : Nat) (c : MCtx),
    Desc (ds L) → stop ≤ L.length →
    (WinAll maxDegree (ds L) ∨
      (WinExcept maxDegree (stop - 1) (ds L) ∧ 1 ≤ stop ∧
        ((ds L).getD (stop - 1) 0 = δ ∨
          (δ < (ds L).getD (stop - 1) 0 ∧ (ds L).getD (stop - 1) 0 ≤ pd + 1)))) →
    stop + 1 ≤ fuel → pd + stop + 3 ≤ fuel + δ →
    ∃ R c', mergeDepthLoop fuel L (backStart L δ stop) stop δ pd c = .ok (R, c') ∧ TailInv R
  | 0, _, _, _, _, _, _, _, _, hf, _ => by omega
  | fuel + 1, L, stop, δ, pd, c, hd, hsl, hst, hf, hf' => by
    have hD := maxDegree_ge_two
    obtain ⟨hb1, hb2, _⟩ := backStart_spec L δ stop hsl
    -- a tail that is in order stays as it is
    have good (hw : WinAll maxDegree (ds L)) : ∃ R c',
        mergeDepthLoop (fuel + 1) L (backStart L δ stop) stop δ pd c = .ok (R, c') ∧ TailInv R := by
      rw [depthLoop_idle _ _ _ _ _ _ _ (hw.run_lt (by omega) (by rw [ds_length]; exact hsl) hb2)]
      by_cases hbreak : pd < δ ∨ backStart L δ stop = 0
      · rw [if_pos hbreak]
        exact ⟨L, c, rfl, hd, hw⟩
      · rw [if_neg hbreak]
        exact depthLoop_inv fuel L _ (δ + 1) pd c hd (by omega) (.inl hw) (by omega) (by omega)
    rcases hst with hw | ⟨hwin, hsp, heq | ⟨hlt, hle⟩⟩
    · exact good hw
    · -- the node at stop-1 has depth δ: the window is the run of δ ending there
      obtain ⟨hstart_lt, _, hprev⟩ := backStart_run hd hsp hsl heq
      generalize backStart L δ stop = start at *
      have hwle := hwin.run_le (Nat.le_of_lt hD) (by rw [ds_length]; exact hsl) (by omega) hb2
      have hδ := hb2 start (Nat.le_refl _) hstart_lt
      by_cases hfull : stop = start + maxDegree
      · obtain ⟨L', c', hm, hd', hwin', hlen', hnew⟩ := depthLoop_merge hd fuel start stop δ pd c (by omega)
          (by omega) hsl (by rw [hδ]; exact hprev)
          fun i j hij hj hside => hwin.lt (by omega) hij hj (by omega)
        rw [hm]
        exact depthLoop_inv fuel L' (start + 1) (δ + 1) pd c' hd' (by omega)
          (.inr ⟨hwin', by omega, .inl (by rw [Nat.add_sub_cancel, hnew, hδ])⟩) (by omega) (by omega)
      · -- the run is short: the tail is in order
        exact good (hwin.winAll (Nat.le_of_lt hD) hd (s := start) (by omega)
          (by rw [heq]; exact hprev))
    · -- the node at stop-1 is deeper than δ: the window is empty
      have hss : backStart L δ stop = stop := by
        apply Classical.byContradiction
        intro hne
        have := hb2 (stop - 1) (by omega) (by omega)
        omega
      rw [hss, depthLoop_idle _ _ _ _ _ _ _ (by omega), if_neg (by omega)]
      refine depthLoop_inv fuel L stop (δ + 1) pd c hd hsl (.inr ⟨hwin, hsp, ?_⟩) (by omega) (by omega)
      by_cases h : (ds L).getD (stop - 1) 0 = δ + 1
      · exact .inl h
      · exact .inr ⟨by omega, hle⟩

/-- state at the top of an iteration of merge's last loop after something was merged: the only
    window that may be constant ends at `stop - 1`, the node there has depth `dd ≥ δ`, and the
    loop will not stop before it has looked at depth `dd` -/
structure St (L : List PNode) (start stop δ pd : Nat) : Prop where
  desc : Desc (ds L)
  stop_pos : 1 ≤ stop
  stop_le : stop ≤ L.length
  start_eq : start = backStart L δ stop
  win : WinExcept maxDegree (stop - 1) (ds L)
  dd : ∃ dd, (ds L)[stop - 1]? = some dd ∧ (dd = δ ∨ (δ < dd ∧ dd ≤ pd + 1))

/-- **the cascade**: from such a state the loop never panics, terminates within its bound and
    leaves a tail with fewer than `maxDegree` nodes per depth -/
theorem depthLoop_cascade : ∀ (fuel : Nat) (L : List PNode) (start stop δ pd : Nat) (c : MCtx),
    St L start stop δ pd → fuel ≥ (pd + 2 - δ) + L.length + 1 →
    ∃ R c', mergeDepthLoop fuel L start stop δ pd c = .ok (R, c') ∧ TailInv R
  | 0, _, _, _, _, _, _, _, hf => by omega
  | fuel + 1, L, start, stop, δ, pd, c, st, hf => by
    obtain ⟨dd, hdd, hcase⟩ := st.dd
    rw [st.start_eq]
    have := st.stop_le
    refine depthLoop_inv _ L stop δ pd c st.desc st.stop_le (.inr ⟨st.win, st.stop_pos, ?_⟩)
      (by omega) (by omega)
    rw [getD_of_getElem? hdd]
    exact hcase

/-- **the last part of merge** (from `prevDepth := …` on) never panics, terminates within its
    loop bound and produces a tail with fewer than `maxDegree` nodes per depth -/
theorem mergeJoin_inv {a b : List PNode} (c : MCtx) (ha : Inv1 a) (hb : TailInv b)
    (hane : 1 ≤ a.length) (hbne : 1 ≤ b.length) {nd pd : Nat}
    (hnd : (ds b)[0]? = some nd) (hpd : (ds a)[a.length - 1]? = some pd) (hge : nd ≤ pd) :
    ∃ R c', mergeJoin a b nd c = .ok (R, c') ∧ TailInv R := by
  have hD := maxDegree_ge_two
  have hJ : ds (a ++ b) = ds a ++ ds b := List.map_append
  have hJlen : (a ++ b).length = a.length + b.length := List.length_append
  have hnd' := getD_of_getElem? hnd
  have hpd' := getD_of_getElem? hpd
  have hJd : Desc (ds (a ++ b)) := by
    rw [hJ]
    exact ha.1.append hb.1 (by rw [hnd', ds_length, hpd']; exact hge)
  have hJpd : (ds (a ++ b)).getD (a.length - 1) 0 = pd := by
    rw [hJ, getD_append_left (by rw [ds_length]; omega)]
    exact hpd'
  have hJnd : (ds (a ++ b)).getD a.length 0 = nd := by
    rw [hJ, getD_append_right (by rw [ds_length]; omega), ds_length, Nat.sub_self]
    exact hnd'
  unfold mergeJoin
  rw [List.getLast?_eq_getElem?, List.getElem?_eq_getElem (show a.length - 1 < a.length by omega)]
  simp only
  rw [← ds_getD, hpd']
  -- every `omega` below is paid per arithmetic fact in the context: drop the ones that are used up
  clear hnd hpd hnd' hpd'
  -- the window: the run of `pd` at the end of `a` and the run of `nd` at the start of `b`
  obtain ⟨hS1, hS2, hprev⟩ := backStart_run hJd hane (by omega) hJpd
  obtain ⟨hE1, hE2, hE3, hE4⟩ := fwdEnd_spec (a ++ b) nd ((a ++ b).length + 1) (a.length + 1) (by omega)
    (by omega)
  generalize backStart (a ++ b) pd a.length = s at *
  generalize fwdEnd (a ++ b) nd ((a ++ b).length + 1) (a.length + 1) = e at *
  have hE3' : ∀ m, a.length ≤ m → m < e → (ds (a ++ b)).getD m 0 = nd := by
    intro m h1 h2
    by_cases hm : m = a.length
    · rw [hm]; exact hJnd
    · exact hE3 m (by omega) h2
  have hspd := hS2 s (Nat.le_refl _) hS1
  have hnext : e < (a ++ b).length → (ds (a ++ b)).getD e 0 < pd := by
    intro h
    have := hE4 h
    have := hJd.le (i := a.length) (j := e) (by omega)
    omega
  -- at most `maxDegree` nodes of depth `pd` at the end of `a`, fewer of depth `nd` in `b`
  obtain ⟨hM1, hK1⟩ := run_bounds_append (Nat.le_of_lt hD) ha.2 hb.2 (s := s) (e := e) (d₁ := pd) (d₂ := nd)
    (by rw [← hJ, ds_length]; exact hE2) (by rw [← hJ, ds_length]; exact hS2)
    (by rw [← hJ, ds_length]; exact hE3')
  rw [ds_length] at hM1 hK1
  rw [show pd + (a ++ b).length + 2 = (pd + (a ++ b).length + 1) + 1 by omega]
  clear hE3 hE4 hJnd hJlen hane hbne
  by_cases hsmall : e < s + maxDegree
  · -- nothing to merge: the concatenation is in order
    have hgood : WinAll maxDegree (ds (a ++ b)) := by
      rw [hJ]
      refine winAll_append (Nat.le_of_lt hD) ha.2 hb.2 (hJ ▸ hJd) hsmall ?_ ?_
      · rw [← hJ, ds_length, hJpd]
        exact hprev
      · rw [← hJ, ds_length, ds_length, hJpd]
        exact hnext
    rw [depthLoop_idle _ _ _ _ _ _ _ hsmall]
    by_cases hbreak : pd < nd ∨ s = 0
    · rw [if_pos hbreak]
      exact ⟨a ++ b, c, rfl, hJd, hgood⟩
    · rw [if_neg hbreak]
      exact depthLoop_inv _ (a ++ b) s (nd + 1) pd c hJd (by omega) (.inl hgood) (by omega) (by omega)
  · -- one merge; then the cascade
    obtain ⟨L', c', hm, hd', hwin', hlen', hnew⟩ := depthLoop_merge hJd (pd + (a ++ b).length + 1) s e nd
      pd c (by omega) (by omega) hE2 (by rw [hspd]; exact hprev) fun i j hij hj hs => by
        rw [hJ] at hj ⊢
        exact win_append (by omega) ha.2 hb.2 hij hj (by rw [ds_length]; omega)
    rw [hm]
    refine depthLoop_inv _ L' (s + 1) (nd + 1) pd c' hd' (by omega) (.inr ⟨hwin', by omega, ?_⟩)
      (by omega) (by omega)
    rw [Nat.add_sub_cancel, hnew, hspd]
    by_cases h : pd = nd
    · exact .inl (by omega)
    · exact .inr ⟨by omega, Nat.le_refl _⟩

theorem mergeLoop1_inv : ∀ (fuel : Nat) (a : List PNode) (nd : Nat) (c : MCtx), Inv1 a → 1 ≤ a.length →
    fuel ≥ a.length + 1 →
    ∃ a1 c1, mergeLoop1 fuel a nd c = .ok (a1, c1) ∧ Inv1 a1 ∧ 1 ≤ a1.length ∧
      (a1.length ≤ 1 ∨ nd ≤ (ds a1).getD (a1.length - 1) 0)
  | 0, a, _, _, _, _, hf => by omega
  | fuel + 1, a, nd, c, hinv, hne, hf => by
    unfold mergeLoop1
    by_cases hl : a.length ≤ 1
    · rw [if_pos hl]
      exact ⟨a, c, rfl, hinv, hne, .inl hl⟩
    · rw [if_neg hl, List.getElem?_eq_getElem (show a.length - 1 < a.length by omega)]
      simp only
      rw [← ds_getD]
      by_cases hlt : (ds a).getD (a.length - 1) 0 < nd
      · obtain ⟨a1, c1, hm, hinv1, hlen1, hpos1⟩ := mergeTrailing_inv c hinv (by omega)
        rw [if_pos hlt, hm]
        exact mergeLoop1_inv fuel a1 nd c1 hinv1 hpos1 (by omega)
      · rw [if_neg hlt]
        exact ⟨a, c, rfl, hinv, hne, .inr (by omega)⟩

theorem inv1_singleton (x : PNode) : Inv1 [x] := by
  refine ⟨by simpa [ds] using desc_singleton x.depth, ?_⟩
  intro i u v hi
  have := maxDegree_ge_two
  simp [ds] at hi; omega

theorem liftSingle_inv {a : List PNode} {nd : Nat} (hinv : Inv1 a) (hne : 1 ≤ a.length)
    (hlast : a.length ≤ 1 ∨ nd ≤ (ds a).getD (a.length - 1) 0) :
    Inv1 (liftSingle a nd) ∧ 1 ≤ (liftSingle a nd).length ∧
      nd ≤ (ds (liftSingle a nd)).getD ((liftSingle a nd).length - 1) 0 := by
  match a, hne, hlast with
  | [x], _, _ =>
    simp only [liftSingle]
    by_cases hx : x.depth < nd
    · rw [if_pos hx]
      exact ⟨inv1_singleton _, Nat.le_refl _, Nat.le_refl _⟩
    · rw [if_neg hx]
      exact ⟨hinv, Nat.le_refl _, Nat.le_of_not_lt hx⟩
  | x :: y :: ys, hne, .inr h => exact ⟨hinv, hne, h⟩

/-- **merge never panics**: joining two tails that satisfy the invariant never leaves the
    range `mergeNodes` accepts nor the slice bounds, terminates within the loop bounds of the
    model, and the result satisfies the invariant again -/
theorem merge_inv {a b : List PNode} (c : MCtx) (ha : TailInv a) (hb : TailInv b) :
    ∃ r c', merge a b c = .ok (r, c') ∧ TailInv r := by
  unfold merge
  split
  · exact ⟨b, c, rfl, hb⟩
  · exact ⟨a, c, rfl, ha⟩
  · rename_i x xs b0 bs
    obtain ⟨a1, c1, h1, hinv1, hlen1, hlast1⟩ := mergeLoop1_inv ((x :: xs).length + 1) (x :: xs) b0.depth c
      ha.inv1 (by simp) (Nat.le_refl _)
    rw [h1]
    obtain ⟨hinv2, hlen2, hge⟩ := liftSingle_inv (nd := b0.depth) hinv1 hlen1 hlast1
    exact mergeJoin_inv c1 hinv2 hb hlen2 (by simp) (by simp [ds])
      (getElem?_getD (by rw [ds_length]; omega)) hge

/-- the three panics of the Go code: `mergeNodes`' range check, an index out of range,
    `checkInvariants` -/
def IsPanic (e : PErr) : Prop := e = .panicRange ∨ e = .panicIndex ∨ e = .panicInv

/-- the two error results that exist in the model only: an exhausted loop bound, a futureInt id
    that leads nowhere.  The lemmas below show that the futureInt code fails in no other way.  (The
    tree code returns them too: `.fuel` from its loops, which `appendLoop_inv`, `collapse_inv`,
    `merge_inv` exclude under the depth invariant, and `.dangling` from `appendHere`/`newRangeHere`
    on a writer without page-number futureInt.) -/
def HeapErr (e : PErr) : Prop := e = .fuel ∨ e = .dangling

theorem HeapErr.not_panic {e : PErr} (h : HeapErr e) : ¬ IsPanic e := by
  rcases h with rfl | rfl <;> (intro hp; rcases hp with h | h | h <;> cases h)

theorem foldl_err {α : Type} (F : Except PErr Heap → α → Except PErr Heap)
    (hF : ∀ acc x, (∀ e, acc = .error e → HeapErr e) → ∀ e, F acc x = .error e → HeapErr e) :
    ∀ (xs : List α) (acc : Except PErr Heap), (∀ e, acc = .error e → HeapErr e) →
      ∀ e, xs.foldl F acc = .error e → HeapErr e
  | [], acc, hacc, e, h => hacc e h
  | x :: xs, acc, hacc, e, h => by
    simp only [List.foldl_cons] at h
    exact foldl_err F hF xs (F acc x) (hF acc x hacc) e h

theorem updateFut_err {fuel g : Nat} {n : Int} {h : Heap} {e : PErr}
    (he : updateFut fuel g n h = .error e) : HeapErr e := by
  fun_induction updateFut fuel g n h generalizing e <;> try cases he
  · exact .inl rfl
  · exact .inr rfl
  · -- the waiters are told: an error is an error of one of their `Update`s
    rename_i ih
    refine foldl_err _ (fun acc cb hacc e' h' => ?_) _ _ (by intro e h; cases h) e he
    split at h'
    · cases h'; exact hacc _ rfl
    · split at h'
      · cases h'
      · exact ih _ _ h'

theorem callCb_err {cb : FCb} {n : Int} {h : Heap} {e : PErr} (he : callCb cb n h = .error e) : HeapErr e := by
  revert he
  fun_cases callCb cb n h <;> intro he
  · cases he
  · exact updateFut_err he

theorem callAll_err {cbs : List FCb} {n : Int} {h : Heap} {e : PErr} (he : callAll cbs n h = .error e) :
    HeapErr e := by
  fun_induction callAll cbs n h <;> try cases he
  · exact callCb_err ‹_›
  · rename_i ih; exact ih he

theorem whenAvailable_err {f : Nat} {cb : FCb} {h : Heap} {e : PErr} (he : whenAvailable f cb h = .error e) :
    HeapErr e := by
  revert he
  fun_cases whenAvailable f cb h <;> intro he
  · cases he; exact .inr rfl
  · exact callCb_err he
  · cases he

theorem whenAvailableAll_err {f : Nat} {cbs : List FCb} {h : Heap} {e : PErr}
    (he : whenAvailableAll f cbs h = .error e) : HeapErr e := by
  fun_induction whenAvailableAll f cbs h <;> try cases he
  · exact whenAvailable_err ‹_›
  · rename_i ih; exact ih he

theorem incFut_err {f : Nat} {h : Heap} {e : PErr} (he : incFut f h = .error e) : HeapErr e := by
  revert he
  fun_cases incFut f h <;> intro he <;> cases he
  · exact .inr rfl
  · exact whenAvailable_err ‹_›

mutual
/-- every `tail` in the tree of writers satisfies the invariant -/
def TailsOK : PW → Prop
  | .mk _ _ children tail _ _ _ => TailInv tail ∧ TailsOKList children
def TailsOKList : List PW → Prop
  | [] => True
  | c :: cs => TailsOK c ∧ TailsOKList cs
end

mutual
/-- `checkInvariants` (recursively over the children) accepts such a tree -/
theorem invOK_of_tailsOK : ∀ w : PW, TailsOK w → w.invOK = true
  | .mk _ _ children tail _ _ _, h => by
    simp only [TailsOK] at h
    simp only [PW.invOK, invOKList_of_tailsOK children h.2, depthsOK_of_tailInv h.1, Bool.and_self]
theorem invOKList_of_tailsOK : ∀ cs : List PW, TailsOKList cs → invOKList cs = true
  | [], _ => by simp [invOKList]
  | c :: cs, h => by
    simp only [TailsOKList] at h
    simp only [invOKList, invOK_of_tailsOK c h.1, invOKList_of_tailsOK cs h.2, Bool.and_self]
end

theorem tailsOKList_iff : ∀ cs : List PW, TailsOKList cs ↔ ∀ c ∈ cs, TailsOK c
  | [] => by simp [TailsOKList]
  | c :: cs => by simp [TailsOKList, tailsOKList_iff cs]

theorem tailsOK_iff (w : PW) : TailsOK w ↔ TailInv w.tail ∧ ∀ c ∈ w.children, TailsOK c := by
  obtain ⟨isB, closed, children, tail, npn, npnCb, numPagesCb⟩ := w
  simp only [TailsOK, tailsOKList_iff, PW.tail, PW.children]

theorem TailsOK.tail {w : PW} (h : TailsOK w) : TailInv w.tail := ((tailsOK_iff w).mp h).1

theorem TailsOK.kids {w : PW} (h : TailsOK w) : ∀ c ∈ w.children, TailsOK c := ((tailsOK_iff w).mp h).2

/-- what every `_safe` statement of this file says of a result: an error is no panic of the Go code, a
    returned value satisfies `P` -/
def OkOr {α : Type} (P : α → Prop) (r : Except PErr α) : Prop :=
  match r with
  | .error e => ¬ IsPanic e
  | .ok x => P x

theorem OkOr.err {α : Type} {P : α → Prop} {r : Except PErr α} (h : OkOr P r) {e : PErr} (he : r = .error e) :
    ¬ IsPanic e := by subst he; exact h

theorem OkOr.val {α : Type} {P : α → Prop} {r : Except PErr α} (h : OkOr P r) {x : α} (he : r = .ok x) :
    P x := by subst he; exact h

theorem OkOr.mono {α : Type} {P Q : α → Prop} {r : Except PErr α} (h : OkOr P r) (hPQ : ∀ x, P x → Q x) :
    OkOr Q r := by
  cases r with
  | error e => exact h
  | ok x => exact hPQ x h

theorem not_panic_closed : ¬ IsPanic .closed := by intro h; rcases h with h | h | h <;> cases h
theorem not_panic_dangling : ¬ IsPanic .dangling := HeapErr.not_panic (.inr rfl)

theorem appendHere_safe (id : Nat) (attrs : Attrs) (w : PW) (g : G) (hok : TailsOK w) :
    OkOr (TailsOK ·.1) (appendHere id attrs w g) := by
  obtain ⟨isB, closed, children, tail, npn, npnCb, numPagesCb⟩ := w
  unfold appendHere
  dsimp only
  split
  · exact not_panic_closed
  · split
    · exact not_panic_dangling
    · split
      · rename_i e he; exact (whenAvailableAll_err he).not_panic
      · split
        · rename_i e he; exact (incFut_err he).not_panic
        · rename_i f' h2 hinc
          obtain ⟨tail2, c2, hl, hinv2, _⟩ := append_tail_ok (tail := tail) hok.tail
            { tree := .page id none attrs, count := 1, depth := 0 } rfl g.ctx
          rw [hl]
          simp only
          have hall : TailsOK (PW.mk isB closed children tail2 (some f') [] numPagesCb) :=
            (tailsOK_iff _).mpr ⟨hinv2, hok.kids⟩
          rw [invOK_of_tailsOK _ hall]
          simp only [if_true]
          exact hall

theorem newRangeHere_safe (w : PW) (g : G) (hok : TailsOK w) : OkOr (TailsOK ·.1) (newRangeHere w g) := by
  fun_cases newRangeHere w g
  · exact not_panic_closed
  · exact not_panic_dangling
  · exact (whenAvailable_err ‹_›).not_panic
  · -- the children: the old ones, the tail split off as a `before` writer, the new sub-range
    refine (tailsOK_iff _).mpr ⟨tailInv_nil, fun c hc => ?_⟩
    simp +zetaDelta only [PW.children, append_beforeOf, List.mem_append, List.mem_singleton] at hc
    rcases hc with (hc | hc) | rfl
    · exact hok.kids c hc
    · rw [mem_beforeOf hc]
      exact (tailsOK_iff _).mpr ⟨hok.tail, nofun⟩
    · exact (tailsOK_iff _).mpr ⟨tailInv_nil, nofun⟩

theorem nextPageNumberHere_safe (k : Nat) (w : PW) (g : G) (hok : TailsOK w) :
    OkOr (TailsOK ·.1) (nextPageNumberHere k w g) := by
  fun_cases nextPageNumberHere k w g
  · exact hok
  · exact (tailsOK_iff _).mpr ((tailsOK_iff _).mp hok)

def NodesSafe (r : Except PErr (List PNode × G)) : Prop :=
  match r with
  | .error e => ¬ IsPanic e
  | .ok (nodes', _) => TailInv nodes'

theorem nodesSafe_iff (r : Except PErr (List PNode × G)) : NodesSafe r ↔ OkOr (TailInv ·.1) r := by
  cases r <;> exact Iff.rfl

mutual
/-- **Close never panics**, and the closed writer's `tail` satisfies the invariant -/
theorem close_safe : ∀ (w : PW) (g : G), TailsOK w →
    OkOr (fun r => TailInv r.1.tail ∧ r.1.children = []) (w.close g)
  | .mk isB closed children tail npn npnCb numPagesCb, g, hok => by
    unfold PW.close
    split
    · exact not_panic_closed
    · have hcc := (nodesSafe_iff _).mp
        (closeChildren_safe children [] g ((tailsOKList_iff _).mpr hok.kids) tailInv_nil)
      split
      · rename_i e he; exact hcc.err he
      · rename_i nodes g1 he
        obtain ⟨t1, c2, hm, hinv⟩ := merge_inv (a := nodes) (b := tail) g1.ctx (hcc.val he) hok.tail
        rw [hm]
        simp only
        rw [depthsOK_of_tailInv hinv]
        simp only [Bool.not_true, Bool.false_eq_true, if_false]
        split
        · rename_i e he2; exact (callAll_err he2).not_panic
        · split
          · rename_i e he3; exact (callAll_err he3).not_panic
          · exact ⟨hinv, rfl⟩
theorem closeChildren_safe : ∀ (children : List PW) (nodes : List PNode) (g : G), TailsOKList children →
    TailInv nodes → NodesSafe (closeChildren children nodes g)
  | [], nodes, g, _, hn => by simp only [closeChildren]; exact hn
  | child :: rest, nodes, g, hok, hn => by
    simp only [TailsOKList] at hok
    unfold closeChildren
    split
    · -- already closed: its tail is merged
      obtain ⟨n1, c1, hm, hinv⟩ := merge_inv g.ctx hn hok.1.tail
      rw [hm]
      simp only
      exact closeChildren_safe rest n1 _ hok.2 hinv
    · have hc := close_safe child g hok.1
      split
      · rename_i e he; exact hc.err he
      · rename_i child' g1 he
        obtain ⟨n1, c1, hm, hinv⟩ := merge_inv g1.ctx hn (hc.val he).1
        rw [hm]
        simp only
        exact closeChildren_safe rest n1 _ hok.2 hinv
end

theorem updateAt_safe (f : PW → G → Except PErr (PW × G)) (hf : ∀ w g, TailsOK w → OkOr (TailsOK ·.1) (f w g)) :
    ∀ (path : List Nat) (root : PW) (g : G), TailsOK root → OkOr (TailsOK ·.1) (root.updateAt f path g)
  | [], root, g, hok => by rw [updateAt_nil]; exact hf root g hok
  | i :: rest, .mk isB closed children tail npn npnCb numPagesCb, g, hok => by
    unfold PW.updateAt
    split
    · exact not_panic_closed
    · rename_i j hs
      split
      · exact not_panic_closed
      · rename_i child hj
        have := updateAt_safe f hf rest child g (hok.kids child (List.mem_of_getElem? hj))
        split
        · rename_i e he; exact this.err he
        · rename_i child' g' he
          exact (tailsOK_iff _).mpr ⟨hok.tail, fun x hx =>
            (List.mem_or_eq_of_mem_set hx).elim (hok.kids x) (· ▸ this.val he)⟩

theorem closeRoot_safe (w : PW) (g : G) (hok : TailsOK w) : OkOr (TailsOK ·.1) (closeRoot w g) := by
  have hc := close_safe w g hok
  unfold closeRoot
  split
  · rename_i e he; exact hc.err he
  · rename_i w1 g1 he
    replace hc := hc.val he
    simp only at hc
    obtain ⟨t, c', hcol, _⟩ := collapse_ok hc.1 g1.ctx
    rw [hcol]
    simp only
    obtain ⟨isB, cl, ch, t1, npn, cb, np⟩ := w1
    simp only
    split <;> exact (tailsOK_iff _).mpr ⟨tailInv_nil, by rw [show ch = [] from hc.2]; nofun⟩

theorem opHere_safe (op : POp) (w : PW) (g : G) (hok : TailsOK w) : OkOr (TailsOK ·.1) (opHere op w g) := by
  cases op with
  | append p id a => exact appendHere_safe id a w g hok
  | newRange p => exact newRangeHere_safe w g hok
  | close p => exact (close_safe w g hok).mono fun x h => (tailsOK_iff _).mpr ⟨h.1, by rw [h.2]; nofun⟩
  | nextPageNumber p k => exact nextPageNumberHere_safe k w g hok

theorem step_safe (s : PState) (op : POp) (hok : TailsOK s.root) : OkOr (TailsOK ·.1.root) (step s op) := by
  by_cases hop : op = .close []
  · subst hop
    have := closeRoot_safe s.root s.g hok
    rw [step_closeRoot]
    split
    · exact hok
    · rename_i e hne he; exact this.err he
    · rename_i r g t he; exact this.val he
    · rename_i r g he; exact this.val he
  · have := updateAt_safe (opHere op) (opHere_safe op) (opPath op) s.root s.g hok
    rw [step_eq s op hop]
    split
    · cases op <;> exact hok
    · rename_i e hne he; exact this.err he
    · rename_i r g he; exact this.val he

theorem run_safe : ∀ (ops : List POp) (s : PState), TailsOK s.root → OkOr (TailsOK ·.1.root) (run s ops)
  | [], s, hok => by simp only [run]; exact hok
  | op :: rest, s, hok => by
    have h1 := step_safe s op hok
    simp only [run]
    split
    · rename_i e he; exact h1.err he
    · rename_i s1 o he
      have h2 := run_safe rest s1 (h1.val he)
      split
      · rename_i e he2; exact h2.err he2
      · rename_i s2 os he2; exact h2.val (x := (s2, os)) he2

/-- **C16, depth invariant: the internal panics are unreachable.**  For every program (any
    interleaving of AppendPage, NewRange, Close, NextPageNumber on nested writers, including
    operations on closed writers and repeated Close), every choice of hints and both version
    classes: the run never ends in `mergeNodes`' range panic, an index out of range, or a
    `checkInvariants` panic, and every `tail` of every writer satisfies `TailInv` (depths weakly
    decrease, fewer than `maxDegree` nodes per depth) after every operation.  The statement does
    not exclude the model-only results `.fuel` and `.dangling` (`PErr`: "never on reachable
    states"): for the tree loops that is `appendLoop_inv`, `collapse_inv`, `merge_inv`, used in the
    proof; for the futureInt code it is shown only under `HeapInv` (`Props/C16trsd.lean`, `cascade`). -/
theorem no_panic (old : Bool) (hints : List Hint) (ops : List POp) :
    (∀ e, run (PState.init old hints) ops = .error e → ¬ IsPanic e) ∧
    (∀ s outs, run (PState.init old hints) ops = .ok (s, outs) → TailsOK s.root) := by
  have h := run_safe ops (PState.init old hints)
    ((tailsOK_iff _).mpr ⟨tailInv_nil, nofun⟩)
  exact ⟨fun e he => h.err he, fun s outs he => h.val he⟩

end PdfVerif.C16trsb
