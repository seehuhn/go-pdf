import PdfVerif.Model.CCCMap
import PdfVerif.Props.C12ccf
/-!
# C13 (part 13) — the code space of a parent chain is the union of its levels

`File.Codec()` builds its codec from the concatenation of the code space ranges of the file and
all its ancestors (`chainCodeSpace`).  A byte string is a code of the chain's code space iff it is
a code of the code space of some level, and the chain's codec decodes exactly as ISO 32000-2
9.7.6.3 prescribes for that union — whatever code space each level declares.
-/
namespace PdfVerif.C13ccm
open PdfVerif PdfVerif.CC PdfVerif.C12cc PdfVerif.C12ccf

theorem chainCodeSpace_cons (f : CMapFile) (parents : Chain) :
    chainCodeSpace (f :: parents) = f.csr ++ chainCodeSpace parents := by
  simp [chainCodeSpace]

theorem isCodeOf_flatMap {α : Type} (f : α → CSR) (l : List α) (bs : Bytes) :
    IsCodeOf (l.flatMap f) bs ↔ ∃ g ∈ l, IsCodeOf (f g) bs := by
  simp only [IsCodeOf, List.mem_flatMap]
  constructor
  · rintro ⟨r, ⟨g, hg, hr⟩, hc⟩; exact ⟨g, hg, r, hr, hc⟩
  · rintro ⟨g, hg, r, hr, hc⟩; exact ⟨r, ⟨g, hg, hr⟩, hc⟩

/-- the code space `File.Codec()` uses is the union of the code spaces of the levels of the chain -/
theorem isCodeOf_chain (chain : Chain) (bs : Bytes) :
    IsCodeOf (chainCodeSpace chain) bs ↔ ∃ g ∈ chain, IsCodeOf g.csr bs :=
  isCodeOf_flatMap _ chain bs

/-- `File.Codec()` decodes like the reference semantics of the union of all levels -/
theorem chainCodec_decode_spec (chain : Chain) (c : Codec) (hC : chainCodec chain = .ok c)
    (s : Bytes) (hs : AllBytes s) :
    c.decode s = .ok (Spec.CodeSpace.codeValue (s.take (Spec.CodeSpace.decode (toSpec (chainCodeSpace chain)) s).1),
      (Spec.CodeSpace.decode (toSpec (chainCodeSpace chain)) s).1,
      (Spec.CodeSpace.decode (toSpec (chainCodeSpace chain)) s).2) :=
  C12ccc.newCodec_decode_spec (chainCodeSpace chain) c hC s hs

/-- `File.Codec()` succeeds only if no code of any level is a proper prefix of a code of any
level (in particular: levels with conflicting code spaces are rejected as a whole) -/
theorem chainCodec_prefixFree (chain : Chain) (c : Codec) (hC : chainCodec chain = .ok c)
    (hbytes : ∀ g ∈ chain, ∀ r ∈ g.csr, AllBytes r.high) :
    Spec.CodeSpace.PrefixFree (toSpec (chainCodeSpace chain)) := by
  refine (C12cce.newCodec_prefixFree (chainCodeSpace chain) c hC ?_).2
  intro r hr
  simp only [chainCodeSpace, List.mem_flatMap] at hr
  obtain ⟨g, hg, hr⟩ := hr
  exact hbytes g hg r hr

end PdfVerif.C13ccm
