import PdfVerif.Props.C12ccb
/-!
# C12 (part 3) — descriptors and the lineariser

`desc_injective`: equal descriptors ⇒ equal sub-trees.  `linearize_repr`: the node array built
by `linearize` (sharing sub-trees by descriptor) represents the tree of `newTree`, whenever
`NewCodec` accepts it (`index_fits`: at most `maxNodes` nodes).  Together with part 2 this
gives `newCodec_decode_spec`, which asks nothing of the node array.  `fillTotal_all`: the loops of `AppendNodes`
always return, and give up early only above the node limit.
-/
namespace PdfVerif.C12ccc
open PdfVerif PdfVerif.CC PdfVerif.C12cc PdfVerif.C12ccb

theorem desc_valid : Node.valid.desc = [Gen.cc_descValidBegin, Gen.cc_descValidEnd] := rfl
theorem desc_invalid (k : Nat) : (Node.invalid k).desc = [Gen.cc_descInvalid, k % 256] := rfl
theorem desc_sub (cs : List (Nat × Node)) :
    (Node.sub cs).desc = Gen.cc_descValidBegin :: (kidsDesc cs ++ [Gen.cc_descValidEnd]) := rfl
theorem kidsDesc_nil : kidsDesc [] = [] := rfl
theorem kidsDesc_cons (hi : Nat) (n : Node) (rest : List (Nat × Node)) :
    kidsDesc ((hi, n) :: rest) = n.desc ++ (hi :: kidsDesc rest) := rfl

/-- a node's descriptor starts with `cc_descInvalid` or `cc_descValidBegin`, never with `cc_descValidEnd` -/
theorem desc_head (n : Node) : ∃ t, n.desc = 0 :: t ∨ n.desc = 1 :: t := by
  cases n with
  | valid => exact ⟨[Gen.cc_descValidEnd], Or.inr (by simp [desc_valid, Gen.cc_descValidBegin])⟩
  | invalid k => exact ⟨[k % 256], Or.inl (by simp [desc_invalid, Gen.cc_descInvalid])⟩
  | sub cs => exact ⟨kidsDesc cs ++ [Gen.cc_descValidEnd], Or.inr (by simp [desc_sub, Gen.cc_descValidBegin])⟩

theorem kidsDesc_cons_ne (kid : Nat × Node) (rest : List (Nat × Node)) (t t' : Bytes) :
    kidsDesc (kid :: rest) ++ t ≠ Gen.cc_descValidEnd :: t' := by
  obtain ⟨hi, n⟩ := kid
  obtain ⟨u, hu | hu⟩ := desc_head n <;> simp [kidsDesc_cons, hu, Gen.cc_descValidEnd]

mutual
/-- descriptors form a prefix code.  The remainders `r1`, `r2` are carried to peel `kidsDesc` child by child.  `wf` is
needed: `(Node.sub []).desc = Node.valid.desc`, and an invalid leaf stores only `k % 256`. -/
theorem desc_prefix (n1 n2 : Node) (r1 r2 : Bytes) (h1 : n1.wf = true) (h2 : n2.wf = true)
    (h : n1.desc ++ r1 = n2.desc ++ r2) : n1 = n2 ∧ r1 = r2 := by
  match n1, n2 with
  | .valid, .valid => simp [desc_valid] at h; exact ⟨rfl, h⟩
  | .valid, .invalid k => simp [desc_valid, desc_invalid, Gen.cc_descValidBegin, Gen.cc_descInvalid] at h
  | .invalid k, .valid => simp [desc_valid, desc_invalid, Gen.cc_descValidBegin, Gen.cc_descInvalid] at h
  | .invalid k1, .invalid k2 =>
    simp only [Node.wf, decide_eq_true_eq] at h1 h2
    simp only [desc_invalid, List.cons_append, List.nil_append, List.cons.injEq, true_and] at h
    have : k1 = k2 := by omega
    exact ⟨by rw [this], h.2⟩
  | .valid, .sub cs =>
    simp only [Node.wf, Bool.and_eq_true, Bool.not_eq_true', List.isEmpty_eq_false_iff] at h2
    obtain ⟨kid, rest, rfl⟩ := List.exists_cons_of_ne_nil h2.1
    simp only [desc_valid, desc_sub, List.cons_append, List.nil_append, List.cons.injEq, true_and, List.append_assoc] at h
    exact absurd h.symm (kidsDesc_cons_ne kid rest _ _)
  | .sub cs, .valid =>
    simp only [Node.wf, Bool.and_eq_true, Bool.not_eq_true', List.isEmpty_eq_false_iff] at h1
    obtain ⟨kid, rest, rfl⟩ := List.exists_cons_of_ne_nil h1.1
    simp only [desc_valid, desc_sub, List.cons_append, List.nil_append, List.cons.injEq, true_and, List.append_assoc] at h
    exact absurd h (kidsDesc_cons_ne kid rest _ _)
  | .invalid k, .sub cs => simp [desc_invalid, desc_sub, Gen.cc_descValidBegin, Gen.cc_descInvalid] at h
  | .sub cs, .invalid k => simp [desc_invalid, desc_sub, Gen.cc_descValidBegin, Gen.cc_descInvalid] at h
  | .sub cs1, .sub cs2 =>
    simp only [Node.wf, Bool.and_eq_true] at h1 h2
    simp only [desc_sub, List.cons_append, List.cons.injEq, true_and, List.append_assoc] at h
    have := kidsDesc_prefix cs1 cs2 r1 r2 h1.2 h2.2 h
    exact ⟨by rw [this.1], this.2⟩
theorem kidsDesc_prefix (cs1 cs2 : List (Nat × Node)) (r1 r2 : Bytes) (h1 : kidsWf cs1 = true) (h2 : kidsWf cs2 = true)
    (h : kidsDesc cs1 ++ (Gen.cc_descValidEnd :: r1) = kidsDesc cs2 ++ (Gen.cc_descValidEnd :: r2)) :
    cs1 = cs2 ∧ r1 = r2 := by
  match cs1, cs2 with
  | [], [] => simp [kidsDesc_nil] at h; exact ⟨rfl, h⟩
  | [], kid :: rest => exact absurd h.symm (kidsDesc_cons_ne kid rest _ _)
  | kid :: rest, [] => exact absurd h (kidsDesc_cons_ne kid rest _ _)
  | (hi1, n1) :: rest1, (hi2, n2) :: rest2 =>
    simp only [kidsWf, Bool.and_eq_true] at h1 h2
    simp only [kidsDesc_cons, List.append_assoc, List.cons_append] at h
    have := desc_prefix n1 n2 _ _ h1.1 h2.1 h
    obtain ⟨e1, e2⟩ := this
    simp only [List.cons.injEq] at e2
    have := kidsDesc_prefix rest1 rest2 r1 r2 h1.2 h2.2 e2.2
    exact ⟨by rw [e1, e2.1, this.1], this.2⟩
end

/-- Equal descriptors ⇒ equal sub-trees (hence equal semantics): sharing nodes by descriptor in
the lineariser never merges sub-trees that behave differently.  It rests on the invalid gaps being
part of the descriptor (defect D2 of DESIGN.md §8: a descriptor without them is not injective). -/
theorem desc_injective (n1 n2 : Node) (h1 : n1.wf = true) (h2 : n2.wf = true) (h : n1.desc = n2.desc) :
    n1 = n2 := by
  have := desc_prefix n1 n2 [] [] h1 h2 (by simp [h])
  exact this.1

/-- ghost state of the lineariser: every group of nodes laid out so far, as (index of its first node, the child
list it stands for) -/
abbrev Groups := List (Nat × List (Nat × Node))

/-- the child value `c` stands for the node `n`: `childOK` with the recursion through `reprOK` replaced by a look-up
in `groups`, because a group is registered while its own slots are still being filled (`reprOK_of` gets `reprOK` back
at the end).  The special values and the node limit are written out as numbers, here and in the statements about the
fill loop; `cc_validLeaf_eq`, `cc_invalidConsume0_eq`, `cc_maxNodes_eq` tie them to the constants. -/
def ChildOKg (groups : Groups) : Node → Nat → Prop
  | .valid, c => c = 0
  | .invalid k, c => k ≤ 3 ∧ c = 65535 - k
  | .sub cs, c => c ≠ 0 ∧ c < 65532 ∧ (c, cs) ∈ groups

theorem cc_validLeaf_eq : Gen.cc_validLeaf = 0 := rfl
theorem cc_invalidConsume0_eq : Gen.cc_invalidConsume0 = 65535 := rfl
theorem cc_maxNodes_eq : Gen.cc_maxNodes = 65532 := rfl

/-- `reprOK` for one group, with `ChildOKg` for the children: the group may point to groups that are still being filled -/
def SlotsOK (nodes : List LNode) (groups : Groups) (idx : Nat) (cs : List (Nat × Node)) : Prop :=
  ∀ j kid, cs[j]? = some kid →
    ∃ ln, nodes[idx + j]? = some ln ∧ ln.bound = kid.1 ∧ ChildOKg groups kid.2 ln.child

/-- the invariant of the lineariser.  `done`: a descriptor is mapped only to a child value that stands for the node with
that descriptor (one node, by `desc_injective`: `Inv.register`); `leafV`, `leafI`: the leaves are registered from the
start, so an unknown descriptor belongs to a sub-tree -/
structure Inv (l : Lin) (groups : Groups) : Prop where
  ok : ∀ g ∈ groups, SlotsOK l.nodes groups g.1 g.2 ∧ g.1 + g.2.length ≤ l.nodes.length
  done : ∀ d c, lookupDesc d l.done = some c → ∀ n, n.wf = true → n.desc = d → ChildOKg groups n c
  leafV : (lookupDesc Node.valid.desc l.done).isSome = true
  leafI : ∀ k, k ≤ 3 → (lookupDesc (Node.invalid k).desc l.done).isSome = true

theorem ChildOKg_mono (g1 g2 : Groups) (h : ∀ g ∈ g1, g ∈ g2) (n : Node) (c : Nat) :
    ChildOKg g1 n c → ChildOKg g2 n c := by
  cases n with
  | valid => exact id
  | invalid k => exact id
  | sub cs => intro ⟨a, b, c'⟩; exact ⟨a, b, h _ c'⟩

theorem SlotsOK_mono (nodes : List LNode) (g1 g2 : Groups) (h : ∀ g ∈ g1, g ∈ g2) (idx : Nat)
    (cs : List (Nat × Node)) : SlotsOK nodes g1 idx cs → SlotsOK nodes g2 idx cs := by
  intro hs j kid hk
  obtain ⟨ln, a, b, c⟩ := hs j kid hk
  exact ⟨ln, a, b, ChildOKg_mono g1 g2 h _ _ c⟩

theorem setChild_length (nodes : List LNode) (i c : Nat) : (setChild nodes i c).length = nodes.length := by
  unfold setChild; split <;> simp

theorem setChild_ne (nodes : List LNode) (i c p : Nat) (h : p ≠ i) : (setChild nodes i c)[p]? = nodes[p]? := by
  unfold setChild; split
  · rw [List.getElem?_set_ne (by omega)]
  · rfl

theorem setChild_eq (nodes : List LNode) (i c : Nat) (ln : LNode) (h : nodes[i]? = some ln) :
    (setChild nodes i c)[i]? = some { ln with child := c } := by
  unfold setChild
  rw [h]
  have : i < nodes.length := (List.getElem?_eq_some_iff.mp h).1
  simp [List.getElem?_set_self this]

theorem lookupDesc_cons (k d : Bytes) (v : Nat) (rest : List (Bytes × Nat)) :
    lookupDesc d ((k, v) :: rest) = if k == d then some v else lookupDesc d rest := rfl

theorem fillKids_cons (l : Lin) (base i hi : Nat) (n : Node) (rest : List (Nat × Node)) :
    fillKids l base i ((hi, n) :: rest) =
      match lookupDesc n.desc l.done with
      | some idx => fillKids { l with nodes := setChild l.nodes (base + i) idx } base (i + 1) rest
      | none =>
        match appendNodes l n.kids with
        | .error e => .error e
        | .ok (l', childPos) =>
          if l'.nodes.length > Gen.cc_maxNodes then .ok (l', true)
          else if childPos ≤ base + i then .error .panic
          else
            fillKids { nodes := setChild l'.nodes (base + i) childPos,
                       done := (n.desc, childPos) :: l'.done } base (i + 1) rest := by
  cases n <;> simp only [fillKids, Node.kids] <;> rfl

/-- the recursion of `fillKids` through `appendNodes` -/
theorem kids_induction {P : List (Nat × Node) → Prop} (nil : P [])
    (cons : ∀ hi n rest, P n.kids → P rest → P ((hi, n) :: rest)) (cs : List (Nat × Node)) : P cs :=
  Node.rec_1 (motive_1 := fun n => P n.kids) (motive_2 := P) (motive_3 := fun kid => P kid.2.kids)
    nil (fun _ => nil) (fun _ h => h) nil (fun kid rest h1 h2 => cons kid.1 kid.2 rest h1 h2)
    (fun _ _ h => h) cs

mutual
/-- an upper bound for the nodes that `AppendNodes` creates below a node: one per child of every
sub-tree (fewer when sub-trees are shared).  Only `newCodec_ok_of_size` and the `example` after it use the bound (the last
conjunct of `FillTotal` and of `appendNodes_total`): `appendNodes` does not evaluate in the kernel. -/
def nodeSize : Node → Nat
  | .sub cs => cs.length + kidsSize cs
  | _ => 0
def kidsSize : List (Nat × Node) → Nat
  | [] => 0
  | (_, n) :: rest => nodeSize n + kidsSize rest
end

theorem nodeSize_eq (n : Node) : nodeSize n = n.kids.length + kidsSize n.kids := by
  cases n <;> simp [nodeSize, kidsSize, Node.kids]

/-- the fill loop returns; it gives up (`a`) only above the node limit; it creates at most `kidsSize rest` nodes -/
abbrev FillTotal (rest : List (Nat × Node)) : Prop :=
  ∀ (l : Lin) (base i : Nat), base + i + rest.length ≤ l.nodes.length →
    ∃ l' a, fillKids l base i rest = .ok (l', a) ∧ l.nodes.length ≤ l'.nodes.length ∧
      (a = true → l'.nodes.length > 65532) ∧ l'.nodes.length ≤ l.nodes.length + kidsSize rest

/-- the third conjunct is the hinge to `FillInv`: below the node limit the call ended in the exit
`fillKids … = .ok (l', false)` with the new group at the old end -/
theorem appendNodes_total (cs : List (Nat × Node)) (ih : FillTotal cs) (l : Lin) :
    ∃ l' idx, appendNodes l cs = .ok (l', idx) ∧ l.nodes.length + cs.length ≤ l'.nodes.length ∧
      (l'.nodes.length ≤ 65532 → idx = l.nodes.length ∧
        fillKids { l with nodes := l.nodes ++ cs.map fun c => ⟨c.1, 0⟩ } l.nodes.length 0 cs = .ok (l', false)) ∧
      l'.nodes.length ≤ l.nodes.length + cs.length + kidsSize cs := by
  -- what the fill loop gives on the reserved slots
  obtain ⟨l1, a, h1, h2, h3, h4⟩ := ih { l with nodes := l.nodes ++ cs.map fun c => ⟨c.1, 0⟩ } l.nodes.length 0 (by simp)
  simp only [List.length_append, List.length_map] at h2 h4
  fun_cases appendNodes l cs with
  | case1 base hov =>
    refine ⟨_, _, rfl, by simp, ?_, by simp⟩
    intro h; simp [base, cc_maxNodes_eq] at hov h; omega
  | case2 base hov e he => rw [h1] at he; cases he
  | case3 base hov l' hf =>
    rw [h1] at hf; cases hf
    exact ⟨l1, 0, rfl, h2, fun h => by have := h3 rfl; omega, h4⟩
  | case4 base hov l' a' hf ha =>
    rw [h1] at hf; cases hf
    simp only [base, cc_maxNodes_eq, Nat.not_lt] at hov
    have ha' : a = false := by simpa using ha
    exact ⟨l1, _, rfl, h2, fun _ => ⟨Nat.mod_eq_of_lt (by omega), ha' ▸ h1⟩, h4⟩

theorem fillTotal_all : ∀ rest, FillTotal rest := by
  refine kids_induction ?_ ?_
  · intro l base i _
    exact ⟨l, false, by simp [fillKids], Nat.le_refl _, by simp, by simp [kidsSize]⟩
  · intro hi n rest' ihn ih l base i hb
    simp only [List.length_cons] at hb
    rw [fillKids_cons]
    simp only [kidsSize, nodeSize_eq]
    cases hlk : lookupDesc n.desc l.done with
    | some idx =>
      simp only
      obtain ⟨l', a, h1, h2, h3, h4⟩ := ih { l with nodes := setChild l.nodes (base + i) idx } base (i + 1)
        (by simp only [setChild_length]; omega)
      simp only [setChild_length] at h2 h4
      exact ⟨l', a, h1, h2, h3, by omega⟩
    | none =>
      obtain ⟨l1, cp, a1, a2, a3, a4⟩ := appendNodes_total n.kids ihn l
      rw [a1]
      by_cases hgt : l1.nodes.length > Gen.cc_maxNodes
      · exact ⟨l1, true, if_pos hgt, by omega, fun _ => cc_maxNodes_eq ▸ hgt, by omega⟩
      · -- the new group starts behind the slot being filled: the `panic("unreachable")` is not reached
        have hcp := (a3 (cc_maxNodes_eq ▸ Nat.not_lt.mp hgt)).1
        have hpos : ¬ (cp ≤ base + i) := by omega
        simp only [if_neg hgt, if_neg hpos]
        obtain ⟨l', a, h1, h2, h3, h4⟩ := ih
          { nodes := setChild l1.nodes (base + i) cp, done := (n.desc, cp) :: l1.done } base (i + 1)
          (by simp only [setChild_length]; omega)
        simp only [setChild_length] at h2 h4
        exact ⟨l', a, h1, by omega, h3, by omega⟩

theorem SlotsOK_congr {nodes nodes' : List LNode} {groups : Groups} {idx : Nat} {cs : List (Nat × Node)}
    (h : ∀ j, j < cs.length → nodes'[idx + j]? = nodes[idx + j]?) (hs : SlotsOK nodes groups idx cs) :
    SlotsOK nodes' groups idx cs := by
  intro j kid hk
  obtain ⟨ln, e1, e2, e3⟩ := hs j kid hk
  exact ⟨ln, by rw [h j (List.getElem?_eq_some_iff.mp hk).1]; exact e1, e2, e3⟩

theorem Inv.frame {l : Lin} {groups : Groups} (hinv : Inv l groups) (nodes' : List LNode)
    (hlen : l.nodes.length ≤ nodes'.length)
    (h : ∀ g ∈ groups, ∀ j, j < g.2.length → nodes'[g.1 + j]? = l.nodes[g.1 + j]?) :
    Inv { l with nodes := nodes' } groups :=
  ⟨fun g hg => ⟨SlotsOK_congr (h g hg) (hinv.ok g hg).1, Nat.le_trans (hinv.ok g hg).2 hlen⟩,
    hinv.done, hinv.leafV, hinv.leafI⟩

/-- a descriptor may be registered under a child value that stands for its node: by
`desc_injective` the entry speaks of no other node -/
theorem Inv.register {l : Lin} {groups : Groups} (hinv : Inv l groups) (n : Node) (hn : n.wf = true) (c : Nat)
    (hc : ChildOKg groups n c) : Inv { l with done := (n.desc, c) :: l.done } groups := by
  refine ⟨hinv.ok, ?_, ?_, ?_⟩
  · intro d c' hd n' hn' he
    rw [lookupDesc_cons] at hd
    split at hd
    · rename_i heq
      cases hd
      have hdeq : n.desc = d := by simpa using heq
      rw [desc_injective n' n hn' hn (by rw [he, hdeq])]
      exact hc
    · exact hinv.done d c' hd n' hn' he
  · show (lookupDesc _ ((n.desc, c) :: l.done)).isSome = true
    rw [lookupDesc_cons]; split; rfl; exact hinv.leafV
  · intro k hk
    show (lookupDesc _ ((n.desc, c) :: l.done)).isSome = true
    rw [lookupDesc_cons]; split; rfl; exact hinv.leafI k hk

theorem Inv.addGroup {l : Lin} {groups : Groups} (hinv : Inv l groups) (idx : Nat) (cs : List (Nat × Node))
    (hs : SlotsOK l.nodes groups idx cs) (hb : idx + cs.length ≤ l.nodes.length) :
    Inv l ((idx, cs) :: groups) := by
  have hsub : ∀ g ∈ groups, g ∈ (idx, cs) :: groups := fun g hg => List.mem_cons_of_mem _ hg
  refine ⟨?_, fun d c hd n hn he => ChildOKg_mono groups _ hsub _ _ (hinv.done d c hd n hn he),
    hinv.leafV, hinv.leafI⟩
  intro g hg
  rcases List.mem_cons.mp hg with rfl | hg
  · exact ⟨SlotsOK_mono _ groups _ hsub _ _ hs, hb⟩
  · exact ⟨SlotsOK_mono _ groups _ hsub _ _ (hinv.ok g hg).1, (hinv.ok g hg).2⟩

/-- below the old end only the nodes in the window `lo … hi - 1` may differ -/
structure Ext (nodes : List LNode) (groups : Groups) (lo hi : Nat) (nodes' : List LNode) (groups' : Groups) : Prop where
  sub : ∀ g ∈ groups, g ∈ groups'
  new : ∀ g ∈ groups', g ∈ groups ∨ nodes.length ≤ g.1
  keep : ∀ p, p < nodes.length → (p < lo ∨ hi ≤ p) → nodes'[p]? = nodes[p]?
  len : nodes.length ≤ nodes'.length

theorem Ext.refl (nodes : List LNode) (groups : Groups) (lo hi : Nat) : Ext nodes groups lo hi nodes groups :=
  ⟨fun _ h => h, fun _ h => .inl h, fun _ _ _ => rfl, Nat.le_refl _⟩

/-- two extensions in a row, seen through a window that contains both of theirs -/
theorem Ext.trans {n n1 n2 : List LNode} {g g1 g2 : Groups} {lo1 hi1 lo2 hi2 : Nat} (lo hi : Nat)
    (e1 : Ext n g lo1 hi1 n1 g1) (e2 : Ext n1 g1 lo2 hi2 n2 g2)
    (h1 : ∀ p, p < n.length → (p < lo ∨ hi ≤ p) → (p < lo1 ∨ hi1 ≤ p))
    (h2 : ∀ p, p < n.length → (p < lo ∨ hi ≤ p) → (p < lo2 ∨ hi2 ≤ p)) : Ext n g lo hi n2 g2 :=
  ⟨fun x hx => e2.sub x (e1.sub x hx),
    fun x hx => (e2.new x hx).elim (e1.new x) fun h => .inr (Nat.le_trans e1.len h),
    fun p hp ho => by rw [e2.keep p (Nat.lt_of_lt_of_le hp e1.len) (h2 p hp ho), e1.keep p hp (h1 p hp ho)],
    Nat.le_trans e1.len e2.len⟩

theorem Ext.setChild (nodes : List LNode) (groups : Groups) (i c : Nat) :
    Ext nodes groups i (i + 1) (setChild nodes i c) groups :=
  ⟨fun _ h => h, fun _ h => .inl h, fun p _ ho => setChild_ne _ _ _ _ (by omega), by simp [setChild_length]⟩

/-- the slots `base + i …` of the group under construction hold the bounds of `rest` already and lie outside all registered
groups; `l'.nodes.length ≤ 65532` makes the non-aborted exit the only one; after the loop the slots stand for `rest`, and
nothing else below the old end has changed -/
abbrev FillInv (rest : List (Nat × Node)) : Prop :=
  ∀ (l l' : Lin) (base i : Nat) (groups : Groups), Inv l groups → kidsWf rest = true →
    (∀ j kid, rest[j]? = some kid → ∃ ln, l.nodes[base + i + j]? = some ln ∧ ln.bound = kid.1) →
    (∀ g ∈ groups, g.1 + g.2.length ≤ base ∨ base + i + rest.length ≤ g.1) →
    base + i + rest.length ≤ l.nodes.length →
    fillKids l base i rest = .ok (l', false) → l'.nodes.length ≤ 65532 →
    ∃ groups', Inv l' groups' ∧ SlotsOK l'.nodes groups' (base + i) rest ∧
      Ext l.nodes groups (base + i) (base + i + rest.length) l'.nodes groups'

theorem appendNodes_inv (cs : List (Nat × Node)) (ih : FillInv cs) (l l' : Lin) (idx : Nat) (groups : Groups)
    (hinv : Inv l groups) (hwf : kidsWf cs = true)
    (h : appendNodes l cs = .ok (l', idx)) (hsz : l'.nodes.length ≤ 65532) :
    ∃ groups', Inv l' groups' ∧ (idx, cs) ∈ groups' ∧ idx = l.nodes.length ∧ Ext l.nodes groups 0 0 l'.nodes groups' := by
  obtain ⟨_, _, e, _, hok, _⟩ := appendNodes_total cs (fillTotal_all cs) l
  rw [h] at e; cases e
  obtain ⟨rfl, hfill⟩ := hok hsz
  -- the reserved slots, appended behind the old nodes
  have e0 : Ext l.nodes groups 0 0 (l.nodes ++ cs.map fun c => ⟨c.1, 0⟩) groups :=
    ⟨fun _ h => h, fun _ h => .inl h, fun p hp _ => List.getElem?_append_left hp, by simp⟩
  have hinv0 := hinv.frame _ e0.len fun g hg j hj => e0.keep _ (by have := (hinv.ok g hg).2; omega) (.inr (Nat.zero_le _))
  obtain ⟨groups1, i1, i3, e1⟩ := ih _ l' l.nodes.length 0 groups hinv0 hwf
    (by
      intro j kid hk
      have hj : j < cs.length := (List.getElem?_eq_some_iff.mp hk).1
      refine ⟨⟨kid.1, 0⟩, ?_, rfl⟩
      simp only [Nat.add_zero]
      rw [List.getElem?_append_right (by omega)]
      simp [hk])
    (fun g hg => .inl (hinv.ok g hg).2)
    (by simp)
    hfill hsz
  have e2 := e0.trans 0 0 e1 (fun _ _ h => h) (fun p hp _ => .inl (by omega))
  have hlen := e1.len
  simp only [List.length_append, List.length_map] at hlen
  exact ⟨(l.nodes.length, cs) :: groups1, i1.addGroup _ _ (by simpa using i3) hlen, List.mem_cons_self, rfl,
    fun g hg => List.mem_cons_of_mem _ (e2.sub g hg),
    fun g hg => (List.mem_cons.mp hg).elim (fun h => .inr (h ▸ Nat.le_refl _)) (e2.new g), e2.keep, e2.len⟩

theorem fillInv_all : ∀ rest, FillInv rest := by
  refine kids_induction ?_ ?_
  · intro l l' base i groups hinv _ _ _ _ h _
    simp only [fillKids] at h
    injection h with h; injection h with h1 h2; subst h1
    exact ⟨groups, hinv, by intro j kid hk; simp at hk, Ext.refl _ _ _ _⟩
  · intro hi n rest' ihn ih l l' base i groups hinv hwf hslots hdisj hbound h hsz
    simp only [kidsWf, Bool.and_eq_true] at hwf
    obtain ⟨hnwf, hwf'⟩ := hwf
    simp only [List.length_cons] at hdisj hbound
    obtain ⟨ln0, hln0, hb0⟩ := hslots 0 (hi, n) (by simp)
    simp only [Nat.add_zero] at hln0 hb0
    have hslot_lt : base + i < l.nodes.length := by omega
    rw [fillKids_cons] at h
    -- the child value `c` that the loop writes for `n`, and the state `l1`, `done'` it was found or
    -- built in; in both cases the loop goes on with slot `base + i` set to `c`
    obtain ⟨l1, groups1, c, done', hinv1, e1, hc, hrest⟩ :
        ∃ (l1 : Lin) (groups1 : Groups) (c : Nat) (done' : List (Bytes × Nat)),
          Inv ⟨l1.nodes, done'⟩ groups1 ∧ Ext l.nodes groups 0 0 l1.nodes groups1 ∧ ChildOKg groups1 n c ∧
          fillKids ⟨setChild l1.nodes (base + i) c, done'⟩ base (i + 1) rest' = .ok (l', false) := by
      cases hlk : lookupDesc n.desc l.done with
      | some idx =>
        -- a descriptor seen before: share the sub-tree
        simp only [hlk] at h
        exact ⟨l, groups, idx, l.done, hinv, Ext.refl _ _ _ _, hinv.done _ _ hlk n hnwf rfl, h⟩
      | none =>
        -- a new descriptor: `n` is not a leaf (leaves are pre-registered)
        simp only [hlk] at h
        cases n with
        | valid => have := hinv.leafV; simp [hlk] at this
        | invalid k =>
          simp only [Node.wf, decide_eq_true_eq] at hnwf
          have := hinv.leafI k hnwf; simp [hlk] at this
        | sub cs' =>
          simp only [Node.wf, Bool.and_eq_true, Bool.not_eq_true', List.isEmpty_eq_false_iff] at hnwf
          simp only [Node.kids] at h
          cases happ : appendNodes l cs' with
          | error e => rw [happ] at h; cases h
          | ok p =>
            obtain ⟨l1, childPos⟩ := p
            rw [happ] at h
            simp only at h
            by_cases hsz1 : l1.nodes.length > Gen.cc_maxNodes
            · rw [if_pos hsz1] at h; injection h with h; injection h with h1 h2; cases h2
            · rw [if_neg hsz1] at h
              simp only [cc_maxNodes_eq, Nat.not_lt] at hsz1
              by_cases hpos : childPos ≤ base + i
              · rw [if_pos hpos] at h; cases h
              · rw [if_neg hpos] at h
                obtain ⟨groups1, a1, a3, a4, e1⟩ := appendNodes_inv cs' ihn l l1 childPos groups hinv hnwf.2 happ hsz1
                have hcp : childPos + cs'.length ≤ l1.nodes.length := (a1.ok _ a3).2
                have hcs' : 0 < cs'.length := List.length_pos_iff.mpr hnwf.1
                have hc : ChildOKg groups1 (.sub cs') childPos := ⟨by omega, by omega, a3⟩
                exact ⟨l1, groups1, childPos, _, a1.register (.sub cs') (by simp [Node.wf, hnwf]) childPos hc, e1, hc, h⟩
    -- a group registered so far lies outside the slots of the group under construction
    have hout : ∀ g ∈ groups1, g.1 + g.2.length ≤ base ∨ base + i + (rest'.length + 1) ≤ g.1 := fun g hg =>
      (e1.new g hg).elim (hdisj g) fun d => .inr (by omega)
    have e2 := Ext.setChild l1.nodes groups1 (base + i) c
    have hinv2 : Inv ⟨setChild l1.nodes (base + i) c, done'⟩ groups1 :=
      hinv1.frame _ e2.len fun g hg j hj =>
        e2.keep _ (by have : g.1 + g.2.length ≤ l1.nodes.length := (hinv1.ok g hg).2; omega)
          (by rcases hout g hg with d | d <;> omega)
    obtain ⟨groups2, i1, i3, e3⟩ := ih _ l' base (i + 1) groups1 hinv2 hwf'
      (by
        intro j kid hk
        obtain ⟨ln, h1, h2⟩ := hslots (j + 1) kid (by simpa using hk)
        refine ⟨ln, ?_, h2⟩
        show (setChild l1.nodes (base + i) c)[base + (i + 1) + j]? = some ln
        rw [setChild_ne _ _ _ _ (by omega), show base + (i + 1) + j = base + i + (j + 1) by omega,
          e1.keep _ (List.getElem?_eq_some_iff.mp h1).1 (.inr (Nat.zero_le _))]
        exact h1)
      (fun g hg => (hout g hg).imp id (by omega))
      (by simp only [setChild_length]; have := e1.len; omega)
      hrest hsz
    -- three steps in a row: the child's group appended behind the old nodes (`e1`, nothing below the old end
    -- changes), slot `base + i` written (`e2`), the rest of the loop on the slots behind it (`e3`); seen from
    -- `l` they change nothing outside `base + i … base + i + rest'.length`
    refine ⟨groups2, i1, ?_,
      (e1.trans (base + i) (base + i + 1) e2 (fun _ _ _ => .inr (Nat.zero_le _)) (fun _ _ h => h)).trans _ _ e3
        (fun _ _ h => by simp only [List.length_cons] at h; omega)
        (fun _ _ h => by simp only [List.length_cons] at h; omega)⟩
    intro j kid hk
    cases j with
    | zero =>
      simp only [List.getElem?_cons_zero, Option.some.injEq] at hk
      subst hk
      refine ⟨{ ln0 with child := c }, ?_, hb0, ChildOKg_mono groups1 _ e3.sub _ _ hc⟩
      rw [Nat.add_zero, e3.keep (base + i) (by simp only [setChild_length]; have := e1.len; omega) (.inl (by omega))]
      exact setChild_eq _ _ _ _ (by rw [e1.keep _ hslot_lt (.inr (Nat.zero_le _))]; exact hln0)
    | succ j =>
      obtain ⟨ln, h1, h2, h3⟩ := i3 j kid (by simpa using hk)
      exact ⟨ln, by rw [← h1]; congr 1; omega, h2, h3⟩

theorem fillKids_inv (rest : List (Nat × Node)) (l l' : Lin) (base i : Nat) (groups : Groups)
    (hinv : Inv l groups) (hwf : kidsWf rest = true)
    (hslots : ∀ j kid, rest[j]? = some kid → ∃ ln, l.nodes[base + i + j]? = some ln ∧ ln.bound = kid.1)
    (hdisj : ∀ g ∈ groups, g.1 + g.2.length ≤ base ∨ base + i + rest.length ≤ g.1)
    (hbound : base + i + rest.length ≤ l.nodes.length)
    (h : fillKids l base i rest = .ok (l', false)) (hsz : l'.nodes.length ≤ 65532) :
    ∃ groups', Inv l' groups' ∧ (∀ g ∈ groups, g ∈ groups') ∧
      SlotsOK l'.nodes groups' (base + i) rest ∧
      (∀ g ∈ groups', g ∈ groups ∨ l.nodes.length ≤ g.1) ∧
      (∀ p, p < l.nodes.length → (p < base + i ∨ base + i + rest.length ≤ p) → l'.nodes[p]? = l.nodes[p]?) ∧
      l.nodes.length ≤ l'.nodes.length :=
  let ⟨groups', a, b, e⟩ := fillInv_all rest l l' base i groups hinv hwf hslots hdisj hbound h hsz
  ⟨groups', a, e.sub, b, e.new, e.keep, e.len⟩

mutual
theorem childOK_of (nodes : List LNode) (groups : Groups)
    (hG : ∀ g ∈ groups, SlotsOK nodes groups g.1 g.2) (n : Node) (c : Nat)
    (h : ChildOKg groups n c) : childOK nodes n c = true := by
  match n with
  | .valid => exact (childOK_valid nodes c).mpr (cc_validLeaf_eq ▸ h)
  | .invalid k => exact (childOK_invalid nodes k c).mpr (cc_invalidConsume0_eq ▸ h)
  | .sub cs' =>
    exact (childOK_sub nodes cs' c).mpr ⟨cc_validLeaf_eq ▸ h.1, cc_maxNodes_eq ▸ h.2.1,
      reprOK_of nodes groups hG cs' c (hG _ h.2.2)⟩
theorem reprOK_of (nodes : List LNode) (groups : Groups)
    (hG : ∀ g ∈ groups, SlotsOK nodes groups g.1 g.2) (cs : List (Nat × Node)) (idx : Nat)
    (h : SlotsOK nodes groups idx cs) : reprOK nodes cs idx = true := by
  match cs with
  | [] => simp [reprOK]
  | (hi, n) :: rest =>
    obtain ⟨ln, e1, e2, e3⟩ := h 0 (hi, n) (by simp)
    simp only [Nat.add_zero] at e1
    have h1 := childOK_of nodes groups hG n ln.child e3
    have h2 := reprOK_of nodes groups hG rest (idx + 1) (by
      intro j kid hk
      obtain ⟨ln', a, b, c⟩ := h (j + 1) kid (by simpa using hk)
      exact ⟨ln', by rw [← a]; congr 1; omega, b, c⟩)
    exact (reprOK_cons nodes hi n rest idx).mpr ⟨ln, e1, e2, h1, h2⟩
end

theorem lookup_newLin_invalid :
    ∀ k, k ≤ 3 → lookupDesc (Node.invalid k).desc newLin.done = some (65535 - k) := by decide

/-- the pre-registered descriptors are those of the leaves, under their special child values; no
sub-tree has one of them (its descriptor goes on with the descriptor of a child) -/
theorem inv_newLin : Inv newLin [] := by
  refine ⟨by simp, ?_, by decide, fun k hk => by rw [lookup_newLin_invalid k hk]; rfl⟩
  intro d c hd n hn he
  subst he
  cases n with
  | valid => cases hd; rfl
  | invalid k =>
    simp only [Node.wf, decide_eq_true_eq] at hn
    rw [lookup_newLin_invalid k hn] at hd
    cases hd; exact ⟨hn, rfl⟩
  | sub cs =>
    exfalso
    cases cs with
    | nil => simp [Node.wf] at hn
    | cons kid rest =>
      obtain ⟨hi, m⟩ := kid
      obtain ⟨t, ht | ht⟩ := desc_head m <;>
        simp [desc_sub, kidsDesc_cons, ht, newLin, lookupDesc, Gen.cc_descValidBegin, Gen.cc_descValidEnd,
          Gen.cc_descInvalid] at hd

theorem newCodec_ok_iff (csr : CSR) (c : Codec) : newCodec csr = .ok c ↔
    (∀ r ∈ csr, r.isValid = true) ∧ ∃ tree l idx, newTree 4 csr 0 = .ok tree ∧
      appendNodes newLin tree = .ok (l, idx) ∧ l.nodes.length ≤ Gen.cc_maxNodes ∧ c = ⟨l.nodes⟩ := by
  constructor
  · fun_cases newCodec csr with
    | case1 | case2 | case3 | case4 => intro h; cases h
    | case5 hv tree hT l idx happ hsz =>
      intro h; cases h
      exact ⟨by simpa using hv, tree, l, idx, hT, happ, Nat.not_lt.mp hsz, rfl⟩
  · rintro ⟨hv, tree, l, idx, hT, happ, hsz, rfl⟩
    have : csr.all Range.isValid = true := by simpa using hv
    simp [newCodec, this, hT, happ, Nat.not_lt.mpr hsz]

/-- Whenever `NewCodec` accepts a range set — which
includes the check that at most `maxNodes` nodes were produced, so that every node index stays
below the special child values — the node array of the codec represents the tree built by
`newTree`: sharing sub-trees by descriptor preserves the semantics. -/
theorem linearize_repr (csr : CSR) (tree : List (Nat × Node)) (c : Codec)
    (hT : newTree 4 csr 0 = .ok tree) (hC : newCodec csr = .ok c) :
    reprOK c.nodes tree 0 = true ∧ c.nodes.length ≤ Gen.cc_maxNodes := by
  obtain ⟨hv, tree', l, idx, hT', happ, hsz, rfl⟩ := (newCodec_ok_iff csr c).mp hC
  rw [hT] at hT'; cases hT'
  have hwf := kidsSorted_wf 0 tree (newTree_shape hT).1 (tree_budget csr tree hv hT)
  obtain ⟨groups, a1, a3, a4, _⟩ :=
    appendNodes_inv tree (fillInv_all tree) newLin l idx [] inv_newLin hwf happ (cc_maxNodes_eq ▸ hsz)
  have hidx : idx = 0 := by rw [a4]; rfl
  subst hidx
  exact ⟨reprOK_of l.nodes groups (fun g hg => (a1.ok g hg).1) tree 0 (a1.ok _ a3).1, hsz⟩

theorem newCodec_repr {csr : CSR} {c : Codec} (hC : newCodec csr = .ok c) :
    (∀ r ∈ csr, r.isValid = true) ∧ ∃ tree, newTree 4 csr 0 = .ok tree ∧ reprOK c.nodes tree 0 = true :=
  let ⟨hv, tree, _, _, hT, _⟩ := (newCodec_ok_iff csr c).mp hC
  ⟨hv, tree, hT, (linearize_repr csr tree c hT hC).1⟩

/-- For every range set accepted by `NewCodec` and every byte string, `Codec.Decode` returns
exactly what ISO 32000-2 9.7.6.3 prescribes — bytes consumed, validity, and as code the
little-endian value of the consumed bytes — and never panics.  (`decode_spec` of DESIGN.md §5 C12;
`C12ccb.decode_spec` is the same relative to `reprOK`.) -/
theorem newCodec_decode_spec (csr : CSR) (c : Codec) (hC : newCodec csr = .ok c) (s : Bytes) (hs : AllBytes s) :
    c.decode s = .ok (Spec.CodeSpace.codeValue (s.take (Spec.CodeSpace.decode (toSpec csr) s).1),
                      (Spec.CodeSpace.decode (toSpec csr) s).1, (Spec.CodeSpace.decode (toSpec csr) s).2) := by
  obtain ⟨hv, tree, hT, hR⟩ := newCodec_repr hC
  exact decode_spec csr tree c hv hT hR s hs

/-- Consumption bounds for every accepted range set: at least one byte of a non-empty input,
never more than available, at most four; `(0, 0, false)` at the end of input. -/
theorem newCodec_decode_consumed (csr : CSR) (c : Codec) (hC : newCodec csr = .ok c) (s : Bytes) (hs : AllBytes s) :
    ∃ code n v, c.decode s = .ok (code, n, v) ∧ n ≤ s.length ∧ n ≤ 4 ∧ (s ≠ [] → 1 ≤ n) ∧
      (s = [] → code = 0 ∧ v = false) := by
  refine ⟨_, _, _, newCodec_decode_spec csr c hC s hs, ?_⟩
  obtain ⟨h1, h2, h3⟩ := spec_bounds _ (toSpec_wf csr (newCodec_repr hC).1) s
  exact ⟨h1, h2, h3, fun h => by subst h; simp [decode_nil, codeValue_nil]⟩

/-- A codec returned by `NewCodec` has at most `maxNodes` nodes: every node index is smaller
than the special child values (defect D3 of DESIGN.md §8: without the limit the `uint16`
indices wrap). -/
theorem index_fits (csr : CSR) (c : Codec) (hC : newCodec csr = .ok c) : c.nodes.length ≤ Gen.cc_maxNodes := by
  obtain ⟨_, _, l, _, _, _, hsz, rfl⟩ := (newCodec_ok_iff csr c).mp hC
  exact hsz

/-- a sufficient condition for acceptance that `decide` can check -/
theorem newCodec_ok_of_size (csr : CSR) (hv : csr.all Range.isValid = true)
    (h : (match newTree 4 csr 0 with
          | .ok t => decide (t.length + kidsSize t ≤ Gen.cc_maxNodes)
          | .error _ => false) = true) : ∃ c, newCodec csr = .ok c := by
  split at h
  · rename_i t hT
    obtain ⟨l', idx, happ, _, _, hub⟩ := appendNodes_total t (fillTotal_all t) newLin
    have hsz : l'.nodes.length ≤ 0 + t.length + kidsSize t := hub
    exact ⟨⟨l'.nodes⟩, (newCodec_ok_iff csr _).mpr ⟨by simpa using hv, t, l', idx, hT, happ,
      by have := of_decide_eq_true h; omega, rfl⟩⟩
  · cases h

/-- non-vacuity: the two-byte range set `<0000>-<007F>`, `<0110>-<017F>` (the D2 witness) is
accepted by `NewCodec` (`appendNodes` is defined by well-founded recursion and does not evaluate
by `decide`: the node count is bounded by the size of the tree instead) -/
example : ∃ c, newCodec [⟨[0x00, 0x00], [0x00, 0x7f]⟩, ⟨[0x01, 0x10], [0x01, 0x7f]⟩] = .ok c :=
  newCodec_ok_of_size _ (by decide) (by decide +kernel)

end PdfVerif.C12ccc
