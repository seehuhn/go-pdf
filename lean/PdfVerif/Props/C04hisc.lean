import PdfVerif.Lemmas.C01Leaf
/-!
# C04 (part 3) — the lexical layer of `parse_any_rendering`

Every conforming spelling (Spec/HISGrammar.lean, written from ISO 32000-2 §7.2–7.3) of white
space, names, literal strings, hexadecimal strings and numbers is read by the scanner model
(`Model/Scan.lean`, tied to scanner.go by the C01 and HIS correspondence runs) as the value it
denotes, and the scanner stops exactly behind it.

Each reader has one-step equations (`Lemmas/ScanBytes.lean`, `ScanNum.lean`, `C01Leaf.lean`); the
theorems about white space, names and strings are inductions over the grammar that chain them; a
number is one pass of `scanNumTok` over sign, digits and period.
-/
namespace PdfVerif.C04hisc
open PdfVerif
open PdfVerif.C01L (isSpace_eq isRegular_eq)
open PdfVerif.Spec.Grammar (isWhite isDelim isRegularCh isEolCh isOctCh isDigitCh hexDigit? WsR NameR StrR HexR IntR RealTok
  notHead notOctHead decVal)

theorem class_agree : ∀ c, c < 256 →
    isSpace c = isWhite c ∧ isRegular c = isRegularCh c := fun c _ => ⟨isSpace_eq c, isRegular_eq c⟩

theorem hex_agree : ∀ c, c < 256 → hexVal c = hexDigit? c := fun _ _ => rfl

/-- **White space.**  Any sequence of white-space characters and comments is skipped entirely,
whatever follows it. -/
theorem ws_any_spelling (w : Bytes) (hw : WsR w) (rest : Bytes) (hr : StopsWs rest) :
    skipWS (w ++ rest) = (rest, rest.isEmpty) :=
  (skipWS_ws hw rest).trans (skipWS_stops hr)

example : WsR [32, 37, 97, 40, 13, 10, 0] :=
  .white 32 _ (by decide) (.comment [97, 40] 13 _ (by decide) (by decide) (.white 10 _ (by decide) (.white 0 _ (by decide) .nil)))

theorem nameBody_any (v s : Bytes) (h : NameR v s) (rest : Bytes) (hrest : NameEnd rest) (fuel len : Nat)
    (hf : s.length < fuel) (hl : len + v.length ≤ Gen.scanner_maxNameBytes) :
    readNameBody fuel len (s ++ rest) = .ok (v, rest) := by
  induction h generalizing fuel len with
  | nil => exact readNameBody_end hf hrest
  | plain c v s hc hreg h35 _ ih =>
    exact (readNameBody_plain hf hl hreg h35).trans
      (congrArg (consRes c) (ih _ _ (fuel_step 0 hf) (cap_tail hl)))
  | esc c h l v s hc hh hl2 _ ih =>
    have h := readNameBody_esc (r := s ++ rest) hf hl hh hl2
    rw [Nat.div_add_mod' c 16] at h
    exact h.trans (congrArg (consRes c) (ih _ _ (fuel_step 2 hf) (cap_tail hl)))

/-- **Names.**  Every conforming spelling of a name — any mixture of `#xx` escapes (upper or
lower case, also for characters that need none) and plain regular characters — of up to
`maxNameBytes` bytes, followed by the end of the input or a non-regular byte, is read as that
name, and the scanner stops behind it. -/
theorem name_any_spelling (v s : Bytes) (h : NameR v s) (hlen : v.length ≤ Gen.scanner_maxNameBytes)
    (rest : Bytes) (hrest : NameEnd rest) :
    readName (47 :: s ++ rest) = .ok (v, rest) :=
  nameBody_any v s h rest hrest ((s ++ rest).length + 1) 0 (by simp only [List.length_append]; omega) (by omega)

-- non-vacuity: "A#20b" spelled "#41#20b", followed by a solidus
example : NameR [65, 32, 98] [35, 52, 49, 35, 50, 48, 98] :=
  .esc 65 52 49 _ _ (by decide) (by decide) (by decide)
    (.esc 32 50 48 _ _ (by decide) (by decide) (by decide) (.plain 98 _ _ (by decide) (by decide) (by decide) .nil))

/-- every conforming spelling `s` of a string body, read at parenthesis depth `l` with any
    amount of fuel above its length and in either state of `ignoreLF` (when set, `s` must not
    start with LF), followed by the closing parenthesis -/
theorem strBody_any (l : Nat) (v s : Bytes) (h : StrR l v s) (rest : Bytes) (hl1 : 1 ≤ l) (fuel : Nat) (ign : Bool)
    (len : Nat) (hf : s.length < fuel) (hi : ign = true → notHead 10 s)
    (hl : len + v.length ≤ Gen.scanner_maxStringBytes) :
    readStringBody fuel l ign len (s ++ 41 :: rest) = .ok (v, rest) := by
  induction h generalizing fuel ign len with
  | done => exact rsb_close_outer hf hl
  | plain l c v s hc h40 h41 h92 h13 _ ih =>
    exact (rsb_plain hf hl h40 h41 h92 h13 hi).trans
      (congrArg (consRes c) (ih hl1 _ false _ (fuel_step 0 hf) nofun (cap_tail hl)))
  | rawCR l v s hn _ ih =>
    exact (rsb_cr hf hl).trans
      (congrArg (consRes 10) (ih hl1 _ true _ (fuel_step 0 hf) (fun _ => hn) (cap_tail hl)))
  | rawCRLF l v s _ ih =>
    have hf' := fuel_step 0 hf
    exact (rsb_cr hf hl).trans (congrArg (consRes 10)
      ((rsb_lf_ignored hf' (cap_tail hl)).trans
        (ih hl1 _ false _ (fuel_step 0 hf') nofun (cap_tail hl))))
  | popen l v s _ ih =>
    exact (rsb_open hf hl).trans
      (congrArg (consRes 40) (ih (Nat.le_succ_of_le hl1) _ false _ (fuel_step 0 hf) nofun (cap_tail hl)))
  | pclose l v s hl0 _ ih =>
    exact (rsb_close hf hl (Nat.succ_ne_succ_iff.2 (Nat.ne_of_gt hl0))).trans
      (congrArg (consRes 41) (ih hl0 _ false _ (fuel_step 0 hf) nofun (cap_tail hl)))
  | escN l v s _ ih | escR l v s _ ih | escT l v s _ ih | escB l v s _ ih | escF l v s _ ih =>
    exact (rsb_esc_lit hf hl (by decide) (by decide) rfl).trans
      (congrArg (consRes _) (ih hl1 _ false _ (fuel_step 1 hf) nofun (cap_tail hl)))
  | escSelf l e v s he hn hr ht hb hff h10 h13 hoct _ ih =>
    have h := rsb_esc_lit (l := l) (ign := ign) (r := s ++ 41 :: rest) hf hl h10 h13 hoct
    rw [escValue_self hn hr ht hb hff] at h
    exact h.trans (congrArg (consRes e) (ih hl1 _ false _ (fuel_step 1 hf) nofun (cap_tail hl)))
  | oct3 l d1 d2 d3 v s h1 h2 h3 _ ih =>
    -- two digits stay below 256: only the third can overflow the byte
    have hv : ((d1 * 8 + d2) % 256 * 8 + d3) % 256 = (d1 * 64 + d2 * 8 + d3) % 256 := by
      rw [Nat.mod_eq_of_lt (oct2_lt h1 h2), Nat.add_mul, Nat.mul_assoc]
    have ht : readOctTail d1 2 ((48 + d2) :: (48 + d3) :: (s ++ 41 :: rest))
        = ((d1 * 64 + d2 * 8 + d3) % 256, s ++ 41 :: rest) := by
      rw [octTail_digit _ _ h2, octTail_digit _ _ h3, readOctTail, hv]
    have h := rsb_esc_oct (l := l) (ign := ign) (r := (48 + d2) :: (48 + d3) :: (s ++ 41 :: rest))
      hf hl h1
    rw [ht] at h
    exact h.trans (congrArg (consRes _) (ih hl1 _ false _ (fuel_step 3 hf) nofun (cap_tail hl)))
  | oct2 l d1 d2 v s h1 h2 hno _ ih =>
    have ht : readOctTail d1 2 ((48 + d2) :: (s ++ 41 :: rest)) = (d1 * 8 + d2, s ++ 41 :: rest) := by
      rw [octTail_digit _ _ h2, octTail_stop s rest hno, Nat.mod_eq_of_lt (oct2_lt h1 h2)]
    have h := rsb_esc_oct (l := l) (ign := ign) (r := (48 + d2) :: (s ++ 41 :: rest))
      hf hl h1
    rw [ht] at h
    exact h.trans (congrArg (consRes _) (ih hl1 _ false _ (fuel_step 2 hf) nofun (cap_tail hl)))
  | oct1 l d1 v s h1 hno _ ih =>
    have h := rsb_esc_oct (l := l) (ign := ign) (r := s ++ 41 :: rest) hf hl h1
    rw [octTail_stop s rest hno] at h
    exact h.trans (congrArg (consRes _) (ih hl1 _ false _ (fuel_step 1 hf) nofun (cap_tail hl)))
  | contLF l v s _ ih =>
    exact (rsb_esc_lf hf hl).trans (ih hl1 _ false _ (fuel_step 1 hf) nofun hl)
  | contCRLF l v s _ ih =>
    have hf' := fuel_step 1 hf
    exact (rsb_esc_cr hf hl).trans
      ((rsb_lf_ignored hf' hl).trans (ih hl1 _ false _ (fuel_step 0 hf') nofun hl))
  | contCR l v s hn _ ih =>
    exact (rsb_esc_cr hf hl).trans (ih hl1 _ true _ (fuel_step 1 hf) (fun _ => hn) hl)

/-- **Literal strings.**  Every conforming spelling of a string between parentheses — raw
bytes, raw end-of-line markers (CR, CR LF and LF all read as LF), balanced unescaped
parentheses, the escapes of Table 3, a backslash before any other character, octal escapes
of one, two or three digits, line continuations — is read as the string it denotes; the
scanner stops behind the closing parenthesis. -/
theorem string_any_spelling (v s : Bytes) (h : StrR 1 v s) (hlen : v.length ≤ Gen.scanner_maxStringBytes)
    (rest : Bytes) : readString (s ++ 41 :: rest) = .ok (v, rest) :=
  strBody_any 1 v s h rest (Nat.le_refl 1) ((s ++ 41 :: rest).length + 1) false 0
    (by simp only [List.length_append]; omega) nofun (by omega)

-- non-vacuity: (a\
-- b(c)\053\7) with a line continuation, a balanced pair, a 3-digit and a 1-digit octal escape
example : StrR 1 [97, 98, 40, 99, 41, 43, 7] [97, 92, 10, 98, 40, 99, 41, 92, 48, 53, 51, 92, 55] :=
  .plain 1 97 _ _ (by decide) (by decide) (by decide) (by decide) (by decide)
    (.contLF 1 _ _ (.plain 1 98 _ _ (by decide) (by decide) (by decide) (by decide) (by decide)
      (.popen 1 _ _ (.plain 2 99 _ _ (by decide) (by decide) (by decide) (by decide) (by decide)
        (.pclose 1 _ _ (by decide) (.oct3 1 0 5 3 _ _ (by decide) (by decide) (by decide)
          (.oct1 1 7 _ _ (by decide) (by simp [notOctHead]) .done)))))))

theorem hexBody_any (p : Option Nat) (v s : Bytes) (h : HexR p v s) (rest : Bytes) (len : Nat)
    (hl : len + v.length ≤ Gen.scanner_maxStringBytes) :
    readHexBody p len (s ++ 62 :: rest) = .ok (v, rest) := by
  induction h generalizing len with
  | doneEven => rfl
  | doneOdd h => simp [readHexBody, Nat.not_le.2 (cap_next hl)]
  | white p c v s hc _ ih => exact (readHexBody_white hc p len _).trans (ih len hl)
  | hi c d v s hd _ ih => exact (readHexBody_hi hd len _).trans (ih len hl)
  | lo c d h v s hd _ ih => exact (readHexBody_lo hd h hl _).trans (congrArg (consRes _) (ih _ (cap_tail hl)))

/-- a hexadecimal string body does not start with a second `<` (that would open a dictionary) -/
theorem hexR_head {p : Option Nat} {v s : Bytes} (h : HexR p v s) (x : Bytes) : (s ++ 62 :: x).head? ≠ some 60 := by
  cases h with
  | doneEven => simp
  | doneOdd _ => simp
  | white _ c _ _ hc _ => simp [isWhite] at hc ⊢; omega
  | hi c d _ _ hc _ => simp; intro h0; subst h0; simp [hexDigit?] at hc
  | lo c d _ _ _ hc _ => simp; intro h0; subst h0; simp [hexDigit?] at hc

/-- **Hexadecimal strings.**  Every conforming spelling between `<` and `>` — digits of
either case, white space anywhere, an odd number of digits (the missing last digit is 0) —
is read as the string it denotes. -/
theorem hex_any_spelling (v s : Bytes) (h : HexR none v s) (hlen : v.length ≤ Gen.scanner_maxStringBytes)
    (rest : Bytes) : readHexString (s ++ 62 :: rest) = .ok (v, rest) :=
  hexBody_any none v s h rest 0 (by omega)

-- non-vacuity: <4 1\n7> is "Ap"
example : HexR none [65, 112] [52, 32, 49, 10, 55] :=
  .hi 52 4 _ _ (by decide) (.white _ 32 _ _ (by decide) (.lo 49 1 4 _ _ (by decide)
    (.white _ 10 _ _ (by decide) (.hi 55 7 _ _ (by decide) (.doneOdd 7)))))

theorem isDigit_eq (c : Nat) : isDigit c = isDigitCh c := rfl

theorem digitsVal_decVal (ds : Bytes) : ∀ acc, digitsVal ds acc = decVal ds acc := by
  induction ds with
  | nil => intro acc; rfl
  | cons d ds ih => intro acc; exact ih _

/-- sign and digits are one token for `ReadNumber` (`a = true`: no period may follow) and for
    `ReadInteger` (which stops at a period) -/
theorem scan_int (a : Bool) {i : Int} {s : Bytes} (h : IntR i s) (rest : Bytes) (hr : C01L.NumStop a rest) :
    scanNumTok a false true (s ++ rest) = (s, rest) := by
  have hr' : C01L.NumStop (a && !false) rest := by rw [Bool.not_false, Bool.and_true]; exact hr
  cases h with
  | unsigned _ hne hd =>
    cases s with
    | nil => exact absurd rfl hne
    | cons d ds =>
      rw [List.cons_append, C01L.scan_digit a false true (hd d List.mem_cons_self),
        C01L.scan_digits a false ds rest (fun x hx => hd x (List.mem_cons_of_mem _ hx)) hr']
  | plus ds _ hd => rw [List.cons_append, C01L.scan_sign a false (.inl rfl), C01L.scan_digits a false ds rest hd hr']
  | minus ds _ hd => rw [List.cons_append, C01L.scan_sign a false (.inr rfl), C01L.scan_digits a false ds rest hd hr']

theorem digits_no_dot (ds : Bytes) (hd : ∀ d ∈ ds, isDigitCh d = true) : ds.contains 46 = false := by
  simp only [List.contains_eq_mem, decide_eq_false_iff_not]
  exact fun hmem => absurd (hd 46 hmem) (by decide)

theorem intR_no_dot {i : Int} {s : Bytes} (h : IntR i s) : s.contains 46 = false := by
  cases h with
  | unsigned _ _ hd => exact digits_no_dot s hd
  | plus ds _ hd => rw [List.contains_cons, digits_no_dot ds hd]; rfl
  | minus ds _ hd => rw [List.contains_cons, digits_no_dot ds hd]; rfl

theorem parseInt64_intR (i : Int) (s : Bytes) (h : IntR i s)
    (hrange : -9223372036854775808 ≤ i ∧ i ≤ 9223372036854775807) : parseInt64 s = some i := by
  cases h with
  | unsigned _ hne hd =>
    cases s with
    | nil => exact absurd rfl hne
    | cons d ds =>
      rw [C01L.parseInt64_pos d ds (hd d List.mem_cons_self) (List.all_eq_true.2 hd), digitsVal_decVal, if_pos hrange.2]
  | plus ds hne hd => rw [C01L.parseInt64_plus ds hne (List.all_eq_true.2 hd), digitsVal_decVal, if_pos hrange.2]
  | minus ds hne hd =>
    rw [C01L.parseInt64_neg ds hne (List.all_eq_true.2 hd), digitsVal_decVal, if_pos (by omega)]

/-- **Integers.**  Every conforming spelling of an integer that fits `int64` — optional sign,
any number of leading zeros — is read as that integer. -/
theorem int_any_spelling (i : Int) (s : Bytes) (h : IntR i s)
    (hrange : -9223372036854775808 ≤ i ∧ i ≤ 9223372036854775807)
    (hlen : s.length ≤ Gen.scanner_maxNameBytes) (rest : Bytes) (hr : C01L.NumStop true rest) :
    readNumber (s ++ rest) = .ok (.int i, rest) := by
  unfold readNumber
  simp only [scan_int true h rest hr, Nat.not_lt.2 hlen, if_false, intR_no_dot h, Bool.false_eq_true,
    parseInt64_intR i s h hrange]

-- non-vacuity: "+007" is the integer 7
example : IntR 7 [43, 48, 48, 55] := .plus [48, 48, 55] (by decide) (by decide)

/-- digits, the period, digits: whether or not a sign went before; a second period may follow -/
theorem scanIntPart (first : Bool) (ip fp : Bytes) (hi : ∀ d ∈ ip, isDigitCh d = true)
    (hf : ∀ d ∈ fp, isDigitCh d = true) (rest : Bytes) (hr : C01L.NumStop false rest) :
    scanNumTok true false first (ip ++ 46 :: (fp ++ rest)) = (ip ++ 46 :: fp, rest) := by
  induction ip generalizing first with
  | nil => rw [List.nil_append, C01L.scan_dot, C01L.scan_digits true true fp rest hf hr]; rfl
  | cons d ds ih =>
    rw [List.cons_append, C01L.scan_digit true false first (hi d List.mem_cons_self),
      ih false (fun x hx => hi x (List.mem_cons_of_mem _ hx))]; rfl

/-- **Real tokens.**  Every conforming spelling of a real number — optional sign, digits with
one period in any position — is taken as one token (the value of the token is `strconv`'s),
whatever non-digit follows: a token holds one period only. -/
theorem real_token (t : Bytes) (h : RealTok t) (hlen : t.length ≤ Gen.scanner_maxNameBytes)
    (rest : Bytes) (hr : C01L.NumStop false rest) : readNumber (t ++ rest) = .ok (.real t, rest) := by
  cases h with
  | mk sign ip fp hs hi hf hne =>
    have hscan : scanNumTok true false true ((sign ++ ip ++ 46 :: fp) ++ rest) = (sign ++ ip ++ 46 :: fp, rest) := by
      rcases hs with rfl | rfl | rfl <;> simp only [List.append_assoc, List.cons_append, List.nil_append]
      · exact scanIntPart true ip fp hi hf rest hr
      · rw [C01L.scan_sign true false (.inl rfl), scanIntPart false ip fp hi hf rest hr]
      · rw [C01L.scan_sign true false (.inr rfl), scanIntPart false ip fp hi hf rest hr]
    have hdot : (sign ++ ip ++ 46 :: fp).contains 46 = true := by simp
    have hany : (sign ++ ip ++ 46 :: fp).any isDigit = true := by
      simp only [List.any_append, List.any_cons, Bool.or_eq_true]
      cases ip with
      | cons d ds => left; right; simp [isDigit_eq, hi d (by simp)]
      | nil =>
        cases fp with
        | nil => simp at hne
        | cons d ds => right; right; simp [isDigit_eq, hf d (by simp)]
    unfold readNumber
    simp only [hscan, Nat.not_lt.2 hlen, if_false, hdot, if_true, hany]

-- non-vacuity: "-.5" and "+12." are real tokens
example : RealTok [45, 46, 53] := .mk [45] [] [53] (by simp) (by simp) (by decide) (by simp)
example : RealTok [43, 49, 50, 46] := .mk [43] [49, 50] [] (by simp) (by decide) (by simp) (by simp)

end PdfVerif.C04hisc
