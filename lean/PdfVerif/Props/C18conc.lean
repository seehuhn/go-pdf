import PdfVerif.Lemmas.CONCExcl
import PdfVerif.Lemmas.CONCAgreeStep
/-!
# C18 — cache protocol of `pdf.Extractor`: `cache_monotone` and `agreement`

All statements are about the transition system `Model/CONCCache.lean` (resource.go, cursor.go),
over **all** label sequences: any number of threads, any programs of `Decode` /
`DecodeExclusive` / `StoreOrLoadPair` over reference chains and cycles, arbitrary decode
functions (which may themselves decode, fail or panic), transient `Get` errors.
The correspondence run ties the model to the code by executing every schedule of many small
programs on both.
-/
namespace PdfVerif.C18conc
open PdfVerif PdfVerif.CONC

/-- `cache_monotone`, one transition: an entry once published never changes (code after
commit 231d3ca; for any thread, any action, any state). -/
theorem cache_monotone_step (cfg : Cfg) (hf : cfg.fixed = true) (s s' : State) (t : Tid) (a : Act)
    (h : step cfg s t a = some s') (k : Key) (v : Val) (hk : s.cache k = some v) :
    s'.cache k = some v :=
  step_le cfg hf s s' t a h k v hk

/-- `cache_monotone`: along every trace, an entry once published never changes. -/
theorem cache_monotone (cfg : Cfg) (hf : cfg.fixed = true) (s s' : State) (ls : List Label)
    (h : run cfg s ls = some s') (k : Key) (v : Val) (hk : s.cache k = some v) :
    s'.cache k = some v :=
  run_inv cfg (fun _ => True) (fun x => CacheLe s.cache x.cache)
    (fun x t a x' _ hp hs => hp.trans (step_le cfg hf x x' t a hs)) ls s s' (fun _ _ => trivial)
    (CacheLe.refl _) h k v hk

/-- the successful results an event reports, as (key, value) -/
def results : Event → List (Key × Val)
  | .dec _ (.ref r) tp (.ok v) => [((r, tp), v)]
  | .exc _ (.ref r) tp (.ok v) _ => [((r, tp), v)]
  | .pair _ r A B _ _ (some (a', b')) => [((r, A), a'), ((r, B), b')]
  | _ => []

theorem inv_reachable (cfg : Cfg) (hf : cfg.fixed = true) (ls : List Label) (s : State)
    (hl : ∀ l ∈ ls, PairOnDirect cfg l) (h : run cfg State.init ls = some s) : Inv cfg s :=
  (reachable_inv cfg (fun _ => PairOnDirect cfg) (Inv cfg) (Inv.init cfg)
    (fun _ _ _ _ hg hx hi hs => hi.step hf hg hx.doneOut hs) ls s (guardedRun_of_forall cfg ls _ hl) h).2

theorem result_justified {cfg : Cfg} {c : Key → Option Val} {e : Event} (he : EvOK cfg c e)
    {k : Key} {v : Val} (hr : (k, v) ∈ results e) : ∃ r', Reach cfg k.1 r' ∧ c (r', k.2) = some v := by
  unfold results at hr
  split at hr
  · cases List.mem_singleton.mp hr; exact he
  · cases List.mem_singleton.mp hr; exact he
  · next r A B _ _ a' b' =>
    rcases List.mem_cons.mp hr with e | hr
    · cases e; exact ⟨r, .refl r, he.1⟩
    · cases List.mem_singleton.mp hr; exact ⟨r, .refl r, he.2⟩
  · cases hr

/-- `agreement`: in every reachable state, all results ever returned for one (reference, type)
— by `Decode`, by `DecodeExclusive` (owner or waiter) or as a half of `StoreOrLoadPair`, by
any thread, top level or nested — are the same value. -/
theorem agreement (cfg : Cfg) (hf : cfg.fixed = true) (ls : List Label) (s : State)
    (hl : ∀ l ∈ ls, PairOnDirect cfg l) (h : run cfg State.init ls = some s)
    (e e' : Event) (he : e ∈ s.hist) (he' : e' ∈ s.hist) (k : Key) (v v' : Val)
    (hr : (k, v) ∈ results e) (hr' : (k, v') ∈ results e') : v = v' := by
  have hi := inv_reachable cfg hf ls s hl h
  obtain ⟨r1, h1, c1⟩ := result_justified (hi.hist e he) hr
  obtain ⟨r2, h2, c2⟩ := result_justified (hi.hist e' he') hr'
  rcases h1.linear h2 with h12 | h21
  · have := hi.chain.reach h12 k.2 v c1
    rw [c2] at this; cases this; rfl
  · have := hi.chain.reach h21 k.2 v' c2
    rw [c1] at this; cases this; rfl

/-- chain invariant: if `r` is cached and the object of `r` is the reference `r'`, then `r'`
is cached with the same value. -/
theorem chain_invariant (cfg : Cfg) (hf : cfg.fixed = true) (ls : List Label) (s : State)
    (hl : ∀ l ∈ ls, PairOnDirect cfg l) (h : run cfg State.init ls = some s)
    (r r' : Ref) (tp : Ty) (v : Val) (hc : s.cache (r, tp) = some v) (hg : cfg.get r = .ref r') :
    s.cache (r', tp) = some v :=
  (inv_reachable cfg hf ls s hl h).chain r r' tp v hc hg

/-- a result returned for a key is the value the cache holds for that key, now and (by
`cache_monotone`) for ever, as soon as it holds one -/
theorem result_is_cached (cfg : Cfg) (hf : cfg.fixed = true) (ls : List Label) (s : State)
    (hl : ∀ l ∈ ls, PairOnDirect cfg l) (h : run cfg State.init ls = some s)
    (e : Event) (he : e ∈ s.hist) (k : Key) (v w : Val) (hr : (k, v) ∈ results e)
    (hc : s.cache k = some w) : v = w := by
  have hi := inv_reachable cfg hf ls s hl h
  obtain ⟨r1, h1, c1⟩ := result_justified (hi.hist e he) hr
  have := hi.chain.reach h1 k.2 w hc
  rw [c1] at this; cases this; rfl

/-- non-vacuity: the D12 race (thread 0 follows r1 → r2 and is overtaken by thread 1 decoding
r2) is a trace of the repaired system which satisfies the hypotheses, and it reports three
results for keys on the chain -/
example :
    let cfg : Cfg := ⟨fun r => if r = 1 then .ref 2 else .direct, true⟩
    let ls : List Label :=
      [(0, .callDecode (.ref 1) 0 []), (0, .go), (1, .callDecode (.ref 2) 0 []), (1, .go),
       (1, .fnRet (.ok 5)), (0, .go), (0, .fnRet (.ok 7)), (1, .callDecode (.ref 2) 0 [])]
    (run cfg State.init ls).map (fun s => s.hist.flatMap results)
      = some [((2, 0), 5), ((1, 0), 5), ((2, 0), 5)] := by
  decide +kernel

end PdfVerif.C18conc
