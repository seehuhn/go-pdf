import PdfVerif.Props.C06faC
/-!
# C06 (CCITTFax, work package FB): the round trip with EncodedByteAlign

The writer pads every row with zero bits to a byte boundary (`flushPending`), the reader skips `validBits % 8` bits
after every completed row (`Rd.alignRow`).  The theorems of `C06faC` hold for either value of EncodedByteAlign; this
file states their cases `EncodedByteAlign = true` (`alignRow_spec`, `encodeAll_bitsA` over `allRowBitsA`, the two stream
theorems) and `ccitt_rt_supported_statement`, the round-trip statement restricted to a class of filter values, with
the class K < 0 or K = 0 without EOL codes.
-/
namespace PdfVerif.C06fbA
open PdfVerif PdfVerif.FB PdfVerif.Gen PdfVerif.C06fbt PdfVerif.C06faC

/-- with `pad ++ suffix` unread, fewer than 8 fill bits and a suffix of whole bytes,
the reader skips exactly the fill bits (whatever their values) -/
theorem alignRow_spec (p : CParams) (hal : p.byteAlign = true) (r : Rd) (pad suffix : Bits) (he : Rd.clean r)
    (hs : Rd.stream r = pad ++ suffix) (hp : pad.length < 8) (hm : suffix.length % 8 = 0) :
    Rd.clean (r.alignRow p) ∧ Rd.stream (r.alignRow p) = suffix ∧ (r.alignRow p).line = r.line :=
  alignRow_skip p r pad suffix he hs (fun _ => ⟨hp, hm⟩) (fun h => by rw [hal] at h; exact Bool.noConfusion h)

/-- bits of the complete rows with EncodedByteAlign: every row is followed by its fill bits -/
def allRowBitsA (p : CParams) : List Bytes → Nat → List Nat → Bits
  | [], _, _ => []
  | row :: rest, c2, ref =>
    (encodeRowBits p c2 ref (pixelsOf p row)).1 ++ alignPad (encodeRowBits p c2 ref (pixelsOf p row)).1 ++
      allRowBitsA p rest (encodeRowBits p c2 ref (pixelsOf p row)).2 (pixelsOf p row)

theorem allRowBitsA_mod (p : CParams) : ∀ (rows : List Bytes) (c2 : Nat) (ref : List Nat),
    (allRowBitsA p rows c2 ref).length % 8 = 0 := by
  intro rows
  induction rows with
  | nil => intro _ _; rfl
  | cons row rest ih =>
    intro c2 ref
    have h1 := alignPad_mod (encodeRowBits p c2 ref (pixelsOf p row)).1
    have h2 := ih (encodeRowBits p c2 ref (pixelsOf p row)).2 (pixelsOf p row)
    simp only [allRowBitsA, List.length_append] at h1 h2 ⊢
    omega

theorem allRowBitsA_eq (p : CParams) (hal : p.byteAlign = true) : ∀ (rows : List Bytes) (c2 : Nat) (ref : List Nat),
    allRowBitsA p rows c2 ref = C06fbK.allRowBitsP p rows c2 ref := by
  intro rows
  induction rows with
  | nil => intro _ _; rfl
  | cons row rest ih =>
    intro c2 ref
    simp only [allRowBitsA, C06fbK.allRowBitsP_cons, ih, C06fbE.padOf_of_true p hal]

/-- the aligned encoder's output, bit by bit: every row with its fill bits, the end-of-block
code, zero padding; the tail after the rows consists of whole bytes -/
theorem encodeAll_bitsA (p : CParams) (rows : List Bytes) (hal : p.byteAlign = true) (hlb : 0 < p.lineBytes)
    (hlen : ∀ row ∈ rows, row.length = p.lineBytes) (hpad : ∀ row ∈ rows, paddingOk p row = true)
    (hmax : p.maxRows = 0 ∨ rows.length ≤ p.maxRows) :
    (encodeAll p rows.flatten).2 = none ∧
    ∃ k, k < 8 ∧ (endOfBlockBits p ++ List.replicate k false).length % 8 = 0 ∧
      bytesToBits (encodeAll p rows.flatten).1 =
        allRowBitsA p rows 0 (List.replicate p.columns p.whiteBit) ++ (endOfBlockBits p ++ List.replicate k false) := by
  obtain ⟨h1, k, hk, hmod, hbits⟩ := encodeAll_bits p rows hlb hlen hpad hmax
  rw [← allRowBitsA_eq p hal] at hbits
  exact ⟨h1, k, hk, hmod hal, hbits⟩

/-- Group 4 stream round trip with EncodedByteAlign (K < 0, with EOFB): every list of
admissible rows is decoded back, for any row limit `M` of the reader that is `0` or not below the
number of rows. -/
theorem ccitt_g4_stream_rtA (p : CParams) (M : Nat) (rows : List Bytes)
    (hk : p.k < 0) (hal : p.byteAlign = true) (hig : p.ignoreEOB = false)
    (hc : 0 < p.columns) (hok : Rows2DOk p rows) (hmaxE : p.maxRows = 0 ∨ rows.length ≤ p.maxRows)
    (hmaxD : M = 0 ∨ rows.length ≤ M) :
    decodeAll { p with maxRows := M } (encodeAll p rows.flatten).1 = (rows.flatten, 1) :=
  g4_stream_rt p M rows hk hig hc hok hmaxE hmaxD

/-- Group 3 one-dimensional stream round trip with EncodedByteAlign (K = 0, no EOL codes, with
the return-to-control sequence) -/
theorem ccitt_g3_1d_stream_rtA (p : CParams) (M : Nat) (rows : List Bytes)
    (hk : p.k = 0) (heol : p.endOfLine = false) (hal : p.byteAlign = true) (hig : p.ignoreEOB = false)
    (hc : 0 < p.columns) (hok : Rows1DOk p rows) (hmaxE : p.maxRows = 0 ∨ rows.length ≤ p.maxRows)
    (hmaxD : M = 0 ∨ rows.length ≤ M) :
    decodeAll { p with maxRows := M } (encodeAll p rows.flatten).1 = (rows.flatten, 1) :=
  g3_1d_stream_rt p M rows hk hig hc ((rows2DOk_iff p rows).2 hok) hmaxE hmaxD

/-- the full statement `C06fbt.ccitt_rt_statement` restricted by a predicate on the filter value -/
def ccitt_rt_supported_statement (supported : FCCITT → Prop) : Prop :=
  ∀ (f : FCCITT) (rows : List Bytes), f.validate = true → ccittAdmissible f.encParams rows →
    (rows.length : Int) ≤ f.decodeMaxRows → supported f →
    decodeAll f.decParams (encodeAll f.encParams rows.flatten).1 = (rows.flatten, 1)

/-- Group 4 (K < 0) and Group 3 1-D (K = 0) without EOL codes, EncodedByteAlign any, with the end-of-block pattern
(EOFB, RTC).  A part of `C06fbE.provedClass` (K ≤ 0, EOL codes too), which is a part of `C06fbK.provedClass` (every K,
every filter value with the end-of-block pattern); outside that one only IgnoreEndOfBlock remains, validated only
(oracle `fb-ccitt-rt`, model correspondence, x/image/ccitt). -/
def provedClass (f : FCCITT) : Prop :=
  f.ignoreEOB = false ∧ (f.k < 0 ∨ (f.k = 0 ∧ f.endOfLine = false))

/-- `ccitt_rt_statement` for Group 4 and Group 3 1-D without EOL codes, with the end-of-block pattern, with AND without
EncodedByteAlign; an instance of `C06fbK.ccitt_rt_supported_partial`, which stands downstream -/
theorem ccitt_rt_supported_partial : ccitt_rt_supported_statement provedClass :=
  fun f rows hv hadm _ h => rt_of_stream_rt f rows hv hadm fun M =>
    stream_rt_kle0 f.encParams M rows (by show f.k ≤ 0; have := h.2; omega) h.1

/-- the full statement follows from the supported statement for the predicate `True`; what is
missing for it after `C06fbK.ccitt_rt_supported_partial` is the class IgnoreEndOfBlock -/
theorem full_of_supported_true : ccitt_rt_supported_statement (fun _ => True) → ccitt_rt_statement :=
  fun h f rows hv hadm hrows => h f rows hv hadm hrows trivial

-- non-vacuity: byte-aligned Group 4 and Group 3 1-D parameter sets with rows that meet every
-- hypothesis, and the round trip itself evaluated by the kernel on the same inputs
example : (⟨-1, false, true, 3, 0, false, false, 0⟩ : FCCITT).validate = true ∧
    ccittAdmissible (⟨-1, false, true, 3, 0, false, false, 0⟩ : FCCITT).encParams w3 ∧
    provedClass ⟨-1, false, true, 3, 0, false, false, 0⟩ := by
  refine ⟨by decide, by decide, rfl, Or.inl (by decide)⟩
example : (⟨0, false, true, 10, 0, false, true, 0⟩ : FCCITT).validate = true ∧
    ccittAdmissible (⟨0, false, true, 10, 0, false, true, 0⟩ : FCCITT).encParams [[0xAA, 0x80], [0xFF, 0xC0]] ∧
    provedClass ⟨0, false, true, 10, 0, false, true, 0⟩ := by
  refine ⟨by decide, by decide, rfl, Or.inr ⟨rfl, rfl⟩⟩
example : decodeAll (⟨0, false, true, 10, 0, false, true, 0⟩ : FCCITT).decParams
    (encodeAll (⟨0, false, true, 10, 0, false, true, 0⟩ : FCCITT).encParams [0xAA, 0x80, 0xFF, 0xC0]).1 =
      ([0xAA, 0x80, 0xFF, 0xC0], 1) := by decide +kernel
-- the fill bits are really there: the aligned encoding is longer than the unaligned one
example : (encodeAll (⟨-1, false, true, 3, 0, false, false, 0⟩ : FCCITT).encParams w3.flatten).1.length = 8 ∧
    (encodeAll (⟨-1, false, false, 3, 0, false, false, 0⟩ : FCCITT).encParams w3.flatten).1.length = 4 := by decide +kernel

end PdfVerif.C06fbA
