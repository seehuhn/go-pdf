import PdfVerif.Props.C15cnt
import PdfVerif.Lemmas.C01Num
import PdfVerif.Props.C01b
/-!
# C15 — integer operands: `strconv.FormatInt` digits scan back as the integer

`Model/Format.lean` writes integers with its structural decimal printer `intDec`/`natDec` (tied to
`strconv.FormatInt(x, 10)` by the byte-identical `fmt` lines of the correspondence run).  `int_tok`: for
every 64-bit integer the content scanner reads the written token back as that integer; it rests on the
lemmas of `Lemmas/C01Num.lean` about the printer and about `parseInt64` on a digit string.
-/
namespace PdfVerif.C15cntd
open PdfVerif PdfVerif.CNT PdfVerif.C15cnt PdfVerif.C01L

theorem digit_regular (b : Nat) (h : isDigit b = true) : cReg b = true ∧ (b == 46) = false := by
  obtain ⟨h1, h2⟩ := (isDigit_iff b).mp h
  exact ⟨(digit_facts' h).2.2.2, by simp; omega⟩

theorem classify_int (sgn ds : Bytes) (i : Int) (hs : sgn = [] ∨ sgn = [45]) (hne : ds ≠ [])
    (hd : ∀ b ∈ ds, isDigit b = true) (hp : parseInt64 (sgn ++ ds) = some i) : classify (sgn ++ ds) = .int i := by
  have a1 : ds.all (fun c => c == 46 || isDigit c) = true := List.all_eq_true.mpr fun b hb => by simp [hd b hb]
  have a3 : ds.filter (· == 46) = [] := List.filter_eq_nil_iff.mpr fun b hb => by simp [(digit_regular b (hd b hb)).2]
  match ds, hne with
  | d :: tl, _ =>
    rcases hs with rfl | rfl
    · have hdd := (isDigit_iff d).mp (hd d (by simp))
      have k4 : (d == 43) = false := by simp; omega
      have k5 : (d == 45) = false := by simp; omega
      rw [List.nil_append] at hp ⊢
      simp [classify, isNumStart, hd d (by simp), parseNumber, numBody, k4, k5, a1, a3, hp]
    · rw [List.singleton_append] at hp ⊢
      simp [classify, isNumStart, parseNumber, numBody, a1, a3, hp]

theorem int_tok (i : Int) (hlo : -9223372036854775808 ≤ i) (hhi : i ≤ 9223372036854775807) :
    RegTok (intDec i) (.int i) := by
  have hcap : (20 : Nat) ≤ Gen.content_maxNameBytes := by decide
  -- what `parseInt64` makes of the written token and how long it is: `Props/C01b.lean`; here, its sign and digits
  have hlen := C01b.intDec_length i ⟨hlo, hhi⟩
  have hp : parseInt64 (intDec i) = some i := by rw [C01b.parseInt64_intDec, if_pos ⟨hlo, hhi⟩]
  obtain ⟨sgn, n, hs, he⟩ : ∃ sgn n, (sgn = [] ∨ sgn = [45]) ∧ intDec i = sgn ++ natDec n := by
    cases i with
    | ofNat n => exact ⟨[], n, .inl rfl, rfl⟩
    | negSucc n => exact ⟨[45], n + 1, .inr rfl, rfl⟩
  rw [he] at hlen hp
  rw [List.length_append] at hlen
  rw [he]
  refine ⟨by simp [natDec_ne_nil], fun b hb => ?_, by simp; omega,
    classify_int sgn _ i hs (natDec_ne_nil n) (natDec_digits n) hp⟩
  rcases List.mem_append.mp hb with hb | hb
  · rcases hs with rfl | rfl
    · cases hb
    · rw [List.mem_singleton.mp hb]; decide +kernel
  · exact (digit_regular b (natDec_digits n b hb)).1

end PdfVerif.C15cntd
