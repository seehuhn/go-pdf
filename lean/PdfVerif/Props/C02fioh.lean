import PdfVerif.Props.C02fiog
/-!
# C02 (work package FIO) — files with cross-reference streams and object streams

`run_step`: what `C02fioe.Reach.grow`, `C02fiog.Reach.sgrow`, `Reach.cover` give for a program, as one structure.
`writer_objects_stay` is `C02fiog.objects_stay`, which holds for every output form.
`file_rt_xrefstream_partial`: `C02fiog.written_get_rt` plus `null` for free numbers, for any map that
agrees with the writer's table; `xrefstream_map_agrees`: the map decoded from the rows does.
-/
namespace PdfVerif.C02fioh
open PdfVerif PdfVerif.FIO PdfVerif.C02fio PdfVerif.C02fiob PdfVerif.C02fioe PdfVerif.C02fiof PdfVerif.C02fiog
open PdfVerif.C01b PdfVerif.C01L PdfVerif.C01d

/-- the three writer-side facts about a program -/
structure Step (s s' : WState) : Prop where
  grow : Grow s s'
  sgrow : SGrow s s'
  cover : Cover s'

theorem run_step (ops : List Op) : ∀ {s s' : WState} {i : Nat}, Inv s → OpenInv s → Cover s →
    run s ops i = .ok s' → Step s s' := fun hi ho hc h =>
  have hr := run_reach ops h
  ⟨Reach.grow hr hi, (Reach.sgrow hr hi ho).1, Reach.cover hr hi hc⟩

theorem writer_objects_stay (o : WOpts) (s0 s : WState) (ops : List Op)
    (h0 : initState o = some s0) (h : run s0 ops 0 = .ok s) :
    (∀ x, x ∈ s.doc → DocAt s x) ∧ (∀ x, x ∈ s.sdoc → SDocAt s x) ∧ Cover s :=
  objects_stay o s0 s ops h0 h

/-- **file_rt_xrefstream_partial.**  The object level of the whole-file round trip for every output
form (classic table, or object streams with a cross-reference stream), unencrypted: for every
accepted program ending in `Close` and every cross-reference map `m` that agrees on a set `P` of
numbers with the writer's table (in-use entries with offset and generation, free and never-written
numbers free or absent), `Reader.get` on the bytes of the file returns, for numbers in `P`, every
plain object written (`WState.doc`) and every completed stream object (`WState.sdoc`, object streams
included: exactly the bytes handed to `Write`) up to C01's comparison form, and `null` for numbers
never written or free.

`P` is there because the map of a real file does not agree everywhere: `writeXRefStream` encodes
the rows before the cross-reference stream's own entry is made, so the reader sees that one number
as free (`P n := n ≠ that number`).  `getInt` (resolution of `/Length`) is a parameter; the Flate
layer does not enter: the bytes of object streams and of the cross-reference stream are parameters
of the writer model and are returned byte-identically.  Not part of this statement: the opening
sequence on the file (`C02fioj.open_xrefstream_rt`, `file_rt_xrefstream`) and the members of object
streams (`C02fioi.file_rt_xrefstream_members`). -/
theorem file_rt_xrefstream_partial (o : WOpts) (s0 s : WState) (ops : List Op)
    (cat : Obj) (info : Option Obj) (tr : List (Bytes × Obj)) (raw : Bytes)
    (henc : o.encrypted = false)
    (h0 : initState o = some s0)
    (h : run s0 (ops ++ [.close cat info tr raw]) 0 = .ok s)
    (hsize : s.out.length < 9223372036854775808)
    (hgen : ∀ n e, s.xref.get n = some e → e.gen ≤ 65535)
    (hnr : s.nextRef ≤ Gen.fio_maxXRefSize)
    (m : XMap) (P : Nat → Prop)
    (hm : ∀ n e, P n → s.xref.get n = some e → e.inStream = 0 → 0 ≤ e.pos →
      m.get n = some { inStream := 0, pos := e.pos, gen := e.gen })
    (hmfree : ∀ n, P n → (s.xref.get n = none ∨ ∃ e, s.xref.get n = some e ∧ e.inStream = 0 ∧ e.pos < 0) →
      (m.get n = none ∨ ∃ x, m.get n = some x ∧ x.pos < 0))
    (inflate : Bytes → Option Bytes) (getInt : Obj → Except Err Int)
    (hgi : ∀ i, getInt (.int i) = .ok i)
    (hgr : ∀ r len, (r, 0, Obj.int len) ∈ s.doc → getInt (.ref r 0) = .ok len) :
    (∀ n g ob, P n → (n, g, ob) ∈ s.doc → good ob = true → depthOk ob → isRefObj ob = false →
      ∃ r, readerGet s.out m 0 inflate getInt n g = .ok (some (.plain r)) ∧ nrm r = nrm ob) ∧
    (∀ n g d body, P n → (n, g, d, body) ∈ s.sdoc → good (.dict (sdKv0 d)) = true → depthOk (.dict (sdKv0 d)) →
      ∃ rdict start, readerGet s.out m 0 inflate getInt n g = .ok (some (.stream rdict start body.length)) ∧
        (s.out.drop start).take body.length = body ∧
        nrm (.dict rdict) = nrm (.dict (d.filter fun e => e.1 != kLength))) ∧
    (∀ n g, P n → (s.xref.get n = none ∨ ∃ e, s.xref.get n = some e ∧ e.inStream = 0 ∧ e.pos < 0) →
      readerGet s.out m 0 inflate getInt n g = .ok none) := by
  obtain ⟨hplain, hstream⟩ := written_get_rt henc h0 h hsize hgen hnr m P hm inflate getInt hgi hgr
  refine ⟨hplain, hstream, fun n g hP hfree => ?_⟩
  rcases hmfree n hP hfree with hnone | ⟨x, hx, hxp⟩
  · exact get_free s.out m n g default (.inl hnone) inflate getInt
  · exact get_free s.out m n g x (.inr ⟨hx, hxp⟩) inflate getInt

/-- what `Reader` does with the data of a cross-reference stream whose dictionary says
    `/W [1 w2 w3]`, `/Size n` (no `/Index`), `/Filter /FlateDecode` with `/Predictor 12`,
    `/Columns 1+w2+w3`: inflate (zlib, a parameter), undo the predictor, decode the rows -/
def decodeXRefData (inflate : Bytes → Option Bytes) (w2 w3 n : Nat) (raw : Bytes) : Except Err XMap :=
  match inflate raw with
  | none => .error .malformed
  | some p =>
    match pngUndo (1 + w2 + w3) p with
    | .error e => .error e
    | .ok rows => decodeXRefStream 1 w2 w3 [] rows [(0, n)]

/-- **xrefstream_map_agrees.**  Let `x`, `n` be the table `writeXRefStream` encodes and `raw` the
compressed rows, with zlib trusted (hypothesis: `inflate raw` = the predicted rows, i.e.
`inflate ∘ deflate = id` on them).  The map the reader decodes
agrees with `x` in the sense `file_rt_xrefstream_partial` asks for: in-use entries exactly, free
and unwritten numbers free or absent, members of object streams with their container and index. -/
theorem xrefstream_map_agrees (x : XMap) (n : Nat) (hok : ∀ j, j < n → EntryOK (x.get j))
    (hbelow : ∀ j e, x.get j = some e → j < n)
    (inflate : Bytes → Option Bytes) (raw : Bytes)
    (hinf : inflate raw = some (xrefStreamPayload x n).2.2) :
    ∃ m', decodeXRefData inflate (xrefStreamPayload x n).1 (xrefStreamPayload x n).2.1 n raw = .ok m' ∧
      (∀ j e, x.get j = some e → e.inStream = 0 → 0 ≤ e.pos →
        m'.get j = some { inStream := 0, pos := e.pos, gen := e.gen }) ∧
      (∀ j, (x.get j = none ∨ ∃ e, x.get j = some e ∧ e.inStream = 0 ∧ e.pos < 0) →
        (m'.get j = none ∨ ∃ y, m'.get j = some y ∧ y.pos < 0)) ∧
      (∀ j e, x.get j = some e → e.inStream ≠ 0 → 0 ≤ e.pos →
        m'.get j = some { inStream := e.inStream, pos := e.pos, gen := 0 }) := by
  obtain ⟨_, _, m', hdec, hlt, hge⟩ := xref_stream_rt x n hok
  have hundo := xref_payload_undo x n
  refine ⟨m', ?_, ?_, ?_, ?_⟩
  · simp only [decodeXRefData, hinf]
    simp only at hundo
    rw [hundo]
    simpa [xrefStreamPayload] using hdec
  · intro j e hj hins hpos
    rw [hlt j (hbelow j e hj), hj]
    have : ¬ e.pos < 0 := by omega
    simp [normStm, this, hins]
  · intro j hfree
    by_cases hjn : j < n
    · right
      rcases hfree with hnone | ⟨e, he, _, hneg⟩
      · exact ⟨_, by rw [hlt j hjn, hnone], by simp [normStm]⟩
      · exact ⟨_, by rw [hlt j hjn, he], by simp [normStm, hneg]⟩
    · exact .inl (hge j (by omega))
  · intro j e hj hins hpos
    rw [hlt j (hbelow j e hj), hj]
    have : ¬ e.pos < 0 := by omega
    simp [normStm, this, hins]

/-- PDF 1.5, not human-readable: object streams and a cross-reference stream -/
def exOpts : WOpts := { C02fiob.exOpts with version := 6 }
def exItems : List (Nat × Nat × Obj) := [(4, 0, .int 7), (5, 0, .name [66])]
/-- the content of the object stream (with `inflate := some`: stored uncompressed) -/
def exObjStm : Bytes :=
  match objStmContent exOpts.fmtPlain (exItems.map fun (n, _, o) => (n, o)) with | some (c, _, _) => c | none => []
/-- plain objects 1 and 3, the stream object 2 of 1030 bytes (with `Put` of 3 deferred while it is
    open), the object stream 6 with members 4 and 5, `Close` (catalog 7, cross-reference stream 8) -/
def exProg (xrefRaw : Bytes) : List Op :=
  [.alloc, .alloc, .alloc, .alloc, .alloc, .put 1 0 (.plain (.int 5)), .openStream 2 0 [] none,
   .write (List.replicate 1030 65), .put 3 0 (.plain (.name [65])), .closeStream,
   .writeCompressed exItems [exObjStm], .close (.dict [([84], .int 1)]) none [] xrefRaw]
def exGetInt : Obj → Except Err Int := fun o => match o with | .int i => .ok i | _ => .error .malformed

-- non-vacuity of `file_rt_xrefstream_partial` and `xrefstream_map_agrees` on one concrete file with
-- an object stream and a stream object, zlib replaced by "stored" (`inflate := some`): the program
-- runs, the hypotheses hold (size, generations, the map decoded from the cross-reference stream
-- data agrees with the writer's table on every number but the cross-reference stream's own, 8),
-- and the conclusions are observed: the plain objects, the stream with exactly its 1030 bytes, the
-- object stream 6 with exactly its bytes, null for 8 and 9 — and the members 4 and 5 are returned
-- from the object stream (the theorem for them is `C02fioi.file_rt_xrefstream_members`)
example : (match initState exOpts with
    | some s0 => (match run s0 (exProg []) 0 with
      | .ok sa =>
        let x := sa.xref.filter (fun (p : Nat × XEntry) => p.1 != 8)
        let pl := xrefStreamPayload x sa.nextRef
        (match run s0 (exProg pl.2.2) 0 with
         | .ok s =>
           (match decodeXRefData some pl.1 pl.2.1 s.nextRef pl.2.2 with
            | .ok m =>
              exOpts.objStm && s.nextRef == 9 && s.xref == sa.xref && decide (s.out.length < 9223372036854775808) &&
              s.doc.length == 3 && s.sdoc.length == 3 &&
              (List.range 9).all (fun n => n == 8 || (match s.xref.get n with
                | none => false
                | some e =>
                  decide (e.gen ≤ 65535) &&
                  (if e.inStream == 0 then
                     (if 0 ≤ e.pos then m.get n == some ⟨0, e.pos, e.gen⟩
                      else (match m.get n with | some y => decide (y.pos < 0) | none => true))
                   else m.get n == some ⟨e.inStream, e.pos, 0⟩))) &&
              (match readerGet s.out m 0 some exGetInt 1 0 with | .ok (some (.plain (.int 5))) => true | _ => false) &&
              (match readerGet s.out m 0 some exGetInt 3 0 with | .ok (some (.plain (.name [65]))) => true | _ => false) &&
              (match readerGet s.out m 0 some exGetInt 2 0 with
               | .ok (some (.stream [] start 1030)) => (s.out.drop start).take 1030 == List.replicate 1030 65
               | _ => false) &&
              (match readerGet s.out m 0 some exGetInt 6 0 with
               | .ok (some (.stream _ start len)) => (s.out.drop start).take len == exObjStm
               | _ => false) &&
              (match readerGet s.out m 0 some exGetInt 8 0 with | .ok none => true | _ => false) &&
              (match readerGet s.out m 0 some exGetInt 9 0 with | .ok none => true | _ => false) &&
              (match readerGet s.out m 0 some exGetInt 4 0 with | .ok (some (.plain (.int 7))) => true | _ => false) &&
              (match readerGet s.out m 0 some exGetInt 5 0 with | .ok (some (.plain (.name [66]))) => true | _ => false)
            | _ => false)
         | _ => false)
      | _ => false)
    | none => false) = true := by decide +kernel

end PdfVerif.C02fioh
