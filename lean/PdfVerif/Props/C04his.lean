import PdfVerif.Model.HISXref
import PdfVerif.Spec.HISHistory
/-!
# C04 — the reader follows the specification for every history: the level of decoded entries

On decoded cross-reference sections (`Model/HISXref.lean`): `first_wins_eq_last_wins`, `abstract_get_spec`,
`prev_chain_terminates`.  That `readXRef`, on the bytes of a file, computes `fillAll [] (visitOrder …)` of the
sections it decodes is not proved; `Props/C04hisd.lean` ties the two byte-level decoders to `fillSection`.
-/
namespace PdfVerif.C04his
open PdfVerif PdfVerif.HIS
open PdfVerif.Spec.HIS (Entry Section Revision History override applyAll sections current specGet)

/-- what the reader has for object `k` after visiting these sections in this order: the first section that mentions it -/
def firstIn {β} : List (List (Nat × β)) → Nat → Option β
  | [], _ => none
  | s :: ss, k => (s.lookup k).or (firstIn ss k)

theorem lookup_setIfAbsent {β} (m : List (Nat × β)) (n : Nat) (e : β) (k : Nat) :
    (setIfAbsent m n e).lookup k = (m.lookup k).or (if k == n then some e else none) := by
  unfold setIfAbsent
  cases hn : m.lookup n with
  | some x =>
    by_cases h : k = n
    · subst h; simp [hn]
    · simp [h]
  | none =>
    cases hk : k == n
    · simp [List.lookup_cons, hk]
    · simp [eq_of_beq hk, hn]

theorem lookup_fillSection {β} (s : List (Nat × β)) : ∀ (m : List (Nat × β)) (k : Nat),
    (fillSection m s).lookup k = (m.lookup k).or (s.lookup k) := by
  induction s with
  | nil => intro m k; simp [fillSection]
  | cons p rest ih =>
    intro m k
    obtain ⟨n, e⟩ := p
    simp only [fillSection, ih, lookup_setIfAbsent, List.lookup_cons, Option.or_assoc]
    cases k == n <;> simp

theorem lookup_fillAll {β} (ss : List (List (Nat × β))) : ∀ (m : List (Nat × β)) (k : Nat),
    (fillAll m ss).lookup k = (m.lookup k).or (firstIn ss k) := by
  induction ss with
  | nil => intro m k; simp [fillAll, firstIn]
  | cons s ss ih => intro m k; simp only [fillAll, ih, lookup_fillSection, firstIn, Option.or_assoc]

theorem override_apply {α} (st : Spec.HIS.State α) (s : Section α) (n : Nat) :
    override st s n = (s.lookup n).or (st n) := by
  unfold override; cases s.lookup n <;> rfl

theorem applyAll_append {α} (a : List (Section α)) : ∀ (st : Spec.HIS.State α) (b : List (Section α)),
    applyAll st (a ++ b) = applyAll (applyAll st a) b := by
  induction a with
  | nil => intro st b; rfl
  | cons s ss ih => intro st b; exact ih _ b

/-- The reader visits the cross-reference sections newest first and keeps the first entry it sees for every
object number (`fillAll`, the model of the `xref[i] != nil` tests in `decodeXRefSection`/`decodeXRefStream`; the
table decoder departs from it in its off-by-one repair, `C04hisd.table_decoder_first_wins`).  For every list of
sections the resulting map is the state the reference semantics computes by applying them oldest first. -/
theorem first_wins_eq_last_wins {α} (newestFirst : List (Section α)) (k : Nat) :
    (fillAll [] newestFirst).lookup k = applyAll (fun _ => none) newestFirst.reverse k := by
  induction newestFirst with
  | nil => rfl
  | cons s ss ih =>
    rw [List.reverse_cons, applyAll_append]
    show _ = override _ s k
    rw [override_apply, ← ih, lookup_fillAll, lookup_fillAll]
    rfl

-- non-vacuity: three sections, object 1 redefined then freed, object 2 only in the oldest
example :
    let newest : Section String := [(1, .free 1)]
    let middle : Section String := [(1, .define 0 "b"), (3, .define 0 "c")]
    let oldest : Section String := [(0, .free 65535), (1, .define 0 "a"), (2, .define 0 "x")]
    ((fillAll [] [newest, middle, oldest]).lookup 1).isSome = true
    ∧ (match (fillAll [] [newest, middle, oldest]).lookup 2 with | some (.define 0 "x") => true | _ => false) = true := by
  decide

theorem lookup_map {β γ} (f : β → γ) (s : List (Nat × β)) (k : Nat) :
    (s.map fun p => (p.1, f p.2)).lookup k = (s.lookup k).map f := by
  induction s with
  | nil => rfl
  | cons p rest ih =>
    obtain ⟨n, e⟩ := p
    simp only [List.map_cons, List.lookup_cons]
    cases k == n <;> simp [ih]

/-- how a model entry is read as a specification entry, given the object `read e` found by
    following an in-use entry -/
def toSpec {α} (read : XEntry → α) (e : XEntry) : Entry α :=
  if e.pos < 0 then .free e.gen else .define e.gen (read e)

def mapSection {α} (read : XEntry → α) (s : List (Nat × XEntry)) : Section α :=
  s.map fun p => (p.1, toSpec read p.2)

def mapRevision {α} (read : XEntry → α) (r : List (Nat × XEntry) × Option (List (Nat × XEntry))) : Revision α :=
  { main := mapSection read r.1, stm := r.2.map (mapSection read) }

/-- the sections of a history in the order `readXRef` visits them: newest revision first (so is the
    argument; a `History` lists the oldest first, hence `h.reverse` where it is used), in each revision
    the table, then the `/XRefStm` section -/
def visitOrder {β} : List (List (Nat × β) × Option (List (Nat × β))) → List (List (Nat × β))
  | [] => []
  | (main, stm) :: older => (main :: (match stm with | some s => [s] | none => [])) ++ visitOrder older

theorem visitOrder_append {β} (a b : List (List (Nat × β) × Option (List (Nat × β)))) :
    visitOrder (a ++ b) = visitOrder a ++ visitOrder b := by
  induction a with
  | nil => rfl
  | cons x xs iha => obtain ⟨m, s⟩ := x; simp [visitOrder, iha]

theorem sections_reverse {α} (read : XEntry → α) (h : List (List (Nat × XEntry) × Option (List (Nat × XEntry)))) :
    (sections (h.map (mapRevision read))).reverse = (visitOrder h.reverse).map (mapSection read) := by
  induction h with
  | nil => rfl
  | cons r rs ih =>
    obtain ⟨main, stm⟩ := r
    simp only [List.map_cons, sections, List.reverse_append, ih, List.reverse_cons, visitOrder_append, List.map_append]
    congr 1
    cases stm <;> simp [mapRevision, Revision.sections, visitOrder]

theorem fillAll_map {α} (read : XEntry → α) (ss : List (List (Nat × XEntry))) (k : Nat) :
    (fillAll [] (ss.map (mapSection read))).lookup k = ((fillAll [] ss).lookup k).map (toSpec read) := by
  simp only [lookup_fillAll, List.lookup_nil, Option.none_or]
  induction ss with
  | nil => rfl
  | cons s ss ih =>
    simp only [List.map_cons, firstIn, mapSection, lookup_map]
    cases s.lookup k with
    | some e => rfl
    | none => exact ih

/-- `h`: the decoded entries of a file's revisions, oldest first.  `readXRef` fills its map in `visitOrder`;
`Reader.get` (`getDecision`) returns null when the entry is missing, free or has another generation, and otherwise
the object `read e` found at the entry: that is `specGet` of the history whose entries are read the same way. -/
theorem abstract_get_spec {α} (read : XEntry → α)
    (h : List (List (Nat × XEntry) × Option (List (Nat × XEntry)))) (num gen : Nat) :
    (getDecision (fillAll [] (visitOrder h.reverse)) num gen).map read
      = specGet (h.map (mapRevision read)) num gen := by
  have key := first_wins_eq_last_wins ((visitOrder h.reverse).map (mapSection read)) num
  rw [fillAll_map, ← sections_reverse, List.reverse_reverse] at key
  unfold specGet current getDecision
  rw [← key]
  cases (fillAll [] (visitOrder h.reverse)).lookup num with
  | none => rfl
  | some e =>
    simp only [Option.map, toSpec]
    by_cases hp : e.pos < 0
    · simp [hp]
    · by_cases hg : e.gen = gen
      · simp [hp, hg]
      · have : (e.gen != gen) = true := by simpa using hg
        simp [hp, hg, this]

example : -- object 5: defined (gen 0), freed (gen 1), defined again with generation 1
    let h : List (List (Nat × XEntry) × Option (List (Nat × XEntry))) :=
      [([(5, ⟨100, 0, 0⟩)], none), ([(5, ⟨-1, 1, 0⟩)], none), ([(5, ⟨300, 1, 0⟩)], some [(7, ⟨0, 0, 9⟩)])]
    (getDecision (fillAll [] (visitOrder h.reverse)) 5 1).map (·.pos) = some 300
    ∧ (getDecision (fillAll [] (visitOrder h.reverse)) 5 0) = none
    ∧ (getDecision (fillAll [] (visitOrder h.reverse)) 7 0).map (·.inStream) = some 9 := by decide

/-- the termination measure of the `/Prev` loop: the positions of the file not yet visited -/
def unseen (size : Nat) (seen : List Int) : Nat :=
  ((List.range size).filter fun (x : Nat) => !seen.contains (x : Int)).length

theorem filter_length_mono {γ} (p q : γ → Bool) (l : List γ) (h : ∀ x, q x = true → p x = true) :
    (l.filter q).length ≤ (l.filter p).length := by
  rw [← List.countP_eq_length_filter, ← List.countP_eq_length_filter]
  exact List.countP_mono_left fun x _ => h x

theorem filter_length_lt {γ} (p q : γ → Bool) (l : List γ) (h : ∀ x, q x = true → p x = true)
    (a : γ) (ha : a ∈ l) (hpa : p a = true) (hqa : q a = false) :
    (l.filter q).length < (l.filter p).length := by
  induction l with
  | nil => cases ha
  | cons b l ih =>
    simp only [List.filter_cons]
    rcases List.mem_cons.mp ha with rfl | hmem
    · have := filter_length_mono p q l h
      simp [hpa, hqa]; omega
    · have := ih hmem
      cases hq : q b with
      | true => simp [h b hq]; omega
      | false => cases p b <;> simp <;> omega

theorem unseen_mono (size : Nat) (seen seen' : List Int) (h : ∀ x ∈ seen, x ∈ seen') :
    unseen size seen' ≤ unseen size seen := by
  apply filter_length_mono
  intro x hx
  simp only [Bool.not_eq_true', List.contains_eq_mem, decide_eq_false_iff_not] at hx ⊢
  exact fun hm => hx (h _ hm)

theorem unseen_lt (size : Nat) (seen : List Int) (start : Int) (h0 : 0 ≤ start) (h1 : start < size)
    (hns : seen.contains start = false) : unseen size (start :: seen) < unseen size seen := by
  have hcast : ((start.toNat : Nat) : Int) = start := Int.toNat_of_nonneg h0
  apply filter_length_lt _ _ _ _ start.toNat
  · exact List.mem_range.2 (Int.ofNat_lt.1 (hcast ▸ h1))
  · simp only [hcast, hns]; rfl
  · simp [hcast]
  · intro x hx
    simp only [Bool.not_eq_true', List.contains_eq_mem, decide_eq_false_iff_not, List.mem_cons, not_or] at hx ⊢
    exact hx.2

/-- what `prev_chain_terminates` asks of a step of `readXRef`: its `seen` set is only ever added to -/
def SeenGrows {σ} (step : σ → List Int → Int → Except Err (σ × List Int × Option Int)) : Prop :=
  ∀ st seen start st' seen' nx, step st seen start = .ok (st', seen', nx) → ∀ x ∈ seen, x ∈ seen'

theorem prevLoop_isSome {σ} (size hdr : Nat) (step : σ → List Int → Int → Except Err (σ × List Int × Option Int))
    (hstep : SeenGrows step) :
    ∀ (fuel : Nat) (st : σ) (seen : List Int) (start : Int), 0 ≤ start → start < size →
      unseen size seen + 1 ≤ fuel → (prevLoop size hdr step fuel st seen start).isSome = true := by
  intro fuel st seen start
  fun_induction prevLoop size hdr step fuel st seen start
  case case1 => exact fun _ _ hf => absurd hf (by omega)
  case case6 fuel st seen start hc st' seen' prev hs hrange ih =>
    -- the one exit that goes round again: `start` is newly marked, and `/Prev` points into the file
    intro h0 h1 hf
    simp only [Bool.or_eq_true, decide_eq_true_eq, not_or, Int.not_le] at hrange
    have h2 := unseen_lt size seen start h0 h1 (by simpa using hc)
    have h3 := unseen_mono size (start :: seen) seen' (hstep _ _ _ _ _ _ hs)
    exact ih (by omega) (by omega) (by omega)
  all_goals exact fun _ _ _ => rfl

/-- The `/Prev` loop of `readXRef`, for an arbitrary `step` (it may fail, add an `/XRefStm` position to `seen`,
point anywhere with its `/Prev`), started inside the file, finishes within `size + 1` iterations: every iteration
marks a position of `[0,size)` that was not marked before, and `/Prev` values outside the file are rejected. -/
theorem prev_chain_terminates {σ} (size hdr : Nat)
    (step : σ → List Int → Int → Except Err (σ × List Int × Option Int)) (hstep : SeenGrows step)
    (st : σ) (start : Int) (h0 : 0 ≤ start) (h1 : start < size) :
    (prevLoop size hdr step (size + 1) st [] start).isSome = true := by
  apply prevLoop_isSome size hdr step hstep
  · exact h0
  · exact h1
  · have := List.length_filter_le (fun (x : Nat) => !([] : List Int).contains (x : Int)) (List.range size)
    simp only [List.length_range] at this
    simp only [unseen]; omega

-- non-vacuity: a two-section cycle 10 → 20 → 10 stops after two steps, having counted both
example : prevLoop (σ := Nat) 100 0 (fun n seen start => .ok (n + 1, seen, some (if start = 10 then 20 else 10))) 101 0 [] 10
    = some (.ok 2) := by rfl

/-! ## what the reference semantics says (sanity of `Spec/HISHistory.lean` itself) -/

theorem sections_append {α} (h : History α) (r : Revision α) : sections (h ++ [r]) = sections h ++ r.sections := by
  induction h with
  | nil => simp [sections]
  | cons x xs ih => simp [sections, ih, List.append_assoc]

theorem current_append {α} (h : History α) (r : Revision α) (n : Nat) :
    current (h ++ [r]) n
      = (r.main.lookup n).or ((match r.stm with | some s => s.lookup n | none => none).or (current h n)) := by
  unfold current
  rw [sections_append, applyAll_append]
  unfold Revision.sections
  cases r.stm <;> simp [applyAll, override_apply]

/-- **Newest definition wins, with its generation.** -/
theorem specGet_newest_define {α} (h : History α) (r : Revision α) (n g : Nat) (v : α)
    (hn : r.main.lookup n = some (.define g v)) :
    specGet (h ++ [r]) n g = some v ∧ ∀ g', g' ≠ g → specGet (h ++ [r]) n g' = none := by
  unfold specGet
  rw [current_append, hn]
  exact ⟨by simp, fun g' hg => by simp [Ne.symm hg]⟩

/-- **A newest free entry hides every older definition**, whatever the generation asked for. -/
theorem specGet_newest_free {α} (h : History α) (r : Revision α) (n g g' : Nat)
    (hn : r.main.lookup n = some (.free g)) : specGet (h ++ [r]) n g' = none := by
  unfold specGet
  rw [current_append, hn]
  rfl

/-- **A revision that does not mention a number leaves it as it was** (plain, non-hybrid revision). -/
theorem specGet_untouched {α} (h : History α) (r : Revision α) (n g : Nat)
    (hn : r.main.lookup n = none) (hs : r.stm = none) : specGet (h ++ [r]) n g = specGet h n g := by
  unfold specGet
  rw [current_append, hn, hs]
  rfl

/-- in a hybrid revision the `/XRefStm` section is consulted after the table and before `/Prev` -/
theorem specGet_hybrid_stm {α} (h : History α) (main stm : Section α) (n : Nat) (e : Entry α)
    (hm : main.lookup n = none) (hs : stm.lookup n = some e) :
    current (h ++ [{ main := main, stm := some stm }]) n = some e := by
  rw [current_append]
  simp [hm, hs]

theorem specGet_empty {α} (n g : Nat) : specGet ([] : History α) n g = none := rfl

end PdfVerif.C04his
