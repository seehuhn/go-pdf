import PdfVerif.Props.C06fbA
/-!
# C06 (CCITTFax, work package FB): Group 3 one-dimensional rows with EOL codes (K = 0, EndOfLine)

Every row is preceded by the EOL code `000000000001`.  The 1-D loop of the reader meets it at `xpos = 0`: `decodeRun`
answers `S_EOL` for eleven zeros, `waitForOne` consumes the `1`, the EOL counter goes up (six in a row are the
return-to-control sequence) and the loop goes on with the row's runs.  `C06faC` proves this (`dec1D_eol_step`,
`ccitt_g3_1d_row_rt_eol`, `g3_1d_stream_rt`); this file states the cases with `EndOfLine = true` and the class K ≤ 0 of
`ccitt_rt_supported_statement`.
-/
namespace PdfVerif.C06fbE
open PdfVerif PdfVerif.FB PdfVerif.Gen PdfVerif.C06fbt PdfVerif.C06faC PdfVerif.C06fbA

/-- one EOL code at the start of a row, not the sixth: consumed, counted, the line stays empty -/
theorem dec1D_eol (p : CParams) (hc : 0 < p.columns) (r : Rd) (tl : Bits) (f n : Nat) (nt : Bool)
    (hn : n + 1 < 6) (he : Rd.clean r) (hline : r.line = []) (hs : Rd.stream r = codeBits 1 12 ++ tl) :
    ∃ r2, Rd.decode1DGo r p (f + 1) 0 true n nt = Rd.decode1DGo r2 p f 0 true (n + 1) false ∧
      Rd.clean r2 ∧ Rd.stream r2 = tl ∧ r2.line = [] := by
  obtain ⟨r2, v1, v2, v3, hstep⟩ := dec1D_eol_step p hc r tl f n nt he hline hs
  rw [if_neg (by omega)] at hstep
  exact ⟨r2, hstep, v1, v2, v3⟩

/-- `alignRow` skips the writer's fill bits (none without EncodedByteAlign) -/
theorem alignRow_padOf (p : CParams) (r : Rd) (bits suffix : Bits) (he : Rd.clean r)
    (hs : Rd.stream r = padOf p bits ++ suffix) (hm : p.byteAlign = true → suffix.length % 8 = 0) :
    Rd.clean (r.alignRow p) ∧ Rd.stream (r.alignRow p) = suffix ∧ (r.alignRow p).line = r.line :=
  alignRow_rows p r bits suffix [] 0 [] he hs hm

/-- Group 3 one-dimensional stream round trip with EOL codes (K = 0, EndOfLine, with or
without EncodedByteAlign, with the return-to-control sequence) -/
theorem ccitt_g3_1d_stream_rtE (p : CParams) (M : Nat) (rows : List Bytes)
    (hk : p.k = 0) (heol : p.endOfLine = true) (hig : p.ignoreEOB = false)
    (hc : 0 < p.columns) (hok : Rows1DOk p rows) (hmaxE : p.maxRows = 0 ∨ rows.length ≤ p.maxRows)
    (hmaxD : M = 0 ∨ rows.length ≤ M) :
    decodeAll { p with maxRows := M } (encodeAll p rows.flatten).1 = (rows.flatten, 1) :=
  g3_1d_stream_rt p M rows hk hig hc ((rows2DOk_iff p rows).2 hok) hmaxE hmaxD

/-- K ≤ 0 with the end-of-block pattern: Group 4 and Group 3 1-D, EndOfLine any, EncodedByteAlign any.  A part of
`C06fbK.provedClass` (every K); outside that one only IgnoreEndOfBlock remains (no EOFB/RTC: termination by `/Rows`;
the look-ahead runs beyond the end of the data, `srcErr`/`fake`: `Rd.clean` does not hold at the last rows),
validated only (oracle `fb-ccitt-rt`, model correspondence, x/image/ccitt on every run). -/
def provedClass (f : FCCITT) : Prop := f.ignoreEOB = false ∧ f.k ≤ 0

/-- `ccitt_rt_statement` for K ≤ 0 with the end-of-block pattern: Group 4 and Group 3 1-D, with
and without EOL codes, with and without EncodedByteAlign; an instance of `C06fbK.ccitt_rt_supported_partial`, which
stands downstream -/
theorem ccitt_rt_supported_partial : ccitt_rt_supported_statement provedClass :=
  fun f rows hv hadm _ h => rt_of_stream_rt f rows hv hadm fun M => stream_rt_kle0 f.encParams M rows h.2 h.1

-- non-vacuity: K = 0 with EOL codes, without and with fill bits
example : (⟨0, true, false, 10, 0, false, true, 0⟩ : FCCITT).validate = true ∧
    ccittAdmissible (⟨0, true, false, 10, 0, false, true, 0⟩ : FCCITT).encParams [[0xAA, 0x80], [0xFF, 0xC0]] ∧
    provedClass ⟨0, true, false, 10, 0, false, true, 0⟩ := by
  refine ⟨by decide, by decide, rfl, by decide⟩
example : decodeAll (⟨0, true, true, 10, 0, false, true, 0⟩ : FCCITT).decParams
    (encodeAll (⟨0, true, true, 10, 0, false, true, 0⟩ : FCCITT).encParams [0xAA, 0x80, 0xFF, 0xC0]).1 =
      ([0xAA, 0x80, 0xFF, 0xC0], 1) := by decide +kernel
example : provedClass ⟨0, true, true, 10, 0, false, true, 0⟩ := ⟨rfl, by decide⟩

end PdfVerif.C06fbE
