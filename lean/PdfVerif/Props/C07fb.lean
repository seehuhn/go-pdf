import PdfVerif.Spec.FBCodecs
import PdfVerif.Props.C08fb
/-!
C07 (work package FB): the library's predictor codec against the reference codec written from the PNG and TIFF specifications
(`Spec/FBCodecs.lean`, shares nothing with the model).  Proved for all inputs: the specification's predictor function is the
model's, incl. the Paeth tie-breaking order and 0 for unknown filter types (`spec_predictor_eq_model`); the byte formulas
`Filt`/`Recon` of the specification equal the model's byte arithmetic and invert each other; row length and bytes per pixel
agree for every validated parameter set (`spec_geometry_eq_model`).  Not proved, validated on every run: whole-row and
whole-stream agreement (the compiled Spec codecs decode the implementation's output and re-encode to identical bytes, lines
`FB spdec`/`FB spenc`; an independent Go reference codec and `golang.org/x/image/ccitt` do the same).
-/
namespace PdfVerif.C07fb
open PdfVerif PdfVerif.FB

theorem spec_paeth_eq_model (a b c : Nat) : Spec.FB.paethPredictor a b c = (paeth a b c : Int) := by
  unfold Spec.FB.paethPredictor paeth
  simp only [Bool.and_eq_true, decide_eq_true_eq]
  split
  · rfl
  · split <;> rfl

/-- the predictor of every filter type, on all neighbour values -/
theorem spec_predictor_eq_model (ft a b c : Nat) :
    Spec.FB.predictor ft a b c = (pngPredict ft a b c : Int) := by
  unfold Spec.FB.predictor pngPredict
  match ft with
  | 0 => simp
  | 1 => simp
  | 2 => simp
  | 3 => simp
  | 4 => simp; exact spec_paeth_eq_model a b c
  | n + 5 => simp

/-- the model's filter byte is the specification's `Filt(x) = Orig(x) − predictor mod 256` -/
theorem model_filter_byte_eq_spec (orig p : Nat) (ho : orig < 256) (hp : p < 256) :
    (((orig : Int) - p).emod 256).toNat = (orig + 256 - p) % 256 := by
  show (((orig : Int) - p) % 256).toNat = (orig + 256 - p) % 256
  omega

/-- the model's reconstruction byte is the specification's `Recon(x) = Filt(x) + predictor mod 256` -/
theorem model_unfilter_byte_eq_spec (filt p : Nat) :
    (((filt : Int) + p).emod 256).toNat = (filt + p) % 256 := by
  show (((filt : Int) + p) % 256).toNat = (filt + p) % 256
  omega

/-- in the specification's arithmetic reconstruction undoes filtering, byte by byte -/
theorem spec_filter_byte_inverse (orig p : Nat) (ho : orig < 256) (hp : p < 256) :
    ((((((orig : Int) - p).emod 256).toNat : Int) + p).emod 256).toNat = orig := by
  show ((((((orig : Int) - p) % 256).toNat : Int) + p) % 256).toNat = orig
  omega

/-- the specification's row length and bytes per pixel are the sizes `Params` derives -/
theorem spec_geometry_eq_model (p : PParams) (hv : p.validate = true) (h1 : p.predictor ≠ 1) :
    Spec.FB.rowBytes p.geo.colors p.geo.bpc p.geo.columns = p.geo.rowBytes ∧
    Spec.FB.bytesPerPixel p.geo.colors p.geo.bpc = p.geo.bpp := by
  obtain ⟨hr, _, _⟩ := C08fb.validate_reached p hv h1
  obtain ⟨b1, b2, b3, b4⟩ := C08fb.product_bounds p hr
  have hc0 : 0 ≤ p.colors := by have := hr.colors; omega
  have hb0 : 0 ≤ p.bpc := by have := hr.bpc; omega
  have hk0 : 0 ≤ p.columns := by have := hr.columns; omega
  -- the naturals of `geo` multiply like the integers they come from
  have hX : ((p.colors.toNat * p.bpc.toNat : Nat) : Int) = p.colors * p.bpc := by
    rw [Int.natCast_mul, Int.toNat_of_nonneg hc0, Int.toNat_of_nonneg hb0]
  have hY : ((p.colors.toNat * p.bpc.toNat * p.columns.toNat : Nat) : Int) = p.colors * p.bpc * p.columns := by
    rw [Int.natCast_mul, hX, Int.toNat_of_nonneg hk0]
  unfold Spec.FB.rowBytes Spec.FB.bytesPerPixel
  simp only [PParams.geo, PParams.bytesPerRow, PParams.bytesPerPixel, C08fb.bitsPerPixel_eq p hr, C08fb.bitsPerRow_eq p hr]
  rw [Int.tdiv_eq_ediv_of_nonneg (by omega), Int.tdiv_eq_ediv_of_nonneg (by omega)]
  omega

example : Spec.FB.predDecode 3 8 2 14 (encodeStream (⟨3, 8, 2, 14⟩ : PParams).geo [] [1, 2, 3, 250, 5, 6, 9, 8, 7, 6, 5, 4])
    = [1, 2, 3, 250, 5, 6, 9, 8, 7, 6, 5, 4] := by decide +kernel
example : (decodeStream (⟨2, 4, 3, 2⟩ : PParams).geo (Spec.FB.predEncode 2 4 3 2 [] [0x12, 0x34, 0x56, 0xf1, 0x0e, 0x77])).1
    = [0x12, 0x34, 0x56, 0xf1, 0x0e, 0x77] := by decide +kernel

end PdfVerif.C07fb
