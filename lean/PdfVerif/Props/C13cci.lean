import PdfVerif.Props.C13cch
/-!
# C13 (part 9) — `File.All` yields no code twice
-/
namespace PdfVerif.C13cci
open PdfVerif PdfVerif.CC PdfVerif.CMap PdfVerif.C13cc PdfVerif.C13ccb PdfVerif.C13ccc PdfVerif.C13ccd PdfVerif.C13ccf PdfVerif.C13cch

theorem nodup_of_cover {α : Type} (m l : List α) (hm : m.Nodup) (hsub : ∀ x ∈ m, x ∈ l)
    (hlen : l.length ≤ m.length) : l.Nodup := by
  classical
  rw [List.nodup_iff_count]
  intro a
  apply Decidable.byContradiction
  intro hc
  -- `a` occurs twice: without one copy of it, `l` still contains all of `m`, but is too short
  have h2 : 1 < l.count a := Nat.not_le.mp hc
  have ha : a ∈ l := List.count_pos_iff.mp (Nat.lt_trans Nat.zero_lt_one h2)
  have hsub' : m ⊆ l.erase a := by
    intro x hx
    by_cases hxa : x = a
    · subst hxa; exact List.count_pos_iff.mp (by rw [List.count_erase_self]; exact Nat.sub_pos_of_lt h2)
    · exact (List.mem_erase_of_ne hxa).mpr (hsub x hx)
  have hle := hm.length_le_of_subset hsub'
  rw [List.length_erase_of_mem ha] at hle
  exact Nat.lt_irrefl _ (Nat.lt_of_le_of_lt hlen
    (Nat.lt_of_le_of_lt hle (Nat.sub_lt (List.length_pos_of_mem ha) Nat.one_pos)))

theorem all_setMapping_nodup_bytes (csr : CSR) (f f' : CMapFile) (codec : Codec) (data : List (Nat × Nat))
    (hc : newCodec csr = .ok codec)
    (h : setMapping f [] codec data = .ok f')
    (hcid : ∀ p ∈ data, p.2 < 4294967296)
    (hinj : (data.map fun p => codec.appendCode p.1).Nodup)
    (hlen : data.length ≤ Gen.limits_MaxCMapMappings) :
    ((allItemsFiles [f'] Gen.limits_MaxCMapMappings).map Prod.fst).Nodup := by
  have hbytes := appendCode_bytes hc data
  have hB2 : Gen.limits_MaxCMapMappings ≤ maxInt32 := by decide
  have hdemand := setMapping_demand h hcid hbytes
  have hmem := all_setMapping_bytes f f' codec data h hcid hbytes Gen.limits_MaxCMapMappings (by omega) hB2
  have hlenI : (allItemsFiles [f'] Gen.limits_MaxCMapMappings).length = data.length := by
    rw [allItemsFiles_one, (cview f').length_items _ (by rw [cview_demand]; omega), cview_demand, hdemand]
  -- `hinj` is `Nodup` of the RESULTS of `AppendCode` (`Except` values), so the cover is taken of the byte strings wrapped in
  -- `Except.ok`: they are pairwise different and all enumerated, and there are as many items as pairs in the map
  have hnd : ((allItemsFiles [f'] Gen.limits_MaxCMapMappings).map fun it => (Except.ok it.1 : Except CErr Bytes)).Nodup := by
    refine nodup_of_cover _ _ hinj ?_ ?_
    · intro x hx
      simp only [List.mem_map] at hx ⊢
      obtain ⟨p, hp, rfl⟩ := hx
      obtain ⟨es, hes, _⟩ := setMapping_ok h
      obtain ⟨bs, h2⟩ := (cidEntries_rel hes).encodes p hp
      exact ⟨(bs, p.2), (hmem bs p.2).mpr ⟨p, hp, h2, rfl⟩, h2.symm⟩
    · simp only [List.length_map]; omega
  unfold List.Nodup at hnd ⊢
  rw [List.pairwise_map] at hnd ⊢
  exact hnd.imp (fun {a b} hab heq => hab (by rw [heq]))

/-- `File.All` yields no code twice: for a map with canonical codes (pairwise different byte
strings) and at most 2^20 entries, the codes yielded by `All` on the file built by `SetMapping`
are pairwise different (together with `all_setMapping_total`: `All` enumerates exactly the valid
codes of the map, each exactly once).  `hinj` is `Nodup` of the results of `AppendCode`, which are `Except` values: two
failing codes with equal errors violate it too. -/
theorem all_setMapping_nodup (csr : CSR) (f f' : CMapFile) (codec : Codec) (data : List (Nat × Nat))
    (hc : newCodec csr = .ok codec)
    (h : setMapping f [] codec data = .ok f')
    (hcid : ∀ p ∈ data, p.2 < 4294967296)
    (hinj : (data.map fun p => codec.appendCode p.1).Nodup)
    (hlen : data.length ≤ Gen.limits_MaxCMapMappings)
    (out : List (Nat × Nat)) (ho : cmapAll [f'] codec = .ok out) :
    (out.map Prod.fst).Nodup := by
  have hbytes := appendCode_bytes hc data
  have hmem := all_setMapping_bytes f f' codec data h hcid hbytes Gen.limits_MaxCMapMappings
    (setMapping_demand h hcid hbytes ▸ hlen) (by decide)
  refine decodeItems_nodup codec _ out ho (all_setMapping_nodup_bytes csr f f' codec data hc h hcid hinj hlen) ?_
  intro bs bs' code hb hb' hd hd'
  -- both byte strings belong to pairs of the map, hence are made of bytes; `AppendCode` inverts `Decode`
  have hab : ∀ b, b ∈ (allItemsFiles [f'] Gen.limits_MaxCMapMappings).map Prod.fst → AllBytes b := by
    intro b hbm
    obtain ⟨⟨b1, v1⟩, hin, rfl⟩ := List.mem_map.mp hbm
    obtain ⟨p, hp, h1, _⟩ := (hmem b1 v1).mp hin
    exact hbytes p hp _ h1
  have e1 := C12ccd.decode_then_append csr codec hc bs (hab bs hb) code bs.length hd
  have e2 := C12ccd.decode_then_append csr codec hc bs' (hab bs' hb') code bs'.length hd'
  simp only [List.take_length] at e1 e2
  rw [e1] at e2; injection e2

end PdfVerif.C13cci
