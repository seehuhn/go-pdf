import PdfVerif.Props.C13ccg
/-!
# C13 (part 8) — the enumeration budget is never exhausted by a built file

The file written by `SetMapping` / `NewToUnicodeFile` asks for exactly one enumeration item per map entry: the counting
half of `outOf_renders` / `tuOutOf_renders` (the argument — distinct keys, every group its size — is `groups_renders`,
Lemmas/CMapFile.lean).  So `all_setMapping` and `tounicode_all` hold without their budget hypothesis, for maps of at most
`MaxCMapMappings` entries (`…_total`).
-/
namespace PdfVerif.C13cch
open PdfVerif PdfVerif.CC PdfVerif.CMap PdfVerif.C13cc PdfVerif.C13ccb PdfVerif.C13ccc PdfVerif.C13ccd PdfVerif.C13ccf

/-- The file `SetMapping` writes asks for exactly one enumeration item per entry. -/
theorem outOf_demand (es : List (Entry Nat)) (hes : EntriesOK es) :
    rangesDemand (rights (outOf es)) + (lefts (outOf es)).length = es.length := by
  rw [rangesDemand_eq, ← (outOf_renders es hes).2, ← GFile.ofItems_demand, citem, GFile.ofItems_map, GFile.demand_eq,
    List.length_map]

theorem setMapping_demand {f f' : CMapFile} {codec : Codec} {data : List (Nat × Nat)}
    (h : setMapping f [] codec data = .ok f') (hcid : ∀ p ∈ data, p.2 < 4294967296)
    (hbytes : ∀ p ∈ data, ∀ bs, codec.appendCode p.1 = .ok bs → AllBytes bs) :
    rangesDemand f'.ranges + f'.singles.length = data.length := by
  obtain ⟨es, hes, hs, hr⟩ := setMapping_ok h
  rw [hs, hr, outOf_demand es (cidEntries_ok hes hcid hbytes), (cidEntries_rel hes).length_eq fun _ _ h => h.1 rfl]

/-- `all_setMapping` without its hypothesis on the built file: for a map with at most
`MaxCMapMappings` (2^20) entries the enumeration budget is never exhausted, and `File.All` yields
exactly the pairs of the map whose code is valid for the codec. -/
theorem all_setMapping_total (csr : CSR) (f f' : CMapFile) (codec : Codec) (data : List (Nat × Nat))
    (hc : newCodec csr = .ok codec)
    (h : setMapping f [] codec data = .ok f')
    (hcid : ∀ p ∈ data, p.2 < 4294967296)
    (hlen : data.length ≤ Gen.limits_MaxCMapMappings) :
    ∃ out, cmapAll [f'] codec = .ok out ∧
      ∀ code v, (code, v) ∈ out ↔
        ∃ p ∈ data, p.2 = v ∧ ∃ bs, codec.appendCode p.1 = .ok bs ∧ codec.decode bs = .ok (code, bs.length, true) :=
  all_setMapping csr f f' codec data hc h hcid
    (setMapping_demand h hcid (appendCode_bytes hc data) ▸ hlen)

theorem newToUnicodeFile_demand {csr : CSR} {data : List (Nat × Text)} {f : TUFile} {codec : Codec}
    (hc : newCodec csr = .ok codec) (h : newToUnicodeFile csr data = .ok f) :
    tuRangesDemand f.ranges + f.singles.length = data.length := by
  obtain ⟨es, hes, hok, hv⟩ := tview_newToUnicodeFile hc h
  rw [← tview_demand, hv, GFile.ofItems_demand, (tuOutOf_renders es hok).2, (tuEntries_rel hes).length_eq fun _ _ => id]

/-- `tounicode_all` without its hypothesis on the built file (maps with at most 2^20 entries). -/
theorem tounicode_all_total (csr : CSR) (data : List (Nat × Text)) (f : TUFile) (codec : Codec)
    (hc : newCodec csr = .ok codec) (h : newToUnicodeFile csr data = .ok f)
    (hlen : data.length ≤ Gen.limits_MaxCMapMappings) :
    ∃ out, tuAll [f] codec = .ok out ∧
      ∀ code v, (code, v) ∈ out ↔
        ∃ p ∈ data, p.2 = v ∧ ∃ bs, codec.appendCode p.1 = .ok bs ∧ codec.decode bs = .ok (code, bs.length, true) :=
  C13ccg.tounicode_all csr data f codec hc h (newToUnicodeFile_demand hc h ▸ hlen)

end PdfVerif.C13cch
