import PdfVerif.Model.HISReader
import PdfVerif.Lemmas.ScanBytes
import PdfVerif.Props.C02fioc
/-!
# C04 — an object-stream member written as an indirect reference reads as that reference

Library HEAD 7ec872d (`scanner.readReferenceTail`): `getFromObjStm` applies the `n g R` look-ahead
of the other reference readers to a member that `ReadObject` returned as an integer — white
space AND comments, `ReadInteger`, white space and comments, `R`, inside the member's extent.

`readReferenceTail_spec` (with `memberValue_ref`): every conforming tail is recognised.  `readReferenceTail_topTail` +
`readIndirect_topTail`: the member look-ahead and the top-level reader `readIndirect` run the SAME function `topTail` on
the bytes behind the integer.  Rejected tails, signs, `0R`: `decide` examples.

The reader is `Model/HISObj.lean`/`Model/HISReader.lean` (`HIS.readInt`, `HIS.readIndirect`: absolute offsets,
`limit`, `scalarOnly`), the model C04/C20 are about; `Model/FIOReader.lean` (`FIO.readIntegerE`,
`FIO.readIndirectObject`: rests of the input), the one C02/C03 are about, renders the same `ReadIndirectObject`; only
`readInt_eq` ties them.
-/
namespace PdfVerif.C04hisf
open PdfVerif PdfVerif.HIS
open PdfVerif.Spec.Grammar (WsR isWhite)

/-- the two models of `ReadInteger` are the same text but for the name of the token cap: the `rfl` holds because
    `Gen.his_scanner_maxNameBytes` and `Gen.scanner_maxNameBytes` are extracted as the same number -/
theorem readInt_eq (inp : Bytes) : HIS.readInt inp = FIO.readIntegerE inp := by
  unfold HIS.readInt FIO.readIntegerE
  rfl

theorem follows_of {tail : Bytes} : (match tail with | [] => True | c :: _ => isRegular c = false) →
    (match tail with | [] => true | c :: _ => !isRegular c) = true := by
  cases tail with
  | nil => exact fun _ => rfl
  | cons c t => intro h; simp only [show isRegular c = false from h]; rfl

/-- `readReferenceTail` recognises every conforming tail of a reference — any white space and comments `w1` (the
grammar `WsR`, however long), the generation in decimal, any white space and comments `w2`, `R` — in both situations
the code distinguishes (`hend`): the `R` ends before the next member (or there is none) and is followed by the end of the
data or a non-regular byte; or the `R` ends exactly where the next member starts. -/
theorem readReferenceTail_spec (pre w1 w2 tail : Bytes) (a : Int) (g : Nat) (endOff : Option Nat)
    (hw1 : WsR w1) (hw2 : WsR w2)
    (ha : 0 ≤ a ∧ a < Gen.his_xref_maxXRefSize) (hg : g ≤ Gen.his_xref_maxGeneration)
    (hend : match endOff with
      | none => (match tail with | [] => True | c :: _ => isRegular c = false)
      | some e => (pre ++ (w1 ++ (FIO.decOf g ++ (w2 ++ [82])))).length = e ∨
          ((pre ++ (w1 ++ (FIO.decOf g ++ (w2 ++ [82])))).length < e ∧
            (match tail with | [] => True | c :: _ => isRegular c = false))) :
    readReferenceTail (pre ++ (w1 ++ (FIO.decOf g ++ (w2 ++ 82 :: tail)))) pre.length endOff a = some (a.toNat, g) := by
  obtain ⟨hall, hval, hne, hlen⟩ := C02fioc.decOf_spec g 5 (by simp [Gen.his_xref_maxGeneration] at hg; omega) (by omega)
  obtain ⟨d0, dt, hd0⟩ : ∃ d t, FIO.decOf g = d :: t := by
    cases h : FIO.decOf g with | nil => exact absurd h hne | cons d t => exact ⟨d, t, rfl⟩
  have hd0d : isDigit d0 = true := by
    have := (List.all_eq_true.mp hall) d0 (by simp [hd0]); simpa using this
  have s1 : skipWS (w1 ++ (FIO.decOf g ++ (w2 ++ 82 :: tail))) = (FIO.decOf g ++ (w2 ++ 82 :: tail), false) := by
    rw [C04hisc.skipWS_ws hw1, hd0]
    exact C01L.skipWS_cons_stop (C01L.digit_facts' hd0d).1 (C01L.digit_facts' hd0d).2.1 _
  have hnumend : C02fioc.NumEnd (w2 ++ 82 :: tail) := by
    cases hw2 with
    | nil => simp [C02fioc.NumEnd, isDigit]
    | white c w hc _ =>
      show isDigit c = false
      cases hdc : isDigit c with
      | false => rfl
      | true => have := (C01L.digit_facts' hdc).1; rw [C01L.isSpace_eq, hc] at this; cases this
    | comment body eol w _ _ _ => simp [C02fioc.NumEnd, isDigit]
  have s2 : readInt (FIO.decOf g ++ (w2 ++ 82 :: tail)) = .ok ((g : Int), w2 ++ 82 :: tail) := by
    rw [readInt_eq]
    exact C02fioc.readIntegerE_decOf g (by simp [Gen.his_xref_maxGeneration] at hg; omega) _ hnumend
  have s3 : skipWS (w2 ++ 82 :: tail) = (82 :: tail, false) := by
    rw [C04hisc.skipWS_ws hw2]
    exact C01L.skipWS_cons_stop ((C01L.isSpace_eq 82).trans (by decide)) (by decide) _
  have hdrop : (pre ++ (w1 ++ (FIO.decOf g ++ (w2 ++ 82 :: tail)))).drop pre.length
      = w1 ++ (FIO.decOf g ++ (w2 ++ 82 :: tail)) := List.drop_left
  have hpos : (pre ++ (w1 ++ (FIO.decOf g ++ (w2 ++ 82 :: tail)))).length - tail.length
      = (pre ++ (w1 ++ (FIO.decOf g ++ (w2 ++ [82])))).length := by
    have : pre ++ (w1 ++ (FIO.decOf g ++ (w2 ++ 82 :: tail)))
        = pre ++ (w1 ++ (FIO.decOf g ++ (w2 ++ [82]))) ++ tail := by simp only [List.append_assoc, List.cons_append, List.nil_append]
    rw [this, List.length_append, Nat.add_sub_cancel]
  have hrange : (decide (a < 0) || decide (a ≥ Gen.his_xref_maxXRefSize) || decide ((g : Int) < 0)
      || decide ((g : Int) > Gen.his_xref_maxGeneration)) = false := by
    simp [ha.1, ha.2, hg]
  unfold readReferenceTail
  simp only [hdrop, s1, s2, s3, hpos, hrange, Int.toNat_natCast]
  generalize (pre ++ (w1 ++ (FIO.decOf g ++ (w2 ++ [82])))).length = p at hend
  cases endOff with
  | none => simp; exact follows_of hend
  | some e =>
    rcases hend with heq | ⟨hlt, hfol⟩
    · simp [heq]
    · simp [Nat.lt_asymm hlt]; exact fun _ => follows_of hfol

/-- the member look-ahead on the last member of an object stream (no later offset): an integer
    followed by any conforming tail is the reference -/
theorem memberValue_ref (pre w1 w2 tail : Bytes) (offs : List Nat) (target : Nat) (a : Int) (g : Nat)
    (hlater : offs.filter (fun x => x > target) = [])
    (hw1 : WsR w1) (hw2 : WsR w2)
    (ha : 0 ≤ a ∧ a < Gen.his_xref_maxXRefSize) (hg : g ≤ Gen.his_xref_maxGeneration)
    (ht : match tail with | [] => True | c :: _ => isRegular c = false) :
    memberValue (pre ++ (w1 ++ (FIO.decOf g ++ (w2 ++ 82 :: tail)))) offs target pre.length a = .ref a.toNat g := by
  unfold memberValue
  simp only [hlater]
  rw [readReferenceTail_spec pre w1 w2 tail a g none hw1 hw2 ha hg (by simpa using ht)]


/-! `topTail` is the text of the look-ahead in `HIS.readIndirect` (the branch taken for an integer value that is not
followed by `endobj`), up to and including the `R`: `readIndirect` is that function followed by its range check, the
member look-ahead the same function followed by the extent test and the same range check.

`readIndirectT` is the text of `HIS.readIndirect` without its argument `limit` (`readObjectTop` is called
without one): `readIndirect_topTail` is the equation for `limit = none`, which is how `readerGet` and
`readXRefStream` call it; the sequential scan's `checkObject` passes a limit. -/

def topTail (r : Bytes) : Except Err (Int × Bytes) :=
  match HIS.readInt r with
  | .error e => .error e
  | .ok (b, r) =>
    match skipWS r with
    | (_, true) => .error .eof
    | (82 :: r, false) => .ok (b, r)
    | _ => .error .malformed

theorem readInt_skip (inp : Bytes) : HIS.readInt (skipWS inp).1 = HIS.readInt inp := by
  unfold HIS.readInt
  rw [C01L.skipWS_idem]

theorem readInt_eof (inp r : Bytes) (h : skipWS inp = (r, true)) : HIS.readInt inp = .error .eof := by
  unfold HIS.readInt
  rw [h]

/-- The test for the keyword `R` behind white space is written flat in `topTail` and in
    `readReferenceTail`, nested in `readIndirect`; `F` is what is done with the outcome. -/
theorem match_R {α γ : Type} (F : α → γ) (p : Bytes × Bool) (e m : α) (k : Bytes → α) :
    F (match p with
      | (_, true) => e
      | (82 :: r, false) => k r
      | _ => m) =
    (match p with
      | (_, true) => F e
      | (r, false) =>
        match r with
        | 82 :: r => F (k r)
        | _ => F m) := by
  obtain ⟨r, b⟩ := p
  cases b with
  | true => rfl
  | false =>
    cases r with
    | nil => rfl
    | cons c t =>
      by_cases hc : c = 82
      · subst hc; rfl
      · split <;> split <;> simp_all

/-- a caller of `topTail` that handles its outcome by `err` and `k` does what the inlined text does -/
theorem topTail_elim {γ : Type} (r : Bytes) (err : Err → γ) (k : Int → Bytes → γ) :
    (match topTail r with
      | .error e => err e
      | .ok (b, r) => k b r) =
    (match HIS.readInt r with
      | .error e => err e
      | .ok (b, r) =>
        match skipWS r with
        | (_, true) => err .eof
        | (r, false) =>
          match r with
          | 82 :: r => k b r
          | _ => err .malformed) := by
  unfold topTail
  cases HIS.readInt r with
  | error e => rfl
  | ok v =>
    obtain ⟨b, r2⟩ := v
    exact match_R (fun x : Except Err (Int × Bytes) => match x with | .error e => err e | .ok (b, r) => k b r) (skipWS r2) _ _ _

theorem readReferenceTail_topTail (data : Bytes) (memberEnd : Nat) (endOff : Option Nat) (a : Int) :
    readReferenceTail data memberEnd endOff a =
      match topTail (data.drop memberEnd) with
      | .error _ => none
      | .ok (b, r4) =>
        let pos := data.length - r4.length
        let tooFar : Bool := match endOff with | some e => pos > e | none => false
        let mustLook : Bool := match endOff with | some e => pos < e | none => true
        let follows : Bool := match r4 with | [] => true | c :: _ => !isRegular c
        if tooFar then none
        else if mustLook && !follows then none
        else if a < 0 || a ≥ Gen.his_xref_maxXRefSize || b < 0 || b > Gen.his_xref_maxGeneration then none
        else some (a.toNat, b.toNat) := by
  refine Eq.trans ?_ (topTail_elim _ (fun _ => none) _).symm
  unfold readReferenceTail
  -- `readInt` skips the white space that `readReferenceTail` has skipped already
  cases h : skipWS (data.drop memberEnd) with
  | mk r1 eof =>
    cases eof with
    | true => rw [readInt_eof _ _ h]
    | false =>
      have : HIS.readInt r1 = HIS.readInt (data.drop memberEnd) := by
        have := readInt_skip (data.drop memberEnd); rw [h] at this; exact this
      rw [← this]
      dsimp only
      cases HIS.readInt r1 with
      | error e => rfl
      | ok v =>
        obtain ⟨b, r2⟩ := v
        exact match_R id (skipWS r2) _ _ _

/-- `HIS.readIndirect` with its reference look-ahead written as a call of `topTail` -/
def readIndirectT (file : Bytes) (pos : Nat) (getInt : Obj → Except Err Int) (scalarOnly : Bool) :
    Except Err Indirect :=
  match HIS.readInt (file.drop pos) with
  | .error e => .error e
  | .ok (number, r) =>
  match HIS.readInt r with
  | .error e => .error e
  | .ok (generation, r) =>
  match skipWS r with
  | (_, true) => .error .eof
  | (r, false) =>
  if !startsWith r kwObj then .error .malformed else
  match skipWS (r.drop 3) with
  | (_, true) => .error .eof
  | (r, false) =>
  if number < 0 || number ≥ Gen.his_xref_maxXRefSize || generation < 0 || generation > Gen.his_xref_maxGeneration then
    .error .malformed
  else
  match readObjectTop file (file.length - r.length) getInt scalarOnly with
  | .error e => .error e
  | .ok (v, p) =>
  match skipWS (file.drop p) with
  | (_, true) => .error .eof
  | (r, false) =>
  let finish (v : Val) (r : Bytes) : Except Err Indirect :=
    if startsWith r kwEndobj then
      .ok { val := v, num := number.toNat, gen := generation.toNat, endPos := file.length - r.length + 6 }
    else .error .malformed
  match v with
  | .obj (.int a) =>
    if startsWith r kwEndobj then finish v r else
    match topTail r with
    | .error e => .error e
    | .ok (b, r) =>
      (match skipWS r with
       | (_, true) => .error .eof
       | (r, false) =>
         if a < 0 || a ≥ Gen.his_xref_maxXRefSize || b < 0 || b > Gen.his_xref_maxGeneration then .error .malformed
         else finish (.obj (.ref a.toNat b.toNat)) r)
  | _ => finish v r

/-- the top-level reader's look-ahead is `topTail` -/
theorem readIndirect_topTail (file : Bytes) (pos : Nat) (getInt : Obj → Except Err Int) (scalarOnly : Bool) :
    HIS.readIndirect file pos getInt scalarOnly = readIndirectT file pos getInt scalarOnly := by
  unfold HIS.readIndirect readIndirectT
  -- the two texts are the same down to the look-ahead behind an integer value: descend to it
  congr 1; funext number r
  congr 1; funext generation r
  congr 1; funext r
  congr 2; funext r
  congr 2; funext v p
  congr 1; funext r
  dsimp only
  congr 1; funext a
  congr 1
  exact (topTail_elim r _ _).symm

-- the spellings of the look-ahead, on the model (data = the integer "2" and its tail)
example : readReferenceTail (bytesOfString "2 0 R") 1 none 2 = some (2, 0) := by decide +kernel
example : readReferenceTail (bytesOfString "2 %c\n 0 R") 1 none 2 = some (2, 0) := by decide +kernel
example : readReferenceTail (bytesOfString "2 +0 R") 1 none 2 = some (2, 0) := by decide +kernel
example : readReferenceTail (bytesOfString "2 -0 R") 1 none 2 = some (2, 0) := by decide +kernel
example : readReferenceTail (bytesOfString "2 0000000 R") 1 none 2 = some (2, 0) := by decide +kernel
example : readReferenceTail (bytesOfString "2 0R") 1 none 2 = some (2, 0) := by decide +kernel
example : readReferenceTail (bytesOfString "2 0 Rx") 1 none 2 = none := by decide +kernel
example : readReferenceTail (bytesOfString "2 R") 1 none 2 = none := by decide +kernel
example : readReferenceTail (bytesOfString "2 65536 R") 1 none 2 = none := by decide +kernel
example : readReferenceTail (bytesOfString "2 0") 1 none 2 = none := by decide +kernel
-- the next member starts right behind `R` (offset 5), or inside the tail (offset 3)
example : readReferenceTail (bytesOfString "2 0 R57") 1 (some 5) 2 = some (2, 0) := by decide +kernel
example : readReferenceTail (bytesOfString "2 0 R") 1 (some 3) 2 = none := by decide +kernel

end PdfVerif.C04hisf
