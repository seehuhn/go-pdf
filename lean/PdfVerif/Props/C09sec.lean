import PdfVerif.Lemmas.SECData
/-!
# C09 — correct passwords recover everything, wrong ones nothing

All statements are about `Model/SECSecurity.lean` (the model of `crypto.go`), which the C09
correspondence run ties to the code.  The primitives are a parameter `P : Prims`; what is assumed
about them is stated as hypotheses of each theorem (never as axioms).  What the data functions do
on each form of input stands in `Lemmas/SECData.lean`.
-/
namespace PdfVerif.C09sec
open PdfVerif PdfVerif.SEC

/-- the documented implications: Print ⇒ PrintDegraded, Annotate ⇒ Forms, Modify ⇒ Assemble -/
def closure (p : Nat) : Nat :=
  p ||| (if p &&& Gen.sec_PermPrint != 0 then Gen.sec_PermPrintDegraded else 0)
    ||| (if p &&& Gen.sec_PermAnnotate != 0 then Gen.sec_PermForms else 0)
    ||| (if p &&& Gen.sec_PermModify != 0 then Gen.sec_PermAssemble else 0)

/-- For every permission set (128 = `Gen.sec_PermAll + 1`: seven permission bits) and every revision 3, 4, 5, 6, reading
back the `/P` word the writer stores gives the requested permissions closed under the
documented implications. -/
theorem perm_algebra : ∀ p, p < 128 → ∀ R, R ∈ [3, 4, 5, 6] →
    stdSecPToPerm R (stdSecPermToP p) = closure p := by decide +kernel

/-- `perm_algebra` for revision 2 and the permission sets revision 2 can express (`canR2`); these are
the only ones for which `createStdSecHandler` chooses R = 2. -/
theorem perm_algebra_R2 : ∀ p, p < 128 → canR2 p = true →
    stdSecPToPerm 2 (stdSecPermToP p) = closure p := by decide +kernel

/-- revision 2 cannot express every permission set, degraded printing alone for one: this is why
`chooseR` tests `canR2` -/
example : canR2 Gen.sec_PermPrintDegraded = false ∧
    stdSecPToPerm 2 (stdSecPermToP Gen.sec_PermPrintDegraded) ≠ closure Gen.sec_PermPrintDegraded := by
  decide +kernel

example : stdSecPToPerm 3 (stdSecPermToP 0b1010100) = 0b1111110 :=
  perm_algebra 0b1010100 (by decide) 3 (by decide)

theorem pkcs7_rt (x : Bytes) : unpadPKCS7 (pkcs7Pad x) = .ok x :=
  unpad_pad_aux x _ (by omega) (by omega) (by omega)

/-- Whatever `EncryptBytes` returns for an object — RC4, AES-CBC with
a fresh IV from the random stream, or no string filter — `DecryptBytes` for the same object turns
back into the plaintext; for every object number and generation, every key and every string. -/
theorem encrypt_decrypt_bytes {P : Prims} (ok : PrimsOK P) (enc : EncInfo) (num gen : Nat)
    (buf rng out rng' : Bytes) (h : encryptBytes P enc num gen buf rng = .ok (out, rng')) :
    decryptBytes P enc num gen out = .ok buf := by
  cases hf : enc.strF with
  | none =>
    rw [encryptBytes_none hf] at h
    cases h
    exact decryptBytes_none hf num gen buf
  | some cf =>
    cases hc : cf.cipher with
    | rc4 =>
      obtain ⟨key, hk, rfl, -⟩ := (encryptBytes_rc4 hf hc).mp h
      exact (decryptBytes_rc4 hf hc).mpr ⟨key, hk, (rc4_involutive ok key buf).symm⟩
    | aes =>
      obtain ⟨key, hk, hko, hl, rfl, rfl⟩ := (encryptBytes_aes hf hc).mp h
      have hiv : (rng.take 16).length = 16 := by simp; omega
      exact (decryptBytes_aes hf hc).mpr ⟨key, hk, hko, decrypt_encrypt_AES ok key _ buf hiv⟩

theorem encryptBytes_iv {P : Prims} (enc : EncInfo) (cf : CryptFilter) (num gen : Nat)
    (buf rng out rng' : Bytes) (hf : enc.strF = some cf) (hc : cf.cipher = .aes)
    (h : encryptBytes P enc num gen buf rng = .ok (out, rng')) :
    out.take 16 = rng.take 16 ∧ rng' = rng.drop 16 ∧ 16 ≤ rng.length := by
  obtain ⟨hl, hr, hiv, _⟩ := encryptBytes_local hf hc h
  exact ⟨hiv, hr, hl⟩

/-- what an `encryptWriter` in state `w` will have written once `data` and `Close` have followed -/
def flush (P : Prims) (w : EncW) (data : Bytes) : Bytes :=
  cbcEncrypt P w.key w.iv (pkcs7Pad (w.pend ++ data))

theorem pkcs7Pad_block (blk y : Bytes) (h : blk.length = 16) : pkcs7Pad (blk ++ y) = blk ++ pkcs7Pad y := by
  have : (blk ++ y).length % 16 = y.length % 16 := by simp [h]
  unfold pkcs7Pad
  rw [this, List.append_assoc]

theorem cbcEncrypt_block (P : Prims) (k iv blk y : Bytes) (h : blk.length = 16) :
    cbcEncrypt P k iv (blk ++ y) =
      P.aesEnc k (xorBytes blk iv) ++ cbcEncrypt P k (P.aesEnc k (xorBytes blk iv)) y := by
  unfold cbcEncrypt
  have : (blk ++ y).length / 16 = y.length / 16 + 1 := by simp [h]
  rw [this]
  simp only [cbcEncBlocks]
  rw [List.take_left' h, List.drop_left' h]

theorem writeByte_flush (P : Prims) (w : EncW) (b : Nat) (rest : Bytes) (hp : w.pend.length < 16) :
    (w.writeByte P b).2 ++ flush P (w.writeByte P b).1 rest = flush P w (b :: rest) ∧
    (w.writeByte P b).1.pend.length < 16 := by
  unfold EncW.writeByte
  by_cases hfull : (w.pend ++ [b]).length ≥ 16
  · have h16 : (w.pend ++ [b]).length = 16 := by simp at hfull ⊢; omega
    simp only [hfull, ↓reduceIte, flush, List.nil_append, List.length_nil]
    refine ⟨?_, by omega⟩
    have e : w.pend ++ b :: rest = (w.pend ++ [b]) ++ rest := by simp
    rw [e, pkcs7Pad_block _ _ h16, cbcEncrypt_block P _ _ _ _ h16]
  · simp only [hfull, ↓reduceIte, flush, List.nil_append]
    refine ⟨by simp, by simp at hfull ⊢; omega⟩

theorem write_flush (P : Prims) : ∀ (bs : Bytes) (w : EncW) (rest : Bytes), w.pend.length < 16 →
    (w.write P bs).2 ++ flush P (w.write P bs).1 rest = flush P w (bs ++ rest) ∧
    (w.write P bs).1.pend.length < 16 := by
  intro bs
  induction bs with
  | nil => intro w rest hp; simp [EncW.write, hp]
  | cons b bs ih =>
    intro w rest hp
    obtain ⟨h1, h2⟩ := writeByte_flush P w b (bs ++ rest) hp
    obtain ⟨h3, h4⟩ := ih (w.writeByte P b).1 rest h2
    simp only [EncW.write, List.append_assoc, List.cons_append]
    exact ⟨by rw [h3, h1], h4⟩

theorem close_flush (P : Prims) (w : EncW) (hp : w.pend.length < 16) : w.close P = flush P w [] := by
  -- the padded pending bytes are one block, and nothing follows it
  have hpad : pkcs7Pad (w.pend ++ []) =
      (w.pend ++ List.replicate (16 - w.pend.length) (16 - w.pend.length)) ++ [] := by
    simp [pkcs7Pad, Nat.mod_eq_of_lt hp]
  rw [flush, hpad, cbcEncrypt_block P _ _ _ _ (by simp; omega)]
  simp [EncW.close, cbcEncrypt, cbcEncBlocks]

theorem run_flush (P : Prims) : ∀ (cs : List Bytes) (w : EncW), w.pend.length < 16 →
    EncW.run P w cs = flush P w cs.flatten := by
  intro cs
  induction cs with
  | nil => intro w hp; simp [EncW.run, close_flush P w hp]
  | cons c cs ih =>
    intro w hp
    obtain ⟨h1, h2⟩ := write_flush P c w cs.flatten hp
    simp only [EncW.run, List.flatten_cons]
    rw [ih _ h2, h1]

/-- What `EncryptStream` hands to the underlying writer depends
only on the concatenation of the chunks written, and it is byte for byte what `EncryptBytes`
produces for that concatenation (same key, same IV): IV ‖ CBC(PKCS#7-padded data). -/
theorem encrypt_stream_chunking (P : Prims) (key iv : Bytes) (cs : List Bytes) :
    iv ++ EncW.run P { key := key, iv := iv, pend := [] } cs = encryptAES P key iv cs.flatten := by
  rw [run_flush P cs _ (by simp), encryptAES_eq]
  simp [flush]

/-- only for success: the two tests of the AES branch come in the other order in `EncryptStream`, so
the errors can differ -/
theorem encryptStream_ok (P : Prims) (enc : EncInfo) (num gen : Nat) (chunks : List Bytes) (rng : Bytes)
    (x : Bytes × Bytes) :
    encryptStream P enc num gen chunks rng = .ok x ↔
    encryptBytes P { enc with strF := enc.stmF } num gen chunks.flatten rng = .ok x := by
  simp only [encryptStream, encryptBytes, encrypt_stream_chunking]
  cases enc.stmF with
  | none => rfl
  | some cf =>
    dsimp only
    cases keyForRef P enc.sec cf num gen with
    | error e => rfl
    | ok key =>
      cases cf.cipher with
      | rc4 => rfl
      | aes => dsimp only; simp only [guards_ok]; exact and_left_comm

theorem computeO_length {P : Prims} (ok : PrimsOK P) (sec : Sec) (pu po : Bytes) :
    (computeO P sec pu po).length = pu.length := by
  unfold computeO
  split <;> simp [rc4Chain_length ok, rc4_length ok]

theorem computeO_chain (P : Prims) (sec : Sec) (pu po : Bytes) (hR : sec.R ≥ 3) :
    computeO P sec pu po = rc4Chain P (ownerRC4Key P sec po) (List.range 20) pu := by
  have : List.range 20 = 0 :: up19 := by decide
  simp [computeO, hR, this, rc4Chain, xorKey_zero]

/-- what `createStdSecHandler` establishes for R ≤ 4; `hpu` makes `/O` 32 bytes long, so that `copy32`
in Algorithm 7 leaves it as it is -/
structure Created234 (P : Prims) (sec : Sec) (pu po : Bytes) : Prop where
  hR : sec.R = 2 ∨ sec.R = 3 ∨ sec.R = 4
  hpu : pu.length = 32
  hO : sec.O = computeO P sec pu po
  hU : computeU P sec (computeFileKey P sec pu) = .ok sec.U

theorem authenticateUser_created {P : Prims} (sec : Sec) (pu : Bytes)
    (hU : computeU P sec (computeFileKey P sec pu) = .ok sec.U) :
    authenticateUser P sec pu = .ok { sec with key := some (computeFileKey P sec pu) } := by
  unfold authenticateUser
  simp only [hU]
  split <;> simp

/-- Algorithm 7 undoes Algorithm 3: the RC4 chain with keys `k ⊕ i` (i = 19 … 0) inverts the chain
i = 0 … 19 because every pass is an involution -/
theorem authenticateOwner_created {P : Prims} (ok : PrimsOK P) (sec : Sec) (pu po : Bytes)
    (c : Created234 P sec pu po) :
    authenticateOwner P sec po = .ok { sec with key := some (computeFileKey P sec pu) } := by
  have hc : copy32 sec.O = sec.O := copy32_of_length _ (by rw [c.hO, computeO_length ok, c.hpu])
  have hinv : (if sec.R = 2 then rc4 P (ownerRC4Key P sec po) sec.O
      else if sec.R = 3 ∨ sec.R = 4 then rc4Chain P (ownerRC4Key P sec po) down19 sec.O
      else sec.O) = pu := by
    rw [c.hO]
    by_cases h2 : sec.R = 2
    · simp [h2, computeO, rc4_involutive ok]
    · have h34 : sec.R = 3 ∨ sec.R = 4 := by have := c.hR; omega
      rw [if_neg h2, if_pos h34, computeO_chain P sec pu po (by omega), down19, rc4Chain_reverse ok]
  unfold authenticateOwner
  simp only [hc, hinv]
  exact authenticateUser_created sec pu c.hU

theorem padPasswd_length (e : Option Bytes) (x : Bytes) (h : padPasswd e = .ok x) : x.length = 32 := by
  cases e with
  | none => simp [padPasswd] at h
  | some b =>
    simp only [padPasswd, Except.ok.injEq] at h
    subst h
    have : Gen.sec_passwdPad.length = 32 := by decide
    simp [List.length_take, this]; omega

theorem slowHashRound_length {P : Prims} (ok : PrimsOK P) (pw u K : Bytes) :
    32 ≤ (slowHashRound P pw u K).1.length := by
  -- for arbitrary conditions, so that the `let rem` of `slowHashRound` need not be unfolded
  have h : ∀ (c1 c2 : Prop) [Decidable c1] [Decidable c2] (e : Bytes),
      32 ≤ (if c1 then P.sha256 e else if c2 then P.sha384 e else P.sha512 e).length := by
    intro c1 c2 _ _ e
    split
    · simp [ok.sha256_len]
    · split <;> simp [ok.sha384_len, ok.sha512_len]
  exact h _ _ _

theorem slowHashLoop_length {P : Prims} (ok : PrimsOK P) (pw u : Bytes) (fuel i : Nat) (K : Bytes) (last : Nat)
    (h : 32 ≤ K.length) : 32 ≤ (slowHashLoop P pw u fuel i K last).length := by
  fun_induction slowHashLoop P pw u fuel i K last with
  | case1 => exact h
  | case2 _ _ _ _ _ _ ih => exact ih (slowHashRound_length ok pw u _)
  | case3 => exact h

theorem slowHash_length {P : Prims} (ok : PrimsOK P) (pw salt u : Bytes) :
    (slowHash P pw salt u).length = 32 := by
  unfold slowHash
  have := slowHashLoop_length ok pw u 288 0 (P.sha256 (pw ++ salt ++ u)) 0 (by simp [ok.sha256_len])
  rw [List.length_take]; omega

theorem cbcEncBlocks_bytes {P : Prims} (hb : ∀ k b, AllBytes (P.aesEnc k b)) (k : Bytes) :
    ∀ (n : Nat) (iv d : Bytes), AllBytes (cbcEncBlocks P k n iv d).1 := by
  intro n
  induction n with
  | zero => intro iv d x hx; simp [cbcEncBlocks] at hx
  | succ n ih =>
    intro iv d x hx
    simp only [cbcEncBlocks, List.mem_append] at hx
    rcases hx with h | h
    · exact hb _ _ _ h
    · exact ih _ _ _ h

theorem slowHashRound_last {P : Prims} (hb : ∀ k b, AllBytes (P.aesEnc k b)) (pw u K : Bytes) :
    (slowHashRound P pw u K).2 < 256 := by
  unfold slowHashRound
  simp only
  split
  · rename_i b hl
    exact cbcEncBlocks_bytes hb _ _ _ _ b (List.mem_of_getLast? hl)
  · omega

theorem slowHashLoop_fuel {P : Prims} (hb : ∀ k b, AllBytes (P.aesEnc k b)) (pw u : Bytes)
    (fuel extra i : Nat) (K : Bytes) (last : Nat) (hl : last < 256) (hi : 288 ≤ fuel + i) :
    slowHashLoop P pw u (fuel + extra) i K last = slowHashLoop P pw u fuel i K last := by
  fun_induction slowHashLoop P pw u fuel i K last with
  | case1 i K last =>
    have hc : ¬ (i < 64 ∨ last + 32 > i) := by omega
    cases extra <;> simp [slowHashLoop, hc]
  | case2 f i K last hc r ih =>
    rw [Nat.succ_add, slowHashLoop, if_pos hc]
    exact ih (slowHashRound_last hb pw u K) (by omega)
  | case3 f i K last hc => rw [Nat.succ_add, slowHashLoop, if_neg hc]

/-- The loop `for i := 0; i < 64 || K1[last] > i-32; i++` stops at the latest
at `i = 287` because a byte is at most 255; so the model's fuel of 288 rounds is never the reason
for stopping: more fuel gives the same result.  (`hb` is `∀ k b, AllBytes (P.aesEnc k b)` written out.) -/
theorem slowHash_fuel {P : Prims} (hb : ∀ k b x, x ∈ P.aesEnc k b → x < 256) (pw salt u : Bytes) (extra : Nat) :
    (slowHashLoop P pw u (288 + extra) 0 (P.sha256 (pw ++ salt ++ u)) 0).take 32 = slowHash P pw salt u := by
  unfold slowHash
  rw [slowHashLoop_fuel hb pw u 288 extra 0 _ 0 (by omega) (by omega)]

theorem salt_split (out b : Bytes) (ho : out.length = 32) (hb : b.length = 16) :
    (out ++ b).take 32 = out ∧ ((out ++ b).drop 32).take 8 = b.take 8 ∧
    ((out ++ b).drop 40).take 8 = b.drop 8 := by
  refine ⟨List.take_left' ho, ?_, ?_⟩
  · rw [List.drop_left' ho]
  · have : (out ++ b).drop 40 = b.drop 8 := by
      rw [List.drop_append, List.drop_of_length_le (by omega)]; simp [ho]
    rw [this, List.take_of_length_le (by simp; omega)]

/-- what `createStdSecHandler` establishes for R = 6 -/
structure Created6 (P : Prims) (sec : Sec) (pu po fileKey : Bytes) : Prop where
  hR : sec.R = 6
  hkey : fileKey.length = 32
  hU : ∃ b, b.length = 16 ∧ sec.U = (computeUAndUE P fileKey pu b).1 ∧ sec.UE = (computeUAndUE P fileKey pu b).2
  hO : ∃ b, b.length = 16 ∧ sec.O = (computeOAndOE P fileKey po sec.U b).1 ∧
    sec.OE = (computeOAndOE P fileKey po sec.U b).2
  hPerms : ∃ rnd, rnd.length = 4 ∧ sec.Perms = computePerms P sec fileKey rnd

theorem permsHead_length (p : Nat) (um : Bool) : (permsHead p um).length = 12 := by
  simp [permsHead, le32]

theorem checkPerms_created {P : Prims} (ok : PrimsOK P) (sec : Sec) (fileKey rnd : Bytes)
    (hrnd : rnd.length = 4) (hP : sec.Perms = computePerms P sec fileKey rnd) :
    checkPerms P sec fileKey = true := by
  unfold checkPerms
  rw [hP, computePerms, ok.aes_dec_enc _ _ (by simp [permsHead_length, hrnd])]
  simp [List.take_left' (permsHead_length _ _)]

theorem saltedAuth_created {P : Prims} (ok : PrimsOK P) (sec : Sec) (fileKey pw u X XE : Bytes)
    (hR : sec.R = 6) (hkey : fileKey.length % 16 = 0)
    (hX : ∃ b, b.length = 16 ∧ X = (computeOAndOE P fileKey pw u b).1 ∧ XE = (computeOAndOE P fileKey pw u b).2)
    (hPerms : ∃ rnd, rnd.length = 4 ∧ sec.Perms = computePerms P sec fileKey rnd) :
    saltedAuth P sec pw X XE u = .ok { sec with key := some fileKey } := by
  obtain ⟨b, hb, rfl, rfl⟩ := hX
  obtain ⟨rnd, hrnd, hPerms⟩ := hPerms
  -- Algorithms 8 and 9 store `hash ‖ validation salt ‖ key salt` and the file key encrypted under the
  -- hash with the key salt; hashing again with the salts found there, the first hash is the stored
  -- one and the second decrypts the file key
  obtain ⟨h1, h2, h3⟩ := salt_split (slowHash P pw (b.take 8) u) b (slowHash_length ok _ _ _) hb
  have h4 := cbcDecrypt_cbcEncrypt ok (slowHash P pw (b.drop 8) u) Gen.sec_zero16 fileKey (by decide) hkey
  unfold saltedAuth
  simp [hashRev, hR, computeOAndOE, h1, h2, h3, h4, checkPerms_created ok sec fileKey rnd hrnd hPerms]

/-- the three steps of `authenticate` that depend on the revision: preparing the password, the
owner algorithm (7 or 12), the user algorithm (6 or 11) -/
def prepare (sec : Sec) (pw : Passwd) : Except Err Bytes :=
  if sec.R < 5 then padPasswd pw.pdfDoc else utf8Passwd pw.sasl

def authOwner (P : Prims) (sec : Sec) (x : Bytes) : Except Err Sec :=
  if sec.R < 5 then authenticateOwner P sec x else authenticateOwner6 P sec x

def authUser (P : Prims) (sec : Sec) (x : Bytes) : Except Err Sec :=
  if sec.R < 5 then authenticateUser P sec x else authenticateUser6 P sec x

theorem prepare_of_lt {sec : Sec} (h : sec.R < 5) (pw : Passwd) : prepare sec pw = padPasswd pw.pdfDoc := if_pos h
theorem prepare_of_ge {sec : Sec} (h : ¬ sec.R < 5) (pw : Passwd) : prepare sec pw = utf8Passwd pw.sasl := if_neg h

theorem authOwner_of_lt {P : Prims} {sec : Sec} (h : sec.R < 5) (x : Bytes) :
    authOwner P sec x = authenticateOwner P sec x := if_pos h
theorem authOwner_of_ge {P : Prims} {sec : Sec} (h : ¬ sec.R < 5) (x : Bytes) :
    authOwner P sec x = authenticateOwner6 P sec x := if_neg h

theorem authUser_of_lt {P : Prims} {sec : Sec} (h : sec.R < 5) (x : Bytes) :
    authUser P sec x = authenticateUser P sec x := if_pos h
theorem authUser_of_ge {P : Prims} {sec : Sec} (h : ¬ sec.R < 5) (x : Bytes) :
    authUser P sec x = authenticateUser6 P sec x := if_neg h

theorem authenticate_eq (P : Prims) (sec : Sec) (pw : Passwd) :
    authenticate P sec pw =
      match prepare sec pw with
      | .error _ => (.error .auth, sec)
      | .ok x =>
        match authOwner P sec x with
        | .ok sec' => (.ok Gen.sec_PermAll, sec')
        | .error _ =>
          match authUser P sec x with
          | .ok sec' => (.ok (stdSecPToPerm sec.R sec.P), sec')
          | .error _ => (.error .auth, sec) := by
  unfold authenticate prepare authOwner authUser
  split <;> rfl

/-- whatever way authentication succeeds for R ≤ 4, the key obtained reproduces the stored `/U`
(Algorithm 6's test): a key is never accepted unchecked -/
theorem authenticateUser_ok {P : Prims} (sec s' : Sec) (x : Bytes) (h : authenticateUser P sec x = .ok s') :
    s' = { sec with key := some (computeFileKey P sec x) } ∧
    ∃ u, computeU P sec (computeFileKey P sec x) = .ok u ∧
      (if sec.R = 2 then u = sec.U else u.take 16 = sec.U.take 16) := by
  revert h
  fun_cases authenticateUser P sec x <;> intro h <;> cases h
  -- the two exits that return `.ok`: R = 2 and the whole `/U` agrees; R ≥ 3 and its first 16 bytes agree
  · next u hu h2 he => exact ⟨rfl, u, hu, by simpa [h2] using he⟩
  · next u hu h2 he => exact ⟨rfl, u, hu, by simpa [h2] using he⟩

theorem authUser_ok {P : Prims} {sec s' : Sec} {x : Bytes} (h : authUser P sec x = .ok s') :
    ∃ k, s' = { sec with key := some k } := by
  by_cases hR : sec.R < 5
  · exact ⟨_, (authenticateUser_ok sec s' x (authUser_of_lt hR x ▸ h)).1⟩
  · exact saltedAuth_ok (authenticateUser6_eq P sec x ▸ authUser_of_ge hR x ▸ h)

theorem authOwner_ok {P : Prims} {sec s' : Sec} {x : Bytes} (h : authOwner P sec x = .ok s') :
    ∃ k, s' = { sec with key := some k } := by
  by_cases hR : sec.R < 5
  · -- Algorithm 7 ends in a call of Algorithm 6
    exact ⟨_, (authenticateUser_ok sec s' _ (authOwner_of_lt hR x ▸ h)).1⟩
  · exact saltedAuth_ok (authenticateOwner6_eq P sec x ▸ authOwner_of_ge hR x ▸ h)

theorem authenticate_cases (P : Prims) (sec : Sec) (pw : Passwd) :
    (∃ e, authenticate P sec pw = (.error e, sec)) ∨
    (∃ perm k, authenticate P sec pw = (.ok perm, { sec with key := some k })) := by
  rw [authenticate_eq]
  cases prepare sec pw with
  | error _ => exact .inl ⟨_, rfl⟩
  | ok x =>
    dsimp only
    cases ho : authOwner P sec x with
    | ok s' => obtain ⟨k, rfl⟩ := authOwner_ok ho; exact .inr ⟨_, k, rfl⟩
    | error _ =>
      dsimp only
      cases hu : authUser P sec x with
      | ok s' => obtain ⟨k, rfl⟩ := authUser_ok hu; exact .inr ⟨_, k, rfl⟩
      | error _ => exact .inl ⟨_, rfl⟩

theorem authenticate_error (P : Prims) (s : Sec) (pw : Passwd) (e : Err)
    (h : (authenticate P s pw).1 = .error e) : authenticate P s pw = (.error e, s) := by
  rcases authenticate_cases P s pw with ⟨e', h'⟩ | ⟨_, _, h'⟩ <;> rw [h'] at h ⊢
  · rw [show e' = e from Except.error.inj h]
  · cases h

theorem authenticate_ok_key (P : Prims) (s : Sec) (pw : Passwd) (perm : Nat)
    (h : (authenticate P s pw).1 = .ok perm) : (authenticate P s pw).2.key.isSome = true := by
  rcases authenticate_cases P s pw with ⟨_, h'⟩ | ⟨_, _, h'⟩ <;> rw [h'] at h ⊢
  · cases h
  · rfl

/-- the handler states reachable from `s0` through authentication attempts that all failed -/
inductive ReachFailed (P : Prims) (s0 : Sec) : Sec → Prop
  | init : ReachFailed P s0 s0
  | step (s : Sec) (pw : Passwd) (e : Err) : ReachFailed P s0 s →
      (authenticate P s pw).1 = .error e → ReachFailed P s0 (authenticate P s pw).2

/-- In every state reachable from a freshly opened handler (no key)
without a successful `authenticate` there is no key. -/
theorem key_only_after_auth (P : Prims) (s0 s : Sec) (h0 : s0.key = none) (h : ReachFailed P s0 s) :
    s.key = none := by
  induction h with
  | init => exact h0
  | step s pw e _ herr ih => rw [authenticate_error P s pw e herr]; exact ih

/-- without a key `KeyForRef`, `DecryptBytes` and `DecryptStream` fail with an authentication
error for every object: no string and no stream is decrypted -/
theorem no_key_no_content (P : Prims) (enc : EncInfo) (h : enc.sec.key = none) (num gen : Nat) :
    (∀ cf, keyForRef P enc.sec cf num gen = .error .auth) ∧
    (∀ buf, enc.strF.isSome → decryptBytes P enc num gen buf = .error .auth) ∧
    (∀ src wants, enc.stmF.isSome → decryptStream P enc num gen src wants = .error .auth) := by
  have hk : ∀ cf, keyForRef P enc.sec cf num gen = .error .auth := by
    intro cf; simp [keyForRef, h]
  refine ⟨hk, ?_, ?_⟩
  · intro buf hs
    cases hf : enc.strF with
    | none => simp [hf] at hs
    | some cf => simp [decryptBytes, hf, hk]
  · intro src wants hs
    cases hf : enc.stmF with
    | none => simp [hf] at hs
    | some cf => simp [decryptStream, hf, hk]

/-- a handler read from an Encrypt dictionary has no key -/
theorem openStdSec_no_key (enc : List (Bytes × Obj)) (V : Int) (kb : Nat) (ID : Bytes) (s : Sec)
    (h : openStdSec enc V kb ID = .ok s) : s.key = none := by
  revert h
  -- one case per leaf of `openStdSec`: an error, or a handler built without a `key` field
  fun_cases openStdSec enc V kb ID
  all_goals intro h
  all_goals first | exact Except.ok.inj h ▸ rfl | cases h

/-- passwords with the same prepared form (32-byte PDFDoc padding for R ≤ 4, the 127-byte UTF-8
form for R ≥ 5) are indistinguishable to `authenticate` — this is why C09 speaks of passwords
"differing after preparation" -/
theorem prep_equivalence (P : Prims) (sec : Sec) (a b : Passwd)
    (h4 : sec.R < 5 → padPasswd a.pdfDoc = padPasswd b.pdfDoc)
    (h6 : ¬ sec.R < 5 → utf8Passwd a.sasl = utf8Passwd b.sasl) :
    authenticate P sec a = authenticate P sec b := by
  have : prepare sec a = prepare sec b := by
    by_cases hR : sec.R < 5
    · rw [prepare_of_lt hR, prepare_of_lt hR, h4 hR]
    · rw [prepare_of_ge hR, prepare_of_ge hR, h6 hR]
  rw [authenticate_eq, authenticate_eq, this]

/-- only the first 32 bytes of the PDFDoc form count -/
theorem padPasswd_truncates (b c : Bytes) (h : 32 ≤ b.length) :
    padPasswd (some (b ++ c)) = padPasswd (some b) := by
  simp only [padPasswd]
  have h1 : min (b ++ c).length 32 = 32 := by simp; omega
  have h2 : min b.length 32 = 32 := by omega
  rw [h1, h2, List.take_append_of_le_length h]

/-- only the first 127 bytes of the SASLprep form count -/
theorem utf8Passwd_truncates (b c : Bytes) (h : 127 ≤ b.length) :
    utf8Passwd (some (b ++ c)) = utf8Passwd (some (b.take 127)) := by
  have ht : (b ++ c).take 127 = b.take 127 := List.take_append_of_le_length h
  have hs : ¬ (b.take 127).length > 127 := by simp; omega
  simp only [utf8Passwd]
  rw [if_neg hs, ← ht]
  split
  · rfl
  · rw [List.take_of_length_le (by omega)]

/-- If the empty password authenticates (in particular when the user
password is empty), the eager authentication that ends `parseEncryptDict` (`eagerAuth`) succeeds with
its result whatever password was supplied -/
theorem empty_user_needs_none (P : Prims) (sec : Sec) (empty pw : Passwd) (b : Bool) (perm : Nat)
    (h : (authenticate P sec empty).1 = .ok perm) :
    eagerAuth P sec empty b pw = authenticate P sec empty := by
  unfold eagerAuth
  cases hr : authenticate P sec empty with
  | mk r s' =>
    rw [hr] at h
    simp only at h
    subst h
    rfl

/-- when neither the empty nor the supplied password authenticates, the result is an error and
the handler still has no key -/
theorem wrong_pw_fails (P : Prims) (sec : Sec) (empty pw : Passwd) (b : Bool) (e1 e2 : Err)
    (h0 : sec.key = none)
    (h1 : (authenticate P sec empty).1 = .error e1) (h2 : (authenticate P sec pw).1 = .error e2) :
    ∃ e, (eagerAuth P sec empty b pw).1 = .error e ∧ (eagerAuth P sec empty b pw).2.key = none := by
  simp only [eagerAuth, authenticate_error P sec empty e1 h1]
  cases b with
  | false => exact ⟨e1, rfl, h0⟩
  | true => simp only [↓reduceIte, authenticate_error P sec pw e2 h2]; exact ⟨e2, rfl, h0⟩

theorem chooseR_cases (V perm R : Nat) (h : chooseR V perm = .ok R) :
    (R = 2 ∧ canR2 perm = true) ∨ R = 3 ∨ R = 4 ∨ R = 6 := by
  revert h
  fun_cases chooseR V perm
  all_goals intro h; cases h
  · rename_i h2
    exact .inl ⟨rfl, (Bool.and_eq_true_iff.mp h2).2⟩
  all_goals simp

/-- A handler without its key: what a reader is taken to build from the stored fields.  That
`openStdSec` applied to the dictionary `asEncryptDict` writes yields this handler is not proved (no
theorem speaks of `asEncryptDict`, `parseEncryptDict` or `newWriterSec`); that step is tied by the
C09 harness alone, which opens every generated document with its passwords. -/
def reopened (s : Sec) : Sec := { s with key := none }

theorem restore_key (s : Sec) (k : Bytes) (h : s.key = some k) : { reopened s with key := some k } = s := by
  cases s; simp at h; simp [reopened, h]

/-- the random bytes `createStdSecHandler` uses: none for R ≤ 4; for R = 6 the file key (32), the two
pairs of salts (16 + 16) and the `/Perms` filler (4) -/
theorem createStdSec_fields {P : Prims} (id : Bytes) (user owner : Passwd) (oe : Bool)
    (perm length V : Nat) (um : Bool) (rng rng' : Bytes) (s : Sec)
    (h : createStdSec P id user owner oe perm length V um rng = .ok (s, rng')) :
    chooseR V perm = .ok s.R ∧ s.P = stdSecPermToP perm ∧ s.ID = id ∧ s.keyBytes = length / 8 ∧
    s.unencMeta = um ∧
    ∃ pu po, prepare (reopened s) user = .ok pu ∧
      prepare (reopened s) (if oe then user else owner) = .ok po ∧
      ((Created234 P (reopened s) pu po ∧ s.key = some (computeFileKey P (reopened s) pu) ∧ rng' = rng) ∨
       (∃ fileKey, Created6 P (reopened s) pu po fileKey ∧ s.key = some fileKey ∧
          68 ≤ rng.length ∧ rng' = rng.drop 68)) := by
  revert h
  fun_cases createStdSec P id user owner oe perm length V um rng
  -- Two leaves return `.ok`: `case5`, behind `computeU` in the branch R ∈ {2, 3, 4}, and `case9`, behind the length
  -- test on `rng` in the other branch, where R = 6 by `chooseR_cases`.  The binders are what the function body has
  -- bound on the way, in its order: `R`, `hc : chooseR V perm = .ok R`, the branch condition `h234`, the prepared
  -- passwords `pu`, `po` with `hpu`, `hpo`; then `hu : computeU … = .ok u`, or `hl` and the eight `let`s cutting up `rng`.
  case case5 R hc _ h234 pu hpu po hpo _ _ u hu =>
    intro h; cases h
    have hR : R < 5 := by omega
    exact ⟨hc, rfl, rfl, rfl, rfl, pu, po, (prepare_of_lt hR _).trans hpu, (prepare_of_lt hR _).trans hpo,
      .inl ⟨⟨h234, padPasswd_length _ _ hpu, rfl, hu⟩, rfl, rfl⟩⟩
  case case9 R hc _ h234 pu hpu po hpo hl _ _ _ _ _ _ _ _ =>
    intro h; cases h
    have h6 : R = 6 := by
      rcases chooseR_cases V perm R hc with ⟨h, _⟩ | h | h | h <;> omega
    subst h6
    have hR : ¬ 6 < 5 := by omega
    refine ⟨hc, rfl, rfl, rfl, rfl, pu, po, (prepare_of_ge hR _).trans hpu, (prepare_of_ge hR _).trans hpo,
      .inr ⟨rng.take 32, ⟨rfl, ?_, ⟨(rng.drop 32).take 16, ?_, rfl, rfl⟩,
        ⟨((rng.drop 32).drop 16).take 16, ?_, rfl, rfl⟩, ⟨(((rng.drop 32).drop 16).drop 16).take 4, ?_, rfl⟩⟩, rfl,
        by omega, by show (((rng.drop 32).drop 16).drop 16).drop 4 = rng.drop 68; simp [List.drop_drop]⟩⟩
    all_goals simp; omega
  all_goals intro h; cases h

theorem createStdSec_opens {P : Prims} (ok : PrimsOK P) (id : Bytes) (user owner : Passwd) (oe : Bool)
    (perm length V : Nat) (um : Bool) (rng rng' : Bytes) (s : Sec)
    (h : createStdSec P id user owner oe perm length V um rng = .ok (s, rng')) :
    ∃ pu po, prepare (reopened s) user = .ok pu ∧
      prepare (reopened s) (if oe then user else owner) = .ok po ∧
      authUser P (reopened s) pu = .ok s ∧ authOwner P (reopened s) po = .ok s := by
  obtain ⟨_, _, _, _, _, pu, po, hpu, hpo, hc⟩ :=
    createStdSec_fields id user owner oe perm length V um rng rng' s h
  refine ⟨pu, po, hpu, hpo, ?_⟩
  rcases hc with ⟨c, hk, _⟩ | ⟨fileKey, c, hk, _⟩
  · have hR : (reopened s).R < 5 := by have := c.hR; omega
    rw [authUser_of_lt hR, authOwner_of_lt hR, authenticateUser_created _ pu c.hU, authenticateOwner_created ok _ pu po c,
      restore_key s _ hk]
    exact ⟨rfl, rfl⟩
  · have hR : ¬ (reopened s).R < 5 := by rw [c.hR]; omega
    have h16 : fileKey.length % 16 = 0 := by rw [c.hkey]
    have hU := c.hU
    simp only [computeUAndUE_eq] at hU
    rw [authUser_of_ge hR, authOwner_of_ge hR, authenticateUser6_eq, authenticateOwner6_eq,
      saltedAuth_created ok _ fileKey pu [] _ _ c.hR h16 hU c.hPerms,
      saltedAuth_created ok _ fileKey po _ _ _ c.hR h16 c.hO c.hPerms,
      restore_key s _ hk]
    exact ⟨rfl, rfl⟩

/-- For every handler `createStdSecHandler` makes — any version/revision,
any passwords, permissions, ID, random bytes — authenticating the reopened handler with the owner
password (the user password if no owner password was given) yields owner access (all
permissions) and restores exactly the handler that encrypted the file, key included. -/
theorem owner_pw_opens {P : Prims} (ok : PrimsOK P) (id : Bytes) (user owner : Passwd) (oe : Bool)
    (perm length V : Nat) (um : Bool) (rng rng' : Bytes) (s : Sec)
    (h : createStdSec P id user owner oe perm length V um rng = .ok (s, rng')) :
    authenticate P (reopened s) (if oe then user else owner) = (.ok Gen.sec_PermAll, s) := by
  obtain ⟨_, po, _, hpo, _, ho⟩ := createStdSec_opens ok id user owner oe perm length V um rng rng' s h
  simp only [authenticate_eq, hpo, ho]

/-- For every handler `createStdSecHandler` makes, the user password
authenticates the reopened handler.  The access is user access with
`stdSecPToPerm R (stdSecPermToP perm)` (= the closure of the requested permissions by
`perm_algebra`) and the handler is restored exactly — unless the user password also passes as
owner password (always when both are equal, otherwise only by a hash collision), in which case
`authenticate`, which tries the owner algorithm first, reports owner access. -/
theorem user_pw_opens {P : Prims} (ok : PrimsOK P) (id : Bytes) (user owner : Passwd) (oe : Bool)
    (perm length V : Nat) (um : Bool) (rng rng' : Bytes) (s : Sec)
    (h : createStdSec P id user owner oe perm length V um rng = .ok (s, rng')) :
    (∃ s', (authenticate P (reopened s) user) = (.ok Gen.sec_PermAll, s') ∧ s'.key.isSome = true) ∨
    authenticate P (reopened s) user = (.ok (stdSecPToPerm s.R s.P), s) := by
  obtain ⟨pu, _, hpu, _, hu, _⟩ := createStdSec_opens ok id user owner oe perm length V um rng rng' s h
  simp only [authenticate_eq, hpu]
  cases ho : authOwner P (reopened s) pu with
  | ok s' =>
    obtain ⟨k, rfl⟩ := authOwner_ok ho
    exact .inl ⟨_, rfl, rfl⟩
  | error _ => simp only [hu]; exact .inr rfl

/-- The `/P` word a created handler stores reads back as the requested
permissions closed under the documented implications, for the revision `createStdSecHandler`
itself chooses (R = 2 only when revision 2 can express the set) — all 128 sets. -/
theorem created_permissions {P : Prims} (id : Bytes) (user owner : Passwd) (oe : Bool)
    (perm length V : Nat) (um : Bool) (rng rng' : Bytes) (s : Sec) (hp : perm < 128)
    (h : createStdSec P id user owner oe perm length V um rng = .ok (s, rng')) :
    stdSecPToPerm s.R s.P = closure perm := by
  obtain ⟨hc, hP, _⟩ := createStdSec_fields id user owner oe perm length V um rng rng' s h
  rw [hP]
  rcases chooseR_cases V perm s.R hc with ⟨h2, hcan⟩ | hR | hR | hR
  · rw [h2]; exact perm_algebra_R2 perm hp hcan
  all_goals rw [hR]; exact perm_algebra perm hp _ (by decide)

/-- if `Writer.Close` goes on in an encrypted file, the first ID it writes to the trailer is the
one the key was derived from (so that `owner_pw_opens`/`user_pw_opens` apply to the reader's
handler, whose `ID` is that trailer entry) -/
theorem closeCheckID_ok (enc : EncInfo) (ids : List Bytes) (h : closeCheckID (some enc) ids = .ok ()) :
    ∃ b, ids = [enc.sec.ID, b] := by
  unfold closeCheckID at h
  match ids, h with
  | [a, b], h =>
    by_cases he : (a == enc.sec.ID) = true
    · exact ⟨b, by simp at he; rw [he]⟩
    · simp [he] at h

theorem any_isCrypt_of_head (a : List FilterKind) (h1 : cryptBehindFirst a = false)
    (h2 : a.head? ≠ some .cryptOther) (h3 : a.head? ≠ some .cryptIdentity) : a.any (·.isCrypt) = false := by
  cases a with
  | nil => rfl
  | cons x xs =>
    simp only [cryptBehindFirst] at h1
    cases x with
    | cryptIdentity => simp at h3
    | cryptOther => simp at h2
    | other => simpa [FilterKind.isCrypt] using h1

/-- Whenever `OpenStream` accepts a combination of a dictionary chain and a
filters argument, the chain written to the file has no Crypt filter behind the first position,
no Crypt filter other than Identity, the default encryption is skipped exactly when the chain
starts with `/Crypt /Identity`, and never in a file that is encrypted without crypt filters
(/V 1 or 2, where a reader decrypts every stream). -/
theorem crypt_first (d a ch : List FilterKind) (skip : Bool) (encrypted : Option Bool)
    (h : openStreamChain d a encrypted = .ok (ch, skip)) :
    ch = d ++ a ∧ cryptBehindFirst ch = false ∧ ch.head? ≠ some .cryptOther ∧
    (skip = true ↔ ch.head? = some .cryptIdentity) ∧
    (skip = true → encrypted ≠ some false) := by
  revert h
  fun_cases openStreamChain d a encrypted
  case case1 | case2 | case3 | case4 | case5 | case6 => intro h; cases h
  -- the leaf that returns `.ok`; `c1` … `c6` are the six tests of `openStreamChain`, in its order, each having failed
  rename_i c1 c2 c3 c4 c5 c6
  intro h; cases h
  have hav : (a.head? == some FilterKind.cryptIdentity || d.head? == some FilterKind.cryptIdentity) = true →
      encrypted ≠ some false := by
    intro hs he
    apply c6
    simp [hs, he]
  have c1' : cryptBehindFirst a = false := by simpa using c1
  have c3' : cryptBehindFirst d = false := by simpa using c3
  have c2' : a.head? ≠ some .cryptOther := by simpa using c2
  have c4' : d.head? ≠ some .cryptOther := by simpa using c4
  cases d with
  | nil =>
    refine ⟨rfl, by simpa using c1', by simpa using c2', by simp, hav⟩
  | cons x xs =>
    -- behind a non-empty dictionary chain the fifth test refuses an argument that starts with Crypt, so the
    -- argument holds no Crypt filter at all
    have c5' : a.head? ≠ some .cryptIdentity := by
      intro h5; simp [h5] at c5
    have ha := any_isCrypt_of_head a c1' c2' c5'
    simp only [cryptBehindFirst] at c3'
    refine ⟨rfl, ?_, ?_, ?_, hav⟩
    · simp only [List.cons_append, cryptBehindFirst, List.any_append, c3', ha, Bool.or_self]
    · simpa using c4'
    · simp only [List.cons_append, List.head?_cons]
      constructor
      · intro h
        simp only [Bool.or_eq_true, beq_iff_eq] at h
        rcases h with h | h
        · exact absurd h c5'
        · simpa using h
      · intro h; simp [h]

example : openStreamChain [.other] [.cryptIdentity] = .error .other := rfl
example : openStreamChain [.cryptOther] [] = .error .other := rfl
example : openStreamChain [.cryptIdentity, .other] [.other] = .ok ([.cryptIdentity, .other, .other], true) := rfl
example : openStreamChain [] [.cryptIdentity] (some false) = .error .other := rfl
example : openStreamChain [] [.cryptIdentity] (some true) = .ok ([.cryptIdentity], true) := rfl

/-! Non-vacuity.  `toyOK : PrimsOK toyPrims` (Lemmas/SECBasic.lean) is an instance of the hypotheses
on the primitives; with it `createStdSecHandler` succeeds for R 3 and R 6, so `owner_pw_opens`,
`user_pw_opens` and `created_permissions` speak about existing handlers.  Not covered: the hypothesis
`hb` of `slowHash_fuel`; `toyPrims.aesEnc` pads or cuts its argument to 16 and reverses it, and does not meet it
(`300 ∈ toyPrims.aesEnc [] [300]`), and no instance of it is given. -/

example : ∃ s r, createStdSec toyPrims [1, 2, 3] ⟨some [117], none⟩ ⟨some [111], none⟩ false 20 128 2 false []
    = .ok (s, r) := ⟨_, _, rfl⟩
example : ∃ s r, createStdSec toyPrims [1, 2, 3] ⟨none, some [117]⟩ ⟨none, some [111]⟩ false 20 256 5 true
    (List.range 70) = .ok (s, r) := ⟨_, _, rfl⟩
def toySec : Sec :=
  match createStdSec toyPrims [1, 2, 3] ⟨some [117], none⟩ ⟨some [111], none⟩ false 20 128 2 false [] with
  | .ok (s, _) => s
  | .error _ => default

/-- `Except Err Nat` has no `DecidableEq` instance, so the examples compare results through this -/
def resultIs (r : Except Err Nat) (want : Option Nat) : Bool :=
  match r, want with
  | .ok p, some q => p == q
  | .error .auth, none => true
  | _, _ => false

theorem toy_user_and_wrong :
    resultIs (authenticate toyPrims (reopened toySec) ⟨some [117], none⟩).1 (some (closure 20)) = true ∧
    resultIs (authenticate toyPrims (reopened toySec) ⟨some [120], none⟩).1 none = true := by
  decide +kernel

-- the owner password "o" gives owner access (the instance of `owner_pw_opens`), the user password
-- "u" user access with the closure of 20 = Annotate|Print, a wrong password an authentication error
example : resultIs (authenticate toyPrims (reopened toySec) ⟨some [111], none⟩).1 (some 127) = true := by
  have h := owner_pw_opens toyOK [1, 2, 3] ⟨some [117], none⟩ ⟨some [111], none⟩ false 20 128 2 false [] []
    toySec rfl
  rw [show authenticate toyPrims (reopened toySec) ⟨some [111], none⟩ = _ from h]
  rfl
example : resultIs (authenticate toyPrims (reopened toySec) ⟨some [117], none⟩).1 (some (closure 20)) = true :=
  toy_user_and_wrong.1
example : resultIs (authenticate toyPrims (reopened toySec) ⟨some [120], none⟩).1 none = true :=
  toy_user_and_wrong.2
example : unpadPKCS7 (pkcs7Pad [1, 2, 3]) = .ok [1, 2, 3] := rfl
example : unpadPKCS7 ([1, 2, 3, 9] ++ List.replicate 12 13) = .error .other := rfl

/-- R 4 with a 16-byte key: `keyForRef` then yields 16 bytes of `toyHash`, a key `aesKeyOk` accepts -/
def toyEnc : EncInfo :=
  { sec := { R := 4, ID := [], O := [], U := [], P := 0, keyBytes := 16, key := some (List.replicate 16 9) },
    strF := some ⟨.aes, 128⟩, stmF := some ⟨.aes, 128⟩ }

example : ∃ out r, encryptBytes toyPrims toyEnc 7 0 [104, 105] (List.range 20) = .ok (out, r) := ⟨_, _, rfl⟩

end PdfVerif.C09sec
