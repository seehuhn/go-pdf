import PdfVerif.Model.ROBErr
import PdfVerif.Props.C05robbuf
/-!
# C19 — I/O failures surface as I/O failures: property theorems

Models: `Model/ROBErr.lean` (error.go, reader.go/sequential.go `shouldExit`, container.go
`sourceErrChecker`/`sourceAwareReader`), `Model/ROBScanBuf.lean` (scanner.go buffer and latch).
-/
namespace PdfVerif.C19rob
open PdfVerif PdfVerif.ROB PdfVerif.C05robbuf

theorem appendLoc_isMalformed (e : GoErr) (loc : String) : (e.appendLoc loc).isMalformed = e.isMalformed := by
  induction e with
  | sentinel id => rfl
  | malformed inner l ih => rfl
  | wrapf m inner ih => exact ih
  | other m => rfl

theorem appendLoc_is (e : GoErr) (loc : String) (t : Nat) : (e.appendLoc loc).is t = e.is t := by
  induction e with
  | sentinel id => rfl
  | malformed inner l ih => rfl
  | wrapf m inner ih => exact ih
  | other m => rfl

/-- **wrap_preserves_class.**  `Wrap` never changes whether an error is nil, whether it is a
malformed-file error, or which sentinel errors `errors.Is` finds in it (in particular an injected
source error stays findable and stays non-malformed). -/
theorem wrap_preserves_class (err : Option GoErr) (loc : String) :
    (wrap err loc).isSome = err.isSome ∧
    isMalformed (wrap err loc) = isMalformed err ∧
    ∀ t, (match wrap err loc with | some e => e.is t | none => false) =
         (match err with | some e => e.is t | none => false) := by
  cases err with
  | none => simp [wrap, isMalformed]
  | some e =>
    by_cases h : e.isMalformed = true
    · simp [wrap, h, isMalformed, appendLoc_isMalformed, appendLoc_is]
    · simp [wrap, h, isMalformed, GoErr.isMalformed, GoErr.is]

example : isMalformed (wrap (some (.wrapf "x" (.sentinel 2))) "loc") = false ∧
    (match wrap (some (.wrapf "x" (.sentinel 2))) "loc" with | some e => e.is 2 | none => false) = true := by
  decide

/-- **optional_hides_only_malformed.**  `Optional` turns exactly the malformed errors into
"absent" (zero value, nil error); every other error is returned unchanged, and a successful
value is returned unchanged. -/
theorem optional_hides_only_malformed {α : Type} (zero value : α) (err : Option GoErr) :
    (isMalformed err = true → optionalGo zero value err = (zero, none)) ∧
    (isMalformed err = false → err.isSome = true → optionalGo zero value err = (zero, err)) ∧
    (err = none → optionalGo zero value err = (value, none)) := by
  refine ⟨?_, ?_, ?_⟩
  · intro h; simp [optionalGo, h]
  · intro h hs
    cases err with
    | none => simp at hs
    | some e => simp [optionalGo, h]
  · intro h; subst h; simp [optionalGo, isMalformed]

example : optionalGo 0 7 (some (.wrapf "object 3 0 R" (.sentinel 2))) = (0, some (.wrapf "object 3 0 R" (.sentinel 2))) := by
  decide

/-- **open_fault (decision logic).**  In every `ReaderErrorHandling` mode (indeed for every
value of the mode variable) `shouldExit` of `NewReader`/`MakeReader` is true for every non-nil
error that is not a malformed-file error, and such an error is never diverted to `r.Errors`. -/
theorem open_fault (mode : Nat) (e : GoErr) (h : e.isMalformed = false) :
    shouldExit mode (some e) = (true, none) := by
  simp [shouldExit, h]

/-- what `shouldExit` does with malformed errors, for completeness: Recover continues, Report
records and continues, Stop exits -/
theorem shouldExit_malformed (e : GoErr) (h : e.isMalformed = true) :
    shouldExit Gen.rob_reader_ErrorHandlingRecover (some e) = (false, none) ∧
    shouldExit Gen.rob_reader_ErrorHandlingReport (some e) = (false, some e) ∧
    shouldExit Gen.rob_reader_ErrorHandlingStop (some e) = (true, none) := by
  simp [shouldExit, h, Gen.rob_reader_ErrorHandlingRecover, Gen.rob_reader_ErrorHandlingReport,
    Gen.rob_reader_ErrorHandlingStop]

/-- `open_fault` at the catalog step of `NewReader`/`MakeReader`: a non-malformed error of the
    catalog decode is returned as it is, in every mode, with or without `/Pages` -/
theorem catalog_fault (seq : Bool) (mode : Nat) (e : GoErr) (h : e.isMalformed = false) (hasPages : Bool) :
    catalogStep seq mode (some e) hasPages = (true, some e, false) := by
  simp [catalogStep, shouldExit, h]

example : shouldExit 0 (some (.wrapf "document catalog" (.wrapf "object 1 0 R" (.sentinel 2)))) = (true, none) := by
  decide

/-! ## `sourceErrChecker` / `sourceAwareReader` under arbitrary filter layers

A filter stack is *any* function from its state to a program of reads on the checker
(`Model/ROBErr.lean:Prog`), so the theorems quantify over everything a deterministic layer can
do: swallow the error, replace it (flate's `io.ErrUnexpectedEOF`), wrap it into a
`*MalformedFileError`, report it later, or report `io.EOF`. -/

/-- the errors the raw reader returned to the calls a program made, in order -/
def trace {α : Type} (src : RawSrc) : Prog α → Chk → List (Option GoErr)
  | .ret _, _ => []
  | .read want k, c =>
    let r := src c.calls want
    r.2 :: trace src (k r) (c.observe r.2)

/-- the first error of a trace that is not `io.EOF` -/
def firstFault : List (Option GoErr) → Option GoErr
  | [] => none
  | none :: rest => firstFault rest
  | some e :: rest => if e.is idEOF then firstFault rest else some e

theorem run_srcErr {α : Type} (src : RawSrc) (p : Prog α) (c : Chk) :
    (p.run src c).2.srcErr = match c.srcErr with
      | some s => some s
      | none => firstFault (trace src p c) := by
  induction p generalizing c with
  | ret a => cases h : c.srcErr <;> simp only [Prog.run, trace, firstFault, h]
  | read want k ih =>
    rw [Prog.run, trace, ih]
    unfold Chk.observe
    cases hc : c.srcErr with
    | some s => cases (src c.calls want).2 <;> simp
    | none =>
      cases (src c.calls want).2 with
      | none => simp [firstFault]
      | some e => by_cases he : e.is idEOF = true <;> simp [he, firstFault]

/-- the checker is sticky: once an error is recorded no program changes it -/
theorem run_sticky {α : Type} (src : RawSrc) (p : Prog α) (c : Chk) (s : GoErr)
    (h : c.srcErr = some s) : (p.run src c).2.srcErr = some s := by
  rw [run_srcErr, h]

/-- what is recorded is the first non-EOF error the raw reader returned -/
theorem run_records {α : Type} (src : RawSrc) (p : Prog α) (c : Chk) (h : c.srcErr = none) :
    (p.run src c).2.srcErr = firstFault (trace src p c) := by
  rw [run_srcErr, h]

theorem topRead_srcErr {σ : Type} (L : Layers σ) (src : RawSrc) (st : σ × Chk) (want : Nat) :
    (topRead L src st want).2.2 = ((L.read st.1 want).run src st.2).2 := rfl

theorem topRead_err {σ : Type} (L : Layers σ) (src : RawSrc) (st : σ × Chk) (want : Nat) (s : GoErr)
    (h : (topRead L src st want).2.2.srcErr = some s) :
    (topRead L src st want).1.2 = none ∨ (topRead L src st want).1.2 = some s := by
  rw [topRead_srcErr] at h
  simp only [topRead]
  cases ((L.read st.1 want).run src st.2).1.1.2 with
  | none => left; simp
  | some e => right; simp [h]

/-- **source_error_wins** (one `Read` of the reader returned by `DecodeStream`).  Whatever the
filter layers do: (1) if after the call the checker holds a source error `s`, the call returned
no error or exactly `s`; (2) what the checker holds is what it held before, else the first
non-EOF error the raw reader returned during this call — so a source failure is visible in the
very `Read` in which it happens, and no layer can replace it. -/
theorem source_error_wins {σ : Type} (L : Layers σ) (src : RawSrc) (st : σ × Chk) (want : Nat) :
    let r := topRead L src st want
    (∀ s, r.2.2.srcErr = some s → r.1.2 = none ∨ r.1.2 = some s) ∧
    r.2.2.srcErr = (match st.2.srcErr with
      | some s => some s
      | none => firstFault (trace src (L.read st.1 want) st.2)) :=
  ⟨topRead_err L src st want, run_srcErr src _ st.2⟩

/-- once the source has failed with `s`, every error any later `Read` returns is `s` -/
theorem source_error_wins_history {σ : Type} (L : Layers σ) (src : RawSrc) (wants : List Nat) :
    ∀ (st : σ × Chk) (s : GoErr), st.2.srcErr = some s →
      ∀ o ∈ (topReads L src st wants).1, o.2 = none ∨ o.2 = some s := by
  induction wants with
  | nil => intro st s _ o ho; simp [topReads] at ho
  | cons w ws ih =>
    intro st s h o ho
    have h1 : (topRead L src st w).2.2.srcErr = some s := by
      rw [topRead_srcErr]; exact run_sticky src _ _ s h
    simp only [topReads, List.mem_cons] at ho
    rcases ho with ho | ho
    · subst ho; exact topRead_err L src st w s h1
    · exact ih _ s h1 o ho

/-- `DecodeStream` while building the chain: if a layer's constructor fails after the raw reader
failed (e.g. a header read), the error returned is the source's (`promote`) -/
theorem construct_promotes {σ : Type} (ctor : Prog (Except GoErr σ)) (src : RawSrc) (e : GoErr)
    (h : construct ctor src = .error e) :
    ∀ s, firstFault (trace src ctor ⟨0, none⟩) = some s → e = s := by
  intro s hs
  have hrec := run_records src ctor ⟨0, none⟩ rfl
  rw [hs] at hrec
  unfold construct at h
  revert h
  cases hr : (ctor.run src ⟨0, none⟩).1 with
  | ok st => simp [hr]
  | error e' =>
    simp [hr, Chk.promote, hrec]
    intro h; exact h.symm

/-- non-vacuity: a layer that reads twice, hides the source's error 2 behind a fresh malformed
error: the caller still gets error 2 -/
example :
    let src : RawSrc := fun k _ => if k = 0 then ([1, 2], none) else ([], some (.sentinel 2))
    let L : Layers Unit := ⟨fun _ _ => .read 8 fun _ => .read 8 fun _ =>
      .ret (([1, 2], some (.malformed (.other "bad data") [])), ())⟩
    (topRead L src ((), ⟨0, none⟩) 64).1 = ([1, 2], some (.sentinel 2)) := by decide

/-! ## `scanner_fault` — the scanner's buffer over a failing reader

`FaultyOver d e0 src` (Lemmas/ROBBuf.lean): `src` serves the bytes `d`; any `Read` may fail with
`e0`, delivering any prefix of the data together with the error ("fail from call k on", "fail
only call k", short reads with error, chunked readers are all instances: `faultySrc_faultyOver`).
`view d s` is the remaining input the parser would see without faults. -/

/-- pins the fix D33 of finding ROB-1: the input `endobj`, the first `Read` delivers `end` together with an
    error; `PeekN(6)` reports the reader's error, not `end` with a nil error. -/
example : (peekN (faultySrc [101, 110, 100, 111, 98, 106] 0 (.onlyK 0 3) .io) 6 (SB.init 0)).2 =
    ([101, 110, 100], some .io) := by decide

/-- **scanner_fault** (full strength).  For every reader that serves the bytes `d` and may fail
    with `e0` at any call — from call k on, only at call k, with any number of bytes delivered
    together with the error, with any chunking — every entry point of the scanner's buffer returns
    the fault-free result (the function of `Model/Scan.lean` on the whole remaining input) or the
    reader's error `e0`: `ReadByte`, `ScanBytes` (any acceptor; it also terminates),
    `SkipWhiteSpace`, `PeekN` and `SkipString`.  (The `PeekN`/`SkipString` clauses rest on the fix
    D33 of finding ROB-1.) -/
theorem scanner_fault {d : Bytes} {e0 : Err} {src : Source} (h : FaultyOver d e0 src) (s : SB)
    (c : Coh d e0 s) :
    -- ReadByte
    ((((readByte src s).2, view d (readByte src s).1) = readByteSpec (view d s)) ∨ (readByte src s).2 = .error e0) ∧
    -- ScanBytes (any acceptor), with termination
    (∀ {σ : Type} (acc : σ → Nat → Option σ) (empty : Bool) (st : σ),
      (scanBytes src acc (scanBytesFuel (d.length - s.srcOff)) empty st s).1.hang = false ∧
      ((scanSpec acc st (view d s) =
          ((scanBytes src acc (scanBytesFuel (d.length - s.srcOff)) empty st s).2.1,
           view d (scanBytes src acc (scanBytesFuel (d.length - s.srcOff)) empty st s).1,
           decide ((scanBytes src acc (scanBytesFuel (d.length - s.srcOff)) empty st s).2.2 = some .eof)) ∧
        ((scanBytes src acc (scanBytesFuel (d.length - s.srcOff)) empty st s).2.2 = none ∨
         (scanBytes src acc (scanBytesFuel (d.length - s.srcOff)) empty st s).2.2 = some .eof)) ∨
       (scanBytes src acc (scanBytesFuel (d.length - s.srcOff)) empty st s).2.2 = some e0)) ∧
    -- SkipWhiteSpace
    ((skipWS (view d s) =
        (view d (skipWhiteSpace src (scanBytesFuel (d.length - s.srcOff)) s).1,
         decide ((skipWhiteSpace src (scanBytesFuel (d.length - s.srcOff)) s).2 = some .eof)) ∧
      ((skipWhiteSpace src (scanBytesFuel (d.length - s.srcOff)) s).2 = none ∨
       (skipWhiteSpace src (scanBytesFuel (d.length - s.srcOff)) s).2 = some .eof)) ∨
     (skipWhiteSpace src (scanBytesFuel (d.length - s.srcOff)) s).2 = some e0) ∧
    -- PeekN
    (∀ n, n ≤ bufSize →
      ((peekN src n s).2.2 = none ∧ (peekN src n s).2.1 = (view d s).take n) ∨ (peekN src n s).2.2 = some e0) ∧
    -- SkipString
    (∀ pat : Bytes, pat.length ≤ bufSize →
      ((skipString src pat s).2 = none ∧ (view d s).take pat.length = pat ∧
        view d (skipString src pat s).1 = (view d s).drop pat.length) ∨
      ((skipString src pat s).2 = some .malformed ∧ (view d s).take pat.length ≠ pat ∧
        view d (skipString src pat s).1 = view d s) ∨
      (skipString src pat s).2 = some e0) := by
  -- each clause is the statement of `Lemmas/ROBBuf.lean` about that entry point, without what it says
  -- about the latched error
  refine ⟨(readByte_spec h s c).2.imp_right And.left, fun acc empty st => ?_, ?_,
    fun n hn => (peekN_spec h n hn s c).out.imp_right And.left,
    fun pat hn => (skipString_spec h pat hn s c).2.imp_right (Or.imp_right And.left)⟩
  · obtain ⟨c1, h1⟩ := scanBytes_spec h acc (scanBytesFuel (d.length - s.srcOff)) empty st s c (Nat.le_refl _)
    exact ⟨c1.nohang, h1.imp And.symm And.left⟩
  · exact (skipWhiteSpace_spec h s c (scanBytesFuel (d.length - s.srcOff)) (Nat.le_refl _)).2.imp And.symm And.left

-- non-vacuity: the reader fails from the third call on (7 bytes per call): ReadByte still hands
-- out the 14 buffered bytes one by one, then reports the reader's error, never EOF
example :
    (let d : Bytes := List.replicate 40 65
     let src := faultySrc d 7 (.fromK 2 0) .io
     let s1 := (peekN src 1 (SB.init 0)).1
     match (readByte src s1).2, (readByte src { s1 with pos := 14 }).2 with
     | .ok 65, .error .io => true
     | _, _ => false) = true := by decide +kernel

/-! ## `io.SectionReader` over an `io.ReaderAt` is such a reader

`Reader.scannerFrom` reads through an `io.SectionReader` over the file's `ReaderAt`; if each call of
the `ReaderAt` delivers all the bytes asked for, or an error and no data, it satisfies `FaultyOver`,
so `scanner_fault` applies to the scanners the `Reader` creates.  (The contract of `io.ReaderAt` also
allows an error together with some of the data; that case is not covered here.) -/

/-- the `ReaderAt` serves `d`; every call inside the data delivers everything asked for, or fails
    with `e0` and no data -/
def CleanReaderAt (d : Bytes) (e0 : Err) (ra : ReaderAtFn) : Prop :=
  ∀ k off n, off + n ≤ d.length →
    ra k off n = ((d.drop off).take n, none) ∨ ra k off n = ([], some e0)

theorem sectionSrc_faultyOver {d : Bytes} {e0 : Err} {ra : ReaderAtFn} (h : CleanReaderAt d e0 ra)
    (he : e0 ≠ .eof) : FaultyOver d e0 (sectionSrc ra d.length) := by
  -- a call answers as the fault-free reader over `d` does, or fails with no data
  refine faultyOver_inject (goodSrc_faultyOver d 0 e0 he) fun k off want => ?_
  unfold sectionSrc goodSrc
  by_cases ho : off ≥ d.length
  · rw [if_pos ho, if_pos ho]; exact Or.inl rfl
  · rw [if_neg ho, if_neg ho]
    rcases h k off (min want (d.length - off)) (by omega) with hk | hk
    · rw [hk, ← List.length_drop, ← List.take_eq_take_min]; exact Or.inl rfl
    · exact Or.inr ⟨0, hk⟩

-- non-vacuity: a ReaderAt whose third call fails is clean
example (d : Bytes) : CleanReaderAt d .io (fun k off n => if k = 2 then ([], some .io) else ((d.drop off).take n, none)) := by
  intro k off n _
  by_cases hk : k = 2
  · right; simp [hk]
  · left; simp [hk]

end PdfVerif.C19rob
