import PdfVerif.Props.C13ccm
import PdfVerif.Spec.CCToUnicode
/-!
# C13 (part 14) — the writers' blocks, the single-destination `bfrange` form, `GetMapping`

* `chunks` / `tuRangeChunks` split losslessly into non-empty blocks of at most `chunkSize` = 100
  entries (the limit of the CMap format which the reader enforces); `tuRangeChunks` also keeps
  `3k + 3 + len(values)` ≤ 400 for every entry after the first of a block, below the 500 slots of the
  PostScript reader's operand stack (fixes D-C13-1, D-C13-3).
* the single-destination `bfrange` form that `NewToUnicodeFile` chooses (fix D-C13-2) means the
  same under ISO 32000-2 9.10.3 (last BYTE incremented) as under the library's own reading
  (`nextString`: last RUNE incremented).
* the code space `GetMapping` uses is the union of the levels of the chain (fix D-C13-5).
-/
namespace PdfVerif.C13ccn
open PdfVerif PdfVerif.CC

theorem chunksFuel_spec {α : Type} (fuel : Nat) (x : List α) (hx : x.length < fuel) :
    (chunksFuel fuel x).flatten = x ∧
    ∀ b ∈ chunksFuel fuel x, 1 ≤ b.length ∧ b.length ≤ Gen.cmap_chunkSize := by
  have hpos : 0 < Gen.cmap_chunkSize := by decide
  fun_induction chunksFuel fuel x with
  | case1 => exact absurd hx (Nat.not_lt_zero _)
  | case2 fuel x hge ih =>
    -- a full block is cut off; what is left is shorter (this is what the fuel counts)
    obtain ⟨i1, i2⟩ := ih (by
      rw [List.length_drop]
      exact Nat.lt_of_lt_of_le (Nat.sub_lt (Nat.lt_of_lt_of_le hpos hge) hpos) (Nat.le_of_lt_succ hx))
    refine ⟨by rw [List.flatten_cons, i1, List.take_append_drop], fun b hb => ?_⟩
    rcases List.mem_cons.mp hb with rfl | hb
    · rw [List.length_take]
      exact ⟨Nat.le_min.mpr ⟨hpos, Nat.le_trans hpos hge⟩, Nat.min_le_left _ _⟩
    · exact i2 b hb
  | case3 fuel x hlt he => simp [List.isEmpty_iff.mp he]
  | case4 fuel x hlt hne =>
    refine ⟨by simp, fun b hb => ?_⟩
    rw [List.mem_singleton.mp hb]
    have : x.length ≠ 0 := fun h => hne (by simp [List.length_eq_zero_iff.mp h])
    exact ⟨Nat.pos_of_ne_zero this, Nat.le_of_lt (Nat.not_le.mp hlt)⟩

/-- `chunks` is lossless and every block has between 1 and `chunkSize` (= 100) entries — for
every list: code space ranges, cidchar, cidrange, notdefchar, notdefrange, bfchar entries. -/
theorem chunks_spec {α : Type} (x : List α) :
    (chunks x).flatten = x ∧ ∀ b ∈ chunks x, 1 ≤ b.length ∧ b.length ≤ Gen.cmap_chunkSize :=
  chunksFuel_spec (x.length + 1) x (by omega)

/-- every block the CMap writer emits has at most 100 entries (the literal is the limit of the CMap format; the proof is
where the extracted constant `Gen.cmap_chunkSize` is compared with it) -/
theorem cmapBlockSizes_le (a b c d e : Nat) :
    ∀ kind ∈ cmapBlockSizes a b c d e, ∀ n ∈ kind, 1 ≤ n ∧ n ≤ 100 := by
  intro kind hk n hn
  simp only [cmapBlockSizes, List.mem_map] at hk
  obtain ⟨m, _, rfl⟩ := hk
  simp only [List.mem_map] at hn
  obtain ⟨blk, hb, rfl⟩ := hn
  have := (chunks_spec (List.replicate m ())).2 blk hb
  simpa [Gen.cmap_chunkSize] using this

/-- the sizes of the blocks of one kind add up to the number of entries -/
theorem cmapBlockSizes_sum (m : Nat) : ((chunks (List.replicate m ())).map List.length).sum = m := by
  have h := (chunks_spec (List.replicate m ())).1
  have : ((chunks (List.replicate m ())).flatten).length = m := by rw [h]; simp
  rw [List.length_flatten] at this
  exact this

/-- a block of value-list lengths that a reader with a 500-slot operand stack can take: at most
100 entries, and for every entry after the first `3k + 3 + len` ≤ 400 (`const maxDepth = 400` local to
`tuRangeChunks`, `font/cmap/tounicode.go`; a literal in the model too, whereas 100 is `Gen.cmap_chunkSize`) -/
def BlockOK (b : List Nat) : Prop :=
  b.length ≤ Gen.cmap_chunkSize ∧ ∀ k m, b[k]? = some m → k = 0 ∨ 3 * k + 3 + m ≤ 400

theorem blockOK_concat (b : List Nat) (m : Nat) (hb : BlockOK b)
    (hm : b.length = 0 ∨ (b.length < Gen.cmap_chunkSize ∧ 3 * b.length + 3 + m ≤ 400)) : BlockOK (b ++ [m]) := by
  refine ⟨?_, fun k v hk => ?_⟩
  · rw [List.length_append, List.length_singleton]
    rcases hm with h0 | h
    · rw [h0]; decide
    · exact h.1
  · by_cases hlt : k < b.length
    · exact hb.2 k v (by rwa [List.getElem?_append_left hlt] at hk)
    · have hk' := (List.getElem?_eq_some_iff.mp hk).1
      rw [List.length_append, List.length_singleton] at hk'
      have hkb : k = b.length := by omega
      subst hkb
      rw [List.getElem?_append_right (Nat.le_refl _), Nat.sub_self] at hk
      cases hk
      rcases hm with h0 | h
      · exact .inl h0
      · exact .inr h.2

theorem tuRangeChunksLoop_spec (lens cur : List Nat) (hc : BlockOK cur.reverse) :
    (tuRangeChunksLoop lens cur).flatten = cur.reverse ++ lens ∧
    ∀ b ∈ tuRangeChunksLoop lens cur, b ≠ [] ∧ BlockOK b := by
  fun_induction tuRangeChunksLoop lens cur with
  | case1 cur he => simp [List.isEmpty_iff.mp he]
  | case2 cur hne =>
    refine ⟨by simp, fun b hb => ?_⟩
    rw [List.mem_singleton.mp hb]
    exact ⟨fun h => hne (by simp [List.reverse_eq_nil_iff.mp h]), hc⟩
  | case3 m rest cur hcut ih =>
    -- the block is closed; `m` starts the next one
    simp only [Bool.and_eq_true, decide_eq_true_eq] at hcut
    obtain ⟨i1, i2⟩ := ih (blockOK_concat [] m ⟨by decide, by simp⟩ (.inl rfl))
    refine ⟨by simp only [List.flatten_cons, i1]; simp, fun b hb => ?_⟩
    rcases List.mem_cons.mp hb with rfl | hb
    · exact ⟨fun h => by rw [List.reverse_eq_nil_iff.mp h] at hcut; simp at hcut, hc⟩
    · exact i2 b hb
  | case4 m rest cur hcut ih =>
    -- `m` joins the block: the test failed, so the block is empty or has room for `m`
    simp only [Bool.and_eq_true, decide_eq_true_eq, Bool.or_eq_true, not_and, not_or, Nat.not_lt,
      Nat.not_le] at hcut
    have hok : BlockOK (m :: cur).reverse := by
      rw [List.reverse_cons]
      refine blockOK_concat _ m hc ?_
      rw [List.length_reverse]
      by_cases h0 : cur.length > 0
      · exact .inr (hcut h0)
      · exact .inl (Nat.eq_zero_of_not_pos h0)
    obtain ⟨i1, i2⟩ := ih hok
    exact ⟨by rw [i1]; simp, i2⟩
/-- `tuRangeChunks` is lossless; every block is non-empty, has at most 100 entries, and keeps
`3k + 3 + len(values)` ≤ 400 for every entry after the first (the first entry of a block needs
`3 + len(values)` slots, at most 259 for the value lists `NewToUnicodeFile` builds). -/
theorem tuRangeChunks_spec (lens : List Nat) :
    (tuRangeChunks lens).flatten = lens ∧ ∀ b ∈ tuRangeChunks lens, b ≠ [] ∧ BlockOK b := by
  have := tuRangeChunksLoop_spec lens [] ⟨by simp, by intro k m h; simp at h⟩
  simpa [tuRangeChunks] using this

/-- with value lists of at most 256 strings (one per last byte) no entry needs more than 400 slots -/
theorem tuRangeChunks_stack (lens : List Nat) (hl : ∀ m ∈ lens, m ≤ 256) :
    ∀ b ∈ tuRangeChunks lens, ∀ k m, b[k]? = some m → 3 * k + 3 + m ≤ 400 := by
  intro b hb k m hk
  obtain ⟨hj, hok⟩ := tuRangeChunks_spec lens
  have hm : m ∈ lens := by
    rw [← hj]
    exact List.mem_flatten.mpr ⟨b, hb, List.mem_of_getElem? hk⟩
  rcases (hok b hb).2.2 k m hk with h0 | h
  · subst h0; have := hl m hm; omega
  · exact h

theorem wrapInt32_eq (i : Int) (h0 : -2147483648 ≤ i) (h1 : i < 2147483648) : wrapInt32 i = i := by
  unfold wrapInt32
  rw [Int.emod_eq_of_lt (by omega) (by omega)]; omega

theorem runeToText_scalar (n : Nat) (hn : Spec.ToUnicode.IsScalar n) : runeToText (n : Int) = n := by
  obtain ⟨h1, h2⟩ := hn
  unfold runeToText
  rw [if_neg (by simp only [Bool.or_eq_true, decide_eq_true_eq, Bool.and_eq_true, not_or, not_and]; omega)]
  exact Int.toNat_natCast n

theorem bumpLast_append (inc : Nat) (l : Text) (r : Nat) :
    bumpLast inc (l ++ [r]) = l ++ [runeToText (wrapInt32 ((r : Int) + wrapInt32 (inc : Int)))] := by
  induction l with
  | nil => rfl
  | cons a l ih =>
    cases hl : l ++ [r] with
    | nil => simp at hl
    | cons b t => simp only [List.cons_append, hl, bumpLast]; rw [← hl, ih]

/-- as long as the result is a scalar value, `nextString` adds to the last rune (no `int32` wrap-around, no
replacement by U+FFFD) -/
theorem nextString_scalar (init : Text) (r j : Nat) (h : Spec.ToUnicode.IsScalar (r + j)) :
    nextString (init ++ [r]) j = init ++ [r + j] := by
  have hle := h.1
  rw [nextString, bumpLast_append, wrapInt32_eq (j : Int) (by omega) (by omega),
    wrapInt32_eq ((r : Int) + j) (by omega) (by omega), ← Int.natCast_add, runeToText_scalar _ h]

theorem add_div_mod_of_lt (x j B : Nat) (h : x % B + j < B) : (x + j) / B = x / B ∧ (x + j) % B = x % B + j := by
  have hB : 0 < B := by omega
  have e : x + j = B * (x / B) + (x % B + j) := by rw [← Nat.add_assoc, Nat.div_add_mod]
  rw [e, Nat.mul_add_div hB, Nat.mul_add_mod, Nat.div_eq_of_lt h, Nat.mod_eq_of_lt h]
  exact ⟨rfl, rfl⟩

/-- the low surrogate of `x + 0x10000` has the low byte of `x` (`0xDC00` and `0x400` are multiples of 256) -/
theorem low_surrogate_low_byte (x : Nat) : (0xDC00 + x % 0x400) % 256 = (x + 0x10000) % 256 := by
  show (256 * 220 + x % 0x400) % 256 = (x + 256 * 256) % 256
  rw [Nat.mul_add_mod, Nat.mod_mod_of_dvd x (⟨4, rfl⟩ : 256 ∣ 0x400), Nat.add_mul_mod_self_left]

open Spec.ToUnicode in
/-- incrementing the last BYTE of the UTF-16BE form of a scalar value (no overflow of that byte)
is incrementing the scalar value, and stays a scalar value -/
theorem encodeScalar_add (r j : Nat) (hr : IsScalar r) (h : r % 256 + j ≤ 255) :
    IsScalar (r + j) ∧ ∃ pre, encodeScalar r = pre ++ [r % 256] ∧ encodeScalar (r + j) = pre ++ [r % 256 + j] := by
  obtain ⟨h1, h2⟩ := hr
  obtain ⟨e1, e2⟩ := add_div_mod_of_lt r j 256 (Nat.lt_succ_of_le h)
  -- `r + j` and `r` differ in the low byte only, and the bounds in question are multiples of 256:
  -- `0x110000`, `0xD800`, `0xE000` are `0x1100`, `0xD8`, `0xE0` times 256
  have hlt : ∀ k, r + j < k * 256 ↔ r < k * 256 := fun k => by
    rw [← Nat.div_lt_iff_lt_mul (by decide), ← Nat.div_lt_iff_lt_mul (by decide), e1]
  refine ⟨⟨Nat.le_of_lt_succ ((hlt 0x1100).mpr (Nat.lt_succ_of_le h1)), fun ⟨a, b⟩ => h2
    ⟨Nat.not_lt.mp fun c => Nat.not_lt.mpr a ((hlt 0xD8).mpr c), Nat.le_of_lt_succ ((hlt 0xE0).mp (Nat.lt_succ_of_le b))⟩⟩,
    ?_⟩
  by_cases hb : r < 0x10000
  · have hb' : r + j < 0x10000 := (hlt 0x100).mpr hb
    have a1 : encodeScalar r = [r / 256] ++ [r % 256] := by
      rw [encodeScalar, if_pos hb, List.cons_append, List.nil_append]
    have a2 : encodeScalar (r + j) = [r / 256] ++ [r % 256 + j] := by
      rw [encodeScalar, if_pos hb', e1, e2, List.cons_append, List.nil_append]
    refine ⟨[r / 256], ?_, ?_⟩
    · exact a1
    · exact a2
  · -- a surrogate pair: `r + j` has the same high surrogate, and the low one grows by `j` in its low byte
    obtain ⟨x, rfl⟩ : ∃ x, r = x + 0x10000 := ⟨r - 0x10000, (Nat.sub_add_cancel (Nat.not_lt.mp hb)).symm⟩
    have hb' : ¬ x + 0x10000 + j < 0x10000 := fun c => hb ((hlt 0x100).mp c)
    have hq := add_div_mod_of_lt x j 0x400 (by omega)
    have hl := low_surrogate_low_byte x
    obtain ⟨e1, e2⟩ := add_div_mod_of_lt (0xDC00 + x % 0x400) j 256 (by rw [hl]; exact Nat.lt_succ_of_le h)
    refine ⟨[(0xD800 + x / 0x400) / 256, (0xD800 + x / 0x400) % 256, (0xDC00 + x % 0x400) / 256], ?_, ?_⟩
    · rw [encodeScalar, if_neg hb, ← hl]
      simp only [Nat.add_sub_cancel, List.cons_append, List.nil_append]
    · rw [encodeScalar, if_neg hb', ← hl]
      simp only [Nat.add_right_comm x _ j, Nat.add_sub_cancel, hq.1, hq.2, ← Nat.add_assoc, e1, e2,
        List.cons_append, List.nil_append]

theorem utf16Rune_last (r : Nat) (hr : Spec.ToUnicode.IsScalar r) :
    ∃ u, (utf16Rune r).getLast? = some u ∧ u % 256 = r % 256 := by
  obtain ⟨h1, h2⟩ := hr
  unfold utf16Rune
  by_cases hb : r < 0x10000
  · have : ¬ (0xD800 ≤ r ∧ r ≤ 0xDFFF) := h2
    have hs : (decide (0xD800 ≤ r) && decide (r ≤ 0xDFFF)) = false := by simpa using this
    simp [hb, hs]
  · obtain ⟨x, rfl⟩ : ∃ x, r = x + 0x10000 := ⟨r - 0x10000, by omega⟩
    simp only [hb, if_false, h1, if_true, Nat.add_sub_cancel]
    exact ⟨0xDC00 + x % 0x400, rfl, low_surrogate_low_byte x⟩

open Spec.ToUnicode in
/-- The compact `bfrange` form is read alike by the specification and by the library: when
`NewToUnicodeFile` (with the guard of fix D-C13-2) stores a run of `n` codes as
`<first> <last> <dst>`, then for every offset `j < n` the destination ISO 32000-2 9.10.3
prescribes — `dst` with its last byte incremented by `j` — is defined and is exactly the UTF-16BE
form of `nextString(dst, j)`, the text `Lookup`/`All` return (texts of scalar values).  The hypothesis is the guard
itself: `tuEmit` stores the single destination `[start.val]` only when `tuLastByteOverflows start.val n = false`. -/
theorem compact_bfrange_agrees (init : Text) (r n j : Nat) (hr : IsScalar r) (hj : j < n)
    (hg : tuLastByteOverflows (init ++ [r]) n = false) :
    compactDst (encode (init ++ [r])) n j = some (encode (nextString (init ++ [r]) j)) := by
  obtain ⟨u, hu, hlow⟩ := utf16Rune_last r hr
  have hguard : r % 256 + (n - 1) ≤ 255 := by
    unfold tuLastByteOverflows at hg
    have hl : (utf16Text (init ++ [r])).getLast? = some u := by
      simp only [utf16Text, List.flatMap_append, List.flatMap_cons, List.flatMap_nil, List.append_nil]
      rw [List.getLast?_append]
      simp [hu]
    rw [hl] at hg
    simp only [decide_eq_false_iff_not, Nat.not_lt] at hg
    exact hlow ▸ hg
  obtain ⟨hs', pre, e1, e2⟩ := encodeScalar_add r j hr
    (Nat.le_trans (Nat.add_le_add_left (Nat.le_sub_one_of_lt hj) _) hguard)
  rw [nextString_scalar init r j hs']
  simp only [encode, List.flatMap_append, List.flatMap_cons, List.flatMap_nil, List.append_nil, e1, e2]
  unfold compactDst
  simp only [List.reverse_append, List.reverse_cons, List.reverse_nil, List.nil_append, List.cons_append]
  simp only [show r % 256 + (n - 1) ≤ 255 from hguard, if_true, List.reverse_reverse, List.append_assoc]

/-- the code space `GetMapping` decodes with is the union of the code spaces of all levels -/
theorem isCodeOf_tuChain (chain : TUChain) (bs : Bytes) :
    C12ccf.IsCodeOf (tuChainCodeSpace chain) bs ↔ ∃ g ∈ chain, C12ccf.IsCodeOf g.csr bs :=
  C13ccm.isCodeOf_flatMap _ chain bs

/-- non-vacuity, and the witnesses of D-C13-1 and D-C13-2: 101 code space ranges are written as blocks of 100
and 1; U+00FF,U+0100,U+0101 is stored as a value list, not in the single-destination form -/
example : cmapBlockSizes 101 0 250 0 0 = [[100, 1], [], [100, 100, 50], [], []] := by decide +kernel
example : tuRunsOfGroup [] [⟨[], 0x20, [0xFF]⟩, ⟨[], 0x21, [0x100]⟩, ⟨[], 0x22, [0x101]⟩] =
    [.inr ⟨[0x20], [0x22], [[0xFF], [0x100], [0x101]]⟩] := by decide +kernel
example : tuRunsOfGroup [] [⟨[], 0x20, [0xFD]⟩, ⟨[], 0x21, [0xFE]⟩, ⟨[], 0x22, [0xFF]⟩] =
    [.inr ⟨[0x20], [0x22], [[0xFD]]⟩] := by decide +kernel

end PdfVerif.C13ccn
