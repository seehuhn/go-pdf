import PdfVerif.Props.C02fioc
import PdfVerif.Props.C01d
import PdfVerif.Lemmas.C01Fuel
/-!
# C02 (work package FIO) — `indirect_obj_rt`: the reader model returns the object written

Built on C01's object round trip (`Props/C01d.lean`: `readsBack_all` — every good object followed
by an admissible continuation is read back), on fuel monotonicity (`Lemmas/C01Fuel.lean`) and on
`readIntegerE_decOf` for the `N G obj` header.  The continuation here is `"\nendobj\n"`;
`Lemmas/C01Defs.lean:tokStart` admits the byte `e` for this purpose.
-/
namespace PdfVerif.C02fiod
open PdfVerif PdfVerif.FIO PdfVerif.C01b PdfVerif.C01L PdfVerif.C01d PdfVerif.C02fioc

/-- on a dictionary `readObject` succeeds only if no `stream` follows -/
theorem readTopObject_of_readObject (inp : Bytes) (off : Nat) (getInt : Obj → Except Err Int) (v : Obj) (k : Bytes)
    (h : readObject (scanFuel inp) 0 inp = .ok (v, k)) :
    readTopObject inp off getInt = .ok (.plain v, k) := by
  unfold readTopObject
  split
  · rename_i t
    have hf : scanFuel (60 :: 60 :: t) = (3 * (60 :: 60 :: t).length + 7) + 1 := by simp [scanFuel]
    rw [hf, readObject_dict] at h
    cases hd : readDict (3 * (60 :: 60 :: t).length + 7) 0 (60 :: 60 :: t) with
    | error e => rw [hd] at h; cases h
    | ok p =>
      obtain ⟨d, r⟩ := p
      rw [hd] at h
      -- one more unit of fuel does not change the dictionary read
      rw [hf, readDict_mono hd]
      dsimp only at h ⊢
      split at h
      · cases h
      · rename_i hns
        cases h
        simp [hns]
  · rw [h]; rfl

theorem skipWS_endobj (rest : Bytes) :
    skipWS (kEndobj ++ rest) = (101 :: ([110, 100, 111, 98, 106, 10] ++ rest), false) := by
  have h : kEndobj ++ rest = 10 :: 101 :: ([110, 100, 111, 98, 106, 10] ++ rest) := by simp [kEndobj]
  rw [h, skipWS_lf]
  exact skipWS_tok 101 _ (by simp [tokStart])

theorem objHeader_reads (num gen : Nat) (hnum : num ≤ 9223372036854775807) (hgen : gen ≤ 9223372036854775807)
    (content : Bytes) (hc : skipWS content = (content, false)) :
    readIntegerE (objHeader num gen ++ content)
      = .ok ((num : Int), 32 :: (decOf gen ++ (32 :: 111 :: 98 :: 106 :: 10 :: content))) ∧
    readIntegerE (32 :: (decOf gen ++ (32 :: 111 :: 98 :: 106 :: 10 :: content)))
      = .ok ((gen : Int), 32 :: 111 :: 98 :: 106 :: 10 :: content) ∧
    skipWS (32 :: 111 :: 98 :: 106 :: 10 :: content) = (111 :: 98 :: 106 :: 10 :: content, false) ∧
    skipWS (10 :: content) = (content, false) := by
  have e0 : objHeader num gen ++ content
      = decOf num ++ (32 :: (decOf gen ++ (32 :: 111 :: 98 :: 106 :: 10 :: content))) := by
    simp [objHeader, kObj]
  refine ⟨by rw [e0]; exact readIntegerE_decOf num hnum _ isDigit_32, ?_, ?_, by rw [skipWS_lf, hc]⟩
  · rw [readIntegerE_ws 32 (.inl rfl)]
    exact readIntegerE_decOf gen hgen _ isDigit_32
  · rw [skipWS_sp]
    have h111 : isSpace 111 = false := by decide +kernel
    simp [skipWS, h111]

theorem readIndirectObject_body (num gen : Nat) (hnum : num < Gen.fio_maxXRefSize) (hgen : gen ≤ Gen.fio_maxGeneration)
    (content : Bytes) (hc : skipWS content = (content, false)) (off : Nat) (getInt : Obj → Except Err Int)
    (obj : RObj) (r5 r6 : Bytes)
    (htop : readTopObject content (off + (objHeader num gen).length) getInt = .ok (obj, r5))
    (hs : skipWS r5 = (r6, false)) (hend : isPrefixOf kwEndobj r6 = true) :
    readIndirectObject (objHeader num gen ++ content) off getInt = .ok (obj, num, gen, r6.drop 6) := by
  obtain ⟨e1, e2, e3, e4⟩ := objHeader_reads num gen (by unfold Gen.fio_maxXRefSize at hnum; omega)
    (by unfold Gen.fio_maxGeneration at hgen; omega) content hc
  have hlen : (objHeader num gen ++ content).length - content.length = (objHeader num gen).length := by simp
  unfold readIndirectObject
  simp only [e1, e2, e3]
  have hobj : isPrefixOf kwObj (111 :: 98 :: 106 :: 10 :: content) = true := by simp [kwObj, isPrefixOf]
  simp only [hobj, Bool.not_true, Bool.false_eq_true, ↓reduceIte, List.drop_succ_cons, List.drop_zero, e4]
  have hr' : (decide ((num : Int) < 0) || decide ((num : Int) ≥ (Gen.fio_maxXRefSize : Nat)) || decide ((gen : Int) < 0) ||
      decide ((gen : Int) > (Gen.fio_maxGeneration : Nat))) = false := by
    simp; omega
  simp only [hr', Bool.false_eq_true, ↓reduceIte]
  rw [hlen, htop]
  simp only [hs]
  -- an integer could still be the start of a reference `a b R`: `endobj` behind it decides
  cases obj with
  | stream d st ln => simp [hend]
  | plain v =>
    cases v <;> simp [hend]

/-- the text of a good object that is not a bare reference is read back by `ReadObject` in front
    of the end of the input or of a line feed and a further token -/
theorem format_reads (opt : FmtOpt) (o : Obj) (hg : good o = true) (hd : depthOk o) (hr : isRefObj o = false)
    (b k : Bytes) (hf : format opt [o] = some b)
    (hk : k = [] ∨ ∃ c t, k = 10 :: c :: t ∧ tokStart c = true) :
    ∃ k', readObject (scanFuel (b ++ k)) 0 (b ++ k) = .ok (rd o.canon, k') ∧ (k' = k ∨ k' = (skipWS k).1) := by
  have hgc := good_canon o hg
  obtain ⟨ns', hf'⟩ := (format_single opt o b).mp hf
  have hdc : 0 + depthOf o.canon ≤ Gen.scanner_maxScannerNestDepth := by
    have := depth_canon o; unfold depthOk at hd; omega
  have hc : Cont ns' k := by
    rcases hk with rfl | ⟨c, t, rfl, hc⟩
    · trivial
    · exact .inr ⟨.inr rfl, c, t, rfl, hc⟩
  obtain ⟨k', h1, h2, _⟩ := readsBack_all opt o.canon hgc (by rw [isRefObj_canon]; exact hr) 0 hdc b ns' hf' k hc
    (scanFuel (b ++ k)) (by simp [scanFuel])
  exact ⟨k', h1, h2⟩

theorem format_head (opt : FmtOpt) (o : Obj) (hg : good o = true) (b : Bytes) (hf : format opt [o] = some b) :
    ∃ c t, b = c :: t ∧ tokStart c = true := by
  have hgc := good_canon o hg
  obtain ⟨ns', hf'⟩ := (format_single opt o b).mp hf
  obtain ⟨tok, c, t, _, htok, hstart, hbs⟩ := fmtObj_shape opt false o.canon b ns' hgc hf'
  rcases hbs with ⟨h, _⟩ | ⟨h, _⟩
  · exact ⟨c, t, by rw [h, htok], objStart_tokStart hstart⟩
  · cases h

/-- **indirect_obj_rt.**  For every good object (C01's documented limits, not a bare reference),
every reference within range and every formatting mode of an unencrypted file: the bytes the
writer model's `Put` emits — `N G obj\n`, the formatted object, `\nendobj\n` — are read by
`ReadIndirectObject` as that object (up to the normal form `nrm`: nil entries absent, typed nil
arrays null), with that reference, and reading stops after `endobj`. -/
theorem indirect_obj_rt (opt : FmtOpt) (o : Obj) (hg : good o = true) (hd : depthOk o) (hr : isRefObj o = false)
    (num gen : Nat) (hnum : num < Gen.fio_maxXRefSize) (hgen : gen ≤ Gen.fio_maxGeneration)
    (off : Nat) (getInt : Obj → Except Err Int) (rest : Bytes) :
    ∃ body r, format opt [o] = some body ∧
      readIndirectObject (objHeader num gen ++ body ++ kEndobj ++ rest) off getInt
        = .ok (.plain r, num, gen, 10 :: rest) ∧
      nrm r = nrm o := by
  obtain ⟨⟨bs, ns'⟩, hf⟩ := fmtObj_some opt o.canon (good_canon o hg) false
  have hfmt := (format_single opt o bs).mpr ⟨ns', hf⟩
  obtain ⟨c, t, htok, hstart⟩ := format_head opt o hg bs hfmt
  obtain ⟨k', h1, h2⟩ := format_reads opt o hg hd hr bs (kEndobj ++ rest) hfmt (.inr ⟨101, [110, 100, 111, 98, 106, 10] ++ rest, by simp [kEndobj], by decide⟩)
  refine ⟨bs, rd o.canon, hfmt, ?_, nrm_rd_canon o hg⟩
  have htop := fun off' => readTopObject_of_readObject (bs ++ (kEndobj ++ rest)) off' getInt _ _ h1
  have hk' : skipWS k' = (101 :: ([110, 100, 111, 98, 106, 10] ++ rest), false) := by
    rcases h2 with h | h
    · rw [h]; exact skipWS_endobj rest
    · rw [h, skipWS_endobj]; exact skipWS_tok 101 _ (by decide)
  have hc : skipWS (bs ++ (kEndobj ++ rest)) = (bs ++ (kEndobj ++ rest), false) := by
    rw [htok]; exact skipWS_tok c _ hstart
  rw [List.append_assoc, List.append_assoc]
  exact readIndirectObject_body num gen hnum hgen _ hc off getInt _ _ _ (htop _) hk' rfl

-- non-vacuity: a dictionary with a string, a name, a real, a reference and a nested array
example : (match readIndirectObject (objHeader 12 3 ++
      (match format { pretty := true, content := false }
        [.dict [([65], .str [40, 92, 41]), ([66], .arr [.name [35, 32], .real [45, 46, 53], .ref 7 0, .null])]] with
       | some b => b | none => []) ++ kEndobj ++ [37]) 500 (fun _ => .error .malformed) with
    | .ok (.plain (.dict [(a, .str s), (b, .arr [.name n, .real t, .ref 7 0, .null])]), 12, 3, r) =>
        a == [65] && s == [40, 92, 41] && b == [66] && n == [35, 32] && t == [45, 46, 53] && r == [10, 37]
    | _ => false) = true := by decide +kernel

/-- **effective_version_max.**  The version a reader reports is the larger of the header version
and the catalog's `/Version`: a catalog entry below the header version never lowers it, one above
raises it, a missing one (0) leaves the header version. -/
theorem effective_version_max (h c : Nat) :
    effectiveVersion h c = max h c ∧ h ≤ effectiveVersion h c ∧ c ≤ effectiveVersion h c ∧
      (c ≤ h → effectiveVersion h c = h) ∧ effectiveVersion h 0 = h := by
  have key : ∀ c, effectiveVersion h c = max h c := fun c => by
    unfold effectiveVersion
    split
    · exact (Nat.max_eq_right (Nat.le_of_lt ‹_›)).symm
    · exact (Nat.max_eq_left (Nat.not_lt.1 ‹_›)).symm
  rw [key c, key 0]
  exact ⟨rfl, Nat.le_max_left h c, Nat.le_max_right h c, Nat.max_eq_left, Nat.max_eq_left (Nat.zero_le h)⟩

end PdfVerif.C02fiod
