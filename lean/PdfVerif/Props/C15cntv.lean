import PdfVerif.Model.CNTBuilder
import PdfVerif.Props.C15cntb
/-!
# C15 — streams produced by the Builder are accepted and balance

`Model/CNTBuilder.lean` models `Builder.emit`/`Harvest`/`Reset`/`Close` and the ways the typed methods use
them.  For every sequence of Builder actions (any operators, operands and version table, any `Harvest`
points and `Reset`s, methods that refuse their arguments or update graphics parameters directly):
`builder_accepts` (the session `done ++ Stream` is accepted by `State.ApplyOperator` from a fresh state),
`builder_session_closes`, `builder_closing`, `builder_close`, and `builder_nested` (with `Version > 0` the
session is properly nested; D-C15-5: `popNesting` is strict for the Builder).

`Builder.Close` itself appends nothing (it is `State.CanClose`); "the stream followed by
`ClosingOperators`" is what consumers such as `reader.ProcessIter` build, and what the harness checks on
the implementation.
-/
namespace PdfVerif.C15cntv
open PdfVerif PdfVerif.CNT PdfVerif.C15cntb

/-- `ops` is accepted from `s`, operator by operator, with updates of graphics parameters
(`AdjustOK`) allowed between the operators, and leads to `s'` -/
inductive Accepts : St → List (Bytes × List Obj) → St → Prop
  | nil (s : St) : Accepts s [] s
  | adj {s s1 s' : St} {ops : List (Bytes × List Obj)} (h : AdjustOK s s1) (h2 : Accepts s1 ops s') : Accepts s ops s'
  | step {s s1 s' : St} {n : Bytes} {a : List Obj} {ops : List (Bytes × List Obj)}
      (h : applyOperator s n a = .ok s1) (h2 : Accepts s1 ops s') : Accepts s ((n, a) :: ops) s'

theorem inv_adjust (s s1 : St) (h : Inv s) (ha : AdjustOK s s1) : Inv s1 :=
  inv_of_skel h ha.1 ha.2.1 ha.2.2.1 ha.2.2.2.1

theorem accepts_inv {s s' : St} {ops : List (Bytes × List Obj)} (h : Accepts s ops s') : Inv s → Inv s' := by
  induction h with
  | nil s => exact id
  | adj ha _ ih => intro hi; exact ih (inv_adjust _ _ hi ha)
  | step hstep _ ih => intro hi; exact ih (step_inv _ _ _ _ hi hstep)

theorem accepts_append {s s1 s2 : St} {a b : List (Bytes × List Obj)}
    (h : Accepts s a s1) (h2 : Accepts s1 b s2) : Accepts s (a ++ b) s2 := by
  induction h with
  | nil s => exact h2
  | adj ha _ ih => exact .adj ha (ih h2)
  | step hs _ ih => exact .step hs (ih h2)

theorem accepts_snoc {s s1 s2 : St} {ops : List (Bytes × List Obj)} {n : Bytes} {a : List Obj}
    (h : Accepts s ops s1) (hstep : applyOperator s1 n a = .ok s2) : Accepts s (ops ++ [(n, a)]) s2 :=
  accepts_append h (.step hstep (.nil _))

theorem accepts_adj_end {s s1 s2 : St} {ops : List (Bytes × List Obj)}
    (h : Accepts s ops s1) (ha : AdjustOK s1 s2) : Accepts s ops s2 :=
  List.append_nil ops ▸ accepts_append h (.adj ha (.nil _))

theorem accepts_of_run (ops : List (Bytes × List Obj)) : ∀ (s s' : St), run s ops = .ok s' → Accepts s ops s' :=
  run_rec (motive := Accepts) .nil (fun hstep _ ih => .step hstep ih) ops

/-- all `adjust` actions of a program respect `AdjustOK` -/
def ActsOK (acts : List BAct) : Prop :=
  ∀ act ∈ acts, ∀ f, act = .adjust f → ∀ s, AdjustOK s (f s)

/-- One Builder action, seen from the session `done ++ stream`: it leaves the Builder in error with
the state untouched; or the Builder was error-free and the action appended an accepted operator,
adjusted the state, or harvested; or it was a `Reset`. -/
inductive Acted (b : Bld) : BAct → Bld → Prop
  | failed {act : BAct} {b' : Bld} (he : b'.err = true) (hst : b'.st = b.st) : Acted b act b'
  | emitted {n : Bytes} {a : List Obj} {b' : Bld} (he : b.err = false)
      (hstep : applyOperator b.st n a = .ok b'.st)
      (hses : b'.done ++ b'.stream = b.done ++ b.stream ++ [(n, a)]) : Acted b (.emit n a) b'
  | adjusted {f : St → St} {b' : Bld} (he : b.err = false) (hst : b'.st = f b.st)
      (hses : b'.done ++ b'.stream = b.done ++ b.stream) : Acted b (.adjust f) b'
  | harvested {b' : Bld} (he : b.err = false) (hst : b'.st = b.st)
      (hses : b'.done ++ b'.stream = b.done ++ b.stream) : Acted b .harvest b'
  | reset (ct : Nat) (strict ver : Bool) : Acted b (.reset ct strict ver) (Bld.new ct strict ver)

theorem act_cases (verOK : Bytes → List Obj → Bool) (b : Bld) (act : BAct) : Acted b act (b.act verOK act) := by
  cases act with
  | reset ct strict ver => exact .reset ct strict ver
  | fail => exact .failed rfl rfl
  | emit n a =>
    simp only [Bld.act, Bld.emit]
    cases he : b.err with
    | true => exact .failed (by simp [he]) (by simp)
    | false =>
      cases hv : verOK n a with
      | false => exact .failed (by simp) (by simp)
      | true =>
        cases hstep : applyOperator b.st n a with
        | error e => exact .failed (by simp) (by simp)
        | ok st' => exact .emitted he (by simpa using hstep) (by simp)
  | adjust f =>
    simp only [Bld.act]
    cases he : b.err with
    | true => exact .failed (by simp [he]) (by simp)
    | false => exact .adjusted he (by simp) (by simp)
  | harvest =>
    simp only [Bld.act]
    cases he : b.err with
    | true => exact .failed (by simp [he]) (by simp)
    | false => exact .harvested he (by simp) (by simp)

theorem runActs_inv {P : Bld → Prop} (verOK : Bytes → List Obj → Bool) (acts : List BAct)
    (step : ∀ act ∈ acts, ∀ b, P b → P (b.act verOK act)) : ∀ b, P b → P (b.runActs verOK acts) := by
  induction acts with
  | nil => exact fun _ h => h
  | cons act rest ih =>
    intro b h
    exact ih (fun a ha => step a (List.mem_cons_of_mem _ ha)) _ (step act List.mem_cons_self b h)

/-- the invariant of the Builder for a notion `A` of "accepted from … and leading to …" (`Accepts`, or
plain `run` for programs without direct parameter updates): the session began with a `Version`
satisfying `V` -/
def BInv (A : St → List (Bytes × List Obj) → St → Prop) (V : Bool → Prop) (b : Bld) : Prop :=
  ∃ ct strict ver, V ver ∧ Inv b.st ∧ (b.err = false → A (initSt ct strict ver) (b.done ++ b.stream) b.st)

theorem binv_new {A : St → List (Bytes × List Obj) → St → Prop} {V : Bool → Prop} (hnil : ∀ s, A s [] s)
    (ct : Nat) (strict ver : Bool) (hv : V ver) : BInv A V (Bld.new ct strict ver) :=
  ⟨ct, strict, ver, hv, init_inv ct strict ver, fun _ => hnil _⟩

/-- what the invariant needs of `A`: the empty run, one more accepted operator at the end, and, for each
`adjust` action that occurs, that the update respects `AdjustOK` and may follow a run -/
theorem binv_act {A : St → List (Bytes × List Obj) → St → Prop} {V : Bool → Prop} (hnil : ∀ s, A s [] s)
    (hsnoc : ∀ {s s1 s2 ops n a}, A s ops s1 → applyOperator s1 n a = .ok s2 → A s (ops ++ [(n, a)]) s2)
    (verOK : Bytes → List Obj → Bool) (b : Bld) (act : BAct) (h : BInv A V b)
    (hact : ∀ f, act = .adjust f → ∀ s, AdjustOK s (f s) ∧ ∀ {s0 ops}, A s0 ops s → A s0 ops (f s))
    (hver : ∀ ct strict ver, act = .reset ct strict ver → V ver) : BInv A V (b.act verOK act) := by
  obtain ⟨ct, strict, ver, hv, hinv, hacc⟩ := h
  have hact' := act_cases verOK b act
  generalize b.act verOK act = b' at hact' ⊢
  cases hact' with
  | failed he hst => exact ⟨ct, strict, ver, hv, hst ▸ hinv, fun h => by rw [he] at h; cases h⟩
  | emitted he hstep hses =>
    exact ⟨ct, strict, ver, hv, step_inv _ _ _ _ hinv hstep, fun _ => hses ▸ hsnoc (hacc he) hstep⟩
  | adjusted he hst hses =>
    obtain ⟨ha, hadj⟩ := hact _ rfl b.st
    exact ⟨ct, strict, ver, hv, hst ▸ inv_adjust _ _ hinv ha, fun _ => hses ▸ hst ▸ hadj (hacc he)⟩
  | harvested he hst hses => exact ⟨ct, strict, ver, hv, hst ▸ hinv, fun _ => hses ▸ hst ▸ hacc he⟩
  | reset ct' strict' ver' => exact binv_new hnil ct' strict' ver' (hver _ _ _ rfl)

theorem binv_run {V : Bool → Prop} (verOK : Bytes → List Obj → Bool) (acts : List BAct) (hok : ActsOK acts)
    (hver : ∀ act ∈ acts, ∀ ct strict ver, act = .reset ct strict ver → V ver) :
    ∀ (b : Bld), BInv Accepts V b → BInv Accepts V (b.runActs verOK acts) :=
  runActs_inv verOK acts fun act ha b h =>
    binv_act .nil accepts_snoc verOK b act h
      (fun f hf s => ⟨hok act ha f hf s, fun h => accepts_adj_end h (hok act ha f hf s)⟩) (hver act ha)

/-- For every content type, version, version table and action sequence: if `Err` is nil at the end, the
operators of the current session — the harvested segments in order, then the current stream — are
accepted one by one by `State.ApplyOperator`, starting from a fresh state and ending in the
Builder's state, which satisfies the structural invariant. -/
theorem builder_accepts (verOK : Bytes → List Obj → Bool) (ct : Nat) (strict ver : Bool) (acts : List BAct) (hok : ActsOK acts) :
    let b := (Bld.new ct strict ver).runActs verOK acts
    Inv b.st ∧ (b.err = false → ∃ ct' strict' ver', Accepts (initSt ct' strict' ver') (b.done ++ b.stream) b.st) := by
  obtain ⟨ct', strict', ver', _, h1, h2⟩ :=
    binv_run (V := fun _ => True) verOK acts hok (fun _ _ _ _ _ _ => trivial) _ (binv_new .nil ct strict ver trivial)
  exact ⟨h1, fun he => ⟨ct', strict', ver', h2 he⟩⟩

def NoAdjust (acts : List BAct) : Prop := ∀ act ∈ acts, ∀ f, act ≠ .adjust f

theorem run_snoc (ops : List (Bytes × List Obj)) (s s1 s2 : St) (n : Bytes) (a : List Obj)
    (h : run s ops = .ok s1) (hstep : applyOperator s1 n a = .ok s2) : run s (ops ++ [(n, a)]) = .ok s2 := by
  rw [run_append ops _ s s1 h]
  simp [run, hstep]

/-- the invariant with plain `run` for `Accepts`: programs without direct parameter updates -/
theorem builder_run (verOK : Bytes → List Obj → Bool) (acts : List BAct) (hna : NoAdjust acts) :
    ∀ (b : Bld), BInv (fun s ops s' => run s ops = .ok s') (fun _ => True) b →
      BInv (fun s ops s' => run s ops = .ok s') (fun _ => True) (b.runActs verOK acts) :=
  runActs_inv verOK acts fun act ha b h =>
    binv_act (A := fun s ops s' => run s ops = .ok s') (fun _ => rfl) (fun h hstep => run_snoc _ _ _ _ _ _ h hstep)
      verOK b act h (fun f hf => absurd hf (hna act ha f)) (fun _ _ _ _ => trivial)

/-- Whatever an error-free Builder has emitted, the operators
returned by `State.ClosingOperators` for its state are accepted one after the other, leave no
paired operator open, and `CanClose` then succeeds (unless a Type 3 glyph procedure has not yet
seen `d0`/`d1`). -/
theorem builder_closing (verOK : Bytes → List Obj → Bool) (ct : Nat) (strict ver : Bool) (acts : List BAct) (hok : ActsOK acts) :
    let b := (Bld.new ct strict ver).runActs verOK acts
    ∃ s', run b.st ((closingOperators b.st).map fun c => (c, [])) = .ok s' ∧ s'.nesting = [] ∧
      closingOperators s' = [] ∧ (b.st.obj ≠ 16 → canClose s' = true) := by
  have hinv := (builder_accepts verOK ct strict ver acts hok).1
  intro b
  exact closers_run b.st hinv

/-- for programs without direct parameter updates `closing_balances` applies to the whole
session: the emitted operators followed by the closing operators are accepted from a fresh state
and balance -/
theorem builder_session_closes (verOK : Bytes → List Obj → Bool) (ct : Nat) (strict ver : Bool) (acts : List BAct)
    (hna : NoAdjust acts) :
    let b := (Bld.new ct strict ver).runActs verOK acts
    b.err = false → ∃ ct' strict' ver' s',
      run (initSt ct' strict' ver') (b.done ++ b.stream ++ (closingOperators b.st).map fun c => (c, [])) = .ok s' ∧
      s'.nesting = [] ∧ closingOperators s' = [] := by
  intro b he
  obtain ⟨ct', strict', ver', _, _, hrun⟩ := builder_run verOK acts hna _ (binv_new (fun _ => rfl) ct strict ver trivial)
  obtain ⟨s', h1, h2, h3, _⟩ := closing_balances _ _ _ (init_inv ct' strict' ver') (hrun he)
  exact ⟨ct', strict', ver', s', h1, h2, h3⟩

/-- `Close() == nil` means balanced as it stands: no paired operator is open, the state is
the page state, and `ClosingOperators` is empty. -/
theorem builder_close (b : Bld) (h : b.close = true) :
    b.err = false ∧ b.st.nesting = [] ∧ closingOperators b.st = [] := by
  simp only [Bld.close, Bool.and_eq_true, Bool.not_eq_true', canClose, List.isEmpty_iff, beq_iff_eq] at h
  obtain ⟨he, hn, ho⟩ := h
  refine ⟨he, hn, ?_⟩
  simp [closingOperators, hn, ho, Gen.content_ObjPage, Gen.content_ObjPath, Gen.content_ObjClippingPath]

theorem accepts_nested {s s' : St} {ops : List (Bytes × List Obj)} (h : Accepts s ops s') :
    s.ver = true → nested s.nesting ops = some s'.nesting ∧ s'.ver = true := by
  induction h with
  | nil s => intro hv; exact ⟨rfl, hv⟩
  | adj ha _ ih =>
    intro hv
    obtain ⟨_, a2, _, _, a5⟩ := ha
    have := ih (by rw [a5]; exact hv)
    rw [a2] at this
    exact this
  | step hstep _ ih =>
    intro hv
    obtain ⟨n1, n2⟩ := step_nested _ _ _ _ hv hstep
    obtain ⟨i1, i2⟩ := ih n2
    exact ⟨by simp only [nested, n1]; exact i1, i2⟩

/-- `Reset` keeps the Builder's version: every `reset` action of the program has `Version > 0` -/
def VerActs (acts : List BAct) : Prop := ∀ act ∈ acts, ∀ ct strict ver, act = .reset ct strict ver → ver = true

/-- For a Builder with `Version > 0` (every content type, version table and action sequence), as long
as `Err` is nil: the operators of the session
(`done ++ Stream`) are a properly nested sequence of `q…Q`, `BT…ET`, `BMC/BDC…EMC`, `BX…EX` pairs
(every closer finds its own opener on top of an ordinary stack); the open pairs are the nesting
stack of the Builder's state; and with the state's `ClosingOperators` appended nothing is open. -/
theorem builder_nested (verOK : Bytes → List Obj → Bool) (ct : Nat) (strict : Bool) (acts : List BAct)
    (hok : ActsOK acts) (hver : VerActs acts) :
    let b := (Bld.new ct strict true).runActs verOK acts
    b.err = false →
      nested [] (b.done ++ b.stream) = some b.st.nesting ∧
      nested [] (b.done ++ b.stream ++ (closingOperators b.st).map fun c => (c, [])) = some [] := by
  intro b he
  obtain ⟨ct', strict', ver', rfl, hinv, hacc⟩ :=
    binv_run (V := (· = true)) verOK acts hok hver _ (binv_new .nil ct strict true rfl)
  obtain ⟨h1, h2⟩ := accepts_nested (hacc he) (by simp [initSt])
  have h1' : nested [] (b.done ++ b.stream) = some b.st.nesting := by simpa [initSt] using h1
  refine ⟨h1', ?_⟩
  obtain ⟨s', hr, hn, _, _⟩ := closers_run b.st hinv
  have h3 := (ver_run_nested _ _ _ h2 hr).1
  rw [hn] at h3
  rw [nested_append _ _ _ _ h1']
  simpa using h3

/-- cross-nested pairs do not pass a Builder with `Version > 0`: `BT BMC ET EMC` stops at `ET` -/
example : ((Bld.runActs (fun _ _ => true) (Bld.new 0 false true)
    [.emit [66, 84] [], .emit [66, 77, 67] [.name [120]], .emit [69, 84] [], .emit [69, 77, 67] []]).err) = true := by
  decide +kernel

/-- `q`, `BT`, Harvest, `ET`: a concrete program with a Harvest point;
the session `q BT | ET` is accepted, `Close` fails (q open), and the closers are `Q` -/
def sampleProg : List BAct := [.emit [113] [], .emit [66, 84] [], .harvest, .emit [69, 84] []]

def sampleBld : Bld := Bld.runActs (fun _ _ => true) (Bld.new 0 true true) sampleProg

example : (sampleBld.err == false && sampleBld.done.length == 2 && sampleBld.stream.length == 1 &&
    sampleBld.close == false && closingOperators sampleBld.st == [[81]]) = true := by decide +kernel

end PdfVerif.C15cntv
