import PdfVerif.Props.C16trs
import PdfVerif.Props.C16trsb
/-!
# C16 — page-number callbacks report each page's final position

`NextPageNumber(cb)` registers a callback on a writer; the futureInt machinery of
`pagetree/future.go` (model: `Heap`, `updateFut`, `whenAvailable`, `incFut`) calls it with the
absolute 0-based number of the page appended next on that writer once all ranges before it are
closed, or with −1 if the writer is closed first.  The statements are about the program
(`nextOnPath`, `expectedLog`: which page a registration belongs to) and the final document of
`Spec/TRSDoc.lean` (`flatten doc`, the document of `page_tree_correct`: its position there).
-/
namespace PdfVerif.C16trsc
open PdfVerif PdfVerif.TRSP PdfVerif.C16trs

/-- `p` is a prefix of `q` (the writer at `p` is `q`'s writer or one of its ancestors) -/
def isPrefix : List Nat → List Nat → Bool
  | [], _ => true
  | _ :: _, [] => false
  | a :: as, b :: bs => a == b && isPrefix as bs

/-- the page appended next on the writer at `path`: the id of the first accepted AppendPage on
    that path, unless the writer or one of its ancestors is closed first (or the program ends) -/
def nextOnPath (path : List Nat) : List (POp × Outcome) → Option Nat
  | [] => none
  | (.append p id _, o) :: rest =>
    if o = .ok ∧ p = path then some id else nextOnPath path rest
  | (.close p, o) :: rest =>
    if o ≠ .closed ∧ isPrefix p path = true then none else nextOnPath path rest
  | _ :: rest => nextOnPath path rest

/-- the value a callback must get: the 0-based position of its page in the final document
    (`final` = the page ids of the final document in order), or −1 -/
def valOf (final : List Nat) : Option Nat → Int
  | none => -1
  | some id => (final.idxOf id : Nat)

/-- all callback invocations a program must produce: one per NextPageNumber, with the position
    of the page appended next on the same writer -/
def expectedLog (final : List Nat) : List (POp × Outcome) → List (Nat × Int)
  | [] => []
  | (.nextPageNumber path k, _) :: rest => (k, valOf final (nextOnPath path rest)) :: expectedLog final rest
  | (.append _ _ _, _) :: rest => expectedLog final rest
  | (.newRange _, _) :: rest => expectedLog final rest
  | (.close _, _) :: rest => expectedLog final rest

/-- ids of the pages the program adds (accepted AppendPage operations, in program order) -/
def appendedIds : List (POp × Outcome) → List Nat
  | [] => []
  | (.append _ id _, o) :: rest => if o = .ok then id :: appendedIds rest else appendedIds rest
  | (.newRange _, _) :: rest => appendedIds rest
  | (.close _, _) :: rest => appendedIds rest
  | (.nextPageNumber _ _, _) :: rest => appendedIds rest

def isNewRange : POp → Bool
  | .newRange _ => true
  | _ => false

/-- the heap of a program without ranges: one futureInt, index 0 -/
theorem whenAvailableAll_known (x : Fut) (hx : x.numMissing = 0) : ∀ (ks : List Nat) (log : List (Nat × Int)),
    whenAvailableAll 0 (ks.map FCb.user) { futs := [x], log := log } =
      .ok { futs := [x], log := log ++ ks.map fun k => (k, x.val) }
  | [], log => by simp [whenAvailableAll]
  | k :: ks, log => by
    simp only [List.map_cons, whenAvailableAll, whenAvailable, List.getElem?_cons_zero, hx, if_true, callCb]
    rw [whenAvailableAll_known x hx ks]
    simp

theorem callAll_users (n : Int) : ∀ (ks : List Nat) (h : Heap),
    callAll (ks.map FCb.user) n h = .ok { h with log := h.log ++ ks.map fun k => (k, n) }
  | [], h => by simp [callAll]
  | k :: ks, h => by
    simp only [List.map_cons, callAll, callCb]
    rw [callAll_users n ks]
    simp

/-- the root writer of a program that never called NewRange -/
def flatRoot (closed : Bool) (tail : List PNode) (pend : List Nat) : PW :=
  PW.mk false closed [] tail (some 0) (pend.map FCb.user) []

def idsOf (tail : List PNode) : List Nat := (pagesOf tail).map (·.1)

/-- state of such a program: `pend` are the callbacks waiting for the root's next page, `ids` the
    pages added so far; the only futureInt is known and holds their number.  The depth invariant of
    the tail is carried along so that the loops of `AppendPage` and `Close` can be computed
    (they are total under it, `Props/C16trsb.lean`) -/
structure FlatInv (s : PState) (closed : Bool) (pend ids : List Nat) : Prop where
  root : ∃ tail, s.root = flatRoot closed tail pend ∧ C16trsb.TailInv tail ∧ (closed = false → idsOf tail = ids)
  pendClosed : closed = true → pend = []
  heap : s.g.heap.futs = [{ val := (ids.length : Nat), numMissing := 0, cb := [] }]

theorem updateAt_flat_sub (f : PW → G → Except PErr (PW × G)) (i : Nat) (rest : List Nat) (closed : Bool)
    (tail : List PNode) (pend : List Nat) (g : G) :
    (flatRoot closed tail pend).updateAt f (i :: rest) g = .error .closed := by
  simp [flatRoot, PW.updateAt, subIndex]

/-- outcome and log of an operation on a writer that is closed or does not exist -/
def deadOut : POp → Outcome
  | .nextPageNumber _ _ => .ok
  | _ => .closed

def deadLog : POp → List (Nat × Int)
  | .nextPageNumber _ k => [(k, -1)]
  | _ => []

theorem rejected_eq (s : PState) (op : POp) :
    (rejected s op).2 = deadOut op ∧ (rejected s op).1.root = s.root ∧
      (rejected s op).1.g.heap.futs = s.g.heap.futs ∧
      (rejected s op).1.g.heap.log = s.g.heap.log ++ deadLog op := by
  exact ⟨by cases op <;> rfl, by cases op <;> rfl, by cases op <;> rfl, by cases op <;> simp [deadLog, logCb]⟩

/-- the step is `rejected s op` -/
theorem flat_dead {s s' : PState} {closed : Bool} {pend ids : List Nat} (hinv : FlatInv s closed pend ids)
    {op : POp} {o : Outcome} (hd : closed = true ∨ opPath op ≠ []) (hnr : isNewRange op = false)
    (h : step s op = .ok (s', o)) :
    FlatInv s' closed pend ids ∧ o = deadOut op ∧ s'.g.heap.log = s.g.heap.log ++ deadLog op := by
  obtain ⟨tail, hr, _⟩ := hinv.root
  have key : step s op = .ok (rejected s op) := by
    by_cases hp : opPath op = []
    · have hc : closed = true := hd.resolve_right (fun h => h hp)
      subst hc
      have := hinv.pendClosed rfl; subst this
      rcases opPath_eq_nil hp with ⟨id, a, rfl⟩ | rfl | rfl | ⟨k, rfl⟩
      · simp [step, hr, updateAt_nil, flatRoot, appendHere]
      · cases hnr
      · simp [step, closeRoot, hr, flatRoot, PW.close]
      · simp [step, hr, updateAt_nil, flatRoot, nextPageNumberHere_closed, logCb]
    · have hop : op ≠ .close [] := by rintro rfl; exact hp rfl
      obtain ⟨i, q, hiq⟩ := List.exists_cons_of_ne_nil hp
      rw [step_eq s op hop, hiq, hr, updateAt_flat_sub]
  rw [key] at h
  obtain ⟨e1, e2, e3, e4⟩ := rejected_eq s op
  have hs := (Except.ok.inj h).symm
  rw [show s' = (rejected s op).1 from congrArg Prod.fst hs, show o = (rejected s op).2 from congrArg Prod.snd hs]
  exact ⟨⟨by rw [e2]; exact hinv.root, hinv.pendClosed, by rw [e3]; exact hinv.heap⟩, e1, e4⟩

theorem nextOnPath_dead (path : List Nat) (op : POp) (rest : List (POp × Outcome)) :
    nextOnPath path ((op, deadOut op) :: rest) = nextOnPath path rest := by
  cases op <;> simp [nextOnPath, deadOut]

theorem appendedIds_dead (op : POp) (rest : List (POp × Outcome)) :
    appendedIds ((op, deadOut op) :: rest) = appendedIds rest := by
  cases op <;> simp [appendedIds, deadOut]

theorem expectedLog_dead (F : List Nat) (op : POp) (rest : List (POp × Outcome))
    (h : nextOnPath (opPath op) rest = none) :
    expectedLog F ((op, deadOut op) :: rest) = deadLog op ++ expectedLog F rest := by
  cases op <;> simp [expectedLog, deadLog] at h ⊢
  simp [h, valOf]

theorem step_npn_live {s s' : PState} {pend ids : List Nat} (hinv : FlatInv s false pend ids)
    {k : Nat} {o : Outcome} (h : step s (.nextPageNumber [] k) = .ok (s', o)) :
    FlatInv s' false (pend ++ [k]) ids ∧ s'.g.heap.log = s.g.heap.log := by
  obtain ⟨tail, hr, ht, hids⟩ := hinv.root
  simp [step, hr, updateAt_nil, flatRoot, nextPageNumberHere_open] at h
  obtain ⟨rfl, _⟩ := h
  exact ⟨⟨⟨tail, by simp [flatRoot], ht, hids⟩, by simp, hinv.heap⟩, rfl⟩

/-- the futureInt is known, so the pending callbacks are called at once and `Inc` counts in place;
    `appendLoop` and `checkInvariants` succeed under the depth invariant -/
theorem step_append_live {s s' : PState} {pend ids : List Nat} (hinv : FlatInv s false pend ids)
    {id : Nat} {a : Attrs} {o : Outcome} (h : step s (.append [] id a) = .ok (s', o)) :
    o = .ok ∧ FlatInv s' false [] (ids ++ [id]) ∧
      s'.g.heap.log = s.g.heap.log ++ pend.map fun k => (k, ((ids.length : Nat) : Int)) := by
  obtain ⟨tail, hr, ht, hids⟩ := hinv.root
  have hheap : s.g.heap = { futs := [{ val := (ids.length : Nat), numMissing := 0, cb := [] }], log := s.g.heap.log } := by
    rw [← hinv.heap]
  obtain ⟨tail2, c2, hl, hinv2, hd2⟩ := C16trsb.append_tail_ok ht
    { tree := .page id none a, count := 1, depth := 0 } rfl s.g.ctx
  have sm := appendLoop_same hl
  simp only [step, hr, updateAt_nil, flatRoot, appendHere, Bool.false_eq_true, if_false] at h
  rw [hheap, whenAvailableAll_known _ rfl] at h
  simp only [incFut, List.getElem?_cons_zero, List.isEmpty_nil, if_true, List.set_cons_zero, hl,
    PW.invOK, invOKList, hd2, Bool.and_self] at h
  cases h
  refine ⟨rfl, ⟨⟨tail2, rfl, hinv2, fun _ => ?_⟩, by simp, by simp⟩, rfl⟩
  simp only [idsOf, sm.pages, pagesOf_append, pagesOf_nil, pagesOf_cons, effPages_page, List.map_append]
  have := hids rfl
  simp only [idsOf] at this
  rw [this]; simp

/-- no children: `merge [] tail` is `tail`; the pending callbacks get −1; then `collapse` -/
theorem step_close_live {s s' : PState} {pend ids : List Nat} (hinv : FlatInv s false pend ids)
    {o : Outcome} (h : step s (.close []) = .ok (s', o)) :
    o ≠ .closed ∧ FlatInv s' true [] ids ∧
      s'.g.heap.log = s.g.heap.log ++ pend.map fun k => (k, (-1 : Int)) := by
  obtain ⟨tail, hr, ht, _⟩ := hinv.root
  obtain ⟨t, c', hcol, _⟩ := C16trsb.collapse_ok ht s.g.ctx
  have hm : ∀ c, merge [] tail c = .ok (tail, c) := fun c => by cases tail <;> rfl
  simp only [step, closeRoot, hr, flatRoot, PW.close, Bool.false_eq_true, if_false, closeChildren, hm,
    C16trsb.depthsOK_of_tailInv ht, Bool.not_true, callAll, callAll_users, PW.tail, hcol] at h
  cases t with
  | nil =>
    simp only at h
    cases h
    exact ⟨nofun, ⟨⟨[], rfl, C16trsb.tailInv_nil, by simp⟩, by simp, hinv.heap⟩, rfl⟩
  | cons x xs =>
    simp only at h
    cases h
    exact ⟨nofun, ⟨⟨[], rfl, C16trsb.tailInv_nil, by simp⟩, by simp, hinv.heap⟩, rfl⟩

def NoNewRange (ops : List POp) : Prop := ∀ op ∈ ops, isNewRange op = false

/-- one induction for three facts, because the third needs the second for a registration on a dead
    path; what is still pending at the end counts as −1, so no "root closed" hypothesis is needed -/
theorem flat_run : ∀ (rest : List POp) (s s_end : PState) (closed : Bool) (pend ids : List Nat)
    (outs : List Outcome), FlatInv s closed pend ids → NoNewRange rest → run s rest = .ok (s_end, outs) →
    ∃ c' p', FlatInv s_end c' p' (ids ++ appendedIds (rest.zip outs)) ∧
      (∀ path, closed = true ∨ path ≠ [] → nextOnPath path (rest.zip outs) = none) ∧
      (∀ F, F = ids ++ appendedIds (rest.zip outs) → F.Nodup →
        List.Perm (s_end.g.heap.log ++ p'.map fun k => (k, (-1 : Int)))
          (s.g.heap.log ++ (pend.map fun k => (k, valOf F (nextOnPath [] (rest.zip outs)))) ++
            expectedLog F (rest.zip outs)))
  | [], s, s_end, closed, pend, ids, outs, hinv, _, hrun => by
    simp only [run] at hrun
    cases hrun
    exact ⟨closed, pend, by simpa [appendedIds] using hinv, fun _ _ => rfl, fun F _ _ => by
      simp [nextOnPath, expectedLog, valOf]⟩
  | op :: rest, s, s_end, closed, pend, ids, outs, hinv, hnr, hrun => by
    obtain ⟨s1, o, os, hs, hr, rfl⟩ := run_cons hrun
    have hnr' : NoNewRange rest := fun x hx => hnr x (by simp [hx])
    have hop := hnr op (by simp)
    simp only [List.zip_cons_cons]
    by_cases hd : closed = true ∨ opPath op ≠ []
    · obtain ⟨hinv1, rfl, hlog⟩ := flat_dead hinv hd hop hs
      obtain ⟨c', p', i1, i2, i3⟩ := flat_run rest s1 s_end closed pend ids os hinv1 hnr' hr
      simp only [nextOnPath_dead, appendedIds_dead]
      refine ⟨c', p', i1, i2, fun F hF hnd => ?_⟩
      -- a registration on a dead path is answered −1: nothing will be appended there
      rw [expectedLog_dead F op _ (hd.elim (fun hc => i2 _ (.inl hc)) (fun hp => i2 _ (.inr hp)))]
      refine (i3 F hF hnd).trans ?_
      rw [hlog]
      simp only [List.append_assoc]
      exact List.Perm.append_left _ (List.perm_append_comm_assoc _ _ _)
    · have hc : closed = false := by cases closed <;> simp_all
      have hp : opPath op = [] := Classical.byContradiction fun h => hd (.inr h)
      subst hc
      rcases opPath_eq_nil hp with ⟨id, a, rfl⟩ | rfl | rfl | ⟨k, rfl⟩
      · -- AppendPage on the open root
        obtain ⟨rfl, hinv1, hlog⟩ := step_append_live hinv hs
        obtain ⟨c', p', i1, i2, i3⟩ := flat_run rest s1 s_end false [] (ids ++ [id]) os hinv1 hnr' hr
        refine ⟨c', p', by simpa [appendedIds] using i1, fun path hpath => ?_, fun F hF hnd => ?_⟩
        · have hp' : ¬ ([] = path) := fun h => (hpath.resolve_left (by simp)) h.symm
          simp only [nextOnPath, hp', and_false, if_false]
          exact i2 path (.inr (hpath.resolve_left (by simp)))
        · have hF' : F = (ids ++ [id]) ++ appendedIds (rest.zip os) := by simpa [appendedIds] using hF
          -- the page is the `ids.length`-th of the final document
          have hidx : F.idxOf id = ids.length := by
            rw [hF'] at hnd ⊢
            simp only [List.append_assoc, List.singleton_append] at hnd ⊢
            rw [List.idxOf_append, if_neg fun hmem => (List.nodup_append.mp hnd).2.2 id hmem id (by simp) rfl,
              List.idxOf_cons_self, Nat.zero_add]
          have ih := i3 F hF' hnd
          simp only [nextOnPath, and_self, if_true, valOf, hidx, expectedLog]
          rw [hlog] at ih
          simpa using ih
      · cases hop
      · -- Close of the open root
        obtain ⟨e1, hinv1, hlog⟩ := step_close_live hinv hs
        obtain ⟨c', p', i1, i2, i3⟩ := flat_run rest s1 s_end true [] ids os hinv1 hnr' hr
        refine ⟨c', p', i1, fun path _ => by simp [nextOnPath, isPrefix, e1], fun F hF hnd => ?_⟩
        have ih := i3 F hF hnd
        rw [hlog] at ih
        simpa [nextOnPath, isPrefix, e1, valOf, expectedLog] using ih
      · -- NextPageNumber on the open root
        obtain ⟨hinv1, hlog⟩ := step_npn_live hinv hs
        obtain ⟨c', p', i1, i2, i3⟩ := flat_run rest s1 s_end false (pend ++ [k]) ids os hinv1 hnr' hr
        refine ⟨c', p', i1, fun path hpath => by simpa [nextOnPath] using i2 path hpath, fun F hF hnd => ?_⟩
        have ih := i3 F hF hnd
        rw [hlog] at ih
        simpa [nextOnPath, expectedLog] using ih

theorem flat_init (old : Bool) (hints : List Hint) : FlatInv (PState.init old hints) false [] [] :=
  ⟨⟨[], by simp [PState.init, flatRoot], C16trsb.tailInv_nil, by simp [idsOf, pagesOf_nil]⟩, by simp, by simp [PState.init]⟩

/-- a registration still waiting when the program ends is expected to get −1 either way -/
theorem nextOnPath_close_end (path : List Nat) : ∀ l : List (POp × Outcome),
    nextOnPath path (l ++ [(POp.close [], Outcome.ok)]) = nextOnPath path l
  | [] => by simp [nextOnPath, isPrefix]
  | (op, o) :: l => by
    cases op <;> simp only [List.cons_append, nextOnPath, nextOnPath_close_end path l]

theorem expectedLog_close_end (F : List Nat) : ∀ l : List (POp × Outcome),
    expectedLog F (l ++ [(POp.close [], Outcome.ok)]) = expectedLog F l
  | [] => by simp [expectedLog]
  | (op, o) :: l => by
    cases op <;> simp only [List.cons_append, expectedLog, expectedLog_close_end F l, nextOnPath_close_end]

/-- **page-number callbacks, programs without nested ranges** (`_partial`: NewRange excluded).
    For every program of AppendPage/AppendPageDict, Close and NextPageNumber operations (on the
    root or on non-existent writers, accepted or rejected) whose root `Close` then succeeds: the
    log of callback invocations is a permutation of `expectedLog` — every callback registered
    through NextPageNumber is called exactly once, with the 0-based position in the final
    document (`flatten doc`, the document of `page_tree_correct`) of the page appended next on
    its writer, or with −1 if the writer is closed before another page is added — and all
    invocations have happened when the root's `Close` returns. -/
theorem page_numbers_flat_partial (old : Bool) (hints : List Hint) (ops : List POp) (s s' : PState)
    (outs : List Outcome) (hflat : NoNewRange ops)
    (hrun : run (PState.init old hints) ops = .ok (s, outs)) (hopen : s.result = none)
    (hclose : step s (.close []) = .ok (s', .ok))
    (hnd : (appendedIds (ops.zip outs)).Nodup) :
    ∃ doc, specRun (ops.zip outs) [] = some doc ∧
      List.Perm s'.g.heap.log
        (expectedLog ((Spec.TRSDoc.flatten doc).map (·.1))
          ((ops ++ [POp.close []]).zip (outs ++ [Outcome.ok]))) := by
  obtain ⟨hok0, habs0⟩ := init_ok old hints
  obtain ⟨r1, _, _⟩ := run_sim ops _ s outs hok0 hrun hopen
  rw [habs0] at r1
  refine ⟨absW s.root, r1, ?_⟩
  obtain ⟨c, p, hinvs, _, hperm⟩ := flat_run ops _ s false [] [] outs (flat_init old hints) hflat hrun
  simp only [List.nil_append] at hinvs hperm
  -- the root is still open: its `Close` was not refused
  have hcopen : c = false := by
    cases c with
    | false => rfl
    | true => have := (flat_dead hinvs (.inl rfl) rfl hclose).2.1; cases this
  subst hcopen
  obtain ⟨_, _, hlog⟩ := step_close_live hinvs hclose
  obtain ⟨tail, hroot, _, hids⟩ := hinvs.root
  have hfl : (Spec.TRSDoc.flatten (absW s.root)).map (·.1) = appendedIds (ops.zip outs) := by
    rw [hroot]
    simp only [flatRoot, absW_mk, absChildren_nil, List.nil_append, flatten_pages]
    exact hids rfl
  rw [hfl, List.zip_append (by rw [run_length ops _ s outs hrun]), hlog]
  simp only [List.zip_cons_cons, List.zip_nil_right, expectedLog_close_end]
  simpa [PState.init] using hperm _ rfl hnd

/-- `path` names a range of the document (the root for the empty path) -/
def resolves (path : List Nat) (d : List (Spec.TRSDoc.Item (Nat × Attrs))) : Bool :=
  (Spec.TRSDoc.updateAt (fun r => some r) path d).isSome

/-- every NextPageNumber of the program is called on a writer that exists at that moment
    (a Go program cannot do otherwise: it has no handle of a range before `NewRange` returned
    it) -/
def WellAddressed : List (POp × Outcome) → List (Spec.TRSDoc.Item (Nat × Attrs)) → Prop
  | [], _ => True
  | (op, o) :: rest, d =>
    (match op with
      | .nextPageNumber p _ => resolves p d = true
      | _ => True) ∧
    (if o = .closed then WellAddressed rest d
     else match specStep op d with
      | none => False
      | some d' => WellAddressed rest d')

/-- **The full statement of the page-number clause of C16** (any interleaving on nested
    writers).  `page_numbers_flat_partial` proves it for programs without NewRange; what is proved
    towards the general case (heap: `Props/C16trsd.lean`, `C16trsf.lean`; writers: `C16trsg.lean`)
    and what is missing is said once, at the end of `Props/C16trsg.lean`.  The
    harness oracle (`callback` key) evaluates exactly this statement on the implementation for
    every generated program, and the model's callback log is compared with the implementation's
    in value and firing order. -/
def PageNumbersStatement : Prop :=
  ∀ (old : Bool) (hints : List Hint) (ops : List POp) (s s' : PState) (outs : List Outcome),
    run (PState.init old hints) ops = .ok (s, outs) → s.result = none →
    step s (.close []) = .ok (s', .ok) →
    (appendedIds (ops.zip outs)).Nodup → WellAddressed (ops.zip outs) [] →
    ∃ doc, specRun (ops.zip outs) [] = some doc ∧
      List.Perm s'.g.heap.log
        (expectedLog ((Spec.TRSDoc.flatten doc).map (·.1))
          ((ops ++ [POp.close []]).zip (outs ++ [Outcome.ok])))

-- non-vacuity of `page_numbers_flat_partial`: callbacks before the first page, between pages,
-- after the last page (it gets −1 at the root's Close) and on a writer that does not exist
def exFlat : List POp :=
  [.nextPageNumber [] 0, .append [] 10 {}, .append [] 11 {}, .nextPageNumber [] 1, .nextPageNumber [] 2,
   .nextPageNumber [3] 5, .append [] 12 {}, .nextPageNumber [] 3]

example : (match run (PState.init false []) exFlat with
    | .ok (s, outs) =>
      s.result.isNone && (appendedIds (exFlat.zip outs) == [10, 11, 12]) &&
      (match step s (.close []) with
        | .ok (s', .ok) => s'.g.heap.log == [(0, 0), (5, -1), (1, 2), (2, 2), (3, -1)]
        | _ => false)
    | _ => false) = true := by decide +kernel

end PdfVerif.C16trsc
