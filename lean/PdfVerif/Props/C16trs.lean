import PdfVerif.Lemmas.TRSStep
import PdfVerif.Spec.TRSDoc
/-!
# C16 — page tree keeps page order, counts and effective attributes: property theorems

Statements are about `Model/TRSPageTree.lean` (pagetree/{writer,subtree,future}.go) and the
specification of nested ranges in `Spec/TRSDoc.lean`.  `maxDegree` comes from `Generated/FactsTRS.lean`.
-/
namespace PdfVerif.C16trs
open PdfVerif PdfVerif.TRSP

/-- own value, else the inherited one -/
def orE {α : Type} : Option α → Option α → Option α
  | some x, _ => some x
  | none, y => y

theorem orE_some_left {α : Type} (x : α) (y : Option α) : orE (some x) y = some x := rfl
theorem orE_none_left {α : Type} (y : Option α) : orE none y = y := rfl
theorem orE_none {α : Type} (x : Option α) : orE x none = x := by cases x <;> rfl

/-- the inheritable attributes in force below a node with attributes `own` that itself
    inherits `inh` (read.go: `inherited[name] = node[name]` where present) -/
def resolve (own inh : Attrs) : Attrs :=
  { mediaBox := orE own.mediaBox inh.mediaBox, cropBox := orE own.cropBox inh.cropBox,
    rotate := orE own.rotate inh.rotate, aa := orE own.aa inh.aa }

/-- value of an optional /Rotate: absent means 0 -/
def rotVal (r : Option Bytes) : Bytes :=
  match r with
  | some x => x
  | none => rotDefault

theorem rotVal_some (x : Bytes) : rotVal (some x) = x := rfl
theorem rotVal_none : rotVal none = rotDefault := rfl

/-- a page's effective attributes: a missing /Rotate is the default 0 -/
def normA (a : Attrs) : Attrs := { a with rotate := some (rotVal a.rotate) }

mutual
/-- the pages below a node in order, each with its effective attributes, when the node
    inherits `inh` from above -/
def effPages (inh : Attrs) : PTree → List (Nat × Attrs)
  | .page id _ a => [(id, normA (resolve a inh))]
  | .pages _ _ kids _ a => effList (resolve a inh) kids
def effList (inh : Attrs) : List PTree → List (Nat × Attrs)
  | [] => []
  | k :: ks => effPages inh k ++ effList inh ks
end

theorem effPages_page (inh : Attrs) (id : Nat) (p : Option Nat) (a : Attrs) :
    effPages inh (.page id p a) = [(id, normA (resolve a inh))] := by simp only [effPages]
theorem effPages_pages (inh : Attrs) (id : Nat) (p : Option Nat) (kids : List PTree) (n : Nat) (a : Attrs) :
    effPages inh (.pages id p kids n a) = effList (resolve a inh) kids := by simp only [effPages]
theorem effList_nil (inh : Attrs) : effList inh [] = [] := by simp only [effList]
theorem effList_cons (inh : Attrs) (k : PTree) (ks : List PTree) :
    effList inh (k :: ks) = effPages inh k ++ effList inh ks := by simp only [effList]

/-- two attribute sets a reader cannot tell apart: equal up to "/Rotate absent = 0" -/
def AEq (x y : Attrs) : Prop :=
  x.mediaBox = y.mediaBox ∧ x.cropBox = y.cropBox ∧ x.aa = y.aa ∧ rotVal x.rotate = rotVal y.rotate

theorem AEq.refl (x : Attrs) : AEq x x := ⟨rfl, rfl, rfl, rfl⟩

theorem rotVal_orE (a x y : Option Bytes) (h : rotVal x = rotVal y) : rotVal (orE a x) = rotVal (orE a y) := by
  cases a <;> simp [orE_some_left, orE_none_left, h]

theorem AEq.resolve (a : Attrs) {x y : Attrs} (h : AEq x y) : AEq (resolve a x) (resolve a y) := by
  obtain ⟨h1, h2, h3, h4⟩ := h
  exact ⟨by simp [C16trs.resolve, h1], by simp [C16trs.resolve, h2], by simp [C16trs.resolve, h3],
    rotVal_orE _ _ _ h4⟩

theorem normA_congr {x y : Attrs} (h : AEq x y) : normA x = normA y := by
  obtain ⟨h1, h2, h3, h4⟩ := h
  cases x; cases y
  simp [normA] at *
  simp [h1, h2, h3, h4]

mutual
theorem effPages_congr : ∀ (t : PTree) {x y : Attrs}, AEq x y → effPages x t = effPages y t
  | .page id _ a, x, y, h => by simp [effPages_page, normA_congr (h.resolve a)]
  | .pages _ _ kids _ a, x, y, h => by
    simp only [effPages_pages]; exact effList_congr kids (h.resolve a)
theorem effList_congr : ∀ (ks : List PTree) {x y : Attrs}, AEq x y → effList x ks = effList y ks
  | [], _, _, _ => rfl
  | k :: ks, x, y, h => by
    simp only [effList_cons]; rw [effPages_congr k h, effList_congr ks h]
end

theorem effPages_setTop (p : Nat) {a inh inh' : Attrs} (t : PTree)
    (h : AEq (resolve a inh) (resolve t.attrs inh')) :
    effPages inh (t.setTop p a) = effPages inh' t := by
  cases t with
  | page id q b => simp only [PTree.setTop, effPages_page, normA_congr h, PTree.attrs]
  | pages id q kids n b => simp only [PTree.setTop, effPages_pages]; exact effList_congr kids h

theorem resolve_empty (a : Attrs) : resolve a {} = a := by
  cases a with
  | mk m c r aa => simp [resolve, orE_none]

theorem allSomeB_some {vals : List (Option Bytes)} {reprs : List Bytes} (h : allSomeB vals = some reprs) :
    ∀ v ∈ vals, ∃ x, v = some x := by
  induction vals generalizing reprs with
  | nil => simp
  | cons v rest ih =>
    cases v with
    | none => simp [allSomeB] at h
    | some x =>
      simp only [allSomeB] at h
      cases hr : allSomeB rest with
      | none => simp [hr] at h
      | some xs =>
        intro w hw
        simp at hw
        rcases hw with rfl | hw
        · exact ⟨x, rfl⟩
        · exact ih hr w hw

theorem inheritKeyChoice_some {l : Nat} {hint : Option Bytes} {vals : List (Option Bytes)} {b : Bytes}
    (h : inheritKeyChoice l hint vals = some b) : ∀ v ∈ vals, ∃ x, v = some x := by
  unfold inheritKeyChoice at h
  cases hs : allSomeB vals with
  | none => simp [hs] at h
  | some reprs => exact allSomeB_some hs

theorem inheritKey_effective (l : Nat) (hint : Option Bytes) (vals : List (Option Bytes)) :
    ∀ v ∈ vals, orE (childAfterKey (inheritKeyChoice l hint vals) v) (inheritKeyChoice l hint vals) = v := by
  intro v hv
  cases hc : inheritKeyChoice l hint vals with
  | none => cases v <;> simp [childAfterKey, orE_some_left, orE_none_left]
  | some b =>
    obtain ⟨x, rfl⟩ := inheritKeyChoice_some hc v hv
    by_cases hx : x = b
    · simp [childAfterKey, orE_none_left, hx]
    · simp [childAfterKey, orE_some_left, hx]

theorem inheritRotate_effective (best : Bytes) (numDefault : Nat) (v : Option Bytes) :
    rotVal (orE (childAfterRotate best v) (parentRotate best numDefault)) = rotVal v := by
  by_cases hb : best = rotDefault
  · subst hb
    cases v with
    | none => simp [childAfterRotate, parentRotate, orE_none_left]; split <;> simp [rotVal_some, rotVal_none]
    | some r =>
      by_cases hr : r = rotDefault
      · subst hr; simp [childAfterRotate, parentRotate, orE_none_left]; split <;> simp [rotVal_some, rotVal_none]
      · simp [childAfterRotate, hr, orE_some_left, rotVal_some]
  · have hb' : (best == rotDefault) = false := by simpa using hb
    cases v with
    | none =>
      simp only [childAfterRotate, parentRotate, hb', rotRepr]
      have : (rotDefault == best) = false := by simp; exact fun h => hb h.symm
      simp [this, orE_some_left, rotVal_some, rotVal_none]
    | some r =>
      simp only [childAfterRotate, parentRotate, hb', rotRepr]
      by_cases h1 : r = best
      · subst h1; simp [orE_none_left, rotVal_some]
      · by_cases h2 : r = rotDefault
        · subst h2; simp [h1, orE_some_left, rotVal_some]
        · simp [h1, h2, orE_some_left, rotVal_some]

/-- **hoisting is invisible**: for every child, the attributes in force at the child after
    `inherit` (its own, else the new parent's) equal those it had, up to "/Rotate absent = 0";
    this holds for every choice the map iteration may make (`hint`) -/
theorem inherit_effective (old : Bool) (hint : Hint) (kids : List Attrs) :
    ∀ a ∈ kids, AEq (resolve (childAttrs (inheritChoice old hint kids) a)
      (parentAttrs (inheritChoice old hint kids))) a := by
  intro a ha
  refine ⟨?_, ?_, ?_, ?_⟩
  · exact inheritKey_effective lMediaBox hint.mediaBox (kids.map (·.mediaBox)) a.mediaBox
      (List.mem_map_of_mem ha)
  · exact inheritKey_effective lCropBox hint.cropBox (kids.map (·.cropBox)) a.cropBox
      (List.mem_map_of_mem ha)
  · simp only [resolve, childAttrs, parentAttrs, inheritChoice]
    cases old with
    | false => cases a.aa <;> simp [childAfterKey, orE_some_left, orE_none_left]
    | true => exact inheritKey_effective lAA hint.aa (kids.map (·.aa)) a.aa (List.mem_map_of_mem ha)
  · exact inheritRotate_effective _ _ a.rotate

def PTree.parent : PTree → Option Nat
  | .page _ p _ => p
  | .pages _ p _ _ _ => p

mutual
/-- number of leaf pages below a node -/
def numLeaves : PTree → Nat
  | .page _ _ _ => 1
  | .pages _ _ kids _ _ => numLeavesList kids
def numLeavesList : List PTree → Nat
  | [] => 0
  | k :: ks => numLeaves k + numLeavesList ks
end

mutual
/-- every `/Pages` node below (and including) this one has between 1 and `maxDegree` kids,
    a `/Count` equal to the number of leaf pages below it, and is the `/Parent` of its kids -/
def TreeOK : PTree → Prop
  | .page _ _ _ => True
  | .pages id _ kids count _ =>
    1 ≤ kids.length ∧ kids.length ≤ maxDegree ∧ count = numLeavesList kids ∧ KidsOK (some id) kids
def KidsOK (parent : Option Nat) : List PTree → Prop
  | [] => True
  | k :: ks => PTree.parent k = parent ∧ TreeOK k ∧ KidsOK parent ks
end

mutual
theorem effPages_length (inh : Attrs) : ∀ t : PTree, (effPages inh t).length = numLeaves t
  | .page _ _ _ => by simp [effPages_page, numLeaves]
  | .pages _ _ kids _ a => by simp only [effPages_pages, numLeaves]; exact effList_length _ kids
theorem effList_length (inh : Attrs) : ∀ ks : List PTree, (effList inh ks).length = numLeavesList ks
  | [] => by simp [effList_nil, numLeavesList]
  | k :: ks => by
    simp only [effList_cons, numLeavesList, List.length_append]
    rw [effPages_length inh k, effList_length inh ks]
end

/-- a node of a writer's `tail` -/
structure NodeOK (n : PNode) : Prop where
  tree : TreeOK n.tree
  count : n.count = numLeaves n.tree
  top : PTree.parent n.tree = none      -- not yet the kid of anything

/-- the pages held by a list of nodes, in order, with their effective attributes -/
def pagesOf : List PNode → List (Nat × Attrs)
  | [] => []
  | n :: ns => effPages {} n.tree ++ pagesOf ns

theorem pagesOf_nil : pagesOf [] = [] := rfl
theorem pagesOf_cons (n : PNode) (ns : List PNode) : pagesOf (n :: ns) = effPages {} n.tree ++ pagesOf ns := rfl

theorem pagesOf_append (a b : List PNode) : pagesOf (a ++ b) = pagesOf a ++ pagesOf b := by
  induction a with
  | nil => simp [pagesOf_nil]
  | cons x xs ih => simp [pagesOf_cons, ih]

theorem treeOK_setTop (p : Nat) (a : Attrs) (t : PTree) (h : TreeOK t) : TreeOK (t.setTop p a) := by
  cases t with
  | page => simp [PTree.setTop, TreeOK]
  | pages id q kids n b => simpa [PTree.setTop, TreeOK] using h

theorem parent_setTop (p : Nat) (a : Attrs) (t : PTree) : PTree.parent (t.setTop p a) = some p := by
  cases t <;> simp [PTree.setTop, PTree.parent]

theorem numLeaves_setTop (p : Nat) (a : Attrs) (t : PTree) : numLeaves (t.setTop p a) = numLeaves t := by
  cases t <;> simp [PTree.setTop, numLeaves]

theorem effList_kids (ch : Choice) (pa : Attrs) (p : Nat) :
    ∀ (cs : List PNode), (∀ n ∈ cs, AEq (resolve (childAttrs ch n.tree.attrs) pa) n.tree.attrs) →
      effList pa (cs.map fun n => n.tree.setTop p (childAttrs ch n.tree.attrs)) = pagesOf cs
  | [], _ => by simp [effList_nil, pagesOf_nil]
  | n :: cs, h => by
    simp only [List.map_cons, effList_cons, pagesOf_cons]
    rw [effList_kids ch pa p cs (fun m hm => h m (by simp [hm])),
      effPages_setTop p n.tree (by rw [resolve_empty]; exact h n (by simp))]

theorem kids_map (ch : Choice) (p : Nat) : ∀ (cs : List PNode), (∀ n ∈ cs, NodeOK n) →
    KidsOK (some p) (cs.map fun n => n.tree.setTop p (childAttrs ch n.tree.attrs)) ∧
      numLeavesList (cs.map fun n => n.tree.setTop p (childAttrs ch n.tree.attrs)) = sumCounts cs
  | [], _ => by simp [KidsOK, numLeavesList, sumCounts]
  | n :: cs, h => by
    obtain ⟨ih1, ih2⟩ := kids_map ch p cs (fun m hm => h m (by simp [hm]))
    simp only [List.map_cons, KidsOK, numLeavesList, sumCounts, numLeaves_setTop, ih2, (h n (by simp)).count]
    exact ⟨⟨parent_setTop _ _ _, treeOK_setTop _ _ _ (h n (by simp)).tree, ih1⟩, trivial⟩

/-! ## the loops only ever call `mergeNodes` -/

/-- not symmetric (`ok` is an implication); `old` is there for the last conjunct of `closeChildren_spec`
    alone, which nothing reads in turn -/
structure Same (s s' : List PNode × MCtx) : Prop where
  pages : pagesOf s'.1 = pagesOf s.1
  ok : (∀ n ∈ s.1, NodeOK n) → ∀ n ∈ s'.1, NodeOK n
  old : s'.2.old = s.2.old

theorem Same.refl (s : List PNode × MCtx) : Same s s := ⟨rfl, fun h => h, rfl⟩
theorem Same.trans {a b c : List PNode × MCtx} (h1 : Same a b) (h2 : Same b c) : Same a c :=
  ⟨h2.pages.trans h1.pages, fun h => h2.ok (h1.ok h), h2.old.trans h1.old⟩

theorem Same.ok_append {a b : List PNode} {c : MCtx} {r : List PNode × MCtx} (h : Same (a ++ b, c) r)
    (ha : ∀ n ∈ a, NodeOK n) (hb : ∀ n ∈ b, NodeOK n) : ∀ n ∈ r.1, NodeOK n :=
  h.ok fun n hn => (List.mem_append.mp hn).elim (ha n) (hb n)

theorem Same.append_right {a : List PNode} {c : MCtx} {r : List PNode × MCtx} (b : List PNode)
    (h : Same (a, c) r) : Same (a ++ b, c) (r.1 ++ b, r.2) :=
  ⟨by simp [pagesOf_append, h.pages], fun hok n hn => by
    simp only [List.mem_append] at hn
    rcases hn with hn | hn
    · exact h.ok (fun m hm => hok m (by simp [hm])) n hn
    · exact hok n (by simp [hn]), h.old⟩

/-- **mergeNodes**: when it does not panic, the new `/Pages` node shows the same pages with the same
    effective attributes in the same order, and its `/Count`, fan-out and `/Parent` links are right -/
theorem mergeNodes_same {nodes : List PNode} {a b : Nat} {c : MCtx} {r : List PNode × MCtx}
    (h : mergeNodes nodes a b c = .ok r) : Same (nodes, c) r := by
  unfold mergeNodes at h
  by_cases hr : b > nodes.length ∨ b < a + 2 ∨ b > a + maxDegree
  · simp [hr] at h
  · simp only [hr, if_false] at h
    generalize hch : (nodes.drop a).take (b - a) = children at h
    have hsplit : nodes = nodes.take a ++ (children ++ nodes.drop b) := by
      have e1 : nodes.drop b = (nodes.drop a).drop (b - a) := by
        rw [List.drop_drop]; congr 1; omega
      rw [← hch, e1, List.take_append_drop, List.take_append_drop]
    have hlen : children.length = b - a := by
      rw [← hch, List.length_take, List.length_drop]; omega
    cases h
    generalize hchoice : inheritChoice c.old (nextHint c.hints) (children.map (·.tree.attrs)) = ch
    have heff : ∀ n ∈ children, AEq (resolve (childAttrs ch n.tree.attrs) (parentAttrs ch)) n.tree.attrs := by
      intro n hn
      rw [← hchoice]
      exact inherit_effective _ _ _ n.tree.attrs (List.mem_map_of_mem hn)
    refine ⟨?_, ?_, rfl⟩
    · conv => rhs; rw [hsplit]
      simp only [pagesOf_append, pagesOf_cons]
      congr 1
      congr 1
      simp only [effPages_pages, resolve_empty]
      exact effList_kids ch (parentAttrs ch) c.alloc children heff
    · intro hok n hn
      have hchok : ∀ n ∈ children, NodeOK n := by
        intro m hm; apply hok; rw [hsplit]; simp [hm]
      simp only [List.mem_append, List.mem_cons] at hn
      rcases hn with hn | rfl | hn
      · exact hok n (List.mem_of_mem_take hn)
      · refine ⟨?_, ?_, rfl⟩
        · simp only [TreeOK, List.length_map]
          exact ⟨by omega, by omega, (kids_map ch c.alloc children hchok).2.symm,
            (kids_map ch c.alloc children hchok).1⟩
        · simp only [numLeaves]
          exact (kids_map ch c.alloc children hchok).2.symm
      · exact hok n (List.mem_of_mem_drop hn)

theorem appendLoop_same {fuel : Nat} {t : List PNode} {c : MCtx} {r : List PNode × MCtx}
    (h : appendLoop fuel t c = .ok r) : Same (t, c) r := by
  -- the loop's own induction principle: `unfold; split at h` is slow here and hides which exit a goal is
  fun_induction appendLoop fuel t c <;> try cases h
  · exact .refl _
  · exact .refl _
  · rename_i hm ih; exact (mergeNodes_same hm).trans (ih h)

theorem mergeTrailing_same {a : List PNode} {c : MCtx} {r : List PNode × MCtx}
    (h : mergeTrailing a c = .ok r) : Same (a, c) r := by
  unfold mergeTrailing at h
  dsimp only at h
  split at h
  · cases h
  · exact mergeNodes_same h

theorem collapse_same {fuel : Nat} {t : List PNode} {c : MCtx} {r : List PNode × MCtx}
    (h : collapse fuel t c = .ok r) : Same (t, c) r ∧ r.1.length ≤ 1 := by
  fun_induction collapse fuel t c <;> try cases h
  · exact ⟨.refl _, ‹_›⟩
  · rename_i hm ih; exact ⟨(mergeTrailing_same hm).trans (ih h).1, (ih h).2⟩

theorem mergeLoop1_same {fuel : Nat} {a : List PNode} {nd : Nat} {c : MCtx} {r : List PNode × MCtx}
    (h : mergeLoop1 fuel a nd c = .ok r) : Same (a, c) r := by
  fun_induction mergeLoop1 fuel a nd c <;> try cases h
  · exact .refl _
  · rename_i hm ih; exact (mergeTrailing_same hm).trans (ih h)
  · exact .refl _

theorem mergeInner_same {fuel : Nat} {a : List PNode} {start stop : Nat} {ch : Bool} {c : MCtx}
    {r : List PNode × Nat × Nat × Bool × MCtx}
    (h : mergeInner fuel a start stop ch c = .ok r) : Same (a, c) (r.1, r.2.2.2.2) := by
  fun_induction mergeInner fuel a start stop ch c <;> try cases h
  · rename_i hm ih; exact (mergeNodes_same hm).trans (ih h)
  · exact .refl _

theorem mergeDepthLoop_same {fuel : Nat} {a : List PNode} {start stop depth pd : Nat} {c : MCtx}
    {r : List PNode × MCtx}
    (h : mergeDepthLoop fuel a start stop depth pd c = .ok r) : Same (a, c) r := by
  fun_induction mergeDepthLoop fuel a start stop depth pd c <;> try cases h
  · rename_i hm _; exact mergeInner_same hm
  · rename_i hm _ _ _ ih; exact (mergeInner_same hm).trans (ih h)

theorem liftSingle_same (a : List PNode) (nd : Nat) (c : MCtx) : Same (a, c) (liftSingle a nd, c) := by
  fun_cases liftSingle a nd
  · rename_i y _
    refine ⟨by simp [pagesOf_nil, pagesOf_cons], fun hok n hn => ?_, rfl⟩
    simp at hn; subst hn
    have := hok y (by simp)
    exact ⟨this.tree, this.count, this.top⟩
  · exact .refl _
  · exact .refl _

theorem mergeJoin_same {a b : List PNode} {nd : Nat} {c : MCtx} {r : List PNode × MCtx}
    (h : mergeJoin a b nd c = .ok r) : Same (a ++ b, c) r := by
  revert h
  fun_cases mergeJoin a b nd c <;> intro h
  · cases h
  · exact mergeDepthLoop_same h

theorem merge_same {a b : List PNode} {c : MCtx} {r : List PNode × MCtx} (h : merge a b c = .ok r) :
    Same (a ++ b, c) r := by
  unfold merge at h
  split at h
  · cases h; exact .refl _
  · cases h; simpa using Same.refl _
  · split at h
    · cases h
    · rename_i h1
      exact (((mergeLoop1_same h1).trans (liftSingle_same _ _ _)).append_right _).trans (mergeJoin_same h)

open Spec.TRSDoc in
mutual
/-- the document a writer (with its sub-ranges) stands for: the sub-ranges in the order they
    were opened, each where it was opened, interleaved with the pages added directly.  A `before`
    child (the pages a `NewRange` split off the tail) is inlined; every other child is a sub-range
    and becomes a `.range` item -/
def absW : PW → List (Spec.TRSDoc.Item (Nat × Attrs))
  | .mk _ _ children tail _ _ _ => absChildren children ++ (pagesOf tail).map .page
def absChildren : List PW → List (Spec.TRSDoc.Item (Nat × Attrs))
  | [] => []
  | c :: cs => (if c.isBefore then absW c else [.range (absW c)]) ++ absChildren cs
end

mutual
/-- a `before` writer has no children and no page-number futureInt; a closed writer has no children
    (`Close` has merged them into its `tail`); the nodes of every `tail` are sound (`pwOK_iff`) -/
def PWOK : PW → Prop
  | .mk isB closed children tail npn _ _ =>
    (isB = true → children = [] ∧ npn = none) ∧ (closed = true → children = []) ∧
      (∀ n ∈ tail, NodeOK n) ∧ PWOKList children
def PWOKList : List PW → Prop
  | [] => True
  | c :: cs => PWOK c ∧ PWOKList cs
end

open Spec.TRSDoc

theorem absW_mk (isB closed : Bool) (children : List PW) (tail : List PNode) (npn : Option Nat) (cb np : List FCb) :
    absW (.mk isB closed children tail npn cb np) = absChildren children ++ (pagesOf tail).map .page := by
  simp only [absW]
theorem absChildren_nil : absChildren [] = [] := by simp only [absChildren]
theorem absChildren_cons (c : PW) (cs : List PW) :
    absChildren (c :: cs) = (if c.isBefore then absW c else [.range (absW c)]) ++ absChildren cs := by
  simp only [absChildren]

theorem flatten_append (a b : List (Item (Nat × Attrs))) : flatten (a ++ b) = flatten a ++ flatten b := by
  induction a with
  | nil => simp [flatten]
  | cons x xs ih => simp [flatten, ih]

theorem flatten_pages (ps : List (Nat × Attrs)) : flatten (ps.map Item.page) = ps := by
  induction ps with
  | nil => simp [flatten]
  | cons x xs ih => simp [flatten, flattenItem, ih]

theorem absChildren_append (a b : List PW) : absChildren (a ++ b) = absChildren a ++ absChildren b := by
  induction a with
  | nil => simp [absChildren_nil]
  | cons x xs ih => simp [absChildren_cons, ih]

theorem pwOKList_iff : ∀ cs : List PW, PWOKList cs ↔ ∀ c ∈ cs, PWOK c
  | [] => by simp [PWOKList]
  | c :: cs => by simp [PWOKList, pwOKList_iff cs]

theorem pwOK_iff (w : PW) : PWOK w ↔
    (w.isBefore = true → w.children = [] ∧ w.npn = none) ∧ (w.closed = true → w.children = []) ∧
      (∀ n ∈ w.tail, NodeOK n) ∧ ∀ c ∈ w.children, PWOK c := by
  obtain ⟨isB, closed, children, tail, npn, npnCb, numPagesCb⟩ := w
  simp only [PWOK, pwOKList_iff, PW.isBefore, PW.closed, PW.children, PW.tail, PW.npn]

theorem PWOK.before {w : PW} (h : PWOK w) (hb : w.isBefore = true) : w.children = [] ∧ w.npn = none :=
  ((pwOK_iff w).mp h).1 hb

theorem PWOK.of_closed {w : PW} (h : PWOK w) (hc : w.closed = true) : w.children = [] :=
  ((pwOK_iff w).mp h).2.1 hc

theorem PWOK.nodes {w : PW} (h : PWOK w) : ∀ n ∈ w.tail, NodeOK n := ((pwOK_iff w).mp h).2.2.1

theorem PWOK.kids {w : PW} (h : PWOK w) : ∀ c ∈ w.children, PWOK c := ((pwOK_iff w).mp h).2.2.2

theorem pwOK_closed {isB : Bool} {npn : Option Nat} {tail : List PNode} {cb np : List FCb}
    (hb : isB = true → npn = none) (ht : ∀ n ∈ tail, NodeOK n) : PWOK (.mk isB true [] tail npn cb np) :=
  (pwOK_iff _).mpr ⟨fun h => ⟨rfl, hb h⟩, fun _ => rfl, ht, nofun⟩

theorem pagesOf_leaf (id : Nat) (a : Attrs) : pagesOf [leaf id a] = [(id, normA a)] := by
  simp only [pagesOf_cons, pagesOf_nil, leaf, effPages_page, resolve_empty, List.append_nil]

theorem appendHere_spec {id : Nat} {attrs : Attrs} {w w' : PW} {g g' : G}
    (h : appendHere id attrs w g = .ok (w', g')) (hok : PWOK w) :
    absW w' = absW w ++ [.page (id, normA attrs)] ∧ PWOK w' ∧ w'.isBefore = w.isBefore := by
  obtain ⟨f, _, _, tail2, hc, hn, _, _, hl, rfl⟩ := appendHere_ok h
  have s := appendLoop_same hl
  obtain ⟨isB, closed, children, tail, npn, npnCb, numPagesCb⟩ := w
  refine ⟨?_, (pwOK_iff _).mpr ⟨fun hb => ?_, nofun, s.ok fun n hn => ?_, hok.kids⟩, rfl⟩
  · simp only [absW_mk, s.pages, pagesOf_append, pagesOf_leaf, PW.tail, PW.children]
    simp
  · cases hn.symm.trans (hok.before hb).2
  · simp at hn
    rcases hn with hn | rfl
    · exact hok.nodes n hn
    · exact ⟨by simp [leaf, TreeOK], by simp [leaf, numLeaves], rfl⟩

theorem absChildren_beforeOf (tail : List PNode) : absChildren (beforeOf tail) = (pagesOf tail).map .page := by
  unfold beforeOf
  split
  · simp [absChildren_nil, absChildren_cons, absW_mk, PW.isBefore]
  · rename_i ht
    have : tail = [] := List.eq_nil_of_length_eq_zero (by omega)
    simp [this, absChildren_nil, pagesOf_nil]

theorem newRangeHere_spec {w w' : PW} {g g' : G} (h : newRangeHere w g = .ok (w', g')) (hok : PWOK w) :
    absW w' = absW w ++ [.range []] ∧ PWOK w' ∧ w'.isBefore = w.isBefore := by
  obtain ⟨f, _, hc, hn, _, _, rfl⟩ := newRangeHere_ok h
  obtain ⟨isB, closed, children, tail, npn, npnCb, numPagesCb⟩ := w
  refine ⟨?_, (pwOK_iff _).mpr ⟨fun hb => ?_, nofun, nofun, fun c hc => ?_⟩, rfl⟩
  · simp [absW_mk, absChildren_append, absChildren_beforeOf, absChildren_nil, absChildren_cons, PW.isBefore, PW.children, PW.tail, pagesOf_nil]
  · cases hn.symm.trans (hok.before hb).2
  · -- the children: the old ones, the tail split off as a `before` writer, the new sub-range
    simp only [PW.children, List.mem_append, List.mem_singleton] at hc
    rcases hc with (hc | hc) | rfl
    · exact hok.kids c hc
    · rw [mem_beforeOf hc]
      exact (pwOK_iff _).mpr ⟨fun _ => ⟨rfl, rfl⟩, nofun, hok.nodes, nofun⟩
    · exact (pwOK_iff _).mpr ⟨nofun, nofun, nofun, nofun⟩

theorem flatten_absChildren_cons (c : PW) (cs : List PW) :
    flatten (absChildren (c :: cs)) = flatten (absW c) ++ flatten (absChildren cs) := by
  simp only [absChildren_cons, flatten_append]
  split <;> simp [flatten, flattenItem]

theorem absW_of_children_nil {c : PW} (h : c.children = []) : absW c = (pagesOf c.tail).map Item.page := by
  obtain ⟨isB, closed, children, tail, npn, npnCb, numPagesCb⟩ := c
  subst h
  simp [absW_mk, absChildren_nil, PW.tail]

mutual
/-- **Close** of a writer: all pages of the writer and of its sub-ranges, in document order,
    end up in its `tail`; the writer stands for the flattened range afterwards -/
theorem close_spec : ∀ (w : PW) (g : G) (w' : PW) (g' : G), w.close g = .ok (w', g') → PWOK w →
    ∃ tail', w' = .mk w.isBefore true [] tail' w.npn [] w.numPagesCb ∧ pagesOf tail' = flatten (absW w) ∧
      (∀ n ∈ tail', NodeOK n) ∧ g'.ctx.old = g.ctx.old
  | .mk isB closed children tail npn npnCb numPagesCb, g, w', g', h, hok => by
    obtain ⟨nodes, g1, tail1, ctx2, _, _, _, hcc, hm, _, _, _, rfl, rfl⟩ := close_ok h
    obtain ⟨hp, hn, ho⟩ := closeChildren_spec children [] g nodes g1 hcc ((pwOKList_iff _).mpr hok.kids) (by simp)
    have sm : Same (nodes ++ tail, _) (tail1, _) := merge_same hm
    refine ⟨tail1, rfl, ?_, sm.ok_append hn hok.nodes, sm.old.trans ho⟩
    simp only [sm.pages, pagesOf_append, hp, pagesOf_nil, List.nil_append, absW_mk, flatten_append, flatten_pages]
theorem closeChildren_spec : ∀ (children : List PW) (nodes : List PNode) (g : G) (nodes' : List PNode) (g' : G),
    closeChildren children nodes g = .ok (nodes', g') → PWOKList children → (∀ n ∈ nodes, NodeOK n) →
    pagesOf nodes' = pagesOf nodes ++ flatten (absChildren children) ∧ (∀ n ∈ nodes', NodeOK n) ∧
      g'.ctx.old = g.ctx.old
  | [], nodes, g, nodes', g', h, _, hn => by
    simp only [closeChildren] at h
    cases h
    exact ⟨by simp [absChildren_nil, flatten], hn, rfl⟩
  | child :: rest, nodes, g, nodes', g', h, hok, hn => by
    simp only [PWOKList] at hok
    unfold closeChildren at h
    split at h
    · rename_i hcl
      split at h
      · cases h
      · rename_i nodes1 ctx1 hm
        have sm := merge_same hm
        obtain ⟨hp, hn2, ho⟩ := closeChildren_spec rest nodes1 _ nodes' g' h hok.2 (sm.ok_append hn hok.1.nodes)
        refine ⟨?_, hn2, ho.trans sm.old⟩
        rw [hp, sm.pages, pagesOf_append, flatten_absChildren_cons, absW_of_children_nil (hok.1.of_closed hcl),
          flatten_pages]
        simp
    · split at h
      · cases h
      · rename_i child' g1 hc
        obtain ⟨tail', rfl, hpt, hnt, hot⟩ := close_spec child g child' g1 hc hok.1
        split at h
        · cases h
        · rename_i nodes1 ctx1 hm
          have sm : Same (nodes ++ tail', _) _ := merge_same hm
          obtain ⟨hp, hn2, ho⟩ := closeChildren_spec rest nodes1 _ nodes' g' h hok.2 (sm.ok_append hn hnt)
          refine ⟨?_, hn2, (ho.trans sm.old).trans hot⟩
          rw [hp, sm.pages, pagesOf_append, flatten_absChildren_cons, hpt]
          simp
end

theorem closeHere_spec {w w' : PW} {g g' : G} (h : w.close g = .ok (w', g')) (hok : PWOK w) :
    absW w' = (flatten (absW w)).map .page ∧ PWOK w' ∧ w'.isBefore = w.isBefore := by
  obtain ⟨tail', rfl, hp, hn, _⟩ := close_spec w g w' g' h hok
  exact ⟨by simp [absW_mk, absChildren_nil, hp], pwOK_closed (fun hb => (hok.before hb).2) hn, rfl⟩

theorem nextPageNumberHere_spec {k : Nat} {w w' : PW} {g g' : G} (h : nextPageNumberHere k w g = .ok (w', g'))
    (hok : PWOK w) : absW w' = absW w ∧ PWOK w' ∧ w'.isBefore = w.isBefore := by
  rcases nextPageNumberHere_ok h with ⟨_, rfl, _⟩ | ⟨hc, _, rfl⟩
  · exact ⟨rfl, hok, rfl⟩
  · obtain ⟨isB, closed, children, tail, npn, npnCb, np⟩ := w
    cases hc
    exact ⟨by simp [absW_mk, PW.children, PW.tail], (pwOK_iff _).mpr ((pwOK_iff _).mp hok), rfl⟩

theorem updateRange_pages (F : List (Item (Nat × Attrs)) → Option (List (Item (Nat × Attrs)))) (i : Nat)
    (xs : List (Item (Nat × Attrs))) : ∀ ps : List (Nat × Attrs),
    updateRange F i (ps.map Item.page ++ xs) = (updateRange F i xs).map (ps.map Item.page ++ ·)
  | [] => by simp
  | p :: ps => by
    simp only [List.map_cons, List.cons_append, updateRange]
    rw [updateRange_pages F i xs ps]
    cases updateRange F i xs <;> simp

theorem specUpdateAt_nil {α : Type} (F : List (Item α) → Option (List (Item α))) (d : List (Item α)) :
    Spec.TRSDoc.updateAt F [] d = F d := rfl
theorem specUpdateAt_cons {α : Type} (F : List (Item α) → Option (List (Item α))) (i : Nat) (rest : List Nat)
    (d : List (Item α)) : Spec.TRSDoc.updateAt F (i :: rest) d = updateRange (Spec.TRSDoc.updateAt F rest) i d := rfl

/-- the `i`-th sub-range among the children is the `i`-th range item of the document -/
theorem updateRange_children (F : List (Item (Nat × Attrs)) → Option (List (Item (Nat × Attrs))))
    (rest : List (Item (Nat × Attrs))) (child child' : PW) (hF : F (absW child) = some (absW child'))
    (hb' : child'.isBefore = child.isBefore) {children : List PW} {i j : Nat} (hok : ∀ c ∈ children, PWOK c)
    (hs : subIndex children i = some j) (hj : children[j]? = some child) :
    updateRange F i (absChildren children ++ rest) = some (absChildren (children.set j child') ++ rest) := by
  fun_induction subIndex children i generalizing j
  · cases hs
  · -- a `before` child: its pages are skipped
    rename_i c cs i hb ih
    obtain ⟨j', hs', rfl⟩ := Option.map_eq_some_iff.mp hs
    have h2 := ih (fun x hx => hok x (List.mem_cons_of_mem _ hx)) hs' hj
    simp only [absChildren_cons, hb, if_true, List.set_cons_succ, List.append_assoc]
    rw [absW_of_children_nil ((hok c List.mem_cons_self).before hb).1, updateRange_pages, h2]
    simp
  · -- the sub-range addressed
    rename_i c cs hb
    have hb0 : c.isBefore = false := by simpa using hb
    cases hs; cases hj
    simp [absChildren_cons, hb0, hb', updateRange, hF]
  · -- an earlier sub-range
    rename_i c cs hb i ih
    have hb0 : c.isBefore = false := by simpa using hb
    obtain ⟨j', hs', rfl⟩ := Option.map_eq_some_iff.mp hs
    have h2 := ih (fun x hx => hok x (List.mem_cons_of_mem _ hx)) hs' hj
    simp [absChildren_cons, hb0, updateRange, h2]

theorem updateAt_spec (f : PW → G → Except PErr (PW × G))
    (F : List (Item (Nat × Attrs)) → Option (List (Item (Nat × Attrs))))
    (hf : ∀ w g w' g', f w g = .ok (w', g') → PWOK w →
      F (absW w) = some (absW w') ∧ PWOK w' ∧ w'.isBefore = w.isBefore) :
    ∀ (path : List Nat) (root : PW) (g : G) (root' : PW) (g' : G),
      root.updateAt f path g = .ok (root', g') → PWOK root →
      Spec.TRSDoc.updateAt F path (absW root) = some (absW root') ∧ PWOK root' ∧
        root'.isBefore = root.isBefore
  | [], root, g, root', g', h, hok => by
    rw [updateAt_nil] at h
    simpa [specUpdateAt_nil] using hf root g root' g' h hok
  | i :: rest, .mk isB closed children tail npn npnCb numPagesCb, g, root', g', h, hok => by
    obtain ⟨j, child, child', hs, hj, hc, rfl⟩ := updateAt_cons_ok h
    have hmem := List.mem_of_getElem? hj
    obtain ⟨h1, h2, h3⟩ := updateAt_spec f F hf rest child g child' g' hc (hok.kids child hmem)
    -- a writer with a child is neither a `before` writer nor closed
    have hne : children ≠ [] := List.ne_nil_of_mem hmem
    refine ⟨?_, (pwOK_iff _).mpr ⟨fun hb => absurd (hok.before hb).1 hne,
      fun hcl => absurd (hok.of_closed hcl) hne, hok.nodes,
      fun x hx => (List.mem_or_eq_of_mem_set hx).elim (hok.kids x) (· ▸ h2)⟩, rfl⟩
    simp only [specUpdateAt_cons, absW_mk]
    exact updateRange_children (Spec.TRSDoc.updateAt F rest) ((pagesOf tail).map Item.page) child child' h1 h3
      hok.kids hs hj

/-- the written root: a `/Pages` node without `/Parent`, structurally sound below -/
def RootOK (t : PTree) : Prop :=
  (∃ id kids n a, t = .pages id none kids n a) ∧ TreeOK t

theorem wrapIfLeaf_spec {n : PNode} (hn : NodeOK n) (c : MCtx) :
    effPages {} (wrapIfLeaf n c).1 = effPages {} n.tree ∧ RootOK (wrapIfLeaf n c).1 := by
  fun_cases wrapIfLeaf n c
  · rename_i id p kids k a htree
    refine ⟨rfl, ⟨id, kids, k, a, ?_⟩, hn.tree⟩
    have := hn.top
    rw [htree] at this ⊢
    simp only [PTree.parent] at this
    rw [this]
  · rename_i id p a htree
    refine ⟨?_, ⟨_, _, _, _, rfl⟩, ?_⟩
    · rw [htree]
      simp [effPages_page, effPages_pages, effList_nil, effList_cons, resolve_empty]
    · have := maxDegree_ge_two
      simp [TreeOK, KidsOK, PTree.parent, numLeavesList, numLeaves]
      omega

theorem close_collapse_spec {w w1 : PW} {g g1 : G} {tail : List PNode} {c' : MCtx} (hok : PWOK w)
    (hc : w.close g = .ok (w1, g1)) (hcol : collapse (w1.tail.length + 1) w1.tail g1.ctx = .ok (tail, c')) :
    w1 = .mk w.isBefore true [] w1.tail w.npn [] w.numPagesCb ∧ pagesOf tail = flatten (absW w) ∧
      (∀ n ∈ tail, NodeOK n) ∧ tail.length ≤ 1 := by
  obtain ⟨t1, rfl, hp, hnodes, _⟩ := close_spec w g w1 g1 hc hok
  obtain ⟨sc, hlen⟩ := collapse_same hcol
  exact ⟨rfl, sc.pages.trans hp, sc.ok hnodes, hlen⟩

/-- stated on the result triple `x`: with the tree a variable of its own the `match` would depend on `h`,
    and the case principle of `closeRoot` could not rewrite it -/
theorem closeRoot_spec {w : PW} {g : G} {x : PW × G × Option PTree} (h : closeRoot w g = .ok x) (hok : PWOK w) :
    (match x.2.2 with
      | some t => effPages {} t = flatten (absW w) ∧ RootOK t
      | none => flatten (absW w) = []) ∧ absW x.1 = [] ∧ PWOK x.1 := by
  revert h
  fun_cases closeRoot w g <;> intro h <;> cases h
  -- both exits: the closed writer, and the collapsed tail holds the document
  all_goals
    obtain ⟨hw1, hp, hnodes, hlen⟩ := close_collapse_spec hok ‹_› ‹_›
    cases hw1
    refine ⟨?_, by simp [absW_mk, absChildren_nil, pagesOf_nil], pwOK_closed (fun hb => (hok.before hb).2) (by simp)⟩
  · -- no page
    exact hp.symm
  · -- the root node
    rename_i c' _ rootNode rest t ctx3 hwrap _ _
    cases rest with
    | cons a b => simp at hlen
    | nil =>
      obtain ⟨h1, h2⟩ := wrapIfLeaf_spec (hnodes rootNode (by simp)) c'
      rw [hwrap] at h1 h2
      exact ⟨h1.trans (by rw [← hp]; simp [pagesOf_nil, pagesOf_cons]), h2⟩

/-- what the method does to the range it is called on (`Spec/TRSDoc.lean`) -/
def hereF : POp → List (Item (Nat × Attrs)) → Option (List (Item (Nat × Attrs)))
  | .append _ id attrs => fun d => some (d ++ [.page (id, normA attrs)])
  | .newRange _ => fun d => some (d ++ [.range []])
  | .close _ => fun d => some ((flatten d).map .page)
  | .nextPageNumber _ _ => fun d => some d

theorem opHere_spec (op : POp) (w : PW) (g : G) (w' : PW) (g' : G) (h : opHere op w g = .ok (w', g'))
    (hok : PWOK w) : hereF op (absW w) = some (absW w') ∧ PWOK w' ∧ w'.isBefore = w.isBefore := by
  cases op with
  | append p id a => obtain ⟨a, b, c⟩ := appendHere_spec h hok; exact ⟨by rw [a]; rfl, b, c⟩
  | newRange p => obtain ⟨a, b, c⟩ := newRangeHere_spec h hok; exact ⟨by rw [a]; rfl, b, c⟩
  | close p => obtain ⟨a, b, c⟩ := closeHere_spec h hok; exact ⟨by rw [a]; rfl, b, c⟩
  | nextPageNumber p k => obtain ⟨a, b, c⟩ := nextPageNumberHere_spec h hok; exact ⟨by rw [a]; rfl, b, c⟩

/-- what an operation means for the document (`Spec/TRSDoc.lean`) -/
def specStep (op : POp) (d : List (Item (Nat × Attrs))) : Option (List (Item (Nat × Attrs))) :=
  match op with
  | .append path id attrs => appendPage (id, normA attrs) path d
  | .newRange path => newRange path d
  | .close path => close path d
  | .nextPageNumber _ _ => some d

theorem specUpdateAt_id : ∀ (path : List Nat) (d d' : List (Item (Nat × Attrs))),
    Spec.TRSDoc.updateAt (fun r => some r) path d = some d' → d' = d := by
  intro path
  induction path with
  | nil => intro d d' h; simp [specUpdateAt_nil] at h; exact h.symm
  | cons i rest ih =>
    intro d d' h
    simp only [specUpdateAt_cons] at h
    fun_induction updateRange (Spec.TRSDoc.updateAt (fun r => some r) rest) i d generalizing d'
    · cases h
    · -- a page
      rename_i ihx
      obtain ⟨y, hy, rfl⟩ := Option.map_eq_some_iff.mp h
      rw [ihx y hy]
    · -- the range addressed
      obtain ⟨y, hy, rfl⟩ := Option.map_eq_some_iff.mp h
      rw [ih _ y hy]
    · -- an earlier range
      rename_i ihx
      obtain ⟨y, hy, rfl⟩ := Option.map_eq_some_iff.mp h
      rw [ihx y hy]

/-- **one operation**: as long as the root has not been closed successfully, an operation that
    is not rejected changes the document exactly as the specification says; a rejected one
    changes nothing.  (`specStep` is `Spec.TRSDoc.updateAt (hereF op) (opPath op)` for every operation but
    `NextPageNumber`, which it accepts on any path, existing or not: it changes no document.) -/
theorem step_sim {s s' : PState} {op : POp} {o : Outcome} (hok : PWOK s.root)
    (h : step s op = .ok (s', o)) (hres : s'.result = none) :
    (o = .closed → s' = s) ∧ (o ≠ .closed → specStep op (absW s.root) = some (absW s'.root)) ∧
      PWOK s'.root := by
  rcases step_ok h with hr | ⟨r, g, hu, hop, rfl, rfl⟩ | ⟨rfl, r, g, t, hu, rfl, rfl, hcase⟩
  · cases op with
    | nextPageNumber p k => cases hr; exact ⟨nofun, fun _ => rfl, hok⟩
    | _ => cases hr; exact ⟨fun _ => rfl, fun hne => absurd rfl hne, hok⟩
  · obtain ⟨h1, h2, _⟩ := updateAt_spec (opHere op) (hereF op) (opHere_spec op) _ _ _ _ _ hu hok
    refine ⟨nofun, fun _ => ?_, h2⟩
    cases op with
    | nextPageNumber p k => simp only [specStep]; rw [specUpdateAt_id _ _ _ h1]
    | _ => exact h1
  · obtain ⟨h1, h2, h3⟩ := closeRoot_spec hu hok
    rcases hcase with ⟨x, rfl, hx, _⟩ | ⟨rfl, _, rfl⟩
    · rw [hx] at hres; cases hres
    · refine ⟨nofun, fun _ => ?_, h3⟩
      simp only at h1
      simp [specStep, close, specUpdateAt_nil, h1, h2]

/-- the specification's run of a program: every operation that was not rejected is applied -/
def specRun : List (POp × Outcome) → List (Item (Nat × Attrs)) → Option (List (Item (Nat × Attrs)))
  | [], d => some d
  | (op, o) :: rest, d =>
    if o = .closed then specRun rest d
    else match specStep op d with
      | none => none
      | some d' => specRun rest d'

theorem result_mono {s s' : PState} {op : POp} {o : Outcome} (h : step s op = .ok (s', o))
    (hres : s'.result = none) : s.result = none := by
  rcases step_ok h with h | ⟨r, g, _, _, rfl, _⟩ | ⟨_, r, g, t, _, _, _, ⟨x, _, hx, _⟩ | ⟨_, hx, _⟩⟩
  · cases op <;> (simp only [rejected] at h; cases h; exact hres)
  · exact hres
  · rw [hx] at hres; cases hres
  · rw [← hx]; exact hres

theorem run_result_mono : ∀ (ops : List POp) (a b : PState) (os : List Outcome), run a ops = .ok (b, os) →
    b.result = none → a.result = none
  | [], a, b, os, h, hb => by simp only [run] at h; cases h; exact hb
  | op :: ops, a, b, os, h, hb => by
    obtain ⟨a1, o, os1, ha, hr, _⟩ := run_cons h
    exact result_mono ha (run_result_mono ops a1 b os1 hr hb)

/-- **whole programs**: as long as the root has not been closed successfully, the writer tree
    stands for the document that the specification builds from the same operations -/
theorem run_sim : ∀ (ops : List POp) (s s' : PState) (outs : List Outcome), PWOK s.root →
    run s ops = .ok (s', outs) → s'.result = none →
    specRun (ops.zip outs) (absW s.root) = some (absW s'.root) ∧ PWOK s'.root ∧ s.result = none
  | [], s, s', outs, hok, h, hres => by
    simp only [run] at h
    cases h
    exact ⟨rfl, hok, hres⟩
  | op :: rest, s, s', outs, hok, h, hres => by
    obtain ⟨s1, o, os, hst, hr, rfl⟩ := run_cons h
    have hs1res := run_result_mono rest s1 s' os hr hres
    obtain ⟨c1, c2, c3⟩ := step_sim hok hst hs1res
    obtain ⟨r1, r2, _⟩ := run_sim rest s1 s' os c3 hr hres
    refine ⟨?_, r2, result_mono hst hs1res⟩
    simp only [List.zip_cons_cons, specRun]
    by_cases ho : o = .closed
    · simp only [ho, if_true]
      rw [c1 ho] at r1; exact r1
    · simp only [ho, if_false, c2 ho]
      exact r1

theorem init_ok (old : Bool) (hints : List Hint) :
    PWOK (PState.init old hints).root ∧ absW (PState.init old hints).root = [] := by
  simp [PState.init, PWOK, PWOKList, absW_mk, absChildren_nil, pagesOf_nil]

/-- **C16, main theorem.**  Take any program (appends, NewRange, Close of sub-ranges,
    NextPageNumber on any writers in any interleaving, including operations that are rejected
    because their writer is closed) that has not yet closed the root successfully, and let the
    root's `Close` succeed now.  Then the written tree `t`
    * lists exactly the pages of the document the specification builds from the accepted
      operations, in document order (a range's pages sit where the range was opened), and each
      page's effective MediaBox, CropBox, Rotate, AA after inheritance are those it was given
      (`effPages {} t = flatten doc`; the payload of a page is `(id, normA attrs)`);
    * is a sound root (`RootOK`: no `/Parent`, fan-out, `/Count` and `/Parent` links right).
    This holds for every list of `hints`, i.e. however Go's map iteration breaks ties when a
    value is hoisted. -/
theorem page_tree_correct (old : Bool) (hints : List Hint) (ops : List POp) (s s' : PState)
    (outs : List Outcome) (hrun : run (PState.init old hints) ops = .ok (s, outs))
    (hopen : s.result = none) (hclose : step s (.close []) = .ok (s', .ok)) :
    ∃ doc t, specRun (ops.zip outs) [] = some doc ∧ s'.result = some t ∧
      effPages {} t = flatten doc ∧ RootOK t := by
  obtain ⟨hok0, habs0⟩ := init_ok old hints
  obtain ⟨r1, r2, _⟩ := run_sim ops _ s outs hok0 hrun hopen
  rw [habs0] at r1
  rcases step_ok hclose with hr | ⟨_, _, _, hop, _⟩ | ⟨_, r, g, t, hu, _, _, ⟨x, rfl, hx, _⟩ | ⟨_, _, ho⟩⟩
  · cases hr
  · exact absurd rfl hop
  · obtain ⟨h1, _, _⟩ := closeRoot_spec hu r2
    exact ⟨absW s.root, x, r1, hx, h1.1, h1.2⟩
  · cases ho

/-- `/Count` of the root = number of pages of the document -/
theorem root_count {t : PTree} (h : RootOK t) (inh : Attrs) :
    ∃ id kids n a, t = .pages id none kids n a ∧ n = (effPages inh t).length := by
  obtain ⟨⟨id, kids, n, a, rfl⟩, hok⟩ := h
  refine ⟨id, kids, n, a, rfl, ?_⟩
  simp only [TreeOK] at hok
  rw [effPages_length, numLeaves, hok.2.2.1]

def exMB1 : Option Bytes := some [91, 48, 93]
def exMB2 : Option Bytes := some [91, 49, 93]
def exProg : List POp :=
  [.append [] 0 { mediaBox := exMB1 }, .newRange [],
   .append [0] 1 { mediaBox := exMB1, rotate := some [57, 48] },
   .append [] 2 { mediaBox := exMB2 }, .nextPageNumber [0] 7, .append [0] 3 { mediaBox := exMB1 },
   .close [0], .append [0] 4 {}]

-- non-vacuity of `page_tree_correct`: a program with a sub-range, hoisting and a rejected
-- operation meets the hypotheses; the written tree lists the pages in document order
example : (match run (PState.init false []) exProg with
    | .ok (s, outs) =>
      s.result.isNone && outs == [.ok, .ok, .ok, .ok, .ok, .ok, .ok, .closed] &&
      (match step s (.close []) with
        | .ok (s', .ok) => (s'.result.map fun t => (effPages {} t).map (·.1)) == some [0, 1, 3, 2]
        | _ => false)
    | _ => false) = true := by decide +kernel

end PdfVerif.C16trs
