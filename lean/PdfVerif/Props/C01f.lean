import PdfVerif.Props.C01d
/-!
# C01 (part f) — the documented array limit alone suffices

`ReadArray` allows one transient extra element (a trailing reference is two integers until `R`
collapses them) and enforces its cap at `]`; the model mirrors it and `good` asks for
`xs.length ≤ maxArrayLen` only.  A scanner that applies the cap while the reference is still two
integers rejects `witness (maxArrayLen - 1)`, so `cap_witness_reads` breaks under that cap rule; the harness replays
the same array on the real code on every run (oracle `roundtrip-maxlen`, class key `array-maxlen-trailing-ref`).
-/
namespace PdfVerif.C01f
open PdfVerif PdfVerif.C01b PdfVerif.C01L PdfVerif.C01d

/-- the full-strength sequence statement: the documented array limit is the only length hypothesis -/
def seq_rt_full : Prop :=
  ∀ (opt : FmtOpt) (xs : List Obj), goodList xs = true → xs.length ≤ Gen.scanner_maxArrayLen →
    depthList xs < Gen.scanner_maxScannerNestDepth → ∀ rest : Bytes,
    ∃ body r, format opt xs = some body ∧
      parseObject (91 :: (body ++ 93 :: rest)) = .ok (.arr r, rest) ∧ nrmList r = nrmList xs

theorem seq_rt_full_holds : seq_rt_full :=
  fun opt xs hg hlen hd rest => seq_rt opt xs hg hlen hd rest

/-- the counter-example of finding C01-F1: `m` integers followed by one reference -/
def witness (m : Nat) : List Obj := List.replicate m (.int 7) ++ [.ref 5 0]

theorem witness_good (m : Nat) : goodList (witness m) = true := by
  induction m with
  | zero => decide
  | succ m ih => exact (goodList_cons (x := .int 7) (xs := witness m)).mpr ⟨by decide, ih⟩

theorem witness_flat (m : Nat) : ∀ x ∈ witness m, C01c.isFlat x = true := by
  intro x hx
  simp [witness] at hx
  rcases hx with ⟨_, rfl⟩ | rfl <;> decide

/-- **The cap is attained**: the array of exactly `maxArrayLen` elements ending in a
reference — rejected when the cap is applied before `R` collapses the two integers — is read back,
under either value of `OptPretty`. -/
theorem cap_witness_reads (opt : FmtOpt) (rest : Bytes) :
    (witness (Gen.scanner_maxArrayLen - 1)).length = Gen.scanner_maxArrayLen ∧
    ∃ body, format opt (witness (Gen.scanner_maxArrayLen - 1)) = some body ∧
      parseObject (91 :: (body ++ 93 :: rest))
        = .ok (.arr (rdList (witness (Gen.scanner_maxArrayLen - 1))), rest) := by
  have hpos : 1 ≤ Gen.scanner_maxArrayLen := by decide
  have hlen : (witness (Gen.scanner_maxArrayLen - 1)).length = Gen.scanner_maxArrayLen := by
    simp [witness]; omega
  refine ⟨hlen, ?_⟩
  obtain ⟨body, hb⟩ := C01c.format_flat_some opt _ (witness_flat _) (witness_good _)
  exact ⟨body, hb, C01c.flat_array_rt opt _ (witness_flat _) (witness_good _) (by omega) body hb rest⟩

-- non-vacuity of the shape of the witness
example : witness 2 = [.int 7, .int 7, .ref 5 0] := rfl

end PdfVerif.C01f
