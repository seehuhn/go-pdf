import PdfVerif.Props.C11cpy
/-!
C11 (continued) — termination: one induction over the recursion budget (`bounded_main`) shows that the fuel
the driver uses always suffices (`fuel_suffices`) and that on a readable source the copier fails at most with
the object-number overflow (`copy_succeeds`); the result does not depend on the fuel (`fuel_irrelevant`);
whether the target's `Put` refuses a copied stream is a property of the source stream (`putRefusal_map`).
-/
namespace PdfVerif.C11cpyb
open PdfVerif PdfVerif.CPY PdfVerif.C11cpy

/-- number of references of the universe `U` that are not translated yet -/
def unv (U : List Ref) (tr : List (Ref × Ref)) : Nat :=
  (U.filter fun r => (assoc r tr).isNone).length

theorem unv_le_length (U : List Ref) (tr : List (Ref × Ref)) : unv U tr ≤ U.length :=
  List.length_filter_le _ _

theorem unv_mono {U : List Ref} {tr tr' : List (Ref × Ref)} (h : Extends tr tr') :
    unv U tr' ≤ unv U tr := by
  -- the filter keeps `r` iff it is untranslated, and an extension translates whatever was translated
  induction U with
  | nil => simp [unv]
  | cons r U ih =>
    simp only [unv, List.filter_cons] at ih ⊢
    cases h1 : assoc r tr with
    | some t => simp [h r t h1]; exact ih
    | none =>
      cases h2 : assoc r tr' with
      | some t => simp; omega
      | none => simp; exact ih

theorem unv_lt {U : List Ref} {tr tr' : List (Ref × Ref)} (h : Extends tr tr') {r : Ref} (hr : r ∈ U)
    (hn : assoc r tr = none) (hs : (assoc r tr').isSome) : unv U tr' < unv U tr := by
  -- the filter for `tr'` is a sublist of the one for `tr` (`unv_mono`) and misses `r`
  induction U with
  | nil => cases hr
  | cons a U ih =>
    have hm := unv_mono (U := U) h
    simp only [unv, List.filter_cons] at ih hm ⊢
    by_cases ha : a = r
    · subst ha
      obtain ⟨t, ht⟩ := Option.isSome_iff_exists.mp hs
      rw [hn, ht]
      simp only [Option.isNone_some, Option.isNone_none, Bool.false_eq_true, ↓reduceIte, List.length_cons]
      omega
    · have := ih (by
        rcases List.mem_cons.mp hr with h | h
        · exact absurd h.symm ha
        · exact h)
      cases h1 : assoc a tr with
      | some t => rw [h a t h1]; simpa using this
      | none => cases assoc a tr' <;> simp <;> omega

theorem resolveOrNull_ne_fuel (G : Graph) (r : Ref) : resolveOrNull G r ≠ .error .fuel := by
  fun_cases resolveOrNull G r with
  | case1 => simp
  | case2 e _ he => exact passed_on he (resolve_ne_fuel G true _)
  | case3 => simp

def GoodObj (U : List Ref) (W : Nat) (o : Obj) : Prop := osize o ≤ W ∧ ∀ b ∈ orefs o, b ∈ U

def GoodVal (G : Graph) (U : List Ref) (W : Nat) : Val → Prop
  | .obj o => GoodObj U W o
  | .stream dict _ _ => kvsize dict ≤ W ∧ (∀ b ∈ kvrefs dict, b ∈ U) ∧
      ∀ key, (key = keyFilter ∨ key = keyDecodeParms) → ∀ val inl, kvLookup key dict = some val →
        inlineFilterRefs G val = .ok (.obj inl) → GoodObj U W inl

/-- `U` contains every reference the copier can meet from `U`, `W` bounds every object it is
    handed -/
def Closed (G : Graph) (U : List Ref) (W : Nat) : Prop :=
  ∀ r v, r ∈ U → resolveOrNull G r = .ok v → GoodVal G U W v

theorem unv_enter_lt {U : List Ref} {tr : List (Ref × Ref)} {chain : List Ref} {r n : Ref}
    (hr : r ∈ U) (hrc : r ∈ chain) (hfresh : ∀ k ∈ chain, assoc k tr = none) :
    unv U (enter chain n tr) < unv U tr :=
  unv_lt (extends_enter n hfresh) hr (hfresh r hrc)
    (by rw [assoc_enter_mem hrc]; rfl)

theorem unv_mul_le {G : Graph} {s s' : St} (h : Eff G s s') (U : List Ref) (K : Nat) :
    unv U s'.trans * K ≤ unv U s.trans * K :=
  Nat.mul_le_mul_right _ (unv_mono h.extends)

section
variable (G : Graph) (U : List Ref) (W : Nat) (A : CErr → Prop) (I : St → Prop)

/-- `A` admits what inlining /Filter and /DecodeParms and the crypt recipe of a stream can fail
    with -/
def LeafOK : Val → Prop
  | .obj _ => True
  | .stream dict _ enc =>
    (∀ key, (key = keyFilter ∨ key = keyDecodeParms) → ∀ val, kvLookup key dict = some val →
      match inlineFilterRefs G val with
      | .error e => A e
      | .ok (.stream _ _ _) => A .other
      | .ok (.obj _) => True) ∧
    match streamCryptRecipe G dict enc with
    | .error e => A e
    | .ok .unsupportedCF => A .other
    | .ok _ => True

/-- The budget of each function, beside `W + 6` units for every untranslated reference of `U`.
    `CopyReference` (1) calls `Copy` (`W + 5`), which calls `copyStreamDict` (`W + 4`), one round of inlining
    (`W + 2`) and `Copy` of the inlined object (size at most `W`, plus 1): one unit per call, so `W + 2` is
    exact, while `W + 3`, `W + 4` and `W + 5` per reference would do for the three above it.  An object,
    array or dictionary needs its size plus 1, one unit per node and list cell, exactly.  `fuelFor` in turn
    has one `W + 6` more than `fuelFor_covers` needs.  Between two nested calls the state changes; the bound
    survives because `trans` only grows (`Eff.extends`), so `unv` only falls (`unv_mul_le`).
    One induction serves `fuel_suffices` and `copy_succeeds`: `A` are the admitted errors (those of the leaves:
    the walk, `Writer.Alloc`, the source side of a stream = `LeafOK`, `Writer.Put`), `I` is what the leaves may
    assume of the state. -/
structure Bounded (f : Nat) : Prop where
  obj : ∀ s o, I s → (∀ b ∈ orefs o, b ∈ U) →
    osize o + 1 + unv U s.trans * (W + 6) ≤ f → WithinE A (copyObjE f G s o)
  list : ∀ s xs, I s → (∀ b ∈ lrefs xs, b ∈ U) →
    lsize xs + 1 + unv U s.trans * (W + 6) ≤ f → WithinE A (copyListE f G s xs)
  kv : ∀ s L, I s → (∀ b ∈ kvrefs L, b ∈ U) →
    kvsize L + 1 + unv U s.trans * (W + 6) ≤ f → WithinE A (copyKVE f G s L)
  inl : ∀ s src res key data enc, I s → (key = keyFilter ∨ key = keyDecodeParms) →
    GoodVal G U W (.stream src data enc) → LeafOK G A (.stream src data enc) →
    W + 2 + unv U s.trans * (W + 6) ≤ f → WithinE A (inlineKeyE f G s src res key)
  sd : ∀ s src data enc, I s → GoodVal G U W (.stream src data enc) →
    LeafOK G A (.stream src data enc) →
    W + 4 + unv U s.trans * (W + 6) ≤ f → WithinE A (copyStreamDictE f G s src)
  val : ∀ s v, I s → GoodVal G U W v → LeafOK G A v →
    W + 5 + unv U s.trans * (W + 6) ≤ f → WithinE A (copyValE f G s v)
  ref : ∀ s r, I s → r ∈ U →
    1 + unv U s.trans * (W + 6) ≤ f → WithinE A (copyRefE f G s r)

variable {G U W A I}

theorem bounded_main (hC : Closed G U W) (hI : ∀ {s s'}, Eff G s s' → I s → I s')
    (hIe : ∀ {s chain}, I s → I (entered s chain)) (hover : A .overflow)
    (hwalk : ∀ {s r e}, I s → r ∈ U → assoc r s.trans = none → walkFrom G s.trans r = .fails e → A e)
    (hleaf : ∀ {r v}, r ∈ U → resolveOrNull G r = .ok v → LeafOK G A v)
    (hput : ∀ {f s r v chain v' s3 e}, I s → r ∈ U → resolveOrNull G r = .ok v →
      copyValE f G (entered s chain) v = (.ok v', s3) → put s3 (refOf s.next) v' = .error e → A e) :
    ∀ f, Bounded G U W A I f := by
  intro f
  induction f with
  | zero =>
    refine ⟨?_, ?_, ?_, ?_, ?_, ?_, ?_⟩
    · intro s o _ _ h; have := osize_pos o; omega
    · intro s xs _ _ h; omega
    · intro s L _ _ h; omega
    · intro s src res key data enc _ _ _ _ h; omega
    · intro s src data enc _ _ _ h; omega
    · intro s v _ _ _ h; omega
    · intro s r _ _ h; omega
  | succ f ih =>
    refine ⟨?_, ?_, ?_, ?_, ?_, ?_, ?_⟩
    · intro s o hi hrefs hf
      cases o with
      | dict kv =>
        have hp := sortedEntries_perm kv
        rw [copyObjE_dict]
        exact (ih.kv s _ hi (fun b hb => hrefs b (by simpa [orefs] using (kvrefs_perm hp b).mp hb))
          (by rw [kvsize_perm hp]; simp only [osize] at hf; omega)).andThen fun _ _ _ => .ok
      | arr xs =>
        rw [copyObjE_arr]
        exact (ih.list s xs hi (fun b hb => hrefs b (by simpa [orefs] using hb))
          (by simp only [osize] at hf; omega)).andThen fun _ _ _ => .ok
      | ref n g =>
        rw [copyObjE_ref]
        exact (ih.ref s (n, g) hi (hrefs _ (by simp [orefs])) (by simp only [osize] at hf; omega)).andThen
          fun _ _ _ => .ok
      | _ => exact .ok
    · intro s xs hi hrefs hf
      cases xs with
      | nil => exact .ok
      | cons x xs =>
        simp only [lrefs, List.mem_append] at hrefs
        simp only [lsize] at hf
        rw [copyListE_cons]
        refine (ih.obj s x hi (fun b hb => hrefs b (.inl hb)) (by have := lsize_pos xs; omega)).andThen
          fun y s1 hy => ?_
        have e1 := ((copies G f).obj hy).1
        exact (ih.list s1 xs (hI e1 hi) (fun b hb => hrefs b (.inr hb))
          (by have := osize_pos x; have := unv_mul_le e1 U (W + 6); omega)).andThen fun _ _ _ => .ok
    · intro s L hi hrefs hf
      cases L with
      | nil => exact .ok
      | cons p rest =>
        obtain ⟨k, v⟩ := p
        simp only [kvrefs, List.mem_append] at hrefs
        simp only [kvsize] at hf
        by_cases hv : v = .null
        · subst hv
          rw [copyKVE_null]
          exact (ih.kv s rest hi (fun b hb => hrefs b (.inr hb)) (by omega)).andThen fun _ _ _ => .ok
        · rw [copyKVE_cons _ _ _ _ _ _ hv]
          refine (ih.obj s v hi (fun b hb => hrefs b (.inl hb)) (by have := kvsize_pos rest; omega)).andThen
            fun v' s1 hv' => ?_
          have e1 := ((copies G f).obj hv').1
          exact (ih.kv s1 rest (hI e1 hi) (fun b hb => hrefs b (.inr hb))
            (by have := osize_pos v; have := unv_mul_le e1 U (W + 6); omega)).andThen fun _ _ _ => .ok
    · intro s src res key data enc hi hkey hgood hleaf hf
      rw [inlineKeyE_eq]
      split
      · exact .ok
      · next val hk =>
        have hl := hleaf.1 key hkey val hk
        split
        · next e' he => rw [he] at hl; exact .error hl
        · next he => rw [he] at hl; exact .error hl
        · next inl hi' =>
          obtain ⟨g1, g2⟩ := hgood.2.2 key hkey val inl hk hi'
          exact (ih.obj s inl hi g2 (by omega)).andThen fun _ _ _ => .ok
    · intro s src data enc hi hgood hleaf hf
      have ⟨g1, g2, _⟩ := hgood
      have hp := sortedEntries_perm src
      rw [copyStreamDictE_eq]
      refine (ih.kv s _ hi (fun b hb => g2 b ((kvrefs_perm hp b).mp hb))
        (by rw [kvsize_perm hp]; omega)).andThen fun res1 s1 hr1 => ?_
      have e1 := ((copies G f).kv hr1).1
      have m1 := unv_mul_le e1 U (W + 6)
      refine (ih.inl s1 src res1 keyFilter data enc (hI e1 hi) (.inl rfl) hgood hleaf (by omega)).andThen
        fun res2 s2 hr2 => ?_
      have e2 := ((copies G f).inl hr2).1
      have m2 := unv_mul_le e2 U (W + 6)
      exact ih.inl s2 src res2 keyDecodeParms data enc (hI e2 (hI e1 hi)) (.inr rfl) hgood hleaf (by omega)
    · intro s v hi hgood hleaf hf
      cases v with
      | obj o =>
        rw [copyValE_obj]
        exact (ih.obj s o hi hgood.2 (by have := hgood.1; omega)).andThen fun _ _ _ => .ok
      | stream dict data enc =>
        rw [copyValE_stream]
        refine (ih.sd s dict data enc hi hgood hleaf (by omega)).andThen fun _ _ _ => ?_
        have hl := hleaf.2
        split
        · next e' he => rw [he] at hl; exact .error hl
        · next he => rw [he] at hl; exact .error hl
        · exact .ok
    · intro s r hi hr hf
      have hs := copyRefE_step G f s r
      generalize copyRefE (f+1) G s r = x at hs
      cases hs with
      | old | known | copied => exact .ok
      | fails hn hw => exact .error (hwalk hi hr hn hw)
      | full => exact .error hover
      | @nested v chain e s3 hn hw hc =>
        have w := walk_ends hn hw
        -- `r` is translated from here on: the nested `Copy` has `W + 6` units less to cover
        have hlt : (unv U (entered s chain).trans + 1) * (W + 6) ≤ unv U s.trans * (W + 6) :=
          Nat.mul_le_mul_right _ (unv_enter_lt (n := refOf s.next) hr w.mem w.fresh)
        rw [Nat.add_mul] at hlt
        have := ih.val (entered s chain) v (hIe hi) (hC r v hr w.resolves) (hleaf hr w.resolves) (by omega)
        rw [hc] at this
        exact .error (this e rfl)
      | refused hn hw hc hp =>
        exact .error (hput hi hr (walk_ends hn hw).resolves hc hp)

end

theorem leafOK_ne_fuel (G : Graph) (v : Val) : LeafOK G (· ≠ .fuel) v := by
  cases v with
  | obj o => trivial
  | stream dict data enc =>
    refine ⟨fun key _ val _ => ?_, ?_⟩
    · have := inlineFilterRefs_ne_fuel G val
      split
      · next e he => intro h; subst h; exact this he
      · intro h; cases h
      · trivial
    · have := streamCryptRecipe_ne_fuel G dict enc
      split
      · next e he => intro h; subst h; exact this he
      · intro h; cases h
      · trivial

theorem no_fuel_main {G : Graph} {U : List Ref} {W : Nat} (hC : Closed G U W) :
    ∀ f, Bounded G U W (· ≠ .fuel) (fun _ => True) f := by
  refine bounded_main hC (fun _ _ => trivial) (fun _ => trivial) (by decide) ?_
    (fun _ _ => leafOK_ne_fuel G _) ?_
  · intro s r e _ _ hn hw h
    subst h
    exact (walk_fails hn hw).1 rfl
  · intro f s r v chain v' s3 e _ _ _ _ hp h
    subst h
    exact put_ne_fuel _ _ _ hp

theorem one_le_maxWeight (G : Graph) (ops : List Op) : 1 ≤ maxWeight G ops := by
  unfold maxWeight
  exact Nat.le_trans (base_le_foldr_max _ 1) (base_le_foldr_max _ _)

theorem entry_weight {G : Graph} {ops : List Op} {k : Ref} {e : Entry} (h : (k, e) ∈ G) :
    nodeWeight G e.node ≤ maxWeight G ops := by
  unfold maxWeight
  exact le_foldr_max (List.mem_map.mpr ⟨(k, e), h, rfl⟩)

theorem entry_refs {G : Graph} {ops : List Op} {k : Ref} {e : Entry} (h : (k, e) ∈ G) :
    ∀ b ∈ nodeRefs G e.node, b ∈ allRefs G ops := by
  intro b hb
  unfold allRefs
  exact List.mem_append_left _ (List.mem_flatMap.mpr ⟨(k, e), h, hb⟩)

theorem goodVal_of_weight {G : Graph} {U : List Ref} {W : Nat} {v : Val}
    (hw : valWeight G v ≤ W) (hr : ∀ b ∈ valAllRefs G v, b ∈ U) : GoodVal G U W v := by
  cases v with
  | obj o => exact ⟨hw, hr⟩
  | stream dict data enc =>
    simp only [valWeight] at hw
    simp only [valAllRefs, List.mem_append] at hr
    refine ⟨by omega, fun b hb => hr b (Or.inl (Or.inl hb)), ?_⟩
    intro key hkey val inl hk hi
    have hsz : inlSize G dict key = osize inl := by simp [inlSize, hk, hi]
    have hrf : inlRefs G dict key = orefs inl := by simp [inlRefs, hk, hi]
    rcases hkey with e | e <;> subst e
    · exact ⟨by omega, fun b hb => hr b (Or.inl (Or.inr (by rw [hrf]; exact hb)))⟩
    · exact ⟨by omega, fun b hb => hr b (Or.inr (by rw [hrf]; exact hb))⟩

theorem goodVal_of_mem {G : Graph} {ops : List Op} {v : Val}
    (h : v = .obj .null ∨ ∃ k e, (k, e) ∈ G ∧ e.node = .val v) :
    GoodVal G (allRefs G ops) (maxWeight G ops) v := by
  rcases h with h | ⟨k, e, hm, hv⟩
  · subst h
    exact ⟨one_le_maxWeight G ops, by simp [orefs]⟩
  · apply goodVal_of_weight
    · have := entry_weight (ops := ops) hm
      rw [hv] at this; exact this
    · have := entry_refs (ops := ops) hm
      rw [hv] at this; exact this

theorem closed_allRefs (G : Graph) (ops : List Op) : Closed G (allRefs G ops) (maxWeight G ops) :=
  fun _ _ _ hres => goodVal_of_mem (resolveOrNull_mem hres)

theorem opWeight_le {G : Graph} {ops : List Op} {op : Op} (h : op ∈ ops) : opWeight op ≤ maxWeight G ops := by
  unfold maxWeight
  exact Nat.le_trans (le_foldr_max (List.mem_map.mpr ⟨op, h, rfl⟩)) (base_le_foldr_max _ _)

theorem opRefs_mem {G : Graph} {ops : List Op} {op : Op} (h : op ∈ ops) :
    ∀ b ∈ opRefs op, b ∈ allRefs G ops := by
  intro b hb
  unfold allRefs
  exact List.mem_append_right _ (List.mem_flatMap.mpr ⟨op, h, hb⟩)

theorem fuelFor_covers (G : Graph) (ops : List Op) (s : St) (n : Nat) (hn : n ≤ maxWeight G ops + 5) :
    n + unv (allRefs G ops) s.trans * (maxWeight G ops + 6) ≤ fuelFor G ops := by
  have := Nat.mul_le_mul_right (maxWeight G ops + 6) (unv_le_length (allRefs G ops) s.trans)
  unfold fuelFor
  rw [Nat.add_mul]
  omega

theorem alloc_ne_fuel (s : St) : alloc s ≠ .error .fuel := fun h => by cases alloc_err h

theorem allocPutE_ne_fuel (s : St) (v : Val) : NoFuel (allocPutE s v) := by
  fun_cases allocPutE s v with
  | case1 e he => exact passed_on he (alloc_ne_fuel s)
  | case2 n s1 _ e he => exact passed_on he (put_ne_fuel s1 n v)
  | case3 => exact nofun

theorem copyRefE_fuelFor {G : Graph} {ops : List Op} {r : Ref} (hop : Op.copyRef r ∈ ops) (s : St) :
    NoFuel (copyRefE (fuelFor G ops) G s r) := fun h =>
  (no_fuel_main (closed_allRefs G ops) _).ref s r trivial (opRefs_mem hop r (by simp [opRefs]))
    (fuelFor_covers G ops s 1 (by omega)) _ h rfl

theorem copyValE_fuelFor {G : Graph} (ops : List Op) {r : Ref} {v : Val} (hg : CPY.get G r true = .ok v)
    (s : St) : NoFuel (copyValE (fuelFor G ops) G s v) := fun h =>
  (no_fuel_main (closed_allRefs G ops) _).val s v trivial (goodVal_of_mem (get_mem hg))
    (leafOK_ne_fuel G v) (fuelFor_covers G ops s _ (by omega)) _ h rfl

theorem copyObjE_fuelFor {G : Graph} {ops : List Op} {o : Obj} (hop : Op.copyObj o ∈ ops) (s : St) :
    NoFuel (copyObjE (fuelFor G ops) G s o) := fun h =>
  have hw : osize o ≤ maxWeight G ops := opWeight_le (G := G) hop
  (no_fuel_main (closed_allRefs G ops) _).obj s o trivial
    (fun b hb => opRefs_mem hop b (by simpa [opRefs] using hb))
    (fuelFor_covers G ops s _ (by omega)) _ h rfl

theorem stepOpE_no_fuel (G : Graph) (ops : List Op) (s : St) (roots : List (Except CErr Ref)) (op : Op)
    (hop : op ∈ ops) : NoFuel (stepOpE (fuelFor G ops) G s roots op) := by
  cases op with
  | copyRef r => exact copyRefE_fuelFor hop s
  | copyGet r =>
    rw [stepOpE_copyGet]
    cases hg : CPY.get G r true with
    | error e => intro h; cases h; exact get_ne_fuel G r true hg
    | ok v => exact NoFuel.andThen (copyValE_fuelFor ops hg s) fun _ _ => allocPutE_ne_fuel _ _
  | copyObj o => rw [stepOpE_copyObj]; exact NoFuel.andThen (copyObjE_fuelFor (G := G) hop s) fun _ _ => allocPutE_ne_fuel _ _
  | redirectNew r m => rw [stepOpE_redirectNew]; exact NoFuel.andThen (allocPutE_ne_fuel s _) fun _ _ => nofun
  | redirectTo r k =>
    simp only [stepOpE]
    split <;> exact nofun

theorem runOpsE_no_fuel (G : Graph) (ops : List Op) : ∀ (rest : List Op), (∀ op ∈ rest, op ∈ ops) →
    ∀ (s : St) (roots : List (Except CErr Ref)), (∀ x ∈ roots, x ≠ .error .fuel) →
      ∀ x ∈ (runOpsE (fuelFor G ops) G s roots rest).1, x ≠ .error .fuel
  | [], _, _, _, hr => hr
  | op :: rest, hsub, s, roots, hr => by
    simp only [runOpsE]
    apply runOpsE_no_fuel G ops rest (fun o ho => hsub o (List.mem_cons_of_mem _ ho))
    intro x hx
    rcases List.mem_append.mp hx with h | h
    · exact hr x h
    · cases List.mem_singleton.mp h
      exact stepOpE_no_fuel G ops s roots op (hsub op List.mem_cons_self)

/-- Termination.  The recursion of `Copy`/`CopyReference` is bounded: run
with `fuelFor G ops` — (number of references occurring in the source and the program + 2) ×
(largest object + 6) — no program over any source graph, cyclic or not, ever exhausts the budget.
The bound holds because a reference is entered into `trans` before its object is copied, so
each reference of the (finite) graph starts a nested copy at most once. -/
theorem fuel_suffices (G : Graph) (ops : List Op) (s : St) (roots : List Ref) :
    ∀ (i : Nat), runOps (fuelFor G ops) G s roots ops ≠ .error (i, .fuel) := by
  intro i h
  have := runOps_sim G (fuelFor G ops) ops s roots
  rw [h] at this
  exact runOpsE_no_fuel G ops ops (fun _ h => h) s (roots.map .ok)
    (fun x hx => by obtain ⟨_, _, rfl⟩ := List.mem_map.mp hx; exact nofun) _ this rfl

structure FuelStable (G : Graph) (f : Nat) : Prop where
  obj : ∀ {s o}, NoFuel (copyObjE f G s o) → copyObjE (f+1) G s o = copyObjE f G s o
  list : ∀ {s xs}, NoFuel (copyListE f G s xs) → copyListE (f+1) G s xs = copyListE f G s xs
  kv : ∀ {s L}, NoFuel (copyKVE f G s L) → copyKVE (f+1) G s L = copyKVE f G s L
  inl : ∀ {s src res key}, NoFuel (inlineKeyE f G s src res key) →
    inlineKeyE (f+1) G s src res key = inlineKeyE f G s src res key
  sd : ∀ {s src}, NoFuel (copyStreamDictE f G s src) → copyStreamDictE (f+1) G s src = copyStreamDictE f G s src
  val : ∀ {s v}, NoFuel (copyValE f G s v) → copyValE (f+1) G s v = copyValE f G s v
  ref : ∀ {s r}, NoFuel (copyRefE f G s r) → copyRefE (f+1) G s r = copyRefE f G s r

/-- A call is a sequence of nested calls with one unit less.  Had one of them run out of fuel, so
    would the whole (`hne`): the induction hypothesis applies to it, and what comes after it is
    looked at only where it succeeded (`andThen_fuel`). -/
theorem fuel_step (G : Graph) : ∀ f : Nat, FuelStable G f := by
  intro f
  induction f with
  | zero =>
    exact ⟨fun h => absurd rfl h, fun h => absurd rfl h, fun h => absurd rfl h, fun h => absurd rfl h,
      fun h => absurd rfl h, fun h => absurd rfl h, fun h => absurd rfl h⟩
  | succ f ih =>
    refine ⟨?_, ?_, ?_, ?_, ?_, ?_, ?_⟩
    · intro s o hne
      cases o with
      | dict kv => rw [copyObjE_dict] at hne ⊢; rw [copyObjE_dict]; exact andThen_fuel hne ih.kv fun _ _ _ _ => rfl
      | arr xs => rw [copyObjE_arr] at hne ⊢; rw [copyObjE_arr]; exact andThen_fuel hne ih.list fun _ _ _ _ => rfl
      | ref n g => rw [copyObjE_ref] at hne ⊢; rw [copyObjE_ref]; exact andThen_fuel hne ih.ref fun _ _ _ _ => rfl
      | _ => rfl
    · intro s xs hne
      cases xs with
      | nil => rfl
      | cons x xs =>
        rw [copyListE_cons] at hne ⊢; rw [copyListE_cons]
        exact andThen_fuel hne ih.obj fun _ _ _ h1 => andThen_fuel h1 ih.list fun _ _ _ _ => rfl
    · intro s L hne
      cases L with
      | nil => rfl
      | cons p rest =>
        obtain ⟨k, v⟩ := p
        by_cases hv : v = .null
        · subst hv; rw [copyKVE_null] at hne ⊢; rw [copyKVE_null]; exact andThen_fuel hne ih.kv fun _ _ _ _ => rfl
        · rw [copyKVE_cons _ _ _ _ _ _ hv] at hne ⊢; rw [copyKVE_cons _ _ _ _ _ _ hv]
          exact andThen_fuel hne ih.obj fun _ _ _ h1 => andThen_fuel h1 ih.kv fun _ _ _ _ => rfl
    · intro s src res key hne
      rw [inlineKeyE_eq] at hne ⊢; rw [inlineKeyE_eq]
      split
      · rfl
      · next val hk =>
        split
        · rfl
        · rfl
        · next inl hi => simp only [hk, hi] at hne; exact andThen_fuel hne ih.obj fun _ _ _ _ => rfl
    · intro s src hne
      rw [copyStreamDictE_eq] at hne ⊢; rw [copyStreamDictE_eq]
      exact andThen_fuel hne ih.kv fun _ _ _ h1 => andThen_fuel h1 ih.inl fun _ _ _ h2 => ih.inl h2
    · intro s v hne
      cases v with
      | obj o => rw [copyValE_obj] at hne ⊢; rw [copyValE_obj]; exact andThen_fuel hne ih.obj fun _ _ _ _ => rfl
      | stream dict data enc =>
        rw [copyValE_stream] at hne ⊢; rw [copyValE_stream]; exact andThen_fuel hne ih.sd fun _ _ _ _ => rfl
    · intro s r hne
      simp only [copyRefE, NoFuel] at hne ⊢
      cases ht : assoc r s.trans with
      | some t => rfl
      | none =>
        rw [ht] at hne
        simp only at hne ⊢
        cases hw : walkFrom G s.trans r with
        | fails e => rfl
        | dead => rfl
        | known t chain => rfl
        | ends v chain =>
          rw [hw] at hne
          simp only at hne ⊢
          cases ha : alloc s with
          | error e => rfl
          | ok p =>
            rw [ha] at hne
            simp only at hne ⊢
            -- a `fuel` error of the nested `Copy` comes out of both rollback branches unchanged, so the
            -- nested call does not run out either; what follows it is the same on both sides
            rw [ih.val fun hs => hne (by
              rcases hc : copyValE f G _ v with ⟨_ | _, _⟩ <;> rw [hc] at hs
              · cases hs; rfl
              · cases hs)]

section
variable (G : Graph)

/-- Once a call does not run out of fuel, more fuel gives the same result:
the theorems about `copyRef` are about the `Copier`, not about a particular budget. -/
theorem fuel_irrelevant {f : Nat} {s : St} {r : Ref} (h : copyRef f G s r ≠ .error .fuel) :
    ∀ k, copyRef (f + k) G s r = copyRef f G s r := by
  have hE : ∀ k, copyRefE (f + k) G s r = copyRefE f G s r := by
    intro k
    induction k with
    | zero => rfl
    | succ k ih =>
      rw [← Nat.add_assoc, (fuel_step G (f + k)).ref (by
        rw [ih]; exact fun hf => h (by rw [← copyRefE_agrees, toPlain_error]; exact hf)), ih]
  intro k
  rw [← copyRefE_agrees, ← copyRefE_agrees, hE]

end

theorem isCryptName_map {tr : List (Ref × Ref)} {x y : Obj} (h : mapObj tr x = some y) :
    isCryptName y = isCryptName x := by
  cases x with
  | ref n g => obtain ⟨_, _, rfl⟩ := mapObj_ref.mp h; rfl
  | arr xs => obtain ⟨_, _, rfl⟩ := mapObj_arr.mp h; rfl
  | dict kv => obtain ⟨_, _, rfl⟩ := mapObj_dict.mp h; rfl
  | _ => cases h; rfl

theorem anyCrypt_map {tr : List (Ref × Ref)} :
    ∀ (xs ys : List Obj), mapList tr xs = some ys → ys.any isCryptName = xs.any isCryptName
  | [], ys => by intro e; cases e; rfl
  | x :: xs, ys => by
    intro h
    obtain ⟨y, ys', hy, hys, rfl⟩ := mapList_cons.mp h
    simp only [List.any_cons, isCryptName_map hy, anyCrypt_map xs ys' hys]

theorem parseCryptKind_map {tr : List (Ref × Ref)} {p p' : KV} (h : mapKV tr p = some p') :
    parseCryptKind (some p') = parseCryptKind (some p) := by
  simp only [parseCryptKind, Option.bind_some]
  rcases kvLookup_mapKV keyName p p' h with ⟨h1, h2⟩ | ⟨x, y, h1, h2, hxy⟩
  · rw [h1, h2]
  · rw [h1, h2]
    cases x with
    | ref n g => obtain ⟨_, _, rfl⟩ := mapObj_ref.mp hxy; rfl
    | arr xs => obtain ⟨_, _, rfl⟩ := mapObj_arr.mp hxy; rfl
    | dict kv => obtain ⟨_, _, rfl⟩ := mapObj_dict.mp hxy; rfl
    | _ => cases hxy; rfl

/-- the names `dictCryptFilter` loops over -/
def filterNames (d : KV) : List Obj :=
  match kvLookup keyFilter d with
  | some (.name f) => [.name f]
  | some (.arr xs) => xs
  | _ => []

/-- the parameters `dictCryptFilter` hands to `parseCrypt` -/
def cryptParms (d : KV) : Option KV :=
  match kvLookup keyDecodeParms d with
  | some (.dict p) => some p
  | some (.arr (.dict p :: _)) => some p
  | _ => none

def cryptOf (names : List Obj) (parms : Option KV) : Except CErr (Option FKind) :=
  match names with
  | [] => .ok none
  | x :: rest =>
    if isCryptName x then
      match parseCryptKind parms with
      | .error e => .error e
      | .ok k => if rest.any isCryptName then .error .other else .ok (some k)
    else if rest.any isCryptName then .error .other else .ok none

theorem dictCryptKind_eq (d : KV) : dictCryptKind d = cryptOf (filterNames d) (cryptParms d) := rfl

theorem filterNames_map {tr : List (Ref × Ref)} {d d' : KV} (h : mapKV tr d = some d') :
    mapList tr (filterNames d) = some (filterNames d') := by
  unfold filterNames
  rcases kvLookup_mapKV keyFilter d d' h with ⟨h1, h2⟩ | ⟨x, y, h1, h2, hxy⟩
  · rw [h1, h2]; rfl
  · rw [h1, h2]
    cases x with
    | ref n g => obtain ⟨_, _, rfl⟩ := mapObj_ref.mp hxy; rfl
    | arr xs => obtain ⟨ys, hys, rfl⟩ := mapObj_arr.mp hxy; exact hys
    | dict kv => obtain ⟨_, _, rfl⟩ := mapObj_dict.mp hxy; rfl
    | _ => cases hxy; rfl

theorem cryptParms_map {tr : List (Ref × Ref)} {d d' : KV} (h : mapKV tr d = some d') :
    parseCryptKind (cryptParms d') = parseCryptKind (cryptParms d) := by
  unfold cryptParms
  rcases kvLookup_mapKV keyDecodeParms d d' h with ⟨h1, h2⟩ | ⟨x, y, h1, h2, hxy⟩
  · rw [h1, h2]
  · rw [h1, h2]
    cases x with
    | ref n g => obtain ⟨_, _, rfl⟩ := mapObj_ref.mp hxy; rfl
    | dict kv => obtain ⟨kv', hkv, rfl⟩ := mapObj_dict.mp hxy; exact parseCryptKind_map hkv
    | arr xs =>
      -- the first element of the array decides
      obtain ⟨ys, hys, rfl⟩ := mapObj_arr.mp hxy
      cases xs with
      | nil => cases hys; rfl
      | cons x0 xr =>
        obtain ⟨y0, yr, hy0, _, rfl⟩ := mapList_cons.mp hys
        cases x0 with
        | ref n g => obtain ⟨_, _, rfl⟩ := mapObj_ref.mp hy0; rfl
        | arr zs => obtain ⟨_, _, rfl⟩ := mapObj_arr.mp hy0; rfl
        | dict kv => obtain ⟨kv', hkv, rfl⟩ := mapObj_dict.mp hy0; exact parseCryptKind_map hkv
        | _ => cases hy0; rfl
    | _ => cases hxy; rfl

theorem cryptOf_map {tr : List (Ref × Ref)} {xs ys : List Obj} (h : mapList tr xs = some ys)
    {p p' : Option KV} (hp : parseCryptKind p' = parseCryptKind p) : cryptOf ys p' = cryptOf xs p := by
  cases xs with
  | nil => cases h; rfl
  | cons x rest =>
    obtain ⟨y, ys', hy, hys, rfl⟩ := mapList_cons.mp h
    simp only [cryptOf, isCryptName_map hy, anyCrypt_map rest ys' hys, hp]

/-- The refusal is a property of the source stream: whether `Writer.Put` refuses the copy
    of a stream can be read off the (inlined) source dictionary; the translation of the references
    does not matter. -/
theorem putRefusal_map {tr : List (Ref × Ref)} {sp v' : Val} (tv : Nat) (h : mapVal tr sp = some v') :
    putRefusal tv v' = putRefusal tv sp := by
  cases sp with
  | obj o => obtain ⟨_, _, rfl⟩ := mapVal_obj.mp h; rfl
  | stream d data enc =>
    obtain ⟨d', hd, rfl⟩ := mapVal_stream.mp h
    simp only [putRefusal, dictCryptKind_eq]
    rw [cryptOf_map (filterNames_map hd) (cryptParms_map hd)]

theorem put_succeeds {G : Graph} {s s3 : St} {chain : List Ref} (v : Val) (hp : PB s)
    (h : Eff G (entered s chain) s3) (hacc : putRefusal s3.tgtV v = none) :
    ∃ s4, put s3 (refOf s.next) v = .ok s4 := by
  obtain ⟨_, P, hb, _, hk⟩ := h.frame
  simp only [entered_puts, entered_next] at hb hk
  have hfree : s3.puts.any (fun p => p.1.1 == (refOf s.next).1) = false := by
    rw [List.any_eq_false]
    intro p hpm
    simp only [refOf, beq_iff_eq]
    rw [hb, List.mem_append] at hpm
    rcases hpm with e | e
    · have := hp p.1 (List.mem_map.mpr ⟨p, e, rfl⟩); omega
    · obtain ⟨m, hm, h1, _⟩ := hk p.1 (List.mem_map.mpr ⟨p, e, rfl⟩)
      rw [hm]; simp only [refOf]; omega
  unfold put
  rw [hfree, hacc]
  exact ⟨_, rfl⟩

/-- a source value the copier can copy into a target with /V `tv` (0: not encrypted): /Filter and
    /DecodeParms can be inlined, the source's crypt filter can be decoded, and the target takes
    the stream's /Crypt filter, if it names one (`putRefusal`: only /Identity, and only where crypt
    filters exist) -/
def BenignVal (G : Graph) (tv : Nat) : Val → Prop
  | .obj _ => True
  | .stream dict data enc =>
    (∀ key, (key = keyFilter ∨ key = keyDecodeParms) → ∀ val, kvLookup key dict = some val →
      ∃ inl, inlineFilterRefs G val = .ok (.obj inl)) ∧
    (∃ rc, streamCryptRecipe G dict enc = .ok rc ∧ rc ≠ .unsupportedCF) ∧
    ∀ d, specDict G dict = some d → putRefusal tv (.stream d data false) = none

/-- every reference of `U` can be read, and the streams among them have a well-formed filter
    chain and no crypt filter the library cannot decode -/
def Benign (G : Graph) (tv : Nat) (U : List Ref) : Prop :=
  ∀ r ∈ U, ∃ v, resolveOrNull G r = .ok v ∧ BenignVal G tv v

theorem success_main {G : Graph} {U : List Ref} {W tv : Nat} (hC : Closed G U W) (hB : Benign G tv U) :
    ∀ f, Bounded G U W (· = .overflow) (fun s => PB s ∧ s.tgtV = tv) f := by
  refine bounded_main hC (fun e hp => ⟨e.frame.pb hp.1, e.tgtV.trans hp.2⟩) ?_ rfl ?_ ?_ ?_
  · intro s chain hp
    exact ⟨fun k hk => Nat.lt_succ_of_lt (hp.1 k hk), hp.2⟩
  · -- `r` can be read (`hB`) while `Resolve` fails with `e`: then `e` is `malformed`, which the walk never reports
    intro s r e _ hr hn hw
    obtain ⟨_, hne, hl⟩ := walk_fails hn hw
    obtain ⟨v0, hres0, _⟩ := hB r hr
    rw [resolveOrNull_of_loop, hl] at hres0
    cases e <;> simp_all   -- `hne` excludes `malformed`, `hres0` every other error
  · intro r v hr hres
    obtain ⟨v0, hres0, hb⟩ := hB r hr
    rw [hres0] at hres; cases hres
    cases v with
    | obj o => trivial
    | stream dict data enc =>
      obtain ⟨b1, ⟨rc, hrc, hne⟩, _⟩ := hb
      refine ⟨fun key hk val hv => ?_, ?_⟩
      · obtain ⟨inl, hi⟩ := b1 key hk val hv
        rw [hi]; trivial
      · rw [hrc]
        cases rc with
        | unsupportedCF => exact absurd rfl hne
        | _ => trivial
  · -- `Put` takes the copy: its number is new, and the refusal is a property of the source
    intro f s r v chain v' s3 e hp hr hres hc hpe
    obtain ⟨v0, hres0, hb⟩ := hB r hr
    rw [hres0] at hres; cases hres
    obtain ⟨e23, sp, hsp, hmv⟩ := (copies G f).val hc
    have hacc : putRefusal s3.tgtV v' = none := by
      rw [putRefusal_map _ hmv, e23.tgtV.trans hp.2]
      cases v with
      | obj o => simp only [specVal] at hsp; cases hsp; rfl
      | stream dict data enc =>
        simp only [specVal] at hsp
        split at hsp
        · next d hd => cases hsp; exact hb.2.2 d hd
        · cases hsp
    obtain ⟨s4, h4⟩ := put_succeeds v' hp.1 e23 hacc
    rw [h4] at hpe; cases hpe

/-- On a readable source (`Benign`: no I/O failure, well-formed filter chains, no crypt filter the library
cannot decode or the target's `Writer.Put` refuses) `CopyReference`, run with the driver's fuel from any
state whose written object numbers are below `next` (a new `Writer`, or any state reached by the copier),
returns a reference or reports the object-number overflow of `Writer.Alloc`.  Malformed objects, dangling
references and reference cycles are not failures. -/
theorem copy_succeeds (G : Graph) (ops : List Op) (r : Ref) (hop : Op.copyRef r ∈ ops)
    (s : St) (hB : Benign G s.tgtV (allRefs G ops)) (hp : PB s) :
    (∃ t s', copyRef (fuelFor G ops) G s r = .ok (t, s')) ∨
      copyRef (fuelFor G ops) G s r = .error .overflow := by
  have := (success_main (closed_allRefs G ops) hB (fuelFor G ops)).ref s r ⟨hp, rfl⟩
    (opRefs_mem hop r (by simp [opRefs])) (fuelFor_covers G ops s 1 (by omega))
  rw [← copyRefE_agrees]
  generalize copyRefE (fuelFor G ops) G s r = x at this ⊢
  rcases x with ⟨e | t, s'⟩
  · rw [this e rfl]; exact Or.inr rfl
  · exact Or.inl ⟨t, s', rfl⟩

theorem init_pb (n0 : Nat) (tv : Nat := 0) : PB (St.init n0 tv) := by simp [PB, St.init]

end PdfVerif.C11cpyb
