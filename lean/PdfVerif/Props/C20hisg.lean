import PdfVerif.Model.HISSeq
import PdfVerif.Props.C20hisc
import PdfVerif.Props.C20hisd
import PdfVerif.Props.C20hisf
/-!
# C20 — every header is recorded, at the level of `locateObjects`

`locLoop_records_header`, `locate_records_header`: for every file and any number of scan windows the scan loop /
`locateObjects` lists every header `LF N ws G ws obj` of at most 64 bytes; both are `C20hisd.locLoop_records`.  With
`C20hise.locateObjects_line_initial` (nothing is listed in the middle of a line): the multi-window listing theorem.

Not proved, of what DESIGN §5 C20 asks of the scan (`notes/C20.md` has the list): that a header is recorded
only once (the recorded offsets increase strictly); that the fuel of the model suffices (the statements assume
that the scan returns; `.other` is not excluded); headers behind CR, CR LF or an empty line (the byte in front
of the LF must not be an end-of-line byte, unless the scan starts at the LF: `C20hisd.locLoop_records`); the window
state after the `%PDF-x.y` match is a hypothesis (`runeLen_le` is the bound that is needed for it).  For a whole
writer-shaped input the listing is `C20hisd.locLoop_lists`; reading the objects found there back through the
windowed scan is not assembled (`C20hisd.scan_recovers_flat_partial` does it for the un-windowed one).
-/
namespace PdfVerif.C20hisg
open PdfVerif PdfVerif.HIS PdfVerif.C20hisc PdfVerif.C20hisd PdfVerif.C20hisf

/-- The scan loop records every line-initial header of at most 64 bytes: `C20hisd.locLoop_records` for a
scan that starts anywhere at or before the header; the byte in front of the header's LF must then be no
end-of-line byte (LF line starts as the Writer emits them). -/
theorem locLoop_records_header (file : Bytes) (a : Nat) (n w1 g w2 rest : Bytes) (h : HeaderAt file a n w1 g w2 rest)
    (hk : 1 + (headerBytes n w1 g w2).length ≤ Gen.his_scanner_regexpOverlap)
    (hprev : a = 0 ∨ ∃ c, file[a - 1]? = some c ∧ isEolByte c = false)
    (hnv : digitsVal n 0 < Gen.his_xref_maxXRefSize) (hgv : digitsVal g 0 < 65536) :
    ∀ (fuel : Nat) (w : Win) (s sfin : LocState) (wfin : Win), Inv file w → w.base + w.pos ≤ a → WF s →
    locLoop file fuel w s = .ok (sfin, wfin) →
    ({ num := digitsVal n 0, gen := digitsVal g 0, start := a + 1 } : FileObject) ∈ allObjs sfin :=
  fun fuel w s sfin wfin hi hP _ hloop =>
    (locLoop_records file a n w1 g w2 rest h hk hnv hgv 0 (.inr hprev) fuel w s sfin wfin hi (Nat.zero_le _) hP hloop).mem_allObjs

theorem runeLen_le : ∀ t : Bytes, runeLen t ≤ t.length := by
  intro t
  -- every case of the definition returns at most the number of bytes it has looked at
  fun_cases runeLen t
  all_goals (simp only [List.length_cons, List.length_nil]; omega)

/-- Every header is listed, at the level of `locateObjects` (LF line starts): if the scan returns a
listing, it contains every header `LF N ws G ws obj` of at most 64 bytes that lies behind the `%PDF-x.y`
match, with number, generation and the offset of its first digit — for any file length, i.e. any number of
scan windows.  The window state `w0` after the `%PDF-x.y` match is a hypothesis, with its invariant
(`runeLen_le` is the bound `startRegexp` needs for it). -/
theorem locate_records_header (file : Bytes) (a : Nat) (n w1 g w2 rest : Bytes) (h : HeaderAt file a n w1 g w2 rest)
    (hk : 1 + (headerBytes n w1 g w2).length ≤ Gen.his_scanner_regexpOverlap)
    (hprev : a = 0 ∨ ∃ c, file[a - 1]? = some c ∧ isEolByte c = false)
    (hnv : digitsVal n 0 < Gen.his_xref_maxXRefSize) (hgv : digitsVal g 0 < 65536)
    (w0 : Win) (p0 l0 : Nat) (v0 : Bytes)
    (hfirst : find file matchStart (file.length + 8) { base := 0, pos := 0, used := 0 } = .ok (w0, p0, l0, v0))
    (hinv : Inv file w0) (hstart : w0.base + w0.pos ≤ a)
    (loc : Located) (hloc : locateObjects file = .ok loc) :
    ({ num := digitsVal n 0, gen := digitsVal g 0, start := a + 1 } : FileObject)
      ∈ loc.sections.flatMap (·.objects) := by
  exact locateObjects_lists file loc hloc w0 p0 l0 v0 hfirst _ fun s w hloop =>
    locLoop_records file a n w1 g w2 rest h hk hnv hgv 0 (.inr hprev) _ _ _ _ _ hinv (Nat.zero_le _) hstart hloop

-- non-vacuity: the two-window file of C20hisf (header `12 0 obj`, LF at 1019, first window ends at
-- 1024): all hypotheses of `locate_records_header` hold
example : ∃ w0 p0 l0 v0,
    find C20hisf.exFile matchStart (C20hisf.exFile.length + 8) { base := 0, pos := 0, used := 0 } = .ok (w0, p0, l0, v0)
    ∧ Inv C20hisf.exFile w0 ∧ w0.base + w0.pos ≤ 1019
    ∧ (∃ c, C20hisf.exFile[1019 - 1]? = some c ∧ isEolByte c = false)
    ∧ digitsVal [49, 50] 0 < Gen.his_xref_maxXRefSize ∧ digitsVal [48] 0 < 65536 := by
  refine ⟨{ base := 0, pos := 9, used := 1024 }, 0, 9, [49, 46, 55], ?_, ?_, by decide, ⟨120, by decide +kernel, by decide⟩, by decide, by decide⟩
  · have : (match find C20hisf.exFile matchStart (C20hisf.exFile.length + 8) { base := 0, pos := 0, used := 0 } with
        | .ok (w, p, l, v) => w == { base := 0, pos := 9, used := 1024 } && p == 0 && l == 9 && v == [49, 46, 55]
        | .error _ => false) = true := by decide +kernel
    split at this
    · rename_i w p l v heq
      simp only [Bool.and_eq_true, beq_iff_eq] at this
      obtain ⟨⟨⟨h1, h2⟩, h3⟩, h4⟩ := this
      rw [heq, h1, h2, h3, h4]
    · cases this
  · exact ⟨by decide, by decide, by decide +kernel, fun hlt => absurd hlt (by decide)⟩

end PdfVerif.C20hisg
