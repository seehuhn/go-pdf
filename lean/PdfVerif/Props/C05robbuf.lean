import PdfVerif.Lemmas.ROBBuf
/-!
# The scanner's 1024-byte window refines the whole-input view (C05, C19)

The window operations are compared with the whole-input readers in `Lemmas/ROBBuf.lean`, for every reader that is
`FaultyOver d e0`.  This file:

* the readers of the correspondence run, fault-free with any chunking and fault-injecting, are such readers
  (`goodSrc_faultyOver`, `faultySrc_faultyOver`);
* `scanBytes_terminates`: the fuel `scanBytesFuel` always suffices — the measure is
  "bytes the reader has not delivered yet", and it exists only because of the D8 fix
  (`err != nil && s.pos >= s.used`);
* the fault-free corollaries (`*_refines`) as stand-alone statements: a fault-free reader (`GoodOver`) is one on which
  nothing is ever latched (`no_fault`, `kept_noerr`).
-/
namespace PdfVerif.C05robbuf
open PdfVerif PdfVerif.ROB

theorem goodSrc_prefix (d : Bytes) (chunk k off want : Nat) : (goodSrc d chunk k off want).1 <+: d.drop off := by
  unfold goodSrc
  split
  · exact List.nil_prefix
  · exact List.take_prefix _ _

theorem goodSrc_faultFree (d : Bytes) (chunk : Nat) : FaultFree (goodSrc d chunk) := by
  intro k off want x h
  unfold goodSrc at h
  by_cases ho : off ≥ d.length
  · simp [ho] at h; exact h.symm
  · simp [ho] at h

theorem goodSrc_faultyOver (d : Bytes) (chunk : Nat) (e0 : Err) (he : e0 ≠ .eof) :
    FaultyOver d e0 (goodSrc d chunk) where
  pre k off want := (List.take_prefix _ _).trans (goodSrc_prefix d chunk k off want)
  progress k off want hw hnone := by
    unfold goodSrc at hnone ⊢
    by_cases ho : off ≥ d.length
    · simp [ho] at hnone
    · simp only [ho, if_false]
      have hl : 0 < (d.drop off).length := by simp; omega
      have hwp : 0 < (if chunk = 0 then want else min want chunk) := by
        split <;> omega
      intro hc
      have := congrArg List.length hc
      simp at this
      omega
  ateof k off want h := by
    unfold goodSrc at h ⊢
    by_cases ho : off ≥ d.length
    · simp only [ho, if_true]
      simp [List.drop_eq_nil_of_le ho]
    · simp [ho] at h
  faults k off want x h := .inl (goodSrc_faultFree d chunk k off want x h)
  e0_ne := he

/-- the fault-injecting reader of the driver (`fail from call k`, `fail only call k`, with any number
    of bytes delivered together with the error) is a faulty reader over `d` -/
theorem faultySrc_faultyOver (d : Bytes) (chunk : Nat) (m : FaultMode) (e0 : Err) (he : e0 ≠ .eof) :
    FaultyOver d e0 (faultySrc d chunk m e0) := by
  refine faultyOver_inject (goodSrc_faultyOver d chunk e0 he) fun k off want => ?_
  unfold faultySrc
  cases m with
  | none => exact .inl rfl
  | fromK k0 short =>
    by_cases hk : k ≥ k0
    · exact .inr ⟨short, by simp [hk]⟩
    · exact .inl (by simp [hk])
  | onlyK k0 short =>
    by_cases hk : k = k0
    · exact .inr ⟨short, by simp [hk]⟩
    · exact .inl (by simp [hk])

/-- a reader over `d` that never fails, said through `FaultyOver`: it is such a reader whatever the fault `e0` -/
def GoodOver (d : Bytes) (src : Source) : Prop := ∀ e0, e0 ≠ Err.eof → FaultyOver d e0 src

theorem goodSrc_goodOver (d : Bytes) (chunk : Nat) : GoodOver d (goodSrc d chunk) :=
  fun e0 he => goodSrc_faultyOver d chunk e0 he

theorem coh_any {d : Bytes} {e0 e1 : Err} {s : SB} (c : Coh d e0 s) (h : s.err = none) : Coh d e1 s :=
  ⟨c.pos_le, c.len_le, c.off_le, c.nohang, by simp [h]⟩

/-- a fault-free reader is a faulty reader for every fault `e0`; so what holds "or the fault `e0` was
    reported" for the two faults `.io` and `.other` holds -/
theorem no_fault {α : Type} {x : α} (f : Err → α) (hf : f .io ≠ f .other) {A : Prop}
    (h : ∀ e0 : Err, e0 ≠ .eof → A ∨ x = f e0) : A := by
  rcases h .io (by decide) with a | h1
  · exact a
  · rcases h .other (by decide) with a | h2
    · exact a
    · exact absurd (h1.symm.trans h2) hf

/-- nothing is ever latched on a fault-free reader (`.io` stands for any class other than EOF: `Coh d e0 s` with
    `s.err = none` is `Coh d e1 s`, `coh_any`) -/
theorem kept_noerr {d : Bytes} {src : Source} (g : GoodOver d src) : Kept d .io src fun s => s.err = none where
  adv _ _ _ p _ := p
  refill s c p := no_fault some (by simp) fun e0 he => (refill_spec (g e0 he) s (coh_any c p)).coh.err_cases
  hang _ p := p

/-- **`ScanBytes` terminates** on every reader that serves at most the bytes of `d` (with or
    without faults): with fuel `scanBytesFuel (bytes not yet delivered)` the out-of-fuel branch is
    never taken.  (The return after a latched error, D8, is what gives the loop its measure: without it the Go loop
    does not end once the reader has failed.) -/
theorem scanBytes_terminates {σ : Type} {d : Bytes} {e0 : Err} {src : Source} (h : FaultyOver d e0 src)
    (acc : σ → Nat → Option σ) (empty : Bool) (st : σ) (s : SB) (c : Coh d e0 s) :
    (scanBytes src acc (scanBytesFuel (d.length - s.srcOff)) empty st s).1.hang = false :=
  (scanBytes_spec h acc _ empty st s c (by simp [scanBytesFuel])).1.nohang

/-- **`PeekN` refines the whole-input view** on a fault-free reader. -/
theorem peekN_refines {d : Bytes} {src : Source} (g : GoodOver d src) (n : Nat) (hn : n ≤ bufSize)
    (s : SB) (c : Coh d .io s) (hs : s.err = none) :
    (peekN src n s).2 = ((view d s).take n, none) ∧ view d (peekN src n s).1 = view d s ∧
    Coh d .io (peekN src n s).1 ∧ (peekN src n s).1.err = none := by
  have P := peekN_spec (g .io (by decide)) n hn s c
  have hnone : (peekN src n s).1.err = none := (kept_noerr g).peekN (g .io (by decide)) n hn s c hs
  refine ⟨?_, P.view_eq, P.coh, hnone⟩
  rcases P.out with ⟨a, b⟩ | ⟨_, b⟩
  · exact Prod.ext b a
  · rw [hnone] at b; cases b

/-- **`ReadByte` refines the whole-input view** on a fault-free reader. -/
theorem readByte_refines {d : Bytes} {src : Source} (g : GoodOver d src) (s : SB) (c : Coh d .io s)
    (hs : s.err = none) :
    ((readByte src s).2, view d (readByte src s).1) = readByteSpec (view d s) ∧ Coh d .io (readByte src s).1 := by
  exact ⟨no_fault (x := (readByte src s).2) Except.error (by simp) fun e0 he =>
      (readByte_spec (g e0 he) s (coh_any c hs)).2.imp_right And.left,
    (readByte_spec (g .io (by decide)) s c).1⟩

/-- **`ScanBytes` refines the whole-input view** on a fault-free reader. -/
theorem scanBytes_refines {σ : Type} {d : Bytes} {src : Source} (g : GoodOver d src)
    (acc : σ → Nat → Option σ) (empty : Bool) (st : σ) (s : SB) (c : Coh d .io s) (hs : s.err = none)
    (fuel : Nat) (hf : scanBytesFuel (d.length - s.srcOff) ≤ fuel) :
    scanSpec acc st (view d s) = ((scanBytes src acc fuel empty st s).2.1, view d (scanBytes src acc fuel empty st s).1,
      decide ((scanBytes src acc fuel empty st s).2.2 = some .eof)) ∧
    ((scanBytes src acc fuel empty st s).2.2 = none ∨ (scanBytes src acc fuel empty st s).2.2 = some .eof) ∧
    Coh d .io (scanBytes src acc fuel empty st s).1 := by
  obtain ⟨a, b⟩ := no_fault some (by simp) fun e0 he =>
    (scanBytes_spec (g e0 he) acc fuel empty st s (coh_any c hs) hf).2.imp_right And.left
  exact ⟨b, a, (scanBytes_spec (g .io (by decide)) acc fuel empty st s c hf).1⟩

/-- **`SkipWhiteSpace` refines `skipWS`** of `Model/Scan.lean` on a fault-free reader: the view
    afterwards is the first component of `skipWS (view)`, and `io.EOF` is returned exactly when
    `skipWS` reports the end of the input. -/
theorem skipWhiteSpace_refines {d : Bytes} {src : Source} (g : GoodOver d src) (s : SB) (c : Coh d .io s)
    (hs : s.err = none) (fuel : Nat) (hf : scanBytesFuel (d.length - s.srcOff) ≤ fuel) :
    skipWS (view d s) = (view d (skipWhiteSpace src fuel s).1, decide ((skipWhiteSpace src fuel s).2 = some .eof)) ∧
    ((skipWhiteSpace src fuel s).2 = none ∨ (skipWhiteSpace src fuel s).2 = some .eof) := by
  obtain ⟨a, b⟩ := no_fault some (by simp) fun e0 he =>
    (skipWhiteSpace_spec (g e0 he) s (coh_any c hs) fuel hf).2.imp_right And.left
  exact ⟨b, a⟩

theorem skipWhiteSpace_fst (src : Source) (fuel : Nat) (s : SB) :
    (skipWhiteSpace src fuel s).1 = (scanBytes src wsAcc fuel true false s).1 := rfl

-- non-vacuity: a 2502-byte input read 7 bytes at a time; white space across three refills, then
-- the scanner stands on the digit, exactly as `skipWS` says
example :
    let d : Bytes := List.replicate 2500 32 ++ [49, 50]
    let r := skipWhiteSpace (goodSrc d 7) (scanBytesFuel d.length) (SB.init 0)
    (r.2, view d r.1, r.1.currentPos, r.1.hang) = (none, [49, 50], 2500, false) := by
  -- stated for all `d` and `r`: any step that makes the kernel compare two terms containing the
  -- concrete `r` runs the window over its 360 reads of 7 bytes
  have key : ∀ d : Bytes, skipWS d = ([49, 50], false) → d.length = 2502 →
      ∀ r, r = skipWhiteSpace (goodSrc d 7) (scanBytesFuel d.length) (SB.init 0) →
        (r.2, view d r.1, r.1.currentPos, r.1.hang) = (none, [49, 50], 2500, false) := by
    intro d hd hl r hr
    have F := goodSrc_goodOver d 7 .io (by decide)
    have c := coh_init d .io 0
    obtain ⟨hws, he⟩ := skipWhiteSpace_refines (goodSrc_goodOver d 7) _ c rfl (scanBytesFuel d.length) (Nat.le_refl _)
    have hh := (skipWhiteSpace_spec F _ c (scanBytesFuel d.length) (Nat.le_refl _)).1.nohang
    have hp : r.1.currentPos + (view d r.1).length = (SB.init 0).currentPos + (view d (SB.init 0)).length := by
      rw [hr, skipWhiteSpace_fst]; exact scanBytes_pos F wsAcc _ true false _ c
    rw [← hr, view_init, hd] at hws
    rw [← hr] at he hh
    obtain ⟨hv, hb⟩ := Prod.mk.inj hws
    rw [view_init, hl, ← hv] at hp
    have hpos : r.1.currentPos + 2 = 2502 := hp
    have hpos : r.1.currentPos = 2500 := by omega
    rw [he.resolve_right (of_decide_eq_false hb.symm), ← hv, hpos, hh]
  exact key _ (by rw [C01L.skipWS_blanks]; decide +kernel) (by rw [List.length_append, List.length_replicate]; rfl) _ rfl

end PdfVerif.C05robbuf
