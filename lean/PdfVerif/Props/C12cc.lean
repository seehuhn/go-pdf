import PdfVerif.Model.CCCodec
import PdfVerif.Spec.CCCodeSpace
/-!
# C12 — the character-code codec implements exactly its code space ranges (part 1)

Tree semantics: the unshared lookup tree built by `newTree` (Model/CCCodec.lean, mirroring
`font/charcode/codec.go`) decodes every input exactly as ISO 32000-2 9.7.6.3 prescribes
(Spec/CCCodeSpace.lean), for every range set that `newTree` accepts.

The file also holds what every later part uses: the lemmas of the model's `mapE`, `minLength`, `Range.isValid`; how to
take a result of `newTree` apart (`Tiling`, `NodeOf`, `newTree_step`); and the layer of partial matches (`withinFirst_iff`
and its corollaries, `partialMatch`) on which parts 5, 6 and 9 build.

"These bytes lie in this range" has five spellings, four of them fixed by the model, the specification or a theorem:
`Spec.withinFirst lo hi s k` = `matchesUpTo` (the first `k` bytes, read position by position by `withinFirst_iff`), with
`startsCode` (`k` = the length) and `isCode` (and `s` has that length); `partialMatch s k r` (here) =
`(toSpecR r).matchesUpTo s k` in the argument order of a filter (`isCode_toSpecR`, `partialMatch_iff_isCode_take`); the
model's `rangeMatches` (`C12cci.rangeMatches_eq`); `C12ccf.BoxMatch` on a pair of bound lists, which recurses on the pair
as `kidsBoxes` and `canMerge` do (`C12ccf.boxMatch_iff`, `isCode_iff_boxMatch`).  A range is well-formed as
`Range.isValid` (model; read by `isValid_parts`) or as `C12ccf.Shape` (`isValid` without the limits on the length; what
the reported ranges have); `Spec.CodeRange.WF` is used by no theorem.  `C12ccf.IsCodeOf` is the working form of
`Spec.SameCodes` (`C12ccf.sameCodes_toSpec`).

Bytes are `Nat` in the model.  `AllBytes s` (every element below 256) holds of every Go `[]byte`; it is assumed
wherever the tree, whose child lists cover `0 … 255`, has to see every element of `s`.
-/
namespace PdfVerif.C12cc
open PdfVerif PdfVerif.CC PdfVerif.Spec.CodeSpace

theorem mapE_cons_ok {α β : Type} (f : α → Except CErr β) (a : α) (l : List α) (out : List β) :
    mapE f (a :: l) = .ok out ↔ ∃ b bs, f a = .ok b ∧ mapE f l = .ok bs ∧ out = b :: bs := by
  simp only [mapE]
  cases f a with
  | error e => simp
  | ok b =>
    cases mapE f l with
    | error e => simp
    | ok bs => simp [eq_comm]

theorem mapE_mem {α β : Type} (f : α → Except CErr β) : ∀ (l : List α) (out : List β), mapE f l = .ok out →
    ∀ b ∈ out, ∃ a ∈ l, f a = .ok b := by
  intro l
  induction l with
  | nil => intro out h b hb; simp [mapE] at h; subst h; simp at hb
  | cons a l ih =>
    intro out h b hb
    obtain ⟨b0, bs, hb0, hbs, rfl⟩ := (mapE_cons_ok f a l out).mp h
    rcases List.mem_cons.mp hb with rfl | hb
    · exact ⟨a, by simp, hb0⟩
    · obtain ⟨a', ha', h'⟩ := ih bs hbs b hb; exact ⟨a', by simp [ha'], h'⟩

theorem mapE_ok {α β : Type} (f : α → Except CErr β) : ∀ (l : List α), (∀ a ∈ l, ∃ b, f a = .ok b) →
    ∃ out, mapE f l = .ok out := by
  intro l
  induction l with
  | nil => intro _; exact ⟨[], rfl⟩
  | cons a l ih =>
    intro h
    obtain ⟨b, hb⟩ := h a (by simp)
    obtain ⟨out, hout⟩ := ih (fun a' ha' => h a' (by simp [ha']))
    exact ⟨b :: out, by simp [mapE, hb, hout]⟩

theorem mapE_error {α β : Type} (f : α → Except CErr β) (l : List α) (e : CErr) (h : mapE f l = .error e) :
    ∃ a ∈ l, f a = .error e := by
  fun_induction mapE f l with
  | case1 => cases h
  | case2 a as e' he' => cases h; exact ⟨a, by simp, he'⟩
  | case3 a as b hb e' he' ih =>
    cases h
    obtain ⟨a', ha', h'⟩ := ih he'
    exact ⟨a', by simp [ha'], h'⟩
  | case4 => cases h

/-- consecutive non-empty intervals from `lo` to 255, none with a break (`p`) strictly inside -/
def Tiling (p : Nat → Bool) : Nat → List (Nat × Nat) → Prop
  | lo, [] => lo = 256
  | lo, iv :: ivs =>
    iv.1 = lo ∧ lo ≤ iv.2 ∧ iv.2 < 256 ∧ (∀ y, lo < y → y ≤ iv.2 → p y = false) ∧ Tiling p (iv.2 + 1) ivs

/-- `lo` is the last break emitted, `x` the next candidate; no break lies strictly between them -/
theorem intervals_tiling (p : Nat → Bool) (h256 : p 256 = true) :
    ∀ n x lo, x + n = 257 → lo < x → (∀ y, lo < y → y < x → p y = false) →
      Tiling p lo (intervals (lo :: (List.range' x n).filter p)) := by
  intro n
  induction n with
  | zero =>
    intro x lo hx hlo hnb
    by_cases h : lo = 256
    · simpa [intervals, Tiling] using h
    · have := hnb 256 (by omega) (by omega)
      simp [h256] at this
  | succ n ihn =>
    intro x lo hx hlo hnb
    rw [List.range'_succ, List.filter_cons]
    by_cases hp : p x = true
    · rw [if_pos hp]
      refine ⟨rfl, Nat.le_sub_one_of_lt hlo, by omega, fun y h1 h2 => hnb y h1 (by omega), ?_⟩
      show Tiling p (x - 1 + 1) _
      rw [Nat.sub_add_cancel (Nat.succ_le_of_lt (Nat.zero_lt_of_lt hlo))]
      exact ihn (x + 1) x (by omega) (Nat.lt_succ_self x) (by intro y h1 h2; omega)
    · have hp' : p x = false := by simpa using hp
      simp only [hp', Bool.false_eq_true, if_false]
      exact ihn (x + 1) lo (by omega) (by omega)
        (by intro y h1 h2; by_cases h : y = x; subst h; exact hp'; exact hnb y h1 (by omega))

theorem breaks_tiling (S : CSR) (d : Nat) : Tiling (isBreak S d) 0 (intervals (breaks S d)) := by
  have e : breaks S d = 0 :: (List.range' 1 256).filter (isBreak S d) := by
    have : isBreak S d 0 = true := by simp [isBreak]
    simp only [breaks, List.range_eq_range']
    rw [show (257 : Nat) = 256 + 1 from rfl, List.range'_succ, List.filter_cons]
    simp [this]
  rw [e]
  exact intervals_tiling _ (by simp [isBreak]) 256 1 0 rfl (by omega) (by intro y h1 h2; omega)

theorem Tiling.mem {p : Nat → Bool} : ∀ {ivs : List (Nat × Nat)} {lo : Nat}, Tiling p lo ivs →
    ∀ iv ∈ ivs, iv.1 ≤ iv.2 ∧ iv.2 < 256 ∧ ∀ y, iv.1 < y → y ≤ iv.2 → p y = false
  | [], _, _, _, h => by simp at h
  | iv' :: ivs, lo, ⟨h1, h2, h3, h4, h5⟩, iv, h => by
    rcases List.mem_cons.mp h with rfl | h
    · rw [h1]; exact ⟨h2, h3, h4⟩
    · exact Tiling.mem h5 iv h

theorem dec_valid (s : Bytes) : Node.valid.dec s = (0, true) := rfl
theorem dec_invalid (k : Nat) (s : Bytes) : (Node.invalid k).dec s = (min k s.length, false) := rfl
theorem dec_sub (cs : List (Nat × Node)) (s : Bytes) : (Node.sub cs).dec s = kidsDec cs s := rfl

theorem kidsDec_nil (cs : List (Nat × Node)) : kidsDec cs [] = (0, false) := by
  cases cs <;> simp [kidsDec]

theorem kidsDec_nil_cons (b : Nat) (s : Bytes) : kidsDec [] (b :: s) = (1, false) := rfl

theorem kidsDec_hit {hi b : Nat} {n : Node} {rest : List (Nat × Node)} {s : Bytes} (h : b ≤ hi) :
    kidsDec ((hi, n) :: rest) (b :: s) = ((n.dec s).1 + 1, (n.dec s).2) := by simp [kidsDec, h]

theorem kidsDec_miss {hi b : Nat} {n : Node} {rest : List (Nat × Node)} {s : Bytes} (h : ¬ b ≤ hi) :
    kidsDec ((hi, n) :: rest) (b :: s) = kidsDec rest (b :: s) := by simp [kidsDec, h]

/-- the children built over a tiling correspond to its intervals position by position: induction over both at once -/
theorem tiling_kids {p : Nat → Bool} {f : Nat × Nat → Except CErr (Nat × Node)}
    (hf : ∀ iv kid, f iv = .ok kid → kid.1 = iv.2) {Q : Nat → List (Nat × Node) → Prop} (nil : Q 256 [])
    (cons : ∀ lo hi n kids, lo ≤ hi → hi < 256 → (∀ y, lo < y → y ≤ hi → p y = false) → f (lo, hi) = .ok (hi, n) →
      Q (hi + 1) kids → Q lo ((hi, n) :: kids)) :
    ∀ (ivs : List (Nat × Nat)) (lo : Nat) (kids : List (Nat × Node)), Tiling p lo ivs → mapE f ivs = .ok kids →
      Q lo kids := by
  intro ivs
  induction ivs with
  | nil => intro lo kids h hk; simp [mapE] at hk; subst hk; simp only [Tiling] at h; subst h; exact nil
  | cons iv ivs ih =>
    intro lo kids ⟨h1, h2, h3, h4, h5⟩ h
    obtain ⟨kid, kids', hk, hks, rfl⟩ := (mapE_cons_ok f iv ivs kids).mp h
    obtain ⟨lo0, hi⟩ := iv
    obtain ⟨k1, n⟩ := kid
    simp only at h1 h2 h3 h4 h5; subst h1
    have e : hi = k1 := (hf _ _ hk).symm
    subst e
    exact cons lo0 hi n kids' h2 h3 h4 hk (ih (hi + 1) kids' h5 hks)

theorem tiling_select {p : Nat → Bool} {f : Nat × Nat → Except CErr (Nat × Node)}
    (hf : ∀ iv kid, f iv = .ok kid → kid.1 = iv.2) :
    ∀ (ivs : List (Nat × Nat)) (lo : Nat) (kids : List (Nat × Node)), Tiling p lo ivs → mapE f ivs = .ok kids →
      ∀ b, lo ≤ b → b < 256 →
      ∃ lo' hi' n, lo' ≤ b ∧ b ≤ hi' ∧ (∀ y, lo' < y → y ≤ hi' → p y = false) ∧ f (lo', hi') = .ok (hi', n) ∧
        ∀ s, kidsDec kids (b :: s) = ((n.dec s).1 + 1, (n.dec s).2) := by
  refine tiling_kids hf (fun b h1 h2 => by omega) ?_
  intro lo hi n kids _ _ h3 hk ih b hb1 hb2
  by_cases hsel : b ≤ hi
  · exact ⟨lo, hi, n, hb1, hsel, h3, hk, fun s => kidsDec_hit hsel⟩
  · obtain ⟨lo', hi', n', a1, a2, a3, a4, a5⟩ := ih b (by omega) hb2
    exact ⟨lo', hi', n', a1, a2, a3, a4, fun s => (kidsDec_miss hsel).trans (a5 s)⟩

/-- the byte `b` continues a match of `r` at position `d` (`partialMatch_succ`) -/
def containsAt (d b : Nat) (r : Range) : Bool := byteAt r.low d ≤ b && b ≤ byteAt r.high d

theorem overlapping_eq (S : CSR) (d lo hi b : Nat) (h1 : lo ≤ b) (h2 : b ≤ hi)
    (hb : ∀ y, lo < y → y ≤ hi → isBreak S d y = false) :
    overlapping S d lo hi = S.filter (containsAt d b) := by
  unfold overlapping
  apply List.filter_congr
  intro r hr
  have hlow : ∀ y, lo < y → y ≤ hi → byteAt r.low d ≠ y ∧ byteAt r.high d + 1 ≠ y := by
    intro y hy1 hy2
    have := hb y hy1 hy2
    simp only [isBreak, Bool.or_eq_false_iff, List.any_eq_false] at this
    simpa using this.2 r hr
  have e1 : ¬ (lo < byteAt r.low d ∧ byteAt r.low d ≤ hi) := fun ⟨a, b⟩ => (hlow _ a b).1 rfl
  have e2 : ¬ (lo < byteAt r.high d + 1 ∧ byteAt r.high d + 1 ≤ hi) := fun ⟨a, b⟩ => (hlow _ a b).2 rfl
  rw [Bool.eq_iff_iff]
  simp only [containsAt, ge_iff_le, Bool.and_eq_true, decide_eq_true_eq]
  omega

theorem numLeaves_eq_length (C : CSR) (d : Nat) :
    numLeaves C d = C.length ↔ ∀ r ∈ C, r.low.length = d + 1 := by
  simp [numLeaves, List.length_filter_eq_length_iff]

theorem numLeaves_eq_zero (C : CSR) (d : Nat) : numLeaves C d = 0 ↔ ∀ r ∈ C, r.low.length ≠ d + 1 := by
  simp [numLeaves, List.filter_eq_nil_iff]

/-- what `newTree` puts under a byte that selects the ranges `C` of `S` (`S.filter (containsAt d b)`, `newTree_step`): an
invalid gap if none, a valid leaf if all end here, the recursive call if all go on -/
def NodeOf (recur : CSR → Except CErr (List (Nat × Node))) (S : CSR) (d : Nat) (C : CSR) (n : Node) : Prop :=
  (C = [] ∧ n = .invalid (minLength S - (d + 1))) ∨
  (C ≠ [] ∧ (∀ r ∈ C, r.low.length = d + 1) ∧ n = .valid) ∨
  (C ≠ [] ∧ (∀ r ∈ C, r.low.length ≠ d + 1) ∧ ∃ cs, recur C = .ok cs ∧ n = .sub cs)

theorem nodeFor_ok {recur : CSR → Except CErr (List (Nat × Node))} {S : CSR} {d : Nat} {iv : Nat × Nat}
    {kid : Nat × Node} (h : nodeFor recur S d iv = .ok kid) :
    kid.1 = iv.2 ∧ NodeOf recur S d (overlapping S d iv.1 iv.2) kid.2 := by
  revert h
  fun_cases nodeFor recur S d iv with
  | case1 C h0 => intro h; cases h; exact ⟨rfl, .inl ⟨by simpa using h0, rfl⟩⟩
  | case2 C h0 h1 =>
    intro h; cases h
    exact ⟨rfl, .inr (.inl ⟨by simpa using h0, (numLeaves_eq_length _ _).mp (by simpa using h1), rfl⟩)⟩
  | case3 C h0 h1 h2 cs hr =>
    intro h; cases h
    exact ⟨rfl, .inr (.inr ⟨by simpa using h0, (numLeaves_eq_zero _ _).mp (by simpa using h2), cs, hr, rfl⟩)⟩
  | case4 | case5 => intro h; cases h

theorem nodeFor_error {recur : CSR → Except CErr (List (Nat × Node))} {S : CSR} {d : Nat} {iv : Nat × Nat}
    {e : CErr} (h : nodeFor recur S d iv = .error e) :
    (e = .invalid ∧ (∃ r ∈ overlapping S d iv.1 iv.2, r.low.length = d + 1) ∧
      ∃ r ∈ overlapping S d iv.1 iv.2, r.low.length ≠ d + 1) ∨
    (overlapping S d iv.1 iv.2 ≠ [] ∧ (∀ r ∈ overlapping S d iv.1 iv.2, r.low.length ≠ d + 1) ∧
      recur (overlapping S d iv.1 iv.2) = .error e) := by
  revert h
  fun_cases nodeFor recur S d iv with
  | case1 | case2 | case3 => intro h; cases h
  | case4 C h0 h1 h2 e' hr =>
    intro h; cases h; exact .inr ⟨by simpa using h0, (numLeaves_eq_zero _ _).mp (by simpa using h2), hr⟩
  | case5 C h0 h1 h2 =>
    intro h; cases h; exact .inl ⟨rfl, by simpa [numLeaves_eq_zero] using h2, by simpa [numLeaves_eq_length] using h1⟩

theorem newTree_ok {fuel : Nat} {S : CSR} {d : Nat} {cs : List (Nat × Node)} (h : newTree (fuel + 1) S d = .ok cs) :
    (∀ r ∈ S, d < r.low.length ∧ d < r.high.length) ∧
    mapE (nodeFor (fun c => newTree fuel c (d + 1)) S d) (intervals (breaks S d)) = .ok cs := by
  simp only [newTree] at h
  split at h
  · cases h
  · rename_i hg
    exact ⟨by simpa using hg, h⟩

theorem newTree_of_guard {fuel : Nat} {S : CSR} {d : Nat} (hg : ∀ r ∈ S, d < r.low.length ∧ d < r.high.length) :
    newTree (fuel + 1) S d =
      mapE (nodeFor (fun c => newTree fuel c (d + 1)) S d) (intervals (breaks S d)) := by
  have : (S.all fun r => decide (d < r.low.length) && decide (d < r.high.length)) = true := by
    simpa using hg
  simp [newTree, this]

theorem newTree_step {fuel : Nat} {S : CSR} {d : Nat} {cs : List (Nat × Node)} (h : newTree (fuel + 1) S d = .ok cs)
    (b : Nat) (hb : b < 256) :
    ∃ n, (∀ s, kidsDec cs (b :: s) = ((n.dec s).1 + 1, (n.dec s).2)) ∧
      NodeOf (fun c => newTree fuel c (d + 1)) S d (S.filter (containsAt d b)) n := by
  obtain ⟨lo, hi, n, h1, h2, h3, h4, h5⟩ :=
    tiling_select (fun _ _ hk => (nodeFor_ok hk).1) _ _ _ (breaks_tiling S d) (newTree_ok h).2 b (Nat.zero_le _) hb
  refine ⟨n, h5, ?_⟩
  rw [← overlapping_eq S d lo hi b h1 h2 h3]
  exact (nodeFor_ok h4).2

theorem withinFirst_iff (lo hi s : List Nat) (k : Nat) :
    withinFirst lo hi s k = true ↔
      k ≤ lo.length ∧ k ≤ hi.length ∧ k ≤ s.length ∧
        ∀ i, i < k → byteAt lo i ≤ byteAt s i ∧ byteAt s i ≤ byteAt hi i := by
  induction k generalizing lo hi s with
  | zero => simp [withinFirst]
  | succ k ih =>
    cases lo with
    | nil => simp [withinFirst]
    | cons l lo =>
      cases hi with
      | nil => simp [withinFirst]
      | cons h hi =>
        cases s with
        | nil => simp [withinFirst]
        | cons b s =>
          simp only [withinFirst, Bool.and_eq_true, decide_eq_true_eq, ih, List.length_cons,
            Nat.add_le_add_iff_right]
          -- `byteAt (x :: xs) 0 = x` and `byteAt (x :: xs) (i + 1) = byteAt xs i` hold by computation
          constructor
          · rintro ⟨⟨a, b'⟩, c, d, e, f⟩
            refine ⟨c, d, e, fun i hi' => ?_⟩
            cases i with
            | zero => exact ⟨a, b'⟩
            | succ i => exact f i (by omega)
          · rintro ⟨c, d, e, f⟩
            exact ⟨f 0 (by omega), c, d, e, fun i hi' => f (i + 1) (by omega)⟩

theorem withinFirst_mono (lo hi s : List Nat) (k k' : Nat) (h : k ≤ k') :
    withinFirst lo hi s k' = true → withinFirst lo hi s k = true := by
  simp only [withinFirst_iff]
  rintro ⟨a, b, c, f⟩
  exact ⟨by omega, by omega, by omega, fun i hi' => f i (by omega)⟩

theorem withinFirst_len (lo hi s : List Nat) (k : Nat) :
    withinFirst lo hi s k = true → k ≤ lo.length ∧ k ≤ hi.length ∧ k ≤ s.length := by
  simp only [withinFirst_iff]
  rintro ⟨a, b, c, _⟩
  exact ⟨a, b, c⟩

theorem withinFirst_succ (lo hi s : List Nat) (k : Nat) :
    withinFirst lo hi s (k + 1) = true ↔
      withinFirst lo hi s k = true ∧ k < lo.length ∧ k < hi.length ∧ k < s.length ∧
        byteAt lo k ≤ byteAt s k ∧ byteAt s k ≤ byteAt hi k := by
  simp only [withinFirst_iff, Nat.forall_lt_succ_right]
  constructor
  · rintro ⟨a, b, c, f, g⟩; exact ⟨⟨by omega, by omega, by omega, f⟩, a, b, c, g⟩
  · rintro ⟨⟨_, _, _, f⟩, a, b, c, g⟩; exact ⟨a, b, c, f, g⟩

theorem withinFirst_prefix (lo hi : Bytes) (k : Nat) (c1 c2 : Bytes) (hp : c1 <+: c2) (hk : k ≤ c1.length) :
    withinFirst lo hi c2 k = withinFirst lo hi c1 k := by
  obtain ⟨t, rfl⟩ := hp
  have : ∀ i, i < k → byteAt (c1 ++ t) i = byteAt c1 i := fun i hi' => by
    simp only [byteAt, List.getElem?_append_left (show i < c1.length by omega)]
  rw [Bool.eq_iff_iff]
  simp only [withinFirst_iff, List.length_append]
  constructor
  · rintro ⟨a, b, _, f⟩; exact ⟨a, b, hk, fun i hi' => by rw [← this i hi']; exact f i hi'⟩
  · rintro ⟨a, b, _, f⟩; exact ⟨a, b, by omega, fun i hi' => by rw [this i hi']; exact f i hi'⟩

theorem byteAt_eq_getElem (bs : Bytes) (i : Nat) (h : i < bs.length) : byteAt bs i = bs[i] := by
  simp [byteAt, h]

theorem withinFirst_allBytes (lo hi c : Bytes) (hhi : AllBytes hi) (h : withinFirst lo hi c c.length = true) :
    AllBytes c := by
  obtain ⟨_, hl, _, f⟩ := (withinFirst_iff _ _ _ _).mp h
  intro x hx
  obtain ⟨i, hi', rfl⟩ := List.mem_iff_getElem.mp hx
  have hlt : i < hi.length := Nat.lt_of_lt_of_le hi' hl
  have h1 := (f i hi').2
  rw [byteAt_eq_getElem c i hi', byteAt_eq_getElem hi i hlt] at h1
  exact Nat.lt_of_le_of_lt h1 (hhi _ (List.getElem_mem hlt))

theorem foldl_max_spec (a : Nat) (l : List Nat) :
    l.foldl Nat.max a ∈ a :: l ∧ ∀ b ∈ a :: l, b ≤ l.foldl Nat.max a :=
  List.max?_eq_some_iff.mp (rfl : (a :: l).max? = some (l.foldl Nat.max a))

theorem shortest_spec (a : Nat) (l : List Nat) :
    shortest (a :: l) ∈ a :: l ∧ ∀ b ∈ a :: l, shortest (a :: l) ≤ b :=
  List.min?_eq_some_iff.mp (rfl : (a :: l).min? = some (l.foldl Nat.min a))

theorem shortest_le (l : List Nat) (x : Nat) (h : x ∈ l) : shortest l ≤ x := by
  cases l with
  | nil => simp at h
  | cons a l => exact (shortest_spec a l).2 x h

theorem shortest_mem (l : List Nat) (h : l ≠ []) : shortest l ∈ l := by
  cases l with
  | nil => exact absurd rfl h
  | cons a l => exact (shortest_spec a l).1

theorem shortest_eq_minLength (S : CSR) : shortest (S.map fun r => r.low.length) = minLength S := by
  cases S with
  | nil => rfl
  | cons r S =>
    simp only [List.map_cons, shortest, minLength]
    generalize r.low.length = a
    induction S generalizing a with
    | nil => rfl
    | cons r' S ih =>
      simp only [List.map_cons, List.foldl_cons]
      rw [ih]
      congr 1
      by_cases c : r'.low.length < a
      · rw [if_pos c]; exact Nat.min_eq_right (Nat.le_of_lt c)
      · rw [if_neg c]; exact Nat.min_eq_left (Nat.not_lt.mp c)

theorem isValid_parts (r : Range) (h : r.isValid = true) :
    r.low.length = r.high.length ∧ 1 ≤ r.low.length ∧ r.low.length ≤ 4 ∧ leAll r.low r.high = true := by
  unfold Range.isValid at h
  split at h
  · cases h
  · rename_i hc
    simp at hc
    have : r.low.length ≠ 0 := fun h0 => hc.1.2 (List.length_eq_zero_iff.mp h0)
    exact ⟨hc.1.1, by omega, by omega, h⟩

theorem le_minLength (S : CSR) (m : Nat) (h : ∀ r ∈ S, m ≤ r.low.length) (hm : m ≤ 1 ∨ S ≠ []) :
    m ≤ minLength S := by
  by_cases hS : S = []
  · subst hS; simpa [minLength] using hm
  · have := shortest_mem (S.map fun r => r.low.length) (by simpa using hS)
    rw [shortest_eq_minLength, List.mem_map] at this
    obtain ⟨r, hr, e⟩ := this
    rw [← e]; exact h r hr

theorem minLength_le (S : CSR) (m : Nat) (hm : 1 ≤ m) (h : ∀ r ∈ S, r.low.length ≤ m) : minLength S ≤ m := by
  cases S with
  | nil => exact hm
  | cons r S =>
    rw [← shortest_eq_minLength]
    exact Nat.le_trans (shortest_le _ r.low.length (by simp)) (h r (by simp))

theorem longestPartial_eq (csr : List CodeRange) (s : List Nat) (k : Nat) (hk : k ≤ s.length)
    (h1 : k = 0 ∨ ∃ r ∈ csr, r.matchesUpTo s k = true)
    (h2 : ∀ r ∈ csr, r.matchesUpTo s (k + 1) = false) :
    longestPartial csr s = k := by
  unfold longestPartial
  generalize hl : (List.filter (fun k => csr.any fun r => r.matchesUpTo s k) (List.range (s.length + 1))) = l
  have hmem : ∀ x, x ∈ l ↔ x < s.length + 1 ∧ ∃ r ∈ csr, r.matchesUpTo s x = true := by
    intro x; rw [← hl]; simp [List.mem_filter]
  obtain ⟨hin, hge⟩ := foldl_max_spec 0 l
  have hle : l.foldl Nat.max 0 ≤ k := by
    rcases List.mem_cons.mp hin with h | h
    · omega
    · obtain ⟨_, r, hr, hm⟩ := (hmem _).mp h
      -- a partial match longer than `k` would contain one of length `k + 1`
      apply Nat.le_of_not_lt
      intro hlt
      have := withinFirst_mono r.lo r.hi s (k + 1) _ hlt hm
      exact absurd this (by simpa [CodeRange.matchesUpTo] using h2 r hr)
  rcases h1 with rfl | h1
  · omega
  · have := hge k (List.mem_cons_of_mem _ ((hmem k).mpr ⟨by omega, h1⟩))
    omega

/-- `(toSpecR r).matchesUpTo full k`, with the arguments in the order in which it filters a range set -/
def partialMatch (full : Bytes) (k : Nat) (r : Range) : Bool := withinFirst r.low r.high full k

/-- a model range set read as the specification's (`Spec/CCCodeSpace.lean`) -/
def toSpecR (r : Range) : CodeRange := ⟨r.low, r.high⟩
def toSpec (csr : CSR) : List CodeRange := csr.map toSpecR

theorem startsCode_toSpecR (r : Range) (s : Bytes) : (toSpecR r).startsCode s = partialMatch s r.low.length r := rfl

theorem isCode_toSpecR (r : Range) (c : Bytes) :
    (toSpecR r).isCode c = true ↔ c.length = r.low.length ∧ partialMatch c r.low.length r = true := by
  simp only [CodeRange.isCode, startsCode_toSpecR, Bool.and_eq_true, decide_eq_true_eq]
  rfl

theorem prefixFree_toSpec (csr : CSR) : PrefixFree (toSpec csr) ↔
    ∀ r₁ ∈ csr, ∀ r₂ ∈ csr, ∀ c₁ c₂ : Bytes, (toSpecR r₁).isCode c₁ = true → (toSpecR r₂).isCode c₂ = true →
      c₁ <+: c₂ → c₁.length = c₂.length := by
  simp only [PrefixFree, toSpec, List.forall_mem_map]

theorem partialMatch_prefix (r : Range) (k : Nat) (c1 c2 : Bytes) (hp : c1 <+: c2) (hk : k ≤ c1.length) :
    partialMatch c2 k r = partialMatch c1 k r :=
  withinFirst_prefix r.low r.high k c1 c2 hp hk

theorem partialMatch_succ (full : Bytes) (k : Nat) (r : Range) :
    partialMatch full (k + 1) r = true ↔
      partialMatch full k r = true ∧ k < r.low.length ∧ k < r.high.length ∧ k < full.length ∧
        containsAt k (byteAt full k) r = true := by
  simp only [partialMatch, withinFirst_succ, containsAt, Bool.and_eq_true, decide_eq_true_eq]

theorem partialMatch_iff_isCode_take (r : Range) (s : Bytes) :
    partialMatch s r.low.length r = true ↔
      (r.low.length ≤ s.length ∧ (toSpecR r).isCode (s.take r.low.length) = true) := by
  rw [isCode_toSpecR]
  simp only [List.length_take]
  constructor
  · intro h
    have hl := (withinFirst_len _ _ _ _ h).2.2
    refine ⟨hl, by omega, ?_⟩
    rw [← partialMatch_prefix r r.low.length (s.take r.low.length) s (List.take_prefix _ _) (by simp; omega)]
    exact h
  · rintro ⟨hl, _, h⟩
    rw [partialMatch_prefix r r.low.length (s.take r.low.length) s (List.take_prefix _ _) (by simp; omega)]
    exact h

theorem starts_unique (L : CSR) (hpf : PrefixFree (toSpec L)) (s : Bytes) (r1 r2 : Range) (h1 : r1 ∈ L)
    (h2 : r2 ∈ L) (s1 : partialMatch s r1.low.length r1 = true) (s2 : partialMatch s r2.low.length r2 = true) :
    r1.low.length = r2.low.length := by
  have key : ∀ r1 ∈ L, ∀ r2 ∈ L, partialMatch s r1.low.length r1 = true → partialMatch s r2.low.length r2 = true →
      r1.low.length ≤ r2.low.length → r1.low.length = r2.low.length := by
    intro r1 h1 r2 h2 s1 s2 hle
    obtain ⟨l1, c1⟩ := (partialMatch_iff_isCode_take r1 s).mp s1
    obtain ⟨l2, c2⟩ := (partialMatch_iff_isCode_take r2 s).mp s2
    have := (prefixFree_toSpec L).mp hpf r1 h1 r2 h2 _ _ c1 c2 (by
      rw [List.prefix_iff_eq_take]; simp [List.take_take, Nat.min_eq_left hle, Nat.min_eq_left l1])
    simp only [List.length_take] at this; omega
  rcases Nat.le_total r1.low.length r2.low.length with hle | hle
  · exact key r1 h1 r2 h2 s1 s2 hle
  · exact (key r2 h2 r1 h1 s2 s1 hle).symm

theorem partialMatch_zero (s : Bytes) (r : Range) : partialMatch s 0 r = true := by simp [partialMatch, withinFirst]

theorem decode_valid (csr : CSR) (s : Bytes) (hs : s ≠ []) (r : Range) (hr : r ∈ csr)
    (hm : partialMatch s r.low.length r = true)
    (huniq : ∀ r' ∈ csr, partialMatch s r'.low.length r' = true → r'.low.length = r.low.length) :
    decode (toSpec csr) s = (r.low.length, true) := by
  fun_cases decode (toSpec csr) s with
  | case1 h => exact absurd (by simpa using h) hs
  | case2 h r' hr' =>
    obtain ⟨r0, hr0, rfl⟩ := List.mem_map.mp (List.mem_of_find?_eq_some hr')
    have h2 := List.find?_some hr'
    rw [show (toSpecR r0).len = r0.low.length from rfl, huniq r0 hr0 h2]
  | case3 h hnone =>
    exact absurd hm (by simpa [startsCode_toSpecR] using List.find?_eq_none.mp hnone _ (List.mem_map.mpr ⟨r, hr, rfl⟩))

/-- the hypotheses are in the form the walk down the tree has them: no range of at most `k` bytes is matched in full,
some range is matched on `k` bytes (unless `k = 0`), none on `k + 1` -/
theorem decode_invalid (csr : CSR) (s : Bytes) (hs : s ≠ []) (k : Nat) (hk : k ≤ s.length)
    (hnofull : ∀ r ∈ csr, r.low.length ≤ k → partialMatch s r.low.length r = false)
    (h1 : k = 0 ∨ csr.filter (partialMatch s k) ≠ [])
    (h2 : csr.filter (partialMatch s (k + 1)) = []) :
    (∀ r ∈ csr, partialMatch s r.low.length r = false) ∧
    decode (toSpec csr) s = (min (minLength (csr.filter (partialMatch s k))) s.length, false) := by
  have h2' : ∀ r ∈ csr, partialMatch s (k + 1) r = false := fun r hr => by
    simpa using (List.filter_eq_nil_iff.mp h2) r hr
  have hnone : ∀ r ∈ csr, partialMatch s r.low.length r = false := fun r hr => by
    rcases Nat.lt_or_ge k r.low.length with h | h
    · -- a full match of a longer range would contain a match on `k + 1` bytes
      cases hm : partialMatch s r.low.length r with
      | false => rfl
      | true => rw [← h2' r hr]; exact (withinFirst_mono _ _ _ (k + 1) _ h hm).symm
    · exact hnofull r hr h
  refine ⟨hnone, ?_⟩
  have hlp : longestPartial (toSpec csr) s = k := by
    apply longestPartial_eq _ s k hk (h1.imp id fun h => by
      obtain ⟨r, hr⟩ := List.exists_mem_of_ne_nil _ h
      exact ⟨toSpecR r, List.mem_map.mpr ⟨r, (List.mem_filter.mp hr).1, rfl⟩, (List.mem_filter.mp hr).2⟩)
    simp only [toSpec, List.forall_mem_map]
    exact h2'
  fun_cases decode (toSpec csr) s with
  | case1 h => exact absurd (by simpa using h) hs
  | case2 h r hr =>
    obtain ⟨r0, hr0, rfl⟩ := List.mem_map.mp (List.mem_of_find?_eq_some hr)
    have h2 := List.find?_some hr
    rw [startsCode_toSpecR, hnone r0 hr0] at h2; cases h2
  | case3 h hfind k' chosen =>
    simp only [k', chosen, hlp, ← shortest_eq_minLength]
    simp only [toSpec, List.filter_map, List.map_map]
    rfl

theorem filter_step (csr : CSR) (full : Bytes) (d : Nat) (hd : d < full.length)
    (hguard : ∀ r ∈ csr.filter (partialMatch full d), d < r.low.length ∧ d < r.high.length) :
    (csr.filter (partialMatch full d)).filter (containsAt d (byteAt full d)) = csr.filter (partialMatch full (d + 1)) := by
  rw [List.filter_filter]
  apply List.filter_congr
  intro r hr
  rw [Bool.eq_iff_iff]
  rw [Bool.and_eq_true, partialMatch_succ]
  constructor
  · rintro ⟨h1, h2⟩
    have := hguard r (List.mem_filter.mpr ⟨hr, h2⟩)
    exact ⟨h2, this.1, this.2, hd, h1⟩
  · rintro ⟨h2, _, _, _, h1⟩; exact ⟨h1, h2⟩

theorem add_min_sub (d m len : Nat) (h1 : d + 1 ≤ m) (h2 : d < len) :
    d + (min (m - (d + 1)) (len - (d + 1)) + 1) = min m len := by
  rcases Nat.le_total m len with h | h
  · rw [Nat.min_eq_left h, Nat.min_eq_left (Nat.sub_le_sub_right h _)]; omega
  · rw [Nat.min_eq_right h, Nat.min_eq_right (Nat.sub_le_sub_right h _)]; omega

theorem decode_nil (csr : List CodeRange) : decode csr [] = (0, false) := rfl

/-- Reading `full` from position `d` on in the tree built for the ranges that match its first `d`
bytes gives what the reference semantics prescribes for `full`, provided no range is matched in
full by these `d` bytes or fewer and, past the first byte, some range is still matched.  Second part: every range
of which `full` starts with a code has the length that is consumed (none, if the code is invalid). -/
theorem decode_from (csr : CSR) (full : Bytes) (hfull : AllBytes full) :
    ∀ (fuel d : Nat) (cs : List (Nat × Node)), d ≤ full.length →
      newTree fuel (csr.filter (partialMatch full d)) d = .ok cs →
      (∀ r ∈ csr, r.low.length ≤ d → partialMatch full r.low.length r = false) →
      (d = 0 ∨ csr.filter (partialMatch full d) ≠ []) →
      decode (toSpec csr) full = (d + (kidsDec cs (full.drop d)).1, (kidsDec cs (full.drop d)).2) ∧
      ∀ r ∈ csr, partialMatch full r.low.length r = true → r.low.length = d + (kidsDec cs (full.drop d)).1 := by
  intro fuel
  induction fuel with
  | zero => intro d cs _ h; simp [newTree] at h
  | succ fuel ih =>
    intro d cs hd hT hnofull hne
    have hguard := (newTree_ok hT).1
    have hml : d + 1 ≤ minLength (csr.filter (partialMatch full d)) :=
      le_minLength _ _ (fun r hr => (hguard r hr).1) (hne.imp (by omega) id)
    have hlong : ∀ r ∈ csr, partialMatch full r.low.length r = true → d < r.low.length := by
      intro r hr hm
      apply Nat.lt_of_not_le
      intro hle; simp [hnofull r hr hle] at hm
    -- where no range is matched on `d + 1` bytes, the code is invalid
    have hinv : ∀ k, csr.filter (partialMatch full (d + 1)) = [] → full ≠ [] →
        d + k = min (minLength (csr.filter (partialMatch full d))) full.length →
        decode (toSpec csr) full = (d + k, false) ∧
          ∀ r ∈ csr, partialMatch full r.low.length r = true → r.low.length = d + k := by
      intro k hC hne' hk
      obtain ⟨hnone, e⟩ := decode_invalid csr full hne' d hd hnofull hne hC
      exact ⟨by rw [e, hk], fun r hr hm => by simp [hnone r hr] at hm⟩
    rcases Nat.eq_or_lt_of_le hd with hd' | hd'
    · -- the input ends here: inside a code, unless it is empty
      rw [show full.drop d = [] by rw [hd', List.drop_length], kidsDec_nil]
      by_cases hnil : full = []
      · subst hnil
        refine ⟨by simpa [decode_nil] using hd'.symm, fun r hr hm => ?_⟩
        have := hnofull r hr (Nat.le_trans (withinFirst_len _ _ _ _ hm).2.2 (Nat.zero_le d))
        simp [this] at hm
      · refine hinv 0 (List.filter_eq_nil_iff.mpr fun r _ hm => ?_) hnil (by omega)
        have := (withinFirst_len _ _ _ _ hm).2.2; omega
    · have hb : full[d] < 256 := hfull _ (List.getElem_mem hd')
      have hbyte := byteAt_eq_getElem full d hd'
      obtain ⟨n, hdec, hn⟩ := newTree_step hT full[d] hb
      rw [← hbyte, filter_step csr full d hd' hguard] at hn
      rw [List.drop_eq_getElem_cons hd', hdec]
      have hmemC : ∀ r ∈ csr, partialMatch full r.low.length r = true → r ∈ csr.filter (partialMatch full (d + 1)) :=
        fun r hr hm => List.mem_filter.mpr ⟨hr, withinFirst_mono _ _ _ (d + 1) _ (hlong r hr hm) hm⟩
      have hne' : full ≠ [] := by intro h; simp [h] at hd'
      rcases hn with ⟨hC, rfl⟩ | ⟨hC, hall, rfl⟩ | ⟨hC, hno, cs', hcs', rfl⟩
      · -- no range continues with this byte
        refine hinv _ hC hne' ?_
        simp only [dec_invalid, List.length_drop]
        exact add_min_sub d _ _ hml hd'
      · -- all ranges that continue end here: a valid code of `d + 1` bytes
        obtain ⟨r0, hr0⟩ := List.exists_mem_of_ne_nil _ hC
        have hl0 := hall r0 hr0
        obtain ⟨hr0c, hm0⟩ := List.mem_filter.mp hr0
        have huniq : ∀ r' ∈ csr, partialMatch full r'.low.length r' = true → r'.low.length = d + 1 :=
          fun r' hr' hm' => hall r' (hmemC r' hr' hm')
        rw [decode_valid csr full hne' r0 hr0c (by rw [hl0]; exact hm0) (fun r' hr' hm' => by rw [hl0]; exact huniq r' hr' hm')]
        simpa [dec_valid, hl0] using huniq
      · -- all of them are longer: descend
        simp only [dec_sub]
        have := ih (d + 1) cs' hd' hcs' (fun r hr hle => by
          cases hm : partialMatch full r.low.length r with
          | false => rfl
          | true => have := hno r (hmemC r hr hm); have := hlong r hr hm; omega) (.inr hC)
        simpa [Nat.add_assoc, Nat.add_comm 1] using this

/-- For every range set that `newTree` accepts, the tree decodes as the reference semantics does, and all ranges of
which `s` starts with a code have one length, the one the tree consumes (hence the set is prefix-free,
`C12cce.prefixFree_of_newTree_ok`). -/
theorem tree_sem_unique (csr : CSR) (tree : List (Nat × Node)) (h : newTree 4 csr 0 = .ok tree)
    (s : Bytes) (hs : AllBytes s) :
    kidsDec tree s = decode (toSpec csr) s ∧
    ∀ r ∈ csr, partialMatch s r.low.length r = true → r.low.length = (kidsDec tree s).1 := by
  obtain ⟨h1, h2⟩ := decode_from csr s hs 4 0 tree (Nat.zero_le _) (by rw [List.filter_eq_self.mpr fun r _ => partialMatch_zero s r]; exact h)
    (fun r hr hl => by have := ((newTree_ok h).1 r hr).1; omega) (.inl rfl)
  exact ⟨by simpa using h1.symm, fun r hr hm => by simpa using h2 r hr hm⟩

/-- For every range set that `newTree` accepts (every valid prefix-free set,
see `C12cce.newTree_ok_of_prefixFree`), and every byte string, the unshared lookup tree consumes
exactly the bytes ISO 32000-2 9.7.6.3 prescribes and reports validity accordingly. -/
theorem tree_sem (csr : CSR) (tree : List (Nat × Node)) (h : newTree 4 csr 0 = .ok tree)
    (s : Bytes) (hs : AllBytes s) :
    kidsDec tree s = decode (toSpec csr) s :=
  (tree_sem_unique csr tree h s hs).1

/-- non-vacuity: the 83pv-RKSJ-H ranges (the example of 9.7.6.3) are accepted by `newTree` -/
example : (match newTree 4 [⟨[0x00], [0x80]⟩, ⟨[0x81, 0x40], [0x9f, 0xfc]⟩, ⟨[0xa0], [0xdf]⟩,
    ⟨[0xe0, 0x40], [0xfc, 0xfc]⟩] 0 with | .ok _ => true | .error _ => false) = true := by
  decide +kernel

end PdfVerif.C12cc
