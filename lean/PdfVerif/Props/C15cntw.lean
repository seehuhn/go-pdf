import PdfVerif.Props.C15cntt
import PdfVerif.Props.C15cntm
import PdfVerif.Lemmas.C01Caps
/-!
# C15 (and C05, robustness) — nesting depth of scanned operands

On arbitrary bytes every operand of an operator returned by `Scan` has nesting depth at most
`maxContentNestDepth` (comments and operators; inline images are read by `readValueDepth`, which carries its own
depth parameter, and no bound is stated for them here):
`scanOne_depth`, from the loop invariant `FramesD` (`step_depth`) on the case lemmas of `C15cntt`.
-/
namespace PdfVerif.C15cntw
open PdfVerif PdfVerif.CNT PdfVerif.C15cntm PdfVerif.C15cntt

theorem classify_atomic (tok : Bytes) : depthO (classify tok) = 0 := by
  rcases classify_cases tok with ⟨i, e⟩ | e | ⟨b, e⟩ | e | e <;> rw [e] <;> rfl

theorem scanToken_atomic (inp rest : Bytes) (t : Obj) (h : scanToken inp = .ok t rest) : depthO t = 0 := by
  rcases (scanToken_spec inp).2 _ _ h with ⟨n, rfl⟩ | ⟨s, rfl⟩ | ⟨c, tl, _, rfl⟩
  · rfl
  · rfl
  · exact classify_atomic _

abbrev N : Nat := Gen.content_maxContentNestDepth

/-- depth invariant of the composite stack: what sits in a frame with `k` frames below it has
depth at most `N - k - 1`, so that closing all frames yields operands of depth at most `N` -/
def FramesD : List Frame → Prop
  | [] => True
  | top :: below => (∀ o ∈ top.data, depthO o + below.length + 1 ≤ N) ∧ FramesD below

def ArgsDepth (args : List Obj) : Prop := ∀ a ∈ args, depthO a ≤ N

theorem argsDepth_nil : ArgsDepth [] := nofun

theorem mem_mkDict (data : List Obj) (acc : List (Bytes × Obj)) (e : Bytes × Obj)
    (h : e ∈ mkDict data acc) : e ∈ acc ∨ e.2 ∈ data := by
  fun_induction mkDict data acc
  · rename_i ih
    rcases ih h with h' | h'
    · exact .inl h'
    · exact .inr (by simp [h'])
  · rename_i ih
    rcases ih h with h' | h'
    · rcases C01L.mem_dictInsert _ _ _ _ h' with h'' | h''
      · exact .inr (by simp [h''])
      · exact .inl h''
    · exact .inr (by simp [h'])
  · rename_i ih
    rcases ih h with h' | h'
    · exact .inl h'
    · exact .inr (by simp [h'])
  · exact .inl h

theorem depth_mkDict (data : List Obj) (n : Nat) (h : ∀ o ∈ data, depthO o ≤ n) : depthKV (mkDict data []) ≤ n := by
  rw [depthKV_le]
  intro e he
  rcases mem_mkDict data [] e he with h' | h'
  · simp at h'
  · exact h _ h'

/-- what the depth invariant demands of the outcome of one loop iteration -/
def StepD (s : Step) : Prop :=
  match s with
  | .cont stk' args' => FramesD stk' ∧ ArgsDepth args'
  | .emit _ args' => ArgsDepth args'
  | .image => True
  | .perr => True

theorem deliver_depth (stk : List Frame) (args : List Obj) (o : Obj) (hf : FramesD stk)
    (ha : ArgsDepth args) (ho : depthO o + stk.length ≤ N) : StepD (deliver stk args o) := by
  rcases deliver_cases stk args o with e | e | ⟨top, below, rfl, _, e⟩ | ⟨rfl, e | ⟨name, _, _, e⟩ | e⟩ <;> rw [e]
  · trivial
  · trivial
  · refine ⟨⟨fun x hx => ?_, hf.2⟩, ha⟩
    rcases List.mem_append.mp hx with hx | hx
    · exact hf.1 x hx
    · rw [List.mem_singleton.mp hx]
      simp only [List.length_cons] at ho
      omega
  · exact ⟨trivial, argsDepth_nil⟩
  · exact ha
  · refine ⟨trivial, ?_⟩
    split
    · intro a haa
      rcases List.mem_append.mp haa with haa | haa
      · exact ha a haa
      · rw [List.mem_singleton.mp haa]; simpa using ho
    · exact ha

theorem framesD_tail (top : Frame) (below : List Frame) (h : FramesD (top :: below)) : FramesD below := h.2

theorem step_depth (stk : List Frame) (args : List Obj) (tok : Obj) (hat : depthO tok = 0) (hs : StkOK stk)
    (hf : FramesD stk) (ha : ArgsDepth args) : StepD (step stk args tok) := by
  -- a composite closed with `below` frames under it: its elements were at most `N - below - 1` deep
  have close : ∀ (top : Frame) (below : List Frame) (o : Obj), stk = top :: below →
      (∀ n, (∀ x ∈ top.data, depthO x ≤ n) → depthO o ≤ n + 1) → StepD (deliver below args o) := by
    intro top below o hstk ho
    subst hstk
    have hlen : below.length + 1 ≤ N := by simpa using hs.1
    have := ho (N - below.length - 1) (fun x hx => by have := hf.1 x hx; omega)
    exact deliver_depth below args o hf.2 ha (by omega)
  rcases step_cases stk args tok with e | ⟨d, _, e⟩ | e | ⟨top, below, hstk, e | e | e⟩ | e <;> rw [e]
  · trivial
  · exact ⟨⟨by intro o ho; simp at ho, hf⟩, ha⟩
  · exact ⟨hf, ha⟩
  · subst hstk; exact ⟨hf.2, ha⟩
  · exact close top below _ hstk fun n hn => by
      have := depth_mkDict top.data n hn
      simp only [depthO]; omega
  · exact close top below _ hstk fun n hn => by
      have : depthL top.data ≤ n := by rw [depthL_le]; exact hn
      simp only [depthO]; omega
  · exact deliver_depth stk args _ hf ha (by rw [hat]; simpa using hs.1)

theorem scanLoop_depth : ∀ (f : Nat) (stk : List Frame) (args : List Obj) (inp : Bytes),
    StkOK stk → args.length ≤ Gen.content_maxOperatorArgs → FramesD stk → ArgsDepth args →
    ∀ op rest, scanLoop f stk args inp = .ok op rest → op.1 ≠ Gen.content_OpInlineImage → ArgsDepth op.2 := by
  intro f stk args inp
  fun_induction scanLoop f stk args inp
  all_goals intro hs hal hf ha op rest h hne
  case case5 f stk args inp tok rest' htok stk' args' hstep ih =>          -- the loop goes on: caps and depth invariant are kept by the step
    have hc := step_caps stk args tok hs hal
    have hd := step_depth stk args tok (scanToken_atomic _ _ _ htok) hs hf ha
    rw [hstep] at hc hd
    exact ih hc.1 hc.2 hd.1 hd.2 op rest h hne
  case case6 f stk args inp tok rest' htok name args' hstep =>           -- an operator is emitted with the operands collected
    have hd := step_depth stk args tok (scanToken_atomic _ _ _ htok) hs hf ha
    rw [hstep] at hd
    cases h
    exact hd
  case case7 =>                            -- an inline image
    obtain ⟨kv, data, _, rfl⟩ := (readInlineImage_total _).2 op rest h
    exact absurd rfl hne
  all_goals cases h

/-- `Scan` returns operands of depth ≤ `maxContentNestDepth` (comments and operators; the dictionary of an
inline image comes from `readValueDepth` and is excluded by the hypothesis) -/
theorem scanOne_depth (inp : Bytes) (op : Bytes × List Obj) (rest : Bytes) (h : scanOne inp = .ok op rest)
    (hne : op.1 ≠ Gen.content_OpInlineImage) : ∀ a ∈ op.2, depthO a ≤ Gen.content_maxContentNestDepth := by
  revert h
  fun_cases scanOne inp
  · nofun
  · nofun
  · intro h; cases h; intro a ha; rw [List.mem_singleton.mp ha]; exact Nat.zero_le _     -- the token is a comment
  · exact fun h => scanLoop_depth _ [] [] _ stkOK_nil (Nat.zero_le _) trivial argsDepth_nil op rest h hne

end PdfVerif.C15cntw
