import PdfVerif.Props.C12cce
/-!
# C12 (part 6) — `Codec.CodeSpaceRange` reports the same codes

`walk` over the node array collects exactly the boxes of the valid leaves of the tree; these
boxes describe the codes of the original range set; the merge loop only joins two boxes that are
adjacent in one byte position and equal elsewhere, which keeps the set of codes.
-/
namespace PdfVerif.C12ccf
open PdfVerif PdfVerif.CC PdfVerif.C12cc PdfVerif.C12ccb PdfVerif.C12ccc PdfVerif.C12ccd PdfVerif.C12cce
open PdfVerif.Spec.CodeSpace

mutual
/-- for every valid leaf below the node, the intervals on the way down (low and high bytes) -/
def nodeBoxes : Node → List (Bytes × Bytes)
  | .valid => [([], [])]
  | .invalid _ => []
  | .sub cs => kidsBoxes 0 cs
def kidsBoxes : Nat → List (Nat × Node) → List (Bytes × Bytes)
  | _, [] => []
  | nl, (hi, n) :: rest => (nodeBoxes n).map (fun b => (nl :: b.1, hi :: b.2)) ++ kidsBoxes (hi + 1) rest
end

/-- `bs` lies in the box, length included -/
def BoxMatch : Bytes × Bytes → Bytes → Prop
  | ([], []), [] => True
  | (l :: lo, h :: hi), b :: bs => l ≤ b ∧ b ≤ h ∧ BoxMatch (lo, hi) bs
  | _, _ => False

theorem nodeBoxes_valid : nodeBoxes .valid = [([], [])] := rfl
theorem nodeBoxes_invalid (k : Nat) : nodeBoxes (.invalid k) = [] := rfl
theorem nodeBoxes_sub (cs : List (Nat × Node)) : nodeBoxes (.sub cs) = kidsBoxes 0 cs := rfl
theorem kidsBoxes_nil (nl : Nat) : kidsBoxes nl [] = [] := rfl
theorem kidsBoxes_cons (nl hi : Nat) (n : Node) (rest : List (Nat × Node)) :
    kidsBoxes nl ((hi, n) :: rest) = (nodeBoxes n).map (fun b => (nl :: b.1, hi :: b.2)) ++ kidsBoxes (hi + 1) rest := rfl

theorem boxMatch_cons (l h b : Nat) (lo hi bs : Bytes) :
    BoxMatch (l :: lo, h :: hi) (b :: bs) ↔ l ≤ b ∧ b ≤ h ∧ BoxMatch (lo, hi) bs := Iff.rfl
theorem boxMatch_nil (bs : Bytes) : BoxMatch ([], []) bs ↔ bs = [] := by cases bs <;> simp [BoxMatch]
theorem boxMatch_cons_nil (l h : Nat) (lo hi : Bytes) : ¬ BoxMatch (l :: lo, h :: hi) [] := id

theorem kidsBoxes_cons_match (nl : Nat) (cs : List (Nat × Node)) (hs : kidsSorted nl cs) (b : Bytes × Bytes)
    (hb : b ∈ kidsBoxes nl cs) (t : Bytes) (hm : BoxMatch b t) : ∃ x t', t = x :: t' ∧ nl ≤ x := by
  induction cs generalizing nl with
  | nil => simp [kidsBoxes_nil] at hb
  | cons kid rest ih =>
    obtain ⟨hi, n⟩ := kid
    simp only [kidsSorted] at hs
    simp only [kidsBoxes_cons, List.mem_append, List.mem_map] at hb
    rcases hb with ⟨b', _, rfl⟩ | hb
    · cases t with
      | nil => exact absurd hm (boxMatch_cons_nil _ _ _ _)
      | cons x t' => rw [boxMatch_cons] at hm; exact ⟨x, t', rfl, hm.1⟩
    · obtain ⟨x, t', e, h⟩ := ih (hi + 1) hs.2.2.2 hb
      exact ⟨x, t', e, by omega⟩

mutual
theorem node_boxes_sem (n : Node) (hs : nodeSorted n) (t : Bytes) :
    (∃ b ∈ nodeBoxes n, BoxMatch b t) ↔ n.dec t = (t.length, true) := by
  match n with
  | .valid =>
    simp only [nodeBoxes_valid, List.mem_singleton, exists_eq_left, dec_valid, Prod.mk.injEq, and_true]
    cases t <;> simp [boxMatch_nil]
  | .invalid k => simp [nodeBoxes_invalid, dec_invalid]
  | .sub cs =>
    simp only [nodeSorted] at hs
    simp only [nodeBoxes_sub, dec_sub]
    cases t with
    | nil =>
      rw [kidsDec_nil]
      refine iff_of_false ?_ (by simp)
      rintro ⟨b, hb, hm⟩
      obtain ⟨_, _, h, _⟩ := kidsBoxes_cons_match 0 cs hs b hb [] hm
      cases h
    | cons x t => rw [kids_boxes_sem 0 cs hs x t]; simp
theorem kids_boxes_sem (nl : Nat) (cs : List (Nat × Node)) (hs : kidsSorted nl cs) (x : Nat) (t : Bytes) :
    (∃ b ∈ kidsBoxes nl cs, BoxMatch b (x :: t)) ↔ (nl ≤ x ∧ kidsDec cs (x :: t) = (t.length + 1, true)) := by
  match cs with
  | [] => simp [kidsBoxes_nil, kidsDec_nil_cons]
  | (hi, n) :: rest =>
    simp only [kidsSorted] at hs
    obtain ⟨h1, h2, h3, h4⟩ := hs
    simp only [kidsBoxes_cons, List.mem_append, List.mem_map]
    by_cases hsel : x ≤ hi
    · simp only [kidsDec_hit hsel, Prod.mk.injEq, Nat.add_right_cancel_iff]
      constructor
      · rintro ⟨b, hb, hm⟩
        rcases hb with ⟨b', hb', rfl⟩ | hb
        · rw [boxMatch_cons] at hm
          rw [(node_boxes_sem n h3 t).mp ⟨b', hb', hm.2.2⟩]
          exact ⟨hm.1, rfl, rfl⟩
        · -- the boxes of the later children start above `hi`
          obtain ⟨_, _, e, hx⟩ := kidsBoxes_cons_match (hi + 1) rest h4 b hb _ hm
          cases e; omega
      · rintro ⟨hx, hd1, hd2⟩
        obtain ⟨b', hb', hm⟩ := (node_boxes_sem n h3 t).mpr (by rw [← hd1, ← hd2])
        exact ⟨_, .inl ⟨b', hb', rfl⟩, (boxMatch_cons ..).mpr ⟨hx, hsel, hm⟩⟩
    · simp only [kidsDec_miss hsel]
      have ih := kids_boxes_sem (hi + 1) rest h4 x t
      constructor
      · rintro ⟨b, hb, hm⟩
        rcases hb with ⟨b', hb', rfl⟩ | hb
        · rw [boxMatch_cons] at hm; omega
        · exact ⟨by omega, (ih.mp ⟨b, hb, hm⟩).2⟩
      · rintro ⟨hx, hd⟩
        obtain ⟨b, hb, hm⟩ := ih.mpr ⟨by omega, hd⟩
        exact ⟨b, .inr hb, hm⟩
end

/-- the `switch c.nodes[cur].child` of `Codec.walk` -/
def walkChild (nodes : List LNode) (fuel : Nat) (acc : CSR) (c : Nat) (low2 high2 : Bytes) : Except CErr CSR :=
  if c == Gen.cc_validLeaf then .ok (acc ++ [⟨low2, high2⟩])
  else if isSpecial c then .ok acc
  else walk nodes fuel nodes.length acc c low2 high2 0

theorem walk_succ (nodes : List LNode) (fuel n : Nat) (acc : CSR) (cur : Nat) (low high : Bytes) (nl : Nat) :
    walk nodes (fuel + 1) (n + 1) acc cur low high nl =
      match nodes[cur]? with
      | none => .error .panic
      | some node =>
        match walkChild nodes fuel acc node.child (low ++ [nl]) (high ++ [node.bound]) with
        | .error e => .error e
        | .ok acc' =>
          if node.bound == 255 then .ok acc'
          else walk nodes (fuel + 1) n acc' (cur + 1) low high (node.bound + 1) := by
  rw [walk]
  cases nodes[cur]? with
  | none => rfl
  | some node => rfl

theorem reprOK_len (nodes : List LNode) (cs : List (Nat × Node)) (idx : Nat) (h : reprOK nodes cs idx = true) :
    cs.length ≤ nodes.length - idx := by
  induction cs generalizing idx with
  | nil => exact Nat.zero_le _
  | cons kid rest ih =>
    obtain ⟨hi, n⟩ := kid
    obtain ⟨ln, hln, _, _, hrest⟩ := (reprOK_cons nodes hi n rest idx).mp h
    have hlt : idx < nodes.length := (List.getElem?_eq_some_iff.mp hln).1
    have := ih (idx + 1) hrest
    simp only [List.length_cons]; omega

/-- what `walk` reports for a box found below the path `low`, `high` -/
def toRange (low high : Bytes) (b : Bytes × Bytes) : Range := ⟨low ++ b.1, high ++ b.2⟩

/-- `walk` tests the four invalid values together (`isSpecial`); it is the same switch -/
theorem walkChild_eq (nodes : List LNode) (fuel : Nat) (acc : CSR) (c : Nat) (low2 high2 : Bytes) :
    walkChild nodes fuel acc c low2 high2 =
      childSwitch c (.ok (acc ++ [⟨low2, high2⟩])) (fun _ => .ok acc)
        (walk nodes fuel nodes.length acc c low2 high2 0) := by
  unfold walkChild childSwitch isSpecial
  by_cases h : (c == Gen.cc_validLeaf) = true
  · rw [if_pos h, if_pos h]
  · rw [if_neg h, if_neg h]
    generalize (c == Gen.cc_invalidConsume3) = b3
    generalize (c == Gen.cc_invalidConsume2) = b2
    generalize (c == Gen.cc_invalidConsume1) = b1
    generalize (c == Gen.cc_invalidConsume0) = b0
    cases b3 <;> cases b2 <;> cases b1 <;> cases b0 <;> rfl

mutual
theorem walk_node (nodes : List LNode) (n : Node) (c : Nat) (hr : childOK nodes n c = true) (hs : nodeSorted n)
    (fuel : Nat) (hd : nodeBudget n ≤ fuel) (acc : CSR) (low2 high2 : Bytes) :
    walkChild nodes fuel acc c low2 high2 = .ok (acc ++ (nodeBoxes n).map (toRange low2 high2)) := by
  rw [walkChild_eq, childSwitch_of_childOK _ _ _ hr]
  match n with
  | .valid => simp [nodeBoxes_valid, toRange]
  | .invalid k => simp [nodeBoxes_invalid]
  | .sub cs =>
    have hrep := ((childOK_sub nodes cs c).mp hr).2.2
    simp only [nodeSorted] at hs
    simp only [nodeBudget] at hd
    rw [walk_kids nodes cs c hrep 0 hs fuel nodes.length hd (Nat.le_trans (reprOK_len nodes cs c hrep) (Nat.sub_le _ _))
      acc low2 high2 (kidsSorted_ne_nil hs (by omega))]
    simp [nodeBoxes_sub]
theorem walk_kids (nodes : List LNode) (cs : List (Nat × Node)) (idx : Nat) (hr : reprOK nodes cs idx = true)
    (nl : Nat) (hs : kidsSorted nl cs) (fuel m : Nat) (hd : kidsBudget cs ≤ fuel) (hm : cs.length ≤ m)
    (acc : CSR) (low high : Bytes) :
    cs ≠ [] → walk nodes fuel m acc idx low high nl = .ok (acc ++ (kidsBoxes nl cs).map (toRange low high)) := by
  match cs with
  | [] => intro h; exact absurd rfl h
  | (hi, n) :: rest =>
    intro _
    simp only [kidsBudget] at hd
    simp only [kidsSorted] at hs
    obtain ⟨s1, s2, s3, s4⟩ := hs
    cases fuel with
    | zero => omega
    | succ fuel =>
      cases m with
      | zero => simp at hm
      | succ m =>
        obtain ⟨ln, hln, hbound, hchild, hrest⟩ := (reprOK_cons nodes hi n rest idx).mp hr
        rw [walk_succ, hln]
        simp only
        rw [walk_node nodes n ln.child hchild s3 fuel
          (Nat.le_of_succ_le_succ (Nat.le_trans (Nat.le_max_left _ _) hd)) acc (low ++ [nl]) (high ++ [ln.bound])]
        simp only [hbound]
        by_cases h255 : hi = 255
        · -- the last child: no bound above 255
          subst h255
          have : rest = [] := by
            cases rest with
            | nil => rfl
            | cons k r => obtain ⟨h', n'⟩ := k; simp only [kidsSorted] at s4; omega
          subst this
          simp [kidsBoxes_cons, kidsBoxes_nil, toRange, List.map_map]
        · have hne' : rest ≠ [] := kidsSorted_ne_nil s4 (by omega)
          have h255' : (hi == 255) = false := by simpa using h255
          simp only [h255', Bool.false_eq_true, if_false]
          rw [walk_kids nodes rest (idx + 1) hrest (hi + 1) s4 (fuel + 1) m (Nat.le_trans (Nat.le_max_right _ _) hd)
            (Nat.le_of_succ_le_succ hm) _ low high hne']
          simp [kidsBoxes_cons, toRange, List.map_map, List.append_assoc]
end

theorem boxMatch_iff (lo hi bs : Bytes) :
    BoxMatch (lo, hi) bs ↔ (bs.length = lo.length ∧ lo.length = hi.length ∧ withinFirst lo hi bs lo.length = true) := by
  induction lo generalizing hi bs with
  | nil =>
    cases hi with
    | nil => cases bs <;> simp [BoxMatch, withinFirst]
    | cons h hi => cases bs <;> simp [BoxMatch]
  | cons l lo ih =>
    cases hi with
    | nil => cases bs <;> simp [BoxMatch]
    | cons h hi =>
      cases bs with
      | nil => simp [BoxMatch]
      | cons b bs =>
        simp only [BoxMatch, ih, List.length_cons, withinFirst, Bool.and_eq_true, decide_eq_true_eq,
          Nat.add_right_cancel_iff]
        constructor
        · rintro ⟨a, b', c, d, e⟩; exact ⟨c, d, ⟨a, b'⟩, e⟩
        · rintro ⟨c, d, ⟨a, b'⟩, e⟩; exact ⟨a, b', c, d, e⟩

theorem boxMatch_allBytes (lo hi bs : Bytes) (hhi : ∀ x ∈ hi, x < 256) (h : BoxMatch (lo, hi) bs) : AllBytes bs := by
  obtain ⟨h1, _, h3⟩ := (boxMatch_iff lo hi bs).mp h
  exact withinFirst_allBytes lo hi bs hhi (by rw [h1]; exact h3)

mutual
theorem node_boxes_wf (n : Node) (hs : nodeSorted n) :
    ∀ b ∈ nodeBoxes n, b.1.length = b.2.length ∧ leAll b.1 b.2 = true ∧ ∀ x ∈ b.2, x < 256 := by
  match n with
  | .valid => simp [nodeBoxes_valid, leAll]
  | .invalid k => simp [nodeBoxes_invalid]
  | .sub cs => simp only [nodeSorted] at hs; simp only [nodeBoxes_sub]; exact kids_boxes_wf 0 cs hs
theorem kids_boxes_wf (nl : Nat) (cs : List (Nat × Node)) (hs : kidsSorted nl cs) :
    ∀ b ∈ kidsBoxes nl cs, b.1.length = b.2.length ∧ leAll b.1 b.2 = true ∧ ∀ x ∈ b.2, x < 256 := by
  match cs with
  | [] => simp [kidsBoxes_nil]
  | (hi, n) :: rest =>
    simp only [kidsSorted] at hs
    intro b hb
    simp only [kidsBoxes_cons, List.mem_append, List.mem_map] at hb
    rcases hb with ⟨b', hb', rfl⟩ | hb
    · obtain ⟨a1, a2, a3⟩ := node_boxes_wf n hs.2.2.1 b' hb'
      refine ⟨by simp [a1], by simp [leAll, a2]; exact hs.1, fun x hx => ?_⟩
      rcases List.mem_cons.mp hx with rfl | hx
      · exact hs.2.1
      · exact a3 x hx
    · exact kids_boxes_wf (hi + 1) rest hs.2.2.2 b hb
end

theorem nodeBoxes_hi (n : Node) (hs : nodeSorted n) : ∀ b ∈ nodeBoxes n, ∀ x ∈ b.2, x < 256 :=
  fun b hb => (node_boxes_wf n hs b hb).2.2

/-- the working form of `Spec.SameCodes` (`sameCodes_toSpec`): the theorems say `∀ bs, IsCodeOf a bs ↔ IsCodeOf b bs` -/
def IsCodeOf (csr : CSR) (bs : Bytes) : Prop := ∃ r ∈ csr, (toSpecR r).isCode bs = true

theorem isCodeOf_iff_any (csr : CSR) (bs : Bytes) :
    IsCodeOf csr bs ↔ ((toSpec csr).any fun r => r.isCode bs) = true := by
  simp [IsCodeOf, toSpec]

theorem sameCodes_toSpec (a b : CSR) : SameCodes (toSpec a) (toSpec b) ↔ ∀ bs, IsCodeOf a bs ↔ IsCodeOf b bs :=
  forall_congr' fun bs => by rw [Bool.eq_iff_iff, ← isCodeOf_iff_any, ← isCodeOf_iff_any]

theorem isCodeOf_iff_decode (csr : CSR) (hpf : PrefixFree (toSpec csr)) (bs : Bytes) (hne : bs ≠ []) :
    IsCodeOf csr bs ↔ decode (toSpec csr) bs = (bs.length, true) := by
  constructor
  · rintro ⟨r, hr, hc⟩
    obtain ⟨hl, hm⟩ := (isCode_toSpecR r bs).mp hc
    rw [decode_valid csr bs hne r hr hm fun r' hr' hs' => starts_unique csr hpf bs r' r hr' hr hs' hm, hl]
  · fun_cases decode (toSpec csr) bs with
    | case1 | case3 => intro h; simp at h
    | case2 _ r hr =>
      intro h
      obtain ⟨r', hr', rfl⟩ := List.mem_map.mp (List.mem_of_find?_eq_some hr)
      have h2 := List.find?_some hr
      exact ⟨r', hr', by
        simp only [CodeRange.isCode, Bool.and_eq_true, decide_eq_true_eq]; exact ⟨(Prod.mk.inj h).1.symm, h2⟩⟩

theorem boxes_sameCodes (csr : CSR) (tree : List (Nat × Node)) (hT : newTree 4 csr 0 = .ok tree)
    (hbytes : ∀ r ∈ csr, AllBytes r.high) (bs : Bytes) :
    (∃ b ∈ kidsBoxes 0 tree, BoxMatch b bs) ↔ IsCodeOf csr bs := by
  have hs := (newTree_shape hT).1
  have hpf := prefixFree_of_newTree_ok csr tree hT hbytes
  cases bs with
  | nil =>
    -- no box is empty, and no range has length 0
    refine iff_of_false ?_ ?_
    · rintro ⟨b, hb, hm⟩
      obtain ⟨_, _, h, _⟩ := kidsBoxes_cons_match 0 tree hs b hb [] hm
      cases h
    · rintro ⟨r, hr, hc⟩
      have h0 := ((isCode_toSpecR r []).mp hc).1
      have := ((newTree_ok hT).1 r hr).1
      simp at h0; omega
  | cons x t =>
    have hbox := kids_boxes_sem 0 tree hs x t
    have hne : x :: t ≠ [] := by simp
    constructor
    · rintro ⟨b, hb, hm⟩
      have hab : AllBytes (x :: t) := boxMatch_allBytes b.1 b.2 _ (kids_boxes_wf 0 tree hs b hb).2.2 hm
      rw [isCodeOf_iff_decode csr hpf _ hne, ← tree_sem csr tree hT _ hab]
      exact (hbox.mp ⟨b, hb, hm⟩).2
    · intro hc
      have hab : AllBytes (x :: t) := by
        obtain ⟨r, hr, hc'⟩ := hc
        obtain ⟨hl, hm⟩ := (isCode_toSpecR r _).mp hc'
        exact withinFirst_allBytes _ _ _ (hbytes r hr) (by rw [hl]; exact hm)
      rw [isCodeOf_iff_decode csr hpf _ hne, ← tree_sem csr tree hT _ hab] at hc
      exact hbox.mpr ⟨Nat.zero_le _, hc⟩

theorem four_lists {P : Bytes → Bytes → Bytes → Bytes → Prop} (nil : P [] [] [] [])
    (cons : ∀ a b c d rl rh sl sh, P rl rh sl sh → P (a :: rl) (b :: rh) (c :: sl) (d :: sh)) :
    ∀ rl rh sl sh : Bytes, rl.length = rh.length → rl.length = sl.length → rl.length = sh.length → P rl rh sl sh := by
  intro rl
  induction rl with
  | nil =>
    intro rh sl sh h1 h2 h3
    rw [List.length_eq_zero_iff.mp h1.symm, List.length_eq_zero_iff.mp h2.symm, List.length_eq_zero_iff.mp h3.symm]
    exact nil
  | cons a rl ih =>
    intro rh sl sh h1 h2 h3
    obtain ⟨b, rh, rfl⟩ := List.exists_cons_of_length_eq_add_one h1.symm
    obtain ⟨c, sl, rfl⟩ := List.exists_cons_of_length_eq_add_one h2.symm
    obtain ⟨d, sh, rfl⟩ := List.exists_cons_of_length_eq_add_one h3.symm
    exact cons a b c d rl rh sl sh (ih rh sl sh (Nat.succ.inj h1) (Nat.succ.inj h2) (Nat.succ.inj h3))

/-- `canMerge` walks the four bound lists in step: positions where both ranges have the same
interval are skipped, at one position (`k = 0` before it, `1` after) `r` may end just below the
start of `s`; there the merged interval is the union, elsewhere it is the common one -/
theorem canMergeLoop_sem (rl rh sl sh : Bytes) (k : Nat)
    (h1 : rl.length = rh.length) (h2 : rl.length = sl.length) (h3 : rl.length = sh.length)
    (hr : leAll rl rh = true) (hs : leAll sl sh = true)
    (h : canMergeLoop rl rh sl sh k = true) :
    (0 < k → rl = sl ∧ rh = sh) ∧
    (k = 0 → leAll rl sh = true ∧ ∀ bs, BoxMatch (rl, sh) bs ↔ (BoxMatch (rl, rh) bs ∨ BoxMatch (sl, sh) bs)) := by
  revert k hr hs h
  refine four_lists (P := fun rl rh sl sh => ∀ k, leAll rl rh = true → leAll sl sh = true →
      canMergeLoop rl rh sl sh k = true → (0 < k → rl = sl ∧ rh = sh) ∧
      (k = 0 → leAll rl sh = true ∧ ∀ bs, BoxMatch (rl, sh) bs ↔ (BoxMatch (rl, rh) bs ∨ BoxMatch (sl, sh) bs)))
    ?_ ?_ rl rh sl sh h1 h2 h3
  · intro k _ _ _
    exact ⟨fun _ => ⟨rfl, rfl⟩, fun _ => ⟨by simp [leAll], fun bs => by simp⟩⟩
  · intro a b c d rl rh sl sh ih k hr hs h
    simp only [leAll, Bool.and_eq_true, Bool.not_eq_true', decide_eq_false_iff_not, Nat.not_lt] at hr hs
    simp only [canMergeLoop] at h
    have ih' := fun k => ih k hr.2 hs.2
    split at h
    · rename_i heq
      simp only [Bool.and_eq_true, beq_iff_eq] at heq
      obtain ⟨e1, e2⟩ := heq
      subst e1 e2
      obtain ⟨i1, i2⟩ := ih' k h
      refine ⟨fun hk => by rw [(i1 hk).1, (i1 hk).2]; exact ⟨rfl, rfl⟩, fun hk => ?_⟩
      obtain ⟨j1, j2⟩ := i2 hk
      refine ⟨by simp [leAll, j1]; exact hs.1, fun bs => ?_⟩
      cases bs with
      | nil => simp [boxMatch_cons_nil]
      | cons x bs =>
        simp only [boxMatch_cons, j2 bs]
        constructor
        · rintro ⟨p, q, r | r⟩
          · exact .inl ⟨p, q, r⟩
          · exact .inr ⟨p, q, r⟩
        · rintro (⟨p, q, r⟩ | ⟨p, q, r⟩)
          · exact ⟨p, q, .inl r⟩
          · exact ⟨p, q, .inr r⟩
    · split at h
      · cases h
      · rename_i hadj
        simp only [Bool.not_eq_true', Bool.or_eq_true, decide_eq_true_eq, not_or, Bool.not_eq_false,
          beq_iff_eq, Nat.not_lt, Nat.le_zero_eq] at hadj
        obtain ⟨hadj', hk0⟩ := hadj
        refine ⟨fun hk => by omega, fun _ => ?_⟩
        -- the one position where `r` ends just below `s`; behind it the two ranges agree
        obtain ⟨e1, e2⟩ := (ih' (k + 1) h).1 (by omega)
        subst e1 e2
        refine ⟨by simp [leAll, hs.2]; omega, fun bs => ?_⟩
        cases bs with
        | nil => simp [boxMatch_cons_nil]
        | cons x bs =>
          simp only [boxMatch_cons]
          constructor
          · rintro ⟨p, q, r⟩
            by_cases hx : x ≤ b
            · exact .inl ⟨p, hx, r⟩
            · exact .inr ⟨by omega, q, r⟩
          · rintro (⟨p, q, r⟩ | ⟨p, q, r⟩)
            · exact ⟨p, by omega, r⟩
            · exact ⟨by omega, q, r⟩

/-- `Range.isValid` without the limits on the length; the boxes `walk` finds and their merges have it -/
def Shape (r : Range) : Prop := r.low.length = r.high.length ∧ leAll r.low r.high = true

theorem Shape.of_isValid {r : Range} (h : r.isValid = true) : Shape r :=
  ⟨(isValid_parts r h).1, (isValid_parts r h).2.2.2⟩

theorem isCode_iff_boxMatch (r : Range) (hs : Shape r) (bs : Bytes) :
    (toSpecR r).isCode bs = true ↔ BoxMatch (r.low, r.high) bs := by
  rw [boxMatch_iff, isCode_toSpecR]
  exact ⟨fun ⟨a, b⟩ => ⟨a, hs.1, b⟩, fun ⟨a, _, b⟩ => ⟨a, b⟩⟩

theorem merge_pair (r s : Range) (hr : Shape r) (hs : Shape s) (hm : canMerge r s = true) :
    Shape ⟨r.low, s.high⟩ ∧
      ∀ bs, BoxMatch (r.low, s.high) bs ↔ (BoxMatch (r.low, r.high) bs ∨ BoxMatch (s.low, s.high) bs) := by
  unfold canMerge at hm
  split at hm
  · cases hm
  · rename_i hl
    simp only [bne_iff_ne, ne_eq, Decidable.not_not] at hl
    obtain ⟨m1, m2⟩ := (canMergeLoop_sem r.low r.high s.low s.high 0 hr.1 hl (by rw [hl]; exact hs.1) hr.2 hs.2 hm).2 rfl
    exact ⟨⟨by simp only; rw [hl]; exact hs.1, m1⟩, m2⟩

theorem minCand_mem (l : List (Nat × Nat × Nat)) (c : Nat × Nat × Nat) (h : minCand l = some c) : c ∈ l := by
  fun_induction minCand l with
  | case1 => cases h
  | case2 x cs hn ih => cases h; simp
  | case3 x cs m hm hlt ih => cases h; exact List.mem_cons_of_mem _ (ih hm)
  | case4 x cs m hm hlt ih => cases h; simp

theorem zip_range_mem (l : List Range) (k : Nat) (r : Range) (h : (k, r) ∈ (List.range l.length).zip l) :
    l[k]? = some r := by
  obtain ⟨i, hi⟩ := List.mem_iff_getElem?.mp h
  rw [List.getElem?_zip_eq_some] at hi
  obtain ⟨h1, h2⟩ := hi
  have hlt : i < (List.range l.length).length := (List.getElem?_eq_some_iff.mp h1).1
  rw [List.getElem?_range (by simpa using hlt)] at h1
  injection h1 with h1
  subst h1
  exact h2

theorem candidates_mem (csr : CSR) (cands : List (Nat × Nat × Nat)) (h : candidates csr = .ok cands)
    (c : Nat × Nat × Nat) (hc : c ∈ cands) :
    ∃ ri rj, csr[c.2.1]? = some ri ∧ csr[c.2.2]? = some rj ∧ c.2.1 ≠ c.2.2 ∧ canMerge ri rj = true := by
  unfold candidates at h
  obtain ⟨p, hp, hf⟩ := mapE_mem _ _ _ h c hc
  simp only [List.mem_filter, List.mem_flatMap, List.mem_map, Bool.and_eq_true, bne_iff_ne, ne_eq] at hp
  obtain ⟨⟨a, ha, b, hb, rfl⟩, hne, hcm⟩ := hp
  simp only at hf hne hcm
  split at hf
  · cases hf
  · injection hf with hf; subst hf
    obtain ⟨ai, ar⟩ := a
    obtain ⟨bi, br⟩ := b
    exact ⟨ar, br, zip_range_mem csr ai ar ha, zip_range_mem csr bi br hb, hne, hcm⟩

theorem perm_cons_eraseIdx {α : Type} : ∀ (l : List α) (i : Nat) (a : α), l[i]? = some a → l.Perm (a :: l.eraseIdx i)
  | _ :: _, 0, _, h => by cases h; exact .refl _
  | x :: l, i + 1, a, h => ((perm_cons_eraseIdx l i a h).cons x).trans (.swap a x _)

theorem set_perm {α : Type} : ∀ (l : List α) (i : Nat) (m : α), i < l.length → (l.set i m).Perm (m :: l.eraseIdx i)
  | _ :: _, 0, _, _ => .refl _
  | x :: l, i + 1, m, h => ((set_perm l i m (Nat.lt_of_succ_lt_succ h)).cons x).trans (.swap m x _)

/-- one round of the merge loop, up to the order of the list: `ri` and `rj` go, `m` comes.  Whether all ranges have a
shape, which codes they have and whether they are pairwise disjoint does not depend on the order. -/
theorem merge_perm (csr : CSR) (i j : Nat) (ri rj m : Range) (hij : i ≠ j) (hi : csr[i]? = some ri)
    (hj : csr[j]? = some rj) :
    ∃ rest, csr.Perm (ri :: rj :: rest) ∧ ((csr.set i m).eraseIdx j).Perm (m :: rest) := by
  have hilt : i < csr.length := (List.getElem?_eq_some_iff.mp hi).1
  have hmem : rj ∈ csr.eraseIdx i := List.mem_eraseIdx_iff_getElem?.mpr ⟨j, Ne.symm hij, hj⟩
  refine ⟨(csr.eraseIdx i).erase rj, (perm_cons_eraseIdx csr i ri hi).trans ((List.perm_cons_erase hmem).cons ri), ?_⟩
  have h1 := perm_cons_eraseIdx (csr.set i m) j rj (by rw [List.getElem?_set_ne hij]; exact hj)
  have h2 := (set_perm csr i m hilt).trans ((List.perm_cons_erase hmem).cons m)
  -- both are `rj :: m :: rest` up to order; cancel `rj`
  exact (h1.symm.trans (h2.trans (.swap rj m _))).cons_inv

theorem isCodeOf_cons (r : Range) (L : CSR) (bs : Bytes) :
    IsCodeOf (r :: L) bs ↔ (toSpecR r).isCode bs = true ∨ IsCodeOf L bs := by
  simp [IsCodeOf]

theorem isCodeOf_perm {A B : CSR} (h : A.Perm B) (bs : Bytes) : IsCodeOf A bs ↔ IsCodeOf B bs := by
  simp only [IsCodeOf, h.mem_iff]

theorem mergeLoop_succ (fuel : Nat) (csr : CSR) (cands : List (Nat × Nat × Nat)) (hc : candidates csr = .ok cands) :
    mergeLoop (fuel + 1) csr = .ok csr ∨
    ∃ i j ri rj, i ≠ j ∧ csr[i]? = some ri ∧ csr[j]? = some rj ∧ canMerge ri rj = true ∧
      mergeLoop (fuel + 1) csr = mergeLoop fuel ((csr.set i { ri with high := rj.high }).eraseIdx j) := by
  simp only [mergeLoop, hc]
  cases hmin : minCand cands with
  | none => exact .inl rfl
  | some c =>
    obtain ⟨pos, i, j⟩ := c
    obtain ⟨ri, rj, hi, hj, hij, hcm⟩ := candidates_mem csr cands hc _ (minCand_mem _ _ hmin)
    exact .inr ⟨i, j, ri, rj, hij, hi, hj, hcm, by simp only [hi, hj]⟩

theorem merge_step (csr : CSR) (i j : Nat) (ri rj : Range) (hij : i ≠ j) (hi : csr[i]? = some ri)
    (hj : csr[j]? = some rj) (hsh : ∀ r ∈ csr, Shape r) (hcm : canMerge ri rj = true) :
    (∀ r ∈ (csr.set i { ri with high := rj.high }).eraseIdx j, Shape r) ∧
    ∀ bs, IsCodeOf ((csr.set i { ri with high := rj.high }).eraseIdx j) bs ↔ IsCodeOf csr bs := by
  obtain ⟨rest, p1, p2⟩ := merge_perm csr i j ri rj ⟨ri.low, rj.high⟩ hij hi hj
  have hsh' : ∀ r ∈ ri :: rj :: rest, Shape r := fun r hr => hsh r (p1.mem_iff.mpr hr)
  obtain ⟨msh, mbox⟩ := merge_pair ri rj (hsh' ri (by simp)) (hsh' rj (by simp)) hcm
  refine ⟨fun r hr => ?_, fun bs => ?_⟩
  · rcases List.mem_cons.mp (p2.mem_iff.mp hr) with rfl | h
    · exact msh
    · exact hsh' r (by simp [h])
  · rw [isCodeOf_perm p2, isCodeOf_perm p1, isCodeOf_cons, isCodeOf_cons, isCodeOf_cons, ← or_assoc,
      isCode_iff_boxMatch _ msh, isCode_iff_boxMatch _ (hsh' ri (by simp)), isCode_iff_boxMatch _ (hsh' rj (by simp)),
      mbox bs]

theorem mergeLoop_sameCodes : ∀ (fuel : Nat) (csr out : CSR), mergeLoop fuel csr = .ok out →
    (∀ r ∈ csr, Shape r) → (∀ r ∈ out, Shape r) ∧ ∀ bs, IsCodeOf out bs ↔ IsCodeOf csr bs := by
  intro fuel
  induction fuel with
  | zero => intro csr out h; simp [mergeLoop] at h
  | succ fuel ih =>
    intro csr out h hsh
    cases hc : candidates csr with
    | error e => simp [mergeLoop, hc] at h
    | ok cands =>
      rcases mergeLoop_succ fuel csr cands hc with e | ⟨i, j, ri, rj, hij, hi, hj, hcm, e⟩
      · rw [e] at h; cases h; exact ⟨hsh, fun bs => Iff.rfl⟩
      · rw [e] at h
        obtain ⟨s1, s2⟩ := merge_step csr i j ri rj hij hi hj hsh hcm
        obtain ⟨o1, o2⟩ := ih _ out h s1
        exact ⟨o1, fun bs => (o2 bs).trans (s2 bs)⟩

theorem nodeBoxes_shape (n : Node) (hs : nodeSorted n) :
    ∀ b ∈ nodeBoxes n, b.1.length = b.2.length ∧ leAll b.1 b.2 = true :=
  fun b hb => ⟨(node_boxes_wf n hs b hb).1, (node_boxes_wf n hs b hb).2.1⟩

theorem walk_tree (csr : CSR) (tree : List (Nat × Node)) (c : Codec) (hv : ∀ r ∈ csr, r.isValid = true)
    (hT : newTree 4 csr 0 = .ok tree) (hR : reprOK c.nodes tree 0 = true) :
    walk c.nodes 5 c.nodes.length [] 0 [] [] 0 = .ok ((kidsBoxes 0 tree).map (toRange [] [])) := by
  -- 5 is the fuel the model's `codeSpaceRange` passes for the depth; the budget of the tree is 4
  simpa using walk_kids c.nodes tree 0 hR 0 (newTree_shape hT).1 5 c.nodes.length
    (Nat.le_trans (tree_budget csr tree hv hT) (by omega)) (reprOK_len c.nodes tree 0 hR) [] [] []
    (kidsSorted_ne_nil (newTree_shape hT).1 (by omega))

theorem boxes_shape (tree : List (Nat × Node)) (hs : kidsSorted 0 tree) :
    ∀ r ∈ (kidsBoxes 0 tree).map (toRange [] []), Shape r := by
  intro r hr
  obtain ⟨b, hb, rfl⟩ := List.mem_map.mp hr
  simpa [Shape, toRange] using And.intro (kids_boxes_wf 0 tree hs b hb).1 (kids_boxes_wf 0 tree hs b hb).2.1

theorem isCodeOf_boxes (boxes : List (Bytes × Bytes)) (hsh : ∀ r ∈ boxes.map (toRange [] []), Shape r) (bs : Bytes) :
    IsCodeOf (boxes.map (toRange [] [])) bs ↔ ∃ b ∈ boxes, BoxMatch b bs := by
  constructor
  · rintro ⟨r, hr, hc⟩
    obtain ⟨b, hb, rfl⟩ := List.mem_map.mp hr
    exact ⟨b, hb, by simpa [toRange] using (isCode_iff_boxMatch _ (hsh _ hr) bs).mp hc⟩
  · rintro ⟨b, hb, hm⟩
    have hr : toRange [] [] b ∈ boxes.map (toRange [] []) := List.mem_map.mpr ⟨b, hb, rfl⟩
    exact ⟨toRange [] [] b, hr, (isCode_iff_boxMatch _ (hsh _ hr) bs).mpr (by simpa [toRange] using hm)⟩

/-- The range set reported by `Codec.CodeSpaceRange` (the boxes of all valid leaves found by
`walk`, merged while two of them are adjacent in one byte position and equal in the others)
describes exactly the same codes as the range set the codec was built from — whenever it returns
one; that it always does is `C12cch.codeSpaceRange_total`. -/
theorem csr_equiv (csr : CSR) (c : Codec) (hC : newCodec csr = .ok c) (hbytes : ∀ r ∈ csr, AllBytes r.high)
    (out : CSR) (h : c.codeSpaceRange = .ok out) :
    (∀ r ∈ out, Shape r) ∧ ∀ bs, IsCodeOf out bs ↔ IsCodeOf csr bs := by
  obtain ⟨hv, tree, hT, hR⟩ := newCodec_repr hC
  have hshape := boxes_shape tree (newTree_shape hT).1
  unfold Codec.codeSpaceRange at h
  rw [walk_tree csr tree c hv hT hR] at h
  obtain ⟨m1, m2⟩ := mergeLoop_sameCodes _ _ out h hshape
  refine ⟨m1, fun bs => ?_⟩
  rw [m2 bs, isCodeOf_boxes _ hshape, boxes_sameCodes csr tree hT hbytes bs]

/-- the same statement in the vocabulary of the specification -/
theorem csr_sameCodes (csr : CSR) (c : Codec) (hC : newCodec csr = .ok c) (hbytes : ∀ r ∈ csr, AllBytes r.high)
    (out : CSR) (h : c.codeSpaceRange = .ok out) : SameCodes (toSpec out) (toSpec csr) :=
  (sameCodes_toSpec out csr).mpr (csr_equiv csr c hC hbytes out h).2

end PdfVerif.C12ccf
