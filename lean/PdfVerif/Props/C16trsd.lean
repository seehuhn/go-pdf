import PdfVerif.Model.TRSPageTree
/-!
# C16 — the futureInt heap: every futureInt eventually holds what its role says

Groundwork for the page-number theorem with nested ranges.  Every futureInt `g` gets ghost data
(`GFut`): its eventual value `m ρ` as a function of the final page counts `ρ` of the ranges that
are still open, the futureInt it was derived from, whether it also waits for a range.
`HeapInv` ties the heap to the ghost data for every `ρ` that is consistent with the ranges closed
so far (`Cons`); `cascade` shows that `Update` — the delivery of one value and all deliveries
it triggers — keeps it, logs every user callback of a futureInt that becomes known with exactly
`m ρ`, loses none, and stays within the model's loop bound.
-/
namespace PdfVerif.C16trsd
open PdfVerif PdfVerif.TRSP

theorem lt_of_getElem? {α : Type} {l : List α} {i : Nat} {a : α} (h : l[i]? = some a) : i < l.length :=
  (List.getElem?_eq_some_iff.mp h).1

/-- the (not yet known) final page count of every range, by the futureInt that waits for it -/
abbrev Rho := Nat → Int

/-- ghost data of a futureInt: its eventual value as a function of the ranges' final sizes, the
    futureInt it was derived from (and whose value it is given once), whether it also waits for
    the page count of a range -/
structure GFut where
  m : Rho → Int
  pred : Option Nat
  isRange : Bool

def resolved (futs : List Fut) (p : Nat) : Bool :=
  match futs[p]? with
  | some f => f.numMissing == 0
  | none => false

/-- deliveries in progress: `(g, some p)`: futureInt `p` is known, its waiter `g` has not been
    told yet; `(g, none)`: the range of `g` is closed, `g` has not been told its page count yet -/
abbrev Work := List (Nat × Option Nat)

/-- `g` still waits for the value of the futureInt it was derived from -/
def predPend (futs : List Fut) (W : Work) (g : Nat) (γ : GFut) : Bool :=
  match γ.pred with
  | none => false
  | some p => !resolved futs p || W.contains (g, some p)

/-- `g` still waits for the page count of its range; `fired` lists the ranges that are closed,
    with their page counts -/
def rangePend (fired : List (Nat × Int)) (W : Work) (g : Nat) (γ : GFut) : Bool :=
  γ.isRange && (!(fired.map (·.1)).contains g || W.contains (g, none))

def predVal (gh : List GFut) (ρ : Rho) : Option Nat → Int
  | none => 0
  | some p => match gh[p]? with
    | some γ => γ.m ρ
    | none => 0

def b2i (b : Bool) : Int := if b then 1 else 0

theorem b2i_true : b2i true = 1 := rfl
theorem b2i_false : b2i false = 0 := rfl

/-- `eq`, `cnt`: the promise `γ.m ρ` is the value held plus the terms still pending (the predecessor's
    value, the range's page count), and `numMissing` counts those terms.  `pred`, `cbs`: while its
    predecessor is unknown `g` stands among that one's waiters; every `Update` waiter of `g` is
    younger and was derived from `g`.  `nonneg` excludes the −1 branch of `Update`; `nodup` gives
    `W.Nodup` when the waiters enter the work list (`pairs_nodup`). -/
structure FutOK (futs : List Fut) (gh : List GFut) (W : Work) (fired : List (Nat × Int))
    (ρ : Rho) (g : Nat) (f : Fut) (γ : GFut) : Prop where
  eq : γ.m ρ = f.val + (if predPend futs W g γ then predVal gh ρ γ.pred else 0) +
        (if rangePend fired W g γ then ρ g else 0)
  cnt : f.numMissing = b2i (predPend futs W g γ) + b2i (rangePend fired W g γ)
  nonneg : 0 ≤ f.val
  res : f.numMissing = 0 → f.cb = []
  pred : ∀ p, γ.pred = some p → p < g ∧ (resolved futs p = false → ∃ fp, futs[p]? = some fp ∧ FCb.update g ∈ fp.cb)
  cbs : ∀ g', FCb.update g' ∈ f.cb → g < g' ∧ ∃ γ', gh[g']? = some γ' ∧ γ'.pred = some g
  nodup : (f.cb.filter fun c => match c with | .update _ => true | .user _ => false).Nodup

theorem FutOK.pred_mono {futs futs' : List Fut} {gh : List GFut} {W : Work} {fired : List (Nat × Int)}
    {ρ : Rho} {g : Nat} {f : Fut} {γ : GFut} (ok : FutOK futs gh W fired ρ g f γ)
    (hres : ∀ p, p < g → resolved futs' p = resolved futs p)
    (hback : ∀ (p : Nat) (fo : Fut), futs[p]? = some fo →
      ∃ fe : Fut, futs'[p]? = some fe ∧ ∀ c, c ∈ fo.cb → c ∈ fe.cb) :
    ∀ p, γ.pred = some p →
      p < g ∧ (resolved futs' p = false → ∃ fp, futs'[p]? = some fp ∧ FCb.update g ∈ fp.cb) := by
  intro p hp
  obtain ⟨h1, h2⟩ := ok.pred p hp
  refine ⟨h1, fun hr => ?_⟩
  rw [hres p h1] at hr
  obtain ⟨fp, hfp, hm⟩ := h2 hr
  obtain ⟨fe, hfe, hsub⟩ := hback p fp hfp
  exact ⟨fe, hfe, hsub _ hm⟩

/-- consistency of `ρ` with the ranges closed so far -/
def Cons (fired : List (Nat × Int)) (ρ : Rho) : Prop := ∀ e ∈ fired, ρ e.1 = e.2

/-- `W`, the deliveries in progress: `wlp`: `(g, some p)` — `p` is known and `g` was derived from it;
    `wlr`: `(g, none)` — the range of `g` is recorded as closed in `fired` -/
structure HeapInv (futs : List Fut) (gh : List GFut) (W : Work) (fired : List (Nat × Int))
    (ρ : Rho) : Prop where
  len : gh.length = futs.length
  ok : ∀ g f γ, futs[g]? = some f → gh[g]? = some γ → FutOK futs gh W fired ρ g f γ
  wlp : ∀ g p, (g, some p) ∈ W → resolved futs p = true ∧ ∃ γ, gh[g]? = some γ ∧ γ.pred = some p
  wlr : ∀ g, (g, none) ∈ W → (fired.map (·.1)).contains g = true ∧ ∃ γ, gh[g]? = some γ ∧ γ.isRange = true
  wnodup : W.Nodup

/-- the inner loop of `Update`: tell the waiters -/
def deliver (fuel : Nat) (v : Int) : List FCb → Heap → Except PErr Heap
  | [], h => .ok h
  | .user k :: rest, h => deliver fuel v rest { h with log := h.log ++ [(k, v)] }
  | .update g :: rest, h =>
    match updateFut fuel g v h with
    | .error e => .error e
    | .ok h' => deliver fuel v rest h'

theorem deliver_nil (fuel : Nat) (v : Int) (h : Heap) : deliver fuel v [] h = .ok h := rfl
theorem deliver_user (fuel : Nat) (v : Int) (k : Nat) (rest : List FCb) (h : Heap) :
    deliver fuel v (.user k :: rest) h = deliver fuel v rest { h with log := h.log ++ [(k, v)] } := rfl
theorem deliver_update (fuel : Nat) (v : Int) (g : Nat) (rest : List FCb) (h : Heap) :
    deliver fuel v (.update g :: rest) h =
      match updateFut fuel g v h with
      | .error e => .error e
      | .ok h' => deliver fuel v rest h' := rfl

theorem foldl_deliver (fuel : Nat) (v : Int) : ∀ (cbs : List FCb) (h : Heap),
    cbs.foldl (fun acc cb =>
      match acc with
      | .error e => .error e
      | .ok h' =>
        match cb with
        | .user k => .ok { h' with log := h'.log ++ [(k, v)] }
        | .update g' => updateFut fuel g' v h') (.ok h) = deliver fuel v cbs h
  | [], h => rfl
  | .user k :: rest, h => by
    simp only [List.foldl_cons, deliver_user]
    exact foldl_deliver fuel v rest _
  | .update g :: rest, h => by
    simp only [List.foldl_cons, deliver_update]
    cases hu : updateFut fuel g v h with
    | error e =>
      simp only
      clear hu
      induction rest with
      | nil => rfl
      | cons x xs ih => simp only [List.foldl_cons]; exact ih
    | ok h' => exact foldl_deliver fuel v rest h'

theorem predPend_iff {futs : List Fut} {W : Work} {g : Nat} {γ : GFut} :
    predPend futs W g γ = true ↔ ∃ p, γ.pred = some p ∧ (resolved futs p = false ∨ (g, some p) ∈ W) := by
  unfold predPend
  cases hp : γ.pred with
  | none => simp
  | some p =>
    simp only [Bool.or_eq_true, Bool.not_eq_true', List.contains_iff_mem, Option.some.injEq, exists_eq_left']

theorem rangePend_iff {fired : List (Nat × Int)} {W : Work} {g : Nat} {γ : GFut} :
    rangePend fired W g γ = true ↔
      γ.isRange = true ∧ ((fired.map (·.1)).contains g = false ∨ (g, none) ∈ W) := by
  unfold rangePend
  simp only [Bool.and_eq_true, Bool.or_eq_true, Bool.not_eq_true', List.contains_iff_mem]

theorem predPend_congr {futs futs' : List Fut} {W W' : Work} {g : Nat} {γ γ' : GFut} (hγ : γ'.pred = γ.pred)
    (hres : ∀ p, γ.pred = some p → resolved futs' p = resolved futs p)
    (hW : ∀ p, γ.pred = some p → ((g, some p) ∈ W' ↔ (g, some p) ∈ W)) :
    predPend futs' W' g γ' = predPend futs W g γ := by
  rw [Bool.eq_iff_iff, predPend_iff, predPend_iff, hγ]
  exact ⟨fun ⟨p, hp, h⟩ => ⟨p, hp, by rw [← hres p hp, ← hW p hp]; exact h⟩,
    fun ⟨p, hp, h⟩ => ⟨p, hp, by rw [hres p hp, hW p hp]; exact h⟩⟩

theorem rangePend_congr {fired fired' : List (Nat × Int)} {W W' : Work} {g : Nat} {γ γ' : GFut}
    (hγ : γ'.isRange = γ.isRange) (hf : (fired'.map (·.1)).contains g = (fired.map (·.1)).contains g)
    (hW : (g, none) ∈ W' ↔ (g, none) ∈ W) : rangePend fired' W' g γ' = rangePend fired W g γ := by
  rw [Bool.eq_iff_iff, rangePend_iff, rangePend_iff, hγ, hf, hW]

/-- the deliveries that start when futureInt `g` becomes known: one per waiter -/
def pairs (cbs : List FCb) (g : Nat) : Work :=
  cbs.filterMap fun c => match c with
    | .update g' => some (g', some g)
    | .user _ => none

theorem pairs_nil (g : Nat) : pairs [] g = [] := rfl
theorem pairs_user (k : Nat) (rest : List FCb) (g : Nat) : pairs (.user k :: rest) g = pairs rest g := rfl
theorem pairs_update (x : Nat) (rest : List FCb) (g : Nat) :
    pairs (.update x :: rest) g = (x, some g) :: pairs rest g := rfl

theorem mem_pairs {cbs : List FCb} {g x : Nat} {src : Option Nat} :
    (x, src) ∈ pairs cbs g ↔ FCb.update x ∈ cbs ∧ src = some g := by
  unfold pairs
  simp only [List.mem_filterMap]
  constructor
  · rintro ⟨c, hc, h⟩
    cases c with
    | user k => simp at h
    | update g' => simp at h; obtain ⟨rfl, rfl⟩ := h; exact ⟨hc, rfl⟩
  · rintro ⟨hc, rfl⟩
    exact ⟨.update x, hc, rfl⟩

theorem resolved_set_ne {futs : List Fut} {g p : Nat} {f : Fut} (h : p ≠ g) :
    resolved (futs.set g f) p = resolved futs p := by
  unfold resolved
  rw [List.getElem?_set_ne (Ne.symm h)]

theorem resolved_set_self {futs : List Fut} {g : Nat} {f : Fut} (h : g < futs.length) :
    resolved (futs.set g f) g = (f.numMissing == 0) := by
  unfold resolved
  rw [List.getElem?_set_self h]

theorem set_cb_mono {futs : List Fut} {g : Nat} {f f' : Fut} (hf : futs[g]? = some f)
    (hsub : ∀ c, c ∈ f.cb → c ∈ f'.cb) :
    ∀ (p : Nat) (fo : Fut), futs[p]? = some fo →
      ∃ fe : Fut, (futs.set g f')[p]? = some fe ∧ ∀ c, c ∈ fo.cb → c ∈ fe.cb := by
  intro p fo hp
  by_cases hpg : p = g
  · subst hpg
    rw [hf] at hp; cases hp
    exact ⟨_, List.getElem?_set_self (lt_of_getElem? hf), hsub⟩
  · exact ⟨fo, by rw [List.getElem?_set_ne (Ne.symm hpg)]; exact hp, fun c hc => hc⟩

theorem b2i_nonneg (b : Bool) : 0 ≤ b2i b := by cases b <;> simp [b2i_true, b2i_false]

theorem b2i_eq_zero {b : Bool} : b2i b = 0 ↔ b = false := by cases b <;> simp [b2i_true, b2i_false]

theorem b2i_add_eq_zero {p r : Bool} (h : b2i p + b2i r = 0) : p = false ∧ r = false := by
  have h1 := b2i_nonneg p
  have h2 := b2i_nonneg r
  exact ⟨b2i_eq_zero.mp (by omega), b2i_eq_zero.mp (by omega)⟩

theorem resolved_val {futs : List Fut} {gh : List GFut} {W : Work} {fired : List (Nat × Int)} {ρ : Rho}
    (hinv : HeapInv futs gh W fired ρ) {p : Nat} {fp : Fut} (hp : futs[p]? = some fp)
    (hres : resolved futs p = true) : predVal gh ρ (some p) = fp.val := by
  have hpl := lt_of_getElem? hp
  have hpg : p < gh.length := by rw [hinv.len]; exact hpl
  have hγ := List.getElem?_eq_getElem hpg
  have ok := hinv.ok p fp _ hp hγ
  have hnm : fp.numMissing = 0 := by
    simp only [resolved, hp, beq_iff_eq] at hres; exact hres
  have hc := ok.cnt
  rw [hnm] at hc
  obtain ⟨e1, e2⟩ := b2i_add_eq_zero hc.symm
  have := ok.eq
  simp only [e1, e2, Bool.false_eq_true, if_false] at this
  simp only [predVal, hγ]
  omega

/-- the value that is delivered: the value of the known futureInt, or the page count with
    which the range was closed -/
def SrcVal (futs : List Fut) (fired : List (Nat × Int)) (g : Nat) (src : Option Nat) (n : Int) : Prop :=
  match src with
  | some p => ∃ fp, futs[p]? = some fp ∧ n = fp.val
  | none => ∀ e ∈ fired, e.1 = g → n = e.2

/-- the head `(g, src)` is exactly one pending term of `g`: taking it off `W` moves its value `n` from
    the pending sum into the known part and lowers the count by one -/
theorem head_facts {futs : List Fut} {gh : List GFut} {W : Work} {fired : List (Nat × Int)} {ρ : Rho}
    {g : Nat} {src : Option Nat} (hinv : HeapInv futs gh ((g, src) :: W) fired ρ) (hc : Cons fired ρ)
    {f : Fut} {γ : GFut} (hf : futs[g]? = some f) (hγ : gh[g]? = some γ) {n : Int}
    (hn : SrcVal futs fired g src n) :
    γ.m ρ = f.val + n + ((if predPend futs W g γ then predVal gh ρ γ.pred else 0) +
      (if rangePend fired W g γ then ρ g else 0)) ∧
    f.numMissing = 1 + (b2i (predPend futs W g γ) + b2i (rangePend fired W g γ)) := by
  have ok := hinv.ok g f γ hf hγ
  have hnd := List.nodup_cons.mp hinv.wnodup
  cases src with
  | some p =>
    obtain ⟨hres, γ', hγ', hpred⟩ := hinv.wlp g p (by simp)
    rw [hγ] at hγ'; cases hγ'
    simp only [SrcVal] at hn
    obtain ⟨fp, hfp, rfl⟩ := hn
    have hP0 : predPend futs ((g, some p) :: W) g γ = true := predPend_iff.mpr ⟨p, hpred, .inr (by simp)⟩
    have hP1 : predPend futs W g γ = false := by
      cases h : predPend futs W g γ with
      | false => rfl
      | true =>
        obtain ⟨p', hp', hor⟩ := predPend_iff.mp h
        rw [hpred] at hp'; cases hp'
        rcases hor with h1 | h1
        · rw [hres] at h1; cases h1
        · exact absurd h1 hnd.1
    have hR : rangePend fired ((g, some p) :: W) g γ = rangePend fired W g γ := by
      rw [Bool.eq_iff_iff, rangePend_iff, rangePend_iff]
      simp
    have hv := resolved_val hinv hfp hres
    have e := ok.eq
    have c := ok.cnt
    rw [hP0, hR] at e c
    simp only [if_true, hpred] at e
    rw [hv] at e
    simp only [hP1, Bool.false_eq_true, if_false, b2i_true, b2i_false] at e c ⊢
    cases hR1 : rangePend fired W g γ <;> simp only [hR1, Bool.false_eq_true, if_false, if_true] at e c ⊢ <;>
      (constructor <;> omega)
  | none =>
    obtain ⟨hfi, γ', hγ', hisr⟩ := hinv.wlr g (by simp)
    rw [hγ] at hγ'; cases hγ'
    have hR0 : rangePend fired ((g, none) :: W) g γ = true := rangePend_iff.mpr ⟨hisr, .inr (by simp)⟩
    have hR1 : rangePend fired W g γ = false := by
      cases h : rangePend fired W g γ with
      | false => rfl
      | true =>
        obtain ⟨_, hor⟩ := rangePend_iff.mp h
        rcases hor with h1 | h1
        · rw [hfi] at h1; cases h1
        · exact absurd h1 hnd.1
    have hP : predPend futs ((g, none) :: W) g γ = predPend futs W g γ := by
      rw [Bool.eq_iff_iff, predPend_iff, predPend_iff]
      simp
    simp only [SrcVal] at hn
    have hρ : ρ g = n := by
      rw [List.contains_iff_mem] at hfi
      simp only [List.mem_map] at hfi
      obtain ⟨e, he, heg⟩ := hfi
      rw [hn e he heg, ← heg]
      exact hc e he
    have e := ok.eq
    have c := ok.cnt
    rw [hR0, hP] at e c
    simp only [if_true, hρ] at e
    simp only [hR1, Bool.false_eq_true, if_false, b2i_true, b2i_false] at e c ⊢
    cases hP1 : predPend futs W g γ <;> simp only [hP1, Bool.false_eq_true, if_false, if_true] at e c ⊢ <;>
      (constructor <;> omega)

theorem pairs_nodup (g : Nat) : ∀ (cbs : List FCb),
    (cbs.filter fun c => match c with | .update _ => true | .user _ => false).Nodup → (pairs cbs g).Nodup
  | [], _ => by simp [pairs_nil]
  | .user k :: rest, h => by
    simp only [List.filter_cons] at h
    simpa [pairs_user] using pairs_nodup g rest (by simpa using h)
  | .update x :: rest, h => by
    simp only [List.filter_cons, if_true] at h
    have h' := List.nodup_cons.mp h
    have ih := pairs_nodup g rest h'.2
    rw [pairs_update, List.nodup_cons]
    refine ⟨?_, ih⟩
    intro hm
    rw [mem_pairs] at hm
    apply h'.1
    simp [List.mem_filter, hm.1]

/-- the heap after the head delivery has been written into futureInt `g` -/
theorem after_set {futs : List Fut} {gh : List GFut} {W : Work} {fired : List (Nat × Int)} {ρ : Rho}
    {g : Nat} {src : Option Nat} (hinv : HeapInv futs gh ((g, src) :: W) fired ρ)
    {f : Fut} {γ : GFut} (hf : futs[g]? = some f) (hγ : gh[g]? = some γ) (f1 : Fut) (W1 : Work)
    (hcase : (f1.numMissing = 0 ∧ f1.cb = [] ∧ W1 = pairs f.cb g ++ W) ∨
             (f1.numMissing ≠ 0 ∧ f1.cb = f.cb ∧ W1 = W))
    (hval : 0 ≤ f1.val)
    (heq : γ.m ρ = f1.val + ((if predPend futs W g γ then predVal gh ρ γ.pred else 0) +
      (if rangePend fired W g γ then ρ g else 0)))
    (hcnt : f1.numMissing = b2i (predPend futs W g γ) + b2i (rangePend fired W g γ))
    (hold : f.numMissing ≠ 0) :
    HeapInv (futs.set g f1) gh W1 fired ρ := by
  have hglt := lt_of_getElem? hf
  have hnd := List.nodup_cons.mp hinv.wnodup
  have okg := hinv.ok g f γ hf hγ
  have hresg : resolved futs g = false := by
    simp only [resolved, hf]; simpa using hold
  have hres1 : resolved (futs.set g f1) g = (f1.numMissing == 0) := resolved_set_self hglt
  -- the idea (`hP` below): when `g` becomes known a waiter `x` keeps `predPend = true`, but its reason changes
  -- from "`g` is unknown" to "`(x, some g)` is in the work list"; when `g` stays unknown nothing changes
  have hW1mem : ∀ x s, (x, s) ∈ W1 ↔ ((f1.numMissing = 0 ∧ FCb.update x ∈ f.cb ∧ s = some g) ∨ (x, s) ∈ W) := by
    intro x s
    rcases hcase with ⟨h0, _, rfl⟩ | ⟨h0, _, rfl⟩
    · simp [List.mem_append, mem_pairs, h0]
    · simp [h0]
  have hyoung : ∀ x, FCb.update x ∈ f.cb → g < x := fun x hx => (okg.cbs x hx).1
  have hP : ∀ x γx, x ≠ g → gh[x]? = some γx → ∀ fx, futs[x]? = some fx →
      predPend (futs.set g f1) W1 x γx = predPend futs ((g, src) :: W) x γx := by
    intro x γx hxg hγx fx hfx
    have okx := hinv.ok x fx γx hfx hγx
    rw [Bool.eq_iff_iff, predPend_iff, predPend_iff]
    constructor
    · rintro ⟨p, hp, hor⟩
      refine ⟨p, hp, ?_⟩
      rcases hor with h | h
      · by_cases hpg : p = g
        · subst hpg; exact .inl hresg
        · rw [resolved_set_ne hpg] at h; exact .inl h
      · rw [hW1mem] at h
        rcases h with ⟨_, _, hs⟩ | h
        · cases hs; exact .inl hresg
        · exact .inr (by simp [h])
    · rintro ⟨p, hp, hor⟩
      refine ⟨p, hp, ?_⟩
      rcases hor with h | h
      · by_cases hpg : p = g
        · subst hpg
          obtain ⟨_, hw⟩ := okx.pred p hp
          obtain ⟨fp, hfp, hmem⟩ := hw hresg
          rw [hf] at hfp; cases hfp
          by_cases h0 : f1.numMissing = 0
          · exact .inr ((hW1mem x (some p)).mpr (.inl ⟨h0, hmem, rfl⟩))
          · left; rw [hres1]; simpa using h0
        · rw [resolved_set_ne hpg]; exact .inl h
      · simp only [List.mem_cons, Prod.mk.injEq] at h
        rcases h with ⟨hx, _⟩ | h
        · exact absurd hx hxg
        · exact .inr ((hW1mem x (some p)).mpr (.inr h))
  have hR : ∀ x γx, x ≠ g → rangePend fired W1 x γx = rangePend fired ((g, src) :: W) x γx := by
    intro x γx hxg
    refine rangePend_congr rfl rfl ?_
    rw [hW1mem]
    simp only [List.mem_cons, Prod.mk.injEq]
    constructor
    · rintro (⟨_, _, h⟩ | h)
      · cases h
      · exact .inr h
    · rintro (⟨h, _⟩ | h)
      · exact absurd h hxg
      · exact .inr h
  -- `g` is not among its own waiters: they are younger
  have hWg : ∀ s, (g, s) ∈ W1 ↔ (g, s) ∈ W := fun s => by
    rw [hW1mem]
    exact ⟨fun h => h.elim (fun ⟨_, hm, _⟩ => absurd (hyoung g hm) (Nat.lt_irrefl g)) id, .inr⟩
  have hPg : predPend (futs.set g f1) W1 g γ = predPend futs W g γ :=
    predPend_congr rfl (fun p hp => resolved_set_ne (Nat.ne_of_lt (okg.pred p hp).1)) (fun p _ => hWg _)
  have hRg : rangePend fired W1 g γ = rangePend fired W g γ := rangePend_congr rfl rfl (hWg _)
  refine ⟨by rw [List.length_set]; exact hinv.len, ?_, ?_, ?_, ?_⟩
  · intro x fx γx hfx hγx
    by_cases hxg : x = g
    · subst hxg
      rw [List.getElem?_set_self hglt] at hfx
      cases hfx
      rw [hγ] at hγx; cases hγx
      refine ⟨?_, ?_, hval, ?_, ?_, ?_, ?_⟩
      · rw [hPg, hRg]; omega
      · rw [hPg, hRg]; exact hcnt
      · intro h0
        rcases hcase with ⟨_, h, _⟩ | ⟨h, _, _⟩
        · exact h
        · exact absurd h0 h
      · intro p hp
        obtain ⟨hpl, hw⟩ := okg.pred p hp
        refine ⟨hpl, ?_⟩
        rw [resolved_set_ne (by omega)]
        intro hr
        obtain ⟨fp, hfp, hmem⟩ := hw hr
        exact ⟨fp, by rw [List.getElem?_set_ne (by omega)]; exact hfp, hmem⟩
      · intro g' hg'
        rcases hcase with ⟨_, h, _⟩ | ⟨_, h, _⟩
        · rw [h] at hg'; simp at hg'
        · rw [h] at hg'; exact okg.cbs g' hg'
      · rcases hcase with ⟨_, h, _⟩ | ⟨_, h, _⟩
        · rw [h]; simp
        · rw [h]; exact okg.nodup
    · rw [List.getElem?_set_ne (Ne.symm hxg)] at hfx
      have okx := hinv.ok x fx γx hfx hγx
      refine ⟨?_, ?_, okx.nonneg, okx.res, ?_, okx.cbs, okx.nodup⟩
      · rw [hP x γx hxg hγx fx hfx, hR x γx hxg]; exact okx.eq
      · rw [hP x γx hxg hγx fx hfx, hR x γx hxg]; exact okx.cnt
      · intro p hp
        obtain ⟨hpl, hw⟩ := okx.pred p hp
        refine ⟨hpl, ?_⟩
        by_cases hpg : p = g
        · subst hpg
          intro hr
          rw [hres1] at hr
          obtain ⟨fp, hfp, hmem⟩ := hw hresg
          rw [hf] at hfp; cases hfp
          refine ⟨f1, List.getElem?_set_self hglt, ?_⟩
          rcases hcase with ⟨h0, _, _⟩ | ⟨_, h, _⟩
          · simp [h0] at hr
          · rw [h]; exact hmem
        · rw [resolved_set_ne hpg, List.getElem?_set_ne (Ne.symm hpg)]
          exact hw
  · intro x p hm
    rw [hW1mem] at hm
    rcases hm with ⟨h0, hmem, hs⟩ | hm
    · cases hs
      refine ⟨by rw [hres1]; simpa using h0, ?_⟩
      exact (okg.cbs x hmem).2
    · obtain ⟨hr, hγx⟩ := hinv.wlp x p (by simp [hm])
      refine ⟨?_, hγx⟩
      have : p ≠ g := by intro e; subst e; rw [hresg] at hr; cases hr
      rw [resolved_set_ne this]; exact hr
  · intro x hm
    rw [hW1mem] at hm
    rcases hm with ⟨_, _, hs⟩ | hm
    · cases hs
    · exact hinv.wlr x (by simp [hm])
  · rcases hcase with ⟨_, _, rfl⟩ | ⟨_, _, rfl⟩
    · rw [List.nodup_append]
      refine ⟨pairs_nodup g f.cb okg.nodup, hnd.2, ?_⟩
      intro a ha b hb hab
      subst hab
      obtain ⟨x, s⟩ := a
      rw [mem_pairs] at ha
      obtain ⟨_, rfl⟩ := ha
      have := (hinv.wlp x g (by simp [hb])).1
      rw [hresg] at this; cases this
    · exact hnd.2

/-- the user callbacks in a callback list -/
def usersOf (cbs : List FCb) : List Nat :=
  cbs.filterMap fun c => match c with
    | .user k => some k
    | .update _ => none

theorem usersOf_nil : usersOf [] = [] := rfl
theorem usersOf_user (k : Nat) (rest : List FCb) : usersOf (.user k :: rest) = k :: usersOf rest := rfl
theorem usersOf_update (g : Nat) (rest : List FCb) : usersOf (.update g :: rest) = usersOf rest := rfl

/-- all user callbacks waiting in the heap -/
def heapUsers (futs : List Fut) : List Nat := futs.flatMap fun f => usersOf f.cb

theorem mem_usersOf {cbs : List FCb} {k : Nat} : k ∈ usersOf cbs ↔ FCb.user k ∈ cbs := by
  unfold usersOf
  simp only [List.mem_filterMap]
  constructor
  · rintro ⟨c, hc, h⟩
    cases c with
    | user k' => simp at h; subst h; exact hc
    | update g => simp at h
  · intro h; exact ⟨.user k, h, rfl⟩

theorem heapUsers_set_split {futs : List Fut} {g : Nat} {f : Fut} (f1 : Fut) (hf : futs[g]? = some f) :
    heapUsers futs = heapUsers (futs.take g) ++ (usersOf f.cb ++ heapUsers (futs.drop (g + 1))) ∧
    heapUsers (futs.set g f1) = heapUsers (futs.take g) ++ (usersOf f1.cb ++ heapUsers (futs.drop (g + 1))) := by
  have hglt := lt_of_getElem? hf
  have hfe : futs[g] = f := by
    rw [List.getElem?_eq_getElem hglt] at hf; simpa using hf
  constructor
  · conv => lhs; rw [show futs = futs.take g ++ f :: futs.drop (g + 1) by rw [← hfe]; simp]
    simp only [heapUsers, List.flatMap_append, List.flatMap_cons]
  · rw [List.set_eq_take_append_cons_drop, if_pos hglt]
    simp only [heapUsers, List.flatMap_append, List.flatMap_cons]

theorem heapUsers_set {futs : List Fut} {g : Nat} {f f1 : Fut} (hf : futs[g]? = some f) :
    List.Perm (heapUsers futs) (usersOf f.cb ++ heapUsers (futs.set g { f1 with cb := [] })) := by
  obtain ⟨e1, e2⟩ := heapUsers_set_split { f1 with cb := [] } hf
  rw [e1, e2]
  simp only [usersOf_nil, List.nil_append]
  exact List.perm_append_comm_assoc _ _ _

theorem heapUsers_set_same {futs : List Fut} {g : Nat} {f f1 : Fut} (hf : futs[g]? = some f) (hcb : f1.cb = f.cb) :
    heapUsers (futs.set g f1) = heapUsers futs := by
  obtain ⟨e1, e2⟩ := heapUsers_set_split f1 hf
  rw [e1, e2, hcb]

section
variable (gh : List GFut) (fired : List (Nat × Int)) (ρ : Rho)

/-- what a delivery and the deliveries it causes do to the heap and the log `L`.  `lo`: futureInts below
    `lo` are untouched; `own`, `v`: callbacks the caller fires itself, with value `v` (`Update`: none) -/
structure Delivered (futs futs' : List Fut) (lo : Nat) (own : List FCb) (v : Int) (L : List (Nat × Int)) : Prop where
  len : futs'.length = futs.length
  frame : ∀ x : Nat, x < lo → futs'[x]? = futs[x]?
  users : ∀ (x : Nat) (f' : Fut), futs'[x]? = some f' → ∀ k, FCb.user k ∈ f'.cb →
    ∃ fx : Fut, futs[x]? = some fx ∧ FCb.user k ∈ fx.cb
  logged : ∀ e ∈ L, (FCb.user e.1 ∈ own ∧ e.2 = v) ∨
    ∃ (x : Nat) (fx : Fut) (γx : GFut), futs[x]? = some fx ∧ gh[x]? = some γx ∧ FCb.user e.1 ∈ fx.cb ∧ e.2 = γx.m ρ
  conserve : List.Perm (usersOf own ++ heapUsers futs) (heapUsers futs' ++ L.map (·.1))

/-- `Update` of the head of the work list.  `cascade` is a mutual induction on the fuel: `UStmt (fuel + 1)`
    from `DStmt fuel` (the waiters are told) from `UStmt fuel` (each waiter is an `Update`); the bound
    `fuel + g ≥ futs.length + 1` suffices because waiters are younger (`FutOK.cbs`). -/
def UStmt (fuel : Nat) : Prop :=
  ∀ (g : Nat) (src : Option Nat) (W : Work) (futs : List Fut) (log : List (Nat × Int)) (f : Fut) (γ : GFut) (n : Int),
    HeapInv futs gh ((g, src) :: W) fired ρ → Cons fired ρ → futs[g]? = some f → gh[g]? = some γ →
    SrcVal futs fired g src n → 0 ≤ n →
    fuel + g ≥ futs.length + 1 →
    ∃ futs' L, updateFut fuel g n { futs := futs, log := log } = .ok { futs := futs', log := log ++ L } ∧
      HeapInv futs' gh W fired ρ ∧ Delivered gh ρ futs futs' g [] 0 L

/-- the inner loop of `Update` for the known futureInt `p`, telling the waiters `cbs` its value `v` -/
def DStmt (fuel : Nat) : Prop :=
  ∀ (cbs : List FCb) (p : Nat) (v : Int) (W : Work) (futs : List Fut) (log : List (Nat × Int)) (fp : Fut),
    HeapInv futs gh (pairs cbs p ++ W) fired ρ → Cons fired ρ → futs[p]? = some fp → fp.numMissing = 0 →
    fp.val = v → 0 ≤ v → (∀ x, FCb.update x ∈ cbs → p < x) → fuel + (p + 1) ≥ futs.length + 1 →
    ∃ futs' L, deliver fuel v cbs { futs := futs, log := log } = .ok { futs := futs', log := log ++ L } ∧
      HeapInv futs' gh W fired ρ ∧ Delivered gh ρ futs futs' (p + 1) cbs v L

theorem D_of_U (fuel : Nat) (hU : UStmt gh fired ρ fuel) : DStmt gh fired ρ fuel := by
  intro cbs
  induction cbs with
  | nil =>
    intro p v W futs log fp hinv _ _ _ _ _ _ _
    refine ⟨futs, [], by simp [deliver_nil], by simpa [pairs_nil] using hinv, rfl, fun _ _ => rfl,
      fun x f' h k hk => ⟨f', h, hk⟩, by simp, by simp [usersOf_nil]⟩
  | cons c rest ih =>
    intro p v W futs log fp hinv hc hfp hnm hval hv0 hyoung hfuel
    cases c with
    | user k =>
      rw [pairs_user] at hinv
      obtain ⟨futs', L, hd, hinv', dl⟩ := ih p v W futs (log ++ [(k, v)]) fp hinv hc hfp hnm hval hv0
        (fun x hx => hyoung x (by simp [hx])) hfuel
      refine ⟨futs', (k, v) :: L, by simp only [deliver_user, hd]; simp, hinv', dl.len, dl.frame, dl.users, ?_, ?_⟩
      · intro e he
        simp only [List.mem_cons] at he
        rcases he with rfl | he
        · exact .inl ⟨by simp, rfl⟩
        · rcases dl.logged e he with ⟨h1, h2⟩ | h
          · exact .inl ⟨by simp [h1], h2⟩
          · exact .inr h
      · rw [usersOf_user]
        simp only [List.map_cons, List.cons_append]
        refine (List.Perm.cons k dl.conserve).trans ?_
        exact (List.perm_middle).symm
    | update g' =>
      rw [pairs_update, List.cons_append] at hinv
      obtain ⟨_, γ', hγ', _⟩ := hinv.wlp g' p (by simp)
      have hg'l : g' < futs.length := by rw [← hinv.len]; exact lt_of_getElem? hγ'
      have hpg : p < g' := hyoung g' (by simp)
      obtain ⟨futs1, L1, hu, hinv1, d1⟩ := hU g' (some p) (pairs rest p ++ W) futs log futs[g'] γ' v hinv hc
        (List.getElem?_eq_getElem hg'l) hγ' (show SrcVal futs fired g' (some p) v from ⟨fp, hfp, hval.symm⟩) hv0 (by omega)
      have hfp1 : futs1[p]? = some fp := by rw [d1.frame p hpg]; exact hfp
      obtain ⟨futs', L2, hd, hinv', d2⟩ := ih p v W futs1 (log ++ L1) fp hinv1 hc hfp1 hnm hval hv0
        (fun x hx => hyoung x (by simp [hx])) (by rw [d1.len]; exact hfuel)
      refine ⟨futs', L1 ++ L2, by simp only [deliver_update, hu, hd]; simp, hinv', by rw [d2.len, d1.len], ?_, ?_, ?_, ?_⟩
      · intro x hx
        rw [d2.frame x hx, d1.frame x (by omega)]
      · intro x f' hf' k hk
        obtain ⟨f1, hf1, hk1⟩ := d2.users x f' hf' k hk
        exact d1.users x f1 hf1 k hk1
      · intro e he
        simp only [List.mem_append] at he
        rcases he with he | he
        · rcases d1.logged e he with ⟨h1, _⟩ | h
          · simp at h1
          · exact .inr h
        · rcases d2.logged e he with ⟨h1, h2⟩ | ⟨x, fx, γx, hfx, hγx, hk, hv⟩
          · exact .inl ⟨by simp [h1], h2⟩
          · obtain ⟨f0, hf0, hk0⟩ := d1.users x fx hfx e.1 hk
            exact .inr ⟨x, f0, γx, hf0, hγx, hk0, hv⟩
      · rw [usersOf_update]
        have c1 := d1.conserve
        simp only [usersOf_nil, List.nil_append] at c1
        have c2 := d2.conserve
        simp only [List.map_append]
        -- usersOf rest ++ HU futs ~ usersOf rest ++ (HU futs1 ++ L1) ~ (HU futs' ++ L2) ++ L1
        refine ((List.Perm.append_left _ c1).trans ?_)
        rw [← List.append_assoc]
        refine ((List.Perm.append_right _ c2).trans ?_)
        rw [List.append_assoc]
        exact List.Perm.append_left _ List.perm_append_comm

theorem U_succ (fuel : Nat) (hD : DStmt gh fired ρ fuel) : UStmt gh fired ρ (fuel + 1) := by
  intro g src W futs log f γ n hinv hc hf hγ hn hn0 hfuel
  have hglt := lt_of_getElem? hf
  obtain ⟨heq0, hcnt0⟩ := head_facts hinv hc hf hγ hn
  have okg := hinv.ok g f γ hf hγ
  have hfv := okg.nonneg
  have hval : (if n < 0 ∨ f.val < 0 then (-1 : Int) else f.val + n) = f.val + n := by
    have : ¬ (n < 0 ∨ f.val < 0) := by omega
    simp [this]
  have hold : f.numMissing ≠ 0 := by
    have h1 := b2i_nonneg (predPend futs W g γ)
    have h2 := b2i_nonneg (rangePend fired W g γ)
    omega
  unfold updateFut
  simp only [hf, hval]
  by_cases hnm : f.numMissing - 1 = 0
  · -- g is known now: tell the waiters
    have hcond : (f.numMissing - 1 = 0 ∨ f.val + n < 0) := .inl hnm
    simp only [hcond, if_true]
    have hfd := foldl_deliver fuel (f.val + n) f.cb
      { futs := futs.set g { val := f.val + n, numMissing := f.numMissing - 1, cb := [] }, log := log }
    obtain ⟨hP1, hR1⟩ : predPend futs W g γ = false ∧ rangePend fired W g γ = false :=
      b2i_add_eq_zero (by omega)
    have hm : γ.m ρ = f.val + n := by
      simp only [hP1, hR1, Bool.false_eq_true, if_false] at heq0; omega
    have hinv1 := after_set hinv hf hγ { val := f.val + n, numMissing := f.numMissing - 1, cb := [] }
      (pairs f.cb g ++ W) (.inl ⟨hnm, rfl, rfl⟩) (by simp; omega)
      (by simp only [hP1, hR1, Bool.false_eq_true, if_false]; omega)
      (by simp only [hP1, hR1, b2i_false]; omega) hold
    obtain ⟨futs', L, hd, hinv', dl⟩ := hD f.cb g (f.val + n) W _ log
      { val := f.val + n, numMissing := f.numMissing - 1, cb := [] } hinv1 hc
      (List.getElem?_set_self hglt) hnm rfl (by omega) (fun x hx => (okg.cbs x hx).1)
      (by rw [List.length_set]; omega)
    refine ⟨futs', L, hfd.trans hd, hinv', ?_⟩
    refine ⟨by rw [dl.len, List.length_set], ?_, ?_, ?_, ?_⟩
    · intro x hx
      rw [dl.frame x (by omega), List.getElem?_set_ne (by omega)]
    · intro x f' hf' k hk
      obtain ⟨f1, hf1, hk1⟩ := dl.users x f' hf' k hk
      by_cases hxg : x = g
      · subst hxg
        rw [List.getElem?_set_self hglt] at hf1
        cases hf1; simp at hk1
      · rw [List.getElem?_set_ne (Ne.symm hxg)] at hf1
        exact ⟨f1, hf1, hk1⟩
    · intro e he
      right
      rcases dl.logged e he with ⟨h1, h2⟩ | ⟨x, fx, γx, hfx, hγx, hk, hv⟩
      · exact ⟨g, f, γ, hf, hγ, h1, by rw [h2, hm]⟩
      · by_cases hxg : x = g
        · subst hxg
          rw [List.getElem?_set_self hglt] at hfx
          cases hfx; simp at hk
        · rw [List.getElem?_set_ne (Ne.symm hxg)] at hfx
          exact ⟨x, fx, γx, hfx, hγx, hk, hv⟩
    · simp only [usersOf_nil, List.nil_append]
      have c := dl.conserve
      exact (heapUsers_set (f1 := { val := f.val + n, numMissing := f.numMissing - 1, cb := [] }) hf).trans c
  · -- g still waits for something else
    have hcond : ¬ (f.numMissing - 1 = 0 ∨ f.val + n < 0) := by omega
    simp only [hcond, if_false]
    have hinv1 := after_set hinv hf hγ { f with val := f.val + n, numMissing := f.numMissing - 1 } W
      (.inr ⟨hnm, rfl, rfl⟩) (by simp; omega) (by simp; omega) (by simp; omega) hold
    refine ⟨_, [], by simp, hinv1, ?_⟩
    refine ⟨by rw [List.length_set], ?_, ?_, by simp, ?_⟩
    · intro x hx; rw [List.getElem?_set_ne (by omega)]
    · intro x f' hf' k hk
      by_cases hxg : x = g
      · subst hxg
        rw [List.getElem?_set_self hglt] at hf'
        cases hf'
        exact ⟨f, hf, hk⟩
      · rw [List.getElem?_set_ne (Ne.symm hxg)] at hf'
        exact ⟨f', hf', hk⟩
    · simp only [usersOf_nil, List.nil_append, List.map_nil, List.append_nil]
      rw [heapUsers_set_same (f1 := { val := f.val + n, numMissing := f.numMissing - 1, cb := f.cb }) hf rfl]

/-- **`Update` and the deliveries it causes**: the head of the work list is delivered, every
    futureInt that becomes known tells its waiters, user callbacks are logged with the value
    the invariant promises, nothing else changes -/
theorem cascade : ∀ fuel : Nat, UStmt gh fired ρ fuel
  | 0 => by
    intro g src W futs log f γ n _ _ hf _ _ _ hfuel
    have hglt := lt_of_getElem? hf
    omega
  | fuel + 1 => U_succ gh fired ρ fuel (D_of_U gh fired ρ fuel (cascade fuel))

end
end PdfVerif.C16trsd
