import PdfVerif.Props.C13ccd
/-!
# C13 (part 6) — the `Decode` filter of `All`; `File.All` after `SetMapping`

The filter `decodeItems` of both `File.All` and `ToUnicodeFile.All` is a `filterMap` (`keepItem`,
`decodeItems_eq_filterMap`); `decodeItems_of_map` is the common body of `all_setMapping` (here) and `tounicode_all`
(Props/C13ccg.lean), `decodeItems_nodup` serves Props/C13cci.lean.
-/
namespace PdfVerif.C13ccf
open PdfVerif PdfVerif.CC PdfVerif.CMap PdfVerif.C13cc PdfVerif.C13ccb PdfVerif.C13ccc PdfVerif.C13ccd

/-- what `decodeItems` does with one item when it succeeds.  A `decode` error is `none` here, whereas `decodeItems`
propagates it: `decodeItems_eq_filterMap` holds only under `decodeItems … = .ok out`. -/
def keepItem {α : Type} (codec : Codec) (it : Bytes × α) : Option (Nat × α) :=
  match codec.decode it.1 with
  | .ok (code, k, valid) => if !valid || k != it.1.length then none else some (code, it.2)
  | .error _ => none

theorem decodeItems_eq_filterMap {α : Type} (codec : Codec) (items : List (Bytes × α)) (out : List (Nat × α))
    (h : decodeItems codec items = .ok out) : out = items.filterMap (keepItem codec) := by
  fun_induction decodeItems codec items generalizing out with
  | case1 => cases h; rfl
  | case2 | case3 => cases h
  | case4 bs v rest code k valid hr out' ho hkeep ih | case5 bs v rest code k valid hr out' ho hkeep ih =>
    -- the item is dropped (case 4) or kept (case 5), as `keepItem` says
    cases h
    rw [List.filterMap_cons, keepItem, hr, ← ih out' ho]; simp [hkeep]

theorem keepItem_eq_some {α : Type} (codec : Codec) (bs : Bytes) (w : α) (code : Nat) (v : α) :
    keepItem codec (bs, w) = some (code, v) ↔ codec.decode bs = .ok (code, bs.length, true) ∧ w = v := by
  fun_cases keepItem codec (bs, w) with
  | case1 code0 k0 valid0 hr hkeep =>
    rw [hr]
    simp only [reduceCtorEq, Except.ok.injEq, Prod.mk.injEq, false_iff]
    rintro ⟨⟨_, rfl, rfl⟩, _⟩
    simp at hkeep
  | case2 code0 k0 valid0 hr hkeep =>
    rw [hr]
    simp only [Bool.or_eq_true, Bool.not_eq_true', bne_iff_ne, ne_eq, not_or, Bool.not_eq_false,
      Decidable.not_not] at hkeep
    simp only [Option.some.injEq, Except.ok.injEq, Prod.mk.injEq, hkeep.1, hkeep.2, and_true]
  | case3 e hr => simp [hr]

theorem mem_decodeItems {α : Type} (codec : Codec) (items : List (Bytes × α)) (out : List (Nat × α))
    (h : decodeItems codec items = .ok out) (code : Nat) (v : α) :
    (code, v) ∈ out ↔ ∃ bs, (bs, v) ∈ items ∧ codec.decode bs = .ok (code, bs.length, true) := by
  rw [decodeItems_eq_filterMap codec items out h, List.mem_filterMap]
  constructor
  · rintro ⟨⟨bs, w⟩, hit, hk⟩
    obtain ⟨hd, rfl⟩ := (keepItem_eq_some codec bs w code v).mp hk
    exact ⟨bs, hit, hd⟩
  · rintro ⟨bs, hit, hd⟩
    exact ⟨(bs, v), hit, (keepItem_eq_some codec bs v code v).mpr ⟨hd, rfl⟩⟩

theorem decodeItems_ok {α : Type} (codec : Codec) : ∀ (items : List (Bytes × α)),
    (∀ it ∈ items, ∃ r, codec.decode it.1 = .ok r) → ∃ out, decodeItems codec items = .ok out := by
  intro items
  induction items with
  | nil => intro _; exact ⟨[], rfl⟩
  | cons it items ih =>
    intro hdec
    obtain ⟨⟨code0, k0, valid0⟩, hr⟩ := hdec it List.mem_cons_self
    obtain ⟨out, ho⟩ := ih (fun it hit => hdec it (List.mem_cons_of_mem _ hit))
    simp only [decodeItems, hr, ho]
    split <;> exact ⟨_, rfl⟩

theorem decodeItems_nodup {α : Type} (codec : Codec) (items : List (Bytes × α)) (out : List (Nat × α))
    (h : decodeItems codec items = .ok out) (hnd : (items.map Prod.fst).Nodup)
    (hinj : ∀ bs bs' code, bs ∈ items.map Prod.fst → bs' ∈ items.map Prod.fst →
      codec.decode bs = .ok (code, bs.length, true) → codec.decode bs' = .ok (code, bs'.length, true) → bs = bs') :
    (out.map Prod.fst).Nodup := by
  rw [decodeItems_eq_filterMap codec items out h]
  unfold List.Nodup at hnd ⊢
  rw [List.pairwise_map] at hnd ⊢
  rw [List.pairwise_filterMap]
  -- two kept items with the same code would have byte strings that `hinj` identifies
  refine hnd.imp_of_mem fun {a a'} ha ha' hne => ?_
  intro ⟨c, v⟩ hb ⟨c', v'⟩ hb' heq
  simp only at heq
  subst heq
  exact hne (hinj a.1 a'.1 c (List.mem_map_of_mem ha) (List.mem_map_of_mem ha')
    ((keepItem_eq_some codec a.1 a.2 c v).mp hb).1 ((keepItem_eq_some codec a'.1 a'.2 c v').mp hb').1)

theorem decodeItems_of_map {α : Type} (csr : CSR) (codec : Codec) (hc : newCodec csr = .ok codec)
    (items : List (Bytes × α)) (data : List (Nat × α))
    (hmem : ∀ bs v, (bs, v) ∈ items ↔ ∃ p ∈ data, codec.appendCode p.1 = .ok bs ∧ p.2 = v) :
    ∃ out, decodeItems codec items = .ok out ∧
      ∀ code v, (code, v) ∈ out ↔
        ∃ p ∈ data, p.2 = v ∧ ∃ bs, codec.appendCode p.1 = .ok bs ∧ codec.decode bs = .ok (code, bs.length, true) := by
  obtain ⟨out, ho⟩ := decodeItems_ok codec items (fun it hit => by
    obtain ⟨p, _, h1, _⟩ := (hmem it.1 it.2).mp hit
    obtain ⟨code, n, v, hd, _⟩ := C12ccc.newCodec_decode_consumed csr codec hc it.1 (appendCode_allBytes hc h1).1
    exact ⟨_, hd⟩)
  refine ⟨out, ho, fun code v => ?_⟩
  rw [mem_decodeItems codec items out ho]
  constructor
  · rintro ⟨bs, h1, h2⟩
    obtain ⟨p, hp, p1, p2⟩ := (hmem bs v).mp h1
    exact ⟨p, hp, p2, bs, p1, h2⟩
  · rintro ⟨p, hp, rfl, bs, h1, h2⟩
    exact ⟨bs, (hmem bs p.2).mpr ⟨p, hp, h1, rfl⟩, h2⟩

/-- For a codec returned by `NewCodec` and the file built by `SetMapping`
(no parent, enumeration budget not exhausted), `File.All` yields exactly the pairs `(code, CID)`
of the map whose code is valid for the codec (`Decode(AppendCode(code))` returns the code as
valid): nothing else, and nothing of that missing. -/
theorem all_setMapping (csr : CSR) (f f' : CMapFile) (codec : Codec) (data : List (Nat × Nat))
    (hc : newCodec csr = .ok codec)
    (h : setMapping f [] codec data = .ok f')
    (hcid : ∀ p ∈ data, p.2 < 4294967296)
    (hb : rangesDemand f'.ranges + f'.singles.length ≤ Gen.limits_MaxCMapMappings) :
    ∃ out, cmapAll [f'] codec = .ok out ∧
      ∀ code v, (code, v) ∈ out ↔
        ∃ p ∈ data, p.2 = v ∧ ∃ bs, codec.appendCode p.1 = .ok bs ∧ codec.decode bs = .ok (code, bs.length, true) :=
  decodeItems_of_map csr codec hc _ data
    (all_setMapping_bytes f f' codec data h hcid (appendCode_bytes hc data) _ hb (by decide))

end PdfVerif.C13ccf
