import PdfVerif.Model.FIOXRef
import PdfVerif.Lemmas.ScanNum
/-!
# C02 — file round trip (work package FIO): cross-reference codec theorems

All statements are about `Model/FIOXRef.lean` (xref.go), which the FIO correspondence run ties
to the code (byte-identical sections from `writeXRefTable`/`writeXRefStream`, identical decode
results of `readXRefTable`/`decodeXRefStream`/`checkXRefStreamDict` on generated and mutated
sections).
-/
namespace PdfVerif.C02fio
open PdfVerif PdfVerif.FIO

theorem beVal_eq : ∀ (bs : Bytes) (acc : Nat), beVal bs acc = Digits.val 256 bs acc
  | [], _ => rfl
  | _ :: bs, _ => beVal_eq bs _

theorem encodeInt64_eq (x : Nat) : ∀ w, encodeInt64 x w = Digits.be 256 x w
  | 0 => rfl
  | w + 1 => by rw [encodeInt64, Digits.be, Digits.dig, encodeInt64_eq x w]

theorem encodeInt64_length (x w : Nat) : (encodeInt64 x w).length = w := by
  rw [encodeInt64_eq, Digits.be_length]

theorem encodeInt64_bytes (x w : Nat) : AllBytes (encodeInt64 x w) := by
  rw [encodeInt64_eq]; exact Digits.be_lt (by decide) x w

theorem beVal_append (a b : Bytes) (acc : Nat) : beVal (a ++ b) acc = beVal b (beVal a acc) := by
  simp only [beVal_eq, Digits.val_append]

theorem beVal_encodeInt64 (x w acc : Nat) :
    beVal (encodeInt64 x w) acc = acc * 256 ^ w + x % 256 ^ w := by
  rw [beVal_eq, encodeInt64_eq, Digits.val_be]

theorem decodeInt_encodeInt64_trunc (x w : Nat) (h63 : x % 256 ^ w < two63) :
    decodeInt (encodeInt64 x w) = some (x % 256 ^ w) := by
  have h : beVal (encodeInt64 x w) 0 % two64 = x % 256 ^ w := by
    rw [beVal_encodeInt64, Nat.zero_mul, Nat.zero_add]
    exact Nat.mod_eq_of_lt (Nat.lt_trans h63 (by decide))
  simp only [decodeInt, h]
  exact if_neg (Nat.not_le.2 h63)

/-- **decodeInt ∘ encodeInt64.**  Every value that fits `w` bytes and a non-negative `int64`
is read back (all widths, in particular 0–8). -/
theorem decodeInt_encodeInt64 (x w : Nat) (hw : x < 256 ^ w) (h63 : x < two63) :
    decodeInt (encodeInt64 x w) = some x := by
  rw [decodeInt_encodeInt64_trunc x w (by rwa [Nat.mod_eq_of_lt hw]), Nat.mod_eq_of_lt hw]

example : decodeInt (encodeInt64 4611686018427387907 8) = some 4611686018427387907 := by decide +kernel
example : decodeInt (encodeInt64 65535 1) = some 255 := by decide +kernel

theorem len64_le_iff (x n : Nat) : len64 x ≤ n ↔ x < 2 ^ n := by
  unfold len64
  split
  · subst_vars; simp [Nat.pow_pos]
  · rename_i hx
    rw [← Nat.log2_lt hx]; omega

theorem fieldWidth_le_iff (x w : Nat) : fieldWidth x ≤ w ↔ x < 256 ^ w := by
  rw [show (256 : Nat) ^ w = 2 ^ (8 * w) from (Nat.pow_mul 2 8 w).symm, ← len64_le_iff]
  unfold fieldWidth; omega

theorem fieldWidth_sufficient (x : Nat) : x < 256 ^ fieldWidth x :=
  (fieldWidth_le_iff x _).1 (Nat.le_refl _)

theorem fieldWidth_holds {x y : Nat} (h : x ≤ y) : x < 256 ^ fieldWidth y :=
  Nat.lt_of_le_of_lt h (fieldWidth_sufficient y)

/-- so `/W` passes `checkXRefStreamDict` -/
theorem fieldWidth_le_8 (x : Nat) (h : x < two64) : fieldWidth x ≤ 8 :=
  (fieldWidth_le_iff x 8).2 h


theorem fixDec_eq : ∀ w n, fixDec w n = (Digits.be 10 n w).map (48 + ·)
  | 0, _ => rfl
  | w + 1, n => by rw [fixDec, fixDec_eq w, Digits.be_succ_low, List.map_append]; rfl

theorem fixDec_length (w n : Nat) : (fixDec w n).length = w := by
  rw [fixDec_eq, List.length_map, Digits.be_length]

theorem fixDec_ne_nil (w n : Nat) (hw : 0 < w) : fixDec w n ≠ [] := fun h => by
  have := fixDec_length w n; rw [h] at this; exact absurd this.symm (Nat.ne_of_gt hw)

theorem fixDec_digits (w n : Nat) : (fixDec w n).all isDigit = true := by
  rw [fixDec_eq, List.all_map, List.all_eq_true]
  intro d hd
  have := Digits.be_lt (by decide : 0 < 10) n w d hd
  simp [isDigit]; omega

theorem digitsVal_fixDec (w n acc : Nat) :
    digitsVal (fixDec w n) acc = acc * 10 ^ w + n % 10 ^ w := by
  have e : ((· - 48) ∘ (48 + ·) : Nat → Nat) = id := funext fun d => Nat.add_sub_cancel_left ..
  rw [C01L.digitsVal_eq, fixDec_eq, List.map_map, e, List.map_id, Digits.val_be]

theorem parseInt64_digits (ds : Bytes) (hne : ds ≠ []) (hall : ds.all isDigit = true)
    (hv : digitsVal ds 0 ≤ 9223372036854775807) :
    parseInt64 ds = some (digitsVal ds 0 : Int) := by
  cases ds with
  | nil => exact absurd rfl hne
  | cons d rest =>
    rw [C01L.parseInt64_pos d rest (by simp at hall; exact hall.1) hall, if_pos (by omega)]

theorem parseInt64_fixDec (w n : Nat) (hw : 0 < w) (hn : n < 10 ^ w) (h63 : n ≤ 9223372036854775807) :
    parseInt64 (fixDec w n) = some (n : Int) := by
  have hv : digitsVal (fixDec w n) 0 = n := by rw [digitsVal_fixDec, Nat.mod_eq_of_lt hn]; simp
  have := parseInt64_digits (fixDec w n)
    (fixDec_ne_nil w n hw)
    (fixDec_digits w n) (by rw [hv]; exact h63)
  rw [this, hv]

theorem parseUint16_fixDec (n : Nat) (hn : n ≤ 65535) : parseUint16 (fixDec 5 n) = some n := by
  have hv : digitsVal (fixDec 5 n) 0 = n := by
    rw [digitsVal_fixDec, Nat.mod_eq_of_lt (by omega)]; simp
  have hne : (fixDec 5 n).isEmpty = false := List.isEmpty_eq_false_iff.2 (fixDec_ne_nil 5 n (by decide))
  simp only [parseUint16, hne, fixDec_digits, hv, Bool.not_true, Bool.or_self, Bool.false_eq_true, ↓reduceIte]
  exact if_neg (by omega)

/-- a table line as `writeXRefTable` prints it -/
def tabLine (p g c : Nat) : Bytes := fixDec 10 p ++ [32] ++ fixDec 5 g ++ [32, c, 13, 10]

theorem tabLine_length (p g c : Nat) : (tabLine p g c).length = 20 := by
  simp [tabLine, fixDec_length]

theorem tabLine_fields (p g c : Nat) :
    (tabLine p g c).take 10 = fixDec 10 p ∧ ((tabLine p g c).drop 11).take 5 = fixDec 5 g ∧
    (tabLine p g c).getD 10 0 = 32 ∧ (tabLine p g c).getD 16 0 = 32 ∧ (tabLine p g c).getD 17 0 = c ∧
    (tabLine p g c).getD 18 0 = 13 ∧ (tabLine p g c).getD 19 0 = 10 := by
  have h10 : (tabLine p g c).drop 10 = 32 :: (fixDec 5 g ++ [32, c, 13, 10]) := by
    rw [tabLine, List.append_assoc, List.append_assoc, List.drop_left' (fixDec_length 10 p)]; rfl
  have h11 : (tabLine p g c).drop 11 = fixDec 5 g ++ [32, c, 13, 10] :=
    (List.drop_drop (i := 1) (j := 10)).symm.trans (congrArg (List.drop 1) h10)
  have h16 : (tabLine p g c).drop 16 = [32, c, 13, 10] :=
    (List.drop_drop (i := 5) (j := 11)).symm.trans
      ((congrArg (List.drop 5) h11).trans (List.drop_left' (fixDec_length 5 g)))
  have hg : ∀ (n k : Nat) (l : Bytes), (tabLine p g c).drop n = l → (tabLine p g c).getD (n + k) 0 = l.getD k 0 :=
    fun n k l h => by rw [← h, List.getD_eq_getElem?_getD, List.getD_eq_getElem?_getD, List.getElem?_drop]
  refine ⟨?_, ?_, hg 10 0 _ h10, hg 16 0 _ h16, hg 16 1 _ h16, hg 16 2 _ h16, hg 16 3 _ h16⟩
  · rw [tabLine, List.append_assoc, List.append_assoc, List.take_left' (fixDec_length 10 p)]
  · rw [h11]
    exact List.take_left' (fixDec_length 5 g)

/-- the literal free line carries the generated `maxGeneration` -/
theorem freeLine_eq : freeLine = tabLine 0 Gen.fio_maxGeneration 102 := by decide

theorem xrefLine_eq (e : Option XEntry)
    (h : ∀ x, e = some x → x.pos < 10000000000 ∧ x.gen ≤ 65535) :
    xrefLine e = match e with
      | some x => if x.pos ≥ 0 then tabLine x.pos.toNat x.gen 110 else tabLine 0 Gen.fio_maxGeneration 102
      | none => tabLine 0 Gen.fio_maxGeneration 102 := by
  cases e with
  | none => exact freeLine_eq
  | some x =>
    obtain ⟨h1, h2⟩ := h x rfl
    simp only [xrefLine]
    split
    · have hp : x.pos.toNat < 10 ^ 10 := by omega
      have hg : x.gen < 10 ^ 5 := by omega
      simp only [fmtPad, hp, hg, ↓reduceIte, tabLine]
    · exact freeLine_eq

theorem xref_line_20 (e : Option XEntry)
    (h : ∀ x, e = some x → x.pos < 10000000000 ∧ x.gen ≤ 65535) :
    (xrefLine e).length = 20 := by
  rw [xrefLine_eq e h]
  cases e with
  | none => exact tabLine_length _ _ _
  | some x => simp only; split <;> exact tabLine_length _ _ _

theorem window_split {P : Nat → Prop} {i k : Nat} (h : ∀ j, i ≤ j → j < i + (k + 1) → P j) :
    P i ∧ ∀ j, i + 1 ≤ j → j < i + 1 + k → P j :=
  ⟨h i (Nat.le_refl i) (by omega), fun j h1 h2 => h j (by omega) (by omega)⟩

theorem xref_lines_20 (m : XMap) (i k : Nat)
    (h : ∀ j, i ≤ j → j < i + k → ∀ x, m.get j = some x → x.pos < 10000000000 ∧ x.gen ≤ 65535) :
    (xrefLines m i k).length = 20 * k := by
  induction k generalizing i with
  | zero => rfl
  | succ k ih =>
    obtain ⟨h0, ht⟩ := window_split h
    rw [xrefLines, List.length_append, xref_line_20 _ h0, ih (i + 1) ht, Nat.mul_succ, Nat.add_comm]

/-- without the bound the line is longer; `xrefTableBody` refuses a table with such an offset (`xrefTableBody_ok`) -/
example : (xrefLine (some { inStream := 0, pos := 10000000000, gen := 0 })).length = 21 := by decide +kernel

theorem get_set (m : XMap) (n : Nat) (e : XEntry) (j : Nat) :
    (m.set n e).get j = if j = n then some e else m.get j := by
  simp only [XMap.get, XMap.set, List.lookup_cons]
  by_cases h : j = n
  · simp [h]
  · have : (j == n) = false := by simp [h]
    simp [h, this]

theorem get_set_above {acc : XMap} {i : Nat} (e : XEntry) (h : ∀ j, i ≤ j → acc.get j = none) :
    ∀ j, i + 1 ≤ j → (acc.set i e).get j = none :=
  fun j hj => by rw [get_set, if_neg (by omega)]; exact h j (by omega)

/-- the table after `f i, …, f (i+k-1)` have been entered for the numbers `i, …, i+k-1`: what
    both decoders build from a run of `k` lines or rows -/
def fill (f : Nat → XEntry) : XMap → Nat → Nat → XMap
  | acc, _, 0 => acc
  | acc, i, k+1 => fill f (acc.set i (f i)) (i + 1) k

theorem fill_get (f : Nat → XEntry) (k : Nat) : ∀ (acc : XMap) (i j : Nat),
    (fill f acc i k).get j = if i ≤ j ∧ j < i + k then some (f j) else acc.get j := by
  induction k with
  | zero => intro acc i j; exact (if_neg (by omega)).symm
  | succ k ih =>
    intro acc i j
    rw [fill, ih, get_set]
    by_cases hji : j = i
    · subst hji; rw [if_neg (by omega), if_pos rfl, if_pos (by omega)]
    · rw [if_neg hji]
      by_cases hr : i + 1 ≤ j ∧ j < i + 1 + k
      · rw [if_pos hr, if_pos (by omega)]
      · rw [if_neg hr, if_neg (by omega)]

theorem decode_tabLine (m : XMap) (p g c : Nat) (rest : Bytes) (i k : Nat)
    (hp : p < 10000000000) (hg : g ≤ 65535) (hc : c = 102 ∨ c = 110) (hm : m.get i = none) :
    decodeXRefSection 0 m (tabLine p g c ++ rest) i 0 (k + 1) =
      decodeXRefSection 0 (m.set i (if c = 102 then { inStream := 0, pos := -1, gen := g }
                                     else { inStream := 0, pos := (p : Int), gen := g })) rest (i + 1) 0 k := by
  have hlen := tabLine_length p g c
  obtain ⟨h10, h5, _, _, h17, _, h19⟩ := tabLine_fields p g c
  rw [decodeXRefSection]
  simp only [hm, List.take_left' hlen, hlen, h10, parseInt64_fixDec 10 p (by omega) (by omega) (by omega),
    h5, parseUint16_fixDec g hg, h17, h19]
  rcases hc with hc | hc <;> subst hc <;> simp [List.drop_left' hlen]

/-- what a reader sees for a number after decoding the writer's table -/
def normTab : Option XEntry → XEntry
  | some e => if e.pos ≥ 0 then { inStream := 0, pos := e.pos, gen := e.gen }
              else { inStream := 0, pos := -1, gen := Gen.fio_maxGeneration }
  | none => { inStream := 0, pos := -1, gen := Gen.fio_maxGeneration }

theorem decode_xrefLine (acc : XMap) (e : Option XEntry) (rest : Bytes) (i k : Nat)
    (h : ∀ x, e = some x → x.pos < 10000000000 ∧ x.gen ≤ 65535) (hacc : acc.get i = none) :
    decodeXRefSection 0 acc (xrefLine e ++ rest) i 0 (k + 1) =
      decodeXRefSection 0 (acc.set i (normTab e)) rest (i + 1) 0 k := by
  have hfree := decode_tabLine acc 0 Gen.fio_maxGeneration 102 rest i k (by omega) (by decide) (.inl rfl) hacc
  rw [xrefLine_eq e h]
  cases e with
  | none => exact hfree
  | some x =>
    obtain ⟨hp, hg⟩ := h x rfl
    simp only [normTab]
    split
    · rename_i hpos
      rw [decode_tabLine acc x.pos.toNat x.gen 110 rest i k (by omega) hg (.inr rfl) hacc,
        Int.toNat_of_nonneg hpos]
      rfl
    · exact hfree

theorem decodeXRefSection_xrefLines (m : XMap) (rest : Bytes) (k : Nat) : ∀ (i : Nat) (acc : XMap),
    (∀ j, i ≤ j → j < i + k → ∀ x, m.get j = some x → x.pos < 10000000000 ∧ x.gen ≤ 65535) →
    (∀ j, i ≤ j → acc.get j = none) →
    decodeXRefSection 0 acc (xrefLines m i k ++ rest) i 0 k =
      .ok (fill (fun j => normTab (m.get j)) acc i k, rest) := by
  induction k with
  | zero => intro i acc _ _; rfl
  | succ k ih =>
    intro i acc hok hacc
    obtain ⟨h0, ht⟩ := window_split hok
    rw [xrefLines, List.append_assoc, decode_xrefLine acc (m.get i) _ i k h0 (hacc i (Nat.le_refl _)),
      ih (i + 1) _ ht (get_set_above _ hacc)]
    rfl

/-- **xref_table_rt.**  For every table (any mix of unwritten, free and in-use numbers, any
offsets below 10^10 and generations ≤ 65535) `decodeXRefSection` applied to the lines printed
by `writeXRefTable` consumes exactly those lines and yields, for every number below `n`, the
entry written (free for unwritten/free numbers) and nothing else. -/
theorem xref_table_rt (m : XMap) (n : Nat) (rest : Bytes)
    (hok : ∀ j, j < n → ∀ x, m.get j = some x → x.pos < 10000000000 ∧ x.gen ≤ 65535) :
    ∃ m', decodeXRefSection 0 [] (xrefLines m 0 n ++ rest) 0 0 n = .ok (m', rest) ∧
      (∀ j, j < n → m'.get j = some (normTab (m.get j))) ∧
      (∀ j, n ≤ j → m'.get j = none) :=
  ⟨_, decodeXRefSection_xrefLines m rest n 0 [] (fun j _ hj => hok j (by omega)) (fun _ _ => rfl),
    fun j hj => by rw [fill_get, if_pos (by omega)], fun j hj => by rw [fill_get, if_neg (by omega)]; rfl⟩

-- non-vacuity: a table with an unwritten, a free and two in-use numbers
example :
    (match decodeXRefSection 0 []
        (xrefLines [(0, ⟨0, -1, 65535⟩), (2, ⟨0, 9999999999, 65535⟩), (3, ⟨0, 17, 0⟩)] 0 4 ++ [116]) 0 0 4 with
     | .ok (m', rest) => m'.get 2 == some ⟨0, 9999999999, 65535⟩ && m'.get 1 == some ⟨0, -1, 65535⟩ && rest == [116]
     | _ => false) = true := by decide +kernel

/-- the table form is refused exactly when a number below `nextRef` lives in an object stream, or
    an object starts at byte 10^10 or later (an entry has ten digits for the offset) -/
theorem xrefTableBody_isSome (m : XMap) (n : Nat) :
    (xrefTableBody m n).isSome =
      (!hasInStream m n && !m.any (fun ne => ne.2.inStream == 0 && decide (ne.2.pos > 9999999999))) := by
  unfold xrefTableBody
  cases hasInStream m n with
  | true => rfl
  | false =>
    generalize List.any m _ = b
    cases b <;> rfl

theorem get_mem {m : XMap} {k : Nat} {e : XEntry} (h : m.get k = some e) : (k, e) ∈ m := by
  obtain ⟨l₁, l₂, rfl, _⟩ := List.lookup_eq_some_iff.1 h
  simp

theorem xrefTableBody_ok {m : XMap} {n : Nat} {body : Bytes} (h : xrefTableBody m n = some body) :
    hasInStream m n = false ∧ (∀ k e, m.get k = some e → e.inStream = 0 → e.pos < 10000000000) ∧
    body = kwXref ++ [10, 48, 32] ++ decOf n ++ [10] ++ xrefLines m 0 n := by
  -- the two refusals go by `cases h`
  revert h
  fun_cases xrefTableBody m n <;> intro h <;> cases h
  rename_i h1 h2
  refine ⟨Bool.eq_false_iff.2 h1, fun k e hg h0 => ?_, rfl⟩
  have := List.any_eq_false.1 (Bool.eq_false_iff.2 h2) (k, e) (get_mem hg)
  simp [h0] at this
  omega

theorem hasInStream_false {x : XMap} {n k : Nat} {e : XEntry} (h : hasInStream x n = false) (hk : k < n)
    (hg : x.get k = some e) : e.inStream = 0 := by
  have := List.any_eq_false.1 h k (List.mem_range.2 hk)
  rw [hg] at this
  simpa using this

theorem u64_of_nonneg (p : Int) (h0 : 0 ≤ p) (h1 : p < (two63 : Int)) : u64 p = p.toNat := by
  unfold u64
  rw [Int.emod_eq_of_lt h0 (by unfold two64; unfold two63 at h1; omega)]

theorem u64_lt (p : Int) : u64 p < two64 := by
  have h : (0 : Int) < (two64 : Nat) := by decide
  have h1 := Int.emod_lt_of_pos p h
  have h2 := Int.emod_nonneg p (Int.ne_of_gt h)
  unfold u64; omega

theorem decodeInt_byte (t : Nat) (ht : t < 256) : decodeInt [t] = some t := by
  have h := decodeInt_encodeInt64 t 1 (by omega) (by unfold two63; omega)
  rwa [show encodeInt64 t 1 = [t] by simp [encodeInt64, Nat.mod_eq_of_lt ht]] at h

theorem fields_split (t : Nat) (A B more : Bytes) :
    ([t] ++ A ++ B ++ more).take 1 = [t] ∧ (([t] ++ A ++ B ++ more).drop 1).take A.length = A ∧
    (([t] ++ A ++ B ++ more).drop (1 + A.length)).take B.length = B ∧
    ([t] ++ A ++ B ++ more).drop (1 + A.length + B.length) = more := by
  have h1 : ([t] ++ A ++ B ++ more).drop 1 = A ++ (B ++ more) := List.append_assoc A B more
  have h2 : ([t] ++ A ++ B ++ more).drop (1 + A.length) = B ++ more := by
    rw [← List.drop_drop, h1, List.drop_left]
  exact ⟨rfl, by rw [h1, List.take_left], by rw [h2, List.take_left],
    by rw [← List.drop_drop, h2, List.drop_left]⟩

/-- what `decodeXRefStream` yields for a number whose row was written by `writeXRefStream`
    with a third field of `w3` bytes -/
def normStm (w3 : Nat) : Option XEntry → XEntry
  | none => { inStream := 0, pos := -1, gen := 0 }
  | some e =>
    if e.pos < 0 then { inStream := 0, pos := -1, gen := e.gen % 256 ^ w3 }
    else if e.inStream = 0 then { inStream := 0, pos := e.pos, gen := e.gen }
    else { inStream := e.inStream, pos := e.pos, gen := 0 }

/-- the entry can be represented with fields of `w2` and `w3` bytes -/
def Fits (w2 w3 : Nat) : Option XEntry → Prop
  | none => True
  | some e =>
    e.gen ≤ 65535 ∧
    (e.pos < 0 ∨ (e.pos < (two63 : Int) ∧
      (if e.inStream = 0 then e.pos.toNat < 256 ^ w2 ∧ e.gen < 256 ^ w3
       else e.inStream < 256 ^ w2 ∧ e.inStream < Gen.fio_maxXRefSize ∧ e.pos.toNat < 256 ^ w3)))

theorem xrefRow_length (w2 w3 : Nat) (e : Option XEntry) : (xrefRow w2 w3 e).length = 1 + w2 + w3 := by
  simp only [xrefRow, List.length_append, encodeInt64_length, List.length_singleton]

theorem xrefRow_fields (w2 w3 : Nat) (e : Option XEntry) (more : Bytes) :
    (xrefRow w2 w3 e ++ more).take 1 = [(rowFields e).1] ∧
    ((xrefRow w2 w3 e ++ more).drop 1).take w2 = encodeInt64 (rowFields e).2.1 w2 ∧
    ((xrefRow w2 w3 e ++ more).drop (1 + w2)).take w3 = encodeInt64 (rowFields e).2.2 w3 ∧
    (xrefRow w2 w3 e ++ more).drop (1 + w2 + w3) = more := by
  have h := fields_split (rowFields e).1 (encodeInt64 (rowFields e).2.1 w2) (encodeInt64 (rowFields e).2.2 w3) more
  simp only [encodeInt64_length] at h
  exact h

theorem rowFields_type_lt (e : Option XEntry) : (rowFields e).1 < 3 := by
  unfold rowFields
  split
  · exact Nat.zero_lt_succ 2
  · split
    · exact Nat.zero_lt_succ 2
    · split
      · exact Nat.succ_lt_succ (Nat.zero_lt_succ 1)
      · exact Nat.lt_succ_self 2

theorem decodeRow_xrefRow (w2 w3 : Nat) (e : Option XEntry) (hf : Fits w2 w3 e) :
    decodeRowEntry 1 w2 w3 (xrefRow w2 w3 e) = some (normStm w3 e) := by
  -- what the decoder returns once the two fields are known to decode to `a'`, `b'`
  have key : ∀ a' b', decodeInt (encodeInt64 (rowFields e).2.1 w2) = some a' →
      decodeInt (encodeInt64 (rowFields e).2.2 w3) = some b' →
      decodeRowEntry 1 w2 w3 (xrefRow w2 w3 e) =
        (if (rowFields e).1 = 0 then (if b' > Gen.fio_maxGeneration then none else some { inStream := 0, pos := -1, gen := b' })
         else if (rowFields e).1 = 1 then (if b' > Gen.fio_maxGeneration then none else some { inStream := 0, pos := (a' : Int), gen := b' })
         else (if a' ≥ Gen.fio_maxXRefSize then none else some { inStream := a', pos := (b' : Int), gen := 0 })) := by
    intro a' b' ha hb
    have ht := rowFields_type_lt e
    obtain ⟨h1, h2, h3, _⟩ := xrefRow_fields w2 w3 e []
    rw [List.append_nil] at h1 h2 h3
    unfold decodeRowEntry
    rw [h1, h2, h3, decodeInt_byte _ (by omega), ha, hb]
    have h10 : ((1 : Nat) == 0) = false := rfl
    simp only [h10]
    rcases (by omega : (rowFields e).1 = 0 ∨ (rowFields e).1 = 1 ∨ (rowFields e).1 = 2) with h | h | h <;> simp [h]
  have h0 : ∀ w, decodeInt (encodeInt64 0 w) = some 0 := fun w =>
    decodeInt_encodeInt64 0 w (Nat.pow_pos (by omega)) (by decide)
  cases e with
  | none => exact (key 0 0 (h0 w2) (h0 w3)).trans (by simp [rowFields, normStm, Gen.fio_maxGeneration])
  | some x =>
    obtain ⟨hg, hrest⟩ := hf
    by_cases hneg : x.pos < 0
    · -- a free entry: only the generation is written, cut to `w3` bytes
      have hgm : x.gen % 256 ^ w3 ≤ x.gen := Nat.mod_le _ _
      have hrf : rowFields (some x) = (0, 0, x.gen) := by simp only [rowFields, hneg, ↓reduceIte]
      have hb := decodeInt_encodeInt64_trunc x.gen w3 (by unfold two63; omega)
      rw [key 0 _ (by rw [hrf]; exact h0 w2) (by rw [hrf]; exact hb), hrf]
      have : ¬ (x.gen % 256 ^ w3 > Gen.fio_maxGeneration) := by simp [Gen.fio_maxGeneration]; omega
      simp [normStm, hneg, this]
    · rcases hrest with hp | ⟨hp63, hcase⟩
      · exact absurd hp hneg
      · have hp0 : 0 ≤ x.pos := by omega
        have hu := u64_of_nonneg x.pos hp0 hp63
        have hcast : ((x.pos.toNat : Nat) : Int) = x.pos := Int.toNat_of_nonneg hp0
        have hpn : x.pos.toNat < two63 := by omega
        by_cases hin : x.inStream = 0
        · simp only [hin, ↓reduceIte] at hcase
          have hrf : rowFields (some x) = (1, x.pos.toNat, x.gen) := by
            simp only [rowFields, hneg, ↓reduceIte, hin, beq_self_eq_true, hu]
          rw [key _ _ (by rw [hrf]; exact decodeInt_encodeInt64 _ w2 hcase.1 hpn)
            (by rw [hrf]; exact decodeInt_encodeInt64 x.gen w3 hcase.2 (by unfold two63; omega)), hrf]
          have : ¬ (x.gen > Gen.fio_maxGeneration) := by simp [Gen.fio_maxGeneration]; omega
          simp [normStm, hneg, hin, this, hcast]
        · simp only [hin, ↓reduceIte] at hcase
          have hrf : rowFields (some x) = (2, x.inStream, x.pos.toNat) := by
            simp only [rowFields, hneg, ↓reduceIte, hin, beq_iff_eq, hu]
          rw [key _ _
            (by rw [hrf]; exact decodeInt_encodeInt64 x.inStream w2 hcase.1 (by
              have := hcase.2.1; unfold two63; simp [Gen.fio_maxXRefSize] at this; omega))
            (by rw [hrf]; exact decodeInt_encodeInt64 _ w3 hcase.2.2 hpn), hrf]
          have : ¬ (x.inStream ≥ Gen.fio_maxXRefSize) := by have := hcase.2.1; omega
          simp [normStm, hneg, hin, this, hcast]

theorem decodeXRefRows_xrefRows (m : XMap) (w2 w3 : Nat) (rest : Bytes) (k : Nat) : ∀ (i : Nat) (acc : XMap),
    (∀ j, i ≤ j → j < i + k → Fits w2 w3 (m.get j)) →
    (∀ j, i ≤ j → acc.get j = none) →
    decodeXRefRows 1 w2 w3 acc ((xrefRows m w2 w3 i k).flatten ++ rest) i k =
      .ok (fill (fun j => normStm w3 (m.get j)) acc i k, rest) := by
  induction k with
  | zero => intro i acc _ _; rfl
  | succ k ih =>
    intro i acc hok hacc
    have hlen := xrefRow_length w2 w3 (m.get i)
    have h1 : ¬ ((xrefRow w2 w3 (m.get i) ++ ((xrefRows m w2 w3 (i + 1) k).flatten ++ rest)).length < 1 + w2 + w3) := by
      rw [List.length_append, hlen]; omega
    rw [xrefRows, List.flatten_cons, List.append_assoc, decodeXRefRows]
    obtain ⟨h0, ht⟩ := window_split hok
    simp only [h1, ↓reduceIte, List.take_left' hlen, List.drop_left' hlen, hacc i (Nat.le_refl _),
      decodeRow_xrefRow w2 w3 (m.get i) h0]
    exact ih (i + 1) _ ht (get_set_above _ hacc)

theorem maxFields_ge (m : XMap) (k : Nat) : ∀ i j, i ≤ j → j < i + k →
    (sizingFields (m.get j)).1 ≤ (maxFields m i k).1 ∧ (sizingFields (m.get j)).2 ≤ (maxFields m i k).2 := by
  induction k with
  | zero => intro i j h1 h2; omega
  | succ k ih =>
    intro i j h1 h2
    simp only [maxFields]
    by_cases hji : j = i
    · subst hji
      constructor <;> exact Nat.le_max_left _ _
    · have := ih (i + 1) j (by omega) (by omega)
      constructor
      · exact Nat.le_trans this.1 (Nat.le_max_right _ _)
      · exact Nat.le_trans this.2 (Nat.le_max_right _ _)

/-- what the writer can be asked to record (bounds of the Go types and of `Alloc`).  The last clause
    is there because `sizingFields` and `rowFields` treat a compressed entry with a negative index
    differently: the widths would not be those of the row written. -/
def EntryOK : Option XEntry → Prop
  | none => True
  | some e => e.gen ≤ 65535 ∧ e.pos < (two63 : Int) ∧ e.inStream < Gen.fio_maxXRefSize ∧
      (e.inStream ≠ 0 → 0 ≤ e.pos)

/-- **W widths are sufficient**: with the widths computed by `writeXRefStream` every entry below
`nextRef` fits its fields.  (`Fits` asks nothing of a free entry's generation; that the sizing
loop counts it, so that it is written in full, is `xref_stream_free_gen_exact`.) -/
theorem w_widths_sufficient (m : XMap) (n : Nat) (hok : ∀ j, j < n → EntryOK (m.get j)) :
    ∀ j, j < n → Fits (fieldWidth (maxFields m 0 n).1) (fieldWidth (maxFields m 0 n).2) (m.get j) := by
  intro j hj
  have hge := maxFields_ge m n 0 j (by omega) (by omega)
  have hj' := hok j hj
  cases hget : m.get j with
  | none => trivial
  | some x =>
    rw [hget] at hge hj'
    obtain ⟨hg, hp63, hins, hinpos⟩ := hj'
    refine ⟨hg, ?_⟩
    by_cases hneg : x.pos < 0
    · exact .inl hneg
    · right
      have hp0 : 0 ≤ x.pos := by omega
      have hu := u64_of_nonneg x.pos hp0 hp63
      refine ⟨hp63, ?_⟩
      by_cases hin : x.inStream = 0
      · have hb : (x.inStream != 0) = false := by simp [hin]
        simp only [sizingFields, hb, hp0, ↓reduceIte, hu] at hge
        simp only [hin, ↓reduceIte]
        exact ⟨fieldWidth_holds hge.1, fieldWidth_holds hge.2⟩
      · have hb : (x.inStream != 0) = true := by simp [hin]
        simp only [sizingFields, hb, ↓reduceIte, hu] at hge
        simp only [hin, ↓reduceIte]
        exact ⟨fieldWidth_holds hge.1, hins, fieldWidth_holds hge.2⟩

theorem sizingFields_lt_two64 (e : Option XEntry) (h : EntryOK e) :
    (sizingFields e).1 < two64 ∧ (sizingFields e).2 < two64 := by
  cases e with
  | none => exact ⟨(by decide : 0 < two64), (by decide : 0 < two64)⟩
  | some x =>
    obtain ⟨hg, _, hins, _⟩ := h
    have hgen : x.gen < two64 := Nat.lt_of_le_of_lt hg (by decide)
    simp only [sizingFields]
    split
    · exact ⟨Nat.lt_trans hins (by decide), u64_lt x.pos⟩
    · split
      · exact ⟨u64_lt x.pos, hgen⟩
      · exact ⟨(by decide : 0 < two64), hgen⟩

theorem maxFields_lt_two64 (m : XMap) (k : Nat) : ∀ i,
    (∀ j, i ≤ j → j < i + k → EntryOK (m.get j)) →
    (maxFields m i k).1 < two64 ∧ (maxFields m i k).2 < two64 := by
  induction k with
  | zero => intro i _; exact ⟨(by decide : 0 < two64), (by decide : 0 < two64)⟩
  | succ k ih =>
    intro i hok
    have h1 := ih (i + 1) (window_split hok).2
    have h0 := sizingFields_lt_two64 (m.get i) (window_split hok).1
    exact ⟨Nat.max_lt.2 ⟨h0.1, h1.1⟩, Nat.max_lt.2 ⟨h0.2, h1.2⟩⟩

/-- **xref_stream_rt.**  For every table whose entries respect the bounds of the Go types, with
the widths `W = [1 w2 w3]` chosen by `writeXRefStream` (any of 0–8): `decodeXRefStream` applied to
the rows written for the numbers `0 … n-1` consumes exactly these rows and yields for every
number the entry written — in-use and compressed entries exactly, unwritten numbers as free
entries with generation 0, free entries with their generation reduced to `w3` bytes — and
nothing else. -/
theorem xref_stream_rt (m : XMap) (n : Nat) (hok : ∀ j, j < n → EntryOK (m.get j)) :
    let w2 := fieldWidth (maxFields m 0 n).1
    let w3 := fieldWidth (maxFields m 0 n).2
    w2 ≤ 8 ∧ w3 ≤ 8 ∧
    ∃ m', decodeXRefStream 1 w2 w3 [] (xrefRows m w2 w3 0 n).flatten [(0, n)] = .ok m' ∧
      (∀ j, j < n → m'.get j = some (normStm w3 (m.get j))) ∧
      (∀ j, n ≤ j → m'.get j = none) := by
  intro w2 w3
  obtain ⟨hm1, hm2⟩ := maxFields_lt_two64 m n 0 (fun j _ hj => hok j (by omega))
  have hw2 : w2 ≤ 8 := fieldWidth_le_8 _ hm1
  have hw3 : w3 ≤ 8 := fieldWidth_le_8 _ hm2
  refine ⟨hw2, hw3, ?_⟩
  have h := decodeXRefRows_xrefRows m w2 w3 [] n 0 []
    (fun j _ hj => w_widths_sufficient m n hok j (by omega)) (fun _ _ => rfl)
  rw [List.append_nil] at h
  exact ⟨fill (fun j => normStm w3 (m.get j)) [] 0 n, by simp only [decodeXRefStream, h],
    fun j hj => by rw [fill_get, if_pos (by omega)],
    fun j hj => by rw [fill_get, if_neg (by omega)]; rfl⟩

/-- **free entries keep their generation.**  With the widths chosen by `writeXRefStream` the third
field is wide enough for the generation of every free entry — in particular for the 65535 of
object 0, which needs two bytes (ISO 32000, 7.5.4 and 7.5.8.3): the entry decodes with exactly the
generation written.  (A sizing loop that counts the 65535 of a free entry as 0 writes the entry of
object 0 as 0, 255 or 65535 depending on the other entries: library finding, fixed.) -/
theorem xref_stream_free_gen_exact (m : XMap) (n j : Nat) (hj : j < n) (e : XEntry)
    (hm : m.get j = some e) (hneg : e.pos < 0) (hin : e.inStream = 0) :
    normStm (fieldWidth (maxFields m 0 n).2) (some e) = { inStream := 0, pos := -1, gen := e.gen } := by
  have hge := (maxFields_ge m n 0 j (by omega) (by omega)).2
  rw [hm] at hge
  have hsz : (sizingFields (some e)).2 = e.gen := by
    have hp : ¬ (e.pos ≥ 0) := by omega
    simp [sizingFields, hin, hp]
  rw [hsz] at hge
  have hlt := fieldWidth_holds hge
  simp [normStm, hneg, Nat.mod_eq_of_lt hlt]

-- non-vacuity: a table with unwritten, free, in-use and compressed entries (W = [1 3 2]: the
-- generation 65535 of object 0 needs two bytes)
example :
    (let m : XMap := [(0, ⟨0, -1, 65535⟩), (2, ⟨0, 70000, 0⟩), (3, ⟨5, 7, 0⟩), (5, ⟨0, 300, 1⟩)]
     let w2 := fieldWidth (maxFields m 0 6).1
     let w3 := fieldWidth (maxFields m 0 6).2
     match decodeXRefStream 1 w2 w3 [] (xrefRows m w2 w3 0 6).flatten [(0, 6)] with
     | .ok m' => w2 == 3 && w3 == 2 && m'.get 3 == some ⟨5, 7, 0⟩ && m'.get 2 == some ⟨0, 70000, 0⟩ &&
                 m'.get 1 == some ⟨0, -1, 0⟩ && m'.get 0 == some ⟨0, -1, 65535⟩
     | _ => false) = true := by decide +kernel


/-- the Up filter (tag 2) adds the byte above -/
theorem pngRowDec_up_cons (left ul d : Nat) (ds prev : Bytes) :
    pngRowDec 2 left ul (d :: ds) prev =
      (d + prev.headD 0) % 256 :: pngRowDec 2 ((d + prev.headD 0) % 256) (prev.headD 0) ds prev.tail := rfl

theorem pngRowDec_up (row : Bytes) : ∀ (prev : Bytes) (left ul : Nat), row.length = prev.length → AllBytes row →
    pngRowDec 2 left ul (List.zipWith (fun x p => (x + 256 - p % 256) % 256) row prev) prev = row := by
  induction row with
  | nil => intro prev left ul _ _; rfl
  | cons x xs ih =>
    intro prev left ul hl hb
    cases prev with
    | nil => cases hl
    | cons p ps =>
      obtain ⟨hx, hxs⟩ := (allBytes_cons x xs).1 hb
      rw [List.zipWith_cons_cons, pngRowDec_up_cons, List.headD_cons, List.tail_cons,
        ih ps _ _ (Nat.succ.inj hl) hxs, show ((x + 256 - p % 256) % 256 + p) % 256 = x by omega]

theorem upRow_shape (prev row more : Bytes) (hl : row.length = prev.length) (hb : AllBytes row) :
    ∃ z, upRow prev row ++ more = 2 :: (z ++ more) ∧ z.length = row.length ∧ pngRowDec 2 0 0 z prev = row :=
  ⟨_, rfl, by simp [hl], pngRowDec_up row prev 0 0 hl hb⟩

/-- A row decoder that accepts the empty input and, on an Up row of `cols` bytes, un-filters it
    against the previous row and goes on, undoes `pngUpEnc`.  The model's `pngDec` and the
    specification's `unpredict` are of this kind. -/
theorem upDec_undo {ε : Type} (dec : Nat → Bytes → Bytes → Except ε Bytes) (cols : Nat)
    (hnil : ∀ fuel prev, dec (fuel + 1) prev [] = .ok [])
    (hrow : ∀ fuel prev z more, z.length = cols →
      dec (fuel + 1) prev (2 :: (z ++ more))
        = (dec fuel (pngRowDec 2 0 0 z prev) more).map (pngRowDec 2 0 0 z prev ++ ·))
    (rows : List Bytes) : ∀ (prev : Bytes) (fuel : Nat),
    prev.length = cols → (∀ r ∈ rows, r.length = cols ∧ AllBytes r) →
    fuel ≥ (pngUpEnc prev rows).length + 1 →
    dec fuel prev (pngUpEnc prev rows) = .ok rows.flatten := by
  induction rows with
  | nil =>
    intro prev fuel _ _ hf
    cases fuel with
    | zero => cases hf
    | succ f => exact hnil f prev
  | cons row rest ih =>
    intro prev fuel hp hr hf
    obtain ⟨hrl, hrb⟩ := hr row (List.mem_cons_self ..)
    obtain ⟨z, hz, hzl, hzd⟩ := upRow_shape prev row (pngUpEnc row rest) (hrl.trans hp.symm) hrb
    rw [pngUpEnc, hz] at hf ⊢
    cases fuel with
    | zero => cases hf
    | succ f =>
      rw [hrow f prev z _ (hzl.trans hrl), hzd, ih row f hrl (fun r hr' => hr r (List.mem_cons_of_mem _ hr')) (by
        simp only [List.length_cons, List.length_append] at hf; omega)]
      rfl

theorem pngDec_up (cols : Nat) (rows : List Bytes) : ∀ (prev : Bytes) (fuel : Nat),
    prev.length = cols → (∀ r ∈ rows, r.length = cols ∧ AllBytes r) →
    fuel ≥ (pngUpEnc prev rows).length + 1 →
    pngDec cols fuel prev (pngUpEnc prev rows) = .ok rows.flatten :=
  upDec_undo (pngDec cols) cols (fun _ _ => rfl) (fun fuel prev z more hz => by
    simp only [pngDec, List.length_append, hz, Nat.not_lt.2 (Nat.le_add_right _ _), ↓reduceIte,
      List.take_left' hz, List.drop_left' hz]
    cases pngDec cols fuel _ more <;> rfl) rows

theorem xrefRow_bytes (w2 w3 : Nat) (e : Option XEntry) : AllBytes (xrefRow w2 w3 e) := by
  have ht := rowFields_type_lt e
  simp only [xrefRow, allBytes_append]
  exact ⟨⟨by simp [AllBytes]; omega, encodeInt64_bytes _ w2⟩, encodeInt64_bytes _ w3⟩

theorem xrefRows_mem (m : XMap) (w2 w3 : Nat) (k : Nat) : ∀ i, ∀ r ∈ xrefRows m w2 w3 i k,
    r.length = 1 + w2 + w3 ∧ AllBytes r := by
  induction k with
  | zero => intro i r hr; simp [xrefRows] at hr
  | succ k ih =>
    intro i r hr
    simp only [xrefRows, List.mem_cons] at hr
    rcases hr with rfl | hr
    · exact ⟨xrefRow_length _ _ _, xrefRow_bytes _ _ _⟩
    · exact ih (i + 1) r hr

/-- **PNG-Up rows.**  Undoing the predictor on what `writeXRefStream` hands to zlib gives back
the rows (so `inflate ∘ deflate = id` is the only assumption between `xrefStreamPayload` and
`xref_stream_rt`). -/
theorem xref_payload_undo (m : XMap) (n : Nat) :
    let p := xrefStreamPayload m n
    pngUndo (1 + p.1 + p.2.1) p.2.2 = .ok (xrefRows m p.1 p.2.1 0 n).flatten := by
  simp only [xrefStreamPayload, pngUndo]
  exact pngDec_up _ _ _ _ (by simp) (xrefRows_mem m _ _ n 0) (by omega)

end PdfVerif.C02fio
