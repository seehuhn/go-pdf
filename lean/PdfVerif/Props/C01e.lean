import PdfVerif.Lemmas.C01Canon
/-!
# C01 (part e) — formatting is independent of Go's map order

`Format` is a function in the model, so "deterministic" is definitional; the content of the
clause is that the only place where the iteration order of a Go map could enter — the list of
entries handed to `Dict.SortedKeys` — does not matter: any permutation of a key-unique entry
list gives the same output, at the top level and at any depth.
-/
namespace PdfVerif.C01e
open PdfVerif PdfVerif.C01L

/-- `Dict.SortedKeys` (Type, Subtype first, then ascending) yields the same entry order for every
permutation of a key-unique entry list -/
theorem sortedKeys_perm (kv1 kv2 : List (Bytes × Obj)) (h : kv1.Perm kv2) (hn : (keysOf kv1).Nodup) :
    sortedEntries kv1 = sortedEntries kv2 :=
  sortedEntries_perm_eq h hn

/-- `SortedKeys` lists every entry of the dictionary exactly once -/
theorem sortedKeys_complete (kv : List (Bytes × Obj)) : (sortedEntries kv).Perm kv :=
  sortedEntries_perm kv

/-- Go's string order, as used by `SortedKeys`, is a strict total order on byte strings -/
theorem bytesLt_strict_total (a b c : Bytes) :
    bytesLt a a = false ∧ (bytesLt a b = true → bytesLt b c = true → bytesLt a c = true) ∧
    (a ≠ b → bytesLt a b = true ∨ bytesLt b a = true) :=
  ⟨bytesLt_irrefl a, bytesLt_trans a b c, bytesLt_total a b⟩

/-- Two dictionaries whose entry lists agree up to order *after* canonicalising the values
(so the values may themselves contain re-ordered dictionaries, at any depth) have the same
canonical form. -/
theorem canon_dict_congr (kv1 kv2 : List (Bytes × Obj)) (hn : (keysOf kv1).Nodup)
    (h : (canonKV kv1).Perm (canonKV kv2)) : (Obj.dict kv1).canon = (Obj.dict kv2).canon := by
  rw [canon_dict, canon_dict, sortedEntries_perm_eq h (by rw [canonKV_keys]; exact hn)]

theorem canon_dict_perm (kv1 kv2 : List (Bytes × Obj)) (hn : (keysOf kv1).Nodup) (h : kv1.Perm kv2) :
    (Obj.dict kv1).canon = (Obj.dict kv2).canon := by
  refine canon_dict_congr kv1 kv2 hn ?_
  rw [canonKV_eq_map, canonKV_eq_map]
  exact h.map _

theorem canonList_append (xs ys : List Obj) : canonList (xs ++ ys) = canonList xs ++ canonList ys := by
  rw [canonList_eq_map, canonList_eq_map, canonList_eq_map, List.map_append]

theorem format_canon (opt : FmtOpt) (xs ys : List Obj) (h : canonList xs = canonList ys) :
    format opt xs = format opt ys := by
  rw [format_eq, format_eq, h]

/-- **Formatting is independent of map order.**  Replacing, anywhere in the argument list of
`Format`, a dictionary by one with the same key-unique entries in another order (the values
possibly re-ordered inside as well) does not change the output, under any option set. -/
theorem format_dict_perm (opt : FmtOpt) (pre post : List Obj) (kv1 kv2 : List (Bytes × Obj))
    (hn : (keysOf kv1).Nodup) (h : (canonKV kv1).Perm (canonKV kv2)) :
    format opt (pre ++ .dict kv1 :: post) = format opt (pre ++ .dict kv2 :: post) := by
  apply format_canon
  rw [canonList_append, canonList_append, canonList_cons, canonList_cons, canon_dict_congr kv1 kv2 hn h]

/-- the same one level down: a re-ordered dictionary inside an array -/
theorem format_arr_dict_perm (opt : FmtOpt) (pre post : List Obj) (kv1 kv2 : List (Bytes × Obj))
    (hn : (keysOf kv1).Nodup) (h : kv1.Perm kv2) :
    format opt [.arr (pre ++ .dict kv1 :: post)] = format opt [.arr (pre ++ .dict kv2 :: post)] := by
  apply format_canon
  rw [canonList_cons, canonList_cons, canon_arr, canon_arr, canonList_append, canonList_append, canonList_cons,
    canonList_cons, canon_dict_perm kv1 kv2 hn h]

-- non-vacuity: three entries incl. `Type`, two orders, same bytes
example : format ⟨false, false⟩ [.dict [([66], .int 1), ([84, 121, 112, 101], .name [88]), ([65], .null)]]
    = format ⟨false, false⟩ [.dict [([65], .null), ([66], .int 1), ([84, 121, 112, 101], .name [88])]] := by
  decide +kernel

end PdfVerif.C01e
